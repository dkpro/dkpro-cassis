/-
The fragment of `json_roundtrip_coll` (`Properties/C02RoundTripColl.lean`): what a collected structure must look like for
the JSON round trip theorem with collections to apply.

JSON writes *every* collection object (array object, list node) as a structure of its own — the traversal runs with
`include_inlinable_arrays_and_lists=True` — and a collection feature, inlined or shared, is written like any reference
(`"@name": id`).  Hence the format does not distinguish the feature kinds of the XMI fragment
(`Spec/RoundTripCollFrag.lean`): a structure is either
* a *general structure* (`JGenFs`): as `FlatFs` / `GenFs`, each feature (`JFeatOk`) being the sofa reference, a primitive,
  or a *reference* — to a structure, a shared collection or an inlined collection alike (the range is any non-primitive
  type).  List nodes are general structures;
* an *array object* (`JArrFs`): a structure of an array type (child of `uima.cas.ArrayBase`) whose only slot is
  `elements`.
and the names of its type and features can be carried by the format (`JsonFs`, `Spec/RoundTripJson.lean`).

Compared with the XMI fragment `CollFs` the JSON fragment admits more:
* null elements of an FSArray (written as `null`) — XMI (S1) is not needed;
* the bytes of a ByteArray are arbitrary integers, float tokens arbitrary strings (the document level carries them as
  they are; base64 / number syntax are below the level of the model) — XMI (S5), (S6) are not needed;
* string arrays keep the difference between a null element and `""` (JSON has `null`);
* an inlined StringList may be empty, the heads of inlined lists are arbitrary feature values (the nodes are ordinary
  structures) — XMI (S4) and the kind part of (S7) are not needed;
* the element kind of a primitive array (other than ByteArray, FloatArray, DoubleArray) is not tied to the type name:
  the writer passes integers, Booleans and strings through, the reader takes them as they come;
* an inlined array feature may have any value that is a reference (XMI (S2) speaks about the array *object*, see (J1)).

and needs two conditions — each documented with a counterexample evaluated on the model at the end of
`Spec/RoundTripJsonCollCheck.lean` (section "The instance `CollDemo` and its variations"):

(J1) an array *object* has `elements ≠ None` — an array without elements is written without `%ELEMENTS`, and the reader
     makes `elements = []` of that (`cxj_obj_elements_none`, `cxj_obj_elements_none_fs`,
     `cxj_inline_elements_none`): the content of the `elements` feature of the object changes from `None` to the empty
     list.  The XMI fragment admits `None` for array objects of a non-string type that are written as elements of their
     own (`ok_obj_elements_none` there), so this is an *extra* hypothesis of `jcollFs_of_collFs`
     (`ArrElemsSome`).  (For an *inlined* array XMI demands it as well (S2), for a StringArray object too (S3).)
(J2) the spine of an *inlined list* ends (`collectList` with the budget `|heap| + 1` succeeds, exactly the termination
     half of XMI's (S7)).  JSON writes and reads a cyclic list without complaint and restores it faithfully, but the
     content function `featContentC` unrolls an inlined list with the budget `|heap| + 1`, and the heap of the reader
     is longer — on a cyclic spine the two unrollings have different lengths (`cxj_cyclic_spine`).
`RefOk` of the XMI fragment is not required (the traversal has given every reachable structure an id).

No condition speaks about the output of the reader.
-/
import CassisModel.Spec.RoundTripJson
import CassisModel.Spec.RoundTripCollFrag

namespace Cassis.Json
open Cassis.TS Cassis.Traverse Cassis.Xmi

/-- the spine of the list starting at `b` ends within the budget the content function uses (J2) -/
def SpineEnds (hp : Heap) (b : Nat) : Prop := ∃ hs : List Val, collectList hp (hp.length + 1) (.ref b) = .ok hs

/-- one feature of a general structure: the sofa reference, a primitive, or a reference (to a structure or to a
    collection, shared or inlined).  The feature may be one of the reserved features `self_` / `type_` (declared as
    `self` / `type`, written under the keys `self` / `type`, `@self` / `@type`): `ResOk`, `Spec/RoundTrip.lean`;
    evaluated in `Spec/RoundTripJsonCollCheck.lean`, section "Reserved names". -/
def JFeatOk (K : Consts) (ts : TypeSystem) (c : Cas) (ci : Nat) (hp : Heap) (isAnn : Bool) (o : Obj) (f : Feature) : Prop :=
  ResOk f ∧ f.name ≠ "xmiID" ∧ f.name ≠ "type" ∧ f.name ≠ "self" ∧ f.name ≠ ID ∧
  ∃ v : Val, alistGet? o.slots f.name = some v ∧
    ( -- the sofa reference: a view of this CAS (a structure that is not an annotation may have none)
      (f.name = "sofa" ∧ ((∃ vn, v = .sofa ci vn ∧ (Cas.getViewRec c vn).isSome = true) ∨ (v = .none ∧ isAnn = false)))
    ∨ -- primitive features
      (f.name ≠ "sofa" ∧ isPrimitive K ts f.range = true ∧
        ( v = .none
        ∨ (isIntRange f.range = true ∧ ∃ i : Int, v = .int i)
        ∨ (f.range = "uima.cas.String" ∧ ∃ s : String, v = .str s)
        ∨ (f.range = "uima.cas.Boolean" ∧ ∃ b : Bool, v = .bool b)
        ∨ ((f.range = "uima.cas.Float" ∨ f.range = "uima.cas.Double") ∧ ∃ t : String, v = .float t)))
    ∨ -- references: plain, to a shared collection, to an inlined collection
      (f.name ≠ "sofa" ∧ isPrimitive K ts f.range = false ∧
        f.range ≠ "uima.cas.Boolean" ∧ f.range ≠ "uima.cas.Double" ∧ f.range ≠ "uima.cas.Float" ∧
        (v = .none ∨ ∃ b : Nat, v = .ref b ∧
          -- (J2): where the content function unrolls a list, the spine ends
          (isInline K f = true → isArray K f.range = false → SpineEnds hp b))))

/-- a general structure: exactly `FlatFs` / `GenFs` with `JFeatOk` as the condition on the features -/
def JGenFs (K : Consts) (ts : TypeSystem) (c : Cas) (ci : Nat) (hp : Heap) (a : Nat) : Prop :=
  ∃ (o : Obj) (t : TypeRec), hp[a]? = some o ∧ find? ts o.ty = some t ∧ t.name = o.ty ∧
    isArray K o.ty = false ∧ isList K o.ty = false ∧ t.super ≠ some ARRAY_BASE ∧
    isPrimitiveArray K o.ty = false ∧ o.ty ≠ FS_ARRAY ∧ isInstanceOf ts o.ty STRING_ARRAY = false ∧
    o.ty ≠ SOFA ∧ o.ty ≠ VIEW_T ∧
    (ctorFields t).Nodup ∧
    o.slots.map (·.1) = (ctorFields t).eraseDups ∧
    (∀ f ∈ allFeatures t, JFeatOk K ts c ci hp (isInstanceOf ts o.ty ANNOTATION) o f) ∧
    (isInstanceOf ts o.ty ANNOTATION = true →
      ∃ (vn : String) (v : View) (text : List Nat) (b e : Nat),
        alistGet? o.slots "sofa" = some (.sofa ci vn) ∧ Cas.getViewRec c vn = some v ∧ v.sofa.text = some text ∧
        alistGet? o.slots "begin" = some (.int b) ∧ alistGet? o.slots "end" = some (.int e) ∧
        b ≤ text.length ∧ e ≤ text.length)

/-- the `elements` of a primitive array of type `ty` as JSON carries them: the empty list; integers for a ByteArray;
    float tokens for a FloatArray / DoubleArray; integers, Booleans or strings (null elements included) for the others.
    Never `None` (J1). -/
def JPrimElems (ty : String) (ev : Val) : Prop :=
  ev = .refs [] ∨
  (ty = "uima.cas.ByteArray" ∧ ∃ l : List Int, ev = .ints l) ∨
  (FloatArrTy ty ∧ ∃ l : List String, ev = .floats l) ∨
  (ty ≠ "uima.cas.ByteArray" ∧ ¬ FloatArrTy ty ∧
    ((∃ l : List Int, ev = .ints l) ∨ (∃ l : List Bool, ev = .bools l) ∨ (∃ l : List (Option String), ev = .strs l)))

/-- an array object: a structure of an array type (a child of `uima.cas.ArrayBase`), its only feature and slot is
    `elements`, holding a list — of references or nulls for an FSArray — and not `None` (J1) -/
def JArrFs (K : Consts) (ts : TypeSystem) (hp : Heap) (a : Nat) : Prop :=
  ∃ (o : Obj) (t : TypeRec) (f : Feature) (ev : Val), hp[a]? = some o ∧ find? ts o.ty = some t ∧ t.name = o.ty ∧
    t.super = some ARRAY_BASE ∧ allFeatures t = [f] ∧ f.name = "elements" ∧ f.reserved = false ∧
    o.slots = [("elements", ev)] ∧ isInstanceOf ts o.ty ANNOTATION = false ∧ o.ty ≠ SOFA ∧
    ( (o.ty = FS_ARRAY ∧ isPrimitiveArray K FS_ARRAY = false ∧ ∃ l : List (Option Nat), ev = .refs l)
    ∨ (o.ty ≠ FS_ARRAY ∧ isPrimitiveArray K o.ty = true ∧ JPrimElems o.ty ev) )

/-- **the JSON fragment with collections** -/
def JCollFs (K : Consts) (ts : TypeSystem) (c : Cas) (ci : Nat) (hp : Heap) (a : Nat) : Prop :=
  (JGenFs K ts c ci hp a ∨ JArrFs K ts hp a) ∧ JsonFs ts hp a

/-- (J1) as a condition on a structure of the XMI fragment: if it is an array object, its `elements` are not `None` -/
def ArrElemsSome (hp : Heap) (a : Nat) : Prop :=
  ∀ o : Obj, hp[a]? = some o → o.slots ≠ [("elements", Val.none)]

end Cassis.Json
