/-
C10 — Type hierarchy queries agree with the declared single-inheritance tree.

`Consistent ts` is the invariant "one tree rooted at uima.cas.TOP": names unique, TOP the only root,
every supertype registered, `b ∈ children a ↔ super b = a`, children lists duplicate free, parents
registered before children.  It holds for the built-in table regenerated from the source, is preserved
by `create_type` (of a *new* name — re-creating a predefined name is finding T3 of `known_findings.json`) and by
`create_feature`, hence holds after every history; under it the hierarchy queries (`descendants`, `subsumes`, `isInstanceOf`,
and `children` one level down) agree with the ancestor relation `Anc` defined directly from the `super` fields.
-/
import CassisModel.Proofs.TypeSystem

namespace Cassis.TS

/-! ### The invariant holds initially and is preserved -/

theorem consistent_createType (K : Consts) (ts ts' : TypeSystem) (n s : String) (d : Option String)
    (hc : Consistent ts) (hnew : hasExact ts n = false)
    (h : createType K ts n s d = .ok ts') : Consistent ts' := by
  obtain ⟨sup, new, _, hsm, hinh, rfl⟩ := createType_eq K ts ts' n s d hc hnew h
  obtain ⟨hn1, hs1, hc1⟩ := (tr_eq_iff _ _).mp (inheritAll_tr _ _ _ hinh)
  exact consistent_extend ts ts.redeclared n sup.name new hc hnew
    ((hasExact_iff_mem ts sup.name).mpr (List.mem_map_of_mem hsm)) hn1 hs1 hc1

theorem consistent_addFeature (ts ts' : TypeSystem) (dom : String) (f : Feature)
    (hc : Consistent ts) (h : addFeature ts dom f = .ok ts') : Consistent ts' :=
  consistent_of_skel (frame_skel.addFeature trivial h hc.nodup) hc

theorem consistent_createFeature (ts ts' : TypeSystem) (dom name range : String) (elem descr : Option String)
    (multi : Option Bool) (hc : Consistent ts)
    (h : createFeature ts dom name range elem descr multi = .ok ts') : Consistent ts' := by
  obtain ⟨d, _, _, _, _, _, h'⟩ := createFeature_ok ts ts' dom name range elem descr multi h
  exact consistent_addFeature ts ts' d.name _ hc h'

/-- the built-in table as generated from the source (`Gen/Builtins.lean`) (both constructor variants) -/
theorem consistent_builtins : Consistent Gen.builtinTS ∧ Consistent Gen.builtinTSNoDoc :=
  builtins_of_init (consistent_createType Gen.consts) consistent_createFeature
    (consistentB_sound _ (by decide +kernel))

/-- the model's `createType`/`createFeature`, replayed over the creation script derived from the
    introspected table, rebuild exactly that table: the model of type creation agrees with the code on
    the code's own built-in set-up -/
theorem builtins_replay : Gen.replay Gen.consts Gen.builtinScript = some Gen.builtinTS := by
  rw [Gen.replay, ← List.take_append_drop (Gen.builtinScript.length - 2) Gen.builtinScript, List.foldl_append,
    (Gen.build_spec _ _ _ _ builtin_build.1).1, (Gen.build_spec _ _ _ _ builtin_build.2).1]

/-- **every type system reachable through the API is one tree** -/
theorem consistent_history (K : Consts) (ops : List TsOp) :
    Consistent (ops.foldl (applyOp K) Gen.builtinTS) :=
  history_induction K (consistent_createType K) consistent_createFeature ops _ consistent_builtins.1

/-! ### Under the invariant, all queries describe the same tree -/

/-- `descendants` is the reflexive-transitive closure of `children` = everything below in `Anc` -/
theorem descendants_eq_closure (ts : TypeSystem) (hc : Consistent ts) (a b : String)
    (ha : hasExact ts a = true) : b ∈ descendantsOf ts a ↔ Anc ts a b :=
  (descendants_iff hc _ a ha (by omega)).1 b

/-- each type occurs once in `descendants` (so `select` returns each structure once) -/
theorem descendants_nodup (ts : TypeSystem) (hc : Consistent ts) (a : String) :
    (descendantsOf ts a).Nodup := by
  cases ha : hasExact ts a with
  | false => simp [descendantsOf, descendants, find?_none_of_not_has ha]
  | true => exact (descendants_iff hc _ a ha (by omega)).2

theorem subsumes_iff_ancestor (ts : TypeSystem) (hc : Consistent ts) (a b : String)
    (ha : hasExact ts a = true) (hb : hasExact ts b = true) : subsumes ts a b = true ↔ Anc ts a b := by
  unfold subsumes
  split
  · rename_i h
    rw [eq_of_beq h]
    simpa using anc_top_of_reg hc hb
  · exact subsumesAux_iff hc a _ b hb (Nat.lt_succ_of_lt (rank_lt_length hb))

theorem isInstanceOf_iff_ancestor (ts : TypeSystem) (hc : Consistent ts) (a b : String)
    (ha : hasExact ts a = true) (hb : hasExact ts b = true) : isInstanceOf ts b a = true ↔ Anc ts a b := by
  unfold isInstanceOf
  rw [isInstanceOfAux_eq_subsumesAux hc]
  exact subsumesAux_iff hc a _ b hb (Nat.lt_succ_of_lt (rank_lt_length hb))

/-- hence the three relational queries coincide -/
theorem subsumes_iff_mem_descendants (ts : TypeSystem) (hc : Consistent ts) (a b : String)
    (ha : hasExact ts a = true) (hb : hasExact ts b = true) :
    subsumes ts a b = true ↔ b ∈ descendantsOf ts a := by
  rw [subsumes_iff_ancestor ts hc a b ha hb, descendants_eq_closure ts hc a b ha]

/-- a type is among its supertype's children and nowhere else -/
theorem child_of_super_only (ts : TypeSystem) (hc : Consistent ts) (a b : String) (ta tb : TypeRec)
    (hta : find? ts a = some ta) (htb : find? ts b = some tb) : b ∈ ta.children ↔ tb.super = some a := by
  have := hc.link a b
  constructor
  · intro hb
    obtain ⟨tb', h1, h2⟩ := this.mp ⟨ta, hta, hb⟩
    rw [htb] at h1; cases h1; exact h2
  · intro hs
    obtain ⟨ta', h1, h2⟩ := this.mpr ⟨tb, htb, hs⟩
    rw [hta] at h1; cases h1; exact h2

theorem getType_full (ts : TypeSystem) (n : String) (t : TypeRec) (h : find? ts n = some t) :
    getType ts n = .ok t :=
  getType_of_find h

theorem getType_short_unique (ts : TypeSystem) (n : String) (t : TypeRec)
    (h0 : find? ts n = none) (hd : hasDot n = false)
    (h1 : ts.types.filter (fun t => shortName t.name == n) = [t]) : getType ts n = .ok t := by
  simp [getType, h0, hd, h1]

theorem getType_unknown_or_ambiguous (ts : TypeSystem) (n : String) (h0 : find? ts n = none)
    (h1 : hasDot n = true ∨ (ts.types.filter (fun t => shortName t.name == n)).length ≠ 1) :
    getType ts n = .error .typeNotFound := by
  rcases getType_cases ts n with ⟨t, h, _⟩ | ⟨t, _, hd, hfl, _⟩ | ⟨_, h⟩
  · rw [h0] at h; cases h
  · rcases h1 with h1 | h1
    · rw [hd] at h1; cases h1
    · rw [hfl] at h1; exact absurd rfl h1
  · exact h

theorem containsType_iff (ts : TypeSystem) (n : String) :
    containsType ts n = true ↔ ∃ t, getType ts n = .ok t := by
  unfold containsType
  split
  · rename_i hd
    simp only [Bool.or_false] at hd
    rw [hasExact_iff_find]
    refine ⟨fun ⟨t, ht⟩ => ⟨t, getType_of_find ht⟩, fun ⟨t, ht⟩ => ?_⟩
    rcases getType_cases ts n with ⟨t', h, _⟩ | ⟨_, _, h, _⟩ | ⟨_, h⟩
    · exact ⟨t', h⟩
    · rw [hd] at h; cases h
    · rw [h] at ht; cases ht
  · cases hg : getType ts n with
    | ok t => simp
    | error e => simp

theorem createType_final_error (K : Consts) (ts : TypeSystem) (n s : String) (d : Option String)
    (h : K.finalTypes.contains s = true) : createType K ts n s d = .error .valueError := by
  unfold createType
  simp only [h, if_true, bind, Except.bind, throw, throwThe, MonadExceptOf.throw]

theorem createType_duplicate_user_error (K : Consts) (ts : TypeSystem) (n s : String) (d : Option String)
    (hs : K.finalTypes.contains s = false) (h : hasExact ts n = true) (hp : K.predefined.contains n = false) :
    createType K ts n s d = .error .valueError := by
  unfold createType
  simp only [hs, h, hp, Bool.false_eq_true, if_false, Bool.not_false, Bool.and_self, if_true,
    bind, Except.bind, throw, throwThe, MonadExceptOf.throw, pure, Except.pure]

/-! Evaluated queries on the built-in table -/
example : hasExact Gen.builtinTS "uima.tcas.Annotation" = true := builtin_evals.qHasAnnotation
example : subsumes Gen.builtinTS "uima.cas.AnnotationBase" "uima.tcas.DocumentAnnotation" = true := builtin_evals.qSubsumesDocAnn
example : subsumes Gen.builtinTS "uima.cas.FSList" "uima.tcas.DocumentAnnotation" = false := builtin_evals.qNotSubsumesFSList

end Cassis.TS
