/-
C09, document level, writers — what `to_xmi` / `to_json` do with the ids they find.

* **duplicates are reported** (`findAllFs_duplicate_not_ok`, `findAllFs_duplicate_raises`, `findAllFs_ok_iff` and the
  corollaries for `saveXmi` / `saveJson`): if two *different* structures that are both reachable from the seeds
  (`Reach`, `Spec/Reach.lean`: through references, array elements, list heads; the NULL object is not expanded) carry
  the same xmi:id (≠ 0), the traversal never returns, whatever the order in which the two are met; if every reachable
  structure can be visited at all (`Expandable`: it exists, its type is registered, its references can be enumerated)
  the result is exactly `ValueError`; and under the C09 state invariant `IdsBelow` this is the *only* reason for the
  traversal to fail (no false alarm: a generated id never collides with a kept one).
  Not covered by the check, by construction of `Reach`: a structure that is only *inlined* (an FSArray / FSList value of
  a feature without `multipleReferencesAllowed`, XMI mode) is not collected and not written as an element of its own —
  its id may coincide with another one without effect on the document; structures on id 0 are skipped.
* **all ids of a written document are pairwise distinct** (`saveXmi_docIds`, `saveXmi_ids_distinct_iff`,
  `saveXmi_ids_distinct`, and the JSON analogues): the id list of the document is computed exactly; it is duplicate
  free iff the sofa ids are distinct, none is 0 (XMI: the `cas:NULL` element) and no collected structure sits on a
  sofa's id (finding I3: the duplicate check does not look at sofas).  Sufficient on the input: sofa ids distinct,
  positive and below the generator, no reachable structure on a sofa's id.  In JSON additionally no sofa may carry a
  byte array: the array is written before the traversal under whatever id it has then (finding J8 of `known_findings.json`, and the
  sofa array forced onto the id of another structure, `Proofs/IdsWriteDemo.lean`).
* **histories** (`ids_history_write`): after every API history from an empty CAS both writers either raise or write
  pairwise distinct ids (JSON: for a CAS without sofa arrays; in general sofas and collected structures never collide),
  and the sofaNums of the written sofa elements are pairwise distinct.
* **kept ids** (`kept_ids_written`, `kept_ids_written_json`): a reachable structure that carries an id before
  serialisation is written under exactly that id, and still carries it afterwards.
-/
import CassisModel.Proofs.IdsWrite
import CassisModel.Proofs.IdsWriteDemo
import CassisModel.Properties.C09
import CassisModel.Properties.C04

namespace Cassis.Traverse
open Cassis.TS

/-- **a reachable duplicate is never accepted**, in whatever order the two structures are met and whether or not
    other structures still lack an id -/
theorem findAllFs_duplicate_not_ok (K : Consts) (ts : TypeSystem) (o : Opts) (hp : Heap) (nx : Int)
    (seeds : List Nat) (hnx : 0 < nx) (a b : Nat) (x : Int) (hab : a ≠ b) (hx : x ≠ 0)
    (ha : Reach K ts o hp (hp.length + 1) seeds a) (hb : Reach K ts o hp (hp.length + 1) seeds b)
    (hxa : xidOf hp a = some x) (hxb : xidOf hp b = some x) (st : St) :
    findAllFs K ts o hp nx seeds ≠ .ok st := fun h =>
  have c := findAllFs_collected hnx h
  hab (congrArg Prod.snd (Det.inj_of_nodup_map (·.1) _ c.inv.nodupK (c.kept hnx hx ha hxa) (c.kept hnx hx hb hxb) rfl))

/-- on a heap whose reachable structures can all be visited, the only exception of the traversal is `ValueError`
    (the duplicate report, or a missing id when id generation is off) -/
theorem findAllFs_error_is_valueError (K : Consts) (ts : TypeSystem) (o : Opts) (hp : Heap) (nx : Int)
    (seeds : List Nat) (hnx : 0 < nx)
    (hsafe : ∀ c, Reach K ts o hp (hp.length + 1) seeds c → Expandable K ts o hp (hp.length + 1) c)
    (e : Err) (h : findAllFs K ts o hp nx seeds = .error e) : e = .valueError := by
  -- a failing run fails in an iteration, on a structure of the open list, which is reachable
  obtain ⟨s, a, rest, hi, ho, hs⟩ := findAllFs_error_iter h
  obtain ⟨inv, r, _⟩ := start_invs hnx hi
  have hra := Reach.back inv.shape (r.sound a (Or.inr (by rw [ho]; exact List.mem_cons_self)))
  exact (step_fails K ts o hp _ s a rest inv.shape r.pos (hsafe a hra) e hs).1

/-- **a reachable duplicate raises `ValueError`** -/
theorem findAllFs_duplicate_raises (K : Consts) (ts : TypeSystem) (o : Opts) (hp : Heap) (nx : Int)
    (seeds : List Nat) (hnx : 0 < nx) (a b : Nat) (x : Int) (hab : a ≠ b) (hx : x ≠ 0)
    (ha : Reach K ts o hp (hp.length + 1) seeds a) (hb : Reach K ts o hp (hp.length + 1) seeds b)
    (hxa : xidOf hp a = some x) (hxb : xidOf hp b = some x)
    (hsafe : ∀ c, Reach K ts o hp (hp.length + 1) seeds c → Expandable K ts o hp (hp.length + 1) c) :
    findAllFs K ts o hp nx seeds = .error .valueError := by
  cases h : findAllFs K ts o hp nx seeds with
  | ok st => exact absurd h (findAllFs_duplicate_not_ok K ts o hp nx seeds hnx a b x hab hx ha hb hxa hxb st)
  | error e => rw [findAllFs_error_is_valueError K ts o hp nx seeds hnx hsafe e h]

/-- **the report is exact**: with ids below the generator (C09 invariant) and id generation on, the traversal of a
    heap whose reachable structures can all be visited succeeds iff no two different reachable structures share an id -/
theorem findAllFs_ok_iff (K : Consts) (ts : TypeSystem) (o : Opts) (hp : Heap) (nx : Int)
    (seeds : List Nat) (hnx : 0 < nx) (hgen : o.generateIds = true) (hb : IdsBelow hp nx)
    (hsafe : ∀ c, Reach K ts o hp (hp.length + 1) seeds c → Expandable K ts o hp (hp.length + 1) c) :
    (∃ st, findAllFs K ts o hp nx seeds = .ok st) ↔ ¬ ReachableDuplicate K ts o hp seeds :=
  findAllFs_ok_iff_reachable K ts o hp nx seeds hnx
    (.inl ⟨hgen, fun a x _ hx => (idsBelow_iff hp nx).mp hb a x hx⟩) hsafe

/-- a reachable structure that carried an id is collected under exactly that id and keeps it -/
theorem findAllFs_kept_id (K : Consts) (ts : TypeSystem) (o : Opts) (hp : Heap) (nx : Int) (seeds : List Nat)
    (st : St) (hnx : 0 < nx) (h : findAllFs K ts o hp nx seeds = .ok st) (a : Nat) (x : Int) (hx : x ≠ 0)
    (hr : Reach K ts o hp (hp.length + 1) seeds a) (hxa : xidOf hp a = some x) :
    (x, a) ∈ st.allFs ∧ xidOf st.heap a = some x :=
  have c := findAllFs_collected hnx h
  ⟨c.kept hnx hx hr hxa, c.inv.shape.xidOf hxa⟩

/-- where the ids of the collected structures come from: kept from the heap, or generated (not below the generator) -/
theorem findAllFs_id_kept_or_fresh (K : Consts) (ts : TypeSystem) (o : Opts) (hp : Heap) (nx : Int) (seeds : List Nat)
    (st : St) (hnx : 0 < nx) (h : findAllFs K ts o hp nx seeds = .ok st) (x : Int) (a : Nat) (hm : (x, a) ∈ st.allFs) :
    Reach K ts o hp (hp.length + 1) seeds a ∧ x ≠ 0 ∧ xidOf st.heap a = some x ∧
      (xidOf hp a = some x ∨ (xidOf hp a = none ∧ nx ≤ x)) :=
  have c := findAllFs_collected hnx h
  ⟨((c.mem_iff hnx a).mp (List.mem_map.mpr ⟨(x, a), hm, rfl⟩)).1, (c.link hm).2, (c.link hm).1,
    (c.oinv.origin x a hm).imp_right fun ⟨h0, hge, _⟩ => ⟨h0, hge⟩⟩

end Cassis.Traverse

namespace Cassis.Xmi
open Cassis.TS Cassis.Lex

/-- `to_xmi` never writes a document for a CAS with a reachable duplicate; it raises `ValueError` if the reachable
    structures can all be visited -/
theorem saveXmi_duplicate_raises (K : Consts) (ts : TypeSystem) (cass : List Cas) (ci : Nat) (hp : Heap) (c : Cas)
    (hc : cass[ci]? = some c) (hnx : 0 < c.nextXid)
    (hd : Traverse.ReachableDuplicate K ts {} hp (Traverse.defaultSeeds c)) :
    (∀ doc st, saveXmi K ts cass ci hp ≠ .ok (doc, st)) ∧
    ((∀ a, Traverse.Reach K ts {} hp (hp.length + 1) (Traverse.defaultSeeds c) a →
        Traverse.Expandable K ts {} hp (hp.length + 1) a) →
      saveXmi K ts cass ci hp = .error .valueError) :=
  ⟨fun doc st h => by
     have hst := saveXmi_findAllFs hc h
     obtain ⟨a, b, x, hab, hx, ha, hb, hxa, hxb⟩ := hd
     exact Traverse.findAllFs_duplicate_not_ok K ts {} hp c.nextXid _ hnx a b x hab hx ha hb hxa hxb st hst,
   fun hsafe => by
     obtain ⟨a, b, x, hab, hx, ha, hb, hxa, hxb⟩ := hd
     rw [saveXmi_eq hc, Traverse.findAllFs_duplicate_raises K ts {} hp c.nextXid _ hnx a b x hab hx ha hb hxa hxb hsafe]
     rfl⟩

/-- **the ids of a written XMI document**, in document order: `0` (`cas:NULL`), the collected structures in ascending
    order, the sofas (view elements carry no id) -/
theorem saveXmi_docIds (K : Consts) (ts : TypeSystem) (cass : List Cas) (ci : Nat) (hp : Heap) (c : Cas)
    (doc : XDoc) (st : Traverse.St) (hc : cass[ci]? = some c) (h : saveXmi K ts cass ci hp = .ok (doc, st)) :
    docIds doc = ((0 : Int) :: (sortById st.allFs).map (·.1) ++ Cas.sofaIds c).map showInt := by
  obtain ⟨fsElems, hst, hr, rfl⟩ := saveXmi_ok_inv hc h
  have h0 : docIds [({ ty := NULL_T, attrs := [(ID, "0")] } : XElem)] = [showInt 0] := by
    simp only [docIds, List.filterMap_cons, List.filterMap_nil, attr, alistGet?, if_true]
    rfl
  have happ : ∀ l1 l2 : XDoc, docIds (l1 ++ l2) = docIds l1 ++ docIds l2 := fun l1 l2 => List.filterMap_append
  rw [docOf, happ, happ, happ, h0, docIds_renderAll hst hr, docIds_sofaElems c, docIds_views, List.append_nil]
  simp only [List.map_cons, List.map_append, List.map_map, List.cons_append, List.nil_append]
  rfl

/-- **exactly when the ids of a written XMI document are pairwise distinct** -/
theorem saveXmi_ids_distinct_iff (K : Consts) (ts : TypeSystem) (cass : List Cas) (ci : Nat) (hp : Heap) (c : Cas)
    (doc : XDoc) (st : Traverse.St) (hc : cass[ci]? = some c) (hnx : 0 < c.nextXid)
    (h : saveXmi K ts cass ci hp = .ok (doc, st)) :
    (docIds doc).Nodup ↔
      ((Cas.sofaIds c).Nodup ∧ (0 : Int) ∉ Cas.sofaIds c ∧ ∀ p ∈ st.allFs, p.1 ∉ Cas.sofaIds c) := by
  have hst := saveXmi_findAllFs hc h
  have h0 : (0 : Int) ∉ st.allFs.map (·.1) := by
    intro hm
    obtain ⟨p, hp', e⟩ := List.mem_map.mp hm
    exact (Traverse.findAllFs_ids K ts {} hp c.nextXid _ st hnx hst p.1 p.2 hp').2 e
  have hperm : ((sortById st.allFs).map (·.1) ++ Cas.sofaIds c).Perm (Cas.sofaIds c ++ st.allFs.map (·.1)) :=
    (((sortById_perm_aux st.allFs).map (·.1)).append_right _).trans List.perm_append_comm
  rw [saveXmi_docIds K ts cass ci hp c doc st hc h, nodup_map_showInt, List.cons_append, (hperm.cons 0).nodup_iff, List.nodup_cons,
    List.mem_append, Traverse.allFs_nodup_append hst]
  exact ⟨fun ⟨hn0, hs, hdis⟩ => ⟨hs, fun hm => hn0 (Or.inl hm), hdis⟩,
    fun ⟨hs, hs0, hdis⟩ => ⟨fun hm => hm.elim hs0 h0, hs, hdis⟩⟩

/-- **all xmi:ids of a written document — `cas:NULL`, structures and sofas — are pairwise distinct**, provided the sofa
    ids are distinct, positive and below the generator and no reachable structure carries a sofa's id (I3) -/
theorem saveXmi_ids_distinct (K : Consts) (ts : TypeSystem) (cass : List Cas) (ci : Nat) (hp : Heap) (c : Cas)
    (doc : XDoc) (st : Traverse.St) (hc : cass[ci]? = some c) (hnx : 0 < c.nextXid)
    (hs : (Cas.sofaIds c).Nodup) (hs0 : ∀ x ∈ Cas.sofaIds c, 0 < x ∧ x < c.nextXid)
    (hfs : ∀ a x, Traverse.Reach K ts {} hp (hp.length + 1) (Traverse.defaultSeeds c) a →
      Traverse.xidOf hp a = some x → x ∉ Cas.sofaIds c)
    (h : saveXmi K ts cass ci hp = .ok (doc, st)) : (docIds doc).Nodup := by
  have hst := saveXmi_findAllFs hc h
  rw [saveXmi_ids_distinct_iff K ts cass ci hp c doc st hc hnx h, ← and_assoc, and_right_comm,
    ← Traverse.allFs_nodup_append hst]
  exact ⟨Traverse.collected_sofa_disjoint K ts {} hp c _ st hnx hs (fun x hx => (hs0 x hx).2) hfs hst,
    fun hm => Int.lt_irrefl 0 (hs0 0 hm).1⟩

/-- **kept ids (XMI)**: a reachable structure that carries the id `x` before serialisation is written as an element
    with `xmi:id = x` (the rendering of that very structure) and carries `x` afterwards -/
theorem kept_ids_written (K : Consts) (ts : TypeSystem) (cass : List Cas) (ci : Nat) (hp : Heap) (c : Cas)
    (doc : XDoc) (st : Traverse.St) (hc : cass[ci]? = some c) (hnx : 0 < c.nextXid)
    (h : saveXmi K ts cass ci hp = .ok (doc, st)) (a : Nat) (x : Int) (hx : x ≠ 0)
    (hr : Traverse.Reach K ts {} hp (hp.length + 1) (Traverse.defaultSeeds c) a)
    (hxa : Traverse.xidOf hp a = some x) :
    Traverse.xidOf st.heap a = some x ∧
    ∃ e ∈ doc, renderFs K ts cass st.heap a = .ok e ∧ attr e ID = some (showInt x) := by
  have hst := saveXmi_findAllFs hc h
  obtain ⟨hm, hxa'⟩ := Traverse.findAllFs_kept_id K ts {} hp c.nextXid _ st hnx hst a x hx hr hxa
  obtain ⟨e, he, hre⟩ := saveXmi_elem h hm
  exact ⟨hxa', e, he, hre, renderFs_xid hre hxa'⟩

end Cassis.Xmi

namespace Cassis.Json
open Cassis.TS

/-- `to_json` never writes a document for a CAS with a reachable duplicate; it raises `ValueError` if the reachable
    structures can all be visited and the sofa byte arrays (rendered first) can be rendered -/
theorem saveJson_duplicate_raises (K : Consts) (ts : TypeSystem) (cass : List Cas) (ci : Nat) (hp : Heap)
    (mode : Mode) (c : Cas) (hc : cass[ci]? = some c) (hnx : 0 < c.nextXid)
    (hd : Traverse.ReachableDuplicate K ts { includeInlinable := true } hp (Traverse.defaultSeeds c)) :
    (∀ doc st, saveJson K ts cass ci hp mode ≠ .ok (doc, st)) ∧
    ((∀ a, Traverse.Reach K ts { includeInlinable := true } hp (hp.length + 1) (Traverse.defaultSeeds c) a →
        Traverse.Expandable K ts { includeInlinable := true } hp (hp.length + 1) a) →
      (∀ p ∈ c.views, ∀ a, p.2.sofa.arr = .ref a → ∃ e, renderFs K ts cass hp a = .ok e) →
      saveJson K ts cass ci hp mode = .error .valueError) :=
  ⟨fun doc st h => by
     obtain ⟨_, _, _, _, hst, _⟩ := saveJson_ok_inv hc h
     obtain ⟨a, b, x, hab, hx, ha, hb, hxa, hxb⟩ := hd
     exact Traverse.findAllFs_duplicate_not_ok K ts _ hp c.nextXid _ hnx a b x hab hx ha hb hxa hxb st hst,
   fun hsafe hs => by
     obtain ⟨a, b, x, hab, hx, ha, hb, hxa, hxb⟩ := hd
     exact saveJson_error_of K ts cass ci hp mode c _ hc hs
       (Traverse.findAllFs_duplicate_raises K ts _ hp c.nextXid _ hnx a b x hab hx ha hb hxa hxb hsafe)⟩

/-- **the ids of a written JSON document**, in document order: per view the sofa's byte array (if any, under the id it
    had *before* the traversal) and the sofa, then the collected structures in ascending order -/
theorem saveJson_docIds (K : Consts) (ts : TypeSystem) (cass : List Cas) (ci : Nat) (hp : Heap) (mode : Mode)
    (c : Cas) (doc : JDoc) (st : Traverse.St) (hc : cass[ci]? = some c)
    (h : saveJson K ts cass ci hp mode = .ok (doc, st)) :
    docIds doc = sofaPartIds hp c ++ (Xmi.sortById st.allFs).map (fun p => some p.1) := by
  obtain ⟨parts, fsElems, _, hsofa, hst, hr, _, rfl⟩ := saveJson_ok_inv hc h
  unfold docIds
  rw [List.map_append, fss_ids hst hr, sofaParts_ids hsofa]

/-- **exactly when the ids of a written JSON document are pairwise distinct** (CAS without sofa byte arrays) -/
theorem saveJson_ids_distinct_iff (K : Consts) (ts : TypeSystem) (cass : List Cas) (ci : Nat) (hp : Heap)
    (mode : Mode) (c : Cas) (doc : JDoc) (st : Traverse.St) (hc : cass[ci]? = some c) (hna : NoSofaArray c)
    (h : saveJson K ts cass ci hp mode = .ok (doc, st)) :
    (docIds doc).Nodup ↔ ((Cas.sofaIds c).Nodup ∧ ∀ p ∈ st.allFs, p.1 ∉ Cas.sofaIds c) := by
  obtain ⟨_, _, _, _, hst, _⟩ := saveJson_ok_inv hc h
  have : (Xmi.sortById st.allFs).map (fun p => some p.1) = ((Xmi.sortById st.allFs).map (·.1)).map some := by
    rw [List.map_map]; rfl
  rw [saveJson_docIds K ts cass ci hp mode c doc st hc h, sofaPartIds_noArray hp c hna, this, ← List.map_append,
    Det.nodup_map_iff (fun _ _ => Option.some.inj),
    (((Xmi.sortById_perm_aux st.allFs).map (·.1)).append_left _).nodup_iff, Traverse.allFs_nodup_append hst]

/-- **all ids of a written JSON document — sofas and structures — are pairwise distinct**, provided no sofa carries a
    byte array, the sofa ids are distinct and below the generator and no reachable structure carries a sofa's id -/
theorem saveJson_ids_distinct (K : Consts) (ts : TypeSystem) (cass : List Cas) (ci : Nat) (hp : Heap)
    (mode : Mode) (c : Cas) (doc : JDoc) (st : Traverse.St) (hc : cass[ci]? = some c) (hnx : 0 < c.nextXid)
    (hna : NoSofaArray c)
    (hs : (Cas.sofaIds c).Nodup) (hsb : ∀ x ∈ Cas.sofaIds c, x < c.nextXid)
    (hfs : ∀ a x, Traverse.Reach K ts { includeInlinable := true } hp (hp.length + 1) (Traverse.defaultSeeds c) a →
      Traverse.xidOf hp a = some x → x ∉ Cas.sofaIds c)
    (h : saveJson K ts cass ci hp mode = .ok (doc, st)) : (docIds doc).Nodup := by
  obtain ⟨_, _, _, _, hst, _⟩ := saveJson_ok_inv hc h
  rw [saveJson_ids_distinct_iff K ts cass ci hp mode c doc st hc hna h, ← Traverse.allFs_nodup_append hst]
  exact Traverse.collected_sofa_disjoint K ts _ hp c _ st hnx hs hsb hfs hst

/-- **kept ids (JSON)**: as `kept_ids_written`, for the entry of `%FEATURE_STRUCTURES` with `%ID = x` -/
theorem kept_ids_written_json (K : Consts) (ts : TypeSystem) (cass : List Cas) (ci : Nat) (hp : Heap) (mode : Mode)
    (c : Cas) (doc : JDoc) (st : Traverse.St) (hc : cass[ci]? = some c) (hnx : 0 < c.nextXid)
    (h : saveJson K ts cass ci hp mode = .ok (doc, st)) (a : Nat) (x : Int) (hx : x ≠ 0)
    (hr : Traverse.Reach K ts { includeInlinable := true } hp (hp.length + 1) (Traverse.defaultSeeds c) a)
    (hxa : Traverse.xidOf hp a = some x) :
    Traverse.xidOf st.heap a = some x ∧
    ∃ e ∈ doc.fss, renderFs K ts cass st.heap a = .ok e ∧ e.id = some x := by
  obtain ⟨_, _, _, _, hst, _⟩ := saveJson_ok_inv hc h
  obtain ⟨hm, hxa'⟩ := Traverse.findAllFs_kept_id K ts _ hp c.nextXid _ st hnx hst a x hx hr hxa
  obtain ⟨e, he, hre⟩ := saveJson_elem h hm
  exact ⟨hxa', e, he, hre, (renderFs_xid hre).trans hxa'⟩

end Cassis.Json

namespace Cassis.Cas

/-- **after every API history from an empty CAS the writers either raise or write pairwise distinct ids**, and the
    sofaNums of the written sofa elements are pairwise distinct.  XMI: all `xmi:id`s of the document.  JSON: sofas and
    collected structures never share an id; all `%ID`s of the document are distinct if no sofa carries a byte array. -/
theorem ids_history_write (K : TS.Consts) (ts : TS.TypeSystem) (lenient : Bool) (ops : List COp)
    (cass : List Cas) (ci : Nat) (hc : cass[ci]? = some (ops.foldl (cstep K ts) (init lenient)).cas) :
    (∀ doc st, Xmi.saveXmi K ts cass ci (ops.foldl (cstep K ts) (init lenient)).heap = .ok (doc, st) →
      (Xmi.docIds doc).Nodup ∧
      (∀ e ∈ Xmi.sofaElems (ops.foldl (cstep K ts) (init lenient)).cas, e ∈ doc) ∧
      ((Xmi.sofaElems (ops.foldl (cstep K ts) (init lenient)).cas).map (fun e => Xmi.attr e "sofaNum")).Nodup) ∧
    (∀ mode doc st, Json.saveJson K ts cass ci (ops.foldl (cstep K ts) (init lenient)).heap mode = .ok (doc, st) →
      (sofaIds (ops.foldl (cstep K ts) (init lenient)).cas ++ st.allFs.map (·.1)).Nodup ∧
      (∀ p ∈ (ops.foldl (cstep K ts) (init lenient)).cas.views,
        Json.renderSofa (ops.foldl (cstep K ts) (init lenient)).heap p.2.sofa ∈ doc.fss) ∧
      (((ops.foldl (cstep K ts) (init lenient)).cas.views.map
        (fun p => Json.renderSofa (ops.foldl (cstep K ts) (init lenient)).heap p.2.sofa)).map Json.sofaNumOf).Nodup ∧
      (Json.NoSofaArray (ops.foldl (cstep K ts) (init lenient)).cas → (Json.docIds doc).Nodup)) := by
  obtain ⟨hb, hu⟩ := ids_history K ts lenient ops
  have hp := pos_history K ts lenient ops
  generalize ops.foldl (cstep K ts) (init lenient) = s at *
  obtain ⟨hnx, hs, hs0, hfs, hnum⟩ := write_hyps hb hu hp
  refine ⟨fun doc st h => ?_, fun mode doc st h => ?_⟩
  · obtain ⟨_, _, _, rfl⟩ := Xmi.saveXmi_ok_inv hc h
    exact ⟨Xmi.saveXmi_ids_distinct K ts cass ci s.heap s.cas _ st hc hnx hs hs0 (fun a x _ hx => hfs a x hx) h,
      fun e he => List.mem_append.mpr (Or.inl (List.mem_append.mpr (Or.inr he))), Xmi.sofaElems_nums_nodup s.cas hnum⟩
  · obtain ⟨parts, _, _, hsofa, hst, _, _, rfl⟩ := Json.saveJson_ok_inv hc h
    exact ⟨Traverse.collected_sofa_disjoint K ts _ s.heap s.cas _ st hnx hs (fun x hx => (hs0 x hx).2)
        (fun a x _ hx => hfs a x hx) hst,
      fun p hp' => List.mem_append_left _ (Json.sofaParts_mem hsofa p hp'),
      Json.sofa_nums_nodup s.heap s.cas hnum,
      fun hna => Json.saveJson_ids_distinct K ts cass ci s.heap mode s.cas _ st hc hnx hna hs
        (fun x hx => (hs0 x hx).2) (fun a x _ hx => hfs a x hx) h⟩

end Cassis.Cas

/-! ## Non-vacuity (instances of `Proofs/IdsWriteDemo.lean`; everything evaluated by the kernel) and the evaluated
    counterexamples that force the hypotheses -/
namespace Cassis.IdsWriteDemo
open Cassis.TS Cassis.Traverse Cassis.Xmi.Demo

/-- `findAllFs_duplicate_raises` applies to `hpDup` (chain `0 → 1 → 2`, structures 1 and 2 on id 5) -/
example : findAllFs K demoTS' {} hpDup casDup.nextXid (defaultSeeds casDup) = .error .valueError :=
  findAllFs_duplicate_raises K demoTS' {} hpDup _ _ (by decide) 1 2 5 (by decide) (by decide)
    (dup_reach1 {}) (dup_reach2 {}) (by decide +kernel) (by decide +kernel) dup_safe_xmi

/-- the writers raise on `hpDup` -/
example : Xmi.saveXmi K demoTS' [casDup] 0 hpDup = .error .valueError :=
  (Xmi.saveXmi_duplicate_raises K demoTS' [casDup] 0 hpDup casDup rfl (by decide) (dup_duplicate {})).2 dup_safe_xmi

example (mode : Json.Mode) : Json.saveJson K demoTS' [casDup] 0 hpDup mode = .error .valueError :=
  (Json.saveJson_duplicate_raises K demoTS' [casDup] 0 hpDup mode casDup rfl (by decide) (dup_duplicate _)).2
    dup_safe_json (by
      intro p hp a ha
      simp only [casDup, cas1, List.mem_singleton] at hp
      subst hp
      cases ha)

/-- the conclusion evaluated directly, for the three orders of meeting the two structures, and for both writers -/
example : errOf (findAllFs K demoTS' {} hpDup 6 [0]) = some .valueError ∧
    errOf (findAllFs K demoTS' {} hpDup 6 [2, 1]) = some .valueError ∧
    errOf (findAllFs K demoTS' {} hpDup 6 [1, 2]) = some .valueError ∧
    errOf (Xmi.saveXmi K demoTS' [casDup] 0 hpDup) = some .valueError ∧
    errOf (Json.saveJson K demoTS' [casDup] 0 hpDup .none) = some .valueError := dup_eval

/-- `findAllFs_ok_iff`: hypotheses hold on `hpOk` and the traversal succeeds, hence no reachable duplicate -/
example : ¬ ReachableDuplicate K demoTS' {} hpOk [0] := by
  obtain ⟨h1, h2, h3, h4, h5⟩ := ok_hyps_iff
  exact (findAllFs_ok_iff K demoTS' {} hpOk 3 [0] h1 h2 h3 h4).mp (Det.ok_of_toBool h5)

/-- without `IdsBelow` a generated id may collide with a kept one: reported (never written), although no two
    structures of the heap share an id — the hypothesis `hb` of `findAllFs_ok_iff` is needed -/
example : errOf (findAllFs K demoTS' {} [tok none (.ref 1), tok (some 5) .none] 5 [0]) = some .valueError :=
  fresh_collision_eval

/-- `saveXmi_ids_distinct` and `kept_ids_written` apply to `casOk`/`hpOk` -/
example : ∃ doc st, Xmi.saveXmi K demoTS' [casOk] 0 hpOk = .ok (doc, st) ∧ (Xmi.docIds doc).Nodup ∧
    ∃ e ∈ doc, Xmi.renderFs K demoTS' [casOk] st.heap 0 = .ok e ∧ Xmi.attr e Xmi.ID = some (Lex.showInt 2) := by
  obtain ⟨doc, st, h1, h2, h3, h4, h5, h6, h7, h8⟩ := ok_hyps_xmi
  exact ⟨doc, st, h6, Xmi.saveXmi_ids_distinct K demoTS' [casOk] 0 hpOk casOk doc st h1 h2 h3 h4 h5 h6,
    (Xmi.kept_ids_written K demoTS' [casOk] 0 hpOk casOk doc st h1 h2 h6 0 2 (by decide) h7 h8).2⟩

/-- `saveJson_ids_distinct` and `kept_ids_written_json` apply to `casOk`/`hpOk` (every mode) -/
example (mode : Json.Mode) : ∃ doc st, Json.saveJson K demoTS' [casOk] 0 hpOk mode = .ok (doc, st) ∧
    (Json.docIds doc).Nodup ∧ ∃ e ∈ doc.fss, Json.renderFs K demoTS' [casOk] st.heap 0 = .ok e ∧ e.id = some 2 := by
  obtain ⟨doc, st, h1, h2, h3, h4, h5, h6, h7, h8, h9⟩ := ok_hyps_json mode
  exact ⟨doc, st, h7, Json.saveJson_ids_distinct K demoTS' [casOk] 0 hpOk mode casOk doc st h1 h2 h3 h4 h5 h6 h7,
    (Json.kept_ids_written_json K demoTS' [casOk] 0 hpOk mode casOk doc st h1 h2 h7 0 2 (by decide) h8 h9).2⟩

/-- the ids actually written for `casOk`/`hpOk`: kept id 2, generated id 3, sofa id 1 -/
example : (Xmi.saveXmi K demoTS' [casOk] 0 hpOk).toOption.map (fun r => Xmi.docIds r.1) = some ["0", "2", "3", "1"] ∧
    (Json.saveJson K demoTS' [casOk] 0 hpOk .none).toOption.map (fun r => Json.docIds r.1) =
      some [some 1, some 2, some 3] := ok_eval

/-- hypothesis `hfs` is needed (finding I3): a structure on the sofa's id is written next to the sofa -/
example : (Xmi.saveXmi K demoTS' [cas1 sofa1 3] 0 [tok (some 1) .none]).toOption.map (fun r => Xmi.docIds r.1) =
      some ["0", "1", "1"] ∧
    (Json.saveJson K demoTS' [cas1 sofa1 3] 0 [tok (some 1) .none] .none).toOption.map (fun r => Json.docIds r.1) =
      some [some 1, some 1] := cx_fs_on_sofa_id

/-- hypothesis `x < c.nextXid` on sofa ids is needed: a generated id takes the sofa's id again -/
example : (Xmi.saveXmi K demoTS' [cas1 { sofa1 with xid := 5 } 5] 0 [tok none .none]).toOption.map
    (fun r => Xmi.docIds r.1) = some ["0", "5", "5"] := cx_sofa_not_below

/-- hypothesis `0 < x` on sofa ids is needed (XMI): a sofa on id 0 collides with `cas:NULL` -/
example : (Xmi.saveXmi K demoTS' [cas1 { sofa1 with xid := 0 } 3] 0 [tok (some 2) .none]).toOption.map
    (fun r => Xmi.docIds r.1) = some ["0", "2", "0"] := cx_sofa_zero

/-- hypothesis `NoSofaArray` is needed (JSON): a sofa byte array forced onto the id of an indexed structure is
    written next to it (see also `Json.DetDemo.cx_sofaArray`, finding J8: the same array written twice) -/
example : (Json.saveJson K demoTS' [cas1 { sofa1 with arr := .ref 1, mime := some "x/y" } 4] 0
      [tok (some 3) .none, { ty := "uima.cas.ByteArray", ts := 0, xid := some 3, slots := [("elements", .ints [1, 2])] }]
      .none).toOption.map (fun r => Json.docIds r.1) = some [some 3, some 1, some 3] := cx_sofa_array_on_fs_id

/-- `ids_history_write` on a concrete history (second view, one structure added): the document is written -/
example : (let s := hist.foldl (Cas.cstep K demoTS') (Cas.init true)
    (Xmi.saveXmi K demoTS' [s.cas] 0 s.heap).toOption.map (fun r => Xmi.docIds r.1)) = some ["0", "3", "1", "2"] :=
  hist_eval

end Cassis.IdsWriteDemo

#print axioms Cassis.Traverse.findAllFs_duplicate_not_ok
#print axioms Cassis.Traverse.findAllFs_error_is_valueError
#print axioms Cassis.Traverse.findAllFs_duplicate_raises
#print axioms Cassis.Traverse.findAllFs_ok_iff
#print axioms Cassis.Traverse.findAllFs_kept_id
#print axioms Cassis.Traverse.findAllFs_id_kept_or_fresh
#print axioms Cassis.Xmi.saveXmi_duplicate_raises
#print axioms Cassis.Xmi.saveXmi_docIds
#print axioms Cassis.Xmi.saveXmi_ids_distinct_iff
#print axioms Cassis.Xmi.saveXmi_ids_distinct
#print axioms Cassis.Xmi.kept_ids_written
#print axioms Cassis.Json.saveJson_duplicate_raises
#print axioms Cassis.Json.saveJson_docIds
#print axioms Cassis.Json.saveJson_ids_distinct_iff
#print axioms Cassis.Json.saveJson_ids_distinct
#print axioms Cassis.Json.kept_ids_written_json
#print axioms Cassis.Cas.ids_history_write
