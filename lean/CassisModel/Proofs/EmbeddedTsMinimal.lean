/-
The MINIMAL counterpart of `json_full_ts_same`.
Agreement: the type system `emb` built from a closed list `R` of written records (`loadEmbedded_on`) has, under every name
that is registered in a fresh type system or declared by `R`, the effective features of the original `o` up to
`Feature.__eq__` (`eff_cover`).  (The two type systems do *not* declare the same: `emb` lacks the types outside `R` and the
corresponding children.)
The written records: the `%TYPES` section of a MINIMAL document is a closed list of records (`recsOk_min`, by
`closure_sufficient` of `Properties/C02Closure.lean`), and every `%TYPE` of the document is declared by it or by a fresh
type system (`minimal_fss_names`).
-/
import CassisModel.Proofs.EmbeddedTs
import CassisModel.Spec.ReaderSim
import CassisModel.Properties.C01
import CassisModel.Properties.C02Closure

namespace Cassis.Json
open Cassis.TS

theorem regName_super {o : TypeSystem} (ho : Hist o) {R : List TypeRec} (hR : RecsOk o R) {n s : String} {t : TypeRec}
    (hn : RegName R n) (ht : find? o n = some t) (hs : t.super = some s) : RegName R s := by
  rcases hn with hb | ⟨r, hr, hrn⟩
  · obtain ⟨tb, htb⟩ := (hasExact_iff_find _ _).mp hb
    obtain ⟨to, hto, hsup, _⟩ := ho.grow n tb htb
    rw [ht] at hto; cases hto
    left
    exact consistent_builtins.1.superReg tb (find?_mem htb) s (by rw [← hsup]; exact hs)
  · have hro : find? o r.name = some r := find?_of_mem ho.cons.nodup (hR.mem hr).1
    rw [hrn, ht] at hro; cases hro
    exact hR.supClosed t hr s hs

theorem own_cover {o emb : TypeSystem} (ho : UserBuilt o) (hi : EInv o emb) {R : List TypeRec}
    (hR : RecsOk o R)
    (hcov : ∀ t ∈ R, ∃ t', find? emb t.name = some t' ∧ ∀ f ∈ t.own, ∃ g ∈ eff t', featureEq g f = true)
    {n : String} {t : TypeRec} (hn : RegName R n) (ht : find? o n = some t) :
    ∃ te, find? emb n = some te ∧ ∀ f ∈ t.own, ∃ g ∈ eff te, featureEq g f = true := by
  rcases hn with hb | ⟨r, hr, hrn⟩
  · obtain ⟨tb, htb⟩ := (hasExact_iff_find _ _).mp hb
    obtain ⟨to, hto, hown⟩ := ho.own_builtin htb
    rw [ht] at hto; cases hto
    obtain ⟨te, hte, _, _, hsubown, _, _⟩ := hi.grow n tb htb
    exact ⟨te, hte, fun f hf => ⟨f, List.mem_append_left _ (hsubown f (hown ▸ hf)), featureEq_refl f⟩⟩
  · have hro : find? o r.name = some r := find?_of_mem ho.built.cons.nodup (hR.mem hr).1
    rw [hrn, ht] at hro; cases hro
    obtain ⟨te, hte, hc⟩ := hcov t hr
    rw [hrn] at hte
    exact ⟨te, hte, hc⟩

/-- `emb` covers the effective features of every record of `o` whose name `R` or a fresh type system declares -/
theorem eff_cover {o emb : TypeSystem} (ho : UserBuilt o) (hi : EInv o emb) {R : List TypeRec}
    (hR : RecsOk o R)
    (hcov : ∀ t ∈ R, ∃ t', find? emb t.name = some t' ∧ ∀ f ∈ t.own, ∃ g ∈ eff t', featureEq g f = true)
    {n : String} {t : TypeRec} (hn : RegName R n) (ht : find? o n = some t) :
    ∃ te, find? emb n = some te ∧ ∀ f ∈ eff t, ∃ g ∈ eff te, featureEq g f = true :=
  eff_cover_on ho.built.cons ho.built.feat hi.feat hi.sub (fun _ _ _ hn ht hs => regName_super ho.hist hR hn ht hs)
    (fun _ _ hn ht => own_cover ho hi hR hcov hn ht) n t hn ht

end Cassis.Json

namespace Cassis.Json
open Cassis.TS

theorem renderFs_ty {K : Consts} {ts : TypeSystem} {cass : List Cas} {hp : Heap} {a : Nat} {e : JFs}
    (h : renderFs K ts cass hp a = .ok e) : ∃ o, hp[a]? = some o ∧ e.ty = o.ty := by
  rw [renderFs_eq] at h
  split at h
  · cases h
  · rename_i o ho
    refine ⟨o, ho, ?_⟩
    split at h
    · obtain ⟨_, _, rfl⟩ := Det.map_ok h; rfl
    · obtain ⟨t, _, h⟩ := Det.bind_ok h
      obtain ⟨_, _, rfl⟩ := Det.map_ok h; rfl

theorem renderAll_ty {K : Consts} {ts : TypeSystem} {cass : List Cas} {hp : Heap} (l : List (Int × Nat))
    (es : List JFs) (h : renderAll K ts cass hp l = .ok es) :
    ∀ e ∈ es, ∃ p ∈ l, ∃ o, hp[p.2]? = some o ∧ e.ty = o.ty := by
  intro e he
  obtain ⟨p, hp', hr⟩ := (Det.mapM_ok_mem (renderAll_eq_mapM K ts cass hp l ▸ h)).2 e he
  exact ⟨p, hp', renderFs_ty hr⟩

/-! ### the written records are closed -/

theorem minNames_members (o : TypeSystem) (st : Traverse.St) :
    ∀ n ∈ minNames Gen.consts o st, Gen.consts.predefined.contains n = false ∧ (find? o n).isSome = true :=
  (closure_members Gen.consts o _ _).2

theorem minNames_closed (o : TypeSystem) (st : Traverse.St) : ClosedUnder Gen.consts o (minNames Gen.consts o st) :=
  (closure_sufficient Gen.consts o _).2

theorem regName_of_covered {o : TypeSystem} {st : Traverse.St} {x : String}
    (hc : Covered Gen.consts o (minNames Gen.consts o st) x) (hreg : hasExact o x = true) :
    RegName (minRecs Gen.consts o st) x := by
  obtain ⟨tx, htx⟩ := (hasExact_iff_find _ _).mp hreg
  rcases hc with h | h | h
  · by_cases hd : x = DOCUMENT_ANNOTATION
    · left; rw [hd]; exact builtin_docAnn
    · right
      exact ⟨tx, mem_minRecs.mpr ⟨by rw [find?_name htx]; exact hd, x, h, htx⟩, find?_name htx⟩
  · left; exact builtin_pre x h
  · rw [htx] at h; cases h

theorem recsOk_min {o : TypeSystem} (ho : UserBuilt o) (st : Traverse.St) :
    RecsOk o (minRecs Gen.consts o st) := by
  refine ⟨?_, ?_, ?_⟩
  · intro t ht
    obtain ⟨hne, n, hn, hf⟩ := mem_minRecs.mp ht
    rw [mem_fullRecs]
    refine ⟨find?_mem hf, ?_, hne⟩
    rw [find?_name hf]
    exact (minNames_members o st n hn).1
  · intro t ht s hs
    obtain ⟨_, n, hn, hf⟩ := mem_minRecs.mp ht
    have hcl := (minNames_closed o st n hn t hf).1 s hs
    exact regName_of_covered hcl (ho.built.cons.superReg t (find?_mem hf) s hs)
  · intro t ht f hfo
    obtain ⟨_, n, hn, hf⟩ := mem_minRecs.mp ht
    obtain ⟨hr, he, _⟩ := ho.built.ownOK t (find?_mem hf) f hfo
    -- `f` is (up to `Feature.__eq__`) one of the effective features the closure looked at
    have hk : featKey f ∈ (allFeatures t).map featKey :=
      (mem_keys_allFeatures t _).mpr ⟨f, List.mem_append_left _ hfo, rfl⟩
    obtain ⟨g, hg, hgk⟩ := List.mem_map.mp hk
    have hgr : g.range = f.range := by
      have := congrArg (fun k => k.2.2.1) hgk
      simpa [featKey] using this
    have hge : g.elem.getD TOP = f.elem.getD TOP := by
      have := congrArg (fun k => k.2.2.2) hgk
      simpa [featKey] using this
    obtain ⟨hcr, hce⟩ := (minNames_closed o st n hn t hf).2 g hg
    refine ⟨regName_of_covered (by rw [← hgr]; exact hcr) hr, ?_⟩
    intro e hfe
    have he := he e hfe
    rw [hfe] at hge
    simp only [Option.getD_some] at hge
    cases hgel : g.elem with
    | none =>
      rw [hgel] at hge
      simp only [Option.getD_none] at hge
      left; rw [← hge]; exact builtin_top
    | some e' =>
      rw [hgel] at hge
      simp only [Option.getD_some] at hge
      have := hce e' hgel
      rw [hge] at this
      exact regName_of_covered this he

/-- the type of a collected structure is declared: it is a seed of the closure -/
theorem regName_collected {o : TypeSystem} {st : Traverse.St} {q : Int × Nat} (hq : q ∈ st.allFs) {ob : Obj}
    (hob : st.heap[q.2]? = some ob) (hsome : (find? o ob.ty).isSome = true) :
    RegName (minRecs Gen.consts o st) ob.ty := by
  cases hpre : Gen.consts.predefined.contains ob.ty with
  | true => exact Or.inl (builtin_pre _ hpre)
  | false =>
    refine regName_of_covered (Or.inl ?_) hsome
    apply (closure_sufficient Gen.consts o _).1 _ _ hpre hsome
    rw [List.mem_eraseDups, List.mem_filterMap]
    exact ⟨q, (Xmi.sortById_perm _).mem_iff.mpr hq, by rw [hob]; rfl⟩

theorem fsTypeName_sofa (hp : Heap) (s : Sofa) : fsTypeName (renderSofa hp s) = SOFA := by
  unfold fsTypeName renderSofa
  simp only [array_evals.2.2.2.2, Bool.false_eq_true, if_false]

theorem minimal_fss_names {o : TypeSystem} (cass : List Cas) (ci : Nat) (c : Cas) (hp : Heap)
    (doc : JDoc) (st : Traverse.St) (hc : cass[ci]? = some c) (harr : ∀ nv ∈ c.views, nv.2.sofa.arr = .none)
    (h : saveJson Gen.consts o cass ci hp .minimal = .ok (doc, st))
    (hreg : ∀ q ∈ st.allFs, ∀ ob : Obj, st.heap[q.2]? = some ob →
      (find? o ob.ty).isSome = true ∧ ob.ty.endsWith "[]" = false) :
    ∀ j ∈ doc.fss, RegName (minRecs Gen.consts o st) (fsTypeName j) := by
  obtain ⟨_, fsElems, hr, hfss, _⟩ := saveJson_parts hc harr h
  intro j hj
  rw [hfss] at hj
  rcases List.mem_append.mp hj with hj | hj
  · obtain ⟨nv, _, rfl⟩ := List.mem_map.mp hj
    rw [fsTypeName_sofa]
    left; exact builtin_sofa
  · obtain ⟨p, hp', ob, hob, hty⟩ := renderAll_ty _ _ hr j hj
    have hp0 : p ∈ st.allFs := (Xmi.sortById_perm _).mem_iff.mp hp'
    obtain ⟨hsome, hends⟩ := hreg p hp0 ob hob
    have hname : fsTypeName j = ob.ty := by
      unfold fsTypeName
      rw [hty, hends]
      simp only [Bool.false_eq_true, if_false]
    rw [hname]
    exact regName_collected hp0 hob hsome

end Cassis.Json
