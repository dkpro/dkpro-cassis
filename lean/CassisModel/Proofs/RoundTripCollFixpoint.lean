/-
Fixpoint of the XMI round trip with collections (`Properties/C01FixpointColl.lean`; layer X of
`RoundTripColl_NOTES.md`): serialising the loaded CAS again yields the identical document.  The loaded structures are
a copy of the written ones in the sense of `Traverse.Moved` (`XLd.moved`), so the traversal of the loaded CAS collects
exactly them, under the same ids; each is rendered identically (`ObjFix.render`), sofas and views are written alike:
`saveXmi_moved` (`RoundTripMoved.lean`). What the reader produces (`XLd`, `xmi_core_coll`) is plugged in.  Below stand
`RoundTripCollFixpointVals` (values), `…Feat` (per feature), `…Obj` (per structure).

By-product (`xmi_roundtrip_coll_again`): the loaded structures are in the fragment `CollFs` again (in the loaded CAS).
-/
import CassisModel.Proofs.RoundTripCollLoaded
import CassisModel.Proofs.RoundTripCollFixpointObj

namespace Cassis.ChainC
open Cassis.TS Cassis.Traverse Cassis.Xmi

/-- the loaded structures are a copy of the written ones (`lf`: the list budget of the first traversal): each is in the
    fragment again, so its successors are its `Target`s, and those are the counterparts of the written targets -/
theorem XLd.moved {K : Consts} {ts : TypeSystem} {c : Cas} {ci ci' : Nat} {H : Heap}
    {L : List (Int × Nat)} {na : Int → Nat} {ia : Int → String → Nat} {ld : Loaded}
    (X : XLd K ts c ci H L ci' na ia ld) {lf : Nat} (hlf : lf = H.length + 1) :
    Moved K ts ts {} {} H lf ld.heap L na := by
  subst hlf
  have hcoll := fun q hq => CFX.collFs_new (c' := ld.cas) (ci' := ci') X.lok X.rel X.colls X.views (q := q) hq
  refine ⟨fun q hq => X.rel.xid hq, fun q hq => ?_, fun xa a xb b ha hb hsucc => ?_⟩
  · obtain ⟨o, o', t, h⟩ := loc_of X.lok X.rel X.colls hq
    obtain ⟨o', t, ps, n, ho', ht, hns, hps⟩ := CT.nodeSuccs_coll_iff (hcoll q hq)
    exact ⟨o', t, ps, n, ho', getType_of_find ht, hns, fun b' hb' => h.target_fwd ((hps b').mp hb')⟩
  · obtain ⟨o, o', t, h⟩ := loc_of X.lok X.rel X.colls ha
    exact (CT.succsOf_coll (hcoll _ ha) (na xb)).mpr
      (h.target_bwd ((CT.succsOf_coll (X.lok.coll _ ha) b).mp hsucc) hb)

end Cassis.ChainC

namespace Cassis.Xmi
open Cassis.TS Cassis.Traverse

theorem xmi_roundtrip_coll_again (K : Consts) (ts : TypeSystem) (cass : List Cas) (ci : Nat) (c : Cas)
    (hp : Heap) (tsIdx : Nat) (doc : XDoc) (st : St) (ld : Loaded)
    (hc : cass[ci]? = some c) (hwf : RTWf c hp) (hnull : NullOk ts)
    (hsave : saveXmi K ts cass ci hp = .ok (doc, st))
    (hcoll : ∀ q ∈ st.allFs, CollFs K ts c ci st.heap q.2)
    (hmem : ∀ nv ∈ c.views, ∀ e ∈ Index.all nv.2.idx, slot st.heap e.oid "sofa" ≠ some .none)
    (hmok : MembersOk c st.heap)
    (hload : loadXmi K ts tsIdx cass.length false st.heap doc = .ok ld) :
    ∃ st' : St, saveXmi K ts (cass ++ [ld.cas]) cass.length ld.heap = .ok (doc, st') ∧
      st'.heap = ld.heap ∧
      ∀ r ∈ st'.allFs, CollFs K ts ld.cas cass.length st'.heap r.2 := by
  obtain ⟨na, ia, ld', hload', X⟩ :=
    ChainC.xmi_core_coll K ts cass ci c hp tsIdx cass.length doc st hc hwf hnull hsave hcoll hmem hmok
  rw [hload] at hload'; cases hload'
  have hc' : (cass ++ [ld.cas])[cass.length]? = some ld.cas := List.getElem?_concat_length
  have hobj := fun q hq => CFX.fix_obj hc hc' hwf X.lok X.rel X.colls X.views q hq
  have hlen := (findAllFs_heap_frame K ts {} hp c.nextXid _ st (saveXmi_findAllFs hc hsave)).1
  obtain ⟨st', hs', hheap, hperm⟩ := saveXmi_moved hc hc' hsave hwf.next_pos X.next_pos
    (X.moved (by rw [hlen]))
    (fun _ ha => seeds_fwd X.lok.ids X.lok.members X.views ha) (fun _ _ hx ha => seeds_bwd X.lok.ids X.views hx ha)
    (fun q hq => (hobj q hq).render) (X.views.all2.map_eq fun _ _ _ hr => renderSofa_rel hr) X.content
  refine ⟨st', hs', hheap, fun r hr => ?_⟩
  obtain ⟨q, hq, rfl⟩ := List.mem_map.mp (hperm.mem_iff.mp hr)
  rw [hheap]
  exact (hobj q (mem_sortById.mpr hq)).coll

end Cassis.Xmi
