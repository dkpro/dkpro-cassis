/-
The XMI reader on a document written by `saveXmi` for a CAS of the fragment `CollFs`: assembly of the layers (layer F of
`Proofs/RoundTripColl_NOTES.md`).

The first pass is read in two ways: over the document as written (`pass1_coll_written`: exact tables, new addresses behind
the old heap) and over any permutation of it, on any heap (`pass1_of_itemsC`: tables up to permutation).  From there on
there is one argument, `LPC.read_of_pass1`: the second pass, the third pass, the reseeded generators, for any state of the
first pass that describes the written document up to the order of its tables; what it leaves is the record `LPC.Read`.
`xmi_passes_coll` (the document as written) and `LPC.load_perm_base` (any permutation, any heap) are the two first
passes followed by it; the round trip, its independence of the element order and the faithfulness of the writer
(`Properties/C01RoundTripColl.lean`, `C05PermColl.lean`, `C04FaithfulColl.lean`) read their conclusions off `Read`.
-/
import CassisModel.Proofs.Pass3Ctx
import CassisModel.Proofs.RoundTripCollAsm
import CassisModel.Proofs.RoundTripCollPostGen
import CassisModel.Proofs.RoundTripCollTrav
import CassisModel.Proofs.RoundTripCollElem
import CassisModel.Proofs.RoundTripCollArr
import CassisModel.Proofs.Pass3BuildCas
import CassisModel.Proofs.RoundTripCollContent
import CassisModel.Properties.C09Doc

namespace Cassis.Xmi
open Cassis.TS

theorem coll_elem1 (K : Consts) (ts : TypeSystem) (cass : List Cas) (ci : Nat) (c : Cas) (H : Heap) (tsIdx : Nat)
    (hc : cass[ci]? = some c) : Elem1Stmt K ts cass H tsIdx (CollFs K ts c ci H) := fun a x hP hx =>
  hP.elim (fun hg => gen_elem1 K ts cass ci c H tsIdx hc a x hg hx) (fun ha => arr_elem1 K ts cass H tsIdx a x ha hx)

end Cassis.Xmi

/-
The second pass on the state after the first pass over a permuted document (`P1WP`).  `Post2Stmt` is abstract in the two
tables: its proof uses the id table through lookups only (`coll_post_of_lookup`) and the sofa table through `find?` by id
only (`postFeatures_sofas_congr`).  The work list is processed in any order, the `cas:NULL` entry anywhere
(`postAll_permC_aux`, `RoundTripCollAsm.lean`).
-/
namespace Cassis.Xmi.LPC
open Cassis.TS Cassis.Traverse Cassis.Xmi.RTB Cassis.Xmi.LP

theorem postFeature_sofas_congr (K : Consts) (ts : TypeSystem) (tsIdx ci : Nat) (sofas sofas' : List (Int × PSofa))
    (fss : List (Int × Nat)) (h : ∀ i : Int, sofas.find? (fun p => p.1 == i) = sofas'.find? (fun p => p.1 == i))
    (hp : Heap) (a : Nat) (ty : String) (b : Bool) (f : Feature) :
    postFeature K ts tsIdx ci sofas fss hp a ty b f = postFeature K ts tsIdx ci sofas' fss hp a ty b f := by
  unfold postFeature
  simp only [h]

theorem postFeatures_sofas_congr (K : Consts) (ts : TypeSystem) (tsIdx ci : Nat) (sofas sofas' : List (Int × PSofa))
    (fss : List (Int × Nat)) (h : ∀ i : Int, sofas.find? (fun p => p.1 == i) = sofas'.find? (fun p => p.1 == i))
    (a : Nat) (ty : String) (b : Bool) : ∀ (fs : List Feature) (hp : Heap),
    postFeatures K ts tsIdx ci sofas fss a ty b fs hp = postFeatures K ts tsIdx ci sofas' fss a ty b fs hp
  | [], _ => rfl
  | f :: fs, hp => by
    rw [postFeatures, postFeatures, postFeature_sofas_congr K ts tsIdx ci sofas sofas' fss h]
    cases postFeature K ts tsIdx ci sofas' fss hp a ty b f with
    | error e => rfl
    | ok hp' => exact postFeatures_sofas_congr K ts tsIdx ci sofas sofas' fss h a ty b fs hp'

theorem post2_sofas_congr {K : Consts} {ts : TypeSystem} {cass : List Cas} {H : Heap} {L : List (Int × Nat)}
    {na : Int → Nat} {tsIdx ci' : Nat} {sofas sofas' : List (Int × PSofa)} {fss : List (Int × Nat)} {P : Nat → Prop}
    (h : ∀ i : Int, sofas.find? (fun p => p.1 == i) = sofas'.find? (fun p => p.1 == i))
    (hpost : Post2Stmt K ts cass H L na tsIdx ci' sofas fss P) : Post2Stmt K ts cass H L na tsIdx ci' sofas' fss P := by
  intro q hq hP hpX o o1 ho ho1 hobj
  obtain ⟨t, hpY, hgt, hpf, hrest⟩ := hpost q hq hP hpX o o1 ho ho1 hobj
  refine ⟨t, hpY, hgt, ?_, hrest⟩
  rw [← postFeatures_sofas_congr K ts tsIdx ci' sofas sofas' fss h]
  exact hpf

theorem postAll_permC (K : Consts) (ts : TypeSystem) (cass : List Cas) (ci : Nat) (c : Cas) (hp H : Heap)
    (L : List (Int × Nat)) (na : Int → Nat) (n0 : Nat) (tsIdx ci' : Nat) (p : Pass1)
    (hc : cass[ci]? = some c) (hwf : RTWf c hp) (hnull : NullOk ts) (hL : LOkC K ts c ci H L)
    (hna : NaOkP n0 L na) (hp1 : P1WP c H L na n0 p)
    (hrel : HeapRelP H L na (Obj1 K ts cass H p.heap) p.heap) :
    ∃ hp2 : Heap, postAll K ts tsIdx ci' p.sofas p.fss p.fss p.heap = .ok hp2 ∧ Frz p.heap hp2 ∧
      hp2[n0]? = p.heap[n0]? ∧ HeapRelP H L na (Obj2 K ts cass H na ci' hp2) hp2 := by
  obtain ⟨o0, ho0, hty0, _, _⟩ := hp1.null
  have hI : IdsOk L := ⟨fun q hq => (hL.ids q hq).2, hL.nodup⟩
  refine postAll_permC_aux K ts cass H L na n0 tsIdx ci' p.sofas p.fss _ hL.coll hnull hI hna
    (post2_sofas_congr (fun i => (hp1.find_sofa_any hwf.sofa_ids_nodup i).symm)
      (coll_post_of_lookup K ts cass ci c hp H L na tsIdx ci' _ p.fss hc hwf hL rfl
        (fun q hq => hp1.lookup hI hq))) o0 hty0
    p.fss hp1.fss_entry (hp1.fss_nodup hI) p.heap ho0
    (hrel.mono fun q hq _ _ _ hor =>
      ⟨fun _ => hor, fun hm => absurd (List.mem_map.2 ⟨(q.1, na q.1), hp1.mem_fss hq, rfl⟩) hm⟩)

/-- what `loadXmi` over the heap `hb` (state `p` after the first pass, heap `hp2` after the second, result `ld`) made of
    the document written for `c` from the heap `H` with the collected structures `L`: the structure with id `x` stands at
    `na x`, the collection inlined in its slot `n` at `iaOf hp2 na x n`, the written views come back as `vs` -/
structure Read (K : Consts) (ts : TypeSystem) (cass : List Cas) (c : Cas) (H : Heap) (L : List (Int × Nat)) (ci' : Nat)
    (na : Int → Nat) (vs : List (String × View)) (p : Pass1) (hb hp2 : Heap) (ld : Loaded) : Prop where
  lookup : ∀ q ∈ L, lookupFs p.fss q.1 = .ok (na q.1)
  rel2 : HeapRel H L na (E2c K ts cass H na (iaOf hp2 na) ci') hp2
  colls2 : CollsAt K ts H L na (iaOf hp2 na) hp2
  typed2 : CollsNew K ts H L (iaOf hp2 na) hp2
  frz : Frz hp2 ld.heap
  rel : HeapRel H L na (E3c K ts H na (iaOf hp2 na) ci') ld.heap
  views : All2 (ViewRel H na) vs ld.cas.views
  content : ld.cas.views.map (viewContent ld.heap) = vs.map (viewContent H)
  next_pos : 0 < ld.cas.nextXid
  /-- the generators are reseeded above the ids of the collected structures, of whatever the reader put behind `hb`,
      and of the sofas -/
  fs_below : ∀ q ∈ L, q.1 < ld.cas.nextXid
  ids_below : ∀ (a : Nat) (o : Obj) (x : Int), hb.length ≤ a → ld.heap[a]? = some o → o.xid = some x →
    x < ld.cas.nextXid
  sofas_below : ∀ nv ∈ c.views, nv.2.sofa.xid < ld.cas.nextXid ∧ nv.2.sofa.sofaNum < ld.cas.nextSofaNum

section
variable {K : Consts} {ts : TypeSystem} {cass : List Cas} {c : Cas} {ci : Nat} {H : Heap} {L : List (Int × Nat)}
  {ci' : Nat} {na : Int → Nat} {vs : List (String × View)} {p : Pass1} {hb hp2 : Heap} {ld : Loaded}

theorem Read.colls (r : Read K ts cass c H L ci' na vs p hb hp2 ld) : CollsAt K ts H L na (iaOf hp2 na) ld.heap :=
  r.colls2.frz r.frz

theorem Read.typed (r : Read K ts cass c H L ci' na vs p hb hp2 ld) : CollsNew K ts H L (iaOf hp2 na) ld.heap :=
  r.typed2.frz r.frz

/-- every collected structure is found under its id, with its type and the deep content of every feature -/
theorem Read.found (r : Read K ts cass c H L ci' na vs p hb hp2 ld) (hL : LOkC K ts c ci H L) {q : Int × Nat}
    (hq : q ∈ L) :
    ∃ (a' : Nat) (o o' : Obj), lookupFs p.fss q.1 = .ok a' ∧ H[q.2]? = some o ∧ ld.heap[a']? = some o' ∧
      o'.ty = o.ty ∧ o'.xid = some q.1 ∧ ∀ t : TypeRec, find? ts o.ty = some t → ∀ f ∈ allFeatures t,
        featContentC K ld.heap a' f = featContentC K H q.2 f :=
  let ⟨o, o', h⟩ := CF.content_of_rel hL r.rel r.colls hq
  ⟨na q.1, o, o', r.lookup q hq, h⟩

end

/-- **the reader after the first pass.**  If the first pass (over any heap `hb`) left tables that describe the document
    written for `c`, whatever their order (`P1WP`, `Obj1`; the sofas in the order `vs0`), the second and the third pass
    succeed and leave `Read`: the views come back with the initial view first and the others in the order of their sofas -/
theorem read_of_pass1 (K : Consts) (ts : TypeSystem) (cass : List Cas) (ci : Nat) (c : Cas) (hp H hb : Heap)
    (L : List (Int × Nat)) (na : Int → Nat) (n0 tsIdx ci' : Nat) (doc : XDoc) (p : Pass1) (vs0 : List (String × View))
    (hc : cass[ci]? = some c) (hwf : RTWf c hp) (hnull : NullOk ts) (hL : LOkC K ts c ci H L)
    (hmem : ∀ nv ∈ c.views, ∀ e ∈ Index.all nv.2.idx, slot H e.oid "sofa" ≠ some .none) (hmok : MembersOk c H)
    (hp1 : pass1 K ts tsIdx false doc { heap := hb } = .ok p) (hna : NaOkP n0 L na) (hp1w : P1WP c H L na n0 p)
    (hrel1 : HeapRelP H L na (Obj1 K ts cass H p.heap) p.heap) (hvs0 : vs0.Perm c.views)
    (hsofas : p.sofas = vs0.map (fun nv => (nv.2.sofa.xid, psofaOf nv))) :
    ∃ (hp2 : Heap) (ld : Loaded) (nvI : String × View),
      postAll K ts tsIdx ci' p.sofas p.fss p.fss p.heap = .ok hp2 ∧ loadXmi K ts tsIdx ci' false hb doc = .ok ld ∧
      nvI ∈ vs0 ∧ nvI.1 = Cas.INITIAL_VIEW ∧
      Read K ts cass c H L ci' na (nvI :: vs0.filter (fun nv => nv.1 != Cas.INITIAL_VIEW)) p hb hp2 ld := by
  obtain ⟨hp2, hpa, _, hnull2, hrel2⟩ :=
    postAll_permC K ts cass ci c hp H L na n0 tsIdx ci' p hc hwf hnull hL hna hp1w hrel1
  obtain ⟨hE2, hcolls2, hty2⟩ := obj2_to_E2c hL hrel2
  obtain ⟨ld, nvI, hbuild, hrel3, hmI, hnI, hall, hviews, _, _, hfrz3⟩ :=
    Pass3.buildCas_ok (ci' := ci') ⟨hc, hwf, lokW_of_lokC hL, hna, hp1w, hmem, hmok⟩
      (RTCB.expOk_coll K ts cass H na (iaOf hp2 na) ci') hvs0 hsofas hnull2 hE2
  have hload : loadXmi K ts tsIdx ci' false hb doc = .ok ld := by
    unfold loadXmi
    simp only [hp1, hpa, bind, Except.bind]
    exact hbuild
  obtain ⟨p', hp1', hbnd, hnx, hns, hfssb, hnew, _⟩ := loadXmi_reseeds K ts tsIdx ci' false hb _ ld hload
  rw [hp1] at hp1'; cases hp1'
  refine ⟨hp2, ld, nvI, hpa, hload, hmI, hnI, fun q hq => hp1w.lookup (lokW_of_lokC hL).idsOk hq, hE2, hcolls2, hty2, hfrz3, hrel3,
    hall, hviews, loadXmi_nextXid_pos hload, fun q hq => ?_, hnew, fun nv hnv => ?_⟩
  · obtain ⟨_, _, _, hlt⟩ := hfssb _ (hp1w.mem_fss hq)
    exact hlt
  · have := hbnd.1 _ (hp1w.mem_sofas hnv)
    simp only [psofaOf] at this
    rw [hnx, hns]
    omega

theorem items_of_save {K : Consts} {ts : TypeSystem} {cass : List Cas} {ci : Nat} {c : Cas} {hp : Heap} {doc : XDoc}
    {st : St} (tsIdx : Nat) (hc : cass[ci]? = some c) (hwf : RTWf c hp) (hnull : NullOk ts)
    (hsave : saveXmi K ts cass ci hp = .ok (doc, st))
    (hcoll : ∀ q ∈ st.allFs, CollFs K ts c ci st.heap q.2) :
    LOkC K ts c ci st.heap (sortById st.allFs) ∧
    ∃ its : List ItemC, doc = its.map (ItemC.elem st.heap) ∧
      its.filterMap ItemC.sofaV = c.views ∧
      ItemsOkC K ts cass c st.heap (sortById st.allFs) tsIdx its := by
  have hL := lokC_of_save hc hwf hsave hcoll
  exact ⟨hL, items_of_docC K ts cass ci c hp tsIdx doc st hc hsave hnull hL (coll_elem1 K ts cass ci c st.heap tsIdx hc)⟩

/-- any list of items that stands for (a permutation of) the document written for `c` from `H`, read over ANY heap `hb`:
    none of the layers looks at the heap the reader starts from, they speak through the id-keyed map `na` -/
theorem load_perm_base (K : Consts) (ts : TypeSystem) (cass : List Cas) (ci : Nat) (c : Cas) (hp H hb : Heap)
    (L : List (Int × Nat)) (tsIdx ci' : Nat) (its : List ItemC)
    (hc : cass[ci]? = some c) (hwf : RTWf c hp) (hnull : NullOk ts) (hL : LOkC K ts c ci H L)
    (hits : ItemsOkC K ts cass c H L tsIdx its)
    (hmem : ∀ nv ∈ c.views, ∀ e ∈ Index.all nv.2.idx, slot H e.oid "sofa" ≠ some .none)
    (hmok : MembersOk c H) :
    ∃ (na : Int → Nat) (p : Pass1) (hp2 : Heap) (ld : Loaded) (nvI : String × View),
      pass1 K ts tsIdx false (its.map (ItemC.elem H)) { heap := hb } = .ok p ∧
      loadXmi K ts tsIdx ci' false hb (its.map (ItemC.elem H)) = .ok ld ∧
      (p.fss.map (·.1)).Perm (0 :: L.map (·.1)) ∧
      nvI ∈ its.filterMap ItemC.sofaV ∧ nvI.1 = Cas.INITIAL_VIEW ∧
      Read K ts cass c H L ci' na (nvI :: (its.filterMap ItemC.sofaV).filter (fun nv => nv.1 != Cas.INITIAL_VIEW)) p hb
        hp2 ld := by
  obtain ⟨na, n0, p, hp1, hsofas, hna, hp1w, hrel1⟩ :=
    pass1_of_itemsC K ts cass c H hb L tsIdx its hwf.sofa_ids_nodup (lokW_of_lokC hL).idsOk hits
  obtain ⟨hp2, ld, nvI, _, hload, hmI, hnI, r⟩ := read_of_pass1 K ts cass ci c hp H hb L na n0 tsIdx ci' _ p _ hc hwf
    hnull hL hmem hmok hp1 hna hp1w hrel1 hits.sofas hsofas
  refine ⟨na, p, hp2, ld, nvI, hp1, hload, ?_, hmI, hnI, r⟩
  have := hp1w.fss.map (·.1)
  rwa [List.map_cons, List.map_map] at this

end Cassis.Xmi.LPC

namespace Cassis.Xmi
open Cassis.TS Cassis.Traverse

/-- the reader over the written document, given what the traversal guarantees about the collected structures (`hL`):
    exact tables, new addresses behind the old heap, the views in their order.  `hp0` is any heap on which the CAS is
    well formed. -/
theorem xmi_passes_coll (K : Consts) (ts : TypeSystem) (cass : List Cas) (ci : Nat) (c : Cas) (hp0 hp : Heap)
    (tsIdx ci' : Nat) (doc : XDoc) (st : St)
    (hc : cass[ci]? = some c) (hwf : RTWf c hp0) (hnull : NullOk ts)
    (hsave : saveXmi K ts cass ci hp = .ok (doc, st))
    (hL : LOkC K ts c ci st.heap (sortById st.allFs))
    (hmem : ∀ nv ∈ c.views, ∀ e ∈ Index.all nv.2.idx, Xmi.slot st.heap e.oid "sofa" ≠ some .none)
    (hmok : MembersOk c st.heap) :
    ∃ (na : Int → Nat) (p : Pass1) (hp2 : Heap) (ld : Xmi.Loaded),
      pass1 K ts tsIdx false doc { heap := st.heap } = .ok p ∧
      postAll K ts tsIdx ci' p.sofas p.fss p.fss p.heap = .ok hp2 ∧
      loadXmi K ts tsIdx ci' false st.heap doc = .ok ld ∧
      NaOk st.heap.length (sortById st.allFs) na ∧ P1W c st.heap (sortById st.allFs) na p ∧
      HeapRelP st.heap (sortById st.allFs) na (Obj1 K ts cass st.heap p.heap) p.heap ∧
      LPC.Read K ts cass c st.heap (sortById st.allFs) ci' na c.views p st.heap hp2 ld := by
  obtain ⟨na, p, hp1, hna, hp1w, hrel1⟩ :=
    pass1_coll_written K ts cass ci c hp tsIdx doc st hc hwf.sofa_ids_nodup hsave hnull hL
      (coll_elem1 K ts cass ci c st.heap tsIdx hc)
  obtain ⟨hp2, ld, nvI, hpa, hload, hmI, hnI, r⟩ := LPC.read_of_pass1 K ts cass ci c hp0 st.heap st.heap _ na _ tsIdx ci'
    doc p c.views hc hwf hnull hL hmem hmok hp1 hna.toP hp1w.toWP hrel1 (.refl _) hp1w.sofas
  rw [LPC.initial_first hwf hmI hnI] at r
  exact ⟨na, p, hp2, ld, hp1, hpa, hload, hna, hp1w, hrel1, r⟩

end Cassis.Xmi
