/-
C13 — order independence of `merge_typesystems` when a name with competing supertypes has declared subtypes: the
re-parenting of a whole subtree.

A name with competing supertypes may be the root of a declared subtree, which the merge moves as a whole (`reparent`:
`relink`, then `inheritFrom` / `pushInherited` over the subtree).  The condition is the property's own:

  `StableCompete`: every competing supertype of a name, and every *declared ancestor* of it (`DeclAnc`: follow declared
  supertypes upwards, through any declaration of a name), is declared with one supertype throughout.

It is implied by `LeafCompete` (`leafCompete_stableCompete`), so `merge_perm_subtree_compete` subsumes
`merge_perm_leaf_compete` (`Properties/C13Perm.lean`); it excludes finding M6 (`demoM6_not_stable`,
`demoM6_order_dependent`: there the declared ancestor `x.C` of the competing supertype `x.B` of `x.A` is itself declared
below `uima.cas.TOP` and below `uima.tcas.Annotation`).  What it excludes beyond M6-like inputs: some inputs with a
competing ancestor that happen to be order independent (e.g. when one of the competing supertypes is `uima.cas.TOP`);
among the closed acyclic declaration sets of four declarations over three names that violate `StableCompete`, 6 of 12
are order dependent.

The proof rests on `featInv_reparent` (`Proofs/MergeFeatInv.lean`): the feature invariant holds again after a whole
subtree has been moved.
-/
import CassisModel.Properties.C13Perm
import CassisModel.Properties.C13FeatInv
import CassisModel.Proofs.MergePermMain
import CassisModel.Proofs.MergePermSubtreeDemo

namespace Cassis.TS

/-- **Order independence with subtree re-parenting.**  For closed, acyclic declaration lists of user types in which
    every competing supertype and each of its declared ancestors is declared with one supertype throughout
    (`StableCompete`; the names with competing supertypes themselves may have declared subtypes), no competing supertype
    is inheritance final (`CompeteNonFinal`, see `merge_perm_leaf_compete`) and the document annotation type is declared
    where a fresh type system has it (`BaseAgree`): any two orders of the declarations either both fail or both succeed,
    and then yield the same types with the same supertypes, children and effective features (`SameHier`). -/
theorem merge_perm_subtree_compete (decls decls' : List Decl) (hp : decls.Perm decls')
    (hc : ClosedDecls Gen.consts decls) (hu : UserDecls Gen.consts decls) (hb : BaseAgree decls)
    (hs : StableCompete decls) (hnf : CompeteNonFinal Gen.consts decls) :
    match mergeDecls Gen.consts Gen.builtinTS decls, mergeDecls Gen.consts Gen.builtinTS decls' with
    | .ok ts, .ok ts' => SameHier ts ts'
    | .error _, .error _ => True
    | _, _ => False :=
  merge_perm_movable decls decls' hp hc hu (stable_of_stableCompete hu hb hs) hnf

/-- … in terms of `merge_typesystems(*inputs)`: permuting the inputs permutes the declarations -/
theorem merge_perm_subtree_compete_inputs (inputs inputs' : List TypeSystem) (hp : inputs.Perm inputs')
    (hc : ClosedDecls Gen.consts (inputs.flatMap (declsOf Gen.consts)))
    (hu : UserDecls Gen.consts (inputs.flatMap (declsOf Gen.consts)))
    (hb : BaseAgree (inputs.flatMap (declsOf Gen.consts)))
    (hs : StableCompete (inputs.flatMap (declsOf Gen.consts)))
    (hnf : CompeteNonFinal Gen.consts (inputs.flatMap (declsOf Gen.consts))) :
    match merge Gen.consts Gen.builtinTS inputs, merge Gen.consts Gen.builtinTS inputs' with
    | .ok ts, .ok ts' => SameHier ts ts'
    | .error _, .error _ => True
    | _, _ => False :=
  merge_perm_subtree_compete _ _ (hp.flatMap_right _) hc hu hb hs hnf

/-- the leaf condition of `merge_perm_leaf_compete` is a special case -/
theorem leafCompete_stableCompete {decls : List Decl} (h : LeafCompete decls) : StableCompete decls :=
  stableCompete_of_leaf h

/-! Non-vacuity: on `demoSub` (`x.X`, with children `x.Y`, `x.Z` and grandchild `x.W`, declared below
`uima.tcas.Annotation` and below `x.M2`; not covered by `merge_perm_leaf_compete`: `demoSub_not_leaf`) the hypotheses
hold (kernel-evaluated Boolean test, proved sound) and both orders succeed, so the theorem yields `SameHier`;
`demoSubClash` satisfies the hypotheses and fails in both orders. -/

theorem demoSub_hypotheses : ClosedDecls Gen.consts demoSub ∧ UserDecls Gen.consts demoSub ∧ BaseAgree demoSub ∧
    StableCompete demoSub ∧ CompeteNonFinal Gen.consts demoSub ∧ ¬ LeafCompete demoSub :=
  have h := subHypsB_sound _ _ _ _ demoSub_hyps
  ⟨h.1, h.2.1, h.2.2.1, h.2.2.2.1, h.2.2.2.2, demoSub_not_leaf⟩

theorem demoSub_order_independent : ∃ ts ts', mergeDecls Gen.consts Gen.builtinTS demoSub = .ok ts ∧
    mergeDecls Gen.consts Gen.builtinTS demoSub.reverse = .ok ts' ∧ SameHier ts ts' := by
  obtain ⟨hc, hu, hb, hst, hnf⟩ := subHypsB_sound _ _ _ _ demoSub_hyps
  obtain ⟨ts, h, _⟩ := demoSub_featInv
  obtain ⟨ts', h'⟩ := ok_of_isSome demoSub_reverse_ok
  exact ⟨ts, ts', h, h', merge_perm_movable_ok _ _ (List.reverse_perm demoSub).symm hc hu
    (stable_of_stableCompete hu hb hst) hnf h h'⟩

theorem demoSubClash_hypotheses : ClosedDecls Gen.consts demoSubClash ∧ UserDecls Gen.consts demoSubClash ∧
    BaseAgree demoSubClash ∧ StableCompete demoSubClash ∧ CompeteNonFinal Gen.consts demoSubClash :=
  subHypsB_sound _ _ _ _ demoSubClash_hyps

end Cassis.TS

#print axioms Cassis.TS.merge_perm_subtree_compete
#print axioms Cassis.TS.merge_perm_subtree_compete_inputs
#print axioms Cassis.TS.leafCompete_stableCompete
#print axioms Cassis.TS.demoSub_order_independent
#print axioms Cassis.TS.demoM6_not_stable
#print axioms Cassis.TS.demoM6_order_dependent
