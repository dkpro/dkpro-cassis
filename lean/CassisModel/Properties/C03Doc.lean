/-
C03, document level — offsets are code points in memory and UTF-16 code units in an XMI document.

The writer (`Xmi.renderFeature`) maps `begin`/`end` of an annotation through `pythonToExternal` of its sofa's
converter; the reader builds a converter from the `sofaString` attribute of the document (`Xmi.convOfText`) and
maps the offsets back (`Xmi.convertOffsets`).  Proved: for every text of Unicode scalar values and every offset
inside it the two conversions cancel, the written offset is the UTF-16 length of the prefix, and the reader's
converter is the converter the sofa setter builds for that text.
-/
import CassisModel.Proofs.XmiOffsets
import CassisModel.Properties.C03

namespace Cassis.Xmi
open Cassis.Offsets

/-- the reader's converter for a non-empty document text is the table the sofa setter builds for the text -/
theorem convOfText_docText (t : List Nat) (hs : ∀ c ∈ t, IsScalar c) (hne : t ≠ []) :
    convOfText (some (docText t)) = createMapping none (some t) := by
  unfold convOfText
  dsimp only
  rw [docText_isEmpty t hne, docText_toList t hs]
  rfl

/-- the offset written for a code-point offset `i` is the number of UTF-16 code units before it -/
theorem written_offset_is_utf16 (t : List Nat) (i : Nat) (hi : i ≤ t.length) :
    pythonToExternal (createMapping none (some t)) i = (utf16Encode (t.take i)).length := by
  show p2e t i = _
  exact p2e_eq_utf16_len t i hi

/-- **offset round trip through a document**: reader ∘ writer = identity on every offset inside the text
    (the empty text included: there the reader installs no converter, the writer's table is that of the empty text,
    and the only offset is 0) -/
theorem xmi_offset_roundtrip (t : List Nat) (hs : ∀ c ∈ t, IsScalar c) (i : Nat) (hi : i ≤ t.length) :
    externalToPython (convOfText (some (docText t))) (pythonToExternal (createMapping none (some t)) i) = i := by
  by_cases hne : t = []
  · subst hne
    have : i = 0 := by simpa using hi
    subst this
    rfl
  · rw [convOfText_docText t hs hne]
    show e2p t (p2e t i) = i
    exact e2p_p2e t i hi

/-- on heap objects: converting the `begin`/`end` slots of an object whose slots hold the written
    (external) offsets restores the internal ones -/
theorem convertOffsets_restores (t : List Nat) (hs : ∀ c ∈ t, IsScalar c) (hp : Heap) (a : Nat) (o : Obj)
    (b e : Nat) (hb : b ≤ t.length) (he : e ≤ t.length) (ha : hp[a]? = some o)
    (hsb : alistGet? o.slots "begin" = some (.int (pythonToExternal (createMapping none (some t)) b : Nat)))
    (hse : alistGet? o.slots "end" = some (.int (pythonToExternal (createMapping none (some t)) e : Nat))) :
    ∃ hp' : Heap, convertOffsets (convOfText (some (docText t))) hp a = .ok hp' ∧
      Traverse.slot hp' a "begin" = some (.int b) ∧ Traverse.slot hp' a "end" = some (.int e) := by
  obtain ⟨hp', h1, h2, h3⟩ := convertOffsets_nat (convOfText (some (docText t))) hp a o _ _ ha hsb hse
  rw [xmi_offset_roundtrip t hs b hb] at h2
  rw [xmi_offset_roundtrip t hs e he] at h3
  exact ⟨hp', h1, h2, h3⟩

example : docText [97, 0x1F600, 98] = "a😀b" := by decide

end Cassis.Xmi
