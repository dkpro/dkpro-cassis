/-
C03 — Offsets: code points in memory, UTF-16 code units in every document.

Theorems about `Model/Offsets.lean` (the converter `Utf16CodepointOffsetConverter` and the sofa-string
setter).  The independent specification is the real UTF-16 encoder `utf16Encode` with surrogate arithmetic.
-/
import CassisModel.Proofs.Offsets

namespace Cassis.Offsets

/-- internal → external is the UTF-16 length of the prefix -/
theorem p2e_eq_utf16_len (cps : List Nat) (i : Nat) (h : i ≤ cps.length) :
    p2e cps i = (utf16Encode (cps.take i)).length := by
  rw [p2e_eq_sum cps i h, utf16Encode_length, List.map_take]

/-- strictly monotone on valid offsets -/
theorem p2e_strictMono (cps : List Nat) (i j : Nat) (hij : i < j) (hj : j ≤ cps.length) :
    p2e cps i < p2e cps j := by
  rw [p2e_eq_sum cps i (by omega), p2e_eq_sum cps j hj]
  exact take_sum_lt (cps.map width) width_pos_of_mem i j hij (by simpa using hj)

/-- identity on BMP-only text -/
theorem p2e_id_of_bmp (cps : List Nat) (hb : ∀ c ∈ cps, c < 0x10000) (i : Nat) (h : i ≤ cps.length) :
    p2e cps i = i := by
  rw [p2e_eq_sum cps i h]
  exact take_sum_bmp cps hb i h

/-- an internal offset beyond the text is passed through unchanged (the `KeyError` branch) -/
theorem p2e_passthrough (cps : List Nat) (i : Nat) (h : cps.length < i) : p2e cps i = i := by
  unfold p2e p2eTab
  have : (table cps)[i]? = none := by
    apply List.getElem?_eq_none
    rw [table_length]; omega
  simp [this]

/-- the two directions are mutually inverse on valid offsets (1) -/
theorem e2p_p2e (cps : List Nat) (i : Nat) (h : i ≤ cps.length) : e2p cps (p2e cps i) = i := by
  have hg := table_get cps i h
  rw [p2e_of_get cps i _ hg]
  exact e2p_of_get cps i _ hg

/-- the two directions are mutually inverse on valid offsets (2): `j` on a code-point boundary -/
theorem p2e_e2p (cps : List Nat) (j : Nat) (h : j ∈ boundaries cps) : p2e cps (e2p cps j) = j := by
  obtain ⟨i, hi⟩ := List.getElem?_of_mem h
  have hi' : (table cps)[i]? = some j := hi
  rw [e2p_of_get cps i j hi']
  exact p2e_of_get cps i j hi'

/-- an external offset that is not on a code-point boundary is passed through unchanged -/
theorem e2p_passthrough (cps : List Nat) (j : Nat) (h : j ∉ boundaries cps) : e2p cps j = j := by
  have h' : j ∉ table cps := h
  simp [e2p, e2pTab, lookupLast_not_mem (table cps) j h']

/-- the boundaries are exactly the UTF-16 lengths of the prefixes -/
theorem mem_boundaries (cps : List Nat) (j : Nat) :
    j ∈ boundaries cps ↔ ∃ i, i ≤ cps.length ∧ j = (utf16Encode (cps.take i)).length := by
  constructor
  · intro h
    obtain ⟨i, hi⟩ := List.getElem?_of_mem h
    have hi' : (table cps)[i]? = some j := hi
    have hlt : i < (table cps).length := by
      apply Nat.lt_of_not_le
      intro hn
      have : (table cps)[i]? = none := List.getElem?_eq_none hn
      rw [this] at hi'
      cases hi'
    rw [table_length] at hlt
    have hle : i ≤ cps.length := by omega
    refine ⟨i, hle, ?_⟩
    rw [← p2e_eq_utf16_len cps i hle]
    exact (p2e_of_get cps i j hi').symm
  · rintro ⟨i, hle, rfl⟩
    have hg := table_get cps i hle
    rw [utf16Encode_length, List.map_take]
    exact List.mem_of_getElem? hg

/-- `get_covered_text` commutes with the conversion: slicing the UTF-16 text at the external offsets and
    decoding gives the code-point slice at the internal offsets -/
theorem covered_text_roundtrip (cps : List Nat) (hs : ∀ c ∈ cps, IsScalar c) (b e : Nat)
    (hbe : b ≤ e) (he : e ≤ cps.length) :
    utf16Decode (slice (utf16Encode cps) (p2e cps b) (p2e cps e)) = slice cps b e := by
  have hb : b ≤ cps.length := by omega
  have henc : slice (utf16Encode cps) (p2e cps b) (p2e cps e) = utf16Encode (slice cps b e) := by
    rw [p2e_eq_utf16_len cps b hb, p2e_eq_utf16_len cps e he]
    have hsplit : utf16Encode cps =
        utf16Encode (cps.take b) ++ utf16Encode (slice cps b e) ++ utf16Encode (cps.drop e) := by
      rw [← utf16Encode_append, ← utf16Encode_append, ← split3 cps b e hbe]
    have hlen : (utf16Encode (cps.take e)).length =
        (utf16Encode (cps.take b) ++ utf16Encode (slice cps b e)).length := by
      rw [← utf16Encode_append, ← take_eq_take_append_slice cps b e hbe]
    rw [hlen, hsplit]
    exact slice_append3 _ _ _
  rw [henc]
  exact utf16Decode_encode _ (fun c hc => hs c (mem_slice hc))

/-- history form of "the setter recomputes the mapping": after any sequence of assignments, if the
    current text is not `None` the converter is the mapping of the *current* text -/
theorem setText_remaps (vs : List (Option (List Nat))) (t : List Nat)
    (h : (vs.foldl SofaText.set SofaText.init).text = some t) :
    (vs.foldl SofaText.set SofaText.init).conv = some (table t) :=
  foldl_set_invariant vs SofaText.init (by intro t ht; simp [SofaText.init] at ht) t h

/-- converter-level corollary: with a non-`None` current text, conversion is `p2e`/`e2p` of that text -/
theorem converter_tracks_text (vs : List (Option (List Nat))) (t : List Nat)
    (h : (vs.foldl SofaText.set SofaText.init).text = some t) (i : Nat) :
    pythonToExternal (vs.foldl SofaText.set SofaText.init).conv i = p2e t i ∧
    externalToPython (vs.foldl SofaText.set SofaText.init).conv i = e2p t i := by
  rw [setText_remaps vs t h]
  exact ⟨rfl, rfl⟩

/-! Non-vacuity: concrete instances (tests, not the unbounded claim). 0x1F600 = 😀 -/
example : p2e [0x61, 0x1F600, 0x62] 2 = 3 := by decide
example : e2p [0x61, 0x1F600, 0x62] 3 = 2 := by decide
example : e2p [0x61, 0x1F600, 0x62] 2 = 2 := by decide   -- inside the surrogate pair: passed through
example : (2 : Nat) ∉ boundaries [0x61, 0x1F600, 0x62] := by decide
example : ∀ c ∈ [0x61, 0x1F600, 0x62], IsScalar c := by decide
example : utf16Decode (slice (utf16Encode [0x61, 0x1F600, 0x62]) 1 3) = [0x1F600] := by decide

end Cassis.Offsets
