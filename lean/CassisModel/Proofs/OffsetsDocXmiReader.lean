/-
C03, document level, the XMI reader.  What holds of a fresh sofa and is kept by the reader's sofa updates holds of every
sofa of the loaded CAS (`loadXmi_allSofas`); with `convOfText_ok` it satisfies `ConvOk` (the converter of every sofa with
text is the table of that text, or the text is empty and there is no converter: `loadXmi_convOk`,
`Properties/C03DocWrite.lean`).  The third pass (`buildCas`: the views with their members, `rehome`, the annotations that
are only referenced) is the only place where offsets are converted, and it converts annotations only: a structure whose
type is not a subtype of `uima.tcas.Annotation` keeps every slot but `sofa` (`buildCas_plain`).
-/
import CassisModel.Proofs.OffsetsDocHistory
import CassisModel.Proofs.XmiReader

namespace Cassis.Xmi
open Cassis.TS Cassis.OffsetsDoc

theorem convOfText_ok (so : Sofa) (text : Option String) (m : Option String) :
    SofaConvOk { so with text := text.map (fun t => t.toList.map Char.toNat), conv := convOfText text, mime := m } := by
  intro t ht
  dsimp only at ht ⊢
  cases text with
  | none => cases ht
  | some str =>
    simp only [Option.map_some, Option.some.injEq] at ht
    subst ht
    unfold convOfText
    dsimp only
    by_cases he : str.isEmpty = true
    · rw [if_pos he]
      right
      refine ⟨?_, rfl⟩
      rw [String.isEmpty_iff] at he
      rw [he]
      rfl
    · rw [if_neg he]
      left
      rfl

theorem loadXmi_allSofas {P : Sofa → Prop} (hf : Fresh P)
    (hid : ∀ (s : Sofa) (x n : Int), P s → P { s with xid := x, sofaNum := n })
    (hdata : ∀ (s : Sofa) (t : Option String) (m : Option String), P s →
      P { s with text := t.map (fun t => t.toList.map Char.toNat), conv := convOfText t, mime := m })
    {K : Consts} {ts : TypeSystem} {tsIdx ci : Nat} {lenient : Bool} {hp : Heap} {doc : XDoc} {ld : Loaded}
    (h : loadXmi K ts tsIdx ci lenient hp doc = .ok ld) : AllSofas P ld.cas := by
  obtain ⟨p, hp2, _, _, h⟩ := loadXmi_ok h
  obtain ⟨b, _, hbv, _, _, hcas⟩ := buildCas_ok h
  rw [hcas]
  refine AllSofas.of_views (c := b.cas) ?_ rfl
  refine buildViews_inv (fun _ x => AllSofas P x.cas) (fun _ _ _ _ _ =>
    buildView_inv (fun x => AllSofas P x.cas) (fun s b c2 hv hJ => ?_) (fun _ _ _ _ _ h1 hJ => by
      obtain ⟨_, _, _, _, _, _, hadd⟩ := addMember1_ok h1
      exact hJ.add hadd)) hbv (allSofas_empty hf)
  obtain ⟨c1, h1, h2⟩ := viewCas_ok hv
  refine AllSofas.updSofa ?_ (fun so hso => hdata so s.text s.mime hso) h2
  rcases h1 with ⟨_, h1⟩ | ⟨_, rfl⟩
  · exact hJ.updSofa (fun so hso => hid so s.xid s.num hso) h1
  · exact hJ.addView hf _ _ _

theorem buildCas_plain {K : Consts} {ts : TypeSystem} {ci : Nat} {lenient : Bool} {p : Pass1} {hp : Heap}
    {ld : Loaded} (h : buildCas K ts ci lenient p hp = .ok ld) : PlainKeep ts hp ld.heap := by
  obtain ⟨b, hpR, hbv, hre, hcr, _⟩ := buildCas_ok h
  have k1 : PlainKeep ts hp b.heap :=
    buildViews_inv (fun _ x => PlainKeep ts hp x.heap) (fun _ _ _ _ _ h1 hJ => hJ.trans (buildView_plain h1)) hbv
      (PlainKeep.refl _ _)
  have k2 : PlainKeep ts hp hpR :=
    rehome_inv (PlainKeep ts hp) (fun _ _ _ _ hs hJ => hJ.trans (plainKeep_setSlot hs (Or.inl rfl))) _ _ _ _ hre k1
  exact convertReferenced_inv (PlainKeep ts hp) (fun _ _ _ _ _ ho hann hc hJ => hJ.trans (plainKeep_convert ho hann hc))
    _ _ _ _ _ hcr k2

end Cassis.Xmi
