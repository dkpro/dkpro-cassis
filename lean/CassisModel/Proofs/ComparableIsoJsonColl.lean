/-
C20 across the JSON round trip, whole format: what is known about the heap loaded from the JSON document (`JW`: the
structures the writer collected, and the reader's heap relation), the successor computation on a collected structure
against the same computation on its counterpart (`JW.sim_node`: an instance of `Traverse.nodeSuccs_lrel`, the loaded heap
holds a copy of every structure the JSON writer collected), and the reader part of the round trip in this form
(`json_roundtrip_coll_jw`, from `json_written_coll` and `json_read_coll`).
-/
import CassisModel.Proofs.ComparableIsoRoundTrip
import CassisModel.Proofs.ChainCollJsonCore
import CassisModel.Proofs.TraverseCopy

namespace Cassis.Comparable
open Cassis.TS Cassis.Traverse Cassis.Xmi Cassis.Json Cassis.ChainC

/-- what is known about the heap `HF` loaded from the JSON document written for the structures `L` of the heap `H` -/
structure JW (K : Consts) (ts : TypeSystem) (c : Cas) (ci : Nat) (H : Heap) (L : List (Int × Nat)) (ci' : Nat)
    (HF : Heap) : Prop where
  lok : LOkJ K ts c ci H L
  rel : HeapRel H L (naOf H L) (E3J H (naOf H L) ci') HF

section
variable {K : Consts} {ts : TypeSystem} {c : Cas} {ci : Nat} {H : Heap} {L : List (Int × Nat)} {ci' : Nat} {HF : Heap}

theorem inL_pair {b : Nat} (h : InL H L b) : ∃ q ∈ L, q.2 = b ∧ xidOf H b = some q.1 := by
  obtain ⟨y, hy, hyl⟩ := h
  exact ⟨(y, b), hyl, rfl, hy⟩

theorem JW.ids (x : JW K ts c ci H L ci' HF) : ∀ q ∈ L, xidOf H q.2 = some q.1 := fun q hq => (x.lok.ids q hq).1

theorem JW.inL (x : JW K ts c ci H L ci' HF) {q : Int × Nat} (hq : q ∈ L) : InL H L q.2 := ⟨q.1, x.ids q hq, hq⟩

theorem JW.phi (x : JW K ts c ci H L ci' HF) {q : Int × Nat} (hq : q ∈ L) :
    phiOf H (naOf H L) q.2 = naOf H L q.1 := phiOf_of_xid (x.ids q hq)

theorem JW.na_inj (x : JW K ts c ci H L ci' HF) {q q' : Int × Nat} (hq : q ∈ L) (hq' : q' ∈ L)
    (e : naOf H L q.1 = naOf H L q'.1) : q = q' :=
  Det.inj_of_nodup_map (·.1) L x.lok.nodup hq hq' (x.rel.na_inj hq hq' e)

theorem JW.addr_inj (x : JW K ts c ci H L ci' HF) {q q' : Int × Nat} (hq : q ∈ L) (hq' : q' ∈ L) (e : q.2 = q'.2) :
    q = q' := by
  have h := x.ids q hq
  rw [e, x.ids q' hq'] at h
  exact Det.inj_of_nodup_map (·.1) L x.lok.nodup hq hq' (Option.some.inj h).symm

theorem JW.obj (x : JW K ts c ci H L ci' HF) {q : Int × Nat} (hq : q ∈ L) :
    ∃ o o', H[q.2]? = some o ∧ HF[naOf H L q.1]? = some o' ∧ o'.ty = o.ty ∧ o'.xid = some q.1 := by
  obtain ⟨o, o', ho, ho', h1, h2, _, _⟩ := x.rel q hq
  exact ⟨o, o', ho, ho', h1, h2⟩

/-- **the successor computation on a collected structure and on its counterpart**: all successors are structures of
    `L`, and the computation on the counterpart succeeds, whatever the (larger) list budget, with the counterparts of the
    successors -/
theorem JW.sim_node (x : JW K ts c ci H L ci' HF) {o : Traverse.Opts} {q : Int × Nat} (hq : q ∈ L) {t : TypeRec}
    {lf lf' : Nat} (hle : lf ≤ lf') {ps : List Nat} {n : Nat}
    (h : nodeSuccs K ts o H [] lf q.2 t = .ok (ps, n)) :
    ∃ ps', nodeSuccs K ts o HF [] lf' (naOf H L q.1) t = .ok (ps', n) ∧
      (∀ b ∈ ps, ∃ q' ∈ L, q'.2 = b ∧ naOf H L q'.1 ∈ ps') ∧ ∀ b' ∈ ps', ∃ q' ∈ L, q'.2 ∈ ps ∧ b' = naOf H L q'.1 := by
  obtain ⟨ps', h', hl⟩ := nodeSuccs_lrel (hsim_of_relJ x.lok.closed x.lok.closedE x.rel) ⟨q, hq, rfl, rfl⟩ hle h
  obtain ⟨hfwd, hbwd⟩ := hl.prel
  refine ⟨ps', h', fun b hb => ?_, fun b' hb' => ?_⟩
  · obtain ⟨_, hb', q', hq', e, rfl⟩ := hfwd b hb
    exact ⟨q', hq', e, hb'⟩
  · obtain ⟨_, hb, q', hq', rfl, e⟩ := hbwd b' hb'
    exact ⟨q', hq', hb, e⟩

theorem JW.succsOf_new (x : JW K ts c ci H L ci' HF) {q : Int × Nat} (hq : q ∈ L) {o : Obj} (ho : H[q.2]? = some o)
    {t : TypeRec} (ht : getType ts o.ty = .ok t) {lf lf' : Nat} (hle : lf ≤ lf') {ps : List Nat} {n : Nat}
    (h : nodeSuccs K ts {} H [] lf q.2 t = .ok (ps, n)) :
    succsOf K ts {} H lf q.2 = ps ∧ succsOf K ts {} HF lf' (naOf H L q.1) = ps.map (phiOf H (naOf H L)) := by
  obtain ⟨o1, o', ho1, ho', hty, _⟩ := x.obj hq
  rw [ho] at ho1; cases ho1
  obtain ⟨ps', h', hl⟩ := nodeSuccs_lrel (hsim_of_relJ x.lok.closed x.lok.closedE x.rel) ⟨q, hq, rfl, rfl⟩ hle h
  rw [hl.map_of_graph (φ := phiOf H (naOf H L)) fun _ _ ⟨q', hq', e, e'⟩ => by rw [e', ← e, x.phi hq']] at h'
  exact ⟨succsOf_eq K ts {} ho ht h, succsOf_eq K ts {} ho' (by rw [hty]; exact ht) h'⟩

end

theorem json_roundtrip_coll_jw (K : Consts) (ts : TypeSystem) (cass : List Cas) (ci : Nat) (c : Cas) (hp : Heap)
    (tsIdx : Nat) (doc : JDoc) (st : St)
    (hc : cass[ci]? = some c) (hwf : RTWf c hp)
    (hsave : saveJson K ts cass ci hp .none = .ok (doc, st))
    (hcoll : ∀ q ∈ st.allFs, JCollFs K ts c ci st.heap q.2)
    (hids : ∀ nv ∈ c.views, ∀ e ∈ Index.all nv.2.idx, (xidOf hp e.oid).isSome = true)
    (hdis : ∀ q ∈ st.allFs, ∀ nv ∈ c.views, q.1 ≠ nv.2.sofa.xid)
    (hmem : ∀ nv ∈ c.views, ∀ e ∈ Index.all nv.2.idx, Xmi.slot st.heap e.oid "sofa" ≠ some .none)
    (hmok : MembersOk c st.heap) :
    ∃ (ld : Json.Loaded),
      loadJson K ts tsIdx cass.length false false st.heap doc = .ok ld ∧ 0 < ld.cas.nextXid ∧
      JW K ts c ci st.heap (sortById st.allFs) cass.length ld.heap ∧ SameShape hp st.heap ∧
      ViewsRelJ st.heap (naOf st.heap (sortById st.allFs)) c.views ld.cas.views := by
  obtain ⟨g, hdfss, hdviews⟩ := json_written_coll hc hwf hsave hcoll hids hdis
  obtain ⟨ld, m, hload, _, hrel, hvrel, _, hnx, hm0, _⟩ :=
    json_read_coll g st.heap tsIdx cass.length doc hdfss hdviews hmem hmok
  have hfa := (saveJson_parts hc (fun nv hnv => (hwf.text_sofa nv hnv).1) hsave).1
  exact ⟨ld, hload, by omega, ⟨g.lok, hrel⟩, (findAllFs_inv K ts _ hp c.nextXid _ st hfa).1.shape, hvrel⟩

end Cassis.Comparable
