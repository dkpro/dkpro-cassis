/-
JSON round trip with collections: given the heap relation after loading, the deep content (`featContentC`) of every feature
of every collected structure is the same in the written heap `H` and in the loaded heap `HF` (`content_collJ`).  Namespace
`CC` (of `Cassis.Json`): content with collections.
-/
import CassisModel.Proofs.RoundTripJsonCollDefs

namespace Cassis.Json
open Cassis.TS Cassis.Traverse Cassis.Xmi

namespace CC

/-- the references inside `v` (the value itself, or the elements of a raw list) are collected -/
def RefsIn (H : Heap) (L : List (Int × Nat)) (v : Val) : Prop :=
  (∀ b, v = .ref b → ∃ x : Int, xidOf H b = some x ∧ (x, b) ∈ L) ∧
  (∀ l, v = .refs l → ∀ b, some b ∈ l → ∃ x : Int, xidOf H b = some x ∧ (x, b) ∈ L)

theorem refsIn_none (H : Heap) (L : List (Int × Nat)) : RefsIn H L .none :=
  ⟨fun _ h => (by cases h), fun _ h => (by cases h)⟩

theorem exp3J_none (H : Heap) (na : Int → Nat) (ci' : Nat) : exp3J H na ci' .none = .none := rfl

theorem exp3J_not_ref (H : Heap) (na : Int → Nat) (ci' : Nat) (v : Val) (h : ∀ b, v ≠ .ref b) :
    ∀ b, exp3J H na ci' v ≠ .ref b := by
  intro b
  cases v with
  | ref a => exact absurd rfl (h a)
  | ints l | bools l | floats l | strs l => simp only [exp3J, elemsExpJ]; split <;> intro e <;> cases e
  | _ => intro e; cases e

section
variable {H : Heap} {L : List (Int × Nat)} {na : Int → Nat} {ci' : Nat} {HF : Heap}

theorem slot_new (hrel : HeapRel H L na (E3J H na ci') HF) {q : Int × Nat} (hq : q ∈ L) (n : String) :
    Xmi.slot HF (na q.1) n = (Xmi.slot H q.2 n).map (exp3J H na ci') := by
  obtain ⟨o, _, ho, _⟩ := hrel q hq
  rw [show Xmi.slot HF (na q.1) n = _ from hrel.slot hq ho n]
  rw [Xmi.slot_of ho]
  rfl

theorem slot_new_getD (hrel : HeapRel H L na (E3J H na ci') HF) {q : Int × Nat} (hq : q ∈ L) (n : String) :
    (Xmi.slot HF (na q.1) n).getD .none = exp3J H na ci' ((Xmi.slot H q.2 n).getD .none) := by
  rw [slot_new hrel hq n]
  cases Xmi.slot H q.2 n <;> rfl

theorem exp3J_ref {b : Nat} {x : Int} (hx : xidOf H b = some x) : exp3J H na ci' (.ref b) = .ref (na x) := by
  simp only [exp3J, exp3, hx]

theorem len_lt {B : Heap} (hrel : HeapRel H L (naOf B L) (E3J H (naOf B L) ci') HF) {q : Int × Nat} (hq : q ∈ L) :
    B.length < HF.length := by
  obtain ⟨o, o', ho, ho', hr⟩ := hrel q hq
  have := (List.getElem?_eq_some_iff.mp ho').1
  unfold naOf at this
  omega

end

/-! ### the content of a value and of its image -/

section
variable {H : Heap} {L : List (Int × Nat)} {na : Int → Nat} {ci' : Nat} {HF : Heap}

theorem xid_ref (hrel : HeapRel H L na (E3J H na ci') HF) {b : Nat} {x : Int} (hx : xidOf H b = some x)
    (hm : (x, b) ∈ L) : xidOf HF (na x) = xidOf H b := by
  rw [hx]; exact hrel.xid hm

theorem elemVals_refs (hrel : HeapRel H L na (E3J H na ci') HF) :
    ∀ (l : List (Option Nat)), (∀ b, some b ∈ l → ∃ x : Int, xidOf H b = some x ∧ (x, b) ∈ L) →
      elemVals HF (.refs (l.map (fun r => r.bind (fun b => (xidOf H b).map na)))) = elemVals H (.refs l)
  | [], _ => rfl
  | r :: l, h => by
    have ih := elemVals_refs hrel l (fun b hb => h b (List.mem_cons_of_mem _ hb))
    simp only [elemVals, List.map_cons, List.map_map] at ih ⊢
    rw [ih]
    congr 1
    cases r with
    | none => rfl
    | some b =>
      obtain ⟨x, hx, hm⟩ := h b (List.mem_cons_self ..)
      simp only [Option.bind_some, hx, Option.map_some]
      rw [xid_ref hrel hx hm, hx]

theorem elemVals_exp (hrel : HeapRel H L na (E3J H na ci') HF) (v : Val) (hr : RefsIn H L v) :
    elemVals HF (exp3J H na ci' v) = elemVals H v := by
  cases v with
  | refs l => exact elemVals_refs hrel l (hr.2 l rfl)
  | ints l | bools l | floats l | strs l => cases l <;> rfl
  | ref b =>
    simp only [exp3J, exp3]
    cases xidOf H b <;> rfl
  | _ => rfl

theorem cval_exp (hrel : HeapRel H L na (E3J H na ci') HF) (v : Val) (ha : noAttr v = true) (hr : RefsIn H L v) :
    cvalOf HF (exp3J H na ci' v) = cvalOf H v := by
  cases v with
  | attr s => cases ha
  | ref b =>
    obtain ⟨x, hx, hm⟩ := hr.1 b rfl
    rw [exp3J_ref hx]
    simp only [cvalOf]
    rw [xid_ref hrel hx hm]
  | refs l =>
    have := elemVals_exp hrel (.refs l) hr
    simp only [exp3J, elemsExpJ] at this ⊢
    simp only [cvalOf]
    rw [this]
  | ints l | bools l | floats l | strs l => cases l <;> rfl
  | _ => rfl

theorem headVal_exp (hrel : HeapRel H L na (E3J H na ci') HF) (isStr : Bool) (v : Val) (ha : noAttr v = true)
    (hr : RefsIn H L v) : headVal HF isStr (exp3J H na ci' v) = headVal H isStr v := by
  cases v with
  | attr s => cases ha
  | ref b =>
    obtain ⟨x, hx, hm⟩ := hr.1 b rfl
    rw [exp3J_ref hx]
    simp only [headVal]
    rw [xid_ref hrel hx hm]
  | ints l | bools l | floats l | strs l => cases l <;> rfl
  | _ => rfl

end

section
variable {K : Consts} {ts : TypeSystem} {c : Cas} {ci : Nat} {H : Heap} {L : List (Int × Nat)}

theorem slot_shape (hL : LOkJ K ts c ci H L) {q : Int × Nat} (hq : q ∈ L) {o : Obj} (ho : H[q.2]? = some o)
    {n : String} {v : Val} (hv : alistGet? o.slots n = some v) :
    noAttr v = true ∧ ∀ l, v = .refs l → n = "elements" := by
  rcases (hL.coll q hq).1 with hg | ha
  · obtain ⟨o1, t, ho1, _, g⟩ := jgenFs_iff.mp hg
    cases ho.symm.trans ho1
    obtain ⟨f, hf, rfl⟩ := g.slot_feature hv
    have := (g.feat f hf).scalar hv
    exact ⟨this.2, fun l e => by subst e; cases this.1⟩
  · obtain ⟨t, f, ev, _, g⟩ := ha.at ho
    rw [g.slots] at hv
    obtain ⟨rfl, rfl⟩ := alistGet?_single hv
    refine ⟨?_, fun _ _ => rfl⟩
    rcases g.kind with ⟨_, _, l, e⟩ | ⟨_, _, hp⟩
    · subst e; rfl
    · exact hp.list.2

theorem slot_good (hL : LOkJ K ts c ci H L) {q : Int × Nat} (hq : q ∈ L) {o : Obj} (ho : H[q.2]? = some o)
    {n : String} {v : Val} (hv : alistGet? o.slots n = some v) : noAttr v = true ∧ RefsIn H L v := by
  have hs := slot_shape hL hq ho hv
  refine ⟨hs.1, fun b e => ?_, fun l e b hb => ?_⟩
  · subst e; exact hL.closed q hq o ho n b hv
  · have hn := hs.2 l e
    subst e; subst hn
    exact hL.closedE q hq o ho l hv b hb

theorem slotD_good (hL : LOkJ K ts c ci H L) {q : Int × Nat} (hq : q ∈ L) (n : String) :
    noAttr ((Xmi.slot H q.2 n).getD .none) = true ∧ RefsIn H L ((Xmi.slot H q.2 n).getD .none) := by
  cases hs : Xmi.slot H q.2 n with
  | none => exact ⟨rfl, refsIn_none H L⟩
  | some v =>
    obtain ⟨o, ho, hs⟩ := Xmi.slot_obj hs
    exact slot_good hL hq ho hs

end

/-! ### the unrolling of a list -/

section
variable {K : Consts} {ts : TypeSystem} {c : Cas} {ci : Nat} {H : Heap} {L : List (Int × Nat)}
  {na : Int → Nat} {ci' : Nat} {HF : Heap}

theorem slotS_good (hL : LOkJ K ts c ci H L) {q : Int × Nat} (hq : q ∈ L) {n : String} {v : Val}
    (hs : Xmi.slot H q.2 n = some v) : noAttr v = true ∧ RefsIn H L v := by
  have := slotD_good hL hq n
  rw [hs] at this
  exact this

theorem tail_in (hL : LOkJ K ts c ci H L) (a : Nat) (ha : ∃ q ∈ L, q.2 = a) (b : Nat)
    (hb : Traverse.slot H a "tail" = some (.ref b)) : ∃ q ∈ L, q.2 = b := by
  obtain ⟨q, hq, rfl⟩ := ha
  obtain ⟨x, _, hm⟩ := (slotS_good hL hq hb).2.1 b rfl
  exact ⟨(x, b), hm, rfl⟩

theorem spine_new (hL : LOkJ K ts c ci H L) (hrel : HeapRel H L na (E3J H na ci') HF) {q : Int × Nat} (hq : q ∈ L)
    {vs : List Val} (h : Spine H (.ref q.2) vs) : Spine HF (.ref (na q.1)) (vs.map (exp3J H na ci')) := by
  have := h.map (hp' := HF) (E := exp3J H na ci') (P := fun a => ∃ q ∈ L, q.2 = a)
    (φ := fun a => na ((xidOf H a).getD 0))
    (fun a ⟨q', hq', e⟩ n => by subst e; rw [(hL.ids q' hq').1]; exact slot_new hrel hq' n)
    (fun a ha b hb => by
      obtain ⟨q', hq', e⟩ := tail_in hL a ha b hb
      subst e
      exact ⟨⟨q', hq', rfl⟩, by rw [exp3J_ref (hL.ids q' hq').1, (hL.ids q' hq').1]; rfl⟩)
    (exp3J_not_ref H na ci') q.2 rfl ⟨q, hq, rfl⟩
  simpa only [(hL.ids q hq).1, Option.getD_some] using this

theorem listVals_new (hL : LOkJ K ts c ci H L) (hrel : HeapRel H L na (E3J H na ci') HF) (isStr : Bool) {q : Int × Nat}
    (hq : q ∈ L) {vs : List Val} (h : Spine H (.ref q.2) vs) {n m : Nat} (hn : vs.length < n) (hm : vs.length < m) :
    listVals HF isStr m (.ref (na q.1)) = listVals H isStr n (.ref q.2) := by
  rw [listVals_spine isStr (spine_new hL hrel hq h) m (by rwa [List.length_map]), listVals_spine isStr h n hn, List.map_map]
  refine List.map_congr_left fun w hw => ?_
  obtain ⟨a', ⟨q', hq', rfl⟩, hh⟩ := h.heads (tail_in hL) (fun _ e => by cases e; exact ⟨q, hq, rfl⟩) w hw
  exact headVal_exp hrel isStr w (slotS_good hL hq' hh).1 (slotS_good hL hq' hh).2

end

section
variable {K : Consts} {ts : TypeSystem} {c : Cas} {ci : Nat} {H : Heap} {L : List (Int × Nat)}

/-- (J2) where the content function unrolls a list -/
theorem spine_of (hL : LOkJ K ts c ci H L) {q : Int × Nat} (hq : q ∈ L) {o : Obj} {t : TypeRec}
    (ho : H[q.2]? = some o) (ht : find? ts o.ty = some t) {f : Feature} (hf : f ∈ allFeatures t) {b : Nat}
    (hv : (Xmi.slot H q.2 f.name).getD .none = .ref b) (hi : isInline K f = true) (ha : isArray K f.range = false) :
    SpineEnds H b := by
  have hv' : (alistGet? o.slots f.name).getD .none = .ref b := by
    simpa only [Xmi.slot_of ho] using hv
  rcases (hL.coll q hq).1 with hg | hA
  · obtain ⟨_, _, _, _, _, v0, hv0, hc⟩ := (hg.at ho ht).feat f hf
    rw [hv0] at hv'
    simp only [Option.getD_some] at hv'
    subst hv'
    rcases hc with ⟨_, ⟨vn, e, _⟩ | ⟨e, _⟩⟩ | ⟨_, _, e | ⟨_, i, e⟩ | ⟨_, s, e⟩ | ⟨_, b, e⟩ | ⟨_, t, e⟩⟩ |
      ⟨_, _, _, _, _, e | ⟨b', e, hsp⟩⟩
    all_goals first | cases e
    exact hsp hi ha
  · obtain ⟨t1, f1, ev, _, g⟩ := hA.at ho
    rw [g.slots] at hv'
    simp only [alistGet?] at hv'
    by_cases hn : "elements" = f.name
    · rw [if_pos hn] at hv'
      simp only [Option.getD_some] at hv'
      subst hv'
      rcases g.kind with ⟨_, _, l, e⟩ | ⟨_, _, hp⟩
      · cases e
      · cases hp.list.1
    · rw [if_neg hn] at hv'; cases hv'

end

end CC

theorem content_collJ (K : Consts) (ts : TypeSystem) (c : Cas) (ci : Nat) (H : Heap) (L : List (Int × Nat)) (ci' : Nat)
    (HF : Heap) (hL : LOkJ K ts c ci H L) {na : Int → Nat} (hrel : HeapRel H L na (E3J H na ci') HF)
    (hlen : H.length ≤ HF.length)
    (q : Int × Nat) (hq : q ∈ L) (o : Obj) (t : TypeRec) (ho : H[q.2]? = some o) (ht : find? ts o.ty = some t)
    (f : Feature) (hf : f ∈ allFeatures t) :
    featContentC K HF (na q.1) f = featContentC K H q.2 f := by
  have hnew := CC.slot_new_getD hrel hq f.name
  have hg := CC.slotD_good hL hq f.name
  rw [CF.featContentC_eq, CF.featContentC_eq, hnew]
  by_cases hv : ∃ b, (Xmi.slot H q.2 f.name).getD .none = .ref b
  · obtain ⟨b, hb⟩ := hv
    obtain ⟨x, hx, hm⟩ := hg.2.1 b hb
    rw [hb, CC.exp3J_ref hx]
    cases hi : isInline K f with
    | false =>
      rw [CF.contentOf_notInline K HF f _ hi, CF.contentOf_notInline K H f _ hi]
      have := CC.cval_exp hrel (.ref b) rfl (hb ▸ hg.2)
      rw [CC.exp3J_ref hx] at this
      exact this
    | true =>
      cases ha : isArray K f.range with
      | true =>
        have e := CC.slot_new_getD hrel hm "elements"
        simp only at e
        rw [CF.contentOf_arr K HF f _ hi ha, CF.contentOf_arr K H f _ hi ha, e,
          CC.elemVals_exp hrel _ (CC.slotD_good hL hm "elements").2]
      | false =>
        obtain ⟨hs, hcol⟩ := CC.spine_of hL hq ho ht hf hb hi ha
        have hlt := (collectList_ok hcol).2
        rw [CF.contentOf_list K HF f _ hi ha, CF.contentOf_list K H f _ hi ha,
          CC.listVals_new hL hrel _ hm (collectList_ok hcol).1 hlt (m := HF.length + 1) (by omega)]
  · have hv' : ∀ b, (Xmi.slot H q.2 f.name).getD .none ≠ .ref b := fun b e => hv ⟨b, e⟩
    rw [CF.contentOf_nonref K HF f _ (CC.exp3J_not_ref H _ ci' _ hv'), CF.contentOf_nonref K H f _ hv']
    exact CC.cval_exp hrel _ hg.1 hg.2

end Cassis.Json
