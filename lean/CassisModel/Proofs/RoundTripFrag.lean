/-
The fragment predicates through named fields.  `FlatFs`, `GenFs` (and `JGenFs`, `Proofs/RoundTripJsonCollOfXmiFrag.lean`)
say the same of a structure up to the condition on one feature: `GenObj` with that condition as a parameter; `ArrFs`
says `ArrObj`.  `FlatFs.at`, `GenFs.at`, `ArrFs.at` give the fields for the object (and type record) at hand.
-/
import CassisModel.Spec.RoundTripCollFrag
import CassisModel.Proofs.Basic

namespace Cassis.Xmi
open Cassis.TS Cassis.Traverse

/-- what the fragment predicates ask of an annotation: its `sofa` slot names a view of the CAS that has a text, `begin`
    and `end` are offsets into it -/
def AnnOk (c : Cas) (ci : Nat) (o : Obj) : Prop :=
  ∃ (vn : String) (v : View) (text : List Nat) (b e : Nat),
    alistGet? o.slots "sofa" = some (.sofa ci vn) ∧ Cas.getViewRec c vn = some v ∧ v.sofa.text = some text ∧
    alistGet? o.slots "begin" = some (.int b) ∧ alistGet? o.slots "end" = some (.int e) ∧
    b ≤ text.length ∧ e ≤ text.length

theorem AnnOk.copy {c c' : Cas} {ci ci' : Nat} {o o' : Obj} {E : String → Val → Val} (h : AnnOk c ci o)
    (hslots : ∀ n v, alistGet? o.slots n = some v → alistGet? o'.slots n = some (E n v))
    (hsofa : ∀ vn, E "sofa" (.sofa ci vn) = .sofa ci' vn) (hint : ∀ n i, E n (.int i) = .int i)
    (hview : ∀ vn v, Cas.getViewRec c vn = some v → ∃ v', Cas.getViewRec c' vn = some v' ∧ v'.sofa.text = v.sofa.text) :
    AnnOk c' ci' o' := by
  obtain ⟨vn, v, text, b, e, hs, hv, ht, hb, he, hl⟩ := h
  obtain ⟨v', hv', htx⟩ := hview vn v hv
  exact ⟨vn, v', text, b, e, hsofa vn ▸ hslots _ _ hs, hv', htx.trans ht, hint _ b ▸ hslots _ _ hb,
    hint _ e ▸ hslots _ _ he, hl⟩

/-- what `FlatFs`, `GenFs` and `JGenFs` say of the object `o` at the address and the record `t` of its type; `P` is the
    condition on one feature (`FlatFeat`, `CollFeat`, `JFeatOk` of the heap) -/
structure GenObj (K : Consts) (ts : TypeSystem) (c : Cas) (ci : Nat) (P : Bool → Obj → Feature → Prop) (o : Obj)
    (t : TypeRec) : Prop where
  name : t.name = o.ty
  notArr : isArray K o.ty = false
  notList : isList K o.ty = false
  notArrBase : t.super ≠ some ARRAY_BASE
  notPrimArr : isPrimitiveArray K o.ty = false
  notFsArr : o.ty ≠ FS_ARRAY
  notStrArr : isInstanceOf ts o.ty STRING_ARRAY = false
  notSofa : o.ty ≠ SOFA
  notView : o.ty ≠ VIEW_T
  nodup : (ctorFields t).Nodup
  keys : o.slots.map (·.1) = (ctorFields t).eraseDups
  feat : ∀ f ∈ allFeatures t, P (isInstanceOf ts o.ty ANNOTATION) o f
  ann : isInstanceOf ts o.ty ANNOTATION = true → AnnOk c ci o

/-- what `ArrFs` says of the object `o` at the address: its type `t` with the one feature `f`, its one slot with the
    value `ev` -/
structure ArrObj (K : Consts) (ts : TypeSystem) (hp : Heap) (o : Obj) (t : TypeRec) (f : Feature) (ev : Val) :
    Prop where
  name : t.name = o.ty
  arrBase : t.super = some ARRAY_BASE
  feats : allFeatures t = [f]
  fname : f.name = "elements"
  frange : f.range = TOP
  fres : f.reserved = false
  slots : o.slots = [("elements", ev)]
  notAnn : isInstanceOf ts o.ty ANNOTATION = false
  kind : (o.ty = FS_ARRAY ∧ isPrimitiveArray K FS_ARRAY = false ∧ isInstanceOf ts FS_ARRAY STRING_ARRAY = false ∧
        (ev = .none ∨ FsElems hp ev))
    ∨ (o.ty = STRING_ARRAY ∧ isPrimitiveArray K STRING_ARRAY = true ∧ StrElems ev)
    ∨ (PrimArrTy o.ty ∧ isPrimitiveArray K o.ty = true ∧ isInstanceOf ts o.ty STRING_ARRAY = false ∧
        (ev = .none ∨ PrimElems o.ty ev))

theorem obj_at {ts : TypeSystem} {hp : Heap} {a : Nat} {p : Obj → TypeRec → Prop}
    (h : ∃ o t, hp[a]? = some o ∧ find? ts o.ty = some t ∧ p o t) {o : Obj} {t : TypeRec} (ho : hp[a]? = some o)
    (ht : find? ts o.ty = some t) : p o t := by
  obtain ⟨o', t', ho', ht', g⟩ := h
  cases ho.symm.trans ho'
  cases ht.symm.trans ht'
  exact g

section
variable {K : Consts} {ts : TypeSystem} {c : Cas} {ci : Nat} {hp : Heap} {a : Nat}

theorem flatFs_iff : FlatFs K ts c ci hp a ↔
    ∃ o t, hp[a]? = some o ∧ find? ts o.ty = some t ∧ GenObj K ts c ci (FlatFeat K ts c ci hp) o t := by
  constructor <;> intro h <;> obtain ⟨o, t, ho, ht, h1, h2, h3, h4, h5, h6, h7, h8, h9, h10, h11, h12, h13⟩ := h <;>
    exact ⟨o, t, ho, ht, h1, h2, h3, h4, h5, h6, h7, h8, h9, h10, h11, h12, h13⟩

theorem genFs_iff : GenFs K ts c ci hp a ↔
    ∃ o t, hp[a]? = some o ∧ find? ts o.ty = some t ∧ GenObj K ts c ci (CollFeat K ts c ci hp) o t := by
  constructor <;> intro h <;> obtain ⟨o, t, ho, ht, h1, h2, h3, h4, h5, h6, h7, h8, h9, h10, h11, h12, h13⟩ := h <;>
    exact ⟨o, t, ho, ht, h1, h2, h3, h4, h5, h6, h7, h8, h9, h10, h11, h12, h13⟩

theorem FlatFs.at (h : FlatFs K ts c ci hp a) {o : Obj} {t : TypeRec} (ho : hp[a]? = some o)
    (ht : find? ts o.ty = some t) : GenObj K ts c ci (FlatFeat K ts c ci hp) o t := obj_at (flatFs_iff.mp h) ho ht

theorem GenFs.at (h : GenFs K ts c ci hp a) {o : Obj} {t : TypeRec} (ho : hp[a]? = some o)
    (ht : find? ts o.ty = some t) : GenObj K ts c ci (CollFeat K ts c ci hp) o t := obj_at (genFs_iff.mp h) ho ht

theorem ArrFs.obj (h : ArrFs K ts hp a) :
    ∃ o t f ev, hp[a]? = some o ∧ find? ts o.ty = some t ∧ ArrObj K ts hp o t f ev := by
  obtain ⟨o, t, f, ev, ho, ht, h1, h2, h3, h4, h5, h6, h7, h8, h9⟩ := h
  exact ⟨o, t, f, ev, ho, ht, h1, h2, h3, h4, h5, h6, h7, h8, h9⟩

theorem ArrFs.at (h : ArrFs K ts hp a) {o : Obj} (ho : hp[a]? = some o) :
    ∃ t f ev, find? ts o.ty = some t ∧ ArrObj K ts hp o t f ev := by
  obtain ⟨o', t, f, ev, ho', ht, g⟩ := h.obj
  cases ho.symm.trans ho'
  exact ⟨t, f, ev, ht, g⟩

theorem CollFs.type (h : CollFs K ts c ci hp a) {o : Obj} (ho : hp[a]? = some o) : ∃ t, find? ts o.ty = some t := by
  rcases h with hg | ha
  · obtain ⟨o', t, ho', ht, _⟩ := genFs_iff.mp hg
    cases ho.symm.trans ho'
    exact ⟨t, ht⟩
  · obtain ⟨t, _, _, ht, _⟩ := ha.at ho
    exact ⟨t, ht⟩

end

section
variable {K : Consts} {ts : TypeSystem} {c : Cas} {ci : Nat} {P Q : Bool → Obj → Feature → Prop} {o : Obj} {t : TypeRec}

theorem GenObj.mono (g : GenObj K ts c ci P o t) (h : ∀ b f, P b o f → Q b o f) : GenObj K ts c ci Q o t :=
  { g with feat := fun f hf => h _ f (g.feat f hf) }

theorem FlatFeat.slot {hp : Heap} {b : Bool} {f : Feature} (h : FlatFeat K ts c ci hp b o f) :
    ∃ v, alistGet? o.slots f.name = some v :=
  let ⟨v, hv, _⟩ := h.2.2.2.2.2.2.2.2.2.2.2; ⟨v, hv⟩

theorem FlatFeat.val_cases {hp : Heap} {isAnn : Bool} {f : Feature} (h : FlatFeat K ts c ci hp isAnn o f) {v : Val} (hv : alistGet? o.slots f.name = some v) :
    v = .none ∨ (∃ vn, v = .sofa ci vn) ∨ (∃ i, v = .int i) ∨ (∃ s, v = .str s) ∨ (∃ b, v = .bool b) ∨
      (∃ t, v = .float t) ∨ (∃ b, v = .ref b ∧ f.name ≠ "sofa" ∧ isPrimitive K ts f.range = false ∧
        isArray K f.range = false ∧ isList K f.range = false) := by
  obtain ⟨_, _, _, _, _, _, _, _, _, _, _, v', hv', hcase⟩ := h
  rw [hv] at hv'; cases hv'
  rcases hcase with ⟨_, ⟨vn, e, _⟩ | ⟨e, _⟩⟩ | ⟨_, _, e | ⟨_, i, e⟩ | ⟨_, s, e⟩ | ⟨_, b, e⟩ | ⟨_, t, e⟩⟩ |
    ⟨hn, hp, ha, hl, _, _, _, e | ⟨b, e, _⟩⟩
  · exact .inr (.inl ⟨vn, e⟩)
  · exact .inl e
  · exact .inl e
  · exact .inr (.inr (.inl ⟨i, e⟩))
  · exact .inr (.inr (.inr (.inl ⟨s, e⟩)))
  · exact .inr (.inr (.inr (.inr (.inl ⟨b, e⟩))))
  · exact .inr (.inr (.inr (.inr (.inr (.inl ⟨t, e⟩)))))
  · exact .inl e
  · exact .inr (.inr (.inr (.inr (.inr (.inr ⟨b, e, hn, hp, ha, hl⟩)))))

theorem genFs_of_flatFs {hp : Heap} {a : Nat} (h : FlatFs K ts c ci hp a) : GenFs K ts c ci hp a := by
  obtain ⟨o, t, ho, ht, g⟩ := flatFs_iff.mp h
  exact genFs_iff.mpr ⟨o, t, ho, ht, g.mono fun _ _ => .inl⟩

theorem GenObj.copy {c' : Cas} {ci' : Nat} {o' : Obj} (g : GenObj K ts c ci P o t) (hty : o'.ty = o.ty)
    (hkeys : o'.slots.map (·.1) = o.slots.map (·.1))
    (hfeat : ∀ f ∈ allFeatures t, P (isInstanceOf ts o.ty ANNOTATION) o f → Q (isInstanceOf ts o.ty ANNOTATION) o' f)
    (hann : AnnOk c ci o → AnnOk c' ci' o') : GenObj K ts c' ci' Q o' t := by
  refine ⟨?_, ?_, ?_, g.notArrBase, ?_, ?_, ?_, ?_, ?_, g.nodup, hkeys.trans g.keys, ?_, ?_⟩ <;> rw [hty]
  · exact g.name
  · exact g.notArr
  · exact g.notList
  · exact g.notPrimArr
  · exact g.notFsArr
  · exact g.notStrArr
  · exact g.notSofa
  · exact g.notView
  · exact fun f hf => hfeat f hf (g.feat f hf)
  · exact fun hA => hann (g.ann hA)

theorem slot_feature_of_keys (hs : o.slots.map (·.1) = (ctorFields t).eraseDups) {n : String} {v : Val}
    (hv : alistGet? o.slots n = some v) : ∃ f ∈ allFeatures t, f.name = n := by
  have hmem := alistGet?_mem_keys _ _ _ hv
  rw [hs] at hmem
  exact List.mem_map.mp (List.mem_eraseDups.mp hmem)

theorem GenObj.slot_feature (g : GenObj K ts c ci P o t) {n : String} {v : Val} (hv : alistGet? o.slots n = some v) :
    ∃ f ∈ allFeatures t, f.name = n := slot_feature_of_keys g.keys hv

theorem GenObj.ann_sofa (g : GenObj K ts c ci P o t) (hA : isInstanceOf ts o.ty ANNOTATION = true) :
    ∃ vn view, alistGet? o.slots "sofa" = some (.sofa ci vn) ∧ Cas.getViewRec c vn = some view := by
  obtain ⟨vn, v, _, _, _, h1, h2, _⟩ := g.ann hA
  exact ⟨vn, v, h1, h2⟩

end

section
variable {K : Consts} {ts : TypeSystem} {c : Cas} {ci : Nat} {hp : Heap} {a : Nat}

theorem CollFs.sofa_slot (h : CollFs K ts c ci hp a) {o : Obj} (ho : hp[a]? = some o) {v : Val}
    (hv : alistGet? o.slots "sofa" = some v) :
    (∃ vn, v = .sofa ci vn ∧ (Cas.getViewRec c vn).isSome = true) ∨ v = .none := by
  rcases h with hgen | harr
  · obtain ⟨o2, t, ho2, _, g⟩ := genFs_iff.mp hgen
    cases ho.symm.trans ho2
    obtain ⟨f, hf, hfn⟩ := g.slot_feature hv
    rcases g.feat f hf with hflat | ⟨hname, _⟩
    · obtain ⟨_, _, _, _, _, _, _, _, _, _, _, v', hv', hcase⟩ := hflat
      rw [hfn, hv] at hv'; cases hv'
      rcases hcase with ⟨_, h1⟩ | ⟨hne, _⟩ | ⟨hne, _⟩
      · exact h1.imp_right And.left
      · exact absurd hfn hne
      · exact absurd hfn hne
    · exact absurd hfn hname.2.2.2.2.2
  · obtain ⟨t, f, ev, _, g⟩ := harr.at ho
    rw [g.slots] at hv
    simp [alistGet?] at hv

end

end Cassis.Xmi
