/-
What a history of `create_type` / `create_feature` calls leaves behind.

`Built K ts` collects what EVERY successful call keeps (`Built.createType`, `Built.createFeature`), so it holds along every
history (`built_history`) from the one-record `initTS`, hence of the two generated tables, which are such histories
(`builtin_build`), and of everything built from them.  One fact depends on the calls: the own features of the types a
history does not extend stay as they are (`Grow`, `grow_history`).  After these the closed facts about the two generated
tables (projections of the one evaluation `builtin_evals`; `base_plain` is evaluated here), which
`Properties/C02EmbeddedTs.lean`, the chains with an embedded type system, the merge and the descriptor loader use.
`Hist`, `UserBuilt` and the invariants of the descriptor and JSON developments are projections of `Built` and `Grow`.
-/
import CassisModel.Spec.MergeSelf
import CassisModel.Properties.C11

namespace Cassis.TS

/-! ### Calls that leave the predefined types alone -/

def UserOp (K : Consts) : TsOp → Prop
  | .createType _ _ _ => True
  | .createFeature dom _ _ _ _ _ => K.predefined.contains dom = false ∧ dom.contains '.' = true

theorem userOnly_iff (K : Consts) : ∀ ops, UserOnly K ops ↔ ∀ op ∈ ops, UserOp K op
  | [] => by simp only [UserOnly, List.not_mem_nil, false_imp_iff, implies_true]
  | .createType _ _ _ :: ops => by
    simp only [UserOnly, List.forall_mem_cons, UserOp, true_and, userOnly_iff K ops]
  | .createFeature _ _ _ _ _ _ :: ops => by
    simp only [UserOnly, List.forall_mem_cons, UserOp, userOnly_iff K ops, and_assoc]

/-- a history that declares no feature on `x` leaves `x` alone as well -/
theorem userOnly_protect {K : Consts} {ops : List TsOp} {x : String} (hu : UserOnly K ops)
    (hx : ∀ op ∈ ops, match op with
      | .createFeature dom _ _ _ _ _ => dom ≠ x
      | .createType _ _ _ => True) :
    UserOnly { K with predefined := x :: K.predefined } ops := by
  rw [userOnly_iff] at hu ⊢
  intro op hop
  have h1 := hu op hop
  have h2 := hx op hop
  cases op with
  | createType => trivial
  | createFeature dom =>
    refine ⟨?_, h1.2⟩
    show (x :: K.predefined).contains dom = false
    rw [List.contains_cons, h1.1, Bool.or_false]
    exact beq_false_of_ne h2

theorem createFeature_ok_dotted (ts ts' : TypeSystem) (dom name range : String) (elem descr : Option String)
    (multi : Option Bool) (hdot : dom.contains '.' = true)
    (h : createFeature ts dom name range elem descr multi = .ok ts') :
    ∃ f, addFeature ts dom f = .ok ts' := by
  obtain ⟨d, _, _, hd, _, _, h'⟩ := createFeature_ok ts ts' dom name range elem descr multi h
  rw [getType_dotted hdot hd] at h'
  exact ⟨_, h'⟩

/-! ### `Grow` -/

/-- record by record, `ts'` extends `ts`; the own features of predefined types stay as they are -/
def Grow (K : Consts) (ts ts' : TypeSystem) : Prop :=
  ∀ x t, find? ts x = some t → ∃ t', find? ts' x = some t' ∧ t'.super = t.super ∧ t'.descr = t.descr ∧
    (∀ g ∈ t.own, g ∈ t'.own) ∧ (∀ g ∈ t.inh, g ∈ t'.inh) ∧ (K.predefined.contains x = true → t'.own = t.own)

theorem Grow.refl (K : Consts) (ts : TypeSystem) : Grow K ts ts :=
  fun _ t hx => ⟨t, hx, rfl, rfl, fun _ h => h, fun _ h => h, fun _ => rfl⟩

theorem Grow.trans {K : Consts} {a b c : TypeSystem} (h1 : Grow K a b) (h2 : Grow K b c) : Grow K a c := by
  intro x t hx
  obtain ⟨t1, ht1, s1, d1, o1, i1, p1⟩ := h1 x t hx
  obtain ⟨t2, ht2, s2, d2, o2, i2, p2⟩ := h2 x t1 ht1
  exact ⟨t2, ht2, s2.trans s1, d2.trans d1, fun g hg => o2 g (o1 g hg), fun g hg => i2 g (i1 g hg),
    fun hp => (p2 hp).trans (p1 hp)⟩

theorem Grow.reg {K : Consts} {a b : TypeSystem} (h : Grow K a b) (x : String) (hx : hasExact a x = true) :
    hasExact b x = true := by
  obtain ⟨t, ht⟩ := (hasExact_iff_find a x).mp hx
  obtain ⟨t', ht', _⟩ := h x t ht
  exact (hasExact_iff_find b x).mpr ⟨t', ht'⟩

/-- protecting fewer names asks less -/
theorem Grow.mono {K K' : Consts} {a b : TypeSystem} (hk : ∀ x, K.predefined.contains x = true → K'.predefined.contains x = true)
    (h : Grow K' a b) : Grow K a b := fun x t hx =>
  let ⟨t', ht', s, d, o, i, p⟩ := h x t hx
  ⟨t', ht', s, d, o, i, fun hp => p (hk x hp)⟩

@[simp] theorem upd_descr (sup n : String) (t : TypeRec) : (upd sup n t).descr = t.descr := by
  unfold upd; split <;> rfl

/-- `K'` names the protected types; it need not be the `K` the types are created with -/
theorem Grow.of_createType {K K' : Consts} {ts ts' : TypeSystem} {n s : String} {d : Option String}
    (hc : Consistent ts) (hf : FeatInv ts) (hnew : hasExact ts n = false) (h : createType K ts n s d = .ok ts') :
    Grow K' ts ts' := by
  obtain ⟨sup, _, _, _, C⟩ := createType_created K ts ts' n s d hc hf hnew h
  exact fun x t hx => ⟨_, C.old hx, upd_super _ _ _, upd_descr _ _ _, fun g hg => by rwa [upd_own],
    fun g hg => by rwa [upd_inh], fun _ => upd_own _ _ _⟩

theorem grow_setRec (K : Consts) {ts : TypeSystem} {t r : TypeRec} (hf : find? ts t.name = some t) (hn : r.name = t.name)
    (hs : r.super = t.super) (hd : r.descr = t.descr) (ho : ∀ g ∈ t.own, g ∈ r.own) (hi : ∀ g ∈ t.inh, g ∈ r.inh)
    (hp : K.predefined.contains t.name = true → r.own = t.own) : Grow K ts (setRec ts r) := by
  intro x tx hx
  by_cases hxc : x = t.name
  · subst hxc
    rw [hf] at hx; cases hx
    exact ⟨r, find?_setRec_eq ts r t hn hf, hs, hd, ho, hi, hp⟩
  · exact ⟨tx, by rw [find?_setRec_ne ts r (hn ▸ hxc)]; exact hx, rfl, rfl, fun _ h => h, fun _ h => h, fun _ => rfl⟩

/-- a push leaves the own features alone: whatever `K` protects -/
theorem frame_grow (K : Consts) : PushFrame (fun _ => True) (Grow K) :=
  ⟨Grow.refl K, Grow.trans, fun _ _ _ _ hf _ =>
    grow_setRec K hf rfl rfl rfl (fun _ h => h) (fun _ h => List.mem_append_left _ h) (fun _ => rfl)⟩

theorem addFeature_grow (K : Consts) {ts ts' : TypeSystem} {dom : String} {f : Feature}
    (hdom : K.predefined.contains dom = false) (h : addFeature ts dom f = .ok ts') : Grow K ts ts' := by
  obtain ⟨t, ht, ⟨_, rfl⟩ | ⟨_, _, hpush⟩⟩ := addFeature_cases h
  · exact Grow.refl K _
  · have htn := find?_name ht
    refine (grow_setRec K (t := t) (r := { t with own := t.own ++ [f] }) (htn.symm ▸ ht) rfl rfl rfl
      (fun _ h => List.mem_append_left _ h) (fun _ h => h) ?_).trans ((frame_grow K).push trivial _ _ _ ts' hpush)
    intro hp; rw [htn, hdom] at hp; cases hp

/-- … with no name protected: all that the callers below need is `Grow.reg` and the membership clauses -/
theorem addFeature_grow_plain {ts ts' : TypeSystem} {dom : String} {f : Feature} (h : addFeature ts dom f = .ok ts') :
    Grow ⟨[], [], [], [], [], [], []⟩ ts ts' :=
  addFeature_grow _ rfl h

theorem grow_cov {K : Consts} {a b : TypeSystem} (h : Grow K a b) {n : String} {t : TypeRec}
    (ht : find? a n = some t) : ∃ t', find? b n = some t' ∧ ∀ g ∈ t.own ++ t.inh, g ∈ t'.own ++ t'.inh := by
  obtain ⟨t', ht', _, _, o1, i1, _⟩ := h n t ht
  refine ⟨t', ht', ?_⟩
  intro g hg
  rcases List.mem_append.mp hg with hg | hg
  · exact List.mem_append_left _ (o1 g hg)
  · exact List.mem_append_right _ (i1 g hg)

theorem anc_grow {K : Consts} {ts ts' : TypeSystem} (hg : Grow K ts ts') {a b : String} : Anc ts a b → Anc ts' a b :=
  Anc.of_recs fun b tb hf => let ⟨t', ht', hs, _⟩ := hg b tb hf; ⟨t', ht', hs⟩

/-! ### Two invariants of the feature records -/

/-- inherited features are taken over unchanged from the supertype's record -/
def InhSub (ts : TypeSystem) : Prop :=
  ∀ t ∈ ts.types, ∀ s ps, t.super = some s → find? ts s = some ps → ∀ g ∈ t.inh, g ∈ ps.own ++ ps.inh

/-- own features have a registered range and element type, and the stored name `create_feature` gives them
    (`self_`/`type_` exactly for the reserved ones) -/
def OwnOK (ts : TypeSystem) : Prop :=
  ∀ t ∈ ts.types, ∀ f ∈ t.own, hasExact ts f.range = true ∧ (∀ e, f.elem = some e → hasExact ts e = true) ∧
    (if f.reserved then f.name == "self_" || f.name == "type_" else f.name != "self" && f.name != "type") = true

theorem inhSub_createType (K : Consts) (ts ts' : TypeSystem) (n s : String) (d : Option String)
    (hc : Consistent ts) (hf : FeatInv ts) (hnew : hasExact ts n = false)
    (h : createType K ts n s d = .ok ts') (hi : InhSub ts) : InhSub ts' := by
  obtain ⟨sup, _, hsm, _, C⟩ := createType_created K ts ts' n s d hc hf hnew h
  intro t' ht' s0 ps' hs0 hps' g hg
  rcases C.mem.mp ht' with ⟨t0, ht0, rfl⟩ | rfl
  · rw [upd_super] at hs0
    rw [upd_inh] at hg
    obtain ⟨ps0, hps0⟩ := (hasExact_iff_find ts s0).mp (hc.superReg t0 ht0 s0 hs0)
    rw [C.old hps0] at hps'; cases hps'
    rw [upd_own, upd_inh]
    exact hi t0 ht0 s0 ps0 hs0 hps0 g hg
  · obtain rfl : sup.name = s0 := Option.some.inj hs0
    rw [C.old (find?_of_mem hc.nodup hsm)] at hps'; cases hps'
    rw [upd_own, upd_inh]
    exact allFeatures_sub hg

theorem inhSub_addFeature (ts ts' : TypeSystem) (dom : String) (f : Feature)
    (hc : Consistent ts) (hf : FeatInv ts) (h : addFeature ts dom f = .ok ts') (hi : InhSub ts) : InhSub ts' := by
  have hgrow := addFeature_grow_plain h
  rcases addFeature_step hc hf h with rfl | ⟨td, htd, _, _, _, hT⟩
  · exact hi
  · intro t' ht' s ps' hs hps' g hg
    obtain ⟨t, hft, hft', hsup⟩ := find?_back hT.skel hc.nodup ht'
    obtain ⟨ps, hfps, _⟩ := find?_transfer hT.skel hps'
    have hts : t.super = some s := hsup.trans hs
    have htm : t ∈ ts.types := find?_mem hft
    -- what the supertype's record had, it still has
    have hold : ∀ g ∈ t.inh, g ∈ ps'.own ++ ps'.inh := by
      intro g hg
      obtain ⟨ps'', hps'', _, _, o1, i1, _⟩ := hgrow s ps hfps
      rw [hps'] at hps''; cases hps''
      rcases List.mem_append.mp (hi t htm s ps hts hfps g hg) with h1 | h1
      · exact List.mem_append_left _ (o1 g h1)
      · exact List.mem_append_right _ (i1 g h1)
    rcases hT.cases hft hft' with ⟨_, e⟩ | ⟨hxd, hanc, hnin, e⟩ | ⟨_, e, _⟩
    · rw [e] at hg; exact hold g hg
    · rw [e] at hg
      rcases List.mem_append.mp hg with hg | hg
      · exact hold g hg
      · simp only [List.mem_singleton] at hg
        subst hg
        rcases hanc.inv hft with e1 | ⟨s1, hs1, hanc1⟩
        · exact absurd e1.symm hxd
        · rw [hts] at hs1; cases hs1
          rcases hT.cases hfps hps' with ⟨_, e2⟩ | ⟨_, _, _, e2⟩ | ⟨_, e2, himp⟩
          · rw [e2]; simp
          · rw [e2]; simp
          · exfalso
            have hn : g.name ∈ fnames ps.inh := himp hanc1
            exact hnin ((hf.inherit' htm hts hfps g.name).mpr (Or.inr hn))
    · rw [e] at hg; exact hold g hg

theorem ownOK_createType (K : Consts) (ts ts' : TypeSystem) (n s : String) (d : Option String)
    (hc : Consistent ts) (hf : FeatInv ts) (hnew : hasExact ts n = false)
    (h : createType K ts n s d = .ok ts') (hi : OwnOK ts) : OwnOK ts' := by
  have hreg := (Grow.of_createType (K' := K) hc hf hnew h).reg
  obtain ⟨sup, _, _, _, C⟩ := createType_created K ts ts' n s d hc hf hnew h
  intro t' ht' f hfm
  rcases C.mem.mp ht' with ⟨t0, ht0, rfl⟩ | rfl
  · rw [upd_own] at hfm
    obtain ⟨h1, h2, h3⟩ := hi t0 ht0 f hfm
    exact ⟨hreg _ h1, fun e he => hreg _ (h2 e he), h3⟩
  · cases hfm

theorem ownOK_addFeature (ts ts' : TypeSystem) (dom : String) (f : Feature)
    (hc : Consistent ts) (hf : FeatInv ts) (h : addFeature ts dom f = .ok ts') (hi : OwnOK ts)
    (hfr : hasExact ts f.range = true) (hfe : ∀ e, f.elem = some e → hasExact ts e = true)
    (hfw : (if f.reserved then f.name == "self_" || f.name == "type_" else f.name != "self" && f.name != "type") = true) :
    OwnOK ts' := by
  have hreg := (addFeature_grow_plain h).reg
  rcases addFeature_step hc hf h with rfl | ⟨td, htd, _, _, _, hT⟩
  · exact hi
  · intro t' ht' g hg
    obtain ⟨t, hft, hft', _⟩ := find?_back hT.skel hc.nodup ht'
    have hold : ∀ g ∈ t.own, hasExact ts' g.range = true ∧ (∀ e, g.elem = some e → hasExact ts' e = true) ∧
        (if g.reserved then g.name == "self_" || g.name == "type_" else g.name != "self" && g.name != "type") = true := by
      intro g hg
      obtain ⟨h1, h2, h3⟩ := hi t (find?_mem hft) g hg
      exact ⟨hreg _ h1, fun e he => hreg _ (h2 e he), h3⟩
    rcases hT.cases hft hft' with ⟨_, e⟩ | ⟨_, _, _, e⟩ | ⟨_, e, _⟩
    · rw [e] at hg
      rcases List.mem_append.mp hg with hg | hg
      · exact hold g hg
      · simp only [List.mem_singleton] at hg
        subst hg
        exact ⟨hreg _ hfr, fun e he => hreg _ (hfe e he), hfw⟩
    · rw [e] at hg; exact hold g hg
    · rw [e] at hg; exact hold g hg

/-- `create_feature` is `_add_feature` of a well-formed feature on the resolved domain -/
theorem createFeature_add (ts ts' : TypeSystem) (dom name range : String) (elem descr : Option String)
    (multi : Option Bool) (h : createFeature ts dom name range elem descr multi = .ok ts') :
    ∃ d f, getType ts dom = .ok d ∧ addFeature ts d.name f = .ok ts' ∧ hasExact ts f.range = true ∧
      (∀ e, f.elem = some e → hasExact ts e = true) ∧
      (if f.reserved then f.name == "self_" || f.name == "type_" else f.name != "self" && f.name != "type") = true := by
  have hmem : ∀ {n : String} {t : TypeRec}, getType ts n = .ok t → hasExact ts t.name = true :=
    fun hg => (hasExact_iff_mem ts _).mpr (List.mem_map_of_mem (getType_mem hg))
  obtain ⟨d, r, e, hd, hr, he, hadd⟩ := createFeature_ok ts ts' dom name range elem descr multi h
  refine ⟨d, _, hd, hadd, hmem hr, fun x hx => ?_, ?_⟩
  · obtain ⟨en, t, ht, rfl⟩ := he x hx
    exact hmem ht
  · simp only []
    by_cases h1 : name = "self"
    · subst h1; decide
    · by_cases h2 : name = "type"
      · subst h2; decide
      · simp [h1, h2]

/-! ### What every call keeps -/

structure Built (K : Consts) (ts : TypeSystem) : Prop where
  cons : Consistent ts
  feat : FeatInv ts
  inhSub : InhSub ts
  ownOK : OwnOK ts
  red : ts.redeclared = []
  superNonfinal : ∀ t ∈ ts.types, ∀ s, t.super = some s → K.finalTypes.contains s = false

theorem built_init (K : Consts) : Built K Gen.initTS := by
  have hm : ∀ t ∈ Gen.initTS.types, t = { name := TOP, super := none } := fun t ht => by
    simpa [Gen.initTS] using ht
  refine ⟨inv_init.1, inv_init.2, ?_, ?_, rfl, ?_⟩
  · intro t ht s ps hs; rw [hm t ht] at hs; cases hs
  · intro t ht f hf; rw [hm t ht] at hf; cases hf
  · intro t ht s hs; rw [hm t ht] at hs; cases hs

theorem Built.createType {K : Consts} {ts ts' : TypeSystem} {n s : String} {d : Option String} (h : Built K ts)
    (hn : hasExact ts n = false) (hts : createType K ts n s d = .ok ts') : Built K ts' := by
  obtain ⟨sup, _, _, hnf, C⟩ := createType_created K ts ts' n s d h.cons h.feat hn hts
  refine ⟨consistent_createType K ts ts' n s d h.cons hn hts,
    featInv_createType K ts ts' n s d h.cons h.feat hn hts,
    inhSub_createType K ts ts' n s d h.cons h.feat hn hts h.inhSub,
    ownOK_createType K ts ts' n s d h.cons h.feat hn hts h.ownOK, C.red.trans h.red, ?_⟩
  intro t' ht' s0 hs0
  rcases C.mem.mp ht' with ⟨t0, ht0, rfl⟩ | rfl
  · exact h.superNonfinal t0 ht0 s0 (by simpa using hs0)
  · cases hs0; exact hnf

theorem Built.addFeature {K : Consts} {ts ts' : TypeSystem} {dom : String} {f : Feature} (h : Built K ts)
    (hfr : hasExact ts f.range = true) (hfe : ∀ e, f.elem = some e → hasExact ts e = true)
    (hfw : (if f.reserved then f.name == "self_" || f.name == "type_" else f.name != "self" && f.name != "type") = true)
    (hts : addFeature ts dom f = .ok ts') : Built K ts' := by
  refine ⟨consistent_addFeature ts ts' dom f h.cons hts, featInv_addFeature ts ts' dom f h.cons h.feat hts,
    inhSub_addFeature ts ts' dom f h.cons h.feat hts h.inhSub,
    ownOK_addFeature ts ts' dom f h.cons h.feat hts h.ownOK hfr hfe hfw,
    (frame_redeclared.addFeature trivial hts).trans h.red, ?_⟩
  intro t' ht' s hs
  obtain ⟨t0, ht0, _, hsup⟩ := find?_back (frame_skel.addFeature trivial hts h.cons.nodup) h.cons.nodup ht'
  exact h.superNonfinal t0 (find?_mem ht0) s (hsup.trans hs)

theorem Built.createFeature {K : Consts} {ts ts' : TypeSystem} {dom n r : String} {e d : Option String}
    {m : Option Bool} (h : Built K ts) (hts : createFeature ts dom n r e d m = .ok ts') : Built K ts' := by
  obtain ⟨t, f, _, hadd, hfr, hfe, hfw⟩ := createFeature_add ts ts' dom n r e d m hts
  exact h.addFeature hfr hfe hfw hadd

theorem built_history (K : Consts) (ops : List TsOp) (ts : TypeSystem) (h : Built K ts) :
    Built K (ops.foldl (applyOp K) ts) :=
  history_induction K (fun _ _ _ _ _ h hn hts => h.createType hn hts) (fun _ _ _ _ _ _ _ _ h hts => h.createFeature hts)
    ops ts h

/-- the generated tables are what `TypeSystem.__init__` builds through the API -/
theorem built_builtins : Built Gen.consts Gen.builtinTS ∧ Built Gen.consts Gen.builtinTSNoDoc :=
  builtins_of_init (fun _ _ _ _ _ h hn hts => h.createType hn hts) (fun _ _ _ _ _ _ _ _ h hts => h.createFeature hts)
    (built_init Gen.consts)

/-- every type system reachable through the API -/
theorem built_of_history (ops : List TsOp) : Built Gen.consts (ops.foldl (applyOp Gen.consts) Gen.builtinTS) :=
  built_history _ ops _ built_builtins.1

/-! ### What depends on the calls: the types a history does not extend keep their own features -/

theorem grow_history (K K' : Consts) (ops : List TsOp) (ts : TypeSystem) (h : Built K ts) (hu : UserOnly K' ops) :
    Grow K' ts (ops.foldl (applyOp K) ts) :=
  (history_induction_on K (P := fun t => Built K t ∧ Grow K' ts t) (UserOp K')
    (fun _ _ _ _ _ _ ⟨hb, hg⟩ hn hts => ⟨hb.createType hn hts, hg.trans (Grow.of_createType hb.cons hb.feat hn hts)⟩)
    (fun t t' dom nm r e d m hq ⟨hb, hg⟩ hts => ⟨hb.createFeature hts, hg.trans (by
      obtain ⟨f, hadd⟩ := createFeature_ok_dotted t t' dom nm r e d m hq.2 hts
      exact addFeature_grow K' hq.1 hadd)⟩)
    ops ts ((userOnly_iff K' ops).mp hu) ⟨h, Grow.refl _ _⟩).2

/-! ### Closed facts about the generated tables (projections of `builtin_evals`, `base_plain` apart) -/

theorem builtin_docAnn : hasExact Gen.builtinTS DOCUMENT_ANNOTATION = true := builtin_evals.hasDocAnn
theorem builtin_top : hasExact Gen.builtinTS TOP = true := builtin_evals.hasTop
theorem builtin_sofa : hasExact Gen.builtinTS SOFA = true := builtin_evals.hasSofa

theorem top_predefined : Gen.consts.predefined.contains TOP = true := builtin_evals.topPredefined

theorem array_evals :
    (Gen.arrayTypeNameTable.all fun p => Gen.consts.primitive.contains p.1 || p.2 == FS_ARRAY) = true ∧
    (Gen.consts.arrays.all fun r => Gen.consts.primArrays.contains r || r == FS_ARRAY) = true ∧
    Gen.consts.primArrays.all Gen.consts.arrays.contains = true ∧
    isPrimitiveArray Gen.consts FS_ARRAY = false ∧ SOFA.endsWith "[]" = false := ⟨builtin_evals.arrayTableOk, builtin_evals.arraysPrimOrFs, builtin_evals.primArraysAreArrays, builtin_evals.fsArrayNotPrim, builtin_evals.sofaNoBrackets⟩

/-! the table the loader starts from (`Gen.builtinTSNoDoc`) registers exactly the predefined names -/

theorem base_predef_reg (p : String) (hp : Gen.consts.predefined.contains p = true) :
    hasExact Gen.builtinTSNoDoc p = true :=
  List.all_eq_true.mp builtin_evals.predefinedRegistered p (List.contains_iff_mem.mp hp)

theorem base_all_predef (x : String) (h : hasExact Gen.builtinTSNoDoc x = true) :
    Gen.consts.predefined.contains x = true := by
  obtain ⟨t, ht, rfl⟩ := List.mem_map.mp ((hasExact_iff_mem _ x).mp h)
  exact List.all_eq_true.mp builtin_evals.noDocPredefined t ht

theorem base_plain {tm : TypeRec} (h : tm ∈ Gen.builtinTSNoDoc.types) :
    tm.descr = none ∧ ∀ f ∈ tm.own ++ tm.inh, f.descr = none ∧ f.reserved = false := by
  have hb : Gen.builtinTSNoDoc.types.all (fun tm => tm.descr.isNone &&
      (tm.own ++ tm.inh).all (fun f => f.descr.isNone && !f.reserved)) = true := by decide +kernel
  have := List.all_eq_true.mp hb tm h
  simp only [Bool.and_eq_true, List.all_eq_true, Option.isNone_iff_eq_none, Bool.not_eq_true'] at this
  exact this

theorem doc_not_predef : Gen.consts.predefined.contains DOCUMENT_ANNOTATION = false := by
  cases h : Gen.consts.predefined.contains DOCUMENT_ANNOTATION with
  | false => rfl
  | true => have := base_predef_reg _ h; rw [builtin_doc_step.1] at this; cases this

/-- the last two steps of `TypeSystem.__init__` (`builtin_doc_step`) leave the predefined records as they are -/
theorem base_grow : Grow Gen.consts Gen.builtinTSNoDoc Gen.builtinTS := by
  obtain ⟨hn, ts1, h1, h2⟩ := builtin_doc_step
  obtain ⟨d, _, _, hd, _, _, h'⟩ := createFeature_ok _ _ _ _ _ _ _ _ h2
  obtain ⟨_, _, _, _, C⟩ := createType_created _ _ _ _ _ _ built_builtins.2.cons built_builtins.2.feat hn h1
  rw [getType_of_find C.new] at hd
  cases hd
  exact (Grow.of_createType built_builtins.2.cons built_builtins.2.feat hn h1).trans
    (addFeature_grow _ doc_not_predef h')

theorem builtin_pre (p : String) (hp : Gen.consts.predefined.contains p = true) : hasExact Gen.builtinTS p = true :=
  base_grow.reg p (base_predef_reg p hp)

/-- the document annotation type is the one built-in type that is not "predefined" (`get_types()` lists it) -/
theorem builtin_names_predefined (t : TypeRec) (ht : t ∈ Gen.builtinTS.types) :
    Gen.consts.predefined.contains t.name = true ∨
      (t.name = DOCUMENT_ANNOTATION ∧ t.super = some ANNOTATION ∧ t.children = []) := by
  rcases Bool.or_eq_true_iff.mp (List.all_eq_true.mp builtin_evals.builtinPredefinedOrDoc t ht) with h | h
  · exact Or.inl h
  · have hd := builtin_evals.docAnnRecord
    rw [← eq_of_beq h, find?_of_mem built_builtins.1.cons.nodup ht] at hd
    simp only [Option.map_some, Option.some.injEq, Prod.mk.injEq] at hd
    exact Or.inr ⟨eq_of_beq h, hd.1, hd.2.2.1⟩

/-! ### What a type system built through the API is known to satisfy (`Hist`, `UserBuilt`) -/

/-- user types have a non-final supertype -/
def NoFinal (ts : TypeSystem) : Prop :=
  ∀ t ∈ ts.types, Gen.consts.predefined.contains t.name = false →
    ∃ s, t.super = some s ∧ Gen.consts.finalTypes.contains s = false

theorem Built.nofinal {ts : TypeSystem} (h : Built Gen.consts ts) : NoFinal ts := by
  intro t ht hp
  cases hs : t.super with
  | none =>
    rw [h.cons.onlyRoot t ht hs, top_predefined] at hp; cases hp
  | some s => exact ⟨s, rfl, h.superNonfinal t ht s hs⟩

theorem builtin_nofinal : NoFinal Gen.builtinTS := built_builtins.1.nofinal

/-- what a history of API calls on a fresh type system that leaves the predefined types alone guarantees
    (`hist_of_history`) -/
structure Hist (ts : TypeSystem) : Prop where
  cons : Consistent ts
  feat : FeatInv ts
  grow : Grow Gen.consts Gen.builtinTS ts
  nofinal : NoFinal ts

theorem hist_of_built {ts : TypeSystem} (h : Built Gen.consts ts) (hg : Grow Gen.consts Gen.builtinTS ts) : Hist ts :=
  ⟨h.cons, h.feat, hg, h.nofinal⟩

theorem hist_builtin : Hist Gen.builtinTS := hist_of_built built_builtins.1 (Grow.refl _ _)

theorem hist_of_history (ops : List TsOp) (hu : UserOnly Gen.consts ops) :
    Hist (ops.foldl (applyOp Gen.consts) Gen.builtinTS) :=
  hist_of_built (built_of_history ops) (grow_history _ _ ops _ built_builtins.1 hu)

/-- the constants with DocumentAnnotation protected like a predefined type -/
def KDoc : Consts := { Gen.consts with predefined := DOCUMENT_ANNOTATION :: Gen.consts.predefined }

/-- built through the API by calls that leave the predefined types and DocumentAnnotation alone: their records are as
    in a fresh type system -/
structure UserBuilt (ts : TypeSystem) : Prop where
  built : Built Gen.consts ts
  grow : Grow KDoc Gen.builtinTS ts

theorem userBuilt_of_history (ops : List TsOp) (hu : UserOnly Gen.consts ops)
    (hnd : ∀ op ∈ ops, match op with
      | .createFeature dom _ _ _ _ _ => dom ≠ DOCUMENT_ANNOTATION
      | .createType _ _ _ => True) :
    UserBuilt (ops.foldl (applyOp Gen.consts) Gen.builtinTS) :=
  ⟨built_of_history ops, grow_history _ _ ops _ built_builtins.1 (userOnly_protect hu hnd)⟩

theorem UserBuilt.hist {ts : TypeSystem} (h : UserBuilt ts) : Hist ts :=
  hist_of_built h.built (h.grow.mono fun x hp => by
    show (DOCUMENT_ANNOTATION :: Gen.consts.predefined).contains x = true
    rw [List.contains_cons, hp, Bool.or_true])

/-- the records of the table the loader starts from persist in every type system built from the full table -/
theorem UserBuilt.growBase {ts : TypeSystem} (h : UserBuilt ts) : Grow Gen.consts Gen.builtinTSNoDoc ts :=
  base_grow.trans h.hist.grow

/-- the built-in types, DocumentAnnotation included, have the own features of a fresh type system -/
theorem UserBuilt.own_builtin {ts : TypeSystem} (h : UserBuilt ts) {x : String} {tb : TypeRec}
    (htb : find? Gen.builtinTS x = some tb) : ∃ t, find? ts x = some t ∧ t.own = tb.own := by
  obtain ⟨t, ht, _, _, _, _, hown⟩ := h.grow x tb htb
  refine ⟨t, ht, hown ?_⟩
  show (DOCUMENT_ANNOTATION :: Gen.consts.predefined).contains x = true
  rw [List.contains_cons, ← find?_name htb]
  rcases builtin_names_predefined tb (find?_mem htb) with hp | ⟨hd, _⟩
  · rw [hp, Bool.or_true]
  · rw [hd, beq_self_eq_true, Bool.true_or]

end Cassis.TS
