/-
C09, document level, JSON — the JSON loader reseeds the generators above every id of the document and above the id of
every object it created; the JSON counterpart of `Properties/C09Doc.lean`, for all four flag combinations
(`lenient`, `mergeTs` arbitrary).

`JBounded` (`Spec/JsonDoc.lean`) is the invariant of the two parsing passes `sofaPass` / `fsPass`: every id registered in
the id table (`feature_structures`: structures and sofas) is at most `maxId`, and the view of every registered sofa has
a sofa id / sofaNum of at most `maxId` / `maxNum`.  After the deferred references the loader sets
`nextXid := maxId + 1`, `nextSofaNum := maxNum + 1`, and only then reads `%VIEWS`.

Differences from the XMI statement, forced by the JSON passes (evaluated instances in `Proofs/JsonIdsDemo.lean`):
* the generators may end *above* `maxId + 1` / `maxNum + 1` (`≤` instead of `=`): the views pass runs after the
  reseeding and consumes an id and a sofaNum for every view that is only named in `%VIEWS` (`docView`: `maxId = 5`,
  `nextXid = 7`), and an id for every member that has none (next item);
* a structure can lose its id: a member `"@xmiID": 99` whose target does not exist becomes the deferred
  `setattr(fs, "xmiID", None)` (`docDangling`: the heap object ends with `xid = none`; if it is indexed, `Cas.add` gives
  it a fresh id, `docDangling2`: 6).  The real code does the same.  Hence "every registered structure sits in the heap
  under its id" holds for the state after the structure pass (`fsPass_fss_ids`, the clause of `loadJson_reseeds` about
  `s.heap`), and for the final heap under the hypothesis that no element has a member `@xmiID` (`loadJson_keeps_ids`);
  the bound on the ids of all created objects (the clause about `ld.heap`) holds unconditionally;
* duplicate sofa names: a second sofa element with the name of an existing view other than `_InitialView` is applied to
  that view, which keeps its sofa id and sofaNum (`cas.get_view(name)` in `_get_or_create_view`; the sofa is registered
  again under its old id): neither the id nor the sofaNum of such an element is looked at.  `docDup` (sofa elements
  1 `_InitialView`, 2 `v`, 3 `v` with sofaNums 1, 2, 7): the view `v` keeps sofa id 2 / sofaNum 2, `nextXid = 3`,
  `nextSofaNum = 3` — model and Python agree (Python: `cas.add` of a new annotation then assigns id 3).  Hence
  - the bound on the ids of the *sofa* elements of the document needs `SofaNamesDistinct doc.fss` (`Spec/JsonDoc.lean`:
    two sofa elements with the same name name the initial view); without it the clause
    `∀ j ∈ doc.fss, ∃ i, j.id = some i ∧ i < ld.cas.nextXid` is false on `docDup` (`IdsDemo.docDup_not_below`).  This is
    not a violation of C09: nothing that was loaded carries the ignored id 3 (the clauses about the id table, the heap
    and the views hold unconditionally), a fresh id 3 collides with nothing;
  - `nextSofaNum` is above the sofaNum of every *view* created from a sofa of the document, not above every sofaNum the
    document mentions;
  a second element for `_InitialView` replaces the sofa id and sofaNum of the initial view (`docDupInit`);
* as for XMI (finding I5 of `known_findings.json`) the implicit initial view of a document without an `_InitialView` sofa keeps sofa id 1 /
  sofaNum 1 (`docEmpty`: both generators restart at 1): the statement about views speaks about the sofas of the document.

`parseSofa` of the model follows `_get_or_create_view` here: it does not overwrite the sofa id of an existing
non-initial view with the id of the second element.
-/
import CassisModel.Proofs.JsonIdsLoad
import CassisModel.Proofs.JsonIdsDemo

namespace Cassis.Json
open Cassis.TS Cassis.Json.Ids

theorem sofaPass_bounded (K : Consts) (ts : TypeSystem) (tsIdx ci : Nat) (all l : List JFs) (s r : RState)
    (hs : JBounded s) (h : sofaPass K ts tsIdx ci all l s = .ok r) :
    JBounded r ∧ s.maxId ≤ r.maxId ∧ s.maxNum ≤ r.maxNum :=
  let R := sofaPass_rel (RB.stepRel K ts tsIdx ci) all l s r h
  ⟨R.bounded hs, R.maxId, R.maxNum⟩

theorem fsPass_bounded (K : Consts) (ts : TypeSystem) (tsIdx : Nat) (l : List JFs) (s r : RState)
    (hs : JBounded s) (h : fsPass K ts tsIdx l s = .ok r) :
    JBounded r ∧ s.maxId ≤ r.maxId ∧ s.maxNum ≤ r.maxNum :=
  let R := fsPass_rel (RB.stepRel K ts tsIdx 0) l s r h
  ⟨R.bounded hs, R.maxId, R.maxNum⟩

/-- every structure registered by the sofa pass (the byte arrays sofas refer to) sits in the heap under the id of its
    element; the id table holds heap addresses and sofas only (`FssVals`) -/
theorem sofaPass_fss_ids (K : Consts) (ts : TypeSystem) (tsIdx ci : Nat) (all l : List JFs) (s r : RState)
    (hv : FssVals s.fss) (hs : ∀ q ∈ s.fss, ∀ a : Nat, q.2 = .ref a → ∃ o : Obj, s.heap[a]? = some o ∧ o.xid = some q.1)
    (h : sofaPass K ts tsIdx ci all l s = .ok r) :
    FssVals r.fss ∧ ∀ q ∈ r.fss, ∀ a : Nat, q.2 = .ref a → ∃ o : Obj, r.heap[a]? = some o ∧ o.xid = some q.1 := by
  obtain ⟨a, b, _⟩ := sofaPass_rel (RH.stepRel K ts tsIdx ci 0) all l s r h hv
  exact ⟨a, b hs⟩

/-- every structure registered by the structure pass sits in the heap under the id of its element -/
theorem fsPass_fss_ids (K : Consts) (ts : TypeSystem) (tsIdx : Nat) (l : List JFs) (s r : RState)
    (hv : FssVals s.fss) (hs : ∀ q ∈ s.fss, ∀ a : Nat, q.2 = .ref a → ∃ o : Obj, s.heap[a]? = some o ∧ o.xid = some q.1)
    (h : fsPass K ts tsIdx l s = .ok r) :
    FssVals r.fss ∧ ∀ q ∈ r.fss, ∀ a : Nat, q.2 = .ref a → ∃ o : Obj, r.heap[a]? = some o ∧ o.xid = some q.1 := by
  obtain ⟨a, b, _⟩ := fsPass_rel (RH.stepRel K ts tsIdx 0 0) l s r h hv
  exact ⟨a, b hs⟩

/-- **the JSON loader reseeds above everything the document mentions and everything it created** -/
theorem loadJson_reseeds (K : Consts) (tsArg : TypeSystem) (tsIdx ci : Nat) (lenient mergeTs : Bool) (hp : Heap)
    (doc : JDoc) (ld : Loaded) (h : loadJson K tsArg tsIdx ci lenient mergeTs hp doc = .ok ld) :
    ∃ (ts : TypeSystem) (s1 s : RState),
      loadTs K tsArg mergeTs doc = .ok ts ∧ ld.ts = ts ∧
      sofaPass K ts tsIdx ci doc.fss doc.fss { cas := Cas.empty, heap := hp } = .ok s1 ∧
      fsPass K ts tsIdx doc.fss s1 = .ok s ∧ JBounded s ∧
      -- the generators
      s.maxId + 1 ≤ ld.cas.nextXid ∧ s.maxNum + 1 ≤ ld.cas.nextSofaNum ∧
      -- every element of the document has an id; it is below the generator for the structures, and for the sofas if no
      -- two sofa elements name the same non-initial view
      -- (without the side condition the clause is false on `docDup`: `∀ j ∈ doc.fss, ∃ i : Int, j.id = some i ∧ i < ld.cas.nextXid`)
      (∀ j ∈ doc.fss, ∃ i : Int, j.id = some i ∧ (j.ty ≠ SOFA ∨ SofaNamesDistinct doc.fss → i < ld.cas.nextXid)) ∧
      -- every id in the id table is below the generator
      (∀ q ∈ s.fss, q.1 < ld.cas.nextXid) ∧
      -- every registered structure was created under its id
      (∀ q ∈ s.fss, ∀ a : Nat, q.2 = .ref a → ∃ o : Obj, s.heap[a]? = some o ∧ o.xid = some q.1) ∧
      -- every object the load created carries no id or one below the generator
      (∀ (a : Nat) (o : Obj) (x : Int), hp.length ≤ a → ld.heap[a]? = some o → o.xid = some x →
        x < ld.cas.nextXid) ∧
      -- the view of every sofa of the document
      (∀ j ∈ doc.fss, j.ty = SOFA → ∃ (n : String) (v : View), sofaIdOf j = some n ∧
        Cas.getViewRec ld.cas n = some v ∧ v.sofa.xid < ld.cas.nextXid ∧ v.sofa.sofaNum < ld.cas.nextSofaNum) ∧
      (∀ q ∈ s.fss, ∀ (cI : Nat) (vn : String), q.2 = .sofa cI vn → ∃ v : View,
        Cas.getViewRec ld.cas vn = some v ∧ v.sofa.xid < ld.cas.nextXid ∧ v.sofa.sofaNum < ld.cas.nextSofaNum) := by
  obtain ⟨ts, s1, s, heap, v, hts, hs1, hs, hfix, hvp, rfl⟩ := loadJson_ok h
  -- the invariants of the two passes, from the empty id table
  have hB0 : JBounded { cas := Cas.empty, heap := hp } :=
    ⟨fun q hq => (by cases hq), fun q hq _ _ _ => (by cases hq)⟩
  have hV0 : FssVals ({ cas := Cas.empty, heap := hp } : RState).fss := fun q hq => by cases hq
  have hI0 : FssIds ({ cas := Cas.empty, heap := hp } : RState).fss hp := fun q hq => by cases hq
  have hN0 : Xmi.NewB hp.length hp 0 := by
    intro a o x hl ho _
    rw [List.getElem?_eq_none hl] at ho
    cases ho
  have hR := fsPass_rel (RB.stepRel K ts tsIdx ci) doc.fss s1 s hs
  have hB : JBounded s := hR.bounded ((sofaPass_rel (RB.stepRel K ts tsIdx ci) doc.fss doc.fss _ s1 hs1).bounded hB0)
  obtain ⟨hV1, hI1, hN1⟩ := sofaPass_rel (RH.stepRel K ts tsIdx ci hp.length) doc.fss doc.fss _ s1 hs1 hV0
  obtain ⟨hV, hI, hN⟩ := fsPass_rel (RH.stepRel K ts tsIdx ci hp.length) doc.fss s1 s hs hV1
  have hN : Xmi.NewB hp.length s.heap s.maxId := hN (hN1 hN0)
  -- deferred references (an id may be dropped, never invented), then the views pass from `maxId + 1` / `maxNum + 1`
  have hNf : Xmi.NewB hp.length heap s.maxId := fixUps_newB s.fss hV hp.length s.maxId s.deferred s.heap heap hfix hN
  obtain ⟨r1, r2, r3, r4⟩ := viewsPass_rv ts ci lenient s.fss hp.length doc.views _ v hvp
  have r3' : s.maxId + 1 ≤ v.cas.nextXid := r3
  have hNl : NewLt hp.length heap (s.maxId + 1) := by
    intro a o x hl ho hx
    have := hNf a o x hl ho hx
    omega
  have hvl : ∀ nm, Xmi.VB s.maxId s.maxNum s.cas nm → VL v.cas nm := by
    intro nm ⟨w, hw, b1, b2⟩
    exact r2 nm ⟨w, hw, show w.sofa.xid < s.maxId + 1 by omega, show w.sofa.sofaNum < s.maxNum + 1 by omega⟩
  have hkey : ∀ i, i ∈ s.fss.map (·.1) → i < v.cas.nextXid := by
    intro i hi
    obtain ⟨q, hq, rfl⟩ := List.mem_map.mp hi
    have := hB.1 q hq
    omega
  refine ⟨ts, s1, s, hts, rfl, hs1, hs, hB, r3, r4, ?_, fun q hq => hkey q.1 (List.mem_map_of_mem hq), hI (hI1 hI0),
    r1 hNl, ?_, fun q hq cI vn hqv => hvl vn (hB.2 q hq cI vn hqv)⟩
  · intro j hj
    by_cases hty : j.ty = SOFA
    · obtain ⟨i, n, hid, _, _⟩ := sofaPass_doc K ts tsIdx ci doc.fss doc.fss _ s1 hs1 j hj hty
      refine ⟨i, hid, fun hd => ?_⟩
      rcases hd with hd | hd
      · exact absurd hty hd
      · obtain ⟨i', hid', hi'⟩ := sofaPass_doc_distinct K ts tsIdx ci doc.fss doc.fss _ s1 hs1 hd
          (fun j' _ _ n' _ hni => empty_no_view n' hni) j hj hty
        rw [hid] at hid'
        cases hid'
        exact hkey i (hR.keys i hi')
    · obtain ⟨i, hid, hi⟩ := fsPass_doc K ts tsIdx ci doc.fss s1 s hs j hj hty
      exact ⟨i, hid, fun _ => hkey i hi⟩
  · intro j hj hty
    obtain ⟨i, n, _, hn, hvb⟩ := sofaPass_doc K ts tsIdx ci doc.fss doc.fss _ s1 hs1 j hj hty
    obtain ⟨w, hw, b1, b2⟩ := hvl n (hR.views n hvb)
    exact ⟨n, w, hn, hw, b1, b2⟩

/-- a document without a member `@xmiID`: every registered structure sits in the final heap under its id -/
theorem loadJson_keeps_ids (K : Consts) (tsArg : TypeSystem) (tsIdx ci : Nat) (lenient mergeTs : Bool) (hp : Heap)
    (doc : JDoc) (ld : Loaded) (ts : TypeSystem) (s1 s : RState)
    (hnox : ∀ j ∈ doc.fss, ∀ p ∈ j.feats, p.1 ≠ "@xmiID")
    (h : loadJson K tsArg tsIdx ci lenient mergeTs hp doc = .ok ld)
    (hts : loadTs K tsArg mergeTs doc = .ok ts)
    (hs1 : sofaPass K ts tsIdx ci doc.fss doc.fss { cas := Cas.empty, heap := hp } = .ok s1)
    (hs : fsPass K ts tsIdx doc.fss s1 = .ok s) :
    ∀ q ∈ s.fss, ∀ a : Nat, q.2 = .ref a → ∃ o : Obj, ld.heap[a]? = some o ∧ o.xid = some q.1 ∧
      q.1 < ld.cas.nextXid := by
  obtain ⟨ts', s1', s', heap, v, hts', hs1', hs', hfix, hvp, rfl⟩ := loadJson_ok h
  cases hts.symm.trans hts'
  cases hs1.symm.trans hs1'
  cases hs.symm.trans hs'
  have hV0 : FssVals ({ cas := Cas.empty, heap := hp } : RState).fss := fun q hq => by cases hq
  have hI0 : FssIds ({ cas := Cas.empty, heap := hp } : RState).fss hp := fun q hq => by cases hq
  have hB0 : JBounded { cas := Cas.empty, heap := hp } :=
    ⟨fun q hq => (by cases hq), fun q hq _ _ _ => (by cases hq)⟩
  have hD0 : NoXidDeferred { cas := Cas.empty, heap := hp } := fun d hd => by cases hd
  obtain ⟨hV1, hI1, _⟩ := sofaPass_rel (RH.stepRel K ts tsIdx ci 0) doc.fss doc.fss _ s1 hs1 hV0
  obtain ⟨_, hI, _⟩ := fsPass_rel (RH.stepRel K ts tsIdx ci 0) doc.fss s1 s hs hV1
  have hB : JBounded s := (fsPass_rel (RB.stepRel K ts tsIdx ci) doc.fss s1 s hs).bounded
    ((sofaPass_rel (RB.stepRel K ts tsIdx ci) doc.fss doc.fss _ s1 hs1).bounded hB0)
  -- without a member `@xmiID` no deferred entry targets an id, so the remaining passes keep every id
  have hD := fsPass_relP (RD.stepRel K ts tsIdx ci) doc.fss hnox s1 s hs
    (sofaPass_relP (RD.stepRel K ts tsIdx ci) doc.fss hnox doc.fss _ s1 hs1 hD0)
  have hI2 := fssIds_same (hI (hI1 hI0)) (fixUps_xsame s.fss s.deferred hD s.heap heap hfix)
  have hI3 := fssIds_same hI2 (viewsPass_xsame ts ci lenient s.fss doc.views _ v hI2 hvp)
  obtain ⟨_, _, r3, _⟩ := viewsPass_rv ts ci lenient s.fss hp.length doc.views _ v hvp
  intro q hq a hqa
  obtain ⟨o, ho, hx⟩ := hI3 q hq a hqa
  have := hB.1 q hq
  have r3' : s.maxId + 1 ≤ v.cas.nextXid := r3
  exact ⟨o, ho, hx, show q.1 < v.cas.nextXid by omega⟩

/-! ### Instances (evaluated by the kernel, `Proofs/JsonIdsDemo.lean`)

`doc1`: two sofas (ids 1, 8; sofaNums 1, 3), two `x.Tok` structures (ids 5, 6) referring to each other, one indexed.
The load succeeds, `nextXid = 9`, `nextSofaNum = 4`; the hypothesis of `loadJson_keeps_ids` holds. -/

example : IdsDemo.summary (loadJson Xmi.Demo.K Xmi.Demo.demoTS' 0 0 true false [] IdsDemo.doc1) =
    some ⟨9, 4, [("_InitialView", 1, 1), ("v", 8, 3)], [some 5, some 6]⟩ := IdsDemo.doc1_loads
example : ∀ j ∈ IdsDemo.doc1.fss, ∀ p ∈ j.feats, p.1 ≠ "@xmiID" := IdsDemo.doc1_nox
example : SofaNamesDistinct IdsDemo.doc1.fss := IdsDemo.doc1_distinct

/-- the instances behind the differences listed in the header -/
example : IdsDemo.summary (loadJson Xmi.Demo.K Xmi.Demo.demoTS' 0 0 true false [] IdsDemo.docView) =
    some ⟨7, 3, [("_InitialView", 1, 1), ("w", 6, 2)], [some 5]⟩ := IdsDemo.docView_loads
example : IdsDemo.summary (loadJson Xmi.Demo.K Xmi.Demo.demoTS' 0 0 false false [] IdsDemo.docDangling) =
    some ⟨6, 2, [("_InitialView", 1, 1)], [none]⟩ := IdsDemo.docDangling_loads
example : IdsDemo.summary (loadJson Xmi.Demo.K Xmi.Demo.demoTS' 0 0 true false [] IdsDemo.docDangling2) =
    some ⟨7, 2, [("_InitialView", 1, 1)], [some 6]⟩ := IdsDemo.docDangling2_loads
example : IdsDemo.summary (loadJson Xmi.Demo.K Xmi.Demo.demoTS' 0 0 false false [] IdsDemo.docDup) =
    some ⟨3, 3, [("_InitialView", 1, 1), ("v", 2, 2)], []⟩ := IdsDemo.docDup_loads
example : ∃ ld, loadJson Xmi.Demo.K Xmi.Demo.demoTS' 0 0 false false [] IdsDemo.docDup = .ok ld ∧
    ∃ j ∈ IdsDemo.docDup.fss, j.id = some 3 ∧ ¬ (3 < ld.cas.nextXid) := IdsDemo.docDup_not_below
example : ¬ SofaNamesDistinct IdsDemo.docDup.fss := IdsDemo.docDup_not_distinct
example : IdsDemo.summary (loadJson Xmi.Demo.K Xmi.Demo.demoTS' 0 0 false false [] IdsDemo.docDupInit) =
    some ⟨6, 5, [("_InitialView", 5, 4)], []⟩ := IdsDemo.docDupInit_loads
example : IdsDemo.summary (loadJson Xmi.Demo.K Xmi.Demo.demoTS' 0 0 false false [] IdsDemo.docEmpty) =
    some ⟨1, 1, [("_InitialView", 1, 1)], []⟩ := IdsDemo.docEmpty_loads

#print axioms sofaPass_bounded
#print axioms fsPass_bounded
#print axioms sofaPass_fss_ids
#print axioms fsPass_fss_ids
#print axioms loadJson_reseeds
#print axioms loadJson_keeps_ids

end Cassis.Json
