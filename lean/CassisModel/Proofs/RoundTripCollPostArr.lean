/-
Round trip with collections, layer IA of `RoundTripColl_NOTES.md`: the second pass (`postFeature`) on one inlined ARRAY
feature of a general structure.  What the first pass left in the slot is read off the writer's equation for the kind
(`Slot1.read`); then a primitive array comes back from its attribute (`prim_inverse`), a StringArray from its child
elements (built in the first pass already) or, when empty, from the empty attribute, an FSArray from its id list.
-/
import CassisModel.Proofs.RoundTripCollLemmas
import CassisModel.Proofs.RoundTripCollElemWriter

namespace Cassis.Xmi.CIA
open Cassis.TS Cassis.Lex

section
variable (K : Consts) (ts : TypeSystem) (cass : List Cas) (H : Heap) (na : Int → Nat)
  (tsIdx ci' : Nat) (sofas : List (Int × PSofa)) (fss : List (Int × Nat))

theorem postFeature_parr_str (hpX : Heap) (a : Nat) (ty : String) (f : Feature) (o1 : Obj) (s : String) (ev : Val)
    (hname : f.name ≠ "sofa") (hprim : isPrimitive K ts f.range = false)
    (hty : isPrimitiveArray K ty = false) (hr1 : isPrimitiveArray K f.range = true)
    (hm : f.multi.getD false = false)
    (h1 : hpX[a]? = some o1) (h2 : alistGet? o1.slots f.name = some (.str s))
    (hparse : parsePrimArrayStr f.range s = .ok ev) :
    postFeature K ts tsIdx ci' sofas fss hpX a ty false f =
      Heap.setSlot (hpX ++ [{ ty := f.range, ts := tsIdx, xid := none, slots := [("elements", ev)] }]) a f.name
        (.ref hpX.length) := by
  unfold postFeature
  simp only [slot_getD_eq h1 h2, beq_eq_false_iff_ne.2 hname, Bool.false_eq_true, if_false, hprim, hty, hr1, hm,
    Bool.false_and, Bool.not_false, Bool.and_self, if_true, hparse]
  rfl

theorem postFeature_fsarr_str (hpX : Heap) (a : Nat) (ty : String) (f : Feature) (o1 : Obj) (s : String)
    (targets : List Nat)
    (hname : f.name ≠ "sofa") (hprim : isPrimitive K ts f.range = false)
    (hty : isPrimitiveArray K ty = false) (hr1 : isPrimitiveArray K f.range = false)
    (hr2 : isPrimitiveList K f.range = false) (hr3 : f.range = FS_ARRAY)
    (hm : f.multi.getD false = false)
    (h1 : hpX[a]? = some o1) (h2 : alistGet? o1.slots f.name = some (.str s))
    (hres : resolveIds fss (splitWs s) = .ok targets) :
    postFeature K ts tsIdx ci' sofas fss hpX a ty false f =
      Heap.setSlot
        (hpX ++ [{ ty := FS_ARRAY, ts := tsIdx, xid := none, slots := [("elements", .refs (targets.map some))] }])
        a f.name (.ref hpX.length) := by
  unfold postFeature
  rw [hr3] at hprim hr1 hr2
  simp only [slot_getD_eq h1 h2, beq_eq_false_iff_ne.2 hname, Bool.false_eq_true, if_false, hprim, hty, hr1, hr2, hm,
    Bool.false_and, hr3, beq_self_eq_true, Bool.not_false, Bool.and_self, Bool.or_true, if_true, hres]
  rfl

variable {o : Obj} {t : TypeRec} {f : Feature} (ht : find? ts o.ty = some t) (hf : f ∈ allFeatures t)
  (hnd : (ctorFields t).Nodup) (hi : isInline K f = true) (harr : isArray K f.range = true)
  {hpX : Heap} {a' : Nat} {o' : Obj} {w : Val}
include ht hf hnd hi harr

theorem done_arr {c : Nat} (m : Meets K ts cass H hpX o f a' o' (.ref c) w)
    (hr : isPrimitiveArray K f.range = true ∨ f.range = FS_ARRAY) {ev : Val}
    (hev : slot H c "elements" = some ev)
    (hpf : postFeature K ts tsIdx ci' sofas fss hpX a' o.ty false f =
      Heap.setSlot (hpX ++ [{ ty := f.range, ts := tsIdx, xid := none, slots := [("elements", elemsExp H na ev)] }]) a'
        f.name (.ref hpX.length)) :
    PostDone K ts cass H na tsIdx ci' sofas fss false hpX a' o f (.ref c) :=
  m.build hpf (fun ob hob => by rw [List.mem_singleton.1 hob]) fun hpY hfrz =>
    .inl ht hf hnd hi (.inl ⟨harr, ev, hev, ArrAt.frz ⟨_, List.getElem?_concat_length, rfl, rfl⟩ hfrz⟩)
      (.inl ⟨⟨_, _, hfrz.2 _ _ List.getElem?_concat_length rfl, rfl, rfl, rfl⟩, hr⟩)

theorem done_at {c addr : Nat} (m : Meets K ts cass H hpX o f a' o' (.ref c) w) {ev : Val}
    (hev : slot H c "elements" = some ev)
    (hat : ArrAt hpX addr (elemsExp H na ev)) (hty : ChainC.NewFor K hpX f.range addr)
    (hpf : postFeature K ts tsIdx ci' sofas fss hpX a' o.ty false f = .ok hpX) (hwa : w = .ref addr) :
    PostDone K ts cass H na tsIdx ci' sofas fss false hpX a' o f (.ref c) :=
  m.same hpf (hwa ▸ .inl ht hf hnd hi (.inl ⟨harr, ev, hev, hat⟩) hty)

variable {v : Val} (m : Meets K ts cass H hpX o f a' o' v w) (hname : NameOk f) (hm : f.multi.getD false = false)
  (hpa : isPrimitiveArray K o.ty = false)
include m hname hm hpa

omit hi harr hm hpa in
theorem post_none (hprim : isPrimitive K ts f.range = false) (e : v = .none) :
    PostDone K ts cass H na tsIdx ci' sofas fss false hpX a' o f v :=
  m.none ht hf hnd hname.2.1 hname.2.2.1 hname.2.2.2.2.2 hprim e

theorem post_prim (hr : PrimArrTy f.range) (hk : RangeKind K ts f.range true false true false false false)
    (hia : InlArr H (PrimElems f.range) v) : PostDone K ts cass H na tsIdx ci' sofas fss false hpX a' o f v := by
  have hsofa : f.name ≠ "sofa" := hname.2.2.2.2.2
  rcases hia with e | ⟨c, ev, rfl, hev, hP⟩
  · exact post_none K ts cass H na tsIdx ci' sofas fss ht hf hnd m hname hk.prim e
  · obtain ⟨hne, s, hshow⟩ := CG1.showPrimArray_ok hP
    have hw := m.slot
    rw [(m.s1.read rfl ht hf hnd (av := some s) (ks := []) fun a ho hann =>
      CG1.render_primarr K ts cass H a _ f o c ev s ho hname hm m.old hk.strArr hk.strList hk.primArr hev hne hshow
        hann).attr hsofa] at hw
    exact done_arr K ts cass H na tsIdx ci' sofas fss ht hf hnd hi harr m (.inl hk.primArr) hev
      (postFeature_parr_str K ts tsIdx ci' sofas fss hpX a' o.ty f o' s _ hsofa hk.prim hpa hk.primArr hm m.new hw
        (prim_inverse H na hr hP hshow))

theorem post_str (hr : f.range = STRING_ARRAY) (hk : RangeKind K ts f.range true false true false true false)
    (hia : InlArr H StrElems v) : PostDone K ts cass H na tsIdx ci' sofas fss false hpX a' o f v := by
  have hsofa : f.name ≠ "sofa" := hname.2.2.2.2.2
  rcases hia with e | ⟨c, ev, rfl, hev, hP⟩
  · exact post_none K ts cass H na tsIdx ci' sofas fss ht hf hnd m hname hk.prim e
  · have hv := m.old
    have hw := m.slot
    -- empty: written as the empty attribute
    have hempty : (ev = .refs [] ∨ ev = .strs []) → PostDone K ts cass H na tsIdx ci' sofas fss false hpX a' o f (.ref c) := by
      intro hemp
      rw [(m.s1.read rfl ht hf hnd (av := some "") (ks := []) fun a ho hann =>
        CG1.render_strarr_empty K ts cass H a _ f o c ev ho hname hm hv hk.strArr hev hemp hann).attr hsofa] at hw
      have hparse : parsePrimArrayStr f.range "" = .ok (elemsExp H na ev) := by
        rw [hr]
        rcases hemp with rfl | rfl <;> exact emptyArray_roundtrip _ (by simp [STRING_ARRAY])
      exact done_arr K ts cass H na tsIdx ci' sofas fss ht hf hnd hi harr m (.inl hk.primArr) hev
        (postFeature_parr_str K ts tsIdx ci' sofas fss hpX a' o.ty f o' "" _ hsofa hk.prim hpa hk.primArr hm m.new hw
          hparse)
    rcases hP with h | ⟨l, rfl⟩
    · exact hempty (.inl h)
    · by_cases hl : l = []
      · exact hempty (.inr (hl ▸ rfl))
      · -- written as child elements: the array was built in the first pass
        obtain ⟨addr, hwa, hty, hat⟩ := (m.s1.read rfl ht hf hnd (av := .none) (ks := l.map normTxt) fun a ho hann => by
          rw [CG1.render_strarr_cons K ts cass H a _ f o c l ho hname hm hv hk.strArr hev hl hann]
          unfold featOut; rw [List.map_map]; rfl).2 (fun h => hl (List.map_eq_nil_iff.mp h))
        rcases hat with ⟨_, hat⟩ | ⟨h, _⟩
        · exact done_at K ts cass H na tsIdx ci' sofas fss ht hf hnd hi harr m hev
            (by rw [elemsExp_strs H na hl]; exact hat) hty
            (postFeature_built K ts tsIdx ci' sofas fss hpX a' o.ty f o' addr hsofa hk.prim hpa
              (by rw [hk.primArr]; rfl) hm m.new (hwa ▸ hw)) hwa
        · rw [hk.primArr] at h; cases h

theorem post_fs {a : Nat} (ho : H[a]? = some o) (hr : f.range = FS_ARRAY)
    (hk : RangeKind K ts f.range false false true false false false)
    (htgt : ∀ b, Target K ts H a b → Resolves H fss na b) (hia : InlArr H (FsElems H) v) :
    PostDone K ts cass H na tsIdx ci' sofas fss false hpX a' o f v := by
  have hsofa : f.name ≠ "sofa" := hname.2.2.2.2.2
  rcases hia with e | ⟨c, ev, rfl, hev, l, rfl, hl⟩
  · exact post_none K ts cass H na tsIdx ci' sofas fss ht hf hnd m hname hk.prim e
  · have hv := m.old
    have hw := m.slot
    rw [(m.s1.read rfl ht hf hnd (av := some (joinSp (l.map (idTok H)))) (ks := []) fun a ho hann =>
      CG1.render_fsarr K ts cass H a _ f o c _ _ ho hname hm hv hk.strArr hk.strList hk.primArr hk.primList hr hev
        (CG1.refIds_ok H l hl) hann).attr hsofa] at hw
    have hres : ∀ b ∈ l, Resolves H fss na b := fun b hb =>
      htgt b ⟨o, t, ho, ht, .inr (.inl ⟨f, hf, hi, hr, c, l.map some, hv, hev, List.mem_map.2 ⟨b, hb, rfl⟩⟩)⟩
    refine done_arr K ts cass H na tsIdx ci' sofas fss ht hf hnd hi harr m (.inr hr) hev ?_
    rw [← fs_elemsExp H fss na l hres, hr]
    exact postFeature_fsarr_str K ts tsIdx ci' sofas fss hpX a' o.ty f o' _ _ hsofa hk.prim hpa hk.primArr
      hk.primList hr hm m.new hw (fs_resolve H fss na l hres)

end

end Cassis.Xmi.CIA
