/-
Layer L of `RoundTripColl_NOTES.md`: what `loadXmi` makes of a document `saveXmi` wrote for a CAS of the fragment `CollFs`, as
one structure (`XLd`): the relations the round-trip proof establishes (`HeapRel … E3c`, `CollsAt`, the view relation, the
view contents), the *types* of the collection objects the reader made for inlined collections (`NewFor`; the pass
invariants `KidAt`, `Slot2` carry them from where the objects are built) and the reseeded generators; `xmi_core_coll` says
that the reader produces it.  The fixpoint, the conversion chains and the comparable text start from here (the namespace
`ChainC` is that of the chains).

For the chains (C16 with collections, XMI → CAS → JSON → CAS): the conclusions of `xmi_roundtrip_coll` in the form the
composition uses, over any heap on which the CAS is well formed (`xmi_roundtrip_coll_weak`); for the chains that end in
XMI, the writer succeeds on a CAS whose collected structures satisfy `LOkC` (`saveXmi_of_lokC`).
-/
import CassisModel.Proofs.RoundTripColl

namespace Cassis.ChainC
open Cassis.TS Cassis.Traverse Cassis.Xmi

/-- what is known about the CAS `ld` loaded from the document written for `c` (heap `H`, collected structures `L`);
    `na` gives the new addresses, `ia` the addresses of the inlined collections -/
structure XLd (K : Consts) (ts : TypeSystem) (c : Cas) (ci : Nat) (H : Heap) (L : List (Int × Nat)) (ci' : Nat)
    (na : Int → Nat) (ia : Int → String → Nat) (ld : Xmi.Loaded) : Prop where
  lok : LOkC K ts c ci H L
  naOk : NaOk H.length L na
  rel : HeapRel H L na (E3c K ts H na ia ci') ld.heap
  colls : CollsAt K ts H L na ia ld.heap
  views : ViewsRel H na c ld.cas
  content : ld.cas.views.map (viewContent ld.heap) = c.views.map (viewContent H)
  /-- the collection inlined in a slot is typed by the range of the feature -/
  typed : ∀ q ∈ L, ∀ (o : Obj), H[q.2]? = some o → ∀ (n : String) (cc : Nat), alistGet? o.slots n = some (.ref cc) →
    inlineSlot K ts o n = true → ∀ (t : TypeRec) (f : Feature), find? ts o.ty = some t → f ∈ allFeatures t →
    f.name = n → NewFor K ld.heap f.range (ia q.1 n)
  next_pos : 0 < ld.cas.nextXid
  ids_below : ∀ (a : Nat) (o : Obj) (x : Int), H.length ≤ a → ld.heap[a]? = some o → o.xid = some x → x < ld.cas.nextXid
  sofas_below : ∀ nv ∈ c.views, nv.2.sofa.xid < ld.cas.nextXid

theorem ListAt.noId {hp : Heap} {a : Nat} {vs : List Val} (h : ListAt hp a vs) :
    ∃ o : Obj, hp[a]? = some o ∧ o.xid = none := by
  cases h with
  | nil h1 h2 _ => exact ⟨_, h1, h2⟩
  | cons h1 h2 _ _ _ => exact ⟨_, h1, h2⟩

/-- the reader's record over the document as written (the views in their order, the new objects behind `H`) is `XLd` -/
theorem XLd.of_read {K : Consts} {ts : TypeSystem} {cass : List Cas} {c : Cas} {ci : Nat} {H : Heap}
    {L : List (Int × Nat)} {ci' : Nat} {na : Int → Nat} {p : Pass1} {hp2 : Heap} {ld : Xmi.Loaded}
    (r : LPC.Read K ts cass c H L ci' na c.views p H hp2 ld) (hL : LOkC K ts c ci H L) (hna : NaOk H.length L na) :
    XLd K ts c ci H L ci' na (iaOf hp2 na) ld :=
  { lok := hL, naOk := hna, rel := r.rel, colls := r.colls, views := viewsRelL_iff_all2.mpr r.views, content := r.content,
    typed := r.typed, next_pos := r.next_pos, ids_below := r.ids_below,
    sofas_below := fun nv hnv => (r.sofas_below nv hnv).1 }

/-- **what the reader makes of the written document** -/
theorem xmi_core_coll (K : Consts) (ts : TypeSystem) (cass : List Cas) (ci : Nat) (c : Cas) (hp : Heap)
    (tsIdx ci' : Nat) (doc : XDoc) (st : St)
    (hc : cass[ci]? = some c) (hwf : RTWf c hp) (hnull : NullOk ts)
    (hsave : saveXmi K ts cass ci hp = .ok (doc, st))
    (hcoll : ∀ q ∈ st.allFs, CollFs K ts c ci st.heap q.2)
    (hmem : ∀ nv ∈ c.views, ∀ e ∈ Index.all nv.2.idx, Xmi.slot st.heap e.oid "sofa" ≠ some .none)
    (hmok : MembersOk c st.heap) :
    ∃ (na : Int → Nat) (ia : Int → String → Nat) (ld : Xmi.Loaded),
      loadXmi K ts tsIdx ci' false st.heap doc = .ok ld ∧
      XLd K ts c ci st.heap (sortById st.allFs) ci' na ia ld := by
  have hL := lokC_of_save hc hwf hsave hcoll
  obtain ⟨na, p, hp2, ld, _, _, hload, hna, _, _, r⟩ :=
    xmi_passes_coll K ts cass ci c hp hp tsIdx ci' doc st hc hwf hnull hsave hL hmem hmok
  exact ⟨na, iaOf hp2 na, ld, hload, XLd.of_read r hL hna⟩

theorem xmi_roundtrip_coll_weak (K : Consts) (ts : TypeSystem) (cass : List Cas) (ci : Nat) (c : Cas) (hp0 hp : Heap)
    (tsIdx ci' : Nat) (doc : XDoc) (st : St)
    (hc : cass[ci]? = some c) (hwf : RTWf c hp0) (hnull : NullOk ts)
    (hsave : saveXmi K ts cass ci hp = .ok (doc, st))
    (hL : LOkC K ts c ci st.heap (sortById st.allFs))
    (hmem : ∀ nv ∈ c.views, ∀ e ∈ Index.all nv.2.idx, Xmi.slot st.heap e.oid "sofa" ≠ some .none)
    (hmok : MembersOk c st.heap) :
    ∃ (p : Pass1) (ld : Xmi.Loaded),
      pass1 K ts tsIdx false doc { heap := st.heap } = .ok p ∧
      loadXmi K ts tsIdx ci' false st.heap doc = .ok ld ∧
      (∀ q ∈ sortById st.allFs, ∃ (a' : Nat) (o o' : Obj), lookupFs p.fss q.1 = .ok a' ∧
          st.heap[q.2]? = some o ∧ ld.heap[a']? = some o' ∧ o'.ty = o.ty ∧ o'.xid = some q.1 ∧
          ∀ t : TypeRec, find? ts o.ty = some t → ∀ f ∈ allFeatures t,
            featContentC K ld.heap a' f = featContentC K st.heap q.2 f) ∧
      ld.cas.views.map (viewContent ld.heap) = c.views.map (viewContent st.heap) := by
  obtain ⟨_, p, _, ld, hp1, _, hload, _, _, _, r⟩ :=
    xmi_passes_coll K ts cass ci c hp0 hp tsIdx ci' doc st hc hwf hnull hsave hL hmem hmok
  exact ⟨p, ld, hp1, hload, fun _ hq => r.found hL hq, r.content⟩

end Cassis.ChainC

namespace Cassis
open Cassis.TS Cassis.Traverse Cassis.Xmi

theorem saveXmi_of_lokC {K : Consts} {ts : TypeSystem} {cass : List Cas} {ci : Nat} {c : Cas} {hp : Heap} {st : St}
    (tsIdx : Nat) (hc : cass[ci]? = some c) (hfa : findAllFs K ts {} hp c.nextXid (defaultSeeds c) = .ok st)
    (hheap : st.heap = hp) (hL : LOkC K ts c ci hp (sortById st.allFs)) :
    ∃ docx : XDoc, saveXmi K ts cass ci hp = .ok (docx, st) := by
  have helem : Elem1Stmt K ts cass hp tsIdx (CollFs K ts c ci hp) := by
    intro a y hP hy
    rcases hP with hg | ha
    · exact gen_elem1 K ts _ ci c hp tsIdx hc a y hg hy
    · exact arr_elem1 K ts _ hp tsIdx a y ha hy
  obtain ⟨es, hes⟩ := Cassis.Xmi.CAS.renderAll_ok K ts cass hp tsIdx _ helem
    (sortById st.allFs) hL.coll (fun q hq => (hL.ids q hq).1)
  exact ⟨_, saveXmi_ok_iff.mpr ⟨c, es, hc, hfa, by rw [hheap]; exact hes, rfl⟩⟩

end Cassis
