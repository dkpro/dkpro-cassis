/-
The instance `UnrelDemo` (`Spec/ChainEmbLocal.lean`: `FlagCoherentChain` without `FlagCoherent`, see
`Properties/C16ChainEmbedded3.lean`) is `Writable`, has no `%` names and passes the test `chainJXAppliesB`: checked by the
kernel (`unrelDemo_evals`, `Proofs/InstancesEmb.lean`) on the type system `tsS` evaluated with the structurally recursive
`applyOpS`; `ts_eq` carries the facts over to `ts`.
-/
import CassisModel.Proofs.ChainEmbDemo

namespace Cassis.Json.UnrelDemo

theorem ts_eq : ts = tsS := by unfold ts tsS; rw [applyOp_eq_S]

theorem writable : Writable Gen.consts ts := by rw [ts_eq]; exact unrelDemo_evals.writable
theorem noPct : NoPercentNames ts := by rw [ts_eq]; exact unrelDemo_evals.noPct
theorem chainJX_applies : chainJXAppliesB Gen.consts ts [cas] 0 hp = true := by rw [ts_eq]; exact unrelDemo_evals.chainJX

end Cassis.Json.UnrelDemo
