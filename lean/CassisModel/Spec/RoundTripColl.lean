/-
Specification-side definitions for the XMI round trip on the *whole* format: structures whose features may also be
arrays and lists, inlined (`multipleReferencesAllowed` false or unset) or shared (written as structures of their own).

What a feature *means* is compared deeply: an inlined array or list is its sequence of elements (XMI does not keep
the identity of the collection object), with the one equivalence the format forces: inside string arrays and lists a null
element and the empty string are the same.  A shared collection is a reference to the collection object (by its xmi:id),
and the collection object is a structure of its own whose `elements` / `head` / `tail` are compared like any feature.
-/
import CassisModel.Spec.RoundTrip

namespace Cassis.Xmi
open Cassis.TS Cassis.Traverse

/-- the meaning of a feature value, deep for inlined collections -/
inductive CVal where
  | none
  | int (i : Int)
  | str (s : String)
  | bool (b : Bool)
  | float (t : String)
  | ref (id : Option Int)
  | sofa (view : String)
  | elems (l : List CVal)
  | other
deriving Repr, Inhabited

/-- the elements of an array value (`fs.elements`): references by the id of their target; null and `""` coincide in
    string arrays; an empty list has no element kind -/
def elemVals (hp : Heap) : Val → List CVal
  | .ints l => l.map .int
  | .bools l => l.map .bool
  | .floats l => l.map .float
  | .strs l => l.map (fun s => match s with
      | some s => if s == "" then .none else .str s
      | none => .none)
  | .refs l => l.map (fun r => match r with
      | some b => .ref (xidOf hp b)
      | none => .none)
  | _ => []

/-- one element of a list (`head`) -/
def headVal (hp : Heap) (isStr : Bool) : Val → CVal
  | .none => .none
  | .int i => .int i
  | .str s => if isStr && s == "" then .none else .str s
  | .bool b => .bool b
  | .float t => .float t
  | .ref b => .ref (xidOf hp b)
  | _ => .other

/-- the heads along the `tail` chain of a list (fuel = spine budget) -/
def listVals (hp : Heap) (isStr : Bool) : Nat → Val → List CVal
  | 0, _ => []
  | f+1, .ref a =>
    match slot hp a "head" with
    | none => []
    | some hd => headVal hp isStr hd :: listVals hp isStr f ((slot hp a "tail").getD .none)
  | _, _ => []

/-- a plain value: references (also to shared collection objects) by the id of their target; raw element lists (the
    `elements` slot of an array object) by their elements -/
def cvalOf (hp : Heap) : Val → CVal
  | .none => .none
  | .int i => .int i
  | .str s => .str s
  | .bool b => .bool b
  | .float t => .float t
  | .ref a => .ref (xidOf hp a)
  | .sofa _ vn => .sofa vn
  | .attr _ => .other
  | v => .elems (elemVals hp v)

/-- is the feature written inline? (`multipleReferencesAllowed` false or unset, range an array or list type) -/
def isInline (K : Consts) (f : Feature) : Bool := !(f.multi.getD false) && (isArray K f.range || isList K f.range)

/-- the content of feature `f` of the structure at `a` -/
def featContentC (K : Consts) (hp : Heap) (a : Nat) (f : Feature) : CVal :=
  let v := (slot hp a f.name).getD .none
  if isInline K f then
    match v with
    | .ref c =>
      if isArray K f.range then .elems (elemVals hp ((slot hp c "elements").getD .none))
      else .elems (listVals hp (f.range == STRING_LIST) (hp.length + 1) v)
    | w => cvalOf hp w
  else cvalOf hp v

end Cassis.Xmi
