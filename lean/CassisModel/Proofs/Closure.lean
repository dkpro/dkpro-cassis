/-
Proofs for C02 (`TypeSystem.transitive_closure`, model `closureStep`).

`Run` is the unfuelled search (ends only with an empty queue).  `run_of_fuel` shows, with the potential
`queue length + Σ cost of the registered, non-predefined, not yet visited first records`, that the fuelled model is a
complete run whenever the potential fits into the fuel; `closureFuel` does.  The closure invariant, the seeds property
and the "nothing added to a closed set" property are inductions along `Run`; the membership facts hold for any fuel.
-/
import CassisModel.Spec.Closure
import CassisModel.Proofs.Lists
namespace Cassis.TS
namespace Closure
variable (K : Consts) (ts : TypeSystem)

def pushed (vis : List String) (t : TypeRec) : List String :=
  (match t.super with
    | some s => if vis.contains s then [] else [s]
    | none => []) ++
  (allFeatures t).flatMap (fun f =>
    (if vis.contains f.range then [] else [f.range]) ++
    (match f.elem with | some e => if vis.contains e then [] else [e] | none => []))

/-- what a record refers to: its supertype, the ranges and element types of its features -/
def Ref (t : TypeRec) (x : String) : Prop :=
  t.super = some x ∨ ∃ f ∈ allFeatures t, f.range = x ∨ f.elem = some x

theorem mem_unless {vis : List String} {a x : String} :
    x ∈ (if vis.contains a then [] else [a]) ↔ x = a ∧ x ∉ vis := by
  by_cases h : a ∈ vis
  · simp only [List.contains_iff_mem, h, if_true, List.not_mem_nil, false_iff, not_and]
    exact fun e hx => hx (e ▸ h)
  · simp only [List.contains_iff_mem, h, if_false, List.mem_singleton]
    exact ⟨fun e => ⟨e, e ▸ h⟩, And.left⟩

theorem mem_unless_opt {vis : List String} {o : Option String} {x : String} :
    x ∈ (match o with | some a => if vis.contains a then [] else [a] | none => []) ↔ o = some x ∧ x ∉ vis := by
  cases o with
  | none => simp
  | some a => rw [mem_unless, Option.some.injEq, eq_comm]

theorem mem_pushed {vis : List String} {t : TypeRec} {x : String} :
    x ∈ pushed vis t ↔ x ∉ vis ∧ Ref t x := by
  simp only [pushed, Ref, List.mem_append, List.mem_flatMap, mem_unless, mem_unless_opt]
  constructor
  · rintro (⟨h, hv⟩ | ⟨f, hf, ⟨h, hv⟩ | ⟨h, hv⟩⟩)
    · exact ⟨hv, Or.inl h⟩
    · exact ⟨hv, Or.inr ⟨f, hf, Or.inl h.symm⟩⟩
    · exact ⟨hv, Or.inr ⟨f, hf, Or.inr h⟩⟩
  · rintro ⟨hv, h | ⟨f, hf, h | h⟩⟩
    · exact Or.inl ⟨h, hv⟩
    · exact Or.inr ⟨f, hf, Or.inl ⟨h.symm, hv⟩⟩
    · exact Or.inr ⟨f, hf, Or.inr ⟨h, hv⟩⟩

theorem length_unless (vis : List String) (a : String) : (if vis.contains a then [] else [a]).length ≤ 1 := by
  split <;> simp

theorem length_unless_opt (vis : List String) (o : Option String) :
    (match o with | some a => if vis.contains a then [] else [a] | none => []).length ≤ 1 := by
  cases o with
  | none => simp
  | some a => exact length_unless vis a

theorem length_pushed (vis : List String) (t : TypeRec) :
    (pushed vis t).length ≤ 1 + 2 * (allFeatures t).length := by
  have h2 : ∀ l : List Feature, (l.flatMap (fun f =>
      (if vis.contains f.range then [] else [f.range]) ++
      (match f.elem with | some e => if vis.contains e then [] else [e] | none => []))).length
        ≤ 2 * l.length := by
    intro l
    induction l with
    | nil => simp
    | cons f fs ih =>
      have a := length_unless vis f.range
      have b := length_unless_opt vis f.elem
      simp only [List.flatMap_cons, List.length_append, List.length_cons]
      omega
  have h1 := length_unless_opt vis t.super
  have := h2 (allFeatures t)
  simp only [pushed, List.length_append]
  omega

theorem step_skip {v : List String} {n : String} (h : Covered K ts v n) (fuel : Nat) (rest : List String) :
    closureStep K ts v (fuel+1) (n :: rest) = closureStep K ts v fuel rest := by
  rw [closureStep]
  split
  · rfl
  · split
    · rfl
    · split
      · rfl
      · rename_i h1 h2 _ _ h3
        rcases h with h | h | h
        · exact absurd (List.contains_iff_mem.mpr h) h1
        · exact absurd h h2
        · rw [h] at h3; cases h3

theorem step_visit {v : List String} {n : String} {t : TypeRec} (h1 : n ∉ v)
    (h2 : K.predefined.contains n = false) (h3 : find? ts n = some t) (fuel : Nat) (rest : List String) :
    closureStep K ts v (fuel+1) (n :: rest) =
      closureStep K ts (v ++ [n]) fuel (rest ++ pushed (v ++ [n]) t) := by
  rw [closureStep]
  simp only [List.contains_iff_mem, h1, h2, h3, if_false, pushed, List.append_assoc]
  rfl

theorem not_covered {v : List String} {n : String} (h : ¬ Covered K ts v n) :
    n ∉ v ∧ K.predefined.contains n = false ∧ ∃ t, find? ts n = some t := by
  refine ⟨fun hv => h (Or.inl hv), ?_, ?_⟩
  · cases hp : K.predefined.contains n with
    | false => rfl
    | true => exact absurd (Or.inr (Or.inl hp)) h
  · cases hf : find? ts n with
    | none => exact absurd (Or.inr (Or.inr hf)) h
    | some t => exact ⟨t, rfl⟩

/-- the unfuelled search: `Run v q v'` = from visited `v` and queue `q` the search ends (queue empty) with `v'` -/
inductive Run : List String → List String → List String → Prop
  | done (v) : Run v [] v
  | skip {v n rest v'} : Covered K ts v n → Run v rest v' → Run v (n :: rest) v'
  | visit {v n rest t v'} : n ∉ v → K.predefined.contains n = false → find? ts n = some t →
      Run (v ++ [n]) (rest ++ pushed (v ++ [n]) t) v' → Run v (n :: rest) v'

def cost (t : TypeRec) : Nat := 2 + 2 * (allFeatures t).length

/-- `t` is the record its name resolves to, not predefined, not yet visited -/
def open? (v : List String) (t : TypeRec) : Bool :=
  find? ts t.name == some t && !K.predefined.contains t.name && !v.contains t.name

def pot (v : List String) : Nat := ((ts.types.filter (open? K ts v)).map cost).sum

theorem pot_visit {v : List String} {n : String} {t : TypeRec} (h1 : n ∉ v)
    (h2 : K.predefined.contains n = false) (h3 : find? ts n = some t) :
    pot K ts (v ++ [n]) + cost t ≤ pot K ts v := by
  have hn : t.name = n := by simpa using List.find?_some h3
  refine Det.sum_filter_drop cost (open? K ts v) (open? K ts (v ++ [n])) ts.types ?_
    (List.mem_of_find?_eq_some h3) ?_ ?_
  · intro x _ hx
    simp only [open?, Bool.and_eq_true, Bool.not_eq_true', List.contains_eq_mem, List.mem_append,
      decide_eq_false_iff_not] at hx ⊢
    exact ⟨hx.1, fun h => hx.2 (Or.inl h)⟩
  · have h2' : n ∉ K.predefined := fun hc => by rw [← List.contains_iff_mem, h2] at hc; cases hc
    simp [open?, hn, h3, h2', h1]
  · simp [open?, hn]

theorem pot_le (v : List String) : pot K ts v ≤ (ts.types.map cost).sum := by
  have := Det.sum_filter_le cost (fun _ => true) (open? K ts v) ts.types (fun _ _ _ => rfl)
  rwa [List.filter_eq_self.2 (fun _ _ => rfl)] at this

theorem run_of_fuel : ∀ (fuel : Nat) (v q : List String), q.length + pot K ts v ≤ fuel →
    Run K ts v q (closureStep K ts v fuel q) := by
  intro fuel
  induction fuel with
  | zero =>
    intro v q h
    have : q = [] := List.eq_nil_of_length_eq_zero (by omega)
    subst this
    rw [closureStep]; exact Run.done v
  | succ fuel ih =>
    intro v q h
    cases q with
    | nil => simp only [closureStep]; exact Run.done v
    | cons n rest =>
      by_cases hs : Covered K ts v n
      · rw [step_skip K ts hs]
        exact Run.skip hs (ih v rest (by simp at h; omega))
      · obtain ⟨h1, h2, t, h3⟩ := not_covered K ts hs
        rw [step_visit K ts h1 h2 h3]
        refine Run.visit h1 h2 h3 (ih _ _ ?_)
        have hp := pot_visit K ts h1 h2 h3
        have hl := length_pushed (v ++ [n]) t
        simp only [List.length_append, List.length_cons] at h ⊢
        unfold cost at hp
        omega

theorem run_closureFuel (seeds : List String) :
    Run K ts [] seeds (closureStep K ts [] (closureFuel ts seeds) seeds) := by
  apply run_of_fuel
  have := pot_le K ts []
  unfold closureFuel
  unfold cost at this
  omega

/-- what the visited records refer to is visited, waiting in the queue, or need not be declared -/
def Inv (v q : List String) : Prop :=
  ∀ n ∈ v, ∀ t, find? ts n = some t → ∀ x, Ref t x → x ∈ q ∨ Covered K ts v x

theorem run_inv {v q v' : List String} (r : Run K ts v q v') : Inv K ts v q → Inv K ts v' [] := by
  induction r with
  | done v => exact id
  | @skip v n rest v' hs _ ih =>
    intro hi
    apply ih
    intro m hm t ht x hx
    rcases hi m hm t ht x hx with h | h
    · rcases List.mem_cons.1 h with rfl | h
      · exact Or.inr hs
      · exact Or.inl h
    · exact Or.inr h
  | @visit v n rest t v' h1 h2 h3 _ ih =>
    intro hi
    apply ih
    intro m hm t' ht' x hx
    by_cases hx' : x ∈ v ++ [n]
    · exact Or.inr (Or.inl hx')
    rcases List.mem_append.1 hm with hm | hm
    · rcases hi m hm t' ht' x hx with h | h | h
      · rcases List.mem_cons.1 h with rfl | h
        · exact absurd (List.mem_append_right _ (List.mem_singleton.2 rfl)) hx'
        · exact Or.inl (List.mem_append_left _ h)
      · exact absurd (List.mem_append_left _ h) hx'
      · exact Or.inr (Or.inr h)
    · rw [List.mem_singleton.1 hm, h3] at ht'
      cases ht'
      exact Or.inl (List.mem_append_right _ (mem_pushed.2 ⟨hx', hx⟩))

theorem closed_of_inv {v : List String} (h : Inv K ts v []) : ClosedUnder K ts v := by
  intro n hn t ht
  have key : ∀ x, Ref t x → Covered K ts v x := fun x hx => (h n hn t ht x hx).resolve_left nofun
  exact ⟨fun s hs => key s (Or.inl hs),
    fun f hf => ⟨key _ (Or.inr ⟨f, hf, Or.inl rfl⟩), fun e he => key e (Or.inr ⟨f, hf, Or.inr he⟩)⟩⟩

theorem run_seeds {v q v' : List String} (r : Run K ts v q v') :
    ∀ x, (x ∈ v ∨ x ∈ q) → K.predefined.contains x = false → (find? ts x).isSome = true → x ∈ v' := by
  induction r with
  | done v =>
    intro x hx _ _
    rcases hx with h | h
    · exact h
    · cases h
  | @skip v n rest v' hs _ ih =>
    intro x hx hp hf
    apply ih x _ hp hf
    rcases hx with h | h
    · exact Or.inl h
    · rcases List.mem_cons.1 h with rfl | h
      · rcases hs with h | h | h
        · exact Or.inl h
        · rw [h] at hp; cases hp
        · rw [h] at hf; cases hf
      · exact Or.inr h
  | @visit v n rest t v' h1 h2 h3 _ ih =>
    intro x hx hp hf
    apply ih x _ hp hf
    rcases hx with h | h
    · exact Or.inl (List.mem_append_left _ h)
    · rcases List.mem_cons.1 h with rfl | h
      · exact Or.inl (List.mem_append_right _ (List.mem_singleton.2 rfl))
      · exact Or.inr (List.mem_append_left _ h)

theorem run_sub {S : List String} (hc : ClosedUnder K ts S) {v q v' : List String}
    (r : Run K ts v q v') :
    (∀ x ∈ v, x ∈ S) → (∀ x ∈ q, Covered K ts S x) → ∀ x ∈ v', x ∈ S := by
  induction r with
  | done v => exact fun h _ => h
  | @skip v n rest v' hs _ ih =>
    intro hv hq
    exact ih hv (fun x hx => hq x (List.mem_cons_of_mem _ hx))
  | @visit v n rest t v' h1 h2 h3 _ ih =>
    intro hv hq
    have hn : n ∈ S := by
      rcases hq n (List.mem_cons_self) with h | h | h
      · exact h
      · rw [h] at h2; cases h2
      · rw [h] at h3; cases h3
    apply ih
    · intro x hx
      rcases List.mem_append.1 hx with h | h
      · exact hv x h
      · rw [List.mem_singleton.1 h]; exact hn
    · intro x hx
      rcases List.mem_append.1 hx with h | h
      · exact hq x (List.mem_cons_of_mem _ h)
      · obtain ⟨_, hr⟩ := mem_pushed.1 h
        obtain ⟨c1, c2⟩ := hc n hn t h3
        rcases hr with hr | ⟨f, hf, hr | hr⟩
        · exact c1 x hr
        · rw [← hr]; exact (c2 f hf).1
        · exact (c2 f hf).2 x hr

theorem members_gen : ∀ (fuel : Nat) (v q : List String),
    (v.Nodup ∧ ∀ n ∈ v, K.predefined.contains n = false ∧ (find? ts n).isSome = true) →
    ((closureStep K ts v fuel q).Nodup ∧
      ∀ n ∈ closureStep K ts v fuel q, K.predefined.contains n = false ∧ (find? ts n).isSome = true) := by
  intro fuel
  induction fuel with
  | zero => intro v q h; rw [closureStep]; exact h
  | succ fuel ih =>
    intro v q h
    cases q with
    | nil => simp only [closureStep]; exact h
    | cons n rest =>
      by_cases hs : Covered K ts v n
      · rw [step_skip K ts hs]; exact ih v rest h
      · obtain ⟨h1, h2, t, h3⟩ := not_covered K ts hs
        rw [step_visit K ts h1 h2 h3]
        apply ih
        refine ⟨List.nodup_append.2 ⟨h.1, by simp, fun a ha b hb => ?_⟩, fun m hm => ?_⟩
        · rw [List.mem_singleton.1 hb]
          rintro rfl; exact h1 ha
        · rcases List.mem_append.1 hm with hm | hm
          · exact h.2 m hm
          · rw [List.mem_singleton.1 hm, h3]; exact ⟨h2, rfl⟩

/-- the closure is the least closed set that covers the seeds -/
theorem closure_least (seeds S : List String) (hc : ClosedUnder K ts S)
    (hs : ∀ x ∈ seeds, Covered K ts S x) : ∀ n ∈ closureStep K ts [] (closureFuel ts seeds) seeds, n ∈ S :=
  run_sub K ts hc (run_closureFuel K ts seeds) nofun hs

end Closure
end Cassis.TS
