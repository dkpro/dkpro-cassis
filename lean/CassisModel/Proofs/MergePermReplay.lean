/-
Order independence of `merge_typesystems`: the replay.  A successful run has left a type system `o`; replaying
declarations that `o` makes too (`ReplayOk`), in any order and any number of times, cannot fail and stays inside `o`
(`SubP o X`, `Proofs/MergeReplay.lean`), moving the names of `X` — with their subtrees — down step by step.  What makes
the comparison of supertypes on the partially merged tree agree with `o` is that no name of `X` lies, in `o`, above a
supertype that a name of `X` may have on the way (`ReplayOk.noX`, `hbo`).
-/
import CassisModel.Proofs.MergePermRun

namespace Cassis.TS

variable {X : String → Prop}

theorem addOwnFeatures_subP (K : Consts) (o : TypeSystem) (hfo : FeatInv o) (n : String)
    (hn : K.predefined.contains n = false) :
    ∀ (fs : List Feature) (ts : TypeSystem), Consistent ts → FeatInv ts → SubP o X ts → hasExact ts n = true →
      (∀ f ∈ fs, CovIn o n f) → ∃ ts', addOwnFeatures ts n fs = .ok ts' ∧ SubP o X ts' := by
  intro fs
  induction fs with
  | nil => intro ts _ _ hs _ _; exact ⟨ts, rfl, hs⟩
  | cons f fs ih =>
    intro ts hc hf hs hreg hcov
    have hcov' : CovIn o n { f with domain := n } := hcov f List.mem_cons_self
    obtain ⟨ts1, h1, hs1⟩ := addFeature_subP o hfo ts n { f with domain := n } hc hs hreg hcov'
    have hg1 : Grow K ts ts1 := addFeature_grow K hn h1
    obtain ⟨ts', h2, hs2⟩ := ih ts1 (consistent_addFeature ts ts1 n _ hc h1)
      (featInv_addFeature ts ts1 n _ hc hf h1) hs1 (hg1.reg n hreg) (fun x hx => hcov x (List.mem_cons_of_mem _ hx))
    exact ⟨ts', by simp only [addOwnFeatures, h1]; exact h2, hs2⟩

/-- what a step establishes in the three branches that re-parent nothing (new name, same supertype, no-op); the replay
    (`processDecl_replay`) reads `sub` -/
structure StepOut (K : Consts) (o : TypeSystem) (X : String → Prop) (s : MState) (d : Decl) (s' : MState) : Prop where
  cons : Consistent s'.ts
  feat : FeatInv s'.ts
  sub : SubP o X s'.ts
  grow : Grow K s.ts s'.ts
  merged : s'.merged = (if s.merged.contains d.name then s.merged else s.merged ++ [d.name])
  reg : hasExact s'.ts d.name = true
  back : ∀ y, hasExact s'.ts y = true → hasExact s.ts y = true ∨ y = d.name
  kidsKeep : ∀ y ty, find? s.ts y = some ty → y ≠ d.super →
    ∃ ty', find? s'.ts y = some ty' ∧ ty'.children = ty.children
  newLeaf : hasExact s.ts d.name = false → ∃ t', find? s'.ts d.name = some t' ∧ t'.children = []

theorem addOwn_frame (ts ts' : TypeSystem) (n : String) (fs : List Feature) (hc : Consistent ts)
    (h : addOwnFeatures ts n fs = .ok ts') :
    (∀ y, hasExact ts' y = hasExact ts y) ∧
    (∀ y t, find? ts y = some t → ∃ t', find? ts' y = some t' ∧ t'.children = t.children ∧ t'.super = t.super) := by
  have hsk := frame_skel.addOwnFeatures n fs ts ts' (fun _ _ => trivial) h hc.nodup
  refine ⟨fun y => hasExact_transfer hsk y, ?_⟩
  intro y t hy
  obtain ⟨t', ht', he⟩ := find?_transfer hsk.symm hy
  rw [tr_eq_iff] at he
  exact ⟨t', ht', he.2.2, he.2.1⟩

section
variable (K : Consts) (o : TypeSystem) (hfo : FeatInv o) (s : MState) (d : Decl)
  (hc : Consistent s.ts) (hf : FeatInv s.ts) (hs : SubP o X s.ts)
  (hcov : ∀ f ∈ d.own, CovIn o d.name f) (hu : K.predefined.contains d.name = false)
include hfo hc hf hs hcov hu

theorem stepP_new (hx : hasExact s.ts d.name = false) (hsup : hasExact s.ts d.super = true)
    (tn : TypeRec) (htn : find? o d.name = some tn) (hex : ¬ X d.name → tn.super = some d.super)
    (hanc : Anc o d.super d.name) (hnf : K.finalTypes.contains d.super = false) :
    ∃ s', processDecl K s d = .ok s' ∧ StepOut K o X s d s' := by
  obtain ⟨sup, hsupf⟩ := (hasExact_iff_find _ _).mp hsup
  obtain ⟨ts1, h1, hs1⟩ :=
    createType_subP K o hfo s.ts d.name d.super d.descr tn sup hc hf hs hx hsupf hnf htn hex hanc
  obtain ⟨_, C⟩ := createType_created_at K s.ts ts1 d.name d.super d.descr sup hc hf hx hsupf h1
  have hc1 := consistent_createType K s.ts ts1 _ _ _ hc hx h1
  have hf1 := featInv_createType K s.ts ts1 _ _ _ hc hf hx h1
  have hg1 : Grow K s.ts ts1 := Grow.of_createType hc hf hx h1
  have hreg1 : hasExact ts1 d.name = true := (hasExact_iff_find _ _).mpr ⟨_, C.new⟩
  obtain ⟨ts2, h2, hs2⟩ := addOwnFeatures_subP K o hfo d.name hu d.own ts1 hc1 hf1 hs1 hreg1 hcov
  obtain ⟨hc2, hf2, hg2, _⟩ := addOwnFeatures_run K d.name hu d.own ts1 ts2 hc1 hf1 hreg1 h2
  obtain ⟨b2, k2⟩ := addOwn_frame ts1 ts2 d.name d.own hc1 h2
  refine ⟨{ ts := ts2, merged := if s.merged.contains d.name then s.merged else s.merged ++ [d.name] },
    processDecl_ok_iff.mpr ⟨ts1, (declSuper_new hx).trans h1, h2, rfl⟩, hc2, hf2, hs2, hg1.trans hg2, rfl,
    hg2.reg _ hreg1, ?_, ?_, ?_⟩
  · intro y hy
    obtain ⟨t1, ht1⟩ := (hasExact_iff_find _ _).mp ((b2 y).symm.trans hy)
    obtain ⟨e, _⟩ | ⟨_, t, ht, _⟩ := C.cases ht1
    · exact Or.inr e
    · exact Or.inl ((hasExact_iff_find _ _).mpr ⟨t, ht⟩)
  · intro y ty hy hys
    obtain ⟨t2, ht2, hk2, _⟩ := k2 y _ (C.old hy)
    exact ⟨t2, ht2, hk2.trans (upd_children_ne (find?_name hy ▸ hys))⟩
  · intro _
    obtain ⟨t2, ht2, hk2, _⟩ := k2 d.name _ C.new
    exact ⟨t2, ht2, hk2⟩

theorem stepP_feats (hx : hasExact s.ts d.name = true) :
    ∃ ts2, addOwnFeatures s.ts d.name d.own = .ok ts2 ∧
      StepOut K o X s d { ts := ts2, merged := if s.merged.contains d.name then s.merged else s.merged ++ [d.name] } := by
  obtain ⟨ts2, h2, hs2⟩ := addOwnFeatures_subP K o hfo d.name hu d.own s.ts hc hf hs hx hcov
  obtain ⟨hc2, hf2, hg2, _⟩ := addOwnFeatures_run K d.name hu d.own s.ts ts2 hc hf hx h2
  obtain ⟨b2, k2⟩ := addOwn_frame s.ts ts2 d.name d.own hc h2
  refine ⟨ts2, h2, hc2, hf2, hs2, hg2, rfl, hg2.reg _ hx, ?_, ?_, ?_⟩
  · intro y hy
    exact Or.inl (by rw [← b2 y]; exact hy)
  · intro y ty hy _
    obtain ⟨t2, ht2, hk2, _⟩ := k2 y ty hy
    exact ⟨t2, ht2, hk2⟩
  · intro hn
    rw [hx] at hn; cases hn

theorem stepP_same (ex : TypeRec) (he : find? s.ts d.name = some ex) (hss : ex.super = some d.super) :
    ∃ s', processDecl K s d = .ok s' ∧ StepOut K o X s d s' := by
  obtain ⟨ts2, h2, hout⟩ := stepP_feats K o hfo s d hc hf hs hcov hu ((hasExact_iff_find _ _).mpr ⟨ex, he⟩)
  exact ⟨_, processDecl_ok_iff.mpr ⟨s.ts, declSuper_same he hss, h2, rfl⟩, hout⟩

theorem stepP_noop (ex : TypeRec) (exSup : String) (he : find? s.ts d.name = some ex) (hss : ex.super = some exSup)
    (hne : d.super ≠ exSup) (r1 : hasExact s.ts exSup = true) (r2 : hasExact s.ts d.super = true)
    (h1 : ¬ Anc s.ts exSup d.super) (h2 : Anc s.ts d.super exSup) :
    ∃ s', processDecl K s d = .ok s' ∧ StepOut K o X s d s' := by
  obtain ⟨ts2, h2', hout⟩ := stepP_feats K o hfo s d hc hf hs hcov hu ((hasExact_iff_find _ _).mpr ⟨ex, he⟩)
  refine ⟨_, processDecl_ok_iff.mpr ⟨s.ts, declSuper_noop he hss hne r1 r2 ?_ ?_, h2', rfl⟩, hout⟩
  · exact Bool.eq_false_iff.mpr fun hsb => h1 ((subsumes_iff_ancestor s.ts hc _ _ r1 r2).mp hsb)
  · exact (subsumes_iff_ancestor s.ts hc _ _ r2 r1).mpr h2

end

/-! ### A registered name moves down with its subtree -/

theorem subP_relink (o ts : TypeSystem) (name oldSup newSup : String) (ex : TypeRec) (hc : Consistent ts)
    (hs : SubP o X ts) (hX : X name) (hex : find? ts name = some ex) (hsup : ex.super = some oldSup)
    (hne : oldSup ≠ newSup) (hnn : name ≠ newSup) (hanc : Anc o newSup name) :
    SubP o X (relink ts name oldSup newSup) := by
  have hregn : hasExact ts name = true := (hasExact_iff_find _ _).mpr ⟨ex, hex⟩
  have hno : name ≠ oldSup := by
    intro e
    exact not_anc_of_super hc hex hsup (by rw [← e]; exact Anc.refl _ hregn)
  intro y r hr
  rw [find?_relink ts name oldSup newSup y hc.nodup] at hr
  cases hf0 : find? ts y with
  | none => rw [hf0] at hr; cases hr
  | some r0 =>
    rw [hf0] at hr
    simp only [Option.map_some, Option.some.injEq] at hr
    subst hr
    obtain ⟨to, hto, hr0⟩ := hs y r0 hf0
    have hyn : r0.name = y := find?_name hf0
    refine ⟨to, hto, ?_, ?_, ?_, ?_⟩
    · intro hXy
      have : r0.name ≠ name := by rw [hyn]; intro e; exact hXy (e ▸ hX)
      rw [relinkRec_super, if_neg this]; exact hr0.super hXy
    · intro s hss
      rw [relinkRec_super] at hss
      split at hss
      · rename_i e
        cases hss
        rw [← hyn, e]; exact hanc
      · exact hr0.superW s hss
    · intro f hfm
      simp only [eff, relinkRec_own, relinkRec_inh] at hfm
      exact hr0.feats f hfm
    · intro k hk
      rcases (relinkRec_children name oldSup newSup r0 k hno hnn hne).mp hk with ⟨h1, _⟩ | ⟨h1, h2⟩
      · exact hr0.kids k h1
      · rw [h2, ← hyn, h1]; exact hanc

theorem inheritFrom_subP (o : TypeSystem) (hfo : FeatInv o) (r : String) :
    ∀ (fs : List Feature) (ts : TypeSystem), Consistent ts → SubP o X ts → hasExact ts r = true →
      (∀ f ∈ fs, CovIn o r f) → ∃ ts', inheritFrom ts r fs = .ok ts' ∧ SubP o X ts' ∧ skel ts' = skel ts := by
  intro fs
  induction fs with
  | nil => intro ts _ hs _ _; exact ⟨ts, rfl, hs, rfl⟩
  | cons f fs ih =>
    intro ts hc hs hreg hcov
    have hcf := hcov f List.mem_cons_self
    have hdc : subtreeClash ts r f = false :=
      noClash_intro hc hreg fun hax htx hg hgn =>
        subP_agree hfo hs htx (covIn_anc hfo hcf (anc_subP hs hax)) (List.mem_append_left _ hg) hgn
    obtain ⟨a1, a2⟩ := push_subP (X := X) o hfo f (ts.types.length + 1) ts [r] hs
      (by intro c hc'; simp only [List.mem_singleton] at hc'; subst hc'; exact hcf)
    simp only [inheritFrom, hdc, Bool.false_eq_true, if_false]
    cases hp : pushInherited f (ts.types.length + 1) ts [r] with
    | error e => exact absurd (a1 e hp ▸ hp) (pushInherited_ne_fuel f ts [r])
    | ok ts1 =>
      simp only
      have hsk1 := frame_skel.push trivial _ ts [r] ts1 hp hc.nodup
      obtain ⟨ts', h', hs', hsk'⟩ := ih ts1 (consistent_of_skel hsk1 hc) (a2 ts1 hp)
        (by rw [hasExact_transfer hsk1]; exact hreg) (fun f' hf' => hcov f' (List.mem_cons_of_mem _ hf'))
      exact ⟨ts', h', hs', hsk'.trans hsk1⟩

theorem stepP_reparent (K : Consts) (o : TypeSystem) (hfo : FeatInv o) (hco : Consistent o) (s : MState) (d : Decl)
    (hc : Consistent s.ts) (hf : FeatInv s.ts) (hs : SubP o X s.ts)
    (hcov : ∀ f ∈ d.own, CovIn o d.name f) (hu : K.predefined.contains d.name = false) (hX : X d.name)
    (t : TypeRec) (he : find? s.ts d.name = some t) (c : String) (hts : t.super = some c)
    (r2 : hasExact s.ts d.super = true) (hmax : Anc s.ts c d.super) (hne : d.super ≠ c)
    (hanc : Anc o d.super d.name) (hxn : d.super ≠ d.name) :
    ∃ s', processDecl K s d = .ok s' ∧ SubP o X s'.ts := by
  obtain ⟨ns, hns⟩ := (hasExact_iff_find _ _).mp r2
  have hregn : hasExact s.ts d.name = true := (hasExact_iff_find _ _).mpr ⟨t, he⟩
  have hregc : hasExact s.ts c = true := hc.superReg t (find?_mem he) c hts
  have sub1 : subsumes s.ts c d.super = true :=
    (subsumes_iff_ancestor s.ts hc _ _ hregc r2).mpr hmax
  have hnanc : ¬ Anc s.ts d.name d.super := by
    intro h
    exact hxn (anc_antisymm hco hanc (anc_subP hs h))
  have hnot : subsumes s.ts d.name d.super = false := by
    cases hsb : subsumes s.ts d.name d.super with
    | false => rfl
    | true => exact absurd ((subsumes_iff_ancestor s.ts hc _ _ hregn r2).mp hsb) hnanc
  have hcovx : ∀ f ∈ allFeatures ns, CovIn o d.name f := fun f hfm =>
    covIn_anc hfo (CovIn.mono ⟨ns, hns, f, allFeatures_sub hfm, featureEq_refl f⟩ hs) hanc
  have hc1 := consistent_relink s.ts d.name c d.super t hc he hts (fun e => hne e.symm) r2 hnanc
  have hs1 : SubP o X (relink s.ts d.name c d.super) :=
    subP_relink o s.ts d.name c d.super t hc hs hX he hts (fun e => hne e.symm) (fun e => hxn e.symm) hanc
  have hreg1 : hasExact (relink s.ts d.name c d.super) d.name = true :=
    RegLe.of_perm (names_relink_perm s.ts d.name c d.super) d.name hregn
  obtain ⟨ts0, hi0, hs0, hsk0⟩ := inheritFrom_subP o hfo d.name (allFeatures ns) _ hc1 hs1 hreg1 hcovx
  have h0 : reparent s.ts d.name c d.super = .ok ts0 := reparent_ok_iff.mpr ⟨hnot, ns, hns, hi0⟩
  have hc0 : Consistent ts0 := consistent_of_skel hsk0 hc1
  have hf0 : FeatInv ts0 := featInv_reparent s.ts ts0 d.name c d.super t hc hf he hts hne hmax h0
  have hreg0 : hasExact ts0 d.name = true := by rw [hasExact_transfer hsk0]; exact hreg1
  obtain ⟨ts2, h2, hs2⟩ := addOwnFeatures_subP K o hfo d.name hu d.own ts0 hc0 hf0 hs0 hreg0 hcov
  exact ⟨{ ts := ts2, merged := if s.merged.contains d.name then s.merged else s.merged ++ [d.name] },
    processDecl_ok_iff.mpr ⟨ts0, (declSuper_reparent he hts hne hregc r2 sub1).trans h0, h2, rfl⟩, hs2⟩

variable {K : Consts} {base o : TypeSystem} {decls : List Decl}

/-- a declaration that `o` makes too: registered below the declared supertype (directly, unless the name is movable),
    the declared features covered; a name the base does not register is created, so its supertype is not final; above a
    declared supertype of a movable name nothing is movable -/
structure ReplayOk (K : Consts) (base o : TypeSystem) (X : String → Prop) (d : Decl) : Prop where
  done : Done o d
  ne : d.super ≠ d.name
  direct : ¬ X d.name → ∀ t, find? o d.name = some t → t.super = some d.super
  nonfinal : hasExact base d.name = false → K.finalTypes.contains d.super = false
  user : K.predefined.contains d.name = false
  noX : X d.name → ∀ n, X n → ¬ Anc o n d.super

theorem OneSuperOutside.of_replayOk (hall : ∀ d ∈ decls, ReplayOk K base o X d) : OneSuperOutside decls X := by
  intro d hd d' hd' hn hX
  obtain ⟨⟨t, ht, _⟩, _⟩ := (hall d hd).done
  have h := (hall d hd).direct hX t ht
  rw [(hall d' hd').direct (hn ▸ hX) t (hn ▸ ht)] at h
  exact (Option.some.inj h).symm

structure ReplayInv (K : Consts) (base : TypeSystem) (decls : List Decl) (o : TypeSystem) (X : String → Prop)
    (s : MState) : Prop where
  run : RunInv K base decls X s
  sub : SubP o X s.ts

section
-- `hbo`: no supertype edge of the base type system ends below a movable name of the target `o`
variable (hfo : FeatInv o) (hco : Consistent o)
  (hpre : ∀ p, K.predefined.contains p = true → hasExact base p = true)
  (htop : K.predefined.contains TOP = true)
  (hbo : ∀ x tb, find? base x = some tb → ∀ c, tb.super = some c → ∀ n, X n → ¬ Anc o n c)
  (hall : ∀ d ∈ decls, ReplayOk K base o X d)
include hfo hco hpre htop hbo hall

theorem processDecl_replay {s : MState} {d : Decl} (hi : ReplayInv K base decls o X s) (hdm : d ∈ decls)
    (hready : (K.predefined.contains d.super || s.merged.contains d.super) = true) :
    ∃ s', processDecl K s d = .ok s' ∧ ReplayInv K base decls o X s' := by
  have hd := hall d hdm
  have hcons := hi.run.tree.cons
  have hfeat := hi.run.tree.feat
  have hsup : hasExact s.ts d.super = true := by
    rcases Bool.or_eq_true _ _ |>.mp hready with h | h
    · exact hi.run.reg _ (hpre _ h)
    · exact hi.run.mer _ (by simpa using h)
  obtain ⟨⟨tn, htn, _⟩, hanc⟩ := hd.done
  have hxn := hd.ne
  have hex := fun hX => hd.direct hX tn htn
  have hcov := hd.done.1.covIn
  -- success and `SubP` suffice: the rest of the invariant follows from the successful step
  suffices hsuff : ∃ s', processDecl K s d = .ok s' ∧ SubP o X s'.ts by
    obtain ⟨s', h', hs'⟩ := hsuff
    exact ⟨s', h', (processDecl_run hpre htop (.of_replayOk hall) (fun d hd => (hall d hd).user) hi.run hdm hready h').1, hs'⟩
  have keep : (∃ s', processDecl K s d = .ok s' ∧ StepOut K o X s d s') →
      ∃ s', processDecl K s d = .ok s' ∧ SubP o X s'.ts := fun ⟨s', h', hout⟩ => ⟨s', h', hout.sub⟩
  cases hx : hasExact s.ts d.name with
  | false =>
    have hnb : hasExact base d.name = false := by
      cases hb : hasExact base d.name with
      | false => rfl
      | true => rw [hi.run.reg _ hb] at hx; cases hx
    exact keep (stepP_new K o hfo s d hcons hfeat hi.sub hcov hd.user hx hsup tn htn hex hanc (hd.nonfinal hnb))
  | true =>
    obtain ⟨tm, he⟩ := (hasExact_iff_find _ _).mp hx
    obtain ⟨to, hto, hr⟩ := hi.sub d.name tm he
    rw [htn] at hto; cases hto
    by_cases hX : X d.name
    · cases hts : tm.super with
      | none =>
        exfalso
        have hn := hcons.onlyRoot tm (find?_mem he) hts
        rw [find?_name he] at hn
        have hu := hd.user
        rw [hn, htop] at hu
        cases hu
      | some c =>
        have hancc : Anc o c d.name := hr.superW c hts
        have hregc : hasExact s.ts c = true := hcons.superReg tm (find?_mem he) c hts
        by_cases hxc : d.super = c
        · exact keep (stepP_same K o hfo s d hcons hfeat hi.sub hcov hd.user tm he (by rw [hts, hxc]))
        · rcases Anc.linear hancc hanc with hcx | hxc'
          · -- the declared supertype is the lower one: re-parent the type with its subtree
            have hmax : Anc s.ts c d.super := anc_down_sub hi.sub hcons hcx hsup (hd.noX hX)
            exact stepP_reparent K o hfo hco s d hcons hfeat hi.sub hcov hd.user hX tm he c hts hsup hmax hxc
              hanc hxn
          · -- the declared supertype is the higher one: nothing moves
            have hXc : ∀ n, X n → ¬ Anc o n c := by
              rcases hi.run.tree.edge d.name tm he with ⟨tb, htb, hs⟩ | ⟨d', hd', hn', hs'⟩
              · exact hbo d.name tb htb c (by rw [← hs]; exact hts)
              · have : c = d'.super := by rw [hts] at hs'; exact Option.some.inj hs'
                rw [this]
                exact (hall d' hd').noX (by rw [hn']; exact hX)
            have h2 : Anc s.ts d.super c := anc_down_sub hi.sub hcons hxc' hregc hXc
            have h1 : ¬ Anc s.ts c d.super := fun h => hxc (anc_antisymm hco hxc' (anc_subP hi.sub h))
            exact keep (stepP_noop K o hfo s d hcons hfeat hi.sub hcov hd.user tm c he hts hxc hregc hsup h1 h2)
    · have hss : tm.super = some d.super := by rw [← hr.super hX]; exact hex hX
      exact keep (stepP_same K o hfo s d hcons hfeat hi.sub hcov hd.user tm he hss)

theorem mergeRound_replay : ∀ (ds : List Decl) (s : MState) (n : Nat), (∀ d ∈ ds, d ∈ decls) →
    ReplayInv K base decls o X s → ∃ s' n', mergeRound K ds s n = .ok (s', n') ∧ ReplayInv K base decls o X s' := by
  intro ds
  induction ds with
  | nil => intro s n _ hi; exact ⟨s, n, rfl, hi⟩
  | cons d ds ih =>
    intro s n hsub hi
    have hsub' : ∀ d' ∈ ds, d' ∈ decls := fun d' hd' => hsub d' (List.mem_cons_of_mem _ hd')
    simp only [mergeRound]
    split
    · rename_i hready
      obtain ⟨s1, h1, hi1⟩ := processDecl_replay hfo hco hpre htop hbo hall hi (hsub d List.mem_cons_self) hready
      rw [h1]
      exact ih s1 (n + 1) hsub' hi1
    · exact ih s n hsub' hi

theorem mergeDecls_replay {l : List Decl} (hl : ∀ d ∈ l, d ∈ decls)
    (hinv : ReplayInv K base decls o X { ts := base, merged := [] })
    (hterm : mergeDecls K base l ≠ .error .outOfFuel) :
    ∃ s', mergeDecls K base l = .ok s'.ts ∧ ReplayInv K base decls o X s' := by
  have loop : ∀ (fuel : Nat) (s : MState), ReplayInv K base decls o X s →
      (∃ s', mergeLoop K l fuel s = .ok s' ∧ ReplayInv K base decls o X s') ∨
        mergeLoop K l fuel s = .error .outOfFuel := by
    intro fuel
    induction fuel with
    | zero => intro s _; exact Or.inr rfl
    | succ fuel ih =>
      intro s hi
      obtain ⟨s1, n1, h1, hi1⟩ := mergeRound_replay hfo hco hpre htop hbo hall l s 0 hl hi
      simp only [mergeLoop, h1]
      split
      · exact Or.inl ⟨s1, rfl, hi1⟩
      · exact ih s1 hi1
  rcases loop (l.length + 1) _ hinv with ⟨s', h, hi⟩ | h
  · exact ⟨s', by simp only [mergeDecls, h], hi⟩
  · exact absurd (by simp only [mergeDecls, h]) hterm

end

end Cassis.TS
