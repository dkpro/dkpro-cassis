/-
C01, applicability of the end-to-end theorem — a computable test for the hypotheses of `xmi_roundtrip_flat`.

`rtAppliesB K ts cass ci hp` (`Spec/RoundTripCheck.lean`) is a Boolean function of the inputs of `saveXmi`: it runs
`saveXmi` and evaluates one Boolean checker per hypothesis of `xmi_roundtrip_flat` (`Properties/C01RoundTrip.lean`):

* `rtWfB`      — `RTWf c hp`,
* `nullOkB`    — `NullOk ts`,
* `flatFsB`    — `FlatFs K ts c ci st.heap a` for every collected structure,
* `disjointB`  — `hdis` (structure ids differ from sofa ids),
* `memSofaB`   — `hmem` (no indexed structure has `sofa = None`),
* `membersOkB` — `MembersOk c st.heap`.

Each checker is proved sound in `Proofs/RoundTripCheckSound.lean` (`… = true → the hypothesis`).  Hence, whenever the
compiled model answers `true` for a generated CAS, the round-trip theorem applies to that CAS (`rtAppliesB_sound`):
the harness can count the generated inputs the theorem covers.  The checkers are sound, and they are meant to be
exact (every hypothesis is a finite statement about the inputs), but only soundness is proved and needed.
-/
import CassisModel.Properties.C01RoundTrip
import CassisModel.Proofs.RoundTripCheckSound

namespace Cassis.Xmi
open Cassis.TS Cassis.Traverse

/-- whenever the Boolean test says so, the round-trip theorem applies: writing and reading back succeed and preserve
    the structures (ids, types, the content of every feature) and the views -/
theorem rtAppliesB_sound (K : Consts) (ts : TypeSystem) (cass : List Cas) (ci : Nat) (hp : Heap) (tsIdx ci' : Nat)
    (h : rtAppliesB K ts cass ci hp = true) :
    ∃ (c : Cas) (doc : XDoc) (st : Traverse.St) (p : Pass1) (ld : Loaded),
      cass[ci]? = some c ∧ saveXmi K ts cass ci hp = .ok (doc, st) ∧
      pass1 K ts tsIdx false doc { heap := st.heap } = .ok p ∧
      loadXmi K ts tsIdx ci' false st.heap doc = .ok ld ∧
      (∀ q ∈ st.allFs, ∃ (a' : Nat) (o o' : Obj), lookupFs p.fss q.1 = .ok a' ∧
          st.heap[q.2]? = some o ∧ ld.heap[a']? = some o' ∧ o'.ty = o.ty ∧ o'.xid = some q.1 ∧
          ∀ t : TypeRec, find? ts o.ty = some t → ∀ f ∈ allFeatures t,
            featContent ld.heap a' f.name = featContent st.heap q.2 f.name) ∧
      ld.cas.views.map (viewContent ld.heap) = c.views.map (viewContent st.heap) := by
  obtain ⟨c, doc, st, hc, hs, hwf, hn, hf, hd, hm, hmo⟩ := rtAppliesB_hyps K ts cass ci hp h
  obtain ⟨p, ld, hp1, hl, _, hfs, hv, _⟩ :=
    xmi_roundtrip_flat K ts cass ci c hp tsIdx ci' doc st hc hwf hn hs hf hd hm hmo
  exact ⟨c, doc, st, p, ld, hc, hs, hp1, hl, hfs, hv⟩

/-- whenever the Boolean test says so, serialising the loaded CAS again yields the identical document -/
theorem rtAppliesB_fixpoint (K : Consts) (ts : TypeSystem) (cass : List Cas) (ci : Nat) (hp : Heap) (tsIdx : Nat)
    (h : rtAppliesB K ts cass ci hp = true) :
    ∃ (doc : XDoc) (st st' : Traverse.St) (ld : Loaded),
      saveXmi K ts cass ci hp = .ok (doc, st) ∧
      loadXmi K ts tsIdx cass.length false st.heap doc = .ok ld ∧
      saveXmi K ts (cass ++ [ld.cas]) cass.length ld.heap = .ok (doc, st') := by
  obtain ⟨c, doc, st, hc, hs, hwf, hn, hf, hd, hm, hmo⟩ := rtAppliesB_hyps K ts cass ci hp h
  obtain ⟨_, ld, _, hl, _⟩ :=
    xmi_roundtrip_flat K ts cass ci c hp tsIdx cass.length doc st hc hwf hn hs hf hd hm hmo
  obtain ⟨st', hs'⟩ :=
    xmi_roundtrip_flat_fixpoint K ts cass ci c hp tsIdx doc st ld hc hwf hn hs hf hd hm hmo hl
  exact ⟨doc, st, st', ld, hs, hl, hs'⟩

/-! ### The test on the instance `Xmi.Demo` (`Proofs/InstancesFlat.lean`)

`Demo.demoTS` and `Demo.demo` are rewritten to the forms the kernel can evaluate (`Demo.demoTS_eq`: `createFeature`
uses well-founded recursion; `Demo.demo_eq`/`Demo.demo'_lit`: `Cas.add` goes through `String.contains`); the test
itself, including `saveXmi`, is then evaluated by the kernel (the field `applies` of `Demo.demo_evals`,
`Proofs/InstancesFlat.lean`). -/

theorem demo_applies : rtAppliesB Demo.K Demo.demoTS [Demo.demo.1] 0 Demo.demo.2 = true := by
  rw [Demo.demo_eq, Demo.demo'_lit, Demo.demoTS_eq]
  exact Demo.demo_evals.applies

example : rtAppliesB Demo.K Demo.demoTS [Demo.demo.1] 0 Demo.demo.2 = true := demo_applies

/-- the test is not constantly `true`: the same CAS with the generator below an id in use is rejected -/
example : rtAppliesB Demo.K Demo.demoTS' [{ Demo.casL with nextXid := 2 }] 0 Demo.hpL = false :=
  demoRejected_evals

#eval rtAppliesB Demo.K Demo.demoTS [Demo.demo.1] 0 Demo.demo.2

#print axioms rtAppliesB_sound
#print axioms rtAppliesB_fixpoint
#print axioms demo_applies

end Cassis.Xmi
