/-
Executable checks of the C12 round-trip statements (`Properties/C12RoundTrip.lean`) on concrete histories, and the
recorded counterexamples that force the hypotheses `NoShadow` and `StrippedNames`; descriptors with padded names on
which the reader's whitespace stripping decides the outcome.
-/
import CassisModel.Spec.TsXmlRoundTrip

namespace Cassis.TsXml.Check
open Cassis.TS Cassis.TsXml

def sameAtB (ts ts' : TypeSystem) (n : String) : Bool :=
  match find? ts n, find? ts' n with
  | some t, some t' =>
      t'.super == t.super && renderType t' == trimT (renderType t) && t'.children.isPerm t.children &&
      ((allFeatures t').map renderFeat).isPerm ((allFeatures t).map (fun f => trimF (renderFeat f)))
  | none, none => true
  | _, _ => false

/-- Boolean `SameXml` over all names of both type systems -/
def sameXmlB (ts ts' : TypeSystem) : Bool :=
  (ts.types.map (·.name) ++ ts'.types.map (·.name)).all (sameAtB ts ts')

def noShadowB (ts : TypeSystem) : Bool :=
  ts.types.all (fun t => t.own.all (fun f => t.inh.all (fun g => g.name != f.name)))

def userOnlyNoDocB (K : Consts) : List TsOp → Bool
  | [] => true
  | .createType _ _ _ :: rest => userOnlyNoDocB K rest
  | .createFeature dom _ _ _ _ _ :: rest =>
      !(K.predefined.contains dom) && dom.contains '.' && dom != DOCUMENT_ANNOTATION && userOnlyNoDocB K rest

def run (ops : List TsOp) : TypeSystem := ops.foldl (applyOp Gen.consts) Gen.builtinTS

def builtinEntry (n : String) : Option TDesc := (find? Gen.builtinTSNoDoc n).map renderType

/-- DocumentAnnotation as the library defines it (`docEntry` of the proofs) -/
def docE : TDesc :=
  { name := DOCUMENT_ANNOTATION, super := ANNOTATION, feats := [{ name := "language", range := "uima.cas.String" }] }

/-- the redeclaration of a name: a built-in entry, or DocumentAnnotation -/
def preEntry (n : String) : Option TDesc := if n == DOCUMENT_ANNOTATION then some docE else builtinEntry n

/-- the conclusion of `tsxml_roundtrip` for one permutation `d'` (given by a function on the emitted descriptor) -/
def checkPerm (ops : List TsOp) (perm : Descriptor → Descriptor) : Bool :=
  match toDescriptor Gen.consts (run ops) with
  | .error _ => true
  | .ok d =>
    match load Gen.consts (perm d) with
    | .error _ => false
    | .ok ts' => sameXmlB (run ops) ts' &&
        (match toDescriptor Gen.consts ts' with | .ok out => out == d.map trimT | .error _ => false)

def rot {α} (k : Nat) (l : List α) : List α := l.drop (k % (l.length + 1)) ++ l.take (k % (l.length + 1))
def swapPairs {α} : List α → List α
  | a :: b :: r => b :: a :: swapPairs r
  | l => l

def perms : List (Descriptor → Descriptor) :=
  [id, List.reverse, rot 1, rot 2, rot 3, swapPairs, fun l => (rot 1 l).reverse, fun l => swapPairs l.reverse]

/-- Boolean `StrippedNames` (evaluated by the compiler; for the kernel see `noPad` in `Proofs/TsXmlNoPad.lean`) -/
def strippedNamesB (ts : TypeSystem) : Bool := decide (StrippedNames Gen.consts ts)

def hyps (ops : List TsOp) : Bool := userOnlyNoDocB Gen.consts ops && noShadowB (run ops) && strippedNamesB (run ops)

/-- all permutations above -/
def check (ops : List TsOp) : Bool := perms.all (checkPerm ops)

/-- the conclusion of `tsxml_roundtrip_redeclared` -/
def checkPre (ops : List TsOp) (preNames : List String) (mix : Descriptor → Descriptor → Descriptor) : Bool :=
  let pre := preNames.filterMap preEntry
  match toDescriptor Gen.consts (run ops) with
  | .error _ => true
  | .ok d =>
    match load Gen.consts (mix pre d) with
    | .error _ => false
    | .ok ts' =>
      sameXmlB (run ops) ts' &&
      match toDescriptor Gen.consts ts' with
      | .error _ => false
      | .ok out =>
        let k := out.length - d.length
        out.drop k == d.map trimT &&
        (out.take k).map (·.name) == sortStrs (pre.map (·.name)).eraseDups &&
        (out.take k).all (fun e => builtinEntry e.name == some e || e == docE)

def mixes : List (Descriptor → Descriptor → Descriptor) :=
  [(· ++ ·), fun p d => d ++ p, fun p d => (p ++ d).reverse, fun p d => rot 2 (p ++ d), fun p d => swapPairs (d.reverse ++ p),
   fun p d => p ++ d ++ p]  -- the last one is NOT a permutation of `pre ++ d` (`pre` is listed twice); `checkPreAll` leaves it out

def checkPreAll (ops : List TsOp) (preNames : List String) : Bool :=
  (mixes.take 5).all (checkPre ops preNames)

/-! ### histories -/

def hChain : List TsOp :=
  [.createType "x.A" ANNOTATION (some "  padded  "), .createType "x.B" "x.A" (some ""), .createType "x.C" "x.B" (some " "),
   .createType "x.D" "x.C" none,
   .createFeature "x.A" "fa" "uima.cas.Integer" none (some " a ") none,
   .createFeature "x.C" "fc" "x.D" none (some "") (some true),
   .createFeature "x.B" "fb" "uima.cas.FSArray" (some "x.D") (some " ") (some false),
   .createFeature "x.D" "self" "x.A" none none none,
   .createFeature "x.D" "type" "uima.cas.String" none (some "t") none,
   .createFeature "x.A" "under_" "uima.cas.String" none none none]

def hFan : List TsOp :=
  [.createType "y.R" TOP none, .createType "y.K1" "y.R" none, .createType "y.K2" "y.R" (some "k2"),
   .createType "y.K3" "y.R" none, .createType "a.Z" "y.K2" none, .createType "a.A" "y.K2" none,
   .createFeature "y.K1" "r" "a.Z" none none none,
   .createFeature "y.R" "all" "uima.cas.FSList" (some "a.A") none (some true),
   .createFeature "a.A" "q" "uima.cas.StringArray" none none (some false),
   .createFeature "y.K2" "z" "y.K3" none none none]

def hString : List TsOp :=
  [.createType "s.Enum" "uima.cas.String" (some "enum"), .createType "s.T" ANNOTATION none,
   .createFeature "s.T" "e" "s.Enum" none none none,
   .createFeature "s.T" "arr" "uima.cas.FSArray" (some "s.Enum") none none,
   .createFeature "s.Enum" "weird" "uima.cas.Integer" none none none]

/-- types without namespace; short-name resolution of ranges and supertypes -/
def hNoNs : List TsOp :=
  [.createType "Plain" ANNOTATION none, .createType "Sub" "Plain" none, .createType "n.Q" "Sub" none,
   .createFeature "n.Q" "p" "Plain" none none none, .createFeature "n.Q" "i" "Integer" none none none,
   .createType "q.Plain2" "Annotation" none, .createFeature "q.Plain2" "x" "Sub" (some "Q") none none]

/-- a dot-less type whose short name collides with the short name of a built-in / another user type -/
def hNoNs2 : List TsOp :=
  [.createType "Annotation" TOP none, .createType "m.Annotation" ANNOTATION none, .createType "m.X" "Annotation" none,
   .createType "m.Y" "m.Annotation" none,
   .createFeature "m.X" "f" "Annotation" none none none, .createFeature "m.Y" "g" "m.X" none none none]

def hNoNs3 : List TsOp :=
  [.createType "T" TOP none, .createType "a.T" "T" none, .createType "b.U" "a.T" none,
   .createFeature "a.T" "f" "T" none none none, .createFeature "b.U" "g" "T" (some "T") none none,
   .createType "c.T" "T" none, .createFeature "b.U" "h" "T" none none none]

/-- same feature declared on siblings, then identical redefinitions that are no-ops, failing calls -/
def hDup : List TsOp :=
  [.createType "d.A" ANNOTATION none, .createType "d.B" "d.A" none, .createType "d.C" "d.A" none,
   .createFeature "d.B" "f" "uima.cas.Integer" none none none,
   .createFeature "d.C" "f" "uima.cas.String" none none none,
   .createFeature "d.A" "f" "uima.cas.Integer" none none none,      -- fails: d.C defines it differently
   .createFeature "d.A" "g" "uima.cas.Integer" none none none,
   .createFeature "d.B" "g" "uima.cas.Integer" none none none,      -- same: no-op
   .createFeature "d.B" "g" "uima.cas.Float" none none none,        -- conflict: fails
   .createType "d.A" ANNOTATION none,                               -- exists: ignored
   .createType "d.E" "d.Missing" none,                              -- fails
   .createFeature "d.B" "begin" "uima.cas.Integer" none none none,  -- inherited from Annotation, same → no-op
   .createFeature "d.B" "end" "uima.cas.Float" none none none,      -- conflict
   .createFeature "d.C" "sofa" "uima.cas.Sofa" none none none]

/-- feature inherited identically but with a different `multi` (featureEq ignores it) -/
def hMulti : List TsOp :=
  [.createType "e.A" ANNOTATION none, .createType "e.B" "e.A" none,
   .createFeature "e.A" "f" "uima.cas.FSArray" (some "e.B") none (some true),
   .createFeature "e.B" "f" "uima.cas.FSArray" (some "e.B") none (some false),
   .createFeature "e.B" "g" "uima.cas.FSArray" (some TOP) none none,
   .createFeature "e.B" "h" "uima.cas.FSArray" none none none]

/-- features named `self`/`type` and real names `self_`/`type_` on one type and along a chain -/
def hReserved : List TsOp :=
  [.createType "r.A" ANNOTATION none, .createType "r.B" "r.A" none,
   .createFeature "r.A" "self" "uima.cas.Integer" none none none,
   .createFeature "r.A" "self_" "uima.cas.Integer" none none none,
   .createFeature "r.B" "type_" "uima.cas.Integer" none none none,
   .createFeature "r.B" "type" "uima.cas.Integer" none none none,
   .createFeature "r.B" "self_" "uima.cas.Integer" none none none,
   .createFeature "r.B" "x_" "uima.cas.Integer" none (some "  ") none]

/-- the user declares features on types whose names sort before/after, description-only differences -/
def hDescr : List TsOp :=
  [.createType "z.A" ANNOTATION (some "\n\t x \n"), .createType "b.B" "z.A" (some "x"),
   .createFeature "z.A" "f" "uima.cas.Integer" none (some " d ") none,
   .createFeature "b.B" "f" "uima.cas.Integer" none (some "d") none,    -- conflict (descr differs) → fails
   .createFeature "b.B" "g" "b.B" none (some "") none,
   .createType "b.C" "b.B" none,
   .createFeature "b.C" "g" "b.B" none none none]                       -- differs from inherited g (descr "" vs none): fails

/-- sibling declares a feature whose trimmed description equals an ancestor's later feature … -/
def hDescr2 : List TsOp :=
  [.createType "t.A" ANNOTATION none, .createType "t.B" "t.A" none, .createType "t.C" "t.B" none,
   .createFeature "t.C" "f" "uima.cas.Integer" none (some " d") none,
   .createFeature "t.A" "f" "uima.cas.Integer" none (some "d") none]    -- fails: descendant conflict

/-- subtype of DocumentAnnotation and features ranging over it -/
def hDoc : List TsOp :=
  [.createType "u.Doc" DOCUMENT_ANNOTATION none, .createFeature "u.Doc" "title" "uima.cas.String" none none none,
   .createType "u.X" ANNOTATION none, .createFeature "u.X" "doc" DOCUMENT_ANNOTATION none none none,
   .createFeature "u.X" "lang" "u.Doc" none none none, .createFeature "u.Doc" "language" "uima.cas.String" none none none]

def hEmpty : List TsOp := []

/-- the recorded counterexample that forces `NoShadow` (finding X12) -/
def hShadow : List TsOp :=
  [.createType "x.A" ANNOTATION none, .createType "x.B" "x.A" none,
   .createFeature "x.B" "f" "uima.cas.Integer" none none none,
   .createFeature "x.A" "f" "uima.cas.Integer" none none none]

def all : List (List TsOp) :=
  [hChain, hFan, hString, hNoNs, hNoNs2, hNoNs3, hDup, hMulti, hReserved, hDescr, hDescr2, hDoc, hEmpty]

/-! ### results (all `true` unless said otherwise) -/

#eval all.map hyps
#eval all.map check
#eval all.map (fun h => checkPreAll h ["uima.tcas.Annotation"])
#eval all.map (fun h => checkPreAll h ["uima.cas.FSArray", "uima.cas.ArrayBase"])
#eval all.map (fun h => checkPreAll h ["uima.cas.Sofa", "uima.cas.String", "uima.cas.NonEmptyFSList"])
#eval all.map (fun h => checkPreAll h [DOCUMENT_ANNOTATION])
#eval all.map (fun h => checkPreAll h ["uima.cas.Sofa", DOCUMENT_ANNOTATION, "uima.tcas.Annotation"])
-- every predefined name except TOP can be redeclared alone
#eval Gen.consts.predefined.filter (fun n => !(checkPreAll hChain [n]))      -- ["uima.cas.TOP"]

/-! ### recorded counterexamples -/

/-- forces `NoShadow` (finding X12): all other hypotheses hold, the conclusion fails already for `d' = d`:
    the loader keeps only `x.A`'s `f` -/
def counterShadow : Bool × Bool × Bool := (userOnlyNoDocB Gen.consts hShadow, noShadowB (run hShadow), checkPerm hShadow id)
#eval counterShadow     -- (true, false, false)
def ownNames (ts : TypeSystem) (n : String) : Option (List String) :=
  match find? ts n with
  | some t => some (t.own.map (fun f => f.name))
  | none => none
#eval ownNames (run hShadow) "x.B"      -- some ["f"]
#eval match toDescriptor Gen.consts (run hShadow) with
  | .ok d => (match load Gen.consts d with
    | .ok ts' => ownNames ts' "x.B"      -- some []
    | .error _ => none)
  | .error _ => none

/-- forces `hnt` of `tsxml_roundtrip_redeclared`: the built-in entry of `uima.cas.TOP` has the supertype `""` -/
def counterTop : Except Err TypeSystem := load Gen.consts (["uima.cas.TOP"].filterMap builtinEntry)
#eval ["uima.cas.TOP"].filterMap builtinEntry
#eval match counterTop with | .ok _ => "ok" | .error e => toString e      -- "KeyError"
#guard (match counterTop with | .ok _ => none | .error e => some e) == some Err.keyError
-- (checked by the kernel in `Proofs/TsXmlRoundTripDemo.lean`, `counterTop_keyError`: the reader's `strip` does not
-- reduce in the kernel and has to be rewritten away first)

/-- forces `hnd`: a redeclaration with features given twice accumulates its features -/
def counterDup : Except Err TypeSystem :=
  load Gen.consts (["uima.cas.ArrayBase", "uima.cas.ArrayBase"].filterMap builtinEntry)
#eval match counterDup with | .ok _ => "ok" | .error e => toString e      -- "ValueError"
#eval all.map (fun h => checkPreAll h ["uima.cas.Sofa", "uima.cas.Sofa"])   -- all false
-- … whereas a featureless entry may be repeated
#eval all.map (fun h => checkPreAll h ["uima.cas.String", "uima.cas.String"])

/-! ### `StrippedNames` (the reader strips every text; the API and the writer do not)

`create_type(" x.A ")` is accepted and `to_xml` writes `<name> x.A </name>`; the reader strips it and the reloaded type
system declares `x.A`.  Python agrees with every line (replay in the report: `TypeSystem().create_type(" x.A ")`,
`load_typesystem(ts.to_xml())`).  A padded *range*, *element type* or *supertype* is reachable only as the name of a
padded type (`hPadRef`): the API resolves these names. -/

def hPadType : List TsOp := [.createType " x.A " ANNOTATION none]
def hPadFeat : List TsOp :=
  [.createType "x.B" ANNOTATION none, .createFeature "x.B" " f " "uima.cas.String" none none none,
   .createFeature "x.B" " self" "uima.cas.String" none none none]
def hPadRef : List TsOp :=
  [.createType " x.P\n" ANNOTATION none, .createType "x.B" " x.P\n" none,
   .createFeature "x.B" "f" " x.P\n" none none none,
   .createFeature "x.B" "g" "uima.cas.FSArray" (some " x.P\n") none none]

/-- (UserOnlyNoDoc, NoShadow, StrippedNames, conclusion for `d' = d`) -/
def counterPad (ops : List TsOp) : Bool × Bool × Bool × Bool :=
  (userOnlyNoDocB Gen.consts ops, noShadowB (run ops), strippedNamesB (run ops), checkPerm ops id)
#guard counterPad hPadType == (true, true, false, false)
#guard counterPad hPadFeat == (true, true, false, false)
#guard counterPad hPadRef == (true, true, false, false)
def counterPadType := counterPad hPadType
def counterPadFeat := counterPad hPadFeat

/-- the user types (except DocumentAnnotation) with supertype and own features (stored name, range, element type) -/
def userDecls (ts : TypeSystem) : List (String × String × List (String × String × Option String)) :=
  ((Json.sortByName (getTypes Gen.consts ts false)).filter (fun t => t.name != DOCUMENT_ANNOTATION)).map (fun t =>
    (t.name, t.super.getD "", t.own.map (fun f => (f.name, f.range, f.elem))))
def reloaded (ops : List TsOp) : Option (List (String × String × List (String × String × Option String))) :=
  match toDescriptor Gen.consts (run ops) with
  | .ok d => (match load Gen.consts d with | .ok ts' => some (userDecls ts') | .error _ => none)
  | .error _ => none

#guard userDecls (run hPadType) == [(" x.A ", "uima.tcas.Annotation", [])]
#guard reloaded hPadType == some [("x.A", "uima.tcas.Annotation", [])]
#guard userDecls (run hPadFeat) ==
  [("x.B", "uima.tcas.Annotation", [(" f ", "uima.cas.String", none), (" self", "uima.cas.String", none)])]
#guard reloaded hPadFeat ==
  some [("x.B", "uima.tcas.Annotation", [("f", "uima.cas.String", none), ("self_", "uima.cas.String", none)])]
#guard userDecls (run hPadRef) ==
  [(" x.P\n", "uima.tcas.Annotation", []),
   ("x.B", " x.P\n", [("f", " x.P\n", none), ("g", "uima.cas.FSArray", some " x.P\n")])]
#guard reloaded hPadRef ==
  some [("x.B", "x.P", [("f", "x.P", none), ("g", "uima.cas.FSArray", some "x.P")]), ("x.P", "uima.tcas.Annotation", [])]
-- the histories of `all` have no padded names: `all.map hyps` above

/-! ### descriptors with padded names

On each of these the model before the repair (which stripped descriptions only) disagreed with the code
(`KeyError` on all but `padTwice`, where it kept two types `"x.A"` and `" x.A "`); the results below are what
`load_typesystem` produces (Python literals in the report). -/


/-- what a load produced: the user types except DocumentAnnotation by name with supertype, description and own features
    (stored name, range, element type, reserved flag), and the names remembered as redeclared -/
def summary (r : Except Err TypeSystem) :
    Option (List (String × String × Option String × List (String × String × Option String × Bool)) × List String) :=
  match r with
  | .error _ => none
  | .ok ts => some
    (((Json.sortByName (getTypes Gen.consts ts false)).filter (fun t => t.name != DOCUMENT_ANNOTATION)).map (fun t =>
        (t.name, t.super.getD "", t.descr, t.own.map (fun f => (f.name, f.range, f.elem, f.reserved)))),
     sortStrs ts.redeclared)

/-- DKPro style (`cassis/resources/dkpro-core-types.xml`): an element type followed by a line break -/
def padElem : Descriptor :=
  [{ name := "x.A", super := ANNOTATION, feats := [{ name := "f", range := "uima.cas.FSArray", elem := some "x.A\n" }] }]
/-- a padded supertype name -/
def padSuper : Descriptor := [{ name := "x.A", super := ANNOTATION }, { name := "x.B", super := " x.A\n" }]
/-- a padded feature name that is a reserved name, and a padded range -/
def padSelf : Descriptor :=
  [{ name := "x.A", super := ANNOTATION, feats := [{ name := " self ", range := " uima.cas.String " }] }]
/-- two declarations of one type that differ only in padding: the later one wins, the features accumulate -/
def padTwice : Descriptor :=
  [{ name := "x.A", descr := some "one", super := ANNOTATION, feats := [{ name := "f", range := "uima.cas.String" }] },
   { name := " x.A ", descr := some "two", super := TOP, feats := [{ name := "g", range := "uima.cas.Integer" }] }]
/-- a padded redeclaration of a built-in type and of DocumentAnnotation -/
def padPredef : Descriptor :=
  [{ name := " uima.cas.String ", super := " uima.cas.TOP " },
   { name := "\tuima.tcas.DocumentAnnotation\n", super := ANNOTATION,
     feats := [{ name := "language ", range := "uima.cas.String" }] }]
/-- a padded range that names a type declared with another padding -/
def padRange : Descriptor :=
  [{ name := "x.A", super := ANNOTATION, feats := [{ name := "f", range := " x.B " }] }, { name := " x.B", super := ANNOTATION }]

/-- padding that only `str.strip()` knows: no-break space, em space, ideographic space, NEL -/
def padUnicode : Descriptor :=
  [{ name := "x.A\u00a0", descr := some "\u3000d\u0085", super := ANNOTATION }, { name := "x.B", super := "\u2003x.A" }]

-- `strip` is `str.strip()`
#guard strip " \t\r\n\x0b\x0c\x1c\x1d\x1e\x1f\u0085\u00a0\u1680\u2000\u200a\u2028\u2029\u202f\u205f\u3000x. A\u3000\n" == "x. A"
#guard strip "\u200bx\u180e" == "\u200bx\u180e"      -- zero-width space, Mongolian vowel separator: not `isspace`
#guard strip "  \n" == "" && strip "" == "" && strip "a" == "a"

#guard summary (load Gen.consts padUnicode) ==
  some ([("x.A", "uima.tcas.Annotation", some "d", []), ("x.B", "x.A", none, [])], [])
#guard summary (load Gen.consts padElem) ==
  some ([("x.A", "uima.tcas.Annotation", none, [("f", "uima.cas.FSArray", some "x.A", false)])], [])
#guard summary (load Gen.consts padSuper) ==
  some ([("x.A", "uima.tcas.Annotation", none, []), ("x.B", "x.A", none, [])], [])
#guard summary (load Gen.consts padSelf) ==
  some ([("x.A", "uima.tcas.Annotation", none, [("self_", "uima.cas.String", none, true)])], [])
#guard summary (load Gen.consts padTwice) ==
  some ([("x.A", "uima.cas.TOP", some "two",
         [("f", "uima.cas.String", none, false), ("g", "uima.cas.Integer", none, false)])], [])
#guard summary (load Gen.consts padPredef) == some ([], ["uima.cas.String", "uima.tcas.DocumentAnnotation"])
#guard summary (load Gen.consts padRange) ==
  some ([("x.A", "uima.tcas.Annotation", none, [("f", "x.B", none, false)]), ("x.B", "uima.tcas.Annotation", none, [])], [])
-- the order of operations: strip, then key by name (`padTwice`), then the reserved-name treatment (`padSelf`)
#guard (normalize padTwice).map (·.name) == ["x.A"]
#guard normalize padSelf ==
  [{ name := "x.A", super := ANNOTATION, feats := [{ name := "self", range := "uima.cas.String" }] }]

end Cassis.TsXml.Check
