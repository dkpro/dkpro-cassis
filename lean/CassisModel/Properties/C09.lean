/-
C09 — xmi:ids and sofaNums stay unique; fresh ids never collide, given ids persist.

State-level part (this file): in every state reachable from an empty CAS by any history of
create_view / get_view / instance creation / add (kept or regenerated id) / remove / sofa setters /
document-annotation creation / id assignment by the serialisers, all xmi:ids of sofas and feature
structures are pairwise distinct, all sofaNums are distinct, and everything lies below the generators
(so the next generated id is fresh).  One `add(keep_id=True)` leaves the id of the structure as it is (`kept_id_persists`).
The document-level part is in `C09Doc.lean` / `C09DocJson.lean` (the loaders reseed above every id, sofas included:
`loadXmi_reseeds`, `loadJson_reseeds`) and `C09Write.lean` (the writers emit exactly these ids, pairwise distinct).
-/
import CassisModel.Proofs.Cas

namespace Cassis.Cas

/-- **every reachable state has unique, bounded ids** -/
theorem ids_history (K : TS.Consts) (ts : TS.TypeSystem) (lenient : Bool) (ops : List COp) :
    Bounded (ops.foldl (cstep K ts) (init lenient)) ∧ UniqueIds (ops.foldl (cstep K ts) (init lenient)) := by
  obtain ⟨g, _⟩ := good_handlesOk_history K ts lenient ops _ (good_init lenient) (handlesOk_init lenient)
  have := (good_iff _).mp g
  exact ⟨this.1, this.2.1⟩

/-- one step preserves the invariants from *any* state satisfying them — in particular from the state a
    loader leaves behind, provided the loader reseeded the generators above every id of the document -/
theorem ids_step (K : TS.Consts) (ts : TS.TypeSystem) (s : CState) (op : COp)
    (hb : Bounded s) (hu : UniqueIds s) (hv : ViewsOk s) :
    Bounded (cstep K ts s op) ∧ UniqueIds (cstep K ts s op) ∧ ViewsOk (cstep K ts s op) :=
  (good_iff _).mp (cstep_ind (fun _ _ => eff_good) K ts s op ((good_iff s).mpr ⟨hb, hu, hv⟩))

/-- an id generated by `add` differs from every id in use (sofas included) -/
theorem generated_id_fresh (ts : TS.TypeSystem) (cas : Nat) (s : CState) (h : Handle) (addr : Nat) (keep : Bool)
    (c' : Cas) (hp' : Heap) (o : Obj) (hb : Bounded s) (ho : s.heap[addr]? = some o)
    (hgen : keep = false ∨ o.xid = none)
    (hadd : add ts cas s.cas s.heap h addr keep = .ok (c', hp')) :
    ∃ o', hp'[addr]? = some o' ∧ o'.xid = some s.cas.nextXid ∧
      s.cas.nextXid ∉ sofaIds s.cas ∧ s.cas.nextXid ∉ fsIds s.heap ∧ c'.nextXid = s.cas.nextXid + 1 := by
  obtain ⟨o1, v, x, c1, e, ho1, _, hv, hx, he, rfl, rfl⟩ := add_cases hadd
  rw [ho] at ho1
  cases ho1
  have hlt : addr < s.heap.length := (List.getElem?_eq_some_iff.mp ho).1
  obtain ⟨b1, _, b3⟩ := hb
  rcases hx with ⟨hk, hxo, _⟩ | ⟨_, rfl, rfl⟩
  · rcases hgen with hgen | hgen
    · rw [hk] at hgen; cases hgen
    · rw [hxo] at hgen; cases hgen
  · refine ⟨_, List.getElem?_set_self hlt, rfl, ?_, ?_, rfl⟩
    · intro hm; have := b1 _ hm; omega
    · intro hm; have := b3 _ hm; omega

/-- a kept id persists through `add` -/
theorem kept_id_persists (ts : TS.TypeSystem) (cas : Nat) (c c' : Cas) (hp hp' : Heap) (h : Handle) (addr : Nat)
    (o : Obj) (x : Int) (ho : hp[addr]? = some o) (hx : o.xid = some x)
    (hadd : add ts cas c hp h addr true = .ok (c', hp')) :
    ∃ o', hp'[addr]? = some o' ∧ o'.xid = some x ∧ c'.nextXid = c.nextXid := by
  obtain ⟨o1, v, x1, c1, e, ho1, _, hv, hx1, he, rfl, rfl⟩ := add_cases hadd
  rw [ho] at ho1
  cases ho1
  have hlt : addr < hp.length := (List.getElem?_eq_some_iff.mp ho).1
  rcases hx1 with ⟨_, hxo, rfl⟩ | ⟨hk, _, _⟩
  · rw [hx] at hxo
    cases hxo
    exact ⟨_, List.getElem?_set_self hlt, rfl, rfl⟩
  · rcases hk with hk | hk
    · cases hk
    · rw [hx] at hk; cases hk

/-- a new view takes the next id and the next sofaNum, both unused so far -/
theorem createView_fresh (s : CState) (h : Handle) (name : String) (c' : Cas) (h' : Handle)
    (hb : Bounded s) (hc : createView s.cas h name = .ok (c', h')) :
    ∃ v, getViewRec c' name = some v ∧ v.sofa.xid = s.cas.nextXid ∧ v.sofa.sofaNum = s.cas.nextSofaNum ∧
      s.cas.nextXid ∉ sofaIds s.cas ++ fsIds s.heap ∧ s.cas.nextSofaNum ∉ sofaNums s.cas ∧ v.idx = [] := by
  obtain ⟨hnone, rfl, rfl⟩ := createView_ok hc
  obtain ⟨b1, b2, b3⟩ := hb
  refine ⟨newView s.cas name, ?_, rfl, rfl, ?_, ?_, rfl⟩
  · have := alistGet?_set_same s.cas.views name (newView s.cas name)
    rw [alistSet_of_none _ _ _ hnone] at this
    exact this
  · intro hm
    rcases List.mem_append.mp hm with hm | hm
    · have := b1 _ hm; omega
    · have := b3 _ hm; omega
  · intro hm; have := b2 _ hm; omega

/-! Non-vacuity (test of a concrete history) -/
example : (let s := [COp.createView 0 "v2", .newFs "uima.tcas.Annotation" [("begin", .int 0), ("end", .int 1)],
      .add 1 0 true, .docAnn 0].foldl (cstep Gen.consts Gen.builtinTS) (init false)
    (sofaIds s.cas, fsIds s.heap, sofaNums s.cas, s.cas.nextXid)) = ([1, 2], [3, 4], [1, 2], 5) := by
  -- the handles are not lenient: the type check of `add` goes through `String.contains`, which the kernel
  -- does not unfold; the two types involved are registered, so the check is discharged by lemma first.
  -- The three lookups stand in one statement (one kernel evaluation; see the head of `Proofs/InstancesFlat.lean`).
  have key : TS.hasExact Gen.builtinTS TS.ANNOTATION = true ∧
      TS.hasExact Gen.builtinTS TS.DOCUMENT_ANNOTATION = true ∧
      ((cstep Gen.consts Gen.builtinTS (cstep Gen.consts Gen.builtinTS (init false) (.createView 0 "v2"))
        (.newFs "uima.tcas.Annotation" [("begin", .int 0), ("end", .int 1)])).heap[0]?).all
          (fun o => [TS.ANNOTATION].contains o.ty) = true := by decide +kernel
  have hA : ∀ n ∈ [TS.ANNOTATION], TS.containsType Gen.builtinTS n = true := by
    intro n hn
    rw [List.mem_singleton.mp hn]
    exact containsType_of_hasExact hasDot_annotation key.1
  -- (`rw`, not `simp only`: the kernel would evaluate the fold to check a definitional unfolding)
  rw [List.foldl_cons, List.foldl_cons, List.foldl_cons, List.foldl_cons, List.foldl_nil,
    cstep_docAnn_strict _ _ _ _ hasDot_docAnn (containsType_of_hasExact hasDot_docAnn key.2.1),
    cstep_add_strict _ _ _ _ _ _ _ hA key.2.2]
  decide +kernel

end Cassis.Cas
