/-
C20 across two heaps: the anchor maps of two sides that generate the same anchor texts in the same order.  The
keys (xmi:ids) differ, but correspond: a lookup with "the same key" (`SameKey`) gives the same anchor.
-/
import CassisModel.Proofs.ComparableIsoRel
import CassisModel.Proofs.ComparableTable

namespace Cassis.Comparable
open Cassis.TS Cassis.Traverse

theorem ExRel.ok_ok {α β : Type} {P : α → β → Prop} {x : α} {y : β} (h : P x y) :
    ExRel P (.ok x) (.ok y) := h

theorem ExRel.err {α β : Type} {P : α → β → Prop} (e : Err) :
    ExRel P (.error e : Except Err α) (.error e : Except Err β) := rfl

theorem ExRel.cases {α β : Type} {P : α → β → Prop} {x : Except Err α} {y : Except Err β} (h : ExRel P x y) :
    (∃ e, x = .error e ∧ y = .error e) ∨ ∃ a b, x = .ok a ∧ y = .ok b ∧ P a b := by
  cases x <;> cases y
  · exact Or.inl ⟨_, rfl, congrArg _ (Eq.symm h)⟩
  · exact h.elim
  · exact h.elim
  · exact Or.inr ⟨_, _, rfl, rfl, h⟩

/-- the anchor maps of the two sides: entry by entry the same anchor text, under the ids of a collected structure
    and of its image -/
def KeysRel (hp hp' : Heap) (addrs : List Nat) (φ : Nat → Nat) :
    List (Option Int × String) → List (Option Int × String) → Prop
  | [], [] => True
  | kv :: l, kv' :: l' =>
    kv.2 = kv'.2 ∧ (∃ b ∈ addrs, kv.1 = xidOf hp b ∧ kv'.1 = xidOf hp' (φ b)) ∧ KeysRel hp hp' addrs φ l l'
  | _, _ => False

theorem beq_of_iff {k1 k2 j1 j2 : Option Int} (h : k1 = k2 ↔ j1 = j2) : (k1 == k2) = (j1 == j2) := by
  rw [Bool.eq_iff_iff, beq_iff_eq, beq_iff_eq]
  exact h

theorem getById_rel {hp hp' : Heap} {addrs : List Nat} {φ : Nat → Nat} {a a' : Nat}
    (hk : SameKey hp hp' addrs φ a a') :
    ∀ (l l' : List (Option Int × String)), KeysRel hp hp' addrs φ l l' →
      getById l' (xidOf hp' a') = getById l (xidOf hp a)
  | [], [], _ => rfl
  | [], _ :: _, h => h.elim
  | _ :: _, [], h => h.elim
  | (k, v) :: l, (k', v') :: l', h => by
    obtain ⟨hv, ⟨b, hb, hk1, hk2⟩, hrest⟩ := h
    simp only at hv hk1 hk2
    subst hv hk1 hk2
    simp only [getById]
    rw [beq_of_iff (hk b hb)]
    split
    · rfl
    · exact getById_rel hk l l' hrest

theorem setById_rel {hp hp' : Heap} {addrs : List Nat} {φ : Nat → Nat} {c : Nat} (hc : c ∈ addrs)
    (hk : SameKey hp hp' addrs φ c (φ c)) (s : String) :
    ∀ (l l' : List (Option Int × String)), KeysRel hp hp' addrs φ l l' →
      KeysRel hp hp' addrs φ (setById l (xidOf hp c) s) (setById l' (xidOf hp' (φ c)) s)
  | [], [], _ => ⟨rfl, ⟨c, hc, rfl, rfl⟩, trivial⟩
  | [], _ :: _, h => h.elim
  | _ :: _, [], h => h.elim
  | (k, v) :: l, (k', v') :: l', h => by
    obtain ⟨hv, ⟨b, hb, hk1, hk2⟩, hrest⟩ := h
    simp only at hv hk1 hk2
    subst hv hk1 hk2
    simp only [setById]
    rw [beq_of_iff (hk b hb)]
    split
    · exact ⟨rfl, ⟨c, hc, rfl, rfl⟩, hrest⟩
    · exact ⟨rfl, ⟨b, hb, rfl, rfl⟩, setById_rel hc hk s l l' hrest⟩

theorem AnchRel.of_keysRel {hp hp' : Heap} {addrs : List Nat} {φ : Nat → Nat} {byId byId' : List (Option Int × String)}
    (h : KeysRel hp hp' addrs φ byId byId') : AnchRel hp hp' addrs φ byId byId' :=
  fun _ _ hk => getById_rel hk byId byId' h

def StRel (hp hp' : Heap) (addrs : List Nat) (φ : Nat → Nat) (st st' : AnchorSt) : Prop :=
  st'.counts = st.counts ∧ KeysRel hp hp' addrs φ st.byId st'.byId

theorem StRel.init (hp hp' : Heap) (addrs : List Nat) (φ : Nat → Nat) : StRel hp hp' addrs φ {} {} :=
  ⟨rfl, trivial⟩

/-! ### generating the anchors

All the loop needs of the two sides: the structures of `addrs` and their images have the same anchor text and the same
key. -/

section
variable {cass cass' : List Cas} {hp hp' : Heap} {indexed indexed' addrs : List Nat} {φ : Nat → Nat} {o : Opts}

theorem anchorStep_rel {a : Nat} (ha : a ∈ addrs)
    (hanch : anchorOf cass' hp' indexed' o (φ a) = anchorOf cass hp indexed o a)
    (hkey : SameKey hp hp' addrs φ a (φ a)) {st st' : AnchorSt} (hst : StRel hp hp' addrs φ st st') :
    ExRel (StRel hp hp' addrs φ) (anchorStep cass hp indexed o st a) (anchorStep cass' hp' indexed' o st' (φ a)) := by
  unfold anchorStep
  rw [hanch, hst.1]
  cases anchorOf cass hp indexed o a with
  | error e => exact ExRel.err e
  | ok s => exact ExRel.ok_ok ⟨rfl, setById_rel ha hkey _ _ _ hst.2⟩

variable (hanch : ∀ a ∈ addrs, anchorOf cass' hp' indexed' o (φ a) = anchorOf cass hp indexed o a)
  (hkey : ∀ a ∈ addrs, SameKey hp hp' addrs φ a (φ a))
include hanch hkey

theorem anchorsOfList_rel : ∀ (l : List Nat), (∀ a ∈ l, a ∈ addrs) → ∀ {st st' : AnchorSt},
    StRel hp hp' addrs φ st st' →
    ExRel (StRel hp hp' addrs φ) (anchorsOfList cass hp indexed o l st) (anchorsOfList cass' hp' indexed' o (l.map φ) st')
  | [], _, _, _, hst => ExRel.ok_ok hst
  | a :: l, hl, st, st', hst => by
    have ha := hl a List.mem_cons_self
    simp only [List.map_cons, anchorsOfList]
    rcases (anchorStep_rel ha (hanch a ha) (hkey a ha) hst).cases with ⟨e, h1, h2⟩ | ⟨s, s', h1, h2, hs⟩
    · rw [h1, h2]; exact ExRel.err e
    · rw [h1, h2]
      exact anchorsOfList_rel l (fun b hb => hl b (List.mem_cons_of_mem _ hb)) hs

theorem genAnchors_rel (ts : TypeSystem) (sorted sorted' : List (String × List Nat)) :
    ∀ (L : List (String × List Nat)), (∀ p ∈ L, ∀ a ∈ p.2, a ∈ addrs) → ∀ {st st' : AnchorSt},
      StRel hp hp' addrs φ st st' →
      ExRel (StRel hp hp' addrs φ) (genAnchors ts cass hp indexed o sorted L st)
        (genAnchors ts cass' hp' indexed' o sorted' (L.map (fun p => (p.1, p.2.map φ))) st')
  | [], _, _, _, hst => ExRel.ok_ok hst
  | (t, fss) :: L, hL, st, st', hst => by
    simp only [List.map_cons, genAnchors]
    cases getType ts t with
    | error e => exact ExRel.err e
    | ok _ =>
      simp only
      rcases (anchorsOfList_rel hanch hkey fss (hL (t, fss) List.mem_cons_self) hst).cases with
        ⟨e, h1, h2⟩ | ⟨s, s', h1, h2, hs⟩
      · rw [h1, h2]; exact ExRel.err e
      · rw [h1, h2]
        exact genAnchors_rel ts sorted sorted' L (fun p hp => hL p (List.mem_cons_of_mem _ hp)) hs

end

section
variable {K : Consts} {cass cass' : List Cas} {hp hp' : Heap} {indexed indexed' addrs addrs' : List Nat} {φ : Nat → Nat}

theorem IsoR.anchorOf (h : IsoR K cass cass' hp hp' indexed indexed' addrs addrs' φ) (o : Opts) {a : Nat}
    (ha : a ∈ addrs) : anchorOf cass' hp' indexed' o (φ a) = Comparable.anchorOf cass hp indexed o a :=
  anchorOf_congr o (h.view a ha) (h.ty a ha) (h.isAnnot ha) (h.beginOf ha) (h.endOf ha) (h.idx a ha).symm

theorem IsoR.anchorStep (h : IsoR K cass cass' hp hp' indexed indexed' addrs addrs' φ) (o : Opts) {a : Nat}
    (ha : a ∈ addrs) {st st' : AnchorSt} (hst : StRel hp hp' addrs φ st st') :
    ExRel (StRel hp hp' addrs φ) (Comparable.anchorStep cass hp indexed o st a)
      (Comparable.anchorStep cass' hp' indexed' o st' (φ a)) :=
  anchorStep_rel ha (h.anchorOf o ha) (h.key a ha) hst

theorem IsoR.genAnchors (h : IsoR K cass cass' hp hp' indexed indexed' addrs addrs' φ) (ts : TypeSystem) (o : Opts)
    (sorted sorted' : List (String × List Nat)) :
    ∀ (L : List (String × List Nat)), (∀ p ∈ L, ∀ a ∈ p.2, a ∈ addrs) → ∀ {st st' : AnchorSt},
      StRel hp hp' addrs φ st st' →
      ExRel (StRel hp hp' addrs φ) (Comparable.genAnchors ts cass hp indexed o sorted L st)
        (Comparable.genAnchors ts cass' hp' indexed' o sorted' (L.map (fun p => (p.1, p.2.map φ))) st') :=
  genAnchors_rel (fun _ ha => h.anchorOf o ha) h.key ts sorted sorted'

end

end Cassis.Comparable
