/-
The reader's offset conversion `convertOffsets` (`Model/Xmi.lean`) in normal form: two `setSlot`s (`convSlot`), each
replacing an integer `i` by `cvI conv i` (`convertOffsets_eq`, `_inv`, `_int`); used by `HeapStep.lean`, `XmiReader.lean`,
`Pass3Member.lean` and, for the JSON reader, `JsonReaderSimPasses.lean`.  At the head: the text of a sofa as the reader sees
it (`docText`).
-/
import CassisModel.Spec.XmiDoc
import CassisModel.Proofs.XmiLookups
import CassisModel.Proofs.Lex

namespace Cassis.Xmi
open Cassis.Offsets

theorem toNat_ofNat_scalar (c : Nat) (h : IsScalar c) : (Char.ofNat c).toNat = c := by
  have hv : c.isValidChar := by
    unfold IsScalar at h
    rcases h with h | ⟨h1, h2⟩
    · exact Or.inl h
    · exact Or.inr ⟨by omega, h2⟩
  rw [Char.ofNat, dif_pos hv]
  rfl

theorem docText_toList (t : List Nat) (hs : ∀ c ∈ t, IsScalar c) : (docText t).toList.map Char.toNat = t := by
  unfold docText
  rw [String.toList_ofList, List.map_map]
  induction t with
  | nil => rfl
  | cons c t ih =>
    rw [List.map_cons, ih (fun x hx => hs x (List.mem_cons_of_mem _ hx))]
    show (Char.ofNat c).toNat :: t = _
    rw [toNat_ofNat_scalar c (hs c List.mem_cons_self)]

theorem docText_isEmpty (t : List Nat) (hne : t ≠ []) : (docText t).isEmpty = false :=
  Lex.isEmpty_false_of_toList (by
    unfold docText
    rw [String.toList_ofList]
    exact fun e => hne (List.map_eq_nil_iff.mp e))

theorem docText_nil : docText [] = "" := rfl

/-- what `convertOffsets` makes of an external offset -/
def cvI (conv : Conv) (i : Int) : Int :=
  if i < 0 then i else (externalToPython conv i.toNat : Nat)

theorem cvI_nat (conv : Conv) (n : Nat) : cvI conv n = (externalToPython conv n : Nat) := by
  unfold cvI
  rw [if_neg (by omega), Int.toNat_natCast]

def cvVal (conv : Conv) : Val → Val
  | .int i => .int (cvI conv i)
  | v => v

def convSlot (conv : Conv) (n : String) (hp : Heap) (a : Nat) : Except Err Heap :=
  match slot hp a n with
  | some v => Heap.setSlot hp a n (cvVal conv v)
  | none => .error .attributeError

theorem convertOffsets_eq (conv : Conv) (hp : Heap) (a : Nat) :
    convertOffsets conv hp a = convSlot conv "begin" hp a >>= fun hp1 => convSlot conv "end" hp1 a := by
  unfold convertOffsets convSlot
  cases slot hp a "begin" <;> rfl

/-- what the two `setSlot`s hand on, `convertOffsets` hands on -/
theorem convertOffsets_inv {conv : Conv} {hp hp' : Heap} {a : Nat} (R : Heap → Prop)
    (hR : ∀ h1 h2 n v w, slot h1 a n = some w → Heap.setSlot h1 a n v = .ok h2 → R h1 → R h2) (h0 : R hp)
    (h : convertOffsets conv hp a = .ok hp') : R hp' := by
  rw [convertOffsets_eq] at h
  cases h1 : convSlot conv "begin" hp a with
  | error e => rw [h1] at h; cases h
  | ok hp1 =>
    rw [h1] at h
    unfold convSlot at h1
    replace h : convSlot conv "end" hp1 a = .ok hp' := h
    unfold convSlot at h
    split at h1
    · split at h
      · exact hR _ _ _ _ _ ‹_› h (hR _ _ _ _ _ ‹_› h1 h0)
      · cases h
    · cases h1

theorem convSlot_int (conv : Conv) {n : String} {hp : Heap} {a : Nat} {o : Obj} {i : Int} (ha : hp[a]? = some o)
    (hi : alistGet? o.slots n = some (.int i)) :
    convSlot conv n hp a = .ok (hp.set a { o with slots := alistSet o.slots n (.int (cvI conv i)) }) := by
  unfold convSlot
  rw [(slot_of ha n).trans hi]
  exact Heap.setSlot_existing _ ha hi

theorem convertOffsets_int (conv : Conv) {hp : Heap} {a : Nat} {o : Obj} {bx ex : Int} (ha : hp[a]? = some o)
    (hb : alistGet? o.slots "begin" = some (.int bx)) (he : alistGet? o.slots "end" = some (.int ex)) :
    convertOffsets conv hp a =
      .ok (hp.set a { o with slots := alistSet (alistSet o.slots "begin" (.int (cvI conv bx))) "end" (.int (cvI conv ex)) }) := by
  rw [convertOffsets_eq, convSlot_int conv ha hb]
  show convSlot conv "end" _ a = _
  rw [convSlot_int conv (List.getElem?_set_self (List.getElem?_eq_some_iff.mp ha).1)
    ((alistGet?_set_other _ _ _ _ (by decide)).trans he), List.set_set]

theorem convertOffsets_nat (conv : Conv) (hp : Heap) (a : Nat) (o : Obj) (xb xe : Nat) (ha : hp[a]? = some o)
    (hsb : alistGet? o.slots "begin" = some (.int (xb : Nat))) (hse : alistGet? o.slots "end" = some (.int (xe : Nat))) :
    ∃ hp' : Heap, convertOffsets conv hp a = .ok hp' ∧
      Traverse.slot hp' a "begin" = some (.int (externalToPython conv xb : Nat)) ∧
      Traverse.slot hp' a "end" = some (.int (externalToPython conv xe : Nat)) := by
  refine ⟨_, convertOffsets_int conv ha hsb hse, ?_, ?_⟩ <;>
    rw [Traverse.slot_eq (List.getElem?_set_self (List.getElem?_eq_some_iff.mp ha).1), cvI_nat, cvI_nat]
  · exact (alistGet?_set_other _ _ _ _ (by decide)).trans (alistGet?_set_same _ _ _)
  · exact alistGet?_set_same _ _ _

end Cassis.Xmi
