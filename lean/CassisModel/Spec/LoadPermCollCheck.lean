/-
Element-order independence of the XMI reader on the whole format (`Properties/C05PermColl.lean`): the conclusion of the
theorem as a computable test, evaluated on the instance `CollDemo` (`Spec/RoundTripCollCheck.lean`: every collection
kind, inlined and shared) and on a two-view variant of it, for several layouts of the written document.

`permDiffs … π` writes the CAS, rearranges the document by `π`, loads it and compares — through the id table of the first
pass — every collected structure (type, id, deep content `featContentC` of every feature) and the views with the
ORIGINAL; `canonDump` is an id-keyed canonical dump of a loaded CAS (used to compare two loads with each other).
-/
import CassisModel.Spec.RoundTripCollCheck

namespace Cassis.Xmi
open Cassis.TS Cassis.Traverse

/-- the conclusion of `xmi_load_perm_coll` as a test: the list of differences (empty = none); `(0, some "views")`: the
    views differ as a multiset or the initial view is not first; `(0, some "ids")`: the id table differs as a set;
    `(0, some "gen")`: a generator was not reseeded -/
def permDiffs (K : Consts) (ts : TypeSystem) (cass : List Cas) (ci : Nat) (hp : Heap) (tsIdx ci' : Nat)
    (π : XDoc → XDoc) : Except Err (List (Int × Option String)) := do
  let (doc, st) ← saveXmi K ts cass ci hp
  let doc' := π doc
  let p ← pass1 K ts tsIdx false doc' { heap := st.heap }
  let ld ← loadXmi K ts tsIdx ci' false st.heap doc'
  let c ← match cass[ci]? with | some c => pure c | none => throw .keyError
  let vs' := ld.cas.views.map (viewContent ld.heap)
  let vs := c.views.map (viewContent st.heap)
  let viewsOk := decide (vs'.Perm vs) && decide ((ld.cas.views.head?).map (·.1) = some Cas.INITIAL_VIEW)
  let idsOk := decide ((p.fss.map (·.1)).Perm (0 :: (sortById st.allFs).map (·.1)))
  let genOk := st.allFs.all (fun q => decide (q.1 < ld.cas.nextXid)) &&
    c.views.all (fun nv => decide (nv.2.sofa.xid < ld.cas.nextXid) && decide (nv.2.sofa.sofaNum < ld.cas.nextSofaNum))
  let ds := st.allFs.flatMap (fun q =>
    match lookupFs p.fss q.1, st.heap[q.2]? with
    | .ok a', some o =>
      match ld.heap[a']?, find? ts o.ty with
      | some o', some t =>
        if o'.ty == o.ty && o'.xid == some q.1 then
          (allFeatures t).filterMap (fun f =>
            if CVal.beq (featContentC K ld.heap a' f) (featContentC K st.heap q.2 f) then none else some (q.1, some f.name))
        else [(q.1, none)]
      | _, _ => [(q.1, none)]
    | _, _ => [(q.1, none)])
  pure ((if viewsOk then [] else [(0, some "views")]) ++ (if idsOk then [] else [(0, some "ids")]) ++
    (if genOk then [] else [(0, some "gen")]) ++ ds)

/-- id-keyed canonical dump of the CAS loaded from `π doc`: per id (ascending) the type and the deep content of every
    feature, the view contents sorted by name, the generators -/
def canonDump (K : Consts) (ts : TypeSystem) (cass : List Cas) (ci : Nat) (hp : Heap) (tsIdx ci' : Nat)
    (π : XDoc → XDoc) : Except Err String := do
  let (doc, st) ← saveXmi K ts cass ci hp
  let doc' := π doc
  let p ← pass1 K ts tsIdx false doc' { heap := st.heap }
  let ld ← loadXmi K ts tsIdx ci' false st.heap doc'
  let rows := (sortById p.fss).map (fun q =>
    match ld.heap[q.2]? with
    | some o =>
      let fs := match find? ts o.ty with | some t => allFeatures t | none => []
      s!"{q.1}:{o.ty}:{repr o.xid}:" ++
        String.intercalate ";" (fs.map (fun f => f.name ++ "=" ++ toString (repr (featContentC K ld.heap q.2 f))))
    | none => s!"{q.1}:?")
  let vs := (ld.cas.views.map (viewContent ld.heap)).map (fun v => toString (repr v))
  pure (String.intercalate "\n" rows ++ "\nVIEWS(sorted) " ++ String.intercalate "|" (vs.toArray.qsort (· < ·)).toList ++
    s!"\nFIRST {(ld.cas.views.head?).map (·.1)} GEN {ld.cas.nextXid} {ld.cas.nextSofaNum}")

namespace PermDemo
open CollDemo

def rot (n : Nat) (d : XDoc) : XDoc := d.drop n ++ d.take n
/-- views, then sofas, then the rest -/
def viewsFirst (d : XDoc) : XDoc :=
  d.filter (·.ty == VIEW_T) ++ d.filter (·.ty == SOFA) ++ d.filter (fun e => e.ty != VIEW_T && e.ty != SOFA)
def nullLast (d : XDoc) : XDoc := d.filter (·.ty != NULL_T) ++ d.filter (·.ty == NULL_T)
/-- the structure elements in descending id order, the rest as it was -/
def swapFs (d : XDoc) : XDoc :=
  match d with
  | n :: rest =>
    let fs := rest.filter (fun e => e.ty != VIEW_T && e.ty != SOFA)
    n :: fs.reverse ++ rest.filter (fun e => e.ty == VIEW_T || e.ty == SOFA)
  | [] => []

def layouts : List (String × (XDoc → XDoc)) :=
  [("id", id), ("reverse", List.reverse), ("rot1", rot 1), ("rot2", rot 2), ("rot3", rot 3), ("rot5", rot 5),
   ("rot9", rot 9), ("viewsFirst", viewsFirst), ("nullLast", nullLast), ("swapFs", swapFs),
   ("viewsFirst.reverse", viewsFirst ∘ List.reverse), ("nullLast.swapFs", nullLast ∘ swapFs)]

/-- a second view over another text; the second `x.Doc` structure is indexed there -/
def cas2 : Cas :=
  { views := cas.views ++ [("v2",
      { sofa := { sofaID := "v2", sofaNum := 2, xid := 40, text := some [120, 121, 122, 120],
                  mime := none, uri := none, arr := .none, conv := some (Offsets.table [120, 121, 122, 120]) },
        idx := [("x.Doc", [{ b := 2, e := 3, oid := 1 }])] })],
    nextXid := 41, nextSofaNum := 3 }

/-- the demo heap with the second structure pointing to the sofa of the second view -/
def hp2 : Heap :=
  CollDemo.hp.set 1 { ty := "x.Doc", ts := 0, xid := none, slots :=
    [("n", .none), ("next", .ref 0)] ++ noColl ++ [("begin", .int 2), ("end", .int 3), ("sofa", .sofa 0 "v2")] }

def showDiffs (r : Except Err (List (Int × Option String))) : String :=
  match r with
  | .ok [] => "ok []"
  | .ok l => "ok " ++ toString (l.map (fun p => (p.1, p.2.getD "-")))
  | .error e => "error " ++ toString (repr e)

/-- (layout, is a permutation of the written document, differences to the original, same canonical dump as the
    unpermuted load) -/
def runs (cass : List Cas) (h : Heap) : List (String × Bool × String × Bool) :=
  let base := canonDump K ts cass 0 h 0 1 id
  layouts.map (fun (n, π) =>
    let isPerm := match saveXmi K ts cass 0 h with
      | .ok (doc, _) => decide ((π doc).Perm doc)
      | .error _ => false
    let same := match base, canonDump K ts cass 0 h 0 1 π with
      | .ok a, .ok b => a == b
      | _, _ => false
    (n, isPerm, showDiffs (permDiffs K ts cass 0 h 0 1 π), same))

/-! Evaluated results (the `#eval`s below print them at every build).

One view (`CollDemo`): the document has 14 elements — `cas:NULL`, the two `x.Doc` structures (ids 2, 3), the shared
FSArray / IntegerArray / StringArray objects (4–6), the heads of the shared FSList / IntegerList / StringList (7–9), their
end nodes (10–12), the sofa (1), the view.  `runs` gives for every layout `(name, true, "ok []", true)`: the layout is a
permutation, nothing differs from the original, the id-keyed dump equals the dump of the unpermuted load. -/
-- #eval (saveXmi K ts [cas] 0 CollDemo.hp).toOption.map (fun r => r.1.map (fun e => (e.ty, attr e ID)))
#eval runs [cas] CollDemo.hp
#eval (runs [cas] CollDemo.hp).all (fun r => r.2.1 && r.2.2.1 == "ok []" && r.2.2.2)       -- true
-- two views (the second `x.Doc` structure, only referenced in `CollDemo`, is indexed in the second view here); the
-- hypotheses of the theorem hold on this instance as well
#eval collAppliesB K ts [cas2] 0 hp2                                                        -- true
#eval runs [cas2] hp2
#eval (runs [cas2] hp2).all (fun r => r.2.1 && r.2.2.1 == "ok []" && r.2.2.2)              -- true
-- #eval canonDump K ts [cas2] 0 hp2 0 1 List.reverse

end PermDemo

end Cassis.Xmi
