/-
Point updates of the heap (`Heap.setSlot`, the model of `fs.f = v`) and what they leave untouched: the types, the ids,
every other slot — hence, when the slot is not an offset, the sort order, and, when it is neither an offset nor the
sofa, the whole anchor map.
-/
import CassisModel.Proofs.ComparableSensAnchors
import CassisModel.Proofs.Heap

namespace Cassis.Comparable
open Cassis.TS Cassis.Traverse

/-- `hp'` is `hp` with the (existing) slot `f` of `a` set to `v` -/
structure HeapUpd (hp hp' : Heap) (a : Nat) (f : String) (v : Val) : Prop where
  len : hp'.length = hp.length
  ty : ∀ c, tyOf hp' c = tyOf hp c
  xid : ∀ c, xidOf hp' c = xidOf hp c
  same : slot hp' a f = some v
  other : ∀ c n, (c ≠ a ∨ n ≠ f) → slot hp' c n = slot hp c n

theorem setSlot_of_slot {hp : Heap} {a : Nat} {f : String} {p : Val} (v : Val) (hs : slot hp a f = some p) :
    ∃ o, hp[a]? = some o ∧ Heap.setSlot hp a f v = .ok (hp.set a { o with slots := alistSet o.slots f v }) := by
  obtain ⟨o, ho, hs⟩ := slot_some hs
  exact ⟨o, ho, Heap.setSlot_existing v ho hs⟩

theorem setSlot_upd {hp hp' : Heap} {a : Nat} {f : String} {p v : Val} (hs : slot hp a f = some p)
    (h : Heap.setSlot hp a f v = .ok hp') : HeapUpd hp hp' a f v := by
  obtain ⟨ob, ho, e⟩ := setSlot_of_slot v hs
  rw [e] at h
  cases h
  have hlt : a < hp.length := (List.getElem?_eq_some_iff.mp ho).1
  have get : ∀ c, (hp.set a { ob with slots := alistSet ob.slots f v })[c]? =
      if a = c then some { ob with slots := alistSet ob.slots f v } else hp[c]? := by
    intro c
    rw [List.getElem?_set]
    by_cases hac : a = c
    · subst hac; simp [hlt]
    · simp [hac]
  refine ⟨by simp, ?_, ?_, ?_, ?_⟩
  · intro c
    unfold tyOf
    rw [get]
    by_cases hac : a = c
    · subst hac; simp [ho]
    · simp [hac]
  · intro c
    unfold xidOf
    rw [get]
    by_cases hac : a = c
    · subst hac; simp [ho]
    · simp [hac]
  · unfold slot
    rw [get]
    simp [alistGet?_set_same]
  · intro c n hcn
    unfold slot
    rw [get]
    by_cases hac : a = c
    · subst hac
      have hn : n ≠ f := by
        rcases hcn with h | h
        · exact absurd rfl h
        · exact h
      simp [ho, alistGet?_set_other _ _ _ _ hn]
    · simp [hac]

theorem HeapUpd.agreeSort {hp hp' : Heap} {a : Nat} {f : String} {v : Val} (u : HeapUpd hp hp' a f v)
    (hb : f ≠ "begin") (he : f ≠ "end") : AgreeSort hp hp' :=
  .of_slots u.ty (fun c => u.other c _ (Or.inr (Ne.symm hb))) (fun c => u.other c _ (Or.inr (Ne.symm he)))

/-! ### agreement on what the anchors look at -/

structure AgreeAnchor (hp hp' : Heap) : Prop extends AgreeSort hp hp' where
  xid : ∀ c, xidOf hp' c = xidOf hp c
  sofa : ∀ c, slot hp' c "sofa" = slot hp c "sofa"

theorem HeapUpd.agreeAnchor {hp hp' : Heap} {a : Nat} {f : String} {v : Val} (u : HeapUpd hp hp' a f v)
    (hb : f ≠ "begin") (he : f ≠ "end") (hs : f ≠ "sofa") : AgreeAnchor hp hp' :=
  { u.agreeSort hb he with xid := u.xid, sofa := fun c => u.other c _ (Or.inr (Ne.symm hs)) }

theorem AgreeAnchor.anchorOf {hp hp' : Heap} (ag : AgreeAnchor hp hp') (cass : List Cas) (indexed : List Nat)
    (o : Opts) (a : Nat) : anchorOf cass hp' indexed o a = anchorOf cass hp indexed o a :=
  ag.toAgreeSort.anchorOf ag.sofa cass indexed o a

theorem AgreeAnchor.anchorsOfList {hp hp' : Heap} (ag : AgreeAnchor hp hp') (cass : List Cas) (indexed : List Nat)
    (o : Opts) (l : List Nat) (st : AnchorSt) :
    anchorsOfList cass hp' indexed o l st = anchorsOfList cass hp indexed o l st := by
  induction l generalizing st with
  | nil => rfl
  | cons a as ih =>
    rw [Comparable.anchorsOfList, Comparable.anchorsOfList]
    have : anchorStep cass hp' indexed o st a = anchorStep cass hp indexed o st a := by
      unfold anchorStep
      rw [ag.anchorOf, ag.xid]
    rw [this]
    cases anchorStep cass hp indexed o st a with
    | error e => rfl
    | ok st' => exact ih st'

theorem AgreeAnchor.genAnchors {hp hp' : Heap} (ag : AgreeAnchor hp hp') (ts : TypeSystem) (cass : List Cas)
    (indexed : List Nat) (o : Opts) (sorted l : List (String × List Nat)) (st : AnchorSt) :
    genAnchors ts cass hp' indexed o sorted l st = genAnchors ts cass hp indexed o sorted l st := by
  induction l generalizing st with
  | nil => rfl
  | cons p rest ih =>
    obtain ⟨t, fss⟩ := p
    rw [Comparable.genAnchors, Comparable.genAnchors, ag.anchorsOfList]
    cases getType ts t with
    | error e => rfl
    | ok _ =>
      simp only []
      cases Comparable.anchorsOfList cass hp indexed o fss st with
      | error e => rfl
      | ok st' => exact ih st'

end Cassis.Comparable
