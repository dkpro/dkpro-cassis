/-
`SameTs` (the relation `json_full_ts_same` establishes between the original and the rebuilt type system) read name by
name (`sameTs_find`), as an equivalence.

`KeysOn N`: two type systems agree name by name on a closed set `N` of names.  `SameTs` (mode FULL) is the case of all
names, `PartOn` (mode MINIMAL, `ChainEmbTsLe.lean`) that of a list of registered names.  From it alone: the same
constructor fields (`keys_to_ctor`) and, both registries listing each name once (`Consistent`), the same `is_instance_of`
(`keysOn_inst`) — which is all the JSON reader asks about a type it finds (`typeAgree_of_keys`).  `SameTs` type systems
moreover find a type under the same names, short ones included (`sameTs_getType`), hence answer every question of the
reader alike (`typeAgree_of_sameTs`).
-/
import CassisModel.Spec.ReaderSim
import CassisModel.Proofs.TypeSystem
import CassisModel.Proofs.Determinism

namespace Cassis.Json
open Cassis.TS

theorem sameTs_find {ts ts' : TypeSystem} (h : SameTs ts ts') (n : String) :
    (find? ts n = none ∧ find? ts' n = none) ∨ ∃ t t', find? ts n = some t ∧ find? ts' n = some t' ∧ SameDecl t t' := by
  have := h n
  cases h1 : find? ts n with
  | none =>
    cases h2 : find? ts' n with
    | none => exact Or.inl ⟨rfl, rfl⟩
    | some t' => rw [h1, h2] at this; exact this.elim
  | some t =>
    cases h2 : find? ts' n with
    | none => rw [h1, h2] at this; exact this.elim
    | some t' => rw [h1, h2] at this; exact Or.inr ⟨t, t', rfl, rfl, this⟩

theorem sameDecl_symm {t t' : TypeRec} (h : SameDecl t t') : SameDecl t' t :=
  ⟨h.1.symm, h.2.1.symm, h.2.2.1.symm, h.2.2.2.1.symm, h.2.2.2.2.symm⟩

theorem sameDecl_trans {a b c : TypeRec} : SameDecl a b → SameDecl b c → SameDecl a c
  | ⟨n1, s1, d1, c1, f1⟩, ⟨n2, s2, d2, c2, f2⟩ => ⟨n2.trans n1, s2.trans s1, d2.trans d1, c2.trans c1, f2.trans f1⟩

theorem sameTs_symm {ts ts' : TypeSystem} (h : SameTs ts ts') : SameTs ts' ts := by
  intro n
  rcases sameTs_find h n with ⟨h1, h2⟩ | ⟨t, t', h1, h2, hd⟩
  · rw [h1, h2]; trivial
  · rw [h1, h2]; exact sameDecl_symm hd

theorem sameTs_trans {a b c : TypeSystem} (h1 : SameTs a b) (h2 : SameTs b c) : SameTs a c := by
  intro n
  rcases sameTs_find h1 n with ⟨ha, hb⟩ | ⟨ta, tb, ha, hb, hd1⟩
  · rcases sameTs_find h2 n with ⟨_, hc⟩ | ⟨tb', _, hb', _, _⟩
    · rw [ha, hc]; trivial
    · rw [hb] at hb'; cases hb'
  · rcases sameTs_find h2 n with ⟨hb', _⟩ | ⟨tb', tc, hb', hc, hd2⟩
    · rw [hb] at hb'; cases hb'
    · rw [hb] at hb'; cases hb'
      rw [ha, hc]; exact sameDecl_trans hd1 hd2

theorem anc_of_sameTs {o m : TypeSystem} (hs : SameTs o m) {a b : String} : Anc m a b → Anc o a b :=
  Anc.of_recs fun b tb hf => by
    rcases sameTs_find hs b with ⟨_, h2⟩ | ⟨t, t', h1, h2, hd⟩
    · rw [hf] at h2; cases h2
    · rw [hf] at h2; cases h2
      exact ⟨t, h1, hd.2.1.symm⟩

/-- a name of `N` is registered in both type systems or in neither, with the same supertype and the same effective
    features up to `Feature.__eq__`; `N` is closed under supertypes and ranges of effective features -/
def KeysOn (N : String → Prop) (ts ts' : TypeSystem) : Prop :=
  ∀ n, N n → (find? ts n = none ∧ find? ts' n = none) ∨ ∃ t t', find? ts n = some t ∧ find? ts' n = some t' ∧
    t'.super = t.super ∧ ((allFeatures t').map featKey).Perm ((allFeatures t).map featKey) ∧
    (∀ s, t.super = some s → N s) ∧ ∀ f ∈ allFeatures t, N f.range

theorem keysOn_of_sameTs {ts ts' : TypeSystem} (h : SameTs ts ts') : KeysOn (fun _ => True) ts ts' := fun n _ =>
  (sameTs_find h n).imp id fun ⟨t, t', h1, h2, hd⟩ =>
    ⟨t, t', h1, h2, hd.2.1, hd.2.2.2.2, fun _ _ => trivial, fun _ _ => trivial⟩

theorem keysOn_superOf {N : String → Prop} {ts ts' : TypeSystem} (h : KeysOn N ts ts') (x : String) (hx : N x) :
    superOf ts' x = superOf ts x ∧ ∀ s, superOf ts x = some s → N s := by
  unfold superOf
  rcases h x hx with ⟨h1, h2⟩ | ⟨t, t', h1, h2, hs, _, hsn, _⟩
  · rw [h1, h2]; exact ⟨rfl, fun _ e => nomatch e⟩
  · rw [h1, h2]; exact ⟨hs, hsn⟩

/-- supertype chains that agree on a set `N` of names closed under them: the walk agrees -/
theorem instAux_walk {N : String → Prop} {ts ts' : TypeSystem}
    (h : ∀ x, N x → superOf ts' x = superOf ts x ∧ ∀ s, superOf ts x = some s → N s) (p : String) :
    ∀ (fuel : Nat) (x : String), N x → isInstanceOfAux ts' p fuel (some x) = isInstanceOfAux ts p fuel (some x) := by
  intro fuel
  induction fuel with
  | zero => intro x _; rfl
  | succ f ih =>
    intro x hx
    obtain ⟨e, hcl⟩ := h x hx
    simp only [isInstanceOfAux]
    rw [e]
    cases hs : superOf ts x with
    | none => rw [isInstanceOfAux_none, isInstanceOfAux_none]
    | some s => rw [ih s (hcl s hs)]

/-- the registries may differ in size: both walks are run with the same, sufficient fuel -/
theorem keysOn_inst {N : String → Prop} {ts ts' : TypeSystem} (h : KeysOn N ts ts') (hc : Consistent ts)
    (hc' : Consistent ts') {a : String} (ha : N a) (b : String) : isInstanceOf ts' a b = isInstanceOf ts a b := by
  rw [← instAux_fuel hc' b a (ts.types.length + ts'.types.length + 1) (by omega),
    ← instAux_fuel hc b a (ts.types.length + ts'.types.length + 1) (by omega)]
  exact instAux_walk (keysOn_superOf h) b _ a ha

/-- the constructor fields are the names in the feature keys -/
theorem keys_to_ctor {t t' : TypeRec} (hp : ((allFeatures t').map featKey).Perm ((allFeatures t).map featKey)) :
    (ctorFields t').Perm (ctorFields t) := by
  unfold ctorFields
  have := hp.map (fun k : String × Option String × String × String => k.1)
  simp only [List.map_map] at this
  exact this

/-- what the JSON reader asks about two records found under the name `n` -/
theorem typeAgree_of_keys {ts ts' : TypeSystem} {n : String} {t t' : TypeRec} (h1 : getType ts n = .ok t)
    (h2 : getType ts' n = .ok t') (hn : t'.name = t.name)
    (hp : ((allFeatures t').map featKey).Perm ((allFeatures t).map featKey))
    (hi : isInstanceOf ts' t.name ANNOTATION = isInstanceOf ts t.name ANNOTATION) : TypeAgree ts ts' n := by
  unfold TypeAgree
  rw [h1, h2]
  exact ⟨hn, fun _ => (keys_to_ctor hp).mem_iff, hi⟩

theorem sameTs_names_perm {ts ts' : TypeSystem} (h : SameTs ts ts') (hc : Consistent ts) (hc' : Consistent ts') :
    (ts'.types.map (·.name)).Perm (ts.types.map (·.name)) := by
  rw [List.perm_ext_iff_of_nodup hc'.nodup hc.nodup]
  intro n
  rw [← hasExact_iff_mem, ← hasExact_iff_mem, hasExact_iff_find, hasExact_iff_find]
  rcases sameTs_find h n with ⟨h1, h2⟩ | ⟨t, t', h1, h2, _⟩
  · rw [h1, h2]
  · rw [h1, h2]; simp

theorem filter_names (l : List TypeRec) (p : String → Bool) :
    (l.filter (fun t => p t.name)).map (·.name) = (l.map (·.name)).filter p := by
  induction l with
  | nil => rfl
  | cons t rest ih =>
    simp only [List.filter_cons, List.map_cons]
    split
    · simp only [List.map_cons, ih]
    · exact ih

theorem pick1_of_length_ne {l : List TypeRec} (h : l.length ≠ 1) : TsXml.pick1 l = .error .typeNotFound := by
  match l, h with
  | [], _ => rfl
  | [_], h => exact absurd rfl h
  | _ :: _ :: _, _ => rfl

theorem sameTs_getType {ts ts' : TypeSystem} (h : SameTs ts ts') (hc : Consistent ts) (hc' : Consistent ts')
    (n : String) :
    (∃ t t', getType ts n = .ok t ∧ getType ts' n = .ok t' ∧ SameDecl t t') ∨
    (getType ts n = .error .typeNotFound ∧ getType ts' n = .error .typeNotFound) := by
  rw [TsXml.getType_eq_pick, TsXml.getType_eq_pick]
  rcases sameTs_find h n with ⟨h1, h2⟩ | ⟨t, t', h1, h2, hd⟩
  · -- not registered under the full name: the short-name search, over the same names on both sides
    rw [h1, h2]
    dsimp only
    by_cases hdot : hasDot n = true
    · rw [if_pos hdot, if_pos hdot]; exact Or.inr ⟨rfl, rfl⟩
    · rw [if_neg hdot, if_neg hdot]
      have hperm : ((ts'.types.filter (fun t => shortName t.name == n)).map (·.name)).Perm
          ((ts.types.filter (fun t => shortName t.name == n)).map (·.name)) := by
        rw [filter_names ts'.types (fun x => shortName x == n), filter_names ts.types (fun x => shortName x == n)]
        exact (sameTs_names_perm h hc hc').filter _
      have hl := hperm.length_eq
      simp only [List.length_map] at hl
      by_cases h1 : (ts.types.filter (fun t => shortName t.name == n)).length = 1
      · obtain ⟨t, hf⟩ := List.length_eq_one_iff.mp h1
        obtain ⟨t', hf'⟩ := List.length_eq_one_iff.mp (hl.trans h1)
        rw [hf, hf'] at hperm ⊢
        have hn : t'.name = t.name := List.singleton_perm_singleton.mp hperm
        have g1 := find?_of_mem hc.nodup (List.mem_filter.mp (hf ▸ List.mem_cons_self)).1
        have g2 := find?_of_mem hc'.nodup (List.mem_filter.mp (hf' ▸ List.mem_cons_self)).1
        rw [hn] at g2
        rcases sameTs_find h t.name with ⟨k1, _⟩ | ⟨u, u', k1, k2, hd⟩
        · rw [g1] at k1; cases k1
        · rw [g1] at k1; rw [g2] at k2; cases k1; cases k2
          exact Or.inl ⟨t, t', rfl, rfl, hd⟩
      · rw [pick1_of_length_ne h1, pick1_of_length_ne (hl ▸ h1)]
        exact Or.inr ⟨rfl, rfl⟩
  · rw [h1, h2]
    exact Or.inl ⟨t, t', rfl, rfl, hd⟩

/-- **`SameTs` type systems answer the reader alike, under every name** -/
theorem typeAgree_of_sameTs {ts ts' : TypeSystem} (h : SameTs ts ts') (hc : Consistent ts) (hc' : Consistent ts')
    (n : String) : TypeAgree ts ts' n := by
  rcases sameTs_getType h hc hc' n with ⟨t, t', h1, h2, hd⟩ | ⟨h1, h2⟩
  · exact typeAgree_of_keys h1 h2 hd.1 hd.2.2.2.2 (keysOn_inst (keysOn_of_sameTs h) hc hc' trivial _)
  · unfold TypeAgree
    rw [h1, h2]

end Cassis.Json
