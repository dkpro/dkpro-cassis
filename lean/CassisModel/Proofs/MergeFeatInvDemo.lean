/-
Instances for `Properties/C13FeatInv.lean`: a merge that re-parents a type with subtypes, whose members own features,
inherit features of the old supertype chain, and repeat (identically) a feature of the new supertype; and one in which
a member of the subtree clashes with a feature of the new supertype.
-/
import CassisModel.Proofs.InstancesMerge

namespace Cassis.TS

/-- the merge succeeds, `x.X` ends below `x.M2` with its children, and the grandchild `x.W` has inherited the features
    of the new supertype chain -/
theorem demoSub_result :
    ((mergeDecls Gen.consts Gen.builtinTS demoSub).toOption.bind (fun ts => find? ts "x.X")).map
        (fun t => (t.super, t.children)) = some (some "x.M2", ["x.Y", "x.Z"]) ∧
    ((mergeDecls Gen.consts Gen.builtinTS demoSub).toOption.bind (fun ts => find? ts "x.W")).map
        (fun t => (fnames t.own, fnames t.inh)) =
      some (["w", "m1"], ["y", "m2", "x", "begin", "end", "sofa", "m1", "c", "x2"]) := by
  rw [mergeDecls_eq_S]; exact ⟨mergeFeatInvDemo_evals.subX, mergeFeatInvDemo_evals.subW⟩

theorem demoSub_reverse_ok : (mergeDecls Gen.consts Gen.builtinTS demoSub.reverse).toOption.isSome = true := by
  rw [mergeDecls_eq_S]; exact mergeFeatInvDemo_evals.mergeSubRev

theorem demoSubClash_fails : (mergeDecls Gen.consts Gen.builtinTS demoSubClash).toOption.isSome = false ∧
    (mergeDecls Gen.consts Gen.builtinTS demoSubClash.reverse).toOption.isSome = false := by
  rw [mergeDecls_eq_S, mergeDecls_eq_S]; exact ⟨mergeFeatInvDemo_evals.failsClash, mergeFeatInvDemo_evals.failsClashRev⟩

end Cassis.TS
