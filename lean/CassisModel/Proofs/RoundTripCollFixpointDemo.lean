/-
Non-vacuity of `xmi_roundtrip_coll_again`, from which `xmi_roundtrip_coll_fixpoint` (`Properties/C01FixpointColl.lean`) is
read off: the hypotheses of `xmi_roundtrip_coll` hold on `CollDemo` (`collDemo_hyps`), that theorem gives the load, and
`collDemo_fixpoint` states the conclusions of both.  The evaluated runs (save, load, save again, compare) are in
`Spec/RoundTripCollFixCheck.lean`.
-/
import CassisModel.Proofs.RoundTripCollFixpoint
import CassisModel.Proofs.RoundTripCollDemo
import CassisModel.Properties.C01RoundTripColl
import CassisModel.Spec.RoundTripCollFixCheck

namespace Cassis.Xmi
open Cassis.TS Cassis.Traverse

theorem collDemo_fixpoint : ∃ (doc : XDoc) (st st' : St) (ld : Loaded),
    saveXmi CollDemo.K CollDemo.ts [CollDemo.cas] 0 CollDemo.hp = .ok (doc, st) ∧
    loadXmi CollDemo.K CollDemo.ts 0 1 false st.heap doc = .ok ld ∧
    saveXmi CollDemo.K CollDemo.ts ([CollDemo.cas] ++ [ld.cas]) 1 ld.heap = .ok (doc, st') ∧
    ∀ r ∈ st'.allFs, CollFs CollDemo.K CollDemo.ts ld.cas 1 st'.heap r.2 := by
  obtain ⟨c, doc, st, hc, hs, hwf, hn, hf, hd, hm, hmo⟩ := collDemo_hyps
  obtain ⟨_, ld, _, hl, _⟩ :=
    xmi_roundtrip_coll CollDemo.K CollDemo.ts [CollDemo.cas] 0 c CollDemo.hp 0 1 doc st hc hwf hn hs hf hd hm hmo
  obtain ⟨st', hs', _, hcoll'⟩ :=
    xmi_roundtrip_coll_again CollDemo.K CollDemo.ts [CollDemo.cas] 0 c CollDemo.hp 0 doc st ld hc hwf hn hs hf hm hmo hl
  exact ⟨doc, st, st', ld, hs, hl, hs', hcoll'⟩

end Cassis.Xmi
