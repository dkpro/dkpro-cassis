/-
What the reader on a rearranged document (`json_read_perm`, `RoundTripJsonColl.lean`) needs besides the passes
(namespace `LPJ`: the JSON reader on a document in any order, as `LP` for XMI).

The layers of the round trip are stated for a CAS `c` and a list `L` of collected structures.  For a document whose
entries are permuted they are used with `L'`, the structures in the order of the document, and `withViews c vs`, the
written CAS with its views in the order in which the reader creates them (the initial view first, the others in the
order of their sofas), `cass' = cass.set ci (withViews c vs)`: the fragment looks at the views by name only, so every
hypothesis moves from `(cass, c, L)` to `(cass', c', L')`.  And: the sofas and the other structures of a written document
as the two filters of `sofaPass_eq` / `fsPass_eq` see them (`filter_parts`).
-/
import CassisModel.Proofs.RoundTripJsonCollDefs

namespace Cassis.Json.LPJ
open Cassis.TS Cassis.Xmi

theorem filter_map_all {α β} (f : α → β) (p : β → Bool) (l : List α) (h : ∀ a ∈ l, p (f a) = true) :
    (l.map f).filter p = l.map f := by
  apply List.filter_eq_self.mpr
  intro b hb
  obtain ⟨a, ha, rfl⟩ := List.mem_map.mp hb
  exact h a ha

theorem filter_map_none {α β} (f : α → β) (p : β → Bool) (l : List α) (h : ∀ a ∈ l, p (f a) = false) :
    (l.map f).filter p = [] := by
  apply List.filter_eq_nil_iff.mpr
  intro b hb
  obtain ⟨a, ha, rfl⟩ := List.mem_map.mp hb
  rw [h a ha]
  simp

theorem filter_parts {α β} (rs : α → JFs) (el : β → JFs) (S : List α) (L : List β)
    (hrs : ∀ a ∈ S, (rs a).ty = SOFA) (hel : ∀ b ∈ L, (el b).ty ≠ SOFA) :
    (S.map rs ++ L.map el).filter (fun j => j.ty == SOFA) = S.map rs ∧
    (S.map rs ++ L.map el).filter (fun j => j.ty != SOFA) = L.map el := by
  rw [List.filter_append, List.filter_append, filter_map_all rs _ S (fun a ha => by simp [hrs a ha]),
    filter_map_none el _ L (fun b hb => by simpa using hel b hb),
    filter_map_none rs _ S (fun a ha => by simp [hrs a ha]),
    filter_map_all el _ L (fun b hb => by simpa using hel b hb), List.append_nil, List.nil_append]
  exact ⟨rfl, rfl⟩

def withViews (c : Cas) (vs : List (String × View)) : Cas := { c with views := vs }

theorem getViewRec_withViews {c : Cas} {vs : List (String × View)} (hvs : vs.Perm c.views)
    (hn : (c.views.map (·.1)).Nodup) (vn : String) :
    Cas.getViewRec (withViews c vs) vn = Cas.getViewRec c vn := by
  unfold Cas.getViewRec withViews
  exact alistGet?_perm hvs ((hvs.map (·.1)).nodup_iff.mpr hn) vn

theorem rtwf_withViews {c : Cas} {hp : Heap} {vs : List (String × View)} (hwf : RTWf c hp) (hvs : vs.Perm c.views)
    (hhead : (vs.head?).map (·.1) = some Cas.INITIAL_VIEW) : RTWf (withViews c vs) hp where
  init_first := hhead
  names := fun nv hnv => hwf.names nv (hvs.mem_iff.mp hnv)
  names_nodup := (hvs.map (·.1)).nodup_iff.mpr hwf.names_nodup
  sofa_ids_nodup := (hvs.map (·.2.sofa.xid)).nodup_iff.mpr hwf.sofa_ids_nodup
  text_sofa := fun nv hnv => hwf.text_sofa nv (hvs.mem_iff.mp hnv)
  conv := fun nv hnv => hwf.conv nv (hvs.mem_iff.mp hnv)
  conv_none := fun nv hnv => hwf.conv_none nv (hvs.mem_iff.mp hnv)
  scalar := fun nv hnv => hwf.scalar nv (hvs.mem_iff.mp hnv)
  next_pos := hwf.next_pos
  ids_below := hwf.ids_below
  sofa_ids := fun nv hnv => hwf.sofa_ids nv (hvs.mem_iff.mp hnv)
  ids_pos := hwf.ids_pos

theorem jcollFs_congr {K : Consts} {ts : TypeSystem} {c c' : Cas} {ci : Nat} {H : Heap} {a : Nat}
    (hg : ∀ vn, Cas.getViewRec c' vn = Cas.getViewRec c vn) (h : JCollFs K ts c ci H a) : JCollFs K ts c' ci H a := by
  unfold JCollFs JGenFs JFeatOk at *
  simp only [hg]
  exact h

theorem lokJ_withViews {K : Consts} {ts : TypeSystem} {c : Cas} {ci : Nat} {H : Heap} {L L' : List (Int × Nat)}
    {vs : List (String × View)} (hL : LOkJ K ts c ci H L) (hvs : vs.Perm c.views) (hn : (c.views.map (·.1)).Nodup)
    (hL' : L'.Perm L) : LOkJ K ts (withViews c vs) ci H L' where
  coll := fun q hq => jcollFs_congr (getViewRec_withViews hvs hn) (hL.coll q (hL'.mem_iff.mp hq))
  ids := fun q hq => hL.ids q (hL'.mem_iff.mp hq)
  nodup := (hL'.map (·.1)).nodup_iff.mpr hL.nodup
  closed := by
    intro q hq o ho n b hb
    obtain ⟨x, hx, hm⟩ := hL.closed q (hL'.mem_iff.mp hq) o ho n b hb
    exact ⟨x, hx, hL'.mem_iff.mpr hm⟩
  closedE := by
    intro q hq o ho l hl b hb
    obtain ⟨x, hx, hm⟩ := hL.closedE q (hL'.mem_iff.mp hq) o ho l hl b hb
    exact ⟨x, hx, hL'.mem_iff.mpr hm⟩
  members := by
    intro nv hnv e he
    obtain ⟨x, hx⟩ := hL.members nv (hvs.mem_iff.mp hnv) e he
    exact ⟨x, hL'.mem_iff.mpr hx⟩

theorem membersOk_withViews {c : Cas} {H : Heap} {vs : List (String × View)} (h : MembersOk c H)
    (hvs : vs.Perm c.views) : MembersOk (withViews c vs) H :=
  fun nv hnv => h nv (hvs.mem_iff.mp hnv)

/-- the writer reads the list of CASes only to look up views by name -/
def SameViewsJ (cass cass' : List Cas) : Prop :=
  ∀ (i : Nat) (vn : String),
    (cass'[i]?).bind (fun c => Cas.getViewRec c vn) = (cass[i]?).bind (fun c => Cas.getViewRec c vn)

theorem sameViews_set {cass : List Cas} {ci : Nat} {c : Cas} {vs : List (String × View)} (hc : cass[ci]? = some c)
    (hvs : vs.Perm c.views) (hn : (c.views.map (·.1)).Nodup) : SameViewsJ cass (cass.set ci (withViews c vs)) := by
  intro i vn
  by_cases h : ci = i
  · subst h
    have hlt : ci < cass.length := (List.getElem?_eq_some_iff.mp hc).1
    rw [List.getElem?_set_self hlt, hc]
    exact getViewRec_withViews hvs hn vn
  · rw [List.getElem?_set_ne h]

theorem elemOfJ_congr {cass cass' : List Cas} (hv : SameViewsJ cass cass') (K : Consts) (ts : TypeSystem) (H : Heap)
    (q : Int × Nat) : elemOfJ K ts cass' H q = elemOfJ K ts cass H q := by
  unfold SameViewsJ at hv
  unfold elemOfJ genJFs jmemF jmem extInt
  simp only [hv]

end Cassis.Json.LPJ
