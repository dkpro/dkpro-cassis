/-
Non-vacuity and evaluated counterexamples for `Properties/C09Write.lean`.

The instances are defined in `Proofs/InstancesFlat.lean`.  Type system `demoTS'`: built-ins plus the annotation type
`x.Tok` (features `n : Integer`, `next : x.Tok`).  One view (sofa id 1, sofaNum 1), structures `tok id next`.

* `hpDup`/`casDup`: chain `0 → 1 → 2`, structures 1 and 2 both on id 5 — a reachable duplicate; every structure is
  `Expandable`; `findAllFs`, `saveXmi`, `saveJson` return `.error .valueError` (also evaluated directly).
* `hpOk`/`casOk`: chain `0 → 1`, ids 2 and none: all hypotheses of `saveXmi_ids_distinct` / `saveJson_ids_distinct` /
  `kept_ids_written` / `findAllFs_ok_iff` hold, documents are written with ids `0 2 3 1` / `1 2 3`.
* counterexamples (evaluated): a structure on the sofa's id (I3) is written next to the sofa, in XMI and in JSON;
  a sofa id that is not below the generator collides with a generated id; a sofa byte array forced onto the id of an
  indexed structure is written next to it (JSON; the duplicate check looks neither at sofas nor at their arrays).
-/
import CassisModel.Proofs.IdsWrite
import CassisModel.Proofs.InstancesFlat

namespace Cassis.IdsWriteDemo
open Cassis Cassis.TS Cassis.Traverse Cassis.Xmi.Demo

/-! ### Boolean checkers for `Reach`-quantified hypotheses -/

theorem expandableB_sound (K : Consts) (ts : TypeSystem) (o : Opts) (hp : Heap) (lf a : Nat)
    (h : expandableB K ts o hp lf a = true) : Expandable K ts o hp lf a := by
  unfold expandableB at h
  split at h
  · cases h
  · rename_i ob hob
    refine ⟨ob, hob, ?_⟩
    rw [Bool.or_eq_true] at h
    rcases h with h | h
    · exact Or.inl (by simpa using h)
    · right
      split at h
      · cases h
      · rename_i t ht
        split at h
        · rename_i r hr
          exact ⟨t, r, ht, hr⟩
        · cases h

theorem reach_lt (K : Consts) (ts : TypeSystem) (o : Opts) (hp : Heap) (lf : Nat) (seeds : List Nat)
    (h : closedB K ts o hp lf seeds = true) (a : Nat) (hr : Reach K ts o hp lf seeds a) : a < hp.length := by
  unfold closedB at h
  rw [Bool.and_eq_true] at h
  induction hr with
  | seed a hs => exact of_decide_eq_true (List.all_eq_true.mp h.1 a hs)
  | step a b _ _ hb ih =>
    have := List.all_eq_true.mp h.2 a (List.mem_range.mpr ih)
    exact of_decide_eq_true (List.all_eq_true.mp this b hb)

theorem safe_of_check (K : Consts) (ts : TypeSystem) (o : Opts) (hp : Heap) (lf : Nat) (seeds : List Nat)
    (hc : closedB K ts o hp lf seeds = true)
    (he : (List.range hp.length).all (expandableB K ts o hp lf) = true) :
    ∀ a, Reach K ts o hp lf seeds a → Expandable K ts o hp lf a := by
  intro a hr
  exact expandableB_sound K ts o hp lf a
    (List.all_eq_true.mp he a (List.mem_range.mpr (reach_lt K ts o hp lf seeds hc a hr)))

theorem noSofaId_sound (hp : Heap) (c : Cas) (h : noSofaIdB hp c = true) (a : Nat) (x : Int)
    (hx : xidOf hp a = some x) : x ∉ Cas.sofaIds c := by
  obtain ⟨ob, ho, hx⟩ := xidOf_some hx
  have := List.all_eq_true.mp h ob (List.mem_of_getElem? ho)
  rw [hx] at this
  intro hm
  have hc : (Cas.sofaIds c).contains x = true := List.contains_iff_mem.mpr hm
  have this' : (!(Cas.sofaIds c).contains x) = true := this
  rw [hc] at this'
  cases this'

theorem reach0 (o : Opts) (hp : Heap) (c : Cas) (h : 0 ∈ defaultSeeds c) :
    Reach K demoTS' o hp (hp.length + 1) (defaultSeeds c) 0 := .seed 0 h

theorem dup_reach1 (o : Opts) : Reach K demoTS' o hpDup (hpDup.length + 1) (defaultSeeds casDup) 1 :=
  .step 0 1 (.seed 0 dup_evals.seed0) dup_evals.idNotZero0 (dup_evals.succ01 o.1 o.2)

theorem dup_reach2 (o : Opts) : Reach K demoTS' o hpDup (hpDup.length + 1) (defaultSeeds casDup) 2 :=
  .step 1 2 (dup_reach1 o) dup_evals.idNotZero1 (dup_evals.succ12 o.1 o.2)

theorem dup_duplicate (o : Opts) : ReachableDuplicate K demoTS' o hpDup (defaultSeeds casDup) :=
  ⟨1, 2, 5, by decide, by decide, dup_reach1 o, dup_reach2 o, dup_evals.dup1, dup_evals.dup2⟩

theorem dup_safe_xmi : ∀ a, Reach K demoTS' {} hpDup (hpDup.length + 1) (defaultSeeds casDup) a →
    Expandable K demoTS' {} hpDup (hpDup.length + 1) a :=
  safe_of_check K demoTS' {} hpDup _ _ dup_evals.closedXmi dup_evals.expandableXmi

theorem dup_safe_json : ∀ a, Reach K demoTS' { includeInlinable := true } hpDup (hpDup.length + 1) (defaultSeeds casDup) a →
    Expandable K demoTS' { includeInlinable := true } hpDup (hpDup.length + 1) a :=
  safe_of_check K demoTS' _ hpDup _ _ dup_evals.closedJson dup_evals.expandableJson

/-- the conclusion of `findAllFs_duplicate_raises`, evaluated directly — in both orders of meeting the two -/
theorem dup_eval :
    errOf (findAllFs K demoTS' {} hpDup 6 [0]) = some .valueError ∧
    errOf (findAllFs K demoTS' {} hpDup 6 [2, 1]) = some .valueError ∧
    errOf (findAllFs K demoTS' {} hpDup 6 [1, 2]) = some .valueError ∧
    errOf (Xmi.saveXmi K demoTS' [casDup] 0 hpDup) = some .valueError ∧
    errOf (Json.saveJson K demoTS' [casDup] 0 hpDup .none) = some .valueError := ⟨dup_evals.raises0, dup_evals.raises21, dup_evals.raises12, dup_evals.raisesXmi, dup_evals.raisesJson⟩

/-- a generated id that collides with a kept one is reported as well (never written): without `IdsBelow` the
    traversal may raise although no two structures of the heap share an id -/
theorem fresh_collision_eval :
    errOf (findAllFs K demoTS' {} [tok none (.ref 1), tok (some 5) .none] 5 [0]) = some .valueError :=
  dup_evals.freshCollisionRaises

theorem ok_reach1 (o : Opts) : Reach K demoTS' o hpOk (hpOk.length + 1) (defaultSeeds casOk) 1 :=
  .step 0 1 (.seed 0 ok_evals.seed0) ok_evals.idNotZero0 (ok_evals.succ01 o.1 o.2)

theorem ok_saveXmi : ∃ doc st, Xmi.saveXmi K demoTS' [casOk] 0 hpOk = .ok (doc, st) := by
  obtain ⟨r, hr⟩ := Det.ok_of_toBool ok_evals.savesXmi
  exact ⟨r.1, r.2, hr⟩

theorem ok_saveJson (mode : Json.Mode) : ∃ doc st, Json.saveJson K demoTS' [casOk] 0 hpOk mode = .ok (doc, st) := by
  obtain ⟨r, hr⟩ := Det.ok_of_toBool (x := Json.saveJson K demoTS' [casOk] 0 hpOk mode) (by
    cases mode
    · exact ok_evals.savesFull
    · exact ok_evals.savesMinimal
    · exact ok_evals.savesNone)
  exact ⟨r.1, r.2, hr⟩

/-- **non-vacuity** of `saveXmi_ids_distinct` and `kept_ids_written`: every hypothesis holds on the instance -/
theorem ok_hyps_xmi : ∃ doc st,
    [casOk][0]? = some casOk ∧ 0 < casOk.nextXid ∧ (Cas.sofaIds casOk).Nodup ∧
    (∀ x ∈ Cas.sofaIds casOk, 0 < x ∧ x < casOk.nextXid) ∧
    (∀ a x, Reach K demoTS' {} hpOk (hpOk.length + 1) (defaultSeeds casOk) a → xidOf hpOk a = some x →
      x ∉ Cas.sofaIds casOk) ∧
    Xmi.saveXmi K demoTS' [casOk] 0 hpOk = .ok (doc, st) ∧
    Reach K demoTS' {} hpOk (hpOk.length + 1) (defaultSeeds casOk) 0 ∧ xidOf hpOk 0 = some 2 := by
  obtain ⟨doc, st, h⟩ := ok_saveXmi
  exact ⟨doc, st, rfl, by decide, by decide, by decide,
    fun a x _ hx => noSofaId_sound hpOk casOk ok_evals.noSofaId a x hx, h,
    .seed 0 ok_evals.seed0, ok_evals.kept0⟩

/-- **non-vacuity** of `saveJson_ids_distinct` and `kept_ids_written_json` -/
theorem ok_hyps_json (mode : Json.Mode) : ∃ doc st,
    [casOk][0]? = some casOk ∧ 0 < casOk.nextXid ∧ Json.NoSofaArray casOk ∧ (Cas.sofaIds casOk).Nodup ∧
    (∀ x ∈ Cas.sofaIds casOk, x < casOk.nextXid) ∧
    (∀ a x, Reach K demoTS' { includeInlinable := true } hpOk (hpOk.length + 1) (defaultSeeds casOk) a →
      xidOf hpOk a = some x → x ∉ Cas.sofaIds casOk) ∧
    Json.saveJson K demoTS' [casOk] 0 hpOk mode = .ok (doc, st) ∧
    Reach K demoTS' { includeInlinable := true } hpOk (hpOk.length + 1) (defaultSeeds casOk) 0 ∧
    xidOf hpOk 0 = some 2 := by
  obtain ⟨doc, st, h⟩ := ok_saveJson mode
  refine ⟨doc, st, rfl, by decide, ?_, by decide, by decide,
    fun a x _ hx => noSofaId_sound hpOk casOk ok_evals.noSofaId a x hx, h,
    .seed 0 ok_evals.seed0, ok_evals.kept0⟩
  intro p hp a ha
  simp only [casOk, cas1, List.mem_singleton] at hp
  subst hp
  cases ha

/-- the documents of the instance: the kept id 2, the generated id 3, the sofa's id 1 -/
theorem ok_eval :
    (Xmi.saveXmi K demoTS' [casOk] 0 hpOk).toOption.map (fun r => Xmi.docIds r.1) = some ["0", "2", "3", "1"] ∧
    (Json.saveJson K demoTS' [casOk] 0 hpOk .none).toOption.map (fun r => Json.docIds r.1) =
      some [some 1, some 2, some 3] := ⟨ok_evals.idsXmi, ok_evals.idsJson⟩

/-- **non-vacuity** of `findAllFs_ok_iff`: hypotheses hold and the traversal succeeds -/
theorem ok_hyps_iff : 0 < (3 : Int) ∧ ({} : Opts).generateIds = true ∧ IdsBelow hpOk 3 ∧
    (∀ c, Reach K demoTS' {} hpOk (hpOk.length + 1) [0] c → Expandable K demoTS' {} hpOk (hpOk.length + 1) c) ∧
    (findAllFs K demoTS' {} hpOk 3 [0]).toBool = true := by
  refine ⟨by decide, rfl, ?_, safe_of_check K demoTS' {} hpOk _ _ ok_evals.closed ok_evals.expandable,
    ok_evals.traverses⟩
  rw [idsBelow_iff]
  intro a x hx
  match a, hx with
  | 0, hx => cases hx; decide
  | 1, hx => cases hx
  | n+2, hx => cases hx

/-! ### evaluated counterexamples: what the hypotheses of the distinctness theorems exclude -/

/-- **I3** (XMI and JSON): an indexed structure forced onto the sofa's id 1 is written next to the sofa -/
theorem cx_fs_on_sofa_id :
    (Xmi.saveXmi K demoTS' [cas1 sofa1 3] 0 [tok (some 1) .none]).toOption.map (fun r => Xmi.docIds r.1) =
      some ["0", "1", "1"] ∧
    (Json.saveJson K demoTS' [cas1 sofa1 3] 0 [tok (some 1) .none] .none).toOption.map (fun r => Json.docIds r.1) =
      some [some 1, some 1] := ⟨cx_evals.fsOnSofaIdXmi, cx_evals.fsOnSofaIdJson⟩

/-- a sofa id that is not below the generator (5, generator at 5) is taken again by a generated id -/
theorem cx_sofa_not_below :
    (Xmi.saveXmi K demoTS' [cas1 { sofa1 with xid := 5 } 5] 0 [tok none .none]).toOption.map (fun r => Xmi.docIds r.1) =
      some ["0", "5", "5"] := cx_evals.sofaNotBelow

/-- a sofa on id 0 collides with the `cas:NULL` element -/
theorem cx_sofa_zero :
    (Xmi.saveXmi K demoTS' [cas1 { sofa1 with xid := 0 } 3] 0 [tok (some 2) .none]).toOption.map (fun r => Xmi.docIds r.1) =
      some ["0", "2", "0"] := cx_evals.sofaZero

/-- **JSON, sofa byte array** forced onto the id 3 of an indexed structure: both are written under `%ID` 3 (the
    array is rendered before the traversal and is not seen by the duplicate check); reproduced on the Python code -/
theorem cx_sofa_array_on_fs_id :
    (Json.saveJson K demoTS' [cas1 { sofa1 with arr := .ref 1, mime := some "x/y" } 4] 0
        [tok (some 3) .none, { ty := "uima.cas.ByteArray", ts := 0, xid := some 3, slots := [("elements", .ints [1, 2])] }]
        .none).toOption.map (fun r => Json.docIds r.1) = some [some 3, some 1, some 3] := cx_evals.sofaArrayOnFsId

theorem hist_eval :
    (let s := hist.foldl (Cas.cstep K demoTS') (Cas.init true)
     (Xmi.saveXmi K demoTS' [s.cas] 0 s.heap).toOption.map (fun r => Xmi.docIds r.1)) =
      some ["0", "3", "1", "2"] := cx_evals.histIds

end Cassis.IdsWriteDemo
