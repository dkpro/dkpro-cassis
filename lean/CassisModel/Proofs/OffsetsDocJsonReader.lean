/-
C03, document level, what the JSON reader theorems of `Properties/C03DocJson.lean` rest on: the converter of a loaded sofa
is the one the sofa setter builds from the `sofaString` member (`parseSofa_text`); the views pass touches no slot but
`sofa` (`viewsPass_slotsKeep`); a property of sofas that the sofa updates keep holds of every sofa of the loaded CAS
(`loadJson_allSofas`, of which `loadJson_convIs` is the instance `SofaConvIs`).
-/
import CassisModel.Proofs.OffsetsDocHistory
import CassisModel.Proofs.JsonIdsLoad

namespace Cassis.Json
open Cassis.Offsets Cassis.TS Cassis.OffsetsDoc Cassis.Json.Ids

/-- `P` is kept by every sofa update that touches neither text nor converter (all the readers make but the text setter) -/
def KeepsTextConv (P : Sofa → Prop) : Prop :=
  ∀ (s s' : Sofa), s'.text = s.text → s'.conv = s.conv → P s → P s'

theorem keeps_convIs : KeepsTextConv SofaConvIs := by
  intro s s' h1 h2 hs t ht
  rw [h1] at ht; rw [h2]; exact hs t ht

theorem keeps_convOk : KeepsTextConv SofaConvOk := by
  intro s s' h1 h2 hs t ht
  rw [h1] at ht; rw [h2]; exact hs t ht

theorem sofaTail_conv {s s' : RState} {ci : Nat} {name : String} {c1 : Cas} {text : Option (List Nat)}
    {m u : Option String} {arr : Val} (h : sofaTail s ci name c1 text m u arr = .ok s')
    {v1 : View} (hv1 : Cas.getViewRec c1 name = some v1) :
    (∃ w : View, Cas.getViewRec s'.cas name = some w ∧
      w.sofa.text = text ∧ w.sofa.conv = createMapping v1.sofa.conv text) ∧
    (∀ P : Sofa → Prop, KeepsTextConv P →
      (∀ t s, P s → P { s with text := t, conv := createMapping s.conv t }) → AllSofas P c1 → AllSofas P s'.cas) := by
  rw [sofaTail_eq hv1] at h
  cases h
  exact ⟨⟨_, Cas.getViewRec_set_same _ _ _, rfl, rfl⟩, fun P hk htext ha =>
    ha.setViewRec name (hk { v1.sofa with text := text, conv := createMapping v1.sofa.conv text }
      (tailView v1 text m u arr).sofa rfl rfl (htext text v1.sofa (ha.get hv1)))⟩

theorem viewFor_allSofas {P : Sofa → Prop} (hk : KeepsTextConv P) (hf : Fresh P) {c c1 : Cas} {name : String}
    {fsId : Int} {num : Option Int} (h : viewFor c name fsId num = .ok c1) (ha : AllSofas P c) : AllSofas P c1 := by
  unfold viewFor at h
  split at h
  · exact ha.updSofa (f := fun so => { so with xid := fsId, sofaNum := num.getD so.sofaNum })
      (fun s hs => hk s _ rfl rfl hs) h
  · split at h
    · cases h; exact ha
    · split at h
      · cases h
      · rename_i hcv
        cases h
        exact ha.createView hf hcv

theorem parseSofa_text (ci : Nat) (s s' : RState) (j : JFs) (h : parseSofa ci s j = .ok s') :
    ∃ (name : String), sofaIdOf j = some name ∧
      (∃ w : View, Cas.getViewRec s'.cas name = some w ∧
        w.sofa.text = (match (j.feats.find? (fun p => p.1 == "sofaString")).map (·.2) with
          | some (JV.str t) => some (t.toList.map Char.toNat) | _ => none) ∧
        ∀ t, w.sofa.text = some t → w.sofa.conv = some (table t)) ∧
      (∀ P : Sofa → Prop, KeepsTextConv P → Fresh P →
        (∀ t s, P s → P { s with text := t, conv := createMapping s.conv t }) → AllSofas P s.cas → AllSofas P s'.cas) := by
  rw [parseSofa_eq] at h
  split at h
  · rename_i fsId name hid hname
    obtain ⟨c1, hv, ht⟩ := Det.bind_ok h
    obtain ⟨⟨v1, hv1, _⟩, _⟩ := viewFor_ok hv
    obtain ⟨⟨w, hw, htx, hc⟩, hall⟩ := sofaTail_conv ht hv1
    refine ⟨name, hname, ⟨w, hw, htx, fun t htt => ?_⟩,
      fun P hk hf htext ha => hall P hk htext (viewFor_allSofas hk hf hv ha)⟩
    rw [hc, ← htx, htt]
    rfl
  · cases h

/-- every slot but `sofa` of every object reads the same -/
def SlotsKeep (hp hp' : Heap) : Prop := ∀ (a : Nat) (n : String), n ≠ "sofa" → Traverse.slot hp' a n = Traverse.slot hp a n

theorem SlotsKeep.refl (hp : Heap) : SlotsKeep hp hp := fun _ _ _ => rfl

theorem SlotsKeep.trans {a b c : Heap} (h1 : SlotsKeep a b) (h2 : SlotsKeep b c) : SlotsKeep a c :=
  fun x n hn => (h2 x n hn).trans (h1 x n hn)

theorem slotsKeep_add {ts : TypeSystem} {cas : Nat} {c c' : Cas} {hp hp' : Heap} {h : Handle} {addr : Nat} {keep : Bool}
    (hadd : Cas.add ts cas c hp h addr keep = .ok (c', hp')) : SlotsKeep hp hp' := by
  obtain ⟨_, hoth, o, o', ho, ho', _, hsl, _⟩ := Cas.add_heap ts cas c c' hp hp' h addr keep hadd
  intro a n hn
  unfold Traverse.slot
  by_cases ha : a = addr
  · subst ha
    rw [ho, ho']
    exact hsl n hn
  · rw [hoth a ha]

theorem slotsKeep_setSofa {hp hp' : Heap} {a : Nat} {w : Val} (h : Heap.setSlot hp a "sofa" w = .ok hp') :
    SlotsKeep hp hp' := by
  obtain ⟨o, ho, ⟨v0, hs, rfl⟩ | ⟨_, hx, _⟩⟩ := Heap.setSlot_ok_cases _ _ _ _ _ h
  · intro b n hn
    unfold Traverse.slot
    have hlt : a < hp.length := (List.getElem?_eq_some_iff.mp ho).1
    by_cases hb : b = a
    · subst hb
      rw [List.getElem?_set_self hlt, ho]
      exact alistGet?_set_other _ _ _ _ hn
    · rw [List.getElem?_set_ne (fun e => hb e.symm)]
  · exact absurd hx (by decide)

theorem viewsPass_slotsKeep (ts : TypeSystem) (ci : Nat) (lenient : Bool) (fss : List (Int × Val)) (l : List JView)
    (v v' : VState) (h : viewsPass ts ci lenient fss l v = .ok v') : SlotsKeep v.heap v'.heap :=
  viewsPass_heap SlotsKeep.refl (fun _ _ _ => SlotsKeep.trans) (fun _ _ _ _ r hadd => slotsKeep_add (c' := r.1) hadd)
    (fun _ _ _ _ => slotsKeep_setSofa) lenient fss l v v' h

variable {P : Sofa → Prop}

theorem viewsPass_allSofas (ts : TypeSystem) (ci : Nat) (lenient : Bool) (fss : List (Int × Val)) (hf : Fresh P)
    (l : List JView) (v v' : VState) (h : viewsPass ts ci lenient fss l v = .ok v') :
    AllSofas P v.cas → AllSofas P v'.cas :=
  viewsPass_inv (fun x => AllSofas P v.cas → AllSofas P x.cas)
    (fun _ _ _ _ _ hcv hJ ha => (hJ ha).createView hf hcv)
    (fun _ _ _ _ _ _ hm hJ ha => by
      obtain ⟨_, hadd, _⟩ := addJMember1_ok hm
      exact (hJ ha).add hadd) l v v' h (fun ha => ha)

theorem stepRel_allSofas (K : Consts) (ts : TypeSystem) (tsIdx ci : Nat) (hk : KeepsTextConv P) (hf : Fresh P)
    (htext : ∀ t s, P s → P { s with text := t, conv := createMapping s.conv t }) :
    StepRel K ts tsIdx ci (fun s s' => AllSofas P s.cas → AllSofas P s'.cas) where
  refl := fun _ h => h
  trans := fun _ _ _ h1 h2 h => h2 (h1 h)
  sofa := fun s s' j h => (parseSofa_text ci s s' j h).choose_spec.2.2 P hk hf htext
  fs := fun s s' j h ha => by
    obtain ⟨_, _, _, hc, _⟩ := parseFs_res K ts tsIdx s s' j h
    exact ha.of_views (by rw [hc])

theorem loadJson_allSofas (K : Consts) (tsArg : TypeSystem) (tsIdx ci : Nat) (lenient mergeTs : Bool) (hp : Heap)
    (doc : JDoc) (ld : Loaded) (hk : KeepsTextConv P) (hf : Fresh P)
    (htext : ∀ t s, P s → P { s with text := t, conv := createMapping s.conv t })
    (h : loadJson K tsArg tsIdx ci lenient mergeTs hp doc = .ok ld) : AllSofas P ld.cas := by
  obtain ⟨ts, s1, s, heap, v, _, h1, h2, _, h4, rfl⟩ := loadJson_ok h
  have hR := stepRel_allSofas (P := P) K ts tsIdx ci hk hf htext
  have a1 := sofaPass_rel hR doc.fss doc.fss _ _ h1 (allSofas_empty hf)
  have a2 := fsPass_rel hR doc.fss _ _ h2 a1
  exact viewsPass_allSofas ts ci lenient s.fss hf doc.views _ v h4 (a2.of_views rfl)

end Cassis.Json
