/-
Totality of `renderFrom` on well-formed input (`renderFrom_total_aux`).
-/
import CassisModel.Proofs.ComparableSensAnchorParts

namespace Cassis.Comparable
open Cassis.TS Cassis.Traverse

theorem viewTag_total {cass : List Cas} {hp : Heap} {a : Nat} (h : SofaOk cass hp a) :
    ∃ view, viewTag cass hp a = .ok view := by
  unfold SofaOk at h
  unfold viewTag
  split at h
  · rename_i hs; rw [hs]; exact ⟨_, rfl⟩
  · rename_i ci vn hs
    obtain ⟨c, v, hc, hv⟩ := h
    rw [hs]
    simp only [hc, hv]
    exact ⟨_, rfl⟩
  · cases h

theorem anchorOf_total {cass : List Cas} {hp : Heap} (indexed : List Nat) (o : Opts) {a : Nat}
    (h : SofaOk cass hp a) : ∃ s, anchorOf cass hp indexed o a = .ok s := by
  obtain ⟨view, hv⟩ := viewTag_total h
  rw [anchorOf_eq, hv]
  exact ⟨_, rfl⟩

theorem anchorsOfList_total {cass : List Cas} {hp : Heap} (indexed : List Nat) (o : Opts) (l : List Nat)
    (hl : ∀ a ∈ l, SofaOk cass hp a) (st : AnchorSt) : ∃ st', anchorsOfList cass hp indexed o l st = .ok st' := by
  induction l generalizing st with
  | nil => exact ⟨st, rfl⟩
  | cons a as ih =>
    obtain ⟨s, hs⟩ := anchorOf_total indexed o (hl a List.mem_cons_self)
    rw [anchorsOfList]
    have : ∃ st1, anchorStep cass hp indexed o st a = .ok st1 := by
      unfold anchorStep
      rw [hs]
      exact ⟨_, rfl⟩
    obtain ⟨st1, h1⟩ := this
    rw [h1]
    exact ih (fun b hb => hl b (List.mem_cons_of_mem _ hb)) st1

theorem genAnchors_total {ts : TypeSystem} {cass : List Cas} {hp : Heap} (indexed : List Nat) (o : Opts)
    (sorted L : List (String × List Nat))
    (hL : ∀ p ∈ L, (∃ t, getType ts p.1 = .ok t) ∧ ∀ a ∈ p.2, SofaOk cass hp a) (st : AnchorSt) :
    ∃ st', genAnchors ts cass hp indexed o sorted L st = .ok st' := by
  induction L generalizing st with
  | nil => exact ⟨st, rfl⟩
  | cons p rest ih =>
    obtain ⟨tn, fss⟩ := p
    obtain ⟨⟨t, ht⟩, hs⟩ := hL (tn, fss) List.mem_cons_self
    obtain ⟨st1, h1⟩ := anchorsOfList_total indexed o fss hs st
    rw [genAnchors]
    simp only [] at ht
    rw [ht]
    simp only []
    rw [h1]
    exact ih (fun q hq => hL q (List.mem_cons_of_mem _ hq)) st1

theorem FuelOk.mono {need : Nat → Nat} {v : Val} {F F' : Nat} (h : FuelOk need v F) (hle : F ≤ F') :
    FuelOk need v F' := by
  cases v <;> simp only [FuelOk] at h ⊢
  case ref x => omega
  case refs l => exact ⟨by omega, fun e he => by have := h.2 e he; omega⟩

theorem renderVal_total {K : Consts} {hp : Heap} {need : Nat → Nat} (wn : WellNested K hp need)
    (byId : List (Option Int × String)) (F : Nat) (v : Val) (h : FuelOk need v F) :
    ∃ c, renderVal K hp byId F v = .ok c := by
  induction F generalizing v with
  | zero =>
    cases v <;> simp only [FuelOk] at h <;> try exact ⟨_, rfl⟩
    case ref x => have := (wn x).1; omega
    case refs l => omega
  | succ F ih =>
    cases v <;> try exact ⟨_, rfl⟩
    case ref x =>
      simp only [FuelOk] at h
      cases hx : isArrayFs K hp x with
      | false =>
        rw [renderVal_ref_fs K hp byId F hx]
        cases getById byId (xidOf hp x) <;> exact ⟨_, rfl⟩
      | true =>
        obtain ⟨v', hv', hf⟩ := (wn x).2 hx
        by_cases hn : v' = .none
        · exact ⟨_, renderVal_ref_arr_none K hp byId F hx (hn ▸ hv')⟩
        · rw [renderVal_ref_arr K hp byId F hx hv' hn]
          exact ih v' (hf.mono (by omega))
    case refs l =>
      simp only [FuelOk] at h
      rw [renderVal_refs]
      obtain ⟨cs, hcs⟩ : ∃ cs, l.mapM (elemCell K hp byId F) = .ok cs := by
        refine Det.mapM_total (fun r hr => ?_)
        cases r with
        | none => exact ⟨_, rfl⟩
        | some e =>
          have := h.2 e hr
          exact ih (.ref e) (by simp only [FuelOk]; omega)
      exact ⟨.list cs, by rw [hcs]; rfl⟩

theorem renderCols_total {K : Consts} {hp : Heap} {need : Nat → Nat} (wn : WellNested K hp need)
    (byId : List (Option Int × String)) (a : Nat) (cols : List String)
    (h : ∀ n, FuelOk need ((slot hp a n).getD .none) (2 * hp.length + 2)) :
    ∃ cs, renderCols K hp byId a cols = .ok cs := by
  rw [renderCols_eq_mapM]
  exact Det.mapM_total (fun n _ => renderVal_total wn byId _ _ (h n))

theorem isAnnot_slots {hp : Heap} {a : Nat} (h : isAnnot hp a = true) :
    slot hp a "begin" = some (.int (beginOf hp a)) ∧ slot hp a "end" = some (.int (endOf hp a)) := by
  unfold isAnnot at h
  unfold beginOf endOf
  split at h
  · rename_i b e hb he
    rw [hb, he]
    exact ⟨rfl, rfl⟩
  · cases h

theorem coveredText_total {cass : List Cas} {hp : Heap} {a ci : Nat} {vn : String} {c : Cas} {v : View}
    (hs : slot hp a "sofa" = some (.sofa ci vn)) (hc : cass[ci]? = some c) (hv : Cas.getViewRec c vn = some v)
    (hann : isAnnot hp a = true) (hb : 0 ≤ beginOf hp a) (he : 0 ≤ endOf hp a) :
    ∃ ct, Cas.coveredText cass hp a = .ok ct := by
  obtain ⟨sb, se⟩ := isAnnot_slots hann
  unfold slot at hs sb se
  cases hob : hp[a]? with
  | none => rw [hob] at hs; cases hs
  | some ob =>
    rw [hob] at hs sb se
    simp only [Option.bind_some] at hs sb se
    unfold Cas.coveredText
    simp only [hob, hs, sb, se, hc, hv, bind, Except.bind, pure, Except.pure]
    cases v.sofa.text with
    | none => exact ⟨_, rfl⟩
    | some txt =>
      simp only []
      have : (decide (beginOf hp a < 0) || decide (endOf hp a < 0)) = false := by
        simp only [Bool.or_eq_false_iff, decide_eq_false_iff_not]
        omega
      simp only [this, Bool.false_eq_true, if_false]
      exact ⟨_, rfl⟩

theorem renderRow_total {K : Consts} {ts : TypeSystem} {cass : List Cas} {hp : Heap} {o : Opts} {need : Nat → Nat}
    (wn : WellNested K hp need) (byId : List (Option Int × String)) {a : Nat} {t : TypeRec}
    (ok : RowOk K ts cass hp o need a) (ht : getType ts (tyOf hp a) = .ok t) :
    ∃ r, renderRow K cass hp byId t (annFlag ts o t) a = .ok r := by
  have hcov : ∃ cov, covOf cass hp (annFlag ts o t) a = .ok cov := by
    unfold covOf
    cases hc : (annFlag ts o t && isAnnot hp a) with
    | false => exact ⟨[], rfl⟩
    | true =>
      simp only [if_true]
      rw [Bool.and_eq_true] at hc
      obtain ⟨⟨ci, vn, hs⟩, hb, he⟩ := ok.cov t ht hc.1 hc.2
      have hso := ok.sofa
      unfold SofaOk at hso
      rw [hs] at hso
      obtain ⟨c, v, hc', hv⟩ := hso
      obtain ⟨ct, hct⟩ := coveredText_total hs hc' hv hc.2 hb he
      rw [hct]
      exact ⟨_, rfl⟩
  have hcs : ∃ cs, cellsOf K hp byId t a = .ok cs := by
    unfold cellsOf
    cases harr : isArrayFs K hp a with
    | true =>
      obtain ⟨v, hv, hf⟩ := ok.arr harr
      obtain ⟨c, hc⟩ := renderVal_total wn byId _ _ hf
      rw [if_pos rfl, hv]
      dsimp only
      rw [hc]
      exact ⟨_, rfl⟩
    | false =>
      rw [if_neg (by decide)]
      exact renderCols_total wn byId a (columns t) (ok.cols harr)
  obtain ⟨cov, hcov⟩ := hcov
  obtain ⟨cs, hcs⟩ := hcs
  rw [renderRow_eq, hcov, hcs]
  exact ⟨_, rfl⟩

theorem renderSections_total {K : Consts} {ts : TypeSystem} {cass : List Cas} {hp : Heap} {o : Opts}
    {need : Nat → Nat} (wn : WellNested K hp need) (byId : List (Option Int × String)) (S : String → List Nat)
    (names : List String)
    (hL : ∀ tn ∈ names, (∃ t, getType ts tn = .ok t) ∧ ∀ a ∈ S tn, RowOk K ts cass hp o need a ∧ tyOf hp a = tn) :
    ∃ secs, renderSections K ts cass hp o byId (names.map (fun t => (t, S t))) = .ok secs := by
  rw [renderSections_eq_mapM]
  refine Det.mapM_total (fun tn htn => ?_)
  obtain ⟨⟨t, ht⟩, hm⟩ := hL tn (List.mem_filter.mp htn).1
  obtain ⟨rows, hrows⟩ : ∃ rows, renderRows K cass hp byId t (annFlag ts o t) (S tn) = .ok rows := by
    rw [renderRows_eq_mapM]
    exact Det.mapM_total (fun a ha => renderRow_total wn byId (hm a ha).1 (by rw [(hm a ha).2]; exact ht))
  unfold renderSection
  rw [ht, Except.bind, hrows]
  exact ⟨_, rfl⟩

theorem renderFrom_total_aux (K : Consts) (ts : TypeSystem) (cass : List Cas) (hp : Heap) (o : Opts) (hsh : Nat → Int)
    (indexed addrs : List Nat) (need : Nat → Nat) (wn : WellNested K hp need)
    (hrow : ∀ a ∈ addrs, RowOk K ts cass hp o need a) :
    ∃ secs, renderFrom K ts cass hp o hsh indexed addrs = .ok secs := by
  have hty : ∀ p ∈ sortedOf (ltFs hp hsh) hp addrs, ∃ t, getType ts p.1 = .ok t := by
    intro p hp'
    obtain ⟨⟨a, ha, hta⟩, _⟩ := mem_sortedOf_pair _ hp addrs p hp'
    rw [← hta]
    exact (hrow a ha).ty
  obtain ⟨st, hst⟩ := genAnchors_total (ts := ts) (cass := cass) (hp := hp) indexed o
    (sortedOf (ltFs hp hsh) hp addrs) (sortedOf (ltFs hp hsh) hp addrs)
    (fun p hp' => ⟨hty p hp', fun a ha => (hrow a ((mem_sortedOf_pair _ hp addrs p hp').2 a ha).1).sofa⟩) {}
  have hmem : ∀ tn ∈ sortNames (typeKeys hp addrs),
      (tn, sortFs (ltFs hp hsh) (group hp addrs tn)) ∈ sortedOf (ltFs hp hsh) hp addrs :=
    fun tn htn => List.mem_map.mpr ⟨tn, htn, rfl⟩
  obtain ⟨secs, hsecs⟩ := renderSections_total (ts := ts) (cass := cass) (o := o) wn st.byId
    (fun t => sortFs (ltFs hp hsh) (group hp addrs t)) (sortNames (typeKeys hp addrs))
    (fun tn htn => ⟨hty _ (hmem tn htn), fun a ha =>
      have := (mem_sortedOf_pair _ hp addrs _ (hmem tn htn)).2 a ha
      ⟨hrow a this.1, this.2⟩⟩)
  exact ⟨secs, by rw [renderFrom_eq, hst]; exact hsecs⟩

end Cassis.Comparable
