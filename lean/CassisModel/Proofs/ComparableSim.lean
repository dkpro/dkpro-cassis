/-
C20 across two heaps: a *simulation* between the array objects of two heaps gives equal cells, whatever the nesting —
also a cyclic one, where both sides exhaust their budgets.

`ValRel` (`Spec/ComparableIso.lean`) relates values to a finite depth; here the relation on addresses `AR` is arbitrary
and only has to be closed under one step (`SimStep`): related addresses are both rendered by anchor (and the two anchor
maps answer alike) or are both array objects whose `elements` are related again (`VRof AR`).  The two budgets differ
(`2 * |heap| + 2` each); from its budget on each side is `Stable` (`stable_ge`, `Proofs/ComparableFuel.lean`), which
makes them comparable: every approximation of one side is below the limit of the other (`sim_le`), hence the limits
agree (`sim_eq`, by `Le.antisymm`).
-/
import CassisModel.Proofs.ComparableIsoRel
import CassisModel.Proofs.ComparableFuel

namespace Cassis.Comparable
open Cassis.TS Cassis.Traverse

/-- related values, one level: equal plain cells, two empty lists, related references, related reference lists -/
def VRof (AR : Nat → Nat → Prop) (v v' : Val) : Prop :=
  SameCell v v' ∨ (EmptyList v ∧ EmptyList v') ∨ (∃ a a', v = .ref a ∧ v' = .ref a' ∧ AR a a') ∨
  (∃ l l', v = .refs l ∧ v' = .refs l' ∧ RefsRel AR l l')

/-- `AR` is closed under one step of `_render_feature_value` -/
def SimStep (K : Consts) (hp hp' : Heap) (byId byId' : List (Option Int × String)) (AR : Nat → Nat → Prop) : Prop :=
  ∀ a a', AR a a' →
    (isArrayFs K hp a = false ∧ isArrayFs K hp' a' = false ∧
      getById byId' (xidOf hp' a') = getById byId (xidOf hp a)) ∨
    (isArrayFs K hp a = true ∧ isArrayFs K hp' a' = true ∧
      ElemRel (VRof AR) (slot hp a "elements") (slot hp' a' "elements"))

theorem sim_le (K : Consts) (hp hp' : Heap) (byId byId' : List (Option Int × String)) (AR : Nat → Nat → Prop)
    (hsim : SimStep K hp hp' byId byId' AR) (F' : Nat) (hF' : 2 * hp'.length + 2 ≤ F') :
    ∀ (f : Nat) (v v' : Val), VRof AR v v' → Le (renderVal K hp byId f v) (renderVal K hp' byId' F' v') := by
  obtain ⟨d, rfl⟩ : ∃ d, F' = 2 * hp'.length + 2 + d := ⟨F' - (2 * hp'.length + 2), by omega⟩
  have hst : ∀ v, renderVal K hp' byId' (2 * hp'.length + 2 + d) v = renderVal K hp' byId' (2 * hp'.length + 2 + d + 1) v :=
    stable_ge K hp' byId' d
  generalize 2 * hp'.length + 2 + d = G at hst hF'
  obtain ⟨g', rfl⟩ : ∃ g', G = g' + 1 := ⟨G - 1, by omega⟩
  intro f
  induction f with
  | zero =>
    intro v v' h
    rcases h with h | ⟨h1, h2⟩ | ⟨a, a', rfl, rfl, _⟩ | ⟨l, l', rfl, rfl, _⟩
    · right; exact (renderVal_sameCell K hp hp' byId byId' _ _ h).symm
    · rw [renderVal_emptyList K hp' byId' g' h2]
      rcases h1 with h | h | h | h | h <;> subst h
      · left; rfl
      all_goals (right; rfl)
    · left; rfl
    · left; rfl
  | succ f ih =>
    intro v v' h
    rcases h with h | ⟨h1, h2⟩ | ⟨a, a', rfl, rfl, hr⟩ | ⟨l, l', rfl, rfl, hl⟩
    · right; exact (renderVal_sameCell K hp hp' byId byId' _ _ h).symm
    · right; rw [renderVal_emptyList K hp byId f h1, renderVal_emptyList K hp' byId' g' h2]
    · rcases hsim a a' hr with ⟨h1, h2, hk⟩ | ⟨h1, h2, he⟩
      · right; rw [renderVal_ref_fs K hp byId f h1, renderVal_ref_fs K hp' byId' g' h2, hk]
      · rw [hst]
        rcases he with ⟨e1, e2⟩ | ⟨e1, e2⟩ | ⟨w, w', e1, e2, n1, n2, hw⟩
        · right; rw [renderVal_ref_arr_noslot K hp byId f h1 e1, renderVal_ref_arr_noslot K hp' byId' _ h2 e2]
        · right; rw [renderVal_ref_arr_none K hp byId f h1 e1, renderVal_ref_arr_none K hp' byId' _ h2 e2]
        · rw [renderVal_ref_arr K hp byId f h1 e1 n1, renderVal_ref_arr K hp' byId' _ h2 e2 n2]
          exact ih w w' hw
    · rw [hst, renderVal_refs, renderVal_refs]
      apply Le.map
      exact mapM_elemCell_le K hp hp' byId byId' f (g' + 1) AR
        (fun a a' hr => ih (.ref a) (.ref a') (Or.inr (Or.inr (Or.inl ⟨a, a', rfl, rfl, hr⟩)))) l l' hl

theorem vrof_flip {AR : Nat → Nat → Prop} {v v' : Val} (h : VRof AR v v') : VRof (fun a' a => AR a a') v' v := by
  rcases h with h | ⟨h1, h2⟩ | ⟨a, a', rfl, rfl, hr⟩ | ⟨l, l', rfl, rfl, hl⟩
  · exact Or.inl (sameCell_symm h)
  · exact Or.inr (Or.inl ⟨h2, h1⟩)
  · exact Or.inr (Or.inr (Or.inl ⟨a', a, rfl, rfl, hr⟩))
  · exact Or.inr (Or.inr (Or.inr ⟨l', l, rfl, rfl, refsRel_flip hl⟩))

theorem simStep_flip {K : Consts} {hp hp' : Heap} {byId byId' : List (Option Int × String)} {AR : Nat → Nat → Prop}
    (h : SimStep K hp hp' byId byId' AR) : SimStep K hp' hp byId' byId (fun a' a => AR a a') := by
  intro a' a hr
  rcases h a a' hr with ⟨h1, h2, hk⟩ | ⟨h1, h2, he⟩
  · exact Or.inl ⟨h2, h1, hk.symm⟩
  · refine Or.inr ⟨h2, h1, ?_⟩
    rcases he with ⟨e1, e2⟩ | ⟨e1, e2⟩ | ⟨w, w', e1, e2, n1, n2, hw⟩
    · exact Or.inl ⟨e2, e1⟩
    · exact Or.inr (Or.inl ⟨e2, e1⟩)
    · exact Or.inr (Or.inr ⟨w', w, e2, e1, n2, n1, vrof_flip hw⟩)

theorem sim_eq (K : Consts) (hp hp' : Heap) (byId byId' : List (Option Int × String)) (AR : Nat → Nat → Prop)
    (hsim : SimStep K hp hp' byId byId' AR) {v v' : Val} (h : VRof AR v v') :
    renderVal K hp' byId' (2 * hp'.length + 2) v' = renderVal K hp byId (2 * hp.length + 2) v := by
  have h1 := sim_le K hp hp' byId byId' AR hsim (2 * hp'.length + 2) (Nat.le_refl _) (2 * hp.length + 2) v v' h
  have h2 := sim_le K hp' hp byId' byId _ (simStep_flip hsim) (2 * hp.length + 2) (Nat.le_refl _) (2 * hp'.length + 2) v' v (vrof_flip h)
  exact Le.antisymm h2 h1

theorem vrof_int {AR : Nat → Nat → Prop} {v v' : Val} (h : VRof AR v v') (i : Int) : v = .int i ↔ v' = .int i := by
  rcases h with h | ⟨h1, h2⟩ | ⟨a, a', rfl, rfl, _⟩ | ⟨l, l', rfl, rfl, _⟩
  · exact sameCell_int h i
  · exact ⟨fun e => absurd (e ▸ h1) emptyList_int, fun e => absurd (e ▸ h2) emptyList_int⟩
  · exact ⟨nofun, nofun⟩
  · exact ⟨nofun, nofun⟩

theorem vrof_none {AR : Nat → Nat → Prop} : VRof AR .none .none := Or.inl ⟨.null, rfl, rfl⟩

/-- **two sides whose slots hold values related through a simulation are isomorphic** (`IsoR`): the conditions of
    `IsoR` on the slots (`ints`, `cells`) follow from `hslot` and `hsim`; the others are hypotheses -/
theorem isoR_of_sim {K : Consts} {cass cass' : List Cas} {hp hp' : Heap} {indexed indexed' addrs addrs' : List Nat}
    {φ : Nat → Nat} (AR : Nat → Nat → Prop)
    (bij : (addrs.map φ).Perm addrs') (nodup : addrs'.Nodup)
    (idx : ∀ a ∈ addrs, (a ∈ indexed ↔ φ a ∈ indexed'))
    (ty : ∀ a ∈ addrs, tyOf hp' (φ a) = tyOf hp a)
    (key : ∀ a ∈ addrs, SameKey hp hp' addrs φ a (φ a))
    (view : ∀ a ∈ addrs, viewTag cass' hp' (φ a) = viewTag cass hp a)
    (covered : ∀ a ∈ addrs, isAnnot hp a = true → Cas.coveredText cass' hp' (φ a) = Cas.coveredText cass hp a)
    (hslot : ∀ a ∈ addrs, ∀ n : String, n ≠ "sofa" →
      VRof AR ((slot hp a n).getD .none) ((slot hp' (φ a) n).getD .none))
    (elems : ∀ a ∈ addrs, isArrayFs K hp a = true →
      (slot hp' (φ a) "elements").isSome = (slot hp a "elements").isSome)
    (hsim : ∀ byId byId', AnchRel hp hp' addrs φ byId byId' → SimStep K hp hp' byId byId' AR) :
    IsoR K cass cass' hp hp' indexed indexed' addrs addrs' φ :=
  { bij, nodup, idx, ty, key, view, covered, elems
    ints := fun a ha n hn => intOf_congr (vrof_int (hslot a ha n hn))
    cells := fun byId byId' hA a ha n hn => sim_eq K hp hp' byId byId' AR (hsim byId byId' hA) (hslot a ha n hn) }

end Cassis.Comparable
