/-
JSON round trip with collections: what the traversal of the writer (`includeInlinable := true`) guarantees
about the collected structures (`LOkJ`): they are closed under references (`ClosedL`) and under the elements of FSArray
objects (`ClosedE`), read off `Listed` (`RoundTripCollected.lean`) as `lok_of_findAllFs` and `lokC_of_findAllFs` are.
What the writer produces for a collected structure (`renderFs_collJ`): `renderFs_gen` of `RoundTripJsonWriter.lean` on general
structures (that the target of a reference has an id comes from the closure of the collected structures), `arrJFs` on array
objects (`renderFs_arr`).  The two statements the round trip (`RoundTripJsonColl.lean`) calls are `trav_collJ` (a successful
traversal gives `LOkJ`) and `writer_collJ` (a successful `renderFs` on a collected structure returns `elemOfJ`).
-/
import CassisModel.Proofs.RoundTripJsonCollDefs

namespace Cassis.Json
open Cassis.TS Cassis.Traverse Cassis.Xmi

/-- the options of the JSON writer -/
abbrev jop : Opts := { includeInlinable := true }

theorem jmem_refsToPush_nil (H : Heap) {l : List (Option Nat)} {b : Nat} (h : some b ∈ l) :
    b ∈ refsToPush H [] l := by
  unfold refsToPush
  refine List.mem_filterMap.mpr ⟨some b, h, ?_⟩
  simp only [seenId_nil]
  rfl

/-! ### the pushes of a general structure against an empty visited map -/

theorem jfeatureSuccs_coll {K : Consts} {ts : TypeSystem} {c : Cas} {ci : Nat} {H : Heap} {a : Nat} {o : Obj}
    {isAnn : Bool} {f : Feature} (fuel : Nat) (ho : H[a]? = some o) (hf : JFeatOk K ts c ci H isAnn o f) :
    ∃ ps : List Nat, featureSuccs K ts jop H [] fuel a f = .ok (ps, 0) ∧
      ∀ b, alistGet? o.slots f.name = some (.ref b) → b ∈ ps := by
  obtain ⟨_, _, _, _, _, v, hv, hcase⟩ := hf
  have hslot : Traverse.slot H a f.name = some v := (slot_eq ho _).trans hv
  unfold featureSuccs
  rcases hcase with ⟨hn, hs⟩ | ⟨hn, hprim, h3⟩ | ⟨hn, hprim, _, _, _, hval⟩
  · refine ⟨[], ?_, ?_⟩
    · simp [hn]
    · intro b hb
      rw [hv] at hb
      rcases hs with ⟨vn, rfl, _⟩ | ⟨rfl, _⟩ <;> cases hb
  · have hn' : (f.name == "sofa") = false := by simpa using hn
    refine ⟨[], ?_, ?_⟩
    · simp [hn', hprim]
    · intro b hb
      rw [hv] at hb
      rcases h3 with rfl | ⟨_, i, rfl⟩ | ⟨_, s, rfl⟩ | ⟨_, b', rfl⟩ | ⟨_, t, rfl⟩ <;> cases hb
  · have hn' : (f.name == "sofa") = false := by simpa using hn
    rcases hval with rfl | ⟨b, rfl, _⟩
    · refine ⟨[], ?_, ?_⟩
      · simp [hn', hprim, hslot]
      · intro b hb; rw [hv] at hb; cases hb
    · refine ⟨[b], ?_, ?_⟩
      · simp [hn', hprim, hslot, seenId_nil]
      · intro b' hb; rw [hv] at hb; cases hb; exact List.mem_singleton.mpr rfl

theorem jfeaturesSuccs_coll {K : Consts} {ts : TypeSystem} {c : Cas} {ci : Nat} {H : Heap} {a : Nat} {o : Obj}
    {isAnn : Bool} (fuel : Nat) (ho : H[a]? = some o) :
    ∀ (fs : List Feature), (∀ f ∈ fs, JFeatOk K ts c ci H isAnn o f) →
    ∃ ps : List Nat, featuresSuccs K ts jop H [] fuel a fs = .ok (ps, 0) ∧
      ∀ f ∈ fs, ∀ b, alistGet? o.slots f.name = some (.ref b) → b ∈ ps := by
  intro fs
  induction fs with
  | nil => intro _; exact ⟨[], rfl, fun f hf => by cases hf⟩
  | cons f fs ih =>
    intro hall
    obtain ⟨p1, h1, m1⟩ := jfeatureSuccs_coll fuel ho (hall f List.mem_cons_self)
    obtain ⟨p2, h2, m2⟩ := ih (fun g hg => hall g (List.mem_cons_of_mem _ hg))
    refine ⟨p1 ++ p2, ?_, ?_⟩
    · unfold featuresSuccs
      simp only [h1, h2, bind, Except.bind, pure, Except.pure]
    · intro g hg b hb
      rcases List.mem_cons.mp hg with rfl | hg
      · exact List.mem_append_left _ (m1 b hb)
      · exact List.mem_append_right _ (m2 g hg b hb)

theorem jsuccs_gen {K : Consts} {ts : TypeSystem} {c : Cas} {ci : Nat} {H : Heap} {a : Nat} (fuel : Nat)
    (hg : JGenFs K ts c ci H a) {o : Obj} (ho : H[a]? = some o) {n : String} {b : Nat}
    (hb : alistGet? o.slots n = some (.ref b)) : b ∈ succsOf K ts jop H fuel a := by
  obtain ⟨o', t, ho', ht, g⟩ := jgenFs_iff.mp hg
  cases ho.symm.trans ho'
  obtain ⟨f, hf, rfl⟩ := g.slot_feature hb
  obtain ⟨ps, hps, hm⟩ := jfeaturesSuccs_coll (K := K) (ts := ts) fuel ho (allFeatures t) g.feat
  have hnode : nodeSuccs K ts jop H [] fuel a t = .ok (ps, 0) := by
    unfold nodeSuccs
    rw [show (t.super == some ARRAY_BASE) = false from beq_false_of_ne g.notArrBase]
    exact hps
  rw [succsOf_eq K ts jop ho (getType_of_find ht) hnode]
  exact hm f hf b hb

theorem jgen_no_refs {K : Consts} {ts : TypeSystem} {c : Cas} {ci : Nat} {H : Heap} {a : Nat}
    (hg : JGenFs K ts c ci H a) {o : Obj} (ho : H[a]? = some o) {n : String} {l : List (Option Nat)}
    (hl : alistGet? o.slots n = some (.refs l)) : False := by
  obtain ⟨o', t, ho', _, g⟩ := jgenFs_iff.mp hg
  cases ho.symm.trans ho'
  obtain ⟨f, hf, rfl⟩ := g.slot_feature hl
  cases ((g.feat f hf).scalar hl).1

theorem jarr_no_ref {K : Consts} {ts : TypeSystem} {H : Heap} {a : Nat}
    (ha : JArrFs K ts H a) {o : Obj} (ho : H[a]? = some o) {n : String} {b : Nat}
    (hb : alistGet? o.slots n = some (.ref b)) : False := by
  obtain ⟨t, f, ev, _, g⟩ := ha.at ho
  rw [g.slots] at hb
  obtain ⟨_, rfl⟩ := alistGet?_single hb
  rcases g.kind with ⟨_, _, l, e⟩ | ⟨_, _, hp⟩
  · cases e
  · cases hp.list.1

theorem jsuccs_arr {K : Consts} {ts : TypeSystem} {H : Heap} {a : Nat} (fuel : Nat)
    (ha : JArrFs K ts H a) {o : Obj} (ho : H[a]? = some o) {l : List (Option Nat)}
    (hl : alistGet? o.slots "elements" = some (.refs l)) {b : Nat} (hb : some b ∈ l) :
    b ∈ succsOf K ts jop H fuel a := by
  obtain ⟨t, f, ev, ht, g⟩ := ha.at ho
  rcases g.kind with ⟨hty, _, _⟩ | ⟨_, _, hp⟩
  · have hnode : nodeSuccs K ts jop H [] fuel a t = .ok (refsToPush H [] l, 0) := by
      unfold nodeSuccs
      have h1 : (t.super == some ARRAY_BASE) = true := by rw [g.arrBase]; exact beq_self_eq_true _
      have h2 : (t.name == FS_ARRAY) = true := by rw [g.name, hty]; exact beq_self_eq_true _
      rw [h1, h2, (slot_eq ho _).trans hl]
      rfl
    rw [succsOf_eq K ts jop ho (getType_of_find ht) hnode]
    exact jmem_refsToPush_nil H hb
  · exfalso
    rw [g.slots] at hl
    obtain ⟨_, rfl⟩ := alistGet?_single hl
    rcases hp with e | ⟨_, l', e⟩ | ⟨_, l', e⟩ | ⟨_, _, ⟨l', e⟩ | ⟨l', e⟩ | ⟨l', e⟩⟩
    · cases e; cases hb
    all_goals cases e

theorem lokJ_of_findAllFs {K : Consts} {ts : TypeSystem} {ci : Nat} {c : Cas} {hp : Heap} {nx : Int} {st : St}
    (hfa : findAllFs K ts jop hp nx (defaultSeeds c) = .ok st) (hpos : 0 < nx)
    (hcoll : ∀ q ∈ st.allFs, JCollFs K ts c ci st.heap q.2)
    (hseed : ∀ a ∈ defaultSeeds c, xidOf st.heap a ≠ some 0)
    (hnz : ∀ q ∈ st.allFs, ∀ o, st.heap[q.2]? = some o →
      (∀ n b, alistGet? o.slots n = some (.ref b) → xidOf st.heap b ≠ some 0) ∧
      ∀ l, alistGet? o.slots "elements" = some (.refs l) → ∀ b, some b ∈ l → xidOf st.heap b ≠ some 0) :
    LOkJ K ts c ci st.heap (sortById st.allFs) := by
  have C := listed_of_findAllFs hpos hfa
  refine ⟨fun q hq => hcoll q (mem_sortById.mp hq), C.ids, C.nodup, fun q hq o ho n b hb => ?_,
    fun q hq o ho l hl b hb => ?_,
    fun nv hnv e he => C.seeds _ (mem_defaultSeeds hnv he) (hseed _ (mem_defaultSeeds hnv he))⟩
  · rcases (hcoll q (mem_sortById.mp hq)).1 with hg | ha
    · exact C.closed q hq b (jsuccs_gen _ hg ho hb) ((hnz q (mem_sortById.mp hq) o ho).1 n b hb)
    · exact (jarr_no_ref ha ho hb).elim
  · rcases (hcoll q (mem_sortById.mp hq)).1 with hg | ha
    · exact (jgen_no_refs hg ho hl).elim
    · exact C.closed q hq b (jsuccs_arr _ ha ho hl hb) ((hnz q (mem_sortById.mp hq) o ho).2 l hl b hb)

theorem trav_collJ (K : Consts) (ts : TypeSystem) (ci : Nat) (c : Cas) (hp : Heap) (st : St) (hwf : RTWf c hp)
    (hfa : findAllFs K ts jop hp c.nextXid (defaultSeeds c) = .ok st)
    (hcoll : ∀ q ∈ st.allFs, JCollFs K ts c ci st.heap q.2) : LOkJ K ts c ci st.heap (sortById st.allFs) := by
  have hnz : ∀ b, xidOf st.heap b ≠ some 0 := fun b h0 => by
    have := st_ids_pos hwf hfa b 0 h0
    omega
  exact lokJ_of_findAllFs hfa hwf.next_pos hcoll (fun a _ => hnz a)
    (fun _ _ _ _ => ⟨fun _ b _ => hnz b, fun _ _ b _ => hnz b⟩)

theorem renderFs_arr {K : Consts} {ts : TypeSystem} (cass : List Cas) {H : Heap} {a : Nat} {x : Int} {o : Obj}
    (ho : H[a]? = some o) (hx : xidOf H a = some x) (harr : JArrFs K ts H a) :
    renderFs K ts cass H a = .ok (arrJFs H x o) := by
  obtain ⟨el, hel⟩ := arrayElements_ok harr ho
  have hxid : o.xid = some x := by
    exact (xidOf_eq ho).symm.trans hx
  rw [renderFs_eq, ho]
  unfold arrJFs arrElemsJ
  simp only [jarr_cond harr ho, if_true, hel, hxid]
  rfl

theorem renderFs_collJ {K : Consts} {ts : TypeSystem} {cass : List Cas} {c : Cas} {ci : Nat} {H : Heap}
    {L : List (Int × Nat)} (hc : cass[ci]? = some c) (hL : LOkJ K ts c ci H L) (q : Int × Nat) (hq : q ∈ L)
    (hsr : ∀ o t, H[q.2]? = some o → find? ts o.ty = some t → ∀ f ∈ allFeatures t, SofaRangeOk K ts o f) :
    renderFs K ts cass H q.2 = .ok (elemOfJ K ts cass H q) := by
  have hid := (hL.ids q hq).1
  rcases elemOfJ_cases (cass := cass) hL q hq with ⟨o, t, ho, ht, hgen, hE, _⟩ | ⟨o, ho, harr, hE, _⟩
  · rw [hE]
    exact renderFs_gen K ts cass c ci H q.2 q.1 o t hc hgen ho ht hid
      (fun f hf => (((hL.coll q hq).2 o t ho ht).2 f hf).2.2.2) (hsr o t ho ht)
      (fun n b hb => by
        obtain ⟨x, hx, _⟩ := hL.closed q hq o ho n b hb
        rw [hx]; rfl)
  · rw [hE]
    exact renderFs_arr cass ho hid harr

/-- what `renderFs` returns for a collected structure, when it succeeds: success shows what `renderFs_collJ` assumes of
    the `sofa` feature -/
theorem writer_collJ (K : Consts) (ts : TypeSystem) (cass : List Cas) (c : Cas) (ci : Nat) (hp H : Heap)
    (L : List (Int × Nat)) (g : GCtxJ K ts cass c ci hp H L) (q : Int × Nat) (hq : q ∈ L) (e : JFs)
    (he : renderFs K ts cass H q.2 = .ok e) : e = elemOfJ K ts cass H q := by
  refine Except.ok.inj (he.symm.trans (renderFs_collJ g.hc g.lok q hq fun o t ho ht => ?_))
  rcases (g.lok.coll q hq).1 with hgen | harr
  · exact sofaRange_of_renderFs K ts cass c ci H q.2 o t hgen ho ht e he
  · obtain ⟨t', f', _, ht', g'⟩ := harr.at ho
    cases ht.symm.trans ht'
    intro f hf hn
    rw [g'.feats, List.mem_singleton] at hf
    rw [hf, g'.fname] at hn
    exact absurd hn (by decide)

end Cassis.Json
