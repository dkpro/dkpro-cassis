/-
C09, document level — the XMI loader reseeds the generators above every id and sofaNum of the document.

`P1Bounded` is the invariant of the first pass: every sofa id / sofaNum and every structure id seen so far is at
most `maxId` / `maxNum`.  The third pass sets `nextXid := maxId + 1`, `nextSofaNum := maxNum + 1`.  Consequently,
after a load every id the document mentions, and every id carried by an object the load created, is below the
generator: ids generated afterwards are fresh (this is the `Bounded` precondition of `ids_step`, C09).
The implicit initial view of a document without an `_InitialView` sofa keeps id 1 / sofaNum 1 (finding I5): the
statement about views therefore speaks about the views created from sofas of the document.
-/
import CassisModel.Proofs.XmiReseed

namespace Cassis.Xmi
open Cassis.TS

theorem pass1_bounded (K : Consts) (ts : TypeSystem) (tsIdx : Nat) (lenient : Bool) (doc : XDoc) (s r : Pass1)
    (hs : P1Bounded s) (h : pass1 K ts tsIdx lenient doc s = .ok r) :
    P1Bounded r ∧ s.maxId ≤ r.maxId ∧ s.maxNum ≤ r.maxNum :=
  pass1_inv K ts tsIdx lenient (fun x => P1Bounded x ∧ s.maxId ≤ x.maxId ∧ s.maxNum ≤ x.maxNum)
    (fun e a a' h1 hJ => by
      obtain ⟨hb, hi, hn⟩ := step1_bounded K ts tsIdx lenient e a a' h1 hJ.1
      exact ⟨hb, Int.le_trans hJ.2.1 hi, Int.le_trans hJ.2.2 hn⟩)
    doc s r h ⟨hs, Int.le_refl _, Int.le_refl _⟩

/-- every structure registered by the first pass sits in the heap under the id of its element -/
theorem pass1_fss_ids (K : Consts) (ts : TypeSystem) (tsIdx : Nat) (lenient : Bool) (doc : XDoc) (s r : Pass1)
    (hs : ∀ q ∈ s.fss, ∃ o : Obj, s.heap[q.2]? = some o ∧ o.xid = some q.1)
    (h : pass1 K ts tsIdx lenient doc s = .ok r) :
    ∀ q ∈ r.fss, ∃ o : Obj, r.heap[q.2]? = some o ∧ o.xid = some q.1 :=
  pass1_fssAll (fun _ _ h _ _ => h) doc s r h hs

/-- **the loader reseeds above everything the document mentions and everything it created** -/
theorem loadXmi_reseeds (K : Consts) (ts : TypeSystem) (tsIdx ci : Nat) (lenient : Bool) (hp : Heap) (doc : XDoc)
    (ld : Loaded) (h : loadXmi K ts tsIdx ci lenient hp doc = .ok ld) :
    ∃ p : Pass1, pass1 K ts tsIdx lenient doc { heap := hp } = .ok p ∧ P1Bounded p ∧
      ld.cas.nextXid = p.maxId + 1 ∧ ld.cas.nextSofaNum = p.maxNum + 1 ∧
      (∀ q ∈ p.fss, ∃ o : Obj, ld.heap[q.2]? = some o ∧ o.xid = some q.1 ∧ q.1 < ld.cas.nextXid) ∧
      (∀ (a : Nat) (o : Obj) (x : Int), hp.length ≤ a → ld.heap[a]? = some o → o.xid = some x → x < ld.cas.nextXid) ∧
      (∀ q ∈ p.sofas, ∃ v : View, Cas.getViewRec ld.cas q.2.sofaID = some v ∧
        v.sofa.xid < ld.cas.nextXid ∧ v.sofa.sofaNum < ld.cas.nextSofaNum) := by
  obtain ⟨p, hp2, hp1, hpost, h⟩ := loadXmi_ok h
  obtain ⟨b, hpR, hbv, hre, hcr, hcas⟩ := buildCas_ok h
  refine ⟨p, hp1, ?_⟩
  have hB : P1Bounded p :=
    (pass1_bounded K ts tsIdx lenient doc { heap := hp } p
      ⟨(fun q hq => by cases hq), (fun q hq => by cases hq)⟩ hp1).1
  have hN : HExt Eq (IdLe p.maxId) hp p.heap :=
    pass1_inv K ts tsIdx lenient (fun s => HExt Eq (IdLe s.maxId) hp s.heap) (step1_ext K ts tsIdx lenient hp)
      doc { heap := hp } p hp1 (.refl (fun _ => rfl) hp)
  obtain ⟨hX, h12⟩ := passes12 hp1 hpost
  have hF2 : FssIds p.fss hp2 := fun q hq => let ⟨o, ho, hx, _⟩ := h12 q hq; ⟨o, ho, hx⟩
  rw [hcas]
  obtain ⟨x1, v1⟩ := buildViews_x (M := p.maxId) (N := p.maxNum) (b := { cas := Cas.empty, heap := hp2 }) hF2 hB.1 hbv
  have xR : XSame b.heap hpR :=
    rehome_inv (XSame b.heap) (fun _ _ _ _ hs hJ => hJ.trans (setSlot_xsame_of_ne (by decide) hs)) p.fss _ _ _ hre
      (XSame.refl _)
  have x2 : XSame hpR ld.heap :=
    convertReferenced_inv (XSame hpR) (fun _ _ _ _ _ _ _ hc hJ => hJ.trans (convertOffsets_xsame hc)) p _ _ _ _ hcr
      (XSame.refl _)
  have hS : XSame hp2 ld.heap := (x1.trans xR).trans x2
  refine ⟨hB, rfl, rfl, ?_, ?_, ?_⟩
  · intro q hq
    obtain ⟨o, ho, hx⟩ := (hF2.same hS) q hq
    refine ⟨o, ho, hx, ?_⟩
    show q.1 < p.maxId + 1
    have := hB.2 q hq
    omega
  · -- the three passes compose: what the first made keeps its id, what the second made has none, the third makes nothing
    have H : HExt (fun _ _ => True) (IdLe p.maxId) hp ld.heap :=
      (hN.comp hX (R'' := fun _ _ => True) (fun _ _ _ _ _ => trivial) (fun _ _ hb r x hx => hb x (r.2.1 ▸ hx))
        fun _ hn x hx => by rw [hn] at hx; cases hx).comp hS (fun _ _ _ _ _ => trivial)
        (fun _ _ hb r x hx => hb x (r ▸ hx)) fun _ h => h.elim
    intro a o x hl ho hx
    show x < p.maxId + 1
    have := H.new a o hl ho x hx
    omega
  · intro q hq
    obtain ⟨v, hv, b1, b2⟩ := v1 q hq
    refine ⟨v, hv, ?_, ?_⟩
    · show v.sofa.xid < p.maxId + 1
      omega
    · show v.sofa.sofaNum < p.maxNum + 1
      omega

/-- in particular the id generator of a loaded CAS is positive -/
theorem loadXmi_nextXid_pos {K : Consts} {ts : TypeSystem} {tsIdx ci : Nat} {lenient : Bool} {hp : Heap} {doc : XDoc}
    {ld : Loaded} (h : loadXmi K ts tsIdx ci lenient hp doc = .ok ld) : 0 < ld.cas.nextXid := by
  obtain ⟨p, hp1, _, hnx, _⟩ := loadXmi_reseeds K ts tsIdx ci lenient hp doc ld h
  have hb := pass1_bounded K ts tsIdx lenient doc { heap := hp } p ⟨nofun, nofun⟩ hp1
  have : (0 : Int) ≤ p.maxId := hb.2.1
  rw [hnx]; omega

end Cassis.Xmi
