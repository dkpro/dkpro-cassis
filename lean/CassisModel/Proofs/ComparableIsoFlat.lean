/-
C20 across a save/load round trip, flat fragment: the relation between the written heap and the loaded heap that the
round-trip proofs establish (`HeapRel … (E3 …)`, `Proofs/RoundTripDefs.lean`, shared by the XMI and the JSON
development) is an isomorphism in the sense of `Spec/ComparableIso.lean` (`iso_of_heapRel`).

For the JSON round trip: the view relation of the JSON development (`ViewsRelJ`) in the form the comparable text needs,
and the flat fragment against the option `include_inlinable_arrays_and_lists` (`optFree_of_flat`): the JSON writer
traverses with the option set, `cas_to_comparable_text` with the default options; on the flat fragment the two traversals
are the same run (`Proofs/TraverseOptions.lean`).
-/
import CassisModel.Proofs.ComparableIsoRoundTrip
import CassisModel.Proofs.ComparableIsoSyntactic
import CassisModel.Proofs.TraverseOptions
import CassisModel.Proofs.RoundTripJsonFixpoint

namespace Cassis.Comparable
open Cassis.TS Cassis.Traverse Cassis.Xmi

section
variable {K : Consts} {ts : TypeSystem} {c : Cas} {ci : Nat} {H : Heap} {L : List (Int × Nat)} {na : Int → Nat}
  {ci' : Nat} {hpL : Heap}

theorem flat_slot_feat {a : Nat} (hfl : FlatFs K ts c ci H a) {o : Obj} (ho : H[a]? = some o) {n : String} {v : Val}
    (hv : alistGet? o.slots n = some v) :
    ∃ f : Feature, f.name = n ∧ FlatFeat K ts c ci H (isInstanceOf ts o.ty ANNOTATION) o f := by
  obtain ⟨o1, t, ho1, _, g⟩ := flatFs_iff.mp hfl
  cases ho.symm.trans ho1
  obtain ⟨f, hf, hfn⟩ := g.slot_feature hv
  exact ⟨f, hfn, g.feat f hf⟩

theorem flat_not_array {a : Nat} (hfl : FlatFs K ts c ci H a) : isArrayFs K H a = false := by
  obtain ⟨o, t, ho, _, g⟩ := flatFs_iff.mp hfl
  unfold isArrayFs tyOf
  rw [ho]
  exact g.notArr

theorem valRel_exp3 (hL : LOk K ts c ci H L) (hrel : HeapRel H L na (E3 H na ci') hpL) {addrs : List Nat}
    (haddrs : ∀ b ∈ addrs, ∃ q ∈ L, q.2 = b) {q : Int × Nat} (hq : q ∈ L) {o : Obj} (ho : H[q.2]? = some o)
    {n : String} {v : Val} (hv : alistGet? o.slots n = some v) (d : Nat) :
    ValRel K H hpL (SameKey H hpL addrs (phiOf H na)) (d + 1) v (exp3 H na ci' v) := by
  obtain ⟨f, hfn, hf⟩ := flat_slot_feat (hL.flat q hq) ho hv
  obtain ⟨_, _, _, _, _, _, _, _, _, _, _, v0, hv0, hcase⟩ := hf
  rw [hfn, hv] at hv0; cases hv0
  rcases hcase with ⟨_, hs⟩ | ⟨_, _, hs⟩ | ⟨_, _, _, _, _, _, _, hs⟩
  · rcases hs with ⟨vn, rfl, _⟩ | ⟨rfl, _⟩
    · exact Or.inl ⟨.none, rfl, rfl⟩
    · exact Or.inl ⟨.null, rfl, rfl⟩
  · rcases hs with rfl | ⟨_, i, rfl⟩ | ⟨_, s, rfl⟩ | ⟨_, b, rfl⟩ | ⟨_, t, rfl⟩
    all_goals exact Or.inl ⟨_, rfl, rfl⟩
  · rcases hs with rfl | ⟨b, rfl, _, _⟩
    · exact Or.inl ⟨_, rfl, rfl⟩
    · obtain ⟨x, hx, hxL⟩ := hL.closed q hq o ho n b hv
      have hna := flat_not_array (hL.flat _ hxL)
      right; left
      refine ⟨b, na x, rfl, ?_, hna, ?_, heapRel_sameKey (fun q hq => (hL.ids q hq).1) hrel haddrs hxL⟩
      · simp only [exp3, hx]
      · rw [isArrayFs_of_tyOf (heapRel_tyOf hrel hxL) K]
        exact hna

theorem iso_of_heapRel {cass cass' : List Cas} {c' : Cas} (hc : cass[ci]? = some c) (hc' : cass'[ci']? = some c')
    (hL : LOk K ts c ci H L) (hrel : HeapRel H L na (E3 H na ci') hpL)
    (hviews : ViewsSame c c') (hmembers : ViewsMembers H na c c')
    (addrs addrs' : List Nat) (hperm : addrs.Perm (L.map (·.2))) (hperm' : addrs'.Perm (L.map (fun q => na q.1))) :
    Iso K cass cass' H hpL (defaultSeeds c) (defaultSeeds c') addrs addrs' (phiOf H na) := by
  have hids : ∀ q ∈ L, xidOf H q.2 = some q.1 := fun q hq => (hL.ids q hq).1
  have haddrs : ∀ b ∈ addrs, ∃ q ∈ L, q.2 = b := by
    intro b hb
    obtain ⟨q, hq, rfl⟩ := List.mem_map.mp (hperm.mem_iff.mp hb)
    exact ⟨q, hq, rfl⟩
  have hslots : ∀ q ∈ L, ∀ n : String, n ≠ "sofa" → ∃ d, ValRel K H hpL (SameKey H hpL addrs (phiOf H na)) d
      ((Traverse.slot H q.2 n).getD .none) ((Traverse.slot hpL (na q.1) n).getD .none) := by
    intro q hq n _
    obtain ⟨o, _, ho, _⟩ := hrel q hq
    rw [hrel.slot hq ho, slot_eq ho]
    cases hv : alistGet? o.slots n with
    | none => exact ⟨0, ⟨_, rfl, rfl⟩⟩
    | some v => exact ⟨1, valRel_exp3 hL hrel haddrs hq ho hv 0⟩
  have hints : ∀ q ∈ L, ∀ n : String, n ≠ "sofa" →
      intOf (Traverse.slot hpL (na q.1) n) = intOf (Traverse.slot H q.2 n) := fun q hq n hn =>
    let ⟨_, hr⟩ := hslots q hq n hn
    intOf_congr (vrof_int (vrof_of_valRel _ _ _ hr))
  have hsofa : ∀ q ∈ L, SofaSame c ci ci' (Traverse.slot H q.2 "sofa") (Traverse.slot hpL (na q.1) "sofa") :=
    fun q hq => heapRel_sofaSame hrel (fun _ _ => rfl) (fun _ => rfl) hq
      (CollFs.sofa_slot (.inl (genFs_of_flatFs (hL.flat q hq))))
  refine ⟨perm_map_phiOf hids hperm hperm', hperm'.nodup_iff.mpr (heapRel_nodup hrel hL.nodup), ?_, ?_, ?_, ?_, ?_, ?_, ?_⟩
  -- every remaining field speaks about a collected `a` and `phiOf H na a`: a pair `q ∈ L` and `na q.1`
  all_goals
    intro a ha
    obtain ⟨q, hq, rfl⟩ := haddrs a ha
    rw [phiOf_of_xid (hids q hq)]
  · exact seed_iff_of hL.ids hmembers hL.members hL.nodup (fun _ hq _ hq' => hrel.na_inj hq hq') q hq
  · exact heapRel_tyOf hrel hq
  · exact heapRel_sameKey hids hrel haddrs hq
  · exact viewTag_of_sofaSame hc hc' hviews (hsofa q hq)
  · exact fun hann => coveredText_of_sofaSame hc hc' hviews hann (hints q hq "begin" (by decide))
      (hints q hq "end" (by decide)) (hsofa q hq)
  · exact hslots q hq
  · exact fun harr => absurd harr (by rw [flat_not_array (hL.flat q hq)]; exact Bool.false_ne_true)

end

open Cassis.Json

theorem viewsSame_of_relJ {H : Heap} {na : Int → Nat} {c c' : Cas} (h : ViewsRelJ H na c.views c'.views) :
    ViewsSame c c' := by
  intro vn v hg
  obtain ⟨v', hv', hr⟩ := viewsRelJ_get _ _ vn v h hg
  have : v'.sofa = v.sofa := hr.2.1
  exact ⟨v', hv', by rw [this], by rw [this]⟩

theorem viewsMembers_of_relJ {H : Heap} {na : Int → Nat} {c c' : Cas} (h : ViewsRelJ H na c.views c'.views) :
    ViewsMembers H na c c' :=
  have m := h.all2.imp_mem fun _ _ _ hr => hr.2.2
  ⟨m.fwd, m.bwd⟩

theorem optFree_of_flat {K : Consts} {ts : TypeSystem} {c : Cas} {ci : Nat} {H : Heap} {a : Nat}
    (hfl : FlatFs K ts c ci H a) {ob : Obj} {t : TypeRec} (hob : H[a]? = some ob) (ht : getType ts ob.ty = .ok t) :
    OptFree K ts t := by
  obtain ⟨o, t0, ho, hfind, g⟩ := flatFs_iff.mp hfl
  cases hob.symm.trans ho
  rw [getType_of_find hfind] at ht; cases ht
  apply optFree_of_feats
  intro f hf
  obtain ⟨_, _, _, _, _, _, _, _, _, _, _, v, _, hcase⟩ := g.feat f hf
  rcases hcase with ⟨hn, _⟩ | ⟨_, hp, _⟩ | ⟨_, _, ha, hl, _⟩
  · exact Or.inl hn
  · exact Or.inr (Or.inl hp)
  · exact Or.inr (Or.inr ⟨ha, hl⟩)

end Cassis.Comparable
