/-
Round trip, glue: what a successful traversal guarantees about the list of collected structures as the writers use it
(`Listed`: sorted by id; any options, no fragment), its reading for flat structures (`lok_of_findAllFs`, concluding `LOk`
of `RoundTripDefs.lean`), what a seed of the default traversal is (`mem_defaultSeeds_iff`), and the successors of a flat
structure.
-/
import CassisModel.Proofs.RoundTripDefs
import CassisModel.Proofs.XmiCodec
import CassisModel.Proofs.Reach

namespace Cassis.Xmi
open Cassis.TS Cassis.Traverse

theorem st_ids_pos {K : Consts} {ts : TypeSystem} {op : Opts} {c : Cas} {hp : Heap} {st : St} (hwf : RTWf c hp)
    (h : findAllFs K ts op hp c.nextXid (defaultSeeds c) = .ok st) (a : Nat) (y : Int)
    (hy : xidOf st.heap a = some y) : 0 < y := by
  have fut := findAllFs_fut K ts op hp c.nextXid _ st h
  cases h0 : xidOf hp a with
  | none =>
    have := fut.fresh a y h0 hy
    have hp' := hwf.next_pos
    omega
  | some y' =>
    have h1 := fut.shape.xidOf h0
    rw [hy] at h1
    cases h1
    obtain ⟨ob, hob, h0⟩ := xidOf_some h0
    exact hwf.ids_pos a ob y hob h0

/-- the list of collected structures of a successful traversal, as the writers use it: sorted by id -/
structure Listed (K : Consts) (ts : TypeSystem) (op : Opts) (hp : Heap) (seeds : List Nat) (st : St) : Prop where
  ids : ∀ q ∈ sortById st.allFs, xidOf st.heap q.2 = some q.1 ∧ q.1 ≠ 0
  nodup : ((sortById st.allFs).map (·.1)).Nodup
  /-- closed under the successors as the traversal computes them, the `cas:NULL` object aside -/
  closed : ∀ q ∈ sortById st.allFs, ∀ b ∈ succsOf K ts op st.heap (hp.length + 1) q.2, xidOf st.heap b ≠ some 0 →
    ∃ x : Int, xidOf st.heap b = some x ∧ (x, b) ∈ sortById st.allFs
  seeds : ∀ a ∈ seeds, xidOf st.heap a ≠ some 0 → ∃ x : Int, (x, a) ∈ sortById st.allFs
  len : st.heap.length = hp.length

theorem listed_of_findAllFs {K : Consts} {ts : TypeSystem} {op : Opts} {hp : Heap} {nx : Int} {seeds : List Nat} {st : St}
    (hpos : 0 < nx) (hfa : findAllFs K ts op hp nx seeds = .ok st) : Listed K ts op hp seeds st := by
  have C := findAllFs_collected hpos hfa
  have back : ∀ b, Acc st b → xidOf st.heap b ≠ some 0 →
      ∃ x : Int, xidOf st.heap b = some x ∧ (x, b) ∈ sortById st.allFs := by
    intro b hb h0
    rcases hb with hb | hb | hb
    · obtain ⟨⟨x, b'⟩, hm, rfl⟩ := List.mem_map.mp hb
      exact ⟨x, (C.link hm).1, mem_sortById.mpr hm⟩
    · rw [C.openl] at hb; cases hb
    · exact absurd hb h0
  refine ⟨fun q hq => C.link (mem_sortById.mp hq),
    ((sortById_perm_aux st.allFs).map (·.1)).nodup_iff.mpr C.inv.nodupK, fun q hq b hb => ?_, fun a ha h0 => ?_,
    C.inv.shape.1⟩
  · rw [succsOf_shape K ts op C.inv.shape] at hb
    exact back b (C.rinv.closed q.1 q.2 (mem_sortById.mp hq) b hb)
  · obtain ⟨x, _, hx⟩ := back a (C.rinv.seedsAcc a ha) h0
    exact ⟨x, hx⟩

theorem mem_defaultSeeds_iff {c : Cas} {a : Nat} :
    a ∈ defaultSeeds c ↔ ∃ nv ∈ c.views, ∃ e ∈ Index.all nv.2.idx, e.oid = a := by
  simp only [defaultSeeds, List.mem_flatMap, List.mem_map]

theorem mem_defaultSeeds {c : Cas} {nv : String × View} {e : Index.Entry} (hnv : nv ∈ c.views)
    (he : e ∈ Index.all nv.2.idx) : e.oid ∈ defaultSeeds c :=
  mem_defaultSeeds_iff.mpr ⟨nv, hnv, e, he, rfl⟩

/-- for any traversal options the successor computation succeeds on a flat structure and pushes, against the empty
    visited map, exactly the targets of its references: a flat feature is never looked through -/
theorem nodeSuccs_flat {K : Consts} {ts : TypeSystem} {op : Opts} {c : Cas} {ci : Nat} {H : Heap} {a : Nat}
    (hfl : FlatFs K ts c ci H a) (lf : Nat) :
    ∃ (o : Obj) (t : TypeRec) (ps : List Nat) (n : Nat), H[a]? = some o ∧ getType ts o.ty = .ok t ∧
      nodeSuccs K ts op H [] lf a t = .ok (ps, n) ∧ ∀ b, b ∈ ps ↔ ∃ n, alistGet? o.slots n = some (.ref b) := by
  obtain ⟨o, t, ho, ht, g⟩ := flatFs_iff.mp hfl
  have hval : ∀ f ∈ allFeatures t, f.name ≠ "sofa" → isPrimitive K ts f.range = false → ∀ v,
      alistGet? o.slots f.name = some v → looksThrough K op f = false ∧ (v = .none ∨ ∃ b, v = .ref b) := by
    intro f hf hn hpr v hv
    obtain ⟨_, _, _, _, _, _, _, _, _, _, _, v', hv', hcase⟩ := g.feat f hf
    cases hv.symm.trans hv'
    rcases hcase with ⟨h, _⟩ | ⟨_, h, _⟩ | ⟨_, _, ha, hl, _, _, _, hval⟩
    · exact absurd h hn
    · rw [hpr] at h; cases h
    · exact ⟨by simp [looksThrough, ha, hl], hval.imp id fun ⟨b, e, _⟩ => ⟨b, e⟩⟩
  have href : ∀ f ∈ allFeatures t, ∀ b, alistGet? o.slots f.name = some (.ref b) →
      f.name ≠ "sofa" ∧ isPrimitive K ts f.range = false := by
    intro f hf b hb
    rcases (g.feat f hf).val_cases hb with h | ⟨_, h⟩ | ⟨_, h⟩ | ⟨_, h⟩ | ⟨_, h⟩ | ⟨_, h⟩ | ⟨_, _, hn, hp, _⟩
    rotate_right
    · exact ⟨hn, hp⟩
    all_goals cases h
  obtain ⟨⟨ps, n⟩, hnode⟩ : ∃ r, nodeSuccs K ts op H [] lf a t = .ok r := by
    refine nodeSuccs_ok_iff.mpr (.inr fun f hf => ?_)
    by_cases hn : f.name = "sofa"
    · exact ⟨_, featureSuccs_skip (.inl hn)⟩
    cases hpr : isPrimitive K ts f.range with
    | true => exact ⟨_, featureSuccs_skip (.inr (.inl hpr))⟩
    | false =>
      refine featureSuccs_ok_of ho (fun v hv => (hval f hf hn hpr v hv).2) (fun cc hv hl => ?_)
      rw [(hval f hf hn hpr _ hv).1] at hl; cases hl
  refine ⟨o, t, ps, n, ho, getType_of_find ht, hnode, fun b => ?_⟩
  rw [mem_nodeSuccs_iff ho hnode]
  constructor
  · rintro (⟨_, f, hf, hs⟩ | ⟨h, _⟩)
    · obtain ⟨hn, hpr, cc, hcc⟩ := hs.slot
      have hlt := (hval f hf hn hpr _ hcc).1
      cases hs with
      | ref _ _ _ hv => exact ⟨_, hv⟩
      | elem _ _ _ _ hl => rw [hlt] at hl; cases hl
      | head _ _ _ _ hl => rw [hlt] at hl; cases hl
    · exact absurd h g.notArrBase
  · rintro ⟨n, hn⟩
    obtain ⟨f, hf, rfl⟩ := g.slot_feature hn
    obtain ⟨h1, h2⟩ := href f hf b hn
    exact .inl ⟨g.notArrBase, f, hf, .ref h1 h2 (hval f hf h1 h2 _ hn).1 hn⟩

theorem succsOf_flat {K : Consts} {ts : TypeSystem} {op : Opts} {c : Cas} {ci : Nat} {H : Heap} {a : Nat} {o : Obj}
    (hfl : FlatFs K ts c ci H a) (ho : H[a]? = some o) (lf : Nat) (b : Nat) :
    b ∈ succsOf K ts op H lf a ↔ ∃ n, alistGet? o.slots n = some (.ref b) := by
  obtain ⟨o', t, ps, n, ho', hty, hnode, hm⟩ := nodeSuccs_flat (op := op) hfl lf
  cases ho.symm.trans ho'
  rw [succsOf_eq K ts op ho hty hnode]
  exact hm b

theorem lok_of_findAllFs {K : Consts} {ts : TypeSystem} {op : Opts} {c : Cas} {ci : Nat} {hp : Heap} {st : St}
    (hwf : RTWf c hp) (hfa : findAllFs K ts op hp c.nextXid (defaultSeeds c) = .ok st)
    (hflat : ∀ q ∈ st.allFs, FlatFs K ts c ci st.heap q.2) :
    LOk K ts c ci st.heap (sortById st.allFs) := by
  have C := listed_of_findAllFs hwf.next_pos hfa
  have hnz : ∀ b, xidOf st.heap b ≠ some 0 := fun b h0 => by
    have := st_ids_pos hwf hfa b 0 h0
    omega
  exact ⟨fun q hq => hflat q (mem_sortById.mp hq), C.ids, C.nodup,
    fun q hq o ho n b hb =>
      C.closed q hq b ((succsOf_flat (hflat q (mem_sortById.mp hq)) ho _ b).mpr ⟨n, hb⟩) (hnz b),
    fun nv hnv e he => C.seeds _ (mem_defaultSeeds hnv he) (hnz _)⟩

end Cassis.Xmi
