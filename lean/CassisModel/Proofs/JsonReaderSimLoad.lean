/-
The reader congruence `loadJson_congr`, last part: deferred references (`fixUps`), indexing (`Cas.add`, `addJMembers`,
`viewsPass`) and the assembly for `loadJson`.
-/
import CassisModel.Proofs.JsonReaderSimPasses
import CassisModel.Proofs.JsonIdsLoad

namespace Cassis.Json
open Cassis.TS

theorem addObj_sim (cas : Nat) (h : Handle) {o o' : Obj} (ho : ObjSim o o') (x : Int) :
    ObjSim (Cas.addObj cas h o x) (Cas.addObj cas h o' x) := by
  obtain ⟨hty, hts, hxid, hperm, hget⟩ := ho
  unfold Cas.addObj
  rw [hget "sofa"]
  refine ⟨hty, hts, rfl, ?_, ?_⟩
  · dsimp only
    split
    · exact (alistSet_sim hperm hget _ _).1
    · exact hperm
  · dsimp only
    split
    · exact (alistSet_sim hperm hget _ _).2
    · exact hget

theorem addCore_sim (cas : Nat) (c : Cas) {hp hp' : Heap} (hh : HeapSim hp hp') (h : Handle) (addr : Nat) (keepId : Bool)
    {o o' : Obj} (ho : ObjSim o o') :
    ESim (fun r r' => r'.1 = r.1 ∧ HeapSim r.2 r'.2) (Cas.addCore cas c hp h addr keepId o) (Cas.addCore cas c hp' h addr keepId o') := by
  unfold Cas.addCore
  rw [ho.1, ho.2.2.1]
  cases Cas.cur c h with
  | error e => exact ESim.err _
  | ok v =>
    dsimp only
    have ho2 := addObj_sim cas h ho (Cas.pickId keepId c o.xid).1
    rw [Cas.entryOf_congr (ho2.2.2.2.2 "begin") (ho2.2.2.2.2 "end") addr]
    cases Cas.entryOf (Cas.addObj cas h o (Cas.pickId keepId c o.xid).1) addr with
    | error e => exact ESim.err _
    | ok e =>
      dsimp only
      split
      · exact ESim.err _
      · exact ESim.ok ⟨rfl, hh.set addr ho2⟩

theorem add_sim {ts ts' : TypeSystem} (ci : Nat) (c : Cas) {hp hp' : Heap} (hh : HeapSim hp hp') (hd : Handle)
    (a : Nat) (keep : Bool) (hg : ∀ n, tyAt hp a = some n → Good ts ts' n) :
    ESim (fun r r' => r'.1 = r.1 ∧ HeapSim r.2 r'.2) (Cas.add ts ci c hp hd a keep) (Cas.add ts' ci c hp' hd a keep) := by
  rw [Cas.add_eq, Cas.add_eq]
  rcases hh.get a with ⟨h1, h2⟩ | ⟨o, o', h1, h2, ho⟩
  · rw [h1, h2]; exact ESim.err _
  · rw [h1, h2]
    dsimp only
    obtain ⟨gt, gt'⟩ := hg o.ty (by unfold tyAt; rw [h1]; rfl)
    rw [ho.1, gt, gt']
    simp only [Bool.not_true, Bool.and_false, Bool.false_eq_true, if_false]
    exact addCore_sim ci c hh hd a keep ho

theorem fixUps_sim (fss : List (Int × Val)) (l : List Deferred) {hp hp' : Heap} (h : HeapSim hp hp') :
    ESim HeapSim (fixUps fss l hp) (fixUps fss l hp') := by
  rw [fixUps_eq, fixUps_eq]
  exact ESim.foldlM l (fun d _ a b hr => setSlot_sim hr d.addr d.slot (fixVal fss d)) h

/-- similar states of the views pass -/
structure VSim (ts ts' : TypeSystem) (fss : List (Int × Val)) (v v' : VState) : Prop where
  cas : v'.cas = v.cas
  heap : HeapSim v.heap v'.heap
  ms : v'.memberSofas = v.memberSofas
  good : ∀ p ∈ fss, ∀ a, p.2 = .ref a → ∃ n, tyAt v.heap a = some n ∧ Good ts ts' n

theorem jWriteBack_sim (own : Option Val) {x y : Heap} (h : HeapSim x y) (a : Nat) :
    ESim HeapSim (jWriteBack own x a) (jWriteBack own y a) := by
  unfold jWriteBack
  split
  · split
    · exact setSlot_sim h a "sofa" _
    · exact ESim.ok h
  · exact ESim.ok h

theorem addJMember1_sim {ts ts' : TypeSystem} (ci : Nat) (hd : Handle) {fss : List (Int × Val)} {v v' : VState} (hv : VSim ts ts' fss v v')
    {m : Int} {a : Nat} (hl : lookup fss m = some (.ref a)) :
    ESim (VSim ts ts' fss) (addJMember1 ts ci hd m a v) (addJMember1 ts' ci hd m a v') := by
  have hown : jOwnOf m a v' = jOwnOf m a v := by unfold jOwnOf; rw [hv.ms, hv.heap.slot a "sofa"]
  obtain ⟨n, hn, hgn⟩ := hv.good (m, .ref a) (lookup_mem hl) a rfl
  unfold addJMember1
  rw [hown, hv.cas]
  refine ESim.cases (add_sim (ts := ts) (ts' := ts') ci v.cas hv.heap hd a true
    (fun n' hn' => by rw [hn] at hn'; cases hn'; exact hgn)) (fun e => ESim.err e) ?_
  rintro ⟨xc, xh⟩ ⟨yc, yh⟩ h1 _ ⟨hc, hx⟩
  dsimp only at hc hx ⊢
  subst hc
  refine ESim.cases (jWriteBack_sim _ hx a) (fun e => ESim.err e)
    (fun z z' h5 _ hz => ESim.ok ⟨rfl, hz, rfl, fun p hp b hb => ?_⟩)
  obtain ⟨n2, h3, h4⟩ := hv.good p hp b hb
  exact ⟨n2, tyAt_of_ksame ((Xmi.add_ksame h1).trans (Ids.jWriteBack_ksame h5)) h3, h4⟩

theorem addJMembers_sim {ts ts' : TypeSystem} (ci : Nat) (hd : Handle) (fss : List (Int × Val)) (ms : List Int) {v v' : VState}
    (hv : VSim ts ts' fss v v') :
    ESim (VSim ts ts' fss) (addJMembers ts ci hd fss ms v) (addJMembers ts' ci hd fss ms v') := by
  rw [addJMembers_eq, addJMembers_eq]
  refine ESim.foldlM ms (fun m _ a b hr => ?_) hv
  unfold memberStep
  cases hl : lookup fss m with
  | none => exact ESim.err _
  | some w =>
    cases w with
    | ref a => exact addJMember1_sim ci hd hr hl
    | _ => exact ESim.err _

theorem viewsPass_sim {ts ts' : TypeSystem} (ci : Nat) (lenient : Bool) (fss : List (Int × Val)) (l : List JView) {v v' : VState}
    (hv : VSim ts ts' fss v v') :
    ESim (VSim ts ts' fss) (viewsPass ts ci lenient fss l v) (viewsPass ts' ci lenient fss l v') := by
  rw [viewsPass_eq, viewsPass_eq]
  refine ESim.foldlM l (fun jv _ a b hr => ?_) hv
  unfold viewStep
  rw [hr.cas]
  exact ESim.bind_same _ fun c => addJMembers_sim ci _ fss jv.members ⟨rfl, hr.heap, hr.ms, hr.good⟩

/-- **the reader depends on the type system only through the types the document names** -/
theorem loadJson_congr_aux (K : Consts) (ts ts' : TypeSystem) (tsIdx ci : Nat) (lenient : Bool) (hp : Heap) (doc : JDoc)
    (hag : ∀ j ∈ doc.fss, TypeAgree ts ts' (fsTypeName j)) :
    LoadSim (loadJson K ts tsIdx ci lenient false hp doc) (loadJson K ts' tsIdx ci lenient false hp doc) := by
  rw [loadJson_eq, loadJson_eq, loadTs_false, loadTs_false]
  dsimp only [Except.bind, Except.map]
  have h0 : RSim ts ts' { cas := Cas.empty, heap := hp } { cas := Cas.empty, heap := hp } :=
    ⟨rfl, HeapSim.refl hp, rfl, rfl, rfl, rfl, fun p hp' => by cases hp'⟩
  refine ESim.cases (sofaPass_sim K tsIdx ci doc.fss hag doc.fss h0) (fun e => rfl) (fun s1 s1' _ _ hr1 => ?_)
  dsimp only
  refine ESim.cases (fsPass_sim K tsIdx doc.fss hag hr1) (fun e => rfl) (fun s s' _ _ hr => ?_)
  dsimp only
  rw [hr.fss, hr.deferred]
  refine ESim.cases (fixUps_sim s.fss s.deferred hr.heap) (fun e => rfl) (fun x y h5 _ hx => ?_)
  dsimp only
  rw [hr.cas, hr.maxId, hr.maxNum]
  exact ESim.cases (viewsPass_sim (ts := ts) (ts' := ts') ci lenient s.fss doc.views
    (v := { cas := { s.cas with nextXid := s.maxId + 1, nextSofaNum := s.maxNum + 1 }, heap := x })
    (v' := { cas := { s.cas with nextXid := s.maxId + 1, nextSofaNum := s.maxNum + 1 }, heap := y })
    ⟨rfl, hx, rfl, fun p hp' a ha => by
      obtain ⟨n, hn1, hn2⟩ := hr.good p hp' a ha
      exact ⟨n, tyAt_of_ksame (Ids.fixUps_ksame h5) hn1, hn2⟩⟩)
    (fun e => rfl) (fun v v' _ _ hv => ⟨hv.cas, hv.heap⟩)

end Cassis.Json
