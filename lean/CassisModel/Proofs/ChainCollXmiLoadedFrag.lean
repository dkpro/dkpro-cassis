/-
C16 with collections, the CAS loaded from XMI: every structure of `SAll` (`ChainCollXmiLoadedSets.lean`) is a structure of
the JSON fragment in the loaded CAS (`JGenFs` / `JArrFs`, `JsonFs`), and `SAll` is closed under the references and FSArray
elements its structures hold (`XLd.sall_j`).  The counterpart of a written structure is in the XMI fragment again, in the
loaded CAS (`CFX.collFs_new`), hence in the JSON one (`XLd.gen_new`, `XLd.main_arr`), and what it refers to are
counterparts (`Loc.target_fwd`); the collection objects its inlined features refer to are read off its own fragment and
their types (`XLd.feat_new`).  The inlined array objects and list nodes themselves, whose written originals no hypothesis
describes: `sarr_j`, `snode_j` (the only place where `CollTypesOk` is used).
-/
import CassisModel.Proofs.ChainCollXmiLoadedSets
import CassisModel.Proofs.RoundTripJsonCollSave
import CassisModel.Spec.ChainCollFrag
import CassisModel.Proofs.RoundTripCollFixpointObj

namespace Cassis.ChainC
open Cassis.TS Cassis.Xmi Cassis.Json

/-- where a reference held by feature `f` of a loaded general structure points -/
def RefKind (K : Consts) (hp : Heap) (L : List (Int × Nat)) (na : Int → Nat) (f : Feature) (b : Nat) : Prop :=
  (isInline K f = false ∧ SMain L na b) ∨ (isInline K f = true ∧ isArray K f.range = true ∧ SArr K hp L na b) ∨
  (isInline K f = true ∧ isArray K f.range = false ∧ SNode hp L na b)

theorem RefKind.sall {K : Consts} {hp : Heap} {L : List (Int × Nat)} {na : Int → Nat} {f : Feature} {b : Nat}
    (h : RefKind K hp L na f b) : SAll K hp L na b := by
  rcases h with ⟨_, h⟩ | ⟨_, _, h⟩ | ⟨_, _, h⟩
  · exact .inl h
  · exact .inr (.inl h)
  · exact .inr (.inr h)

theorem jprim_of_strElems {ev : Val} (h : StrElems ev) : JPrimElems STRING_ARRAY ev := by
  rcases h with h | ⟨l, h⟩
  · exact .inl h
  · exact .inr (.inr (.inr ⟨(plainArrTy_not (.inr (.inr rfl))).1, (plainArrTy_not (.inr (.inr rfl))).2, .inr (.inr ⟨l, h⟩)⟩))

section
variable {K : Consts} {ts : TypeSystem} {c : Cas} {ci : Nat} {H : Heap} {L : List (Int × Nat)} {ci' : Nat}
  {na : Int → Nat} {ia : Int → String → Nat} {ld : Xmi.Loaded} {q : Int × Nat} {o o' : Obj} {t : TypeRec}

/-- where the references held by a feature of a loaded general structure point: read off the fragment of the LOADED
    structure (`CFX.collFs_new`), the targets being counterparts (`Loc.target_fwd`) -/
theorem XLd.feat_new (x : XLd K ts c ci H L ci' na ia ld) (h : Loc K ts c ci H L na ia ci' ld.heap q o o' t)
    {f : Feature} (hf : f ∈ allFeatures t)
    {c' : Cas} {isAnn : Bool} (hcf : CollFeat K ts c' ci' ld.heap isAnn o' f) {b : Nat}
    (hv : alistGet? o'.slots f.name = some (.ref b)) : RefKind K ld.heap L na f b := by
  have ht' : find? ts o'.ty = some t := by rw [h.hty]; exact h.ht
  have tgt : ∀ {b'}, Target K ts ld.heap (na q.1) b' → SMain L na b' := fun hb => h.target_fwd hb
  have refOut : isInline K f = false → RefKind K ld.heap L na f b := fun hni =>
    .inl ⟨hni, tgt ⟨o', t, h.ho', ht', .inl ⟨f, hf, hni, hv⟩⟩⟩
  rcases hcf with hflat | ⟨_, hsh | hin⟩
  · obtain ⟨_, _, _, _, _, _, _, _, _, _, _, v, hv0, hcase⟩ := hflat
    cases hv.symm.trans hv0
    rcases hcase with ⟨_, ⟨vn, e, _⟩ | ⟨e, _⟩⟩ | ⟨_, _, h3⟩ | ⟨_, _, hna, hnl, _⟩
    · cases e
    · cases e
    · rcases h3 with e | ⟨_, i, e⟩ | ⟨_, s, e⟩ | ⟨_, b', e⟩ | ⟨_, t', e⟩ <;> cases e
    · exact refOut (isInline_of_range hna hnl)
  · exact refOut (CT.isInline_shared hsh.1)
  · obtain ⟨hm, v, hv0, hkind⟩ := hin
    cases hv.symm.trans hv0
    have arrCase : ∀ (P : Val → Prop), isArray K f.range = true →
        (PrimArrTy f.range ∨ f.range = STRING_ARRAY ∨ f.range = FS_ARRAY) → InlArr ld.heap P (.ref b) →
        (∀ ev, Xmi.slot ld.heap b "elements" = some ev → P ev → ∀ ob : Obj, ld.heap[b]? = some ob → ob.xid = none →
          ob.ty = f.range → ob.slots = [("elements", ev)] → SArr K ld.heap L na b) → RefKind K ld.heap L na f b := by
      intro P harr hr hia hS
      have hi : isInline K f = true := isInline_eq_true hm (.inl harr)
      rcases hia with e | ⟨cc, ev, e, hev, hP⟩
      · cases e
      · cases e
        rcases (x.typedAt h hf hi hv).1 with ⟨⟨ob, ev', hob, hx, hty, hsl⟩, _⟩ | ⟨k, hk', _⟩
        · rw [Xmi.slot_of hob "elements", hsl, alistGet?_cons_self] at hev
          cases hev
          exact .inr (.inl ⟨hi, harr, hS _ (by rw [Xmi.slot_of hob "elements", hsl, alistGet?_cons_self]) hP ob hob hx hty hsl⟩)
        · exact absurd hk' (primArr_ne_list hr k)
    have listCase : ∀ (P : List Val → Prop) (k : LK), f.range = k.range → isArray K f.range = false →
        isList K f.range = true → isPrimitiveArray K f.range = false → InlList ld.heap P (.ref b) →
        (∀ hs, collectList ld.heap (ld.heap.length + 1) (.ref b) = .ok hs → P hs → ∀ w ∈ hs, HeadGood L na k w) →
        RefKind K ld.heap L na f b := by
      intro P k hr harr hlist hpa hil hgood
      have hi : isInline K f = true := isInline_eq_true hm (.inr hlist)
      rcases hil with e | ⟨cc, hs, e, hcol, hP⟩
      · cases e
      · cases e
        obtain ⟨hT, hlen⟩ := x.typedAt h hf hi hv
        rcases hT with ⟨_, hp1 | hp1⟩ | ⟨k', hk', htl⟩
        · rw [hpa] at hp1; cases hp1
        · rw [hr] at hp1
          exact absurd hp1.symm (primArr_ne_list (.inr (.inr rfl)) k)
        · cases lk_range_inj (hk'.symm.trans hr)
          exact .inr (.inr ⟨hi, harr, k, hs, htl.vlist (collectList_ok hcol).1, hlen hs hcol harr, hgood hs hcol hP⟩)
    rcases hkind with ⟨hr, rk, hia⟩ | ⟨hr, rk, hia⟩ | ⟨hr, rk, hia⟩ | ⟨hr, rk, hil⟩ | ⟨hr, rk, hil⟩ | ⟨hr, rk, hil⟩ |
      ⟨hr, rk, hil⟩
    · refine arrCase _ rk.arr (.inl hr) hia (fun ev _ hP ob hob hx hty hsl => ?_)
      exact ⟨ob, _, hob, hx, hsl, .inr ⟨by rw [hty]; exact (arrTy_ne (.inl hr)).1, .inl (by rw [hty]; exact hr),
        by rw [hty]; exact rk.primArr, by rw [hty]; exact jprimElems_of_primElems _ _ hP⟩⟩
    · refine arrCase _ rk.arr (.inr (.inl hr)) hia (fun ev _ hP ob hob hx hty hsl => ?_)
      exact ⟨ob, _, hob, hx, hsl, .inr ⟨by rw [hty, hr]; simp [STRING_ARRAY, FS_ARRAY], .inr (by rw [hty]; exact hr),
        by rw [hty]; exact rk.primArr, by rw [hty, hr]; exact jprim_of_strElems hP⟩⟩
    · refine arrCase _ rk.arr (.inr (.inr hr)) hia (fun ev hev hP ob hob hx hty hsl => ?_)
      obtain ⟨l, e', _⟩ := hP
      subst e'
      have hi : isInline K f = true := isInline_eq_true hm (.inl rk.arr)
      refine ⟨ob, _, hob, hx, hsl, .inl ⟨by rw [hty]; exact hr, by rw [← hr]; exact rk.primArr, _, rfl, fun r hr' => ?_⟩⟩
      obtain ⟨b', hb', rfl⟩ := List.mem_map.mp hr'
      obtain ⟨q', hq', e⟩ := tgt (b' := b') ⟨o', t, h.ho', ht', .inr (.inl ⟨f, hf, hi, hr, b, l.map some, hv, hev,
        List.mem_map_of_mem hb'⟩)⟩
      exact ⟨q', hq', by rw [e]⟩
    · exact listCase _ .int hr rk.arr rk.list rk.primArr hil (fun hs _ hP w hw => hP w hw)
    · exact listCase _ .flt hr rk.arr rk.list rk.primArr hil (fun hs _ hP w hw => (hP w hw).imp fun _ h => h.1)
    · exact listCase _ .str hr rk.arr rk.list rk.primArr hil (fun hs _ hP w hw => hP.2 w hw)
    · refine listCase _ .fs hr rk.arr rk.list rk.primArr hil (fun hs hcol hP w hw => ?_)
      obtain ⟨b', rfl, _⟩ := hP w hw
      have hi : isInline K f = true := isInline_eq_true hm (.inr rk.list)
      obtain ⟨q', hq', e⟩ := tgt (b' := b') ⟨o', t, h.ho', ht', .inr (.inr (.inl ⟨f, hf, hi, hr, b, hs, hv, hcol, hw⟩))⟩
      exact ⟨q', hq', by rw [e]⟩

end

theorem elemsExp_ne_none (H : Heap) (na : Int → Nat) {ev : Val} (h : isListV ev = true) : elemsExp H na ev ≠ .none := by
  cases ev with
  | refs l => nofun
  | ints l | bools l | floats l | strs l => simp only [elemsExp]; split <;> nofun
  | _ => cases h

/-- an object of an array type with `elements` as the JSON fragment wants them; `R` is where the elements of an
    FSArray point -/
def ArrShape (K : Consts) (R : Nat → Prop) (o : Obj) (ev : Val) : Prop :=
  (o.ty = FS_ARRAY ∧ isPrimitiveArray K FS_ARRAY = false ∧ ∃ l : List (Option Nat), ev = .refs l ∧ ∀ b, some b ∈ l → R b)
  ∨ (o.ty ≠ FS_ARRAY ∧ (PrimArrTy o.ty ∨ o.ty = STRING_ARRAY) ∧ isPrimitiveArray K o.ty = true ∧ JPrimElems o.ty ev)

theorem arrTy_names {n : String} (h : PrimArrTy n ∨ n = STRING_ARRAY ∨ n = FS_ARRAY) :
    n ≠ SOFA ∧ n.endsWith "[]" = false := by
  rcases h with ((h | h | h) | h | h | (h | h)) | h | h <;> subst h <;>
    exact ⟨by simp [SOFA, STRING_ARRAY, FS_ARRAY], by decide +kernel⟩

/-- the feature names of the built-in collection types can be carried by the JSON format, and none of them is special -/
theorem collFeat_names {n : String} (h : n = "elements" ∨ n = "head" ∨ n = "tail") :
    (n.startsWith "@" = false ∧ n.startsWith "#" = false ∧ n.startsWith "%" = false ∧ ¬ (n = "begin" ∨ n = "end")) ∧
    n ≠ "sofa" ∧ n ≠ "xmiID" ∧ n ≠ "type" ∧ n ≠ "self" ∧ n ≠ ID := by
  rcases h with h | h | h <;> subst h <;>
    exact ⟨⟨by decide +kernel, by decide +kernel, by decide +kernel, by simp⟩, by simp [ID]⟩

theorem jarr_of_shape {K : Consts} {ts : TypeSystem} {hp : Heap} {a : Nat} {o : Obj} {ev : Val} {R : Nat → Prop}
    (ho : hp[a]? = some o) (hsl : o.slots = [("elements", ev)]) (hs : ArrShape K R o ev)
    {t : TypeRec} {f : Feature} (ht : find? ts o.ty = some t) (htn : t.name = o.ty) (hsup : t.super = some ARRAY_BASE)
    (hall : allFeatures t = [f]) (hfn : f.name = "elements") (hres : f.reserved = false)
    (hann : isInstanceOf ts o.ty ANNOTATION = false) :
    JArrFs K ts hp a ∧ JsonFs ts hp a := by
  have hname : PrimArrTy o.ty ∨ o.ty = STRING_ARRAY ∨ o.ty = FS_ARRAY := by
    rcases hs with ⟨h, _⟩ | ⟨_, h | h, _⟩
    · exact .inr (.inr h)
    · exact .inl h
    · exact .inr (.inl h)
  refine ⟨⟨o, t, f, ev, ho, ht, htn, hsup, hall, hfn, hres, hsl, hann, (arrTy_names hname).1, ?_⟩, ?_⟩
  · rcases hs with ⟨h1, h2, l, h3, _⟩ | ⟨h1, _, h3, h4⟩
    · exact .inl ⟨h1, h2, l, h3⟩
    · exact .inr ⟨h1, h3, h4⟩
  · intro o' t' ho' ht'
    rw [ho] at ho'; cases ho'
    rw [ht] at ht'; cases ht'
    refine ⟨(arrTy_names hname).2, fun g hg => ?_⟩
    rw [hall] at hg
    rw [List.mem_singleton.mp hg]
    obtain ⟨⟨n1, n2, n3, n4⟩, _⟩ := collFeat_names (.inl hfn)
    exact ⟨n1, n2, n3, fun h => absurd h n4⟩

theorem sarr_j {K : Consts} {ts : TypeSystem} {hp : Heap} {L : List (Int × Nat)} {na : Int → Nat} {a : Nat}
    (htys : CollTypesOk K ts) (h : SArr K hp L na a) :
    JArrFs K ts hp a ∧ JsonFs ts hp a ∧
    ∀ o, hp[a]? = some o → (∀ n b, alistGet? o.slots n ≠ some (.ref b)) ∧
      ∀ l, alistGet? o.slots "elements" = some (.refs l) → ∀ b, some b ∈ l → SMain L na b := by
  obtain ⟨o, ev, ho, _, hsl, hk⟩ := h
  have hshape : ArrShape K (SMain L na) o ev := by
    rcases hk with ⟨h1, h2, l, h3, h4⟩ | h
    · refine .inl ⟨h1, h2, l, h3, fun b hb => ?_⟩
      obtain ⟨q, hq, e⟩ := h4 _ hb
      cases e
      exact ⟨q, hq, rfl⟩
    · exact .inr h
  have hname : PrimArrTy o.ty ∨ o.ty = STRING_ARRAY ∨ o.ty = FS_ARRAY := by
    rcases hk with ⟨h, _⟩ | ⟨_, h | h, _⟩
    · exact .inr (.inr h)
    · exact .inl h
    · exact .inr (.inl h)
  obtain ⟨t, f, ht, htn, hsup, hall, hfn, hres, hann⟩ := htys.arr o.ty hname
  obtain ⟨j1, j2⟩ := jarr_of_shape ho hsl hshape ht htn hsup hall hfn hres hann
  refine ⟨j1, j2, fun o' ho' => ?_⟩
  rw [ho] at ho'; cases ho'
  refine ⟨fun n b hb => ?_, fun l hl b hb => ?_⟩
  · rw [hsl] at hb
    obtain ⟨_, e⟩ := alistGet?_single hb
    subst e
    rcases hk with ⟨_, _, l, e, _⟩ | ⟨_, _, _, hp_⟩
    · cases e
    · rcases hp_ with e | ⟨_, l, e⟩ | ⟨_, l, e⟩ | ⟨_, _, ⟨l, e⟩ | ⟨l, e⟩ | ⟨l, e⟩⟩ <;> cases e
  · rw [hsl, alistGet?_cons_self] at hl
    cases hl
    rcases hshape with ⟨_, _, l', e, hR⟩ | ⟨_, _, _, hp_⟩
    · cases e
      exact hR b hb
    · rcases hp_ with e | ⟨_, l', e⟩ | ⟨_, l', e⟩ | ⟨_, _, ⟨l', e⟩ | ⟨l', e⟩ | ⟨l', e⟩⟩
      · cases e; cases hb
      all_goals cases e

/-- the kind of the `head` feature of the node type of a list kind -/
def headOk (K : Consts) (ts : TypeSystem) : LK → Feature → Prop
  | .fs => fun f => RefRange K ts f ∧ isInline K f = false
  | .int => fun f => isPrimitive K ts f.range = true ∧ isIntRange f.range = true
  | .flt => fun f => isPrimitive K ts f.range = true ∧ (f.range = "uima.cas.Float" ∨ f.range = "uima.cas.Double")
  | .str => fun f => isPrimitive K ts f.range = true ∧ f.range = "uima.cas.String"

theorem _root_.Cassis.Json.CollTypesOk.empty {K : Consts} {ts : TypeSystem} (h : CollTypesOk K ts) (k : LK) : NodeTyOk K ts k.emptyT [] := by
  cases k
  · exact h.emptyFs
  · exact h.emptyInt
  · exact h.emptyFlt
  · exact h.emptyStr

theorem _root_.Cassis.Json.CollTypesOk.ne {K : Consts} {ts : TypeSystem} (h : CollTypesOk K ts) (k : LK) :
    NeNodeOk K ts k.neT (headOk K ts k) := by
  cases k
  · exact h.neFs
  · exact h.neInt
  · exact h.neFlt
  · exact h.neStr

theorem nodeTy_names (k : LK) :
    (k.emptyT ≠ FS_ARRAY ∧ k.emptyT ≠ SOFA ∧ k.emptyT ≠ VIEW_T ∧ k.emptyT.endsWith "[]" = false) ∧
    (k.neT ≠ FS_ARRAY ∧ k.neT ≠ SOFA ∧ k.neT ≠ VIEW_T ∧ k.neT.endsWith "[]" = false) := by
  cases k <;> refine ⟨⟨?_, ?_, ?_, by decide +kernel⟩, ⟨?_, ?_, ?_, by decide +kernel⟩⟩ <;>
    simp [LK.emptyT, LK.neT, FS_ARRAY, SOFA, VIEW_T]

theorem snode_j {K : Consts} {ts : TypeSystem} {hp : Heap} {L : List (Int × Nat)} {na : Int → Nat} {a : Nat}
    (htys : CollTypesOk K ts) (c' : Cas) (ci' : Nat) (h : SNode hp L na a) :
    JGenFs K ts c' ci' hp a ∧ JsonFs ts hp a ∧
    ∀ o, hp[a]? = some o → (∀ n b, alistGet? o.slots n = some (.ref b) → SMain L na b ∨ SNode hp L na b) ∧
      ∀ l, alistGet? o.slots "elements" ≠ some (.refs l) := by
  obtain ⟨k, vs, hv, hlen, hgood⟩ := h
  obtain ⟨⟨e1, e2, e3, e4⟩, ⟨n1, n2, n3, n4⟩⟩ := nodeTy_names k
  cases hv with
  | @nil _ o g1 g2 g3 g4 =>
    obtain ⟨t, ht, htn, hall, s1, s2, s3, s4, s5, s6⟩ := htys.empty k
    rw [← g3] at ht htn s1 s2 s4 s5 s6 e1 e2 e3 e4
    refine ⟨⟨o, t, g1, ht, htn, s1, s2, s3, s4, e1, s5, e2, e3, ?_, ?_, ?_, ?_⟩, ?_, ?_⟩
    · unfold ctorFields; rw [hall]; exact List.nodup_nil
    · unfold ctorFields; rw [hall, g4]; rfl
    · intro f hf; rw [hall] at hf; cases hf
    · intro hA; rw [s6] at hA; cases hA
    · intro o' t' ho' ht'
      rw [g1] at ho'; cases ho'
      rw [ht] at ht'; cases ht'
      exact ⟨e4, fun f hf => by rw [hall] at hf; cases hf⟩
    · intro o' ho'
      rw [g1] at ho'; cases ho'
      rw [g4]
      exact ⟨fun n b hb => (by cases hb), fun l hl => (by cases hl)⟩
  | @cons _ o v a' vs' g1 g2 g3 g4 g5 =>
    obtain ⟨fh, ft, ⟨t, ht, htn, hall, s1, s2, s3, s4, s5, s6⟩, hfh, hft, rh, rt, hph, hpt⟩ := htys.ne k
    rw [← g3] at ht htn s1 s2 s4 s5 s6 n1 n2 n3 n4
    have hvgood : HeadGood L na k v := hgood v List.mem_cons_self
    have hlen' : vs'.length < hp.length := by simp only [List.length_cons] at hlen; omega
    have htail : SNode hp L na a' := ⟨k, vs', g5, hlen', fun w hw => hgood w (List.mem_cons_of_mem _ hw)⟩
    obtain ⟨⟨jh1, jh2, jh3, jh4⟩, hns, hh1, hh2, hh3, hh4⟩ := collFeat_names (n := fh.name) (.inr (.inl hfh))
    obtain ⟨⟨jt1, jt2, jt3, jt4⟩, hnst, ht1, ht2, ht3, ht4⟩ := collFeat_names (n := ft.name) (.inr (.inr hft))
    refine ⟨⟨o, t, g1, ht, htn, s1, s2, s3, s4, n1, s5, n2, n3, ?_, ?_, ?_, ?_⟩, ?_, ?_⟩
    · unfold ctorFields; rw [hall]
      simp [hfh, hft]
    · unfold ctorFields; rw [hall, g4]
      simp only [List.map_cons, List.map_nil, hfh, hft]
      decide +kernel
    · intro f hf
      rw [hall] at hf
      rcases List.mem_cons.mp hf with rfl | hf
      · refine ⟨.inl rh, hh1, hh2, hh3, hh4, v, by rw [hfh, g4, alistGet?_cons_self], ?_⟩
        cases k with
        | fs =>
          obtain ⟨q, _, rfl⟩ := hvgood
          obtain ⟨⟨p1, p2, p3, p4⟩, hni⟩ := hph
          exact .inr (.inr ⟨hns, p1, p2, p3, p4, .inr ⟨_, rfl, fun hi => by rw [hni] at hi; cases hi⟩⟩)
        | int =>
          obtain ⟨i, rfl⟩ := hvgood
          exact .inr (.inl ⟨hns, hph.1, .inr (.inl ⟨hph.2, i, rfl⟩)⟩)
        | flt =>
          obtain ⟨t', rfl⟩ := hvgood
          exact .inr (.inl ⟨hns, hph.1, .inr (.inr (.inr (.inr ⟨hph.2, t', rfl⟩)))⟩)
        | str =>
          rcases hvgood with rfl | ⟨s, rfl⟩
          · exact .inr (.inl ⟨hns, hph.1, .inl rfl⟩)
          · exact .inr (.inl ⟨hns, hph.1, .inr (.inr (.inl ⟨hph.2, s, rfl⟩))⟩)
      · rw [List.mem_singleton] at hf
        subst hf
        obtain ⟨p1, p2, p3, p4⟩ := hpt
        refine ⟨.inl rt, ht1, ht2, ht3, ht4, .ref a', by rw [hft, g4, get_tail], ?_⟩
        exact .inr (.inr ⟨hnst, p1, p2, p3, p4, .inr ⟨a', rfl, fun _ _ =>
          ⟨vs', collectList_spine g5.listAt.spine _ (by omega)⟩⟩⟩)
    · intro hA; rw [s6] at hA; cases hA
    · intro o' t' ho' ht'
      rw [g1] at ho'; cases ho'
      rw [ht] at ht'; cases ht'
      refine ⟨n4, fun f hf => ?_⟩
      rw [hall] at hf
      rcases List.mem_cons.mp hf with rfl | hf
      · exact ⟨jh1, jh2, jh3, fun h => absurd h jh4⟩
      · rw [List.mem_singleton] at hf
        subst hf
        exact ⟨jt1, jt2, jt3, fun h => absurd h jt4⟩
    · intro o' ho'
      rw [g1] at ho'; cases ho'
      rw [g4]
      refine ⟨fun n b hb => ?_, fun l hl => ?_⟩
      · unfold alistGet? at hb
        split at hb
        · cases hb
          cases k with
          | fs => obtain ⟨q, hq, e⟩ := hvgood; cases e; exact .inl ⟨q, hq, rfl⟩
          | int => obtain ⟨i, e⟩ := hvgood; cases e
          | flt => obtain ⟨i, e⟩ := hvgood; cases e
          | str => rcases hvgood with e | ⟨s, e⟩ <;> cases e
        · unfold alistGet? at hb
          split at hb
          · cases hb; exact .inr htail
          · cases hb
      · simp [alistGet?] at hl

section
variable {K : Consts} {ts : TypeSystem} {c : Cas} {ci : Nat} {H : Heap} {L : List (Int × Nat)} {ci' : Nat}
  {na : Int → Nat} {ia : Int → String → Nat} {ld : Xmi.Loaded}

/-- a written general structure is loaded as a general structure of the XMI fragment (`CFX.collFs_new`), hence of the
    JSON fragment -/
theorem XLd.gen_new (x : XLd K ts c ci H L ci' na ia ld) {q : Int × Nat} (hq : q ∈ L) (hg : GenFs K ts c ci H q.2) :
    ∃ (o o' : Obj) (t : TypeRec), Loc K ts c ci H L na ia ci' ld.heap q o o' t ∧
      JGenFs K ts ld.cas ci' ld.heap (na q.1) ∧ o'.slots.map (·.1) = (ctorFields t).eraseDups ∧
      ∀ f ∈ allFeatures t, CollFeat K ts ld.cas ci' ld.heap (isInstanceOf ts o'.ty ANNOTATION) o' f := by
  obtain ⟨o, o', t, h⟩ := x.loc hq
  have ht' : find? ts o'.ty = some t := h.hty ▸ h.ht
  rcases Xmi.CFX.collFs_new (c' := ld.cas) (ci' := ci') x.lok x.rel x.colls x.views hq with hg' | hA'
  · have g := hg'.at h.ho' ht'
    exact ⟨o, o', t, h, jgenFs_of_genFs _ _ _ _ _ _ hg', g.keys, g.feat⟩
  · -- the loaded object has the type of the written one, which is not an array type
    obtain ⟨t2, _, _, ht2, g⟩ := hA'.at h.ho'
    cases ht'.symm.trans ht2
    exact absurd g.arrBase (hg.at h.ho h.ht).notArrBase

theorem XLd.main_gen (x : XLd K ts c ci H L ci' na ia ld) {q : Int × Nat} (hq : q ∈ L) (hg : GenFs K ts c ci H q.2) :
    JGenFs K ts ld.cas ci' ld.heap (na q.1) ∧
    ∀ o', ld.heap[na q.1]? = some o' → (∀ n b, alistGet? o'.slots n = some (.ref b) → SAll K ld.heap L na b) ∧
      ∀ l, alistGet? o'.slots "elements" ≠ some (.refs l) := by
  obtain ⟨o, o', t, h, hjg, hsl, hfeat⟩ := x.gen_new (ci' := ci') hq hg
  refine ⟨hjg, fun o3 ho3 => ?_⟩
  rw [h.ho'] at ho3; cases ho3
  refine ⟨fun n b hb => ?_, fun l hl => jgen_no_refs hjg h.ho' hl⟩
  obtain ⟨f, hf, rfl⟩ := slot_feature_of_keys hsl hb
  exact (x.feat_new h hf (hfeat f hf) hb).sall

theorem XLd.main_arr (x : XLd K ts c ci H L ci' na ia ld) {q : Int × Nat} (hq : q ∈ L) (ha : ArrFs K ts H q.2)
    (he : ArrElemsSome H q.2) :
    JArrFs K ts ld.heap (na q.1) ∧
    ∀ o', ld.heap[na q.1]? = some o' → (∀ n b, alistGet? o'.slots n ≠ some (.ref b)) ∧
      ∀ l, alistGet? o'.slots "elements" = some (.refs l) → ∀ b, some b ∈ l → SMain L na b := by
  obtain ⟨o, o', t, h⟩ := x.loc hq
  obtain ⟨t1, f, ev, ht1, g⟩ := ha.at h.ho
  cases h.ht.symm.trans ht1
  -- J1 is inherited: the reader makes a list of a list
  have he' : ArrElemsSome ld.heap (na q.1) := by
    intro o2 ho2 hsl2
    rw [h.ho'] at ho2; cases ho2
    have hev : ev ≠ .none := fun e => he o h.ho (by rw [g.slots, e])
    have hlist : isListV ev = true := by
      rcases g.kind with ⟨_, _, _, e | ⟨l, e, _⟩⟩ | ⟨_, _, e | ⟨l, e⟩⟩ | ⟨_, _, _, e | e⟩
      · exact absurd e hev
      · rw [e]; rfl
      · rw [e]; rfl
      · rw [e]; rfl
      · exact absurd e hev
      · rcases e with e | ⟨_, l, e⟩ | ⟨_, l, e, _⟩ | ⟨_, l, e⟩ | ⟨_, l, e, _⟩ <;> (rw [e]; rfl)
    have := h.hslots "elements" ev (by rw [g.slots, alistGet?_cons_self])
    rw [hsl2, alistGet?_cons_self, E3c_list hlist] at this
    exact elemsExp_ne_none H na hlist (Option.some.inj this).symm
  rcases Xmi.CFX.collFs_new (c' := ld.cas) (ci' := ci') x.lok x.rel x.colls x.views hq with hg' | hA'
  · exact absurd g.arrBase (hg'.at h.ho' (h.hty ▸ h.ht)).notArrBase
  · have j1 := jarrFs_of_arrFs K ts ld.heap (na q.1) hA' he'
    refine ⟨j1, fun o2 ho2 => ?_⟩
    rw [h.ho'] at ho2; cases ho2
    refine ⟨fun n b hb => jarr_no_ref j1 h.ho' hb, fun l hl b hb => ?_⟩
    obtain ⟨t3, f3, ev3, _, g3⟩ := j1.at h.ho'
    rcases g3.kind with ⟨hfs, _⟩ | ⟨_, _, hp_⟩
    · exact h.target_fwd ⟨o', t, h.ho', by rw [h.hty]; exact h.ht, .inr (.inr (.inr ⟨hfs, l, hl, hb⟩))⟩
    · exfalso
      rw [g3.slots, alistGet?_cons_self] at hl
      cases hl
      rcases hp_ with e | ⟨_, l', e⟩ | ⟨_, l', e⟩ | ⟨_, _, ⟨l', e⟩ | ⟨l', e⟩ | ⟨l', e⟩⟩
      · cases e; cases hb
      all_goals cases e

theorem XLd.main_json (x : XLd K ts c ci H L ci' na ia ld) {q : Int × Nat} (hq : q ∈ L) (hj : JsonFs ts H q.2) :
    JsonFs ts ld.heap (na q.1) := by
  intro o' t ho' ht
  obtain ⟨o, o2, ho, ho2, hor⟩ := x.rel q hq
  rw [ho'] at ho2; cases ho2
  rw [hor.1] at ht ⊢
  exact hj o t ho ht

theorem XLd.sall_j (x : XLd K ts c ci H L ci' na ia ld) (htys : CollTypesOk K ts)
    (hjson : ∀ q ∈ L, JsonFs ts H q.2) (harr : ∀ q ∈ L, ArrElemsSome H q.2) {a : Nat}
    (ha : SAll K ld.heap L na a) :
    JCollFs K ts ld.cas ci' ld.heap a ∧
    ∀ o, ld.heap[a]? = some o → (∀ n b, alistGet? o.slots n = some (.ref b) → SAll K ld.heap L na b) ∧
      ∀ l, alistGet? o.slots "elements" = some (.refs l) → ∀ b, some b ∈ l → SAll K ld.heap L na b := by
  rcases ha with ⟨q, hq, rfl⟩ | ha | ha
  · rcases x.lok.coll q hq with hg | hA
    · obtain ⟨j1, j2⟩ := x.main_gen hq hg
      refine ⟨⟨.inl j1, x.main_json hq (hjson q hq)⟩, fun o ho => ⟨(j2 o ho).1, fun l hl => ?_⟩⟩
      exact absurd hl ((j2 o ho).2 l)
    · obtain ⟨j1, j2⟩ := x.main_arr hq hA (harr q hq)
      refine ⟨⟨.inr j1, x.main_json hq (hjson q hq)⟩, fun o ho => ⟨fun n b hb => ?_,
        fun l hl b hb => .inl ((j2 o ho).2 l hl b hb)⟩⟩
      exact absurd hb ((j2 o ho).1 n b)
  · obtain ⟨j1, j2, j3⟩ := sarr_j htys ha
    refine ⟨⟨.inr j1, j2⟩, fun o ho => ⟨fun n b hb => ?_, fun l hl b hb => .inl ((j3 o ho).2 l hl b hb)⟩⟩
    exact absurd hb ((j3 o ho).1 n b)
  · obtain ⟨j1, j2, j3⟩ := snode_j htys ld.cas ci' ha
    refine ⟨⟨.inl j1, j2⟩, fun o ho => ⟨fun n b hb => ?_, fun l hl => ?_⟩⟩
    · rcases (j3 o ho).1 n b hb with h | h
      · exact .inl h
      · exact .inr (.inr h)
    · exact absurd hl ((j3 o ho).2 l)

end

end Cassis.ChainC
