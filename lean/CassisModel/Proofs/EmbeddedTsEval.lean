/-
What the JSON reader builds from a `%TYPES` section, in a form the kernel evaluates: `featStep` / `featsStep` with the
structurally recursive `createFeatureS`, the merge through `mergeDeclsG pushS` (the kernel does not unfold the
well-founded recursions of `pushInherited` and `Array.qsort`).  `loadTs_afterMerge` packs this up for any `%TYPES`
section whose topological order is known.
-/
import CassisModel.Proofs.EmbeddedTsReplay
import CassisModel.Proofs.JsonDecEq

namespace Cassis.Json
open Cassis.TS

/-- `featStep` / `featsStep` (`Proofs/EmbeddedTsReplay.lean`) with the structurally recursive `createFeatureS` -/
def featStepS (K : Consts) (dom : String) (ts : TypeSystem) (jf : JFeat) : Except Err TypeSystem :=
  let isArr := jf.range.endsWith "[]"
  let elemT := if isArr then some (String.ofList (jf.range.toList.dropLast.dropLast)) else jf.elem
  let rangeT := if isArr then arrayTypeNameFor ((elemT.getD "")) else jf.range
  let elemT := if isArr && isPrimitiveArray K rangeT then none else elemT
  createFeatureS ts dom jf.name rangeT elemT jf.descr jf.multi

def featsStepS (K : Consts) (ts : TypeSystem) (jt : JType) : Except Err TypeSystem := do
  let t ← getType ts jt.name
  jt.feats.foldlM (featStepS K t.name) ts

theorem featsStep_eq_S (K : Consts) : featsStep K = featsStepS K := by
  funext ts jt
  unfold featsStep featsStepS
  have : ∀ dom, featStep K dom = featStepS K dom := by
    intro dom
    funext ts jf
    unfold featStep featStepS
    simp only [createFeature_eq_S]
  simp only [this]

/-- a test `P` of the type system the reader arrives at, as a function of the embedded type system
    (about variables throughout: with closed type systems in it the kernel would evaluate them while it checks the
    proof of `loadTs_afterMerge`) -/
def afterMerge (K : Consts) (base : TypeSystem) (P : TypeSystem → Bool) (emb? : Except Err TypeSystem) : Bool :=
  match emb? with
  | .error _ => true
  | .ok emb =>
    match mergeDeclsG pushS K base ([base, emb].flatMap (declsOf K)) with
    | .error _ => true
    | .ok ts' => P ts'

/-- whatever the reader builds from a document whose `%TYPES` section is `types` passes the test `P`, if the type
    system built along the topological order `order` does -/
theorem loadTs_afterMerge (K : Consts) (types : List JType) (order : List String) (P : TypeSystem → Bool)
    (hnd : types.any (fun t => t.name == "DocumentAnnotation") = false)
    (hnp : ∀ jt ∈ types, ∀ jf ∈ jt.feats, jf.name.startsWith "%" = false)
    (ho : toposort types = .ok order)
    (hk : afterMerge K Gen.builtinTS P (do
        let ts1 ← order.foldlM (typeStep K types) Gen.builtinTS
        types.foldlM (featsStepS K) ts1) = true)
    (doc : JDoc) (hdoc : doc.types = some types) (ts' : TypeSystem)
    (h : loadTs K Gen.builtinTS true doc = .ok ts') : P ts' = true := by
  unfold loadTs at h
  simp only [hdoc, if_true] at h
  cases hemb : loadEmbeddedTs K types with
  | error e => rw [hemb] at h; cases h
  | ok emb =>
    rw [hemb] at h
    simp only [merge, mergeDecls_eq_S] at h
    rw [loadEmbeddedTs_eq _ _ hnd hnp, ho, featsStep_eq_S] at hemb
    have hemb' : (do
        let ts1 ← order.foldlM (typeStep K types) Gen.builtinTS
        types.foldlM (featsStepS K) ts1) = .ok emb := hemb
    rw [hemb'] at hk
    simpa only [afterMerge, h] using hk

end Cassis.Json
