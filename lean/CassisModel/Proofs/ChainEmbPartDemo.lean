/-
Non-vacuity of `chain_json_xmi_minimal_coll` (`Properties/C16ChainEmbedded2.lean`) on an instance where the rebuilt type
system is STRICTLY a part of the original: `PartDemo` (`Proofs/InstancesEmb.lean`) = the type system of `EmbDemo` with
collections plus two types the CAS does not use (`x.U < Annotation` with a shared `FSArray<x.U>` feature and an Integer
feature, `x.V < x.U`); same CAS, same heap.  The type system rebuilt from the MINIMAL document does not register `x.U` / `x.V` (evaluated, `#guard`), the
tests of the hypotheses answer `true` (kernel).
-/
import CassisModel.Proofs.ChainEmbDemo

namespace Cassis.Json.PartDemo
open Cassis.TS Cassis.Json.EmbDemo

theorem ts_eq : ops.foldl (applyOp Gen.consts) Gen.builtinTS = ts := by unfold ts; rw [applyOp_eq_S]

theorem userOnly : UserOnly Gen.consts ops := (histOkB_sound _ _ partDemo_evals.hist).1

theorem noDoc : ∀ op ∈ ops, match op with
    | .createFeature dom _ _ _ _ _ => dom ≠ DOCUMENT_ANNOTATION
    | .createType _ _ _ => True :=
  (histOkB_sound _ _ partDemo_evals.hist).2

theorem writable : Writable Gen.consts ts := partDemo_evals.writable
theorem noPct : NoPercentNames ts := partDemo_evals.noPct
theorem flagCoherent : Cassis.ChainE.FlagCoherent Gen.consts ts := partDemo_evals.flagCoherent

/-- the test of `chain_json_xmi_coll` applies to the instance -/
theorem chainJX_applies : chainJXAppliesB Gen.consts ts [cas] 0 hpC = true := partDemo_evals.chainJX

/-- the type system rebuilt from the MINIMAL document -/
def rebuiltMin : Except Err TypeSystem := do
  let (d, _) ← saveJson Gen.consts ts [cas] 0 hpC .minimal
  loadTs Gen.consts Gen.builtinTS true d

-- the original registers `x.U` and `x.V`, the rebuilt type system registers neither (but `x.A`, `x.B`, `x.C`): it has
-- two types less (evaluated)
#guard hasExact ts "x.U" && hasExact ts "x.V" &&
    (match rebuiltMin with
      | .ok t => !hasExact t "x.U" && !hasExact t "x.V" && hasExact t "x.A" && hasExact t "x.B" && hasExact t "x.C" &&
          decide (t.types.length + 2 = ts.types.length)
      | .error _ => false)

end Cassis.Json.PartDemo
