/-
C17 — Lenient loading drops exactly the unknown-typed FS; strict loading refuses.

Proved about the first pass of the XMI reader (`Model/Xmi.lean`, `pass1`), where leniency acts:
strict mode raises type-not-found at the first element of unknown type; lenient mode behaves on a document
exactly as (lenient or strict) mode behaves on the document without the elements of unknown type, except
that it remembers their ids (used later to skip view members); when every type is known the two modes
coincide.  Leniency of view handles is `handles_history` of C08.
The third pass skips exactly the remembered ids (`buildCas_skip_eq_dropped`), the flag itself is irrelevant for
structures of registered types (`buildCas_flag_irrelevant`), and end to end a lenient load of a document is the
strict load of the document without the unknown-typed elements and without their ids in the member lists
(`loadXmi_lenient_eq_strict_filtered`).

"Known" is exact: the reader resolves the type an element names with `get_type(name, match_exactly=True)`
(`getTypeExact`), so a name without namespace that merely matches the short name of a packaged type is unknown (finding L1,
the entry `fixed: property=C17` of `known_findings.json`: under `get_type(name)` such an element is loaded as an instance of
the packaged type — strict loading does not refuse it, lenient loading does not drop it).  Evaluated instance:
`Spec/ExactTypeCheck.lean`, which nothing here uses; the import below puts it into the build.
-/
import CassisModel.Proofs.XmiLoadInvariance
import CassisModel.Spec.ExactTypeCheck   -- evaluated instance: `Token` against a type system with `b.type.Token` only

namespace Cassis.Xmi
open Cassis.TS

/-- strict loading refuses: if the first pass succeeds in strict mode, every element has a known type -/
theorem pass1_strict_all_known (K : Consts) (ts : TypeSystem) (tsIdx : Nat) (doc : XDoc) (s r : Pass1)
    (h : pass1 K ts tsIdx false doc s = .ok r) : ∀ e ∈ doc, knownElem ts e = true := by
  induction doc generalizing s with
  | nil => intro e he; cases he
  | cons e es ih =>
    rw [pass1_cons] at h
    cases hk : knownElem ts e with
    | false =>
      rw [step1_unknown K ts tsIdx false e s hk] at h
      cases h
    | true =>
      cases hs : step1 K ts tsIdx false e s with
      | error err => rw [hs] at h; cases h
      | ok s1 =>
        rw [hs] at h
        intro e' he'
        cases he' with
        | head => exact hk
        | tail _ hm => exact ih s1 h e' hm

/-- strict loading raises type-not-found exactly at the first unknown-typed element -/
theorem pass1_strict_unknown_error (K : Consts) (ts : TypeSystem) (tsIdx : Nat) (pre post : XDoc) (e : XElem)
    (s s1 : Pass1) (hpre : pass1 K ts tsIdx false pre s = .ok s1) (hu : knownElem ts e = false) :
    pass1 K ts tsIdx false (pre ++ e :: post) s = .error .typeNotFound := by
  induction pre generalizing s with
  | nil =>
    rw [List.nil_append, pass1_cons, step1_unknown K ts tsIdx false e s hu]
    rfl
  | cons p ps ih =>
    rw [pass1_cons] at hpre
    rw [List.cons_append, pass1_cons]
    cases hs : step1 K ts tsIdx false p s with
    | error err => rw [hs] at hpre; cases hpre
    | ok s2 =>
      rw [hs] at hpre
      exact ih s2 hpre

/-- lenient loading = loading the document with the unknown-typed elements removed (in either mode),
    up to the remembered ids -/
theorem pass1_lenient_eq_filtered (K : Consts) (ts : TypeSystem) (tsIdx : Nat) (doc : XDoc) (s r : Pass1)
    (h : pass1 K ts tsIdx true doc s = .ok r) (strict : Bool) :
    pass1 K ts tsIdx (!strict) (doc.filter (knownElem ts)) s = .ok { r with lenientIds := s.lenientIds } :=
  pass1_lenient_filtered K ts tsIdx doc s r h (!strict) s.lenientIds

/-- leniency never alters how known structures are loaded -/
theorem pass1_known_same (K : Consts) (ts : TypeSystem) (tsIdx : Nat) (doc : XDoc) (s : Pass1)
    (hk : ∀ e ∈ doc, knownElem ts e = true) :
    pass1 K ts tsIdx true doc s = pass1 K ts tsIdx false doc s := by
  induction doc generalizing s with
  | nil => rw [pass1_nil, pass1_nil]
  | cons e es ih =>
    rw [pass1_cons, pass1_cons]
    rw [step1_known_indep K ts tsIdx true false e s (hk e (List.mem_cons_self ..))]
    cases step1 K ts tsIdx false e s with
    | error err => rfl
    | ok s1 =>
      exact ih s1 (fun e' he' => hk e' (List.mem_cons_of_mem _ he'))

/-- the ids lenient loading remembers are exactly the ids of the dropped elements -/
theorem pass1_lenient_ids (K : Consts) (ts : TypeSystem) (tsIdx : Nat) (doc : XDoc) (s r : Pass1)
    (h : pass1 K ts tsIdx true doc s = .ok r) :
    r.lenientIds = s.lenientIds ++
      (doc.filter (fun e => !(knownElem ts e))).filterMap (fun e => (attr e ID).bind Lex.parseInt) := by
  induction doc generalizing s with
  | nil =>
    rw [pass1_nil] at h
    cases h
    simp only [List.filter_nil, List.filterMap_nil, List.append_nil]
  | cons e es ih =>
    rw [pass1_cons] at h
    cases hk : knownElem ts e with
    | false =>
      rw [step1_unknown K ts tsIdx true e s hk, if_pos rfl] at h
      have := ih (setL s (s.lenientIds ++ lenIds e)) h
      rw [this, List.filter_cons_of_pos (by rw [hk]; rfl)]
      show (s.lenientIds ++ lenIds e) ++ _ = _
      rw [List.append_assoc]
      congr 1
      unfold lenIds
      rw [List.filterMap_cons]
      cases (attr e ID).bind Lex.parseInt <;> rfl
    | true =>
      rw [List.filter_cons_of_neg (by rw [hk]; exact Bool.false_ne_true)]
      cases hs : step1 K ts tsIdx true e s with
      | error err => rw [hs] at h; cases h
      | ok s1 =>
        rw [hs] at h
        rw [ih s1 h, step1_known_lenientIds K ts tsIdx true e s s1 hk hs]

/-- third pass: skipping the remembered ids = their absence from the member lists -/
theorem buildCas_skip_eq_dropped (K : Consts) (ts : TypeSystem) (ci : Nat) (lenient : Bool) (p : Pass1) (hp : Heap) :
    buildCas K ts ci lenient p hp = buildCas K ts ci lenient (dropMembers p.lenientIds p) hp := by
  unfold buildCas
  rw [← buildViews_drop]
  have hs : (dropMembers p.lenientIds p).sofas = p.sofas := rfl
  rw [hs]
  cases buildViews ts ci lenient p p.sofas { cas := Cas.empty, heap := hp } with
  | error e => rfl
  | ok b =>
    dsimp only
    have hf : (dropMembers p.lenientIds p).fss = p.fss := rfl
    rw [hf]
    cases rehome p.fss b.memberSofas b.heap with
    | error e => rfl
    | ok hpR =>
      dsimp only
      rw [convertReferenced_congr ts p (dropMembers p.lenientIds p) rfl]
      rfl

/-- the leniency flag only matters for structures whose type the type system lacks -/
theorem buildCas_flag_irrelevant (K : Consts) (ts : TypeSystem) (ci : Nat) (p : Pass1) (hp : Heap)
    (hk : ∀ q ∈ p.fss, ∀ o : Obj, hp[q.2]? = some o → containsType ts o.ty = true) :
    buildCas K ts ci true p hp = buildCas K ts ci false p hp := by
  unfold buildCas
  rw [buildViews_flag ts ci p p.sofas { cas := Cas.empty, heap := hp } hk]

/-- **lenient loading = strict loading of the document without the unknown-typed elements and without their
    ids in the view member lists** (what remains may not refer to a dropped structure, or both sides fail) -/
theorem loadXmi_lenient_eq_strict_filtered (K : Consts) (ts : TypeSystem) (tsIdx ci : Nat) (hp : Heap) (doc : XDoc)
    (ld : Loaded) (h : loadXmi K ts tsIdx ci true hp doc = .ok ld) :
    ∃ r : Pass1, pass1 K ts tsIdx true doc { heap := hp } = .ok r ∧
      ∃ ld' : Loaded, loadXmi K ts tsIdx ci false hp ((doc.filter (knownElem ts)).map (dropMembersElem r.lenientIds)) = .ok ld' ∧
        ld'.cas = ld.cas ∧ ld'.heap = ld.heap := by
  obtain ⟨r, hp2, hr, hpost, h⟩ := loadXmi_ok h
  refine ⟨r, hr, ld, ?_, rfl, rfl⟩
  have h1 := pass1_lenient_filtered K ts tsIdx doc { heap := hp } r hr false []
  have h2 := pass1_drop K ts tsIdx false r.lenientIds _ _ _ h1
  have h3 : pass1 K ts tsIdx false ((doc.filter (knownElem ts)).map (dropMembersElem r.lenientIds)) { heap := hp } =
      .ok (dropMembers r.lenientIds r) := h2
  -- the structures the first pass registered have registered types, and the second pass keeps types
  have hk : FssK ts r.fss hp2 := (passes12 hr hpost).2.fssK fun _ _ h => h.2
  unfold loadXmi
  rw [h3]
  show (postAll K ts tsIdx ci r.sofas r.fss r.fss r.heap >>=
      fun hp2 => buildCas K ts ci false (dropMembers r.lenientIds r) hp2) = _
  rw [hpost]
  show buildCas K ts ci false (dropMembers r.lenientIds r) hp2 = .ok ld
  rw [← buildCas_flag_irrelevant K ts ci (dropMembers r.lenientIds r) hp2 hk, ← buildCas_skip_eq_dropped]
  exact h

/-- `knownElem` in terms of the lookup the reader performs -/
theorem knownElem_iff (ts : TypeSystem) (e : XElem) :
    knownElem ts e = true ↔ e.ty = SOFA ∨ e.ty = VIEW_T ∨ ∃ t, getTypeExact ts e.ty = .ok t := by
  unfold knownElem
  simp only [Bool.or_eq_true, beq_iff_eq, getTypeExact_isSome, or_assoc]

/-- a name the type system does not define is unknown, even when `get_type(name)` would find a type by short name
    (the other half, a registered name is known, is `knownElem_iff`) -/
theorem knownElem_false_of_find_none (ts : TypeSystem) (e : XElem) (h1 : e.ty ≠ SOFA) (h2 : e.ty ≠ VIEW_T)
    (h : find? ts e.ty = none) : knownElem ts e = false := by
  unfold knownElem
  simp [h1, h2, h]

end Cassis.Xmi

#print axioms Cassis.Xmi.pass1_strict_all_known
#print axioms Cassis.Xmi.pass1_strict_unknown_error
#print axioms Cassis.Xmi.pass1_lenient_eq_filtered
#print axioms Cassis.Xmi.pass1_known_same
#print axioms Cassis.Xmi.pass1_lenient_ids
#print axioms Cassis.Xmi.buildCas_skip_eq_dropped
#print axioms Cassis.Xmi.buildCas_flag_irrelevant
#print axioms Cassis.Xmi.loadXmi_lenient_eq_strict_filtered
#print axioms Cassis.Xmi.knownElem_iff
