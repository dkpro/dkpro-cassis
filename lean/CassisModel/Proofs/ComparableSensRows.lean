/-
The skeleton shared by the sensitivity theorems: two successful runs that give the same table render the sorted list of
every shown type to the same rows (`rows_eq`); when the sort order agrees every structure has the same row in both.
-/
import CassisModel.Proofs.ComparableSensCells
import CassisModel.Proofs.ComparableRel

namespace Cassis.Comparable
open Cassis.TS Cassis.Traverse

/-- the genAnchors run of `renderFrom` on a heap -/
def AnchorsOf (ts : TypeSystem) (cass : List Cas) (hp : Heap) (o : Opts) (hsh : Nat → Int) (indexed addrs : List Nat)
    (st : AnchorSt) : Prop :=
  genAnchors ts cass hp indexed o (sortedOf (ltFs hp hsh) hp addrs) (sortedOf (ltFs hp hsh) hp addrs) {} = .ok st

theorem rows_eq {K : Consts} {ts : TypeSystem} {cass : List Cas} {hp hp' : Heap} {o : Opts} {hsh : Nat → Int}
    {indexed indexed' addrs : List Nat} {secs : List Section} (hty : ∀ c, tyOf hp' c = tyOf hp c)
    (h : renderFrom K ts cass hp o hsh indexed addrs = .ok secs)
    (h' : renderFrom K ts cass hp' o hsh indexed' addrs = .ok secs)
    (a : Nat) (ha : a ∈ addrs) (hex : o.exclude.contains (tyOf hp a) = false) :
    ∃ st st' t rows, AnchorsOf ts cass hp o hsh indexed addrs st ∧ AnchorsOf ts cass hp' o hsh indexed' addrs st' ∧
      getType ts (tyOf hp a) = .ok t ∧
      (sortFs (ltFs hp hsh) (group hp addrs (tyOf hp a))).mapM (renderRow K cass hp st.byId t (annFlag ts o t)) = .ok rows ∧
      (sortFs (ltFs hp' hsh) (group hp addrs (tyOf hp a))).mapM (renderRow K cass hp' st'.byId t (annFlag ts o t)) = .ok rows := by
  obtain ⟨st, hg, hs⟩ := renderFrom_ok h
  obtain ⟨st', hg', hs'⟩ := renderFrom_ok h'
  have e : sortedOf (ltFs hp' hsh) hp' addrs =
      (sortNames (typeKeys hp addrs)).map (fun t => (t, sortFs (ltFs hp' hsh) (group hp addrs t))) := by
    unfold sortedOf
    rw [typeKeys_congr hty]
    simp only [group_congr hty]
  rw [e] at hs'
  obtain ⟨t, rows, ht, hr, hr'⟩ := renderSections_rows
    (fun t => sortFs (ltFs hp hsh) (group hp addrs t)) (fun t => sortFs (ltFs hp' hsh) (group hp addrs t))
    (sortNames (typeKeys hp addrs)) secs hs hs' (tyOf hp a) (tyOf_mem_sortNames_typeKeys hp addrs a ha) hex
  rw [renderRows_eq_mapM] at hr hr'
  exact ⟨st, st', t, rows, hg, hg', ht, hr, hr'⟩

theorem rows_pos {K : Consts} {ts : TypeSystem} {cass : List Cas} {hp hp' : Heap} {o : Opts} {hsh : Nat → Int}
    {indexed indexed' addrs : List Nat} {secs : List Section} (ag : AgreeSort hp hp')
    (h : renderFrom K ts cass hp o hsh indexed addrs = .ok secs)
    (h' : renderFrom K ts cass hp' o hsh indexed' addrs = .ok secs)
    (a : Nat) (ha : a ∈ addrs) (hex : o.exclude.contains (tyOf hp a) = false) :
    ∃ st st' t r, AnchorsOf ts cass hp o hsh indexed addrs st ∧ AnchorsOf ts cass hp' o hsh indexed' addrs st' ∧
      getType ts (tyOf hp a) = .ok t ∧
      renderRow K cass hp st.byId t (annFlag ts o t) a = .ok r ∧
      renderRow K cass hp' st'.byId t (annFlag ts o t) a = .ok r := by
  obtain ⟨st, st', t, rows, hg, hg', ht, hr, hr'⟩ := rows_eq ag.ty h h' a ha hex
  rw [ag.ltFs] at hr'
  obtain ⟨r, _, h1, h2⟩ := Det.mapM_ok_both hr hr' ((mem_sortFs_group _ hp addrs a _).2 ⟨ha, rfl⟩)
  exact ⟨st, st', t, r, hg, hg', ht, h1, h2⟩

theorem XidInj.congr {hp hp' : Heap} {addrs : List Nat} (hx : XidInj hp addrs) (h : ∀ c, xidOf hp' c = xidOf hp c) :
    XidInj hp' addrs := by
  intro a ha b hb e
  rw [h, h] at e
  exact hx a ha b hb e

/-- the second run brought to the order, hash and indexed list of the first -/
theorem renderFrom_ok_of_perm {K : Consts} {ts : TypeSystem} {cass : List Cas} {hp' : Heap} {o : Opts} {hsh hsh' : Nat → Int}
    {indexed indexed' addrs addrs' : List Nat} (hperm : addrs.Perm addrs') (hidx : ∀ x, x ∈ indexed ↔ x ∈ indexed')
    (hd' : Distinct hp' addrs) {secs' : List Section}
    (h' : renderFrom K ts cass hp' o hsh' indexed' addrs' = .ok secs') :
    renderFrom K ts cass hp' o hsh indexed addrs = .ok secs' := by
  rw [renderFrom_perm K ts cass hp' o hsh hsh' hperm hidx hd']
  exact h'

/-- where the row of `a` shows a slot value (`v` in the first heap, `v'` in the second): in a feature column, or — `a`
    an array — in the `elements` cell -/
inductive Shown (K : Consts) (ts : TypeSystem) (hp hp' : Heap) (a : Nat) (v v' : Val) : Prop
  | col (t : TypeRec) (f : String) (harr : isArrayFs K hp a = false) (ht : getType ts (tyOf hp a) = .ok t)
      (hf : f ∈ columns t) (hs : slot hp a f = some v) (hs' : slot hp' a f = some v')
  | elems (harr : isArrayFs K hp a = true) (hs : slot hp a "elements" = some v) (hs' : slot hp' a "elements" = some v')

theorem shown_sens {K : Consts} {ts : TypeSystem} {cass : List Cas} {hp hp' : Heap} {o : Opts} {hsh : Nat → Int}
    {indexed indexed' addrs : List Nat} {secs secs' : List Section} (ag : AgreeSort hp hp')
    (h : renderFrom K ts cass hp o hsh indexed addrs = .ok secs)
    (h' : renderFrom K ts cass hp' o hsh indexed' addrs = .ok secs')
    (a : Nat) (ha : a ∈ addrs) (hex : o.exclude.contains (tyOf hp a) = false) {v v' : Val}
    (sh : Shown K ts hp hp' a v v')
    (hne : ∀ st st', AnchorsOf ts cass hp o hsh indexed addrs st → AnchorsOf ts cass hp' o hsh indexed' addrs st' →
      CellNe K hp hp' st.byId st'.byId v v') :
    secs ≠ secs' := by
  intro heq
  subst heq
  obtain ⟨st, st', t, r, hg, hg', ht, hr, hr'⟩ := rows_pos ag h h' a ha hex
  obtain ⟨cs, hcs, hcs'⟩ := row_cells_eq hr hr' (isArrayFs_congr ag.ty K a)
  unfold cellsOf at hcs hcs'
  rw [isArrayFs_congr ag.ty] at hcs'
  cases sh with
  | col t' f harr ht' hf hs hs' =>
    cases ht.symm.trans ht'
    rw [harr, if_neg (by decide), renderCols_eq_mapM] at hcs hcs'
    obtain ⟨c, _, hc, hc'⟩ := Det.mapM_ok_both hcs hcs' hf
    rw [hs] at hc
    rw [hs'] at hc'
    exact hne st st' hg hg' _ _ c hc hc'
  | elems harr hs hs' =>
    rw [harr, if_pos rfl, hs] at hcs
    rw [harr, if_pos rfl, hs'] at hcs'
    obtain ⟨c, hc, rfl⟩ := Det.map_ok hcs
    obtain ⟨c', hc', e⟩ := Det.map_ok hcs'
    cases e
    exact hne st st' hg hg' _ _ c hc hc'

theorem anchor_sens {K : Consts} {ts : TypeSystem} {cass : List Cas} {hp hp' : Heap} {o : Opts} {hsh : Nat → Int}
    {indexed indexed' addrs : List Nat} {secs secs' : List Section} (ag : AgreeSort hp hp')
    (h : renderFrom K ts cass hp o hsh indexed addrs = .ok secs)
    (h' : renderFrom K ts cass hp' o hsh indexed' addrs = .ok secs')
    (a : Nat) (ha : a ∈ addrs) (hex : o.exclude.contains (tyOf hp a) = false)
    (hne : ∀ st st', AnchorsOf ts cass hp o hsh indexed addrs st → AnchorsOf ts cass hp' o hsh indexed' addrs st' →
      anchorCell hp st.byId a ≠ anchorCell hp' st'.byId a) :
    secs ≠ secs' := by
  intro heq
  subst heq
  obtain ⟨st, st', t, r, hg, hg', _, hr, hr'⟩ := rows_pos ag h h' a ha hex
  have e1 := renderRow_head hr
  have e2 := renderRow_head hr'
  rw [e1] at e2
  exact hne st st' hg hg' (Option.some.inj e2)

theorem anchors_same {ts : TypeSystem} {cass : List Cas} {hp hp' : Heap} {o : Opts} {hsh : Nat → Int}
    {indexed addrs : List Nat} (ag : AgreeAnchor hp hp') {st st' : AnchorSt}
    (hg : AnchorsOf ts cass hp o hsh indexed addrs st) (hg' : AnchorsOf ts cass hp' o hsh indexed addrs st') :
    st' = st := by
  unfold AnchorsOf at hg hg'
  rw [ag.toAgreeSort.sortedOf, ag.genAnchors, hg] at hg'
  exact (Except.ok.inj hg').symm

end Cassis.Comparable
