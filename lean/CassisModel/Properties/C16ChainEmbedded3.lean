/-
C16 with the JSON-EMBEDDED type system, the LOCAL coherence condition.

`Properties/C16ChainEmbedded.lean` / `C16ChainEmbedded2.lean` prove the chains JSON → CAS without a type system → XMI
under the rebuilt type system → CAS under the GLOBAL hypothesis `FlagCoherent` (same-named own features of ANY two types
agree on the reserved flag and, for collection ranges, on `multipleReferencesAllowed`).  The counterexample that forces
a hypothesis (`RedefDemo`) is a redefinition along ONE inheritance chain; the natural condition is the local
`FlagCoherentChain` (`Spec/ChainEmbLocal.lean`): on every type, an own feature and an INHERITED feature of the same name
agree on these flags.  Evaluated there: `RedefDemo` violates it; `UnrelDemo` (two unrelated types declaring
`f : FSArray` with `multipleReferencesAllowed = True` / absent) satisfies it, violates `FlagCoherent`, and the chains
preserve the CAS.

Proved here: the global condition implies the local one on API-built type systems, not conversely; `MultiResAgree o m`
follows from `FlagCoherentChain o` and a provenance invariant that knows the ancestor relation (`InhAnc` for `o` and `m`,
`OwnLike o m`); `InhAnc` holds on every API-built type system.
Not proved: `InhAnc ts'` and `OwnLike o ts'` for the type system `ts'` rebuilt by `loadTs`; `json_full_ts_multi_chain_of_prov`
takes them as hypotheses (they are evaluated on the instances in `Proofs/ChainEmb3Check.lean`).
-/
import CassisModel.Properties.C16ChainEmbedded2
import CassisModel.Properties.C02EmbeddedTs
import CassisModel.Proofs.ChainEmbLocalDemo
import CassisModel.Proofs.ChainEmb3Check

namespace Cassis
open Cassis.TS Cassis.Traverse Cassis.Json Cassis.ChainE

/-- the global condition implies the local one, when every inherited record is an own record of a registered type -/
theorem flagCoherentChain_of_flagCoherent (K : Consts) (ts : TypeSystem)
    (hinh : ∀ t ∈ ts.types, ∀ r ∈ t.inh, ∃ t2 ∈ ts.types, r ∈ t2.own)
    (hfc : FlagCoherent K ts) : FlagCoherentChain K ts := by
  intro t ht g hg h hh hn
  obtain ⟨t2, ht2, hh2⟩ := hinh t ht h hh
  exact hfc t ht t2 ht2 g hg h hh2 hn.symm

/-- the global condition implies the local one on every API-built type system -/
theorem flagCoherentChain_of_history (ops : List TsOp)
    (hfc : FlagCoherent Gen.consts (ops.foldl (applyOp Gen.consts) Gen.builtinTS)) :
    FlagCoherentChain Gen.consts (ops.foldl (applyOp Gen.consts) Gen.builtinTS) :=
  flagCoherentChain_of_flagCoherent _ _
    (inhAnc_history ops).ownIn hfc

/-- **the core of the chain theorem under the local condition**: `MultiResAgree` from `FlagCoherentChain` and the
    provenance of the feature records along the ancestor chains -/
theorem multiRes_of_flagCoherentChain (o m : TypeSystem) (hco : Consistent o) (hfo : FeatInv o) (hao : InhAnc o)
    (hcm : Consistent m) (ham : InhAnc m) (hlike : OwnLike o m) (hs : SameTs o m)
    (hfc : FlagCoherentChain Gen.consts o) : MultiResAgree Gen.consts o m := by
  intro t ht t' ht' hnn f hf f' hf' hn
  -- `f'` is an own record of an ancestor-or-self `a` of `t'` in `m`
  obtain ⟨a, ta', hab, hta', hfa⟩ : ∃ a ta', Anc m a t'.name ∧ find? m a = some ta' ∧ f' ∈ ta'.own := by
    rcases List.mem_append.mp (allFeatures_sub hf') with h0 | h0
    · exact ⟨t'.name, t', Anc.refl _ ((hasExact_iff_find m _).mpr ⟨t', find?_of_mem hcm.nodup ht'⟩),
        find?_of_mem hcm.nodup ht', h0⟩
    · obtain ⟨a, ta, _, h1, h2, h3⟩ := ham t' ht' f' h0
      exact ⟨a, ta, h1, h2, h3⟩
  obtain ⟨ta, hta, g, hg, k1, k2, k3⟩ := hlike ta' (find?_mem hta') f' hfa
  rw [find?_name hta'] at hta
  have habo : Anc o a t.name := by rw [← hnn]; exact anc_of_sameTs hs hab
  obtain ⟨_, c2, c3, c1⟩ := like_anc hco hfo hao hfc t ht f hf a ta habo hta g hg (by rw [← k1, hn])
  exact ⟨by rw [k3, c1], fun hc => by rw [k2, c3 (by rw [← c2]; exact hc)]⟩

/-- on every API-built type system, every inherited record is an own record of a strict ancestor -/
theorem inhAnc_of_history (ops : List TsOp) (hu : UserOnly Gen.consts ops) :
    InhAnc (ops.foldl (applyOp Gen.consts) Gen.builtinTS) :=
  inhAnc_history ops

/-- `json_full_ts_multi` under the LOCAL condition, up to the provenance of the rebuilt type system (`hcm`, `ham`,
    `hlike`: hypotheses about an intermediate result, not proved; see the header) -/
theorem json_full_ts_multi_chain_of_prov (ops : List TsOp) (hu : UserOnlyNoDoc Gen.consts ops)
    (hw : Writable Gen.consts (ops.foldl (applyOp Gen.consts) Gen.builtinTS))
    (hpc : NoPercentNames (ops.foldl (applyOp Gen.consts) Gen.builtinTS))
    (hfc : FlagCoherentChain Gen.consts (ops.foldl (applyOp Gen.consts) Gen.builtinTS))
    (cass : List Cas) (ci : Nat) (hp : Heap) (doc : Json.JDoc) (st : St)
    (hsave : Json.saveJson Gen.consts (ops.foldl (applyOp Gen.consts) Gen.builtinTS) cass ci hp .full = .ok (doc, st))
    (ts' : TypeSystem) (hl : Json.loadTs Gen.consts Gen.builtinTS true doc = .ok ts')
    (hcm : Consistent ts') (ham : InhAnc ts')
    (hlike : OwnLike (ops.foldl (applyOp Gen.consts) Gen.builtinTS) ts') :
    MultiResAgree Gen.consts (ops.foldl (applyOp Gen.consts) Gen.builtinTS) ts' := by
  obtain ⟨ts'', hl'', hsame⟩ := json_full_ts_same ops hu hw hpc cass ci hp doc st hsave
  rw [hl] at hl''; cases hl''
  have ho := hist_of_history ops hu.1
  exact multiRes_of_flagCoherentChain _ _ ho.cons ho.feat (inhAnc_of_history ops hu.1) hcm ham hlike hsame hfc

/-- the converse fails: `UnrelDemo.ts` (kernel-checked) -/
theorem flagCoherentChain_strictly_weaker :
    FlagCoherentChain Gen.consts Json.UnrelDemo.ts ∧ ¬ FlagCoherent Gen.consts Json.UnrelDemo.ts := by
  rw [Json.UnrelDemo.ts_eq]; exact ⟨Json.unrelDemo_evals.flagCoherentChain, Json.unrelDemo_evals.notFlagCoherent⟩

/-- `RedefDemo` violates the local condition (kernel-checked) -/
theorem redefDemo_not_flagCoherentChain : ¬ FlagCoherentChain Gen.consts Json.RedefDemo.ts := by
  rw [Json.RedefDemo.ts_eq]; exact Json.redefDemo_evals.notFlagCoherentChain

end Cassis

#print axioms Cassis.flagCoherentChain_of_flagCoherent
#print axioms Cassis.flagCoherentChain_of_history
#print axioms Cassis.multiRes_of_flagCoherentChain
#print axioms Cassis.inhAnc_of_history
#print axioms Cassis.json_full_ts_multi_chain_of_prov
#print axioms Cassis.flagCoherentChain_strictly_weaker
#print axioms Cassis.redefDemo_not_flagCoherentChain
