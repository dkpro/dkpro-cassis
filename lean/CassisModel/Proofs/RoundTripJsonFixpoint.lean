/-
Fixpoint of the JSON round trip (`json_roundtrip_flat_fixpoint`, `Properties/C02RoundTrip.lean`): the loaded structures are
flat again and a copy of the written ones in the sense of `Traverse.Moved` (`TraverseCopy.lean`), so the traversal of the
loaded CAS collects exactly their counterparts; the renderer on the loaded heap yields the elements that were read.
The first part (`viewsRelJ_get` to `seed_bwdJ`) is the JSON reader's side of `RoundTripMoved.lean`: the loaded structures
are flat and the seeds correspond; the chains and the comparison by isomorphism (C16, C20) import the file for it.
-/
import CassisModel.Proofs.RoundTripJsonFlat
import CassisModel.Proofs.RoundTripMoved

namespace Cassis.Json
open Cassis.TS Cassis.Traverse Cassis.Xmi

theorem viewsRelJ_get {H : Heap} {na : Int → Nat} (l l' : List (String × View)) (vn : String) (v : View)
    (h : ViewsRelJ H na l l') (hv : alistGet? l vn = some v) :
    ∃ v', alistGet? l' vn = some v' ∧ ViewRelJ H na (vn, v) (vn, v') :=
  RTB.All2.get (fun _ _ hr => hr.1) h.all2 vn v hv

theorem viewsRelJ_get_text {H : Heap} {na : Int → Nat} {c c' : Cas} (hviews : ViewsRelJ H na c.views c'.views)
    (vn : String) (v : View) (h : Cas.getViewRec c vn = some v) :
    ∃ v', Cas.getViewRec c' vn = some v' ∧ v'.sofa.text = v.sofa.text := by
  obtain ⟨v', hv', hvr⟩ := viewsRelJ_get _ _ vn v hviews h
  exact ⟨v', hv', by rw [show v'.sofa = v.sofa from hvr.2.1]⟩

theorem new_flatJ {K : Consts} {ts : TypeSystem} {c : Cas} {ci : Nat} {H : Heap}
    {L : List (Int × Nat)} {na : Int → Nat} {ci' : Nat} {c' : Cas} {hpL : Heap}
    (hL : LOk K ts c ci H L)
    (hrel : HeapRel H L na (E3 H na ci') hpL) (hviews : ViewsRelJ H na c.views c'.views) :
    ∀ q ∈ L, FlatFs K ts c' ci' hpL (na q.1) :=
  flatFs_new hL hrel (viewsRelJ_get_text hviews)

theorem seed_fwdJ {K : Consts} {ts : TypeSystem} {c : Cas} {ci : Nat} {H : Heap} {L : List (Int × Nat)}
    {na : Int → Nat} {c' : Cas} (hL : LOk K ts c ci H L) (hviews : ViewsRelJ H na c.views c'.views) {a : Nat}
    (ha : a ∈ defaultSeeds c') : ∃ q ∈ L, a = na q.1 :=
  let ⟨q, hq, e, _⟩ := seeds_fwd_of hL.ids hL.members (hviews.all2.imp_mem fun _ _ _ hr => hr.2.2).bwd ha
  ⟨q, hq, e⟩

theorem seed_bwdJ {K : Consts} {ts : TypeSystem} {c : Cas} {ci : Nat} {H : Heap} {L : List (Int × Nat)}
    {na : Int → Nat} {c' : Cas} (hL : LOk K ts c ci H L) (hviews : ViewsRelJ H na c.views c'.views) {x : Int} {a : Nat}
    (hx : (x, a) ∈ L) (ha : a ∈ defaultSeeds c) : na x ∈ defaultSeeds c' :=
  seeds_bwd_of hL.ids (hviews.all2.imp_mem fun _ _ _ hr => hr.2.2).fwd hx ha

theorem extInt_newJ {cass cass' : List Cas} {ci ci' : Nat} {c c' : Cas} {H : Heap} {na : Int → Nat}
    (hc : cass[ci]? = some c) (hc' : cass'[ci']? = some c') (hviews : ViewsRelJ H na c.views c'.views)
    {o o' : Obj} {x : Int} (hor : ObjRel (E3 H na ci' o) o o' x) (isAnn : Bool)
    (hann : isAnn = true →
      ∃ (vn : String) (v : View), alistGet? o.slots "sofa" = some (.sofa ci vn) ∧ Cas.getViewRec c vn = some v)
    (n : String) (i : Int) :
    extInt cass' isAnn o' n i = extInt cass isAnn o n i := by
  by_cases hcond : (isAnn && (n == "begin" || n == "end")) = true
  · simp only [Bool.and_eq_true, Bool.or_eq_true, beq_iff_eq] at hcond
    obtain ⟨rfl, hn⟩ := hcond
    obtain ⟨vn, v, hs, hv⟩ := hann rfl
    obtain ⟨v', hv', hvr⟩ := viewsRelJ_get _ _ vn v hviews hv
    rw [extInt_mapped hn hs (by rw [hc]; exact hv), extInt_mapped hn (hor.2.2.2 _ _ hs) (by rw [hc']; exact hv'), hvr.2.1]
  · rw [extInt_plain (Bool.eq_false_iff.mpr hcond), extInt_plain (Bool.eq_false_iff.mpr hcond)]

theorem jmemF_new {K : Consts} {ts : TypeSystem} {cass cass' : List Cas} {ci ci' : Nat} {c c' : Cas} {H : Heap}
    {L : List (Int × Nat)} {na : Int → Nat} {hpL : Heap}
    (hc : cass[ci]? = some c) (hc' : cass'[ci']? = some c')
    (hL : LOk K ts c ci H L) (hrel : HeapRel H L na (E3 H na ci') hpL) (hviews : ViewsRelJ H na c.views c'.views)
    {q : Int × Nat} (hq : q ∈ L) {o o' : Obj} (hHo : H[q.2]? = some o) (hor : ObjRel (E3 H na ci' o) o o' q.1)
    (isAnn : Bool)
    (hann : isAnn = true →
      ∃ (vn : String) (v : View), alistGet? o.slots "sofa" = some (.sofa ci vn) ∧ Cas.getViewRec c vn = some v)
    (f : Feature) (hf : FlatFeat K ts c ci H isAnn o f) :
    jmemF cass' hpL isAnn o' f = jmemF cass H isAnn o f := by
  obtain ⟨_, _, _, _, _, _, _, _, _, _, _, v, hv, hd⟩ := hf
  have hv' : alistGet? o'.slots f.name = some (exp3 H na ci' v) := hor.2.2.2 _ _ hv
  unfold jmemF
  rw [hv, hv']
  simp only [Option.getD_some]
  rcases hd with ⟨hn, hs⟩ | ⟨hn, hp, hs⟩ | ⟨hn, hp, ha, hl, hb1, hb2, hb3, hs⟩
  · rcases hs with ⟨vn, rfl, hsome⟩ | ⟨rfl, hA⟩
    · cases hg : Cas.getViewRec c vn with
      | none => rw [hg] at hsome; cases hsome
      | some w =>
        obtain ⟨w', hw', hvr⟩ := viewsRelJ_get _ _ vn w hviews hg
        have e2 : Cas.getViewRec c' vn = some w' := hw'
        have : w'.sofa = w.sofa := hvr.2.1
        simp only [exp3, jmem, hc, hc', Option.bind_some, hg, e2, this]
    · rfl
  · rcases hs with rfl | ⟨hr, i, rfl⟩ | ⟨hr, s, rfl⟩ | ⟨hr, b, rfl⟩ | ⟨hr, t, rfl⟩
    · rfl
    · simp only [exp3, jmem]
      rw [extInt_newJ hc hc' hviews hor isAnn hann]
    · rfl
    · rfl
    · rfl
  · rcases hs with rfl | ⟨b, rfl, hsome, hne0⟩
    · rfl
    · obtain ⟨x, hx, hxL⟩ := hL.closed q hq o hHo f.name b hv
      have hxn : xidOf hpL (na x) = some x := hrel.xid hxL
      simp only [exp3, jmem, hx, hxn]

theorem renderFs_new {K : Consts} {ts : TypeSystem} {cass cass' : List Cas} {ci ci' : Nat} {c c' : Cas} {H : Heap}
    {L : List (Int × Nat)} {na : Int → Nat} {hpL : Heap}
    (hc : cass[ci]? = some c) (hL : LOk K ts c ci H L) (hjson : ∀ q ∈ L, JsonFs ts H q.2) (hc' : cass'[ci']? = some c')
    (hsr : ∀ q ∈ L, ∀ o t, H[q.2]? = some o → find? ts o.ty = some t → ∀ f ∈ allFeatures t, SofaRangeOk K ts o f)
    (hrel : HeapRel H L na (E3 H na ci') hpL) (hviews : ViewsRelJ H na c.views c'.views)
    (q : Int × Nat) (hq : q ∈ L) :
    renderFs K ts cass' hpL (na q.1) = .ok (elemOfJ K ts cass H q) := by
  obtain ⟨o, t, ho, ht, gf⟩ := flatFs_iff.mp (hL.flat q hq)
  have he := elemOfJ_gen (cass := cass) q o t ho ht gf.notPrimArr gf.notFsArr
  obtain ⟨o1, o', ho1, ho', hor⟩ := hrel q hq
  rw [ho] at ho1; cases ho1
  have hty : o'.ty = o.ty := hor.1
  have ht' : find? ts o'.ty = some t := by rw [hty]; exact ht
  have hflat' := new_flatJ (ci' := ci') hL hrel hviews q hq
  have hfeat := gf.feat
  have hann := gf.ann_sofa
  rw [renderFs_flatJ K ts cass' c' ci' hpL (na q.1) q.1 o' t hc' hflat' ho' ht' (hrel.xid hq)]
  · rw [he]
    unfold genJFs
    rw [hty]
    congr 2
    apply Det.flatMap_congr
    intro f hf
    exact jmemF_new hc hc' hL hrel hviews hq ho hor _ hann f (hfeat f hf)
  · intro f hf
    rw [hty]
    exact ((hjson q hq o t ho ht).2 f hf).2.2.2
  · intro f hf hn hne
    apply hsr q hq o t ho ht f hf hn
    obtain ⟨v, hv⟩ := (hfeat f hf).slot
    rw [hor.2.2.2 _ _ hv, Option.getD_some] at hne
    rw [hv, Option.getD_some]
    intro h
    subst h
    exact hne rfl

theorem renderSofa_heap (hp hp' : Heap) (s : Sofa) (h : s.arr = .none) : renderSofa hp' s = renderSofa hp s := by
  unfold renderSofa
  rw [h]

theorem sofas_new {H : Heap} {na : Int → Nat} (hp hp' : Heap) (l l' : List (String × View))
    (h : ViewsRelJ H na l l') (harr : ∀ nv ∈ l, nv.2.sofa.arr = .none) :
    l'.map (fun p => renderSofa hp' p.2.sofa) = l.map (fun p => renderSofa hp p.2.sofa) :=
  RTB.All2.map_eq h.all2 (fun nv hnv nv' hr => by rw [hr.2.1]; exact renderSofa_heap hp hp' _ (harr nv hnv))

theorem views_new {H : Heap} {na : Int → Nat} (hp' : Heap) : ∀ (l l' : List (String × View)),
    ViewsRelJ H na l l' → l'.map (viewContent hp') = l.map (viewContent H) →
    l'.map (jviewOf hp') = l.map (jviewH H)
  | [], [], _, _ => rfl
  | [], _ :: _, h, _ => h.elim
  | _ :: _, [], h, _ => h.elim
  | v :: r, v' :: r', h, hvc => by
    obtain ⟨h1, h2⟩ := h
    simp only [List.map_cons, List.cons.injEq] at hvc
    simp only [List.map_cons]
    rw [views_new hp' r r' h2 hvc.2]
    congr 1
    have hm := congrArg ViewContent.members hvc.1
    simp only [viewContent] at hm
    unfold jviewOf jviewH pviewOf
    rw [h1.2.1]
    congr 1

end Cassis.Json
