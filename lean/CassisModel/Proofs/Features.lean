/-
The feature bookkeeping invariant `FeatInv` of C11 (`Spec/Features.lean`) after `createType` (`createType_created`,
`Created.featInv`) and after `addFeature` (`addFeature_step`, `featInv_of_target`); the statements about visibility,
conflicts and `construct` that follow from it are in `Properties/C11.lean`.  The core is `push_specW`: what pushing a
feature down a subtree does to every record (`PStep`); `AddTarget` with `AddTarget.cases` is the table after `addFeature`,
record by record, `Created` with `Created.cases` (`createType_created`) the table after `createType`.  Why the invariant
survives a push is said once, for any region (`Pushed`): the bookkeeping of the single records always does
(`Pushed.records`), that along an edge of the tree (`EdgeOK`) whenever both ends of the edge were treated alike
(`Pushed.edge`).
-/
import CassisModel.Proofs.TypeSystem
import CassisModel.Spec.Features
import CassisModel.Proofs.Basic
import CassisModel.Proofs.Lists
import CassisModel.Properties.C10

namespace Cassis.TS

/-! ### `featureEq` is an equivalence -/

theorem featureEq_iff (f g : Feature) : featureEq f g = true ↔
    f.name = g.name ∧ f.descr = g.descr ∧ f.range = g.range ∧ f.elem.getD TOP = g.elem.getD TOP := by
  unfold featureEq
  simp only [Bool.and_eq_true, beq_iff_eq, and_assoc]

theorem featureEq_refl (f : Feature) : featureEq f f = true := by
  rw [featureEq_iff]; exact ⟨rfl, rfl, rfl, rfl⟩

theorem featureEq_symm {f g : Feature} (h : featureEq f g = true) : featureEq g f = true := by
  rw [featureEq_iff] at h ⊢
  exact ⟨h.1.symm, h.2.1.symm, h.2.2.1.symm, h.2.2.2.symm⟩

theorem featureEq_trans {f g k : Feature} (h1 : featureEq f g = true) (h2 : featureEq g k = true) :
    featureEq f k = true := by
  rw [featureEq_iff] at h1 h2 ⊢
  exact ⟨h1.1.trans h2.1, h1.2.1.trans h2.2.1, h1.2.2.1.trans h2.2.2.1, h1.2.2.2.trans h2.2.2.2⟩

theorem featureEq_name {f g : Feature} (h : featureEq f g = true) : f.name = g.name :=
  ((featureEq_iff f g).mp h).1

theorem mem_fnames {l : List Feature} {n : String} : n ∈ fnames l ↔ ∃ f ∈ l, f.name = n := by
  unfold fnames; exact List.mem_map

theorem mem_fnames_of_mem {l : List Feature} {f : Feature} (h : f ∈ l) : f.name ∈ fnames l :=
  mem_fnames.mpr ⟨f, h, rfl⟩

theorem fnames_append (l1 l2 : List Feature) : fnames (l1 ++ l2) = fnames l1 ++ fnames l2 := by
  unfold fnames; exact List.map_append

theorem fnames_nodup_snoc {l : List Feature} {f : Feature} (h : (fnames l).Nodup)
    (hf : f.name ∉ fnames l) : (fnames (l ++ [f])).Nodup := by
  rw [fnames_append]
  exact nodup_snoc h hf

theorem find_name_none {l : List Feature} {n : String} :
    l.find? (·.name == n) = none ↔ n ∉ fnames l := by
  rw [List.find?_eq_none, mem_fnames]
  constructor
  · rintro h ⟨f, hf, e⟩; exact h f hf (by simpa using e)
  · intro h f hf e; exact h ⟨f, hf, by simpa using e⟩

theorem find_name_some {l : List Feature} {n : String} {g : Feature}
    (h : l.find? (·.name == n) = some g) : g ∈ l ∧ g.name = n :=
  ⟨List.mem_of_find?_eq_some h, by simpa using List.find?_some h⟩

theorem find_name_of_mem {l : List Feature} (hn : (fnames l).Nodup) {g : Feature} (hg : g ∈ l) :
    l.find? (·.name == g.name) = some g := by
  cases h : l.find? (·.name == g.name) with
  | none => exact absurd (mem_fnames_of_mem hg) (find_name_none.mp h)
  | some g' =>
    obtain ⟨h1, h2⟩ := find_name_some h
    rw [Det.inj_of_nodup_map Feature.name l hn h1 hg h2]

theorem dedup_sub : ∀ (l seen : List Feature) (x : Feature), x ∈ dedupFeatures l seen → x ∈ l := by
  intro l
  induction l with
  | nil => intro seen x h; simp [dedupFeatures] at h
  | cons f fs ih =>
    intro seen x h
    unfold dedupFeatures at h
    split at h
    · exact List.mem_cons_of_mem _ (ih _ x h)
    · rcases List.mem_cons.mp h with rfl | h'
      · exact List.mem_cons_self
      · exact List.mem_cons_of_mem _ (ih _ x h')

theorem dedup_cover : ∀ (l seen : List Feature) (x : Feature), x ∈ l →
    (∃ y ∈ seen, featureEq y x = true) ∨ (∃ y ∈ dedupFeatures l seen, featureEq y x = true) := by
  intro l
  induction l with
  | nil => intro seen x h; cases h
  | cons f fs ih =>
    intro seen x hx
    unfold dedupFeatures
    rcases List.mem_cons.mp hx with rfl | hx'
    · split
      · rename_i hany
        rw [List.any_eq_true] at hany
        exact Or.inl hany
      · exact Or.inr ⟨x, List.mem_cons_self, featureEq_refl x⟩
    · split
      · exact ih seen x hx'
      · rcases ih (seen ++ [f]) x hx' with ⟨y, hy, hyx⟩ | ⟨y, hy, hyx⟩
        · rcases List.mem_append.mp hy with hy' | hy'
          · exact Or.inl ⟨y, hy', hyx⟩
          · simp only [List.mem_singleton] at hy'; subst hy'
            exact Or.inr ⟨y, List.mem_cons_self, hyx⟩
        · exact Or.inr ⟨y, List.mem_cons_of_mem _ hy, hyx⟩

theorem dedup_not_seen : ∀ (l seen : List Feature) (x : Feature), x ∈ dedupFeatures l seen →
    ∀ y ∈ seen, featureEq y x = false := by
  intro l
  induction l with
  | nil => intro seen x h; simp [dedupFeatures] at h
  | cons f fs ih =>
    intro seen x h y hy
    unfold dedupFeatures at h
    split at h
    · exact ih seen x h y hy
    · rename_i hany
      rcases List.mem_cons.mp h with rfl | h'
      · cases hyx : featureEq y x with
        | false => rfl
        | true => exact absurd (List.any_eq_true.mpr ⟨y, hy, hyx⟩) hany
      · exact ih (seen ++ [f]) x h' y (List.mem_append_left _ hy)

theorem dedup_nodup : ∀ (l seen : List Feature),
    (∀ x ∈ l, ∀ y ∈ l, x.name = y.name → featureEq x y = true) →
    (fnames (dedupFeatures l seen)).Nodup := by
  intro l
  induction l with
  | nil => intro seen _; simp [dedupFeatures, fnames]
  | cons f fs ih =>
    intro seen hco
    have hco' : ∀ x ∈ fs, ∀ y ∈ fs, x.name = y.name → featureEq x y = true :=
      fun x hx y hy => hco x (List.mem_cons_of_mem _ hx) y (List.mem_cons_of_mem _ hy)
    unfold dedupFeatures
    split
    · exact ih seen hco'
    · show (fnames (f :: dedupFeatures fs (seen ++ [f]))).Nodup
      simp only [fnames, List.map_cons, List.nodup_cons]
      refine ⟨?_, ih _ hco'⟩
      intro hmem
      obtain ⟨x, hx, hxn⟩ := List.mem_map.mp hmem
      have h1 : featureEq f x = true :=
        hco f List.mem_cons_self x (List.mem_cons_of_mem _ (dedup_sub _ _ x hx)) hxn.symm
      have h2 := dedup_not_seen fs (seen ++ [f]) x hx f (by simp)
      rw [h1] at h2; cases h2

theorem allFeatures_sub {t : TypeRec} {x : Feature} (h : x ∈ allFeatures t) : x ∈ t.own ++ t.inh :=
  dedup_sub _ _ x h

theorem allFeatures_cover {t : TypeRec} {x : Feature} (h : x ∈ t.own ++ t.inh) :
    ∃ y ∈ allFeatures t, featureEq y x = true := by
  rcases dedup_cover (t.own ++ t.inh) [] x h with ⟨y, hy, _⟩ | h'
  · cases hy
  · exact h'

theorem mem_fnames_allFeatures (t : TypeRec) (n : String) :
    n ∈ fnames (allFeatures t) ↔ n ∈ fnames t.own ∨ n ∈ fnames t.inh := by
  rw [← List.mem_append, ← fnames_append]
  constructor
  · intro h
    obtain ⟨x, hx, e⟩ := mem_fnames.mp h
    exact mem_fnames.mpr ⟨x, allFeatures_sub hx, e⟩
  · intro h
    obtain ⟨x, hx, e⟩ := mem_fnames.mp h
    obtain ⟨y, hy, hyx⟩ := allFeatures_cover hx
    exact mem_fnames.mpr ⟨y, hy, (featureEq_name hyx).trans e⟩

theorem dedup_id : ∀ (l seen : List Feature), (fnames l).Nodup →
    (∀ s ∈ seen, ∀ f ∈ l, s.name ≠ f.name) → dedupFeatures l seen = l := by
  intro l
  induction l with
  | nil => intro _ _ _; rfl
  | cons f fs ih =>
    intro seen hn hs
    simp only [fnames, List.map_cons, List.nodup_cons] at hn
    have hany : seen.any (featureEq · f) = false := by
      rw [List.any_eq_false]
      intro s hsm he
      exact hs s hsm f List.mem_cons_self (featureEq_name (by simpa using he))
    unfold dedupFeatures
    rw [hany]
    simp only [Bool.false_eq_true, if_false]
    rw [ih (seen ++ [f]) hn.2 (by
      intro s hsm g hg
      rcases List.mem_append.mp hsm with h | h
      · exact hs s h g (List.mem_cons_of_mem _ hg)
      · simp only [List.mem_singleton] at h
        subst h
        intro e
        exact hn.1 (List.mem_map.mpr ⟨g, hg, e.symm⟩))]

theorem allFeatures_of_nodup {t : TypeRec} (h : (fnames (t.own ++ t.inh)).Nodup) : allFeatures t = t.own ++ t.inh :=
  dedup_id _ [] h (fun s hs => by cases hs)

theorem FeatInv.coherent {ts : TypeSystem} (hf : FeatInv ts) {t : TypeRec} (ht : t ∈ ts.types) :
    ∀ x ∈ t.own ++ t.inh, ∀ y ∈ t.own ++ t.inh, x.name = y.name → featureEq x y = true := by
  intro x hx y hy e
  rcases List.mem_append.mp hx with hx | hx <;> rcases List.mem_append.mp hy with hy | hy
  · rw [Det.inj_of_nodup_map Feature.name _ (hf.ownNodup t ht) hx hy e]; exact featureEq_refl y
  · exact hf.compat t ht x hx y hy e
  · exact featureEq_symm (hf.compat t ht y hy x hx e.symm)
  · rw [Det.inj_of_nodup_map Feature.name _ (hf.inhNodup t ht) hx hy e]; exact featureEq_refl y

theorem effective_names_nodup_aux (ts : TypeSystem) (hf : FeatInv ts) (t : TypeRec) (ht : t ∈ ts.types) :
    (fnames (allFeatures t)).Nodup :=
  dedup_nodup _ _ (hf.coherent ht)

/-- the bookkeeping along one edge of the tree: `t` inherits, by name and definition, what its supertype `ps` offers -/
def EdgeOK (t ps : TypeRec) : Prop :=
  (∀ n, n ∈ fnames t.inh ↔ n ∈ fnames (allFeatures ps)) ∧
  (∀ g ∈ t.inh, ∀ f ∈ allFeatures ps, f.name = g.name → featureEq f g = true)

theorem EdgeOK.names {t ps : TypeRec} (h : EdgeOK t ps) (n : String) :
    n ∈ fnames t.inh ↔ n ∈ fnames ps.own ∨ n ∈ fnames ps.inh := by
  rw [h.1 n, mem_fnames_allFeatures]

/-- agreement with own ++ inh of the supertype instead of its deduplicated list -/
theorem EdgeOK.agree {t ps : TypeRec} (h : EdgeOK t ps) :
    ∀ g ∈ t.inh, ∀ f ∈ ps.own ++ ps.inh, f.name = g.name → featureEq f g = true := by
  intro g hg f hfm e
  obtain ⟨y, hy, hyf⟩ := allFeatures_cover hfm
  exact featureEq_trans (featureEq_symm hyf) (h.2 g hg y hy ((featureEq_name hyf).trans e))

theorem FeatInv.edge {ts : TypeSystem} (hf : FeatInv ts) {t ps : TypeRec} {s : String}
    (ht : t ∈ ts.types) (hs : t.super = some s) (hps : find? ts s = some ps) : EdgeOK t ps :=
  ⟨hf.inherit t ht s ps hs hps, hf.inheritEq t ht s ps hs hps⟩

theorem FeatInv.inheritEq' {ts : TypeSystem} (hf : FeatInv ts) {t ps : TypeRec} {s : String}
    (ht : t ∈ ts.types) (hs : t.super = some s) (hps : find? ts s = some ps) :
    ∀ g ∈ t.inh, ∀ f ∈ ps.own ++ ps.inh, f.name = g.name → featureEq f g = true :=
  (hf.edge ht hs hps).agree

theorem FeatInv.inherit' {ts : TypeSystem} (hf : FeatInv ts) {t ps : TypeRec} {s : String}
    (ht : t ∈ ts.types) (hs : t.super = some s) (hps : find? ts s = some ps) (n : String) :
    n ∈ fnames t.inh ↔ n ∈ fnames ps.own ∨ n ∈ fnames ps.inh :=
  (hf.edge ht hs hps).names n

/-- along an ancestor chain a definition is handed down (up to `featureEq`) -/
theorem chain_down {ts : TypeSystem} (hf : FeatInv ts) {a b : String} (hab : Anc ts a b) :
    ∀ {ta tb : TypeRec}, find? ts a = some ta → find? ts b = some tb →
    ∀ g ∈ ta.own ++ ta.inh, ∃ g' ∈ tb.own ++ tb.inh, featureEq g' g = true ∧ (a ≠ b → g' ∈ tb.inh) := by
  induction hab with
  | refl _ =>
    intro ta tb hta htb g hg
    rw [hta] at htb; cases htb
    exact ⟨g, hg, featureEq_refl g, fun h => absurd rfl h⟩
  | step b s tb' hfb hs hab' ih =>
    intro ta tb hta htb g hg
    have etb : tb = tb' := by rw [hfb] at htb; exact (Option.some.inj htb).symm
    rw [etb]
    obtain ⟨ps, hps⟩ := (hasExact_iff_find ts s).mp hab'.right_reg
    obtain ⟨g1, hg1, hg1g, _⟩ := ih hta hps g hg
    have hn : g1.name ∈ fnames tb'.inh := by
      rw [hf.inherit' (find?_mem hfb) hs hps]
      rw [← List.mem_append, ← fnames_append]
      exact mem_fnames_of_mem hg1
    obtain ⟨g2, hg2, e⟩ := mem_fnames.mp hn
    have h12 : featureEq g1 g2 = true :=
      hf.inheritEq' (find?_mem hfb) hs hps g2 hg2 g1 hg1 e.symm
    exact ⟨g2, List.mem_append_right _ hg2, featureEq_trans (featureEq_symm h12) hg1g, fun _ => hg2⟩

theorem featInvB_sound (ts : TypeSystem) (h : featInvB ts = true) : FeatInv ts := by
  unfold featInvB at h
  rw [List.all_eq_true] at h
  have h' : ∀ t ∈ ts.types,
      nodupB (fnames t.own) = true ∧ nodupB (fnames t.inh) = true ∧
      (∀ f ∈ t.own, ∀ g ∈ t.inh, f.name = g.name → featureEq f g = true) ∧
      (match t.super with
       | none => t.inh.isEmpty
       | some s => match find? ts s with
         | none => true
         | some ps =>
           (t.inh.all fun g => (fnames (allFeatures ps)).contains g.name) &&
           ((allFeatures ps).all fun f => (fnames t.inh).contains f.name) &&
           (t.inh.all fun g => (allFeatures ps).all fun f => !(f.name == g.name) || featureEq f g)) = true := by
    intro t ht
    have := h t ht
    simp only [Bool.and_eq_true] at this
    obtain ⟨⟨⟨h1, h2⟩, h3⟩, h4⟩ := this
    refine ⟨h1, h2, ?_, h4⟩
    intro f hf g hg e
    rw [List.all_eq_true] at h3
    have := h3 f hf
    rw [List.all_eq_true] at this
    have := this g hg
    simpa [e] using this
  refine ⟨fun t ht => nodupB_sound _ (h' t ht).1, fun t ht => nodupB_sound _ (h' t ht).2.1,
    fun t ht => (h' t ht).2.2.1, ?_, ?_, ?_⟩
  · intro t ht s ps hs hps n
    have := (h' t ht).2.2.2
    rw [hs] at this; simp only [hps, Bool.and_eq_true] at this
    obtain ⟨⟨h1, h2⟩, _⟩ := this
    rw [List.all_eq_true] at h1 h2
    constructor
    · intro hn
      obtain ⟨g, hg, e⟩ := mem_fnames.mp hn
      have := h1 g hg
      rw [e] at this; simpa using this
    · intro hn
      obtain ⟨f, hf, e⟩ := mem_fnames.mp hn
      have := h2 f hf
      rw [e] at this; simpa using this
  · intro t ht s ps hs hps g hg f hf e
    have := (h' t ht).2.2.2
    rw [hs] at this; simp only [hps, Bool.and_eq_true] at this
    obtain ⟨_, h3⟩ := this
    rw [List.all_eq_true] at h3
    have := h3 g hg
    rw [List.all_eq_true] at this
    have := this f hf
    simpa [e] using this
  · intro t ht hs
    have := (h' t ht).2.2.2
    rw [hs] at this
    simpa using this

/-- where `addCheck` looks the name up: an inherited feature among the inherited ones, an own one among all -/
def scope (t : TypeRec) : Bool → List Feature
  | true => t.inh
  | false => t.own ++ t.inh

/-- **`addCheck` in normal form**: one lookup by name in `scope` -/
theorem addCheck_eq (t : TypeRec) (f : Feature) (i : Bool) :
    addCheck t f i = match (scope t i).find? (·.name == f.name) with
      | some g => if featureEq g f then .same else .conflict
      | none => .fresh := by
  unfold addCheck scope
  cases i
  · simp only [Bool.false_eq_true, if_false, List.find?_append]
    cases t.own.find? (·.name == f.name) <;> rfl
  · simp only [if_true]
    cases t.inh.find? (·.name == f.name) <;> rfl

theorem addCheck_spec (t : TypeRec) (f : Feature) (i : Bool) :
    match addCheck t f i with
    | .fresh => f.name ∉ fnames (scope t i)
    | .same => ∃ g ∈ scope t i, g.name = f.name ∧ featureEq g f = true
    | .conflict => ∃ g ∈ scope t i, g.name = f.name ∧ featureEq g f = false := by
  rw [addCheck_eq]
  cases h : (scope t i).find? (·.name == f.name) with
  | none => exact find_name_none.mp h
  | some g =>
    dsimp only
    cases he : featureEq g f
    · exact ⟨g, (find_name_some h).1, (find_name_some h).2, he⟩
    · exact ⟨g, (find_name_some h).1, (find_name_some h).2, he⟩

theorem addCheck_fresh {t : TypeRec} {f : Feature} {i : Bool} (h : addCheck t f i = .fresh) :
    f.name ∉ fnames (scope t i) := by
  have := addCheck_spec t f i; rwa [h] at this

theorem addCheck_same {t : TypeRec} {f : Feature} {i : Bool} (h : addCheck t f i = .same) :
    ∃ g ∈ scope t i, g.name = f.name ∧ featureEq g f = true := by
  have := addCheck_spec t f i; rwa [h] at this

theorem addCheck_conflict {t : TypeRec} {f : Feature} {i : Bool} (h : addCheck t f i = .conflict) :
    ∃ g ∈ scope t i, g.name = f.name ∧ featureEq g f = false := by
  have := addCheck_spec t f i; rwa [h] at this

theorem addCheck_false_fresh {t : TypeRec} {f : Feature} (h : addCheck t f false = .fresh) :
    f.name ∉ fnames t.own ∧ f.name ∉ fnames t.inh := by
  have := addCheck_fresh h
  rw [show scope t false = t.own ++ t.inh from rfl, fnames_append, List.mem_append, not_or] at this
  exact this

theorem addCheck_true_of_not_mem {t : TypeRec} {f : Feature} (h : f.name ∉ fnames t.inh) :
    addCheck t f true = .fresh := by
  rw [addCheck_eq, show (scope t true).find? (·.name == f.name) = none from find_name_none.mpr h]

theorem addCheck_false_conflict {ts : TypeSystem} (hf : FeatInv ts) {t : TypeRec} (ht : t ∈ ts.types)
    {f g : Feature} (hg : g ∈ t.own ++ t.inh) (hn : g.name = f.name) (hne : featureEq g f = false) :
    addCheck t f false = .conflict := by
  have := addCheck_spec t f false
  cases h : addCheck t f false <;> rw [h] at this
  · -- a feature of the name that agrees with `f` would agree with `g`: the effective features are coherent
    obtain ⟨g1, hg1, e, he⟩ := this
    rw [featureEq_trans (hf.coherent ht g hg g1 hg1 (hn.trans e.symm)) he] at hne
    cases hne
  · exact absurd (hn ▸ mem_fnames_of_mem hg) this

theorem inheritAll_ok : ∀ (fs : List Feature) (t : TypeRec), (fnames fs).Nodup →
    (∀ n ∈ fnames fs, n ∉ fnames t.inh) → inheritAll fs t = .ok { t with inh := t.inh ++ fs } := by
  intro fs
  induction fs with
  | nil => intro t _ _; unfold inheritAll; simp
  | cons f fs ih =>
    intro t hn hd
    have hfresh : addCheck t f true = .fresh :=
      addCheck_true_of_not_mem (hd f.name (by simp [fnames]))
    unfold inheritAll
    rw [hfresh]
    simp only
    simp only [fnames, List.map_cons, List.nodup_cons] at hn
    rw [ih { t with inh := t.inh ++ [f] } hn.2 (by
      intro n hnm
      simp only [fnames_append, List.mem_append, not_or]
      refine ⟨hd n (by simp only [fnames, List.map_cons]; exact List.mem_cons_of_mem _ hnm), ?_⟩
      simp only [fnames, List.map_cons, List.map_nil, List.mem_singleton]
      intro e; subst e; exact hn.1 hnm)]
    simp

@[simp] theorem upd_own (sup n : String) (t : TypeRec) : (upd sup n t).own = t.own := by
  unfold upd; split <;> rfl
@[simp] theorem upd_inh (sup n : String) (t : TypeRec) : (upd sup n t).inh = t.inh := by
  unfold upd; split <;> rfl
theorem upd_children_ne {sup n : String} {t : TypeRec} (h : t.name ≠ sup) : (upd sup n t).children = t.children := by
  simp [upd, h]

@[simp] theorem allFeatures_upd (sup n : String) (t : TypeRec) :
    allFeatures (upd sup n t) = allFeatures t := by
  unfold allFeatures; rw [upd_own, upd_inh]

/-- the table after a successful `createType` of the fresh name `n` below `s`, record by record: the records of `ts` with
    `n` entered among the children of `s` (`upd`), then the record `new` -/
structure Created (ts : TypeSystem) (n s : String) (new : TypeRec) (ts' : TypeSystem) : Prop where
  fresh : hasExact ts n = false
  name : new.name = n
  types : ts'.types = ts.types.map (upd s n) ++ [new]
  red : ts'.redeclared = ts.redeclared

section
variable {ts ts' : TypeSystem} {n s : String} {nw : TypeRec}

theorem Created.find (C : Created ts n s nw ts') (x : String) :
    find? ts' x = if x = n then some nw else (find? ts x).map (upd s n) := by
  obtain ⟨types', red⟩ := ts'
  obtain ⟨hn, hnm, rfl, _⟩ := C
  exact find_create ts red n s nw hnm hn x

theorem Created.new (C : Created ts n s nw ts') : find? ts' n = some nw := by rw [C.find, if_pos rfl]

theorem Created.ne (C : Created ts n s nw ts') {x : String} {t : TypeRec} (hx : find? ts x = some t) : x ≠ n :=
  fun e => by rw [e, find?_none_of_not_has C.fresh] at hx; cases hx

theorem Created.old (C : Created ts n s nw ts') {x : String} {t : TypeRec} (hx : find? ts x = some t) :
    find? ts' x = some (upd s n t) := by rw [C.find, if_neg (C.ne hx), hx]; rfl

theorem Created.mem (C : Created ts n s nw ts') {t' : TypeRec} :
    t' ∈ ts'.types ↔ (∃ t ∈ ts.types, upd s n t = t') ∨ t' = nw := by
  rw [C.types, List.mem_append, List.mem_map, List.mem_singleton]

theorem Created.cases (C : Created ts n s nw ts') {x : String} {t' : TypeRec} (hx : find? ts' x = some t') :
    (x = n ∧ t' = nw) ∨ (x ≠ n ∧ ∃ t, find? ts x = some t ∧ t' = upd s n t) := by
  rw [C.find] at hx
  split at hx
  · rename_i e; exact Or.inl ⟨e, (Option.some.inj hx).symm⟩
  · rename_i e
    obtain ⟨t, ht, e'⟩ := Option.map_eq_some_iff.mp hx
    exact Or.inr ⟨e, t, ht, e'.symm⟩

end

theorem createType_created (K : Consts) (ts ts' : TypeSystem) (n s : String) (d : Option String)
    (hc : Consistent ts) (hf : FeatInv ts) (hnew : hasExact ts n = false) (h : createType K ts n s d = .ok ts') :
    ∃ sup, getType ts s = .ok sup ∧ sup ∈ ts.types ∧ K.finalTypes.contains sup.name = false ∧
      Created ts n sup.name { name := n, super := some sup.name, descr := d, inh := allFeatures sup } ts' := by
  obtain ⟨sup', _, hsup', hnf, _⟩ := createType_inv K ts ts' n s d h
  obtain ⟨sup, new, hsup, hsm, hinh, rfl⟩ := createType_eq K ts ts' n s d hc hnew h
  rw [inheritAll_ok _ _ (effective_names_nodup_aux ts hf sup hsm) (fun m _ hm => by cases hm)] at hinh
  cases hinh
  obtain rfl : sup = sup' := Except.ok.inj (hsup.symm.trans hsup')
  exact ⟨sup, hsup, hsm, hnf, hnew, rfl, rfl, rfl⟩

theorem createType_created_at (K : Consts) (ts ts' : TypeSystem) (n s : String) (d : Option String) (sup : TypeRec)
    (hc : Consistent ts) (hf : FeatInv ts) (hnew : hasExact ts n = false) (hsup : find? ts s = some sup)
    (h : createType K ts n s d = .ok ts') :
    K.finalTypes.contains s = false ∧
      Created ts n s { name := n, super := some s, descr := d, inh := allFeatures sup } ts' := by
  obtain ⟨sup', hsup', _, hnf, C⟩ := createType_created K ts ts' n s d hc hf hnew h
  rw [getType_of_find hsup] at hsup'
  cases hsup'
  rw [find?_name hsup] at hnf C
  exact ⟨hnf, C⟩

theorem createType_succeeds (K : Consts) (ts : TypeSystem) (n s : String) (d : Option String) (sup : TypeRec)
    (hf : FeatInv ts) (hnew : hasExact ts n = false) (hsup : find? ts s = some sup)
    (hnf : K.finalTypes.contains s = false) : ∃ ts', createType K ts n s d = .ok ts' := by
  have hsn : sup.name = s := find?_name hsup
  have hia := inheritAll_ok (allFeatures sup) { name := n, super := some sup.name, descr := d }
    (effective_names_nodup_aux ts hf sup (find?_mem hsup)) (by intro m _; simp [fnames])
  unfold createType
  simp only [hnf, hnew, getType_of_find hsup, hsn, bind, Except.bind, pure, Except.pure, Bool.false_eq_true,
    if_false, Bool.false_and]
  rw [hsn] at hia
  rw [hia]
  exact ⟨_, rfl⟩

/-- the feature invariant after a `createType`: the new record owns nothing and inherits the effective features of its
    supertype -/
theorem Created.featInv {ts ts' : TypeSystem} {n : String} {sup new : TypeRec} (C : Created ts n sup.name new ts')
    (hc : Consistent ts) (hf : FeatInv ts) (hsm : sup ∈ ts.types) (hs1 : new.super = some sup.name)
    (ho : new.own = []) (hi : new.inh = allFeatures sup) : FeatInv ts' := by
  have hnew := C.fresh
  have hfind := C.find
  have hfs : find? ts sup.name = some sup := find?_of_mem hc.nodup hsm
  have hsn : sup.name ≠ n := by
    intro e; rw [e] at hfs; rw [find?_none_of_not_has hnew] at hfs; cases hfs
  have hmem : ∀ t' ∈ ts'.types, (∃ t0 ∈ ts.types, upd sup.name n t0 = t') ∨ t' = new := fun _ => C.mem.mp
  have hsup_old : ∀ t0 ∈ ts.types, ∀ s0 ps', t0.super = some s0 → find? ts' s0 = some ps' →
      ∃ ps, find? ts s0 = some ps ∧ ps' = upd sup.name n ps := by
    intro t0 ht0 s0 ps' hs0 hps'
    have hreg := hc.superReg t0 ht0 s0 hs0
    have hne : s0 ≠ n := by intro e; rw [e, hnew] at hreg; cases hreg
    rw [hfind, if_neg hne] at hps'
    obtain ⟨ps, hps, e⟩ := Option.map_eq_some_iff.mp hps'
    exact ⟨ps, hps, e.symm⟩
  have hsup_new : ∀ ps', find? ts' sup.name = some ps' → ps' = upd sup.name n sup := by
    intro ps' hps'
    rw [hfind, if_neg hsn, hfs] at hps'
    exact (Option.some.inj hps').symm
  refine ⟨?_, ?_, ?_, ?_, ?_, ?_⟩
  · intro t' ht'
    rcases hmem t' ht' with ⟨t0, ht0, rfl⟩ | rfl
    · rw [upd_own]; exact hf.ownNodup t0 ht0
    · rw [ho]; simp [fnames]
  · intro t' ht'
    rcases hmem t' ht' with ⟨t0, ht0, rfl⟩ | rfl
    · rw [upd_inh]; exact hf.inhNodup t0 ht0
    · rw [hi]; exact effective_names_nodup_aux ts hf sup hsm
  · intro t' ht'
    rcases hmem t' ht' with ⟨t0, ht0, rfl⟩ | rfl
    · rw [upd_own, upd_inh]; exact hf.compat t0 ht0
    · rw [ho]; intro f hfm; cases hfm
  · intro t' ht' s0 ps' hs0 hps' m
    rcases hmem t' ht' with ⟨t0, ht0, rfl⟩ | rfl
    · rw [upd_super] at hs0
      obtain ⟨ps, hps, rfl⟩ := hsup_old t0 ht0 s0 ps' hs0 hps'
      rw [upd_inh, allFeatures_upd]
      exact hf.inherit t0 ht0 s0 ps hs0 hps m
    · rw [hs1] at hs0
      simp only [Option.some.injEq] at hs0
      subst hs0
      rw [hsup_new ps' hps', allFeatures_upd, hi]
  · intro t' ht' s0 ps' hs0 hps' g hg f hfm e
    rcases hmem t' ht' with ⟨t0, ht0, rfl⟩ | rfl
    · rw [upd_super] at hs0
      obtain ⟨ps, hps, rfl⟩ := hsup_old t0 ht0 s0 ps' hs0 hps'
      rw [upd_inh] at hg
      rw [allFeatures_upd] at hfm
      exact hf.inheritEq t0 ht0 s0 ps hs0 hps g hg f hfm e
    · rw [hs1] at hs0
      simp only [Option.some.injEq] at hs0
      subst hs0
      rw [hsup_new ps' hps', allFeatures_upd] at hfm
      rw [hi] at hg
      rw [Det.inj_of_nodup_map Feature.name _ (effective_names_nodup_aux ts hf sup hsm) hfm hg e]
      exact featureEq_refl g
  · intro t' ht' hs0
    rcases hmem t' ht' with ⟨t0, ht0, rfl⟩ | rfl
    · rw [upd_super] at hs0; rw [upd_inh]; exact hf.rootInh t0 ht0 hs0
    · rw [hs1] at hs0; cases hs0

theorem find?_setRec (ts : TypeSystem) (r : TypeRec) (x : String) :
    find? (setRec ts r) x = (find? ts x).map (fun t => if t.name == r.name then r else t) :=
  find_map_of_name ts ts.redeclared _ (fun t => by split <;> simp_all) x

theorem find?_setRec_ne (ts : TypeSystem) (r : TypeRec) {x : String} (hx : x ≠ r.name) :
    find? (setRec ts r) x = find? ts x := by
  rw [find?_setRec]
  cases h : find? ts x with
  | none => rfl
  | some t =>
    have : (t.name == r.name) = false := by rw [find?_name h]; simpa using hx
    rw [Option.map_some, this]; rfl

theorem find?_setRec_eq (ts : TypeSystem) (r t : TypeRec) {x : String} (hx : r.name = x)
    (h : find? ts x = some t) : find? (setRec ts r) x = some r := by
  rw [find?_setRec, h]
  simp [find?_name h, hx]

/-! ### What `pushInherited` does to a record -/

/-- one record before and after: untouched, or `f` appended to the inherited features (only if the
    name was not inherited yet, and only below one of the types in `S`) -/
def PStep (ts0 : TypeSystem) (f : Feature) (S : List String) (x : String) (t t' : TypeRec) : Prop :=
  t' = t ∨ (t' = { t with inh := t.inh ++ [f] } ∧ f.name ∉ fnames t.inh ∧ ∃ c ∈ S, Anc ts0 c x)

theorem PStep.mono {ts0 : TypeSystem} {f : Feature} {S S' : List String} {x : String} {t t' : TypeRec}
    (h : PStep ts0 f S x t t') (hS : ∀ c ∈ S, Anc ts0 c x → ∃ c' ∈ S', Anc ts0 c' x) :
    PStep ts0 f S' x t t' := by
  rcases h with h | ⟨h1, h2, c, hc, hcx⟩
  · exact Or.inl h
  · exact Or.inr ⟨h1, h2, hS c hc hcx⟩

theorem PStep.comp {ts0 : TypeSystem} {f : Feature} {S : List String} {x : String} {t t1 t2 : TypeRec}
    (h1 : PStep ts0 f S x t t1) (h2 : PStep ts0 f S x t1 t2) : PStep ts0 f S x t t2 := by
  rcases h1 with rfl | ⟨e1, hn1, hS1⟩
  · exact h2
  · rcases h2 with rfl | ⟨e2, hn2, _⟩
    · exact Or.inr ⟨e1, hn1, hS1⟩
    · exfalso
      apply hn2
      rw [e1]
      simp [fnames]

theorem PStep.inh_mem {ts0 : TypeSystem} {f : Feature} {S : List String} {x : String} {t t' : TypeRec}
    (h : PStep ts0 f S x t t') {n : String} (hn : n ∈ fnames t.inh) : n ∈ fnames t'.inh := by
  rcases h with rfl | ⟨e, _, _⟩
  · exact hn
  · rw [e]; simp only [fnames_append, List.mem_append]; exact Or.inl hn

/-- every name `y` inherits is inherited by everything below `y` -/
def DownOK (ts : TypeSystem) (y : String) : Prop :=
  ∀ x, Anc ts y x → ∀ ty tx, find? ts y = some ty → find? ts x = some tx → ∀ n ∈ fnames ty.inh, n ∈ fnames tx.inh

/-- what a successful push does to every record.  `W` for the weak hypothesis: of the feature invariant only `DownOK`
    inside the visited subtrees is assumed, so the lemma also serves a caller whose table violates `FeatInv` above them
    (the merge, while it re-parents a type: `Proofs/MergeFeatInvPush.lean`) -/
theorem push_specW (ts0 : TypeSystem) (hc0 : Consistent ts0) (f : Feature)
    (fuel : Nat) (ts : TypeSystem) (cs : List String) :
    ∀ ts' a, skel ts = skel ts0 →
      (∀ c ∈ cs, ∃ tc, find? ts0 c = some tc ∧ tc.super = some a) → cs.Nodup →
      (∀ c ∈ cs, ∀ x, Anc ts0 c x → find? ts x = find? ts0 x) →
      (∀ c ∈ cs, ∀ y, Anc ts0 c y → DownOK ts0 y) →
      pushInherited f fuel ts cs = .ok ts' →
      (∀ x t, find? ts x = some t → ∃ t', find? ts' x = some t' ∧ PStep ts0 f cs x t t') ∧
      (∀ c ∈ cs, ∀ x, Anc ts0 c x → ∀ t', find? ts' x = some t' → f.name ∈ fnames t'.inh) := by
  fun_induction pushInherited f fuel ts cs with
  | case1 => intro ts' a _ _ _ _ _ h; cases h
  | case2 =>
    intro ts' a _ _ _ _ _ h; cases h
    exact ⟨fun x t hx => ⟨t, hx, Or.inl rfl⟩, fun c hc => by cases hc⟩
  | case3 fuel ts c cs hf ih =>
    intro ts' a _ hsib _ hunt _ h
    obtain ⟨tc, htc, _⟩ := hsib c List.mem_cons_self
    have := hunt c List.mem_cons_self c (Anc.refl c ((hasExact_iff_find ts0 c).mpr ⟨tc, htc⟩))
    rw [hf, htc] at this; cases this
  | case4 => intro ts' a _ _ _ _ _ h; cases h
  | case5 fuel ts c cs t hf hchk ih =>
    intro ts' a hsk hsib hnd hunt hdown h
    obtain ⟨tc, htc, hsc⟩ := hsib c List.mem_cons_self
    have hregc : hasExact ts0 c = true := (hasExact_iff_find ts0 c).mpr ⟨tc, htc⟩
    have etc : tc = t := by
      have := hunt c List.mem_cons_self c (Anc.refl c hregc)
      rw [hf, htc] at this; exact (Option.some.inj this).symm
    subst etc
    obtain ⟨Pb, Pc⟩ := ih ts' a hsk (fun c' hc' => hsib c' (List.mem_cons_of_mem _ hc'))
      (List.nodup_cons.mp hnd).2 (fun c' hc' => hunt c' (List.mem_cons_of_mem _ hc'))
      (fun c' hc' => hdown c' (List.mem_cons_of_mem _ hc')) h
    refine ⟨?_, ?_⟩
    · intro x t hx
      obtain ⟨t', ht', hst⟩ := Pb x t hx
      exact ⟨t', ht', hst.mono (fun c' hc' hcx => ⟨c', List.mem_cons_of_mem _ hc', hcx⟩)⟩
    · intro c' hc' x hcx t' ht'
      rcases List.mem_cons.mp hc' with rfl | hc'
      · obtain ⟨g, hg, hgn, hgf⟩ := addCheck_same hchk
        obtain ⟨tx, htx⟩ := (hasExact_iff_find ts0 x).mp hcx.right_reg
        have hxs : find? ts x = some tx := by
          rw [hunt c' List.mem_cons_self x hcx]; exact htx
        have hmem : f.name ∈ fnames tx.inh :=
          hdown c' List.mem_cons_self c' (Anc.refl c' hregc) x hcx tc tx htc htx f.name
            (by rw [← hgn]; exact mem_fnames_of_mem hg)
        obtain ⟨t'', ht'', hst⟩ := Pb x tx hxs
        rw [ht'] at ht''; cases ht''
        exact hst.inh_mem hmem
      · exact Pc c' hc' x hcx t' ht'
  | case6 fuel ts c cs t hf hchk ts1 ih2 ih1 =>
    intro ts' a hsk hsib hnd hunt hdown h
    obtain ⟨tc, htc, hsc⟩ := hsib c List.mem_cons_self
    have hregc : hasExact ts0 c = true := (hasExact_iff_find ts0 c).mpr ⟨tc, htc⟩
    have etc : tc = t := by
      have := hunt c List.mem_cons_self c (Anc.refl c hregc)
      rw [hf, htc] at this; exact (Option.some.inj this).symm
    subst etc
    have hfresh := addCheck_fresh hchk
    have hn : (ts.types.map (·.name)).Nodup := nodup_of_skel hsk hc0.nodup
    have htn : tc.name = c := find?_name hf
    have hsk1 : skel ts1 = skel ts := by
      apply skel_setRec ts _ tc hn
      · show find? ts tc.name = some tc
        rw [htn]; exact hf
      · rfl
    have hf1ne : ∀ x, x ≠ c → find? ts1 x = find? ts x := by
      intro x hx
      apply find?_setRec_ne
      show x ≠ tc.name
      rw [htn]; exact hx
    have hf1eq : find? ts1 c = some { tc with inh := tc.inh ++ [f] } :=
      find?_setRec_eq ts { tc with inh := tc.inh ++ [f] } tc htn hf
    have hcnot : c ∉ cs := (List.nodup_cons.mp hnd).1
    cases h2 : pushInherited f fuel ts1 tc.children with
    | error e => rw [h2] at h; cases h
    | ok ts2 =>
      rw [h2] at h
      have hchild : ∀ d ∈ tc.children, ∃ td, find? ts0 d = some td ∧ td.super = some c :=
        fun d hd => (hc0.link c d).mp ⟨tc, htc, hd⟩
      obtain ⟨P1b, P1c⟩ := ih2 ts2 c (hsk1.trans hsk) hchild (hc0.childNodup tc (find?_mem htc))
        (by
          intro d hd x hdx
          obtain ⟨td, htd, hsd⟩ := hchild d hd
          have hxc : x ≠ c := by
            intro e; subst e; exact not_anc_of_super hc0 htd hsd hdx
          rw [hf1ne x hxc]
          exact hunt c List.mem_cons_self x (Anc.of_child hregc htd hsd hdx))
        (by
          intro d hd y hdy
          obtain ⟨td, htd, hsd⟩ := hchild d hd
          exact hdown c List.mem_cons_self y (Anc.of_child hregc htd hsd hdy)) h2
      have hsk2 : skel ts2 = skel ts1 :=
        frame_skel.push trivial fuel ts1 tc.children ts2 h2 (nodup_of_skel hsk1 hn)
      obtain ⟨P2b, P2c⟩ := ih1 ts2 ts' a (hsk2.trans (hsk1.trans hsk))
        (fun c' hc' => hsib c' (List.mem_cons_of_mem _ hc')) (List.nodup_cons.mp hnd).2
        (by
          intro c2 hc2 x hx
          obtain ⟨t2, hfc2, hs2⟩ := hsib c2 (List.mem_cons_of_mem _ hc2)
          have hx0 := hunt c2 (List.mem_cons_of_mem _ hc2) x hx
          obtain ⟨tx, htx⟩ := (hasExact_iff_find ts0 x).mp hx.right_reg
          have hdis : ¬ Anc ts0 c x := by
            intro hcx
            have := children_disjoint hc0 hfc2 hs2 htc hsc hx hcx
            subst this; exact hcnot hc2
          have hxc : x ≠ c := by
            intro e; subst e; exact hdis (Anc.refl x hregc)
          have h1x : find? ts1 x = some tx := by rw [hf1ne x hxc, hx0, htx]
          obtain ⟨t', ht', hst⟩ := P1b x tx h1x
          rcases hst with rfl | ⟨_, _, d, hd, hdx⟩
          · rw [ht', htx]
          · obtain ⟨td, htd, hsd⟩ := hchild d hd
            exact absurd (Anc.of_child hregc htd hsd hdx) hdis)
        (fun c' hc' => hdown c' (List.mem_cons_of_mem _ hc')) h
      refine ⟨?_, ?_⟩
      · intro x tx hx
        have hs0 : ∃ t1, find? ts1 x = some t1 ∧ PStep ts0 f (c :: cs) x tx t1 := by
          by_cases hxc : x = c
          · subst hxc
            rw [hf] at hx; cases hx
            exact ⟨_, hf1eq, Or.inr ⟨rfl, hfresh, x, List.mem_cons_self, Anc.refl x hregc⟩⟩
          · exact ⟨tx, by rw [hf1ne x hxc]; exact hx, Or.inl rfl⟩
        obtain ⟨t1, ht1, hst0⟩ := hs0
        obtain ⟨t2, ht2, hst1⟩ := P1b x t1 ht1
        obtain ⟨t3, ht3, hst2⟩ := P2b x t2 ht2
        refine ⟨t3, ht3, (hst0.comp (hst1.mono ?_)).comp (hst2.mono ?_)⟩
        · intro d hd hdx
          obtain ⟨td, htd, hsd⟩ := hchild d hd
          exact ⟨c, List.mem_cons_self, Anc.of_child hregc htd hsd hdx⟩
        · intro c' hc' hcx
          exact ⟨c', List.mem_cons_of_mem _ hc', hcx⟩
      · intro c' hc' x hcx t' ht'
        rcases List.mem_cons.mp hc' with rfl | hc'
        · have h2x : ∃ t2, find? ts2 x = some t2 ∧ f.name ∈ fnames t2.inh := by
            rcases hcx.down with e | ⟨d, td, htd, hsd, hdx⟩
            · subst e
              obtain ⟨t2, ht2, hst1⟩ := P1b c' _ hf1eq
              refine ⟨t2, ht2, hst1.inh_mem ?_⟩
              simp [fnames]
            · have hd : d ∈ tc.children := by
                obtain ⟨ta, hta, hm⟩ := (hc0.link c' d).mpr ⟨td, htd, hsd⟩
                rw [htc] at hta; cases hta; exact hm
              have hreg2 : hasExact ts2 x = true := by
                rw [hasExact_transfer (hsk2.trans (hsk1.trans hsk))]; exact hcx.right_reg
              obtain ⟨t2, ht2⟩ := (hasExact_iff_find ts2 x).mp hreg2
              exact ⟨t2, ht2, P1c d hd x hdx t2 ht2⟩
          obtain ⟨t2, ht2, hm2⟩ := h2x
          obtain ⟨t3, ht3, hst2⟩ := P2b x t2 ht2
          rw [ht'] at ht3; cases ht3
          exact hst2.inh_mem hm2
        · exact P2c c' hc' x hcx t' ht'

theorem downOK_of_featInv {ts : TypeSystem} (hf : FeatInv ts) (y : String) : DownOK ts y := by
  intro x hyx ty tx hty htx n hn
  by_cases e : y = x
  · subst e; rw [hty] at htx; cases htx; exact hn
  · obtain ⟨g, hg, rfl⟩ := mem_fnames.mp hn
    obtain ⟨g', _, hgg, hg'⟩ := chain_down hf hyx hty htx g (List.mem_append_right _ hg)
    exact featureEq_name hgg ▸ mem_fnames_of_mem (hg' e)

/-! ### `addFeature`: what it computes -/

theorem frame_redeclared : FeatFrame (fun _ => True) (fun a b => b.redeclared = a.redeclared) :=
  ⟨⟨fun _ => rfl, fun h1 h2 => h2.trans h1, fun _ _ _ _ _ _ => rfl⟩, fun _ _ _ _ _ _ => rfl⟩

/-- the result of a successful `addFeature` of a fresh name, record by record -/
structure AddTarget (ts0 : TypeSystem) (dom : String) (f : Feature) (ts' : TypeSystem) : Prop where
  skel : skel ts' = skel ts0
  red : ts'.redeclared = ts0.redeclared
  recs : ∀ x t, find? ts0 x = some t → ∃ t', find? ts' x = some t' ∧
    (x = dom → t' = { t with own := t.own ++ [f] }) ∧
    (x ≠ dom → PStep ts0 f [dom] x t t') ∧
    (x ≠ dom → Anc ts0 dom x → f.name ∈ fnames t'.inh)

theorem addFeature_target {ts ts' : TypeSystem} {dom : String} {f : Feature} {t : TypeRec}
    (hc : Consistent ts) (hf : FeatInv ts) (ht : find? ts dom = some t)
    (h : pushInherited f (ts.types.length + 1) (setRec ts { t with own := t.own ++ [f] }) t.children
          = .ok ts') : AddTarget ts dom f ts' := by
  have htn : t.name = dom := find?_name ht
  have hreg : hasExact ts dom = true := (hasExact_iff_find ts dom).mpr ⟨t, ht⟩
  have hsk1 : skel (setRec ts { t with own := t.own ++ [f] }) = skel ts := by
    apply skel_setRec ts _ t hc.nodup
    · show find? ts t.name = some t
      rw [htn]; exact ht
    · rfl
  have hf1ne : ∀ x, x ≠ dom → find? (setRec ts { t with own := t.own ++ [f] }) x = find? ts x := by
    intro x hx
    apply find?_setRec_ne
    show x ≠ t.name
    rw [htn]; exact hx
  have hf1eq : find? (setRec ts { t with own := t.own ++ [f] }) dom = some { t with own := t.own ++ [f] } :=
    find?_setRec_eq ts { t with own := t.own ++ [f] } t htn ht
  have hchild : ∀ d ∈ t.children, ∃ td, find? ts d = some td ∧ td.super = some dom :=
    fun d hd => (hc.link dom d).mp ⟨t, ht, hd⟩
  have hnotdom : ∀ d ∈ t.children, ¬ Anc ts d dom := by
    intro d hd hdx
    obtain ⟨td, htd, hsd⟩ := hchild d hd
    exact not_anc_of_super hc htd hsd hdx
  obtain ⟨Pb, Pc⟩ := push_specW ts hc f _ _ _ ts' dom hsk1 hchild (hc.childNodup t (find?_mem ht))
    (by
      intro d hd x hdx
      have hxc : x ≠ dom := by
        intro e; subst e; exact hnotdom d hd hdx
      exact hf1ne x hxc) (fun _ _ y _ => downOK_of_featInv hf y) h
  refine ⟨(frame_skel.push trivial _ _ _ ts' h (nodup_of_skel hsk1 hc.nodup)).trans hsk1,
    by rw [frame_redeclared.push trivial _ _ _ ts' h]; rfl, ?_⟩
  intro x tx hx
  by_cases hxd : x = dom
  · subst hxd
    rw [ht] at hx; cases hx
    obtain ⟨t', ht', hst⟩ := Pb x _ hf1eq
    refine ⟨t', ht', ?_, fun h => absurd rfl h, fun h => absurd rfl h⟩
    intro _
    rcases hst with e | ⟨_, _, d, hd, hdx⟩
    · exact e
    · exact absurd hdx (hnotdom d hd)
  · obtain ⟨t', ht', hst⟩ := Pb x tx (by rw [hf1ne x hxd]; exact hx)
    refine ⟨t', ht', fun h => absurd h hxd, fun _ => hst.mono ?_, ?_⟩
    · intro d hd hdx
      obtain ⟨td, htd, hsd⟩ := hchild d hd
      exact ⟨dom, List.mem_cons_self, Anc.of_child hreg htd hsd hdx⟩
    · intro _ hax
      rcases hax.down with e | ⟨d, td, htd, hsd, hdx⟩
      · exact absurd e.symm hxd
      · have hd : d ∈ t.children := by
          obtain ⟨ta, hta, hm⟩ := (hc.link dom d).mpr ⟨td, htd, hsd⟩
          rw [ht] at hta; cases hta; exact hm
        exact Pc d hd x hdx t' ht'

theorem AddTarget.cases {ts0 ts' : TypeSystem} {dom : String} {f : Feature}
    (hT : AddTarget ts0 dom f ts') {x : String} {t t' : TypeRec}
    (hx : find? ts0 x = some t) (hx' : find? ts' x = some t') :
    (x = dom ∧ t' = { t with own := t.own ++ [f] }) ∨
    (x ≠ dom ∧ Anc ts0 dom x ∧ f.name ∉ fnames t.inh ∧ t' = { t with inh := t.inh ++ [f] }) ∨
    (x ≠ dom ∧ t' = t ∧ (Anc ts0 dom x → f.name ∈ fnames t.inh)) := by
  obtain ⟨t'', ht'', h1, h2, h3⟩ := hT.recs x t hx
  rw [hx'] at ht''; cases ht''
  by_cases hxd : x = dom
  · exact Or.inl ⟨hxd, h1 hxd⟩
  · right
    rcases h2 hxd with e | ⟨e, hn, c, hc, hcx⟩
    · right
      refine ⟨hxd, e, fun ha => ?_⟩
      have := h3 hxd ha
      rw [e] at this; exact this
    · left
      simp only [List.mem_singleton] at hc; subst hc
      exact ⟨hxd, hcx, hn, e⟩

theorem noConflict_of {ts : TypeSystem} (hc : Consistent ts) (hf : FeatInv ts) {dom : String} {f : Feature}
    (hreg : hasExact ts dom = true) (hdc : descendantConflict ts dom f = false)
    {x : String} {tx : TypeRec} {g : Feature} (hax : Anc ts dom x) (hxd : x ≠ dom)
    (htx : find? ts x = some tx) (hg : g ∈ tx.own) (hgn : g.name = f.name) : featureEq g f = true := by
  unfold descendantConflict at hdc
  have hall := List.any_eq_false.mp hdc x ((descendants_eq_closure ts hc dom x hreg).mpr hax)
  have hfind : tx.own.find? (·.name == f.name) = some g := by
    rw [← hgn]; exact find_name_of_mem (hf.ownNodup tx (find?_mem htx)) hg
  have hne : (x != dom) = true := by simpa using hxd
  simp only [htx, hfind, hne, Bool.true_and] at hall
  simpa using hall

/-- what a push of `f` has done, record by record: the records named by `O` gained `f` as own feature, those named by `B`
    (the region below) as inherited feature unless they had the name; and no record of the region owns another definition
    of the name (what `descendantConflict` tests before the push) -/
structure Pushed (ts0 ts' : TypeSystem) (f : Feature) (O B : String → Prop) : Prop where
  skel : skel ts' = skel ts0
  cases : ∀ {x t t'}, find? ts0 x = some t → find? ts' x = some t' →
    (O x ∧ ¬ B x ∧ f.name ∉ fnames t.own ∧ f.name ∉ fnames t.inh ∧ t' = { t with own := t.own ++ [f] }) ∨
    (¬ O x ∧ B x ∧ f.name ∉ fnames t.inh ∧ t' = { t with inh := t.inh ++ [f] }) ∨
    (¬ O x ∧ t' = t ∧ (B x → f.name ∈ fnames t.inh))
  noConf : ∀ {x tx g}, B x → find? ts0 x = some tx → g ∈ tx.own → g.name = f.name → featureEq g f = true

namespace Pushed
variable {ts0 ts' : TypeSystem} {f : Feature} {O B : String → Prop} (hT : Pushed ts0 ts' f O B)
include hT

theorem back (hc : Consistent ts0) {t' : TypeRec} (ht' : t' ∈ ts'.types) :
    ∃ t, find? ts0 t'.name = some t ∧ find? ts' t'.name = some t' ∧ t.super = t'.super :=
  find?_back hT.skel hc.nodup ht'

theorem mem_own {x t t'} (hx : find? ts0 x = some t) (hx' : find? ts' x = some t') {g} (hg : g ∈ t'.own) :
    g ∈ t.own ∨ (O x ∧ f.name ∉ fnames t.own ∧ f.name ∉ fnames t.inh ∧ g = f) := by
  rcases hT.cases hx hx' with ⟨h1, _, h2, h3, e⟩ | ⟨_, _, _, e⟩ | ⟨_, e, _⟩ <;> rw [e] at hg
  · exact (List.mem_append.mp hg).imp id fun h => ⟨h1, h2, h3, by simpa using h⟩
  · exact Or.inl hg
  · exact Or.inl hg

theorem mem_inh {x t t'} (hx : find? ts0 x = some t) (hx' : find? ts' x = some t') {g} (hg : g ∈ t'.inh) :
    g ∈ t.inh ∨ (B x ∧ f.name ∉ fnames t.inh ∧ g = f) := by
  rcases hT.cases hx hx' with ⟨_, _, _, _, e⟩ | ⟨_, h2, h3, e⟩ | ⟨_, e, _⟩ <;> rw [e] at hg
  · exact Or.inl hg
  · exact (List.mem_append.mp hg).imp id fun h => ⟨h2, h3, by simpa using h⟩
  · exact Or.inl hg

theorem names_inh {x t t'} (hx : find? ts0 x = some t) (hx' : find? ts' x = some t') (n : String) :
    n ∈ fnames t'.inh ↔ n ∈ fnames t.inh ∨ (B x ∧ n = f.name) := by
  rcases hT.cases hx hx' with ⟨_, h2, _, _, rfl⟩ | ⟨_, h2, _, rfl⟩ | ⟨_, rfl, h3⟩
  · exact ⟨Or.inl, fun h => h.elim id fun h => absurd h.1 h2⟩
  · simp [fnames, h2]
  · exact ⟨Or.inl, fun h => h.elim id fun ⟨ha, e⟩ => e ▸ h3 ha⟩

theorem names_eff {x t t'} (hx : find? ts0 x = some t) (hx' : find? ts' x = some t') (n : String) :
    (n ∈ fnames t'.own ∨ n ∈ fnames t'.inh) ↔ (n ∈ fnames t.own ∨ n ∈ fnames t.inh) ∨ ((O x ∨ B x) ∧ n = f.name) := by
  rw [hT.names_inh hx hx' n]
  rcases hT.cases hx hx' with ⟨h1, _, _, _, rfl⟩ | ⟨h1, _, _, rfl⟩ | ⟨h1, rfl, _⟩
  · have : n ∈ fnames (t.own ++ [f]) ↔ n ∈ fnames t.own ∨ n = f.name := by simp [fnames]
    rw [this]
    constructor
    · rintro ((h | h) | h | h)
      · exact .inl (.inl h)
      · exact .inr ⟨.inl h1, h⟩
      · exact .inl (.inr h)
      · exact .inr ⟨.inl h1, h.2⟩
    · rintro ((h | h) | h)
      · exact .inl (.inl h)
      · exact .inr (.inl h)
      · exact .inl (.inr h.2)
  · simp only [h1, false_or, or_assoc]
  · simp only [h1, false_or, or_assoc]

theorem records (hc : Consistent ts0)
    (own : ∀ t ∈ ts0.types, (fnames t.own).Nodup) (inh : ∀ t ∈ ts0.types, (fnames t.inh).Nodup)
    (compat : ∀ t ∈ ts0.types, ∀ f ∈ t.own, ∀ g ∈ t.inh, f.name = g.name → featureEq f g = true) :
    (∀ t ∈ ts'.types, (fnames t.own).Nodup) ∧ (∀ t ∈ ts'.types, (fnames t.inh).Nodup) ∧
    (∀ t ∈ ts'.types, ∀ f ∈ t.own, ∀ g ∈ t.inh, f.name = g.name → featureEq f g = true) := by
  refine ⟨fun t' ht' => ?_, fun t' ht' => ?_, fun t' ht' f' hf' g hg e => ?_⟩
  · obtain ⟨t, hx, hx', _⟩ := hT.back hc ht'
    have hold := own t (find?_mem hx)
    rcases hT.cases hx hx' with ⟨_, _, h2, _, e⟩ | ⟨_, _, _, e⟩ | ⟨_, e, _⟩ <;> rw [e]
    · exact fnames_nodup_snoc hold h2
    · exact hold
    · exact hold
  · obtain ⟨t, hx, hx', _⟩ := hT.back hc ht'
    have hold := inh t (find?_mem hx)
    rcases hT.cases hx hx' with ⟨_, _, _, _, e⟩ | ⟨_, _, h3, e⟩ | ⟨_, e, _⟩ <;> rw [e]
    · exact hold
    · exact fnames_nodup_snoc hold h3
    · exact hold
  · obtain ⟨t, hx, hx', _⟩ := hT.back hc ht'
    rcases hT.mem_own hx hx' hf' with hfo' | ⟨ho, _, hfi, rfl⟩
    · rcases hT.mem_inh hx hx' hg with hgo | ⟨hb, _, rfl⟩
      · exact compat t (find?_mem hx) f' hfo' g hgo e
      · exact hT.noConf hb hx hfo' e
    · rcases hT.mem_inh hx hx' hg with hgo | ⟨hb, _, _⟩
      · exact absurd (e ▸ mem_fnames_of_mem hgo) hfi
      · rcases hT.cases hx hx' with ⟨_, h, _⟩ | ⟨h, _⟩ | ⟨h, _⟩
        · exact absurd hb h
        · exact absurd ho h
        · exact absurd ho h

/-- the bookkeeping along an edge `x → s` of the tree survives if the two ends were treated alike: `x` lies in the region
    iff its supertype got the feature -/
theorem edge {x s : String} {t t' ps ps' : TypeRec} (hx : find? ts0 x = some t) (hx' : find? ts' x = some t')
    (hps : find? ts0 s = some ps) (hps' : find? ts' s = some ps') (hb : B x ↔ O s ∨ B s)
    (he : EdgeOK t ps) : EdgeOK t' ps' := by
  have hinh := he.names
  have hieq := he.agree
  refine ⟨fun n => ?_, fun g hg f' hf' e => ?_⟩
  · rw [mem_fnames_allFeatures, hT.names_inh hx hx' n, hT.names_eff hps hps' n, hinh n, hb]
  · -- where `f'` comes from
    have hf'cases : f' ∈ ps.own ++ ps.inh ∨ (f' = f ∧ f.name ∉ fnames ps.inh ∧ (B s ∨ f.name ∉ fnames ps.own)) := by
      rcases List.mem_append.mp (allFeatures_sub hf') with h | h
      · rcases hT.mem_own hps hps' h with h | ⟨_, h2, h3, h4⟩
        · exact Or.inl (List.mem_append_left _ h)
        · exact Or.inr ⟨h4, h3, Or.inr h2⟩
      · rcases hT.mem_inh hps hps' h with h | ⟨h2, h3, h4⟩
        · exact Or.inl (List.mem_append_right _ h)
        · exact Or.inr ⟨h4, h3, Or.inl h2⟩
    rcases hT.mem_inh hx hx' hg with hgo | ⟨hbx, hnot, rfl⟩
    · rcases hf'cases with hold | ⟨rfl, hni, hcase⟩
      · exact hieq g hgo f' hold e
      · -- `g` is old and `f' = f` new at `s`: the name was inherited from an own feature of `s`, and nothing in the region
        -- owns another definition
        have hown : f'.name ∈ fnames ps.own := ((hinh _).mp (e ▸ mem_fnames_of_mem hgo)).resolve_right hni
        obtain ⟨g0, hg0, hg0n⟩ := mem_fnames.mp hown
        have h1 : featureEq g0 f' = true := hT.noConf (hcase.resolve_right (fun h => h hown)) hps hg0 hg0n
        have h2 : featureEq g0 g = true := hieq g hgo g0 (List.mem_append_left _ hg0) (hg0n.trans e)
        exact featureEq_trans (featureEq_symm h1) h2
    · rcases hf'cases with hold | hnew
      · exfalso
        apply hnot
        rw [hinh, ← List.mem_append, ← fnames_append, ← e]
        exact mem_fnames_of_mem hold
      · rw [hnew.1]; exact featureEq_refl _

theorem rootInh (hc : Consistent ts0) (root : ∀ t ∈ ts0.types, t.super = none → t.inh = [])
    (hB : ∀ {x t}, B x → find? ts0 x = some t → t.super ≠ none) : ∀ t ∈ ts'.types, t.super = none → t.inh = [] := by
  intro t' ht' hs
  obtain ⟨t, hx, hx', hsup⟩ := hT.back hc ht'
  have hs0 : t.super = none := hsup.trans hs
  rcases hT.cases hx hx' with ⟨_, _, _, _, e⟩ | ⟨_, h2, _, _⟩ | ⟨_, e, _⟩
  · rw [e]; exact root t (find?_mem hx) hs0
  · exact absurd hs0 (hB h2 hx)
  · rw [e]; exact root t (find?_mem hx) hs0

/-- both ends of an edge, before and after -/
theorem ends (hc : Consistent ts0) {t' ps' : TypeRec} {s : String} (ht' : t' ∈ ts'.types) (hs : t'.super = some s)
    (hps' : find? ts' s = some ps') :
    ∃ t ps, find? ts0 t'.name = some t ∧ find? ts' t'.name = some t' ∧ t.super = some s ∧ find? ts0 s = some ps := by
  obtain ⟨t, hx, hx', hsup⟩ := hT.back hc ht'
  obtain ⟨ps, hps, _⟩ := find?_transfer hT.skel hps'
  exact ⟨t, ps, hx, hx', hsup.trans hs, hps⟩

end Pushed

theorem AddTarget.pushed {ts0 ts' : TypeSystem} {dom : String} {f : Feature} {td : TypeRec}
    (hc : Consistent ts0) (hf : FeatInv ts0) (htd : find? ts0 dom = some td)
    (hfo : f.name ∉ fnames td.own) (hfi : f.name ∉ fnames td.inh)
    (hdc : descendantConflict ts0 dom f = false) (hT : AddTarget ts0 dom f ts') :
    Pushed ts0 ts' f (· = dom) (fun x => x ≠ dom ∧ Anc ts0 dom x) := by
  refine ⟨hT.skel, fun hx hx' => ?_, fun hb htx hg hgn =>
    noConflict_of hc hf ((hasExact_iff_find ts0 dom).mpr ⟨td, htd⟩) hdc hb.2 hb.1 htx hg hgn⟩
  rcases hT.cases hx hx' with ⟨h1, e⟩ | ⟨h1, h2, h3, e⟩ | ⟨h1, e, h3⟩
  · subst h1; rw [htd] at hx; cases hx
    exact .inl ⟨rfl, fun h => h.1 rfl, hfo, hfi, e⟩
  · exact .inr (.inl ⟨h1, ⟨h1, h2⟩, h3, e⟩)
  · exact .inr (.inr ⟨h1, e, fun h => h3 h.2⟩)

theorem featInv_of_target {ts0 ts' : TypeSystem} {dom : String} {f : Feature} {td : TypeRec}
    (hc : Consistent ts0) (hf : FeatInv ts0) (htd : find? ts0 dom = some td)
    (hfo : f.name ∉ fnames td.own) (hfi : f.name ∉ fnames td.inh)
    (hdc : descendantConflict ts0 dom f = false) (hT : AddTarget ts0 dom f ts') : FeatInv ts' := by
  have hP := hT.pushed hc hf htd hfo hfi hdc
  have hreg : hasExact ts0 dom = true := (hasExact_iff_find ts0 dom).mpr ⟨td, htd⟩
  obtain ⟨r1, r2, r3⟩ := hP.records hc hf.ownNodup hf.inhNodup hf.compat
  -- being strictly below `dom` is being a child of something below-or-equal `dom`
  have edge : ∀ t' ∈ ts'.types, ∀ s ps', t'.super = some s → find? ts' s = some ps' → EdgeOK t' ps' := fun t' ht' s ps' hs hps' => by
    obtain ⟨t, ps, hx, hx', hs0, hps⟩ := hP.ends hc ht' hs hps'
    refine hP.edge hx hx' hps hps' ⟨fun ⟨hne, ha⟩ => ?_, fun ha => ?_⟩
      (hf.edge (find?_mem hx) hs0 hps)
    · rcases ha.inv hx with e | ⟨s', hs', h'⟩
      · exact absurd e.symm hne
      · rw [hs0] at hs'; cases hs'
        exact (Classical.em (s = dom)).imp id fun h => ⟨h, h'⟩
    · have ha' : Anc ts0 dom s := ha.elim (fun e => e ▸ Anc.refl dom hreg) And.right
      exact ⟨fun e => not_anc_of_super hc hx hs0 (e ▸ ha'), Anc.step dom _ s t hx hs0 ha'⟩
  exact ⟨r1, r2, r3, fun t' ht' s ps' hs hps' => (edge t' ht' s ps' hs hps').1,
    fun t' ht' s ps' hs hps' => (edge t' ht' s ps' hs hps').2,
    hP.rootInh hc hf.rootInh fun hb hx hs0 => by
      rcases hb.2.inv hx with e | ⟨s', hs', _⟩
      · exact hb.1 e.symm
      · rw [hs0] at hs'; cases hs'⟩

theorem addFeature_step {ts ts' : TypeSystem} {dom : String} {f : Feature} (hc : Consistent ts) (hf : FeatInv ts)
    (h : addFeature ts dom f = .ok ts') :
    ts' = ts ∨ ∃ t, find? ts dom = some t ∧ f.name ∉ fnames t.own ∧ f.name ∉ fnames t.inh ∧
      descendantConflict ts dom f = false ∧ AddTarget ts dom f ts' := by
  obtain ⟨t, ht, ⟨_, rfl⟩ | ⟨hchk, hdc, hpush⟩⟩ := addFeature_cases h
  · exact Or.inl rfl
  · obtain ⟨h1, h2⟩ := addCheck_false_fresh hchk
    exact Or.inr ⟨t, ht, h1, h2, hdc, addFeature_target hc hf ht hpush⟩

theorem inv_init : Consistent Gen.initTS ∧ FeatInv Gen.initTS :=
  ⟨consistentB_sound _ (by decide +kernel), featInvB_sound _ (by decide +kernel)⟩

theorem getFeature_isSome {t : TypeRec} {n : String}
    (h : n ∈ fnames t.own ∨ n ∈ fnames t.inh) : (getFeature t n).isSome = true := by
  unfold getFeature
  cases h1 : t.own.find? (·.name == n) with
  | some g => rfl
  | none =>
    simp only
    cases h2 : t.inh.find? (·.name == n) with
    | some g => rfl
    | none =>
      rcases h with h | h
      · exact absurd h (find_name_none.mp h1)
      · exact absurd h (find_name_none.mp h2)

theorem addFeature_conflict {ts : TypeSystem} {b : String} {tb : TypeRec} {f : Feature}
    (htb : find? ts b = some tb) (h : addCheck tb f false = .conflict) :
    addFeature ts b f = .error .valueError := by
  rw [addFeature_eq f htb, h]

end Cassis.TS
