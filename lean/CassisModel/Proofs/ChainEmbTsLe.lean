/-
C16 with an embedded type system (namespace `ChainE`), the chain JSON → CAS → XMI → CAS: when two type systems answer the
XMI codec alike on a set `N` of type names (`TsLe`).  The MINIMAL half of C02 rests on this file too (`PartOn`,
`typeAgree_of_part`, through `ChainEmbMinimalTs.lean`).

The XMI writer, the traversal `_find_all_fs`, the XMI reader and the fragment predicates look at a type through its name,
its supertype chain (`is_instance_of`, `is_primitive`) and, of each effective feature, the name, the range,
`multipleReferencesAllowed` (inlined or a structure of its own) and the reserved-name flag — never at domain, element
type or description.  `SameTs` (what `json_full_ts_same` delivers) compares effective features up to `Feature.__eq__`:
NOT `multipleReferencesAllowed`, NOT the reserved flag.  What the XMI codec needs in addition is `MultiResAgree`.

`SameTs` (FULL, every name) and `PartOn N` (MINIMAL, the names of a closed list) are both instances of `KeysOn`
(`TypeAgreeOfSameTs.lean`; `keysOn_of_part`), which gives the same `is_instance_of` (`keysOn_inst`) and `is_primitive`
(`isPrimitive_congr`) and all the JSON reader asks (`typeAgree_of_part`).  With `MultiResAgree` added it is all the XMI
codec asks (`TsLe`: `tsLe_of_keys`, hence `tsLe_of_same`, `tsLe_of_part`).
-/
import CassisModel.Proofs.TypeAgreeOfSameTs
import CassisModel.Spec.RoundTripCollFrag
import CassisModel.Spec.ChainEmb

namespace Cassis.ChainE
open Cassis.TS Cassis.Json

/-- the two features answer the XMI codec alike: name, range, reserved or not, and — for an array or list range —
    `multipleReferencesAllowed` (inlined or a structure of its own) -/
def FeatLike (K : Consts) (f f' : Feature) : Prop :=
  f'.name = f.name ∧ f'.range = f.range ∧
  ((isArray K f.range = true ∨ isList K f.range = true) → f'.multi.getD false = f.multi.getD false) ∧
  f'.reserved = f.reserved

theorem FeatLike.refl (K : Consts) (f : Feature) : FeatLike K f f := ⟨rfl, rfl, fun _ => rfl, rfl⟩

theorem FeatLike.symm {K : Consts} {f f' : Feature} (h : FeatLike K f f') : FeatLike K f' f :=
  ⟨h.1.symm, h.2.1.symm, fun hc => (h.2.2.1 (by rw [← h.2.1]; exact hc)).symm, h.2.2.2.symm⟩

theorem FeatLike.trans {K : Consts} {f g k : Feature} (h1 : FeatLike K f g) (h2 : FeatLike K g k) : FeatLike K f k :=
  ⟨h2.1.trans h1.1, h2.2.1.trans h1.2.1, fun hc => (h2.2.2.1 (by rw [h1.2.1]; exact hc)).trans (h1.2.2.1 hc),
    h2.2.2.2.trans h1.2.2.2⟩

/-- `MultiResAgree` for features with the same range: a symmetric relation -/
def MultiResAgree' (K : Consts) (ts ts' : TypeSystem) : Prop :=
  ∀ t ∈ ts.types, ∀ t' ∈ ts'.types, t'.name = t.name → ∀ f ∈ allFeatures t, ∀ f' ∈ allFeatures t',
    f'.name = f.name → f'.range = f.range → FeatLike K f f'

theorem multiResAgree' {K : Consts} {ts ts' : TypeSystem} (h : MultiResAgree K ts ts') : MultiResAgree' K ts ts' := by
  intro t ht t' ht' hn f hf f' hf' hfn hr
  obtain ⟨h1, h2⟩ := h t ht t' ht' hn f hf f' hf' hfn
  exact ⟨hfn, hr, h2, h1⟩

theorem MultiResAgree'.symm {K : Consts} {ts ts' : TypeSystem} (h : MultiResAgree' K ts ts') : MultiResAgree' K ts' ts :=
  fun t' ht' t ht hn f' hf' f hf hfn hr => (h t ht t' ht' hn.symm f hf f' hf' hfn.symm hr.symm).symm

/-- every answer `ts` gives to the XMI codec about a registered type whose name is in `N`, `ts'` gives as well; the
    ranges of its features stay in `N` -/
structure TsLe (K : Consts) (N : String → Prop) (ts ts' : TypeSystem) : Prop where
  find : ∀ n t, N n → find? ts n = some t → ∃ t', find? ts' n = some t' ∧ t'.name = t.name ∧ t'.super = t.super ∧
    (ctorFields t').Perm (ctorFields t) ∧
    (∀ f ∈ allFeatures t, ∃ f' ∈ allFeatures t', FeatLike K f f') ∧
    (∀ f' ∈ allFeatures t', ∃ f ∈ allFeatures t, FeatLike K f f') ∧
    (∀ f ∈ allFeatures t, N f.range)
  inst : ∀ a b, N a → isInstanceOf ts' a b = isInstanceOf ts a b

theorem TsLe.prim {K : Consts} {N : String → Prop} {ts ts' : TypeSystem} (h : TsLe K N ts ts') (r : String) (hr : N r) :
    isPrimitive K ts' r = isPrimitive K ts r :=
  isPrimitive_congr K (fun p => h.inst r p hr)

theorem featKey_like {f f' : Feature} (h : featKey f' = featKey f) : f'.name = f.name ∧ f'.range = f.range := by
  unfold featKey at h
  simp only [Prod.mk.injEq] at h
  exact ⟨h.1, h.2.2.1⟩

/-- two type systems that agree name by name on `N` and on `multipleReferencesAllowed` and the reserved flag -/
theorem tsLe_of_keys {K : Consts} {N : String → Prop} {ts ts' : TypeSystem} (h : KeysOn N ts ts') (hc : Consistent ts)
    (hc' : Consistent ts') (hm : MultiResAgree' K ts ts') : TsLe K N ts ts' := by
  refine ⟨fun n t hn ht => ?_, fun a b ha => keysOn_inst h hc hc' ha b⟩
  rcases h n hn with ⟨h1, _⟩ | ⟨t0, t', h1, ht', hs, hp, _, hrn⟩
  · rw [ht] at h1; cases h1
  rw [ht] at h1; cases h1
  have hnn : t'.name = t.name := by rw [find?_name ht, find?_name ht']
  have hlike : ∀ f ∈ allFeatures t, ∀ f' ∈ allFeatures t', featKey f' = featKey f → FeatLike K f f' :=
    fun f hf f' hf' hk =>
      hm t (find?_mem ht) t' (find?_mem ht') hnn f hf f' hf' (featKey_like hk).1 (featKey_like hk).2
  refine ⟨t', ht', hnn, hs, keys_to_ctor hp, fun f hf => ?_, fun f' hf' => ?_, hrn⟩
  · obtain ⟨f', hf', hk⟩ := List.mem_map.mp (hp.mem_iff.mpr (List.mem_map_of_mem hf))
    exact ⟨f', hf', hlike f hf f' hf' hk⟩
  · obtain ⟨f, hf, hk⟩ := List.mem_map.mp (hp.mem_iff.mp (List.mem_map_of_mem hf'))
    exact ⟨f, hf, hlike f hf f' hf' hk.symm⟩

/-- mode FULL; the other direction by `sameTs_symm`, `MultiResAgree'.symm` -/
theorem tsLe_of_same (K : Consts) {ts ts' : TypeSystem} (h : SameTs ts ts') (hc : Consistent ts) (hc' : Consistent ts')
    (hm : MultiResAgree' K ts ts') : TsLe K (fun _ => True) ts ts' :=
  tsLe_of_keys (keysOn_of_sameTs h) hc hc' hm

theorem nullOk_of_keys {N : String → Prop} {ts ts' : TypeSystem} (h : KeysOn N ts ts') (hN : N Cassis.Xmi.NULL_T)
    (hn : Cassis.Xmi.NullOk ts) : Cassis.Xmi.NullOk ts' := by
  obtain ⟨t0, ht0, hf0⟩ := hn
  rcases h _ hN with ⟨h1, _⟩ | ⟨t, t', h1, h2, _, hp, _⟩
  · rw [ht0] at h1; cases h1
  rw [ht0] at h1; cases h1
  refine ⟨t', h2, ?_⟩
  have := hp.length_eq
  rw [hf0] at this
  simp only [List.map_nil, List.length_nil, List.length_map] at this
  exact List.eq_nil_of_length_eq_zero this

theorem nullOk_of_same {ts ts' : TypeSystem} (h : SameTs ts ts') (hn : Cassis.Xmi.NullOk ts) : Cassis.Xmi.NullOk ts' :=
  nullOk_of_keys (keysOn_of_sameTs h) trivial hn

/-- the two type systems agree on the names of `N`, and `N` is closed under supertypes and feature ranges -/
def PartOn (N : List String) (ts ts' : TypeSystem) : Prop :=
  ∀ n ∈ N, ∃ t t', find? ts n = some t ∧ find? ts' n = some t' ∧ t'.super = t.super ∧
    ((allFeatures t').map featKey).Perm ((allFeatures t).map featKey) ∧
    (∀ s, t.super = some s → s ∈ N) ∧ (∀ f ∈ allFeatures t, f.range ∈ N)

theorem PartOn.symm {N : List String} {ts ts' : TypeSystem} (h : PartOn N ts ts') : PartOn N ts' ts := by
  intro n hn
  obtain ⟨t, t', h1, h2, hs, hp, hsn, hrn⟩ := h n hn
  refine ⟨t', t, h2, h1, hs.symm, hp.symm, fun s e => hsn s (by rw [← hs]; exact e), fun f' hf' => ?_⟩
  obtain ⟨f, hf, hk⟩ := List.mem_map.mp (hp.mem_iff.mp (List.mem_map_of_mem hf'))
  rw [← (featKey_like hk).2]
  exact hrn f hf

theorem keysOn_of_part {N : List String} {ts ts' : TypeSystem} (h : PartOn N ts ts') : KeysOn (· ∈ N) ts ts' :=
  fun n hn => Or.inr (h n hn)

/-- mode MINIMAL (the rebuilt type system is only a part of the original); the other direction by `PartOn.symm`,
    `MultiResAgree'.symm` -/
theorem tsLe_of_part (K : Consts) {N : List String} {ts ts' : TypeSystem} (h : PartOn N ts ts') (hc : Consistent ts)
    (hc' : Consistent ts') (hm : MultiResAgree' K ts ts') : TsLe K (· ∈ N) ts ts' :=
  tsLe_of_keys (keysOn_of_part h) hc hc' hm

/-- mode MINIMAL: a type system and a part of it answer the JSON reader alike about every name of `N` -/
theorem typeAgree_of_part {N : List String} {ts ts' : TypeSystem} (h : PartOn N ts ts') (hc : Consistent ts)
    (hc' : Consistent ts') {n : String} (hn : n ∈ N) : TypeAgree ts ts' n := by
  obtain ⟨t, t', h1, h2, _, hp, _⟩ := h n hn
  refine typeAgree_of_keys (getType_of_find h1) (getType_of_find h2) (by rw [find?_name h1, find?_name h2]) hp ?_
  rw [find?_name h1]
  exact keysOn_inst (keysOn_of_part h) hc hc' hn _

end Cassis.ChainE
