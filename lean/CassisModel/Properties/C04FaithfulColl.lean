/-
C04 — the written document is faithful: it determines the content of the CAS (XMI, the whole format: arrays and lists,
inlined or shared, included).

`saveXmi_faithful_coll` is stated on `CollFs` (`Spec/RoundTripCollFrag.lean`), the fragment of the round trip theorem
`xmi_roundtrip_coll` (`C01RoundTripColl.lean`); `saveXmi_faithful_flat` (`C04Faithful.lean`) is its restriction to the flat
fragment.  It follows from the round trip read over an arbitrary heap (`LPC.load_perm_base`,
`Proofs/RoundTripColl.lean`: the reader recovers the content from the document alone, over whatever heap it builds the
CAS): if two CASes of the fragment — possibly in different heaps, at different addresses, built in different orders, in
different lists of CASes — are written to the *same* document, then they have

* the same ids,
* under each id the same type and the same *deep* content of every feature (`featContentC`, `Spec/RoundTripColl.lean`:
  an inlined array or list is its sequence of elements, a shared one a reference to the collection object — which is a
  structure of its own, compared under its id like any other; references are compared by the id of their target),
* the same views (names, sofa ids and numbers, texts, mime types, member ids).

What the content function identifies is exactly what XMI cannot tell apart and what `xmi_roundtrip_coll` recovers: the
identity of *inlined* collection objects, and inside string arrays and string lists a null element and `""`
(`elemVals`, `headVal`).  The non-vacuity instance below contains such a pair: two heaps that differ there (and in their
layout and length) and are written to one document.

Hypotheses: those of `xmi_roundtrip_coll` for each of the two CASes (see `C01RoundTrip.lean`, `C01RoundTripColl.lean`);
`collAppliesB` (`C01AppliesColl.lean`) is a sound computable test for them.
-/
import CassisModel.Proofs.RoundTripColl
import CassisModel.Proofs.FaithfulCollDemo

namespace Cassis.Xmi
open Cassis.TS Cassis.Traverse

/-- **faithfulness of the XMI writer, collections included** -/
theorem saveXmi_faithful_coll (K : Consts) (ts : TypeSystem)
    (cass₁ cass₂ : List Cas) (ci₁ ci₂ : Nat) (c₁ c₂ : Cas) (hp₁ hp₂ : Heap) (doc : XDoc) (st₁ st₂ : St)
    (hnull : NullOk ts)
    (hc₁ : cass₁[ci₁]? = some c₁) (hwf₁ : RTWf c₁ hp₁) (hsave₁ : saveXmi K ts cass₁ ci₁ hp₁ = .ok (doc, st₁))
    (hcoll₁ : ∀ q ∈ st₁.allFs, CollFs K ts c₁ ci₁ st₁.heap q.2)
    (hdis₁ : ∀ q ∈ st₁.allFs, ∀ nv ∈ c₁.views, q.1 ≠ nv.2.sofa.xid)
    (hmem₁ : ∀ nv ∈ c₁.views, ∀ e ∈ Index.all nv.2.idx, slot st₁.heap e.oid "sofa" ≠ some .none)
    (hmok₁ : MembersOk c₁ st₁.heap)
    (hc₂ : cass₂[ci₂]? = some c₂) (hwf₂ : RTWf c₂ hp₂) (hsave₂ : saveXmi K ts cass₂ ci₂ hp₂ = .ok (doc, st₂))
    (hcoll₂ : ∀ q ∈ st₂.allFs, CollFs K ts c₂ ci₂ st₂.heap q.2)
    (hdis₂ : ∀ q ∈ st₂.allFs, ∀ nv ∈ c₂.views, q.1 ≠ nv.2.sofa.xid)
    (hmem₂ : ∀ nv ∈ c₂.views, ∀ e ∈ Index.all nv.2.idx, slot st₂.heap e.oid "sofa" ≠ some .none)
    (hmok₂ : MembersOk c₂ st₂.heap) :
    -- the same ids
    (sortById st₁.allFs).map (·.1) = (sortById st₂.allFs).map (·.1) ∧
    -- under each id the same type and the same deep content of every feature
    (∀ q₁ ∈ st₁.allFs, ∀ q₂ ∈ st₂.allFs, q₁.1 = q₂.1 →
      ∃ o₁ o₂ : Obj, st₁.heap[q₁.2]? = some o₁ ∧ st₂.heap[q₂.2]? = some o₂ ∧ o₁.ty = o₂.ty ∧
        ∀ t : TypeRec, find? ts o₁.ty = some t → ∀ f ∈ allFeatures t,
          featContentC K st₁.heap q₁.2 f = featContentC K st₂.heap q₂.2 f) ∧
    -- the same views
    c₁.views.map (viewContent st₁.heap) = c₂.views.map (viewContent st₂.heap) :=
  by
  obtain ⟨hL₁, its₁, hdoc₁, hs₁, hits₁⟩ := LPC.items_of_save 0 hc₁ hwf₁ hnull hsave₁ hcoll₁
  obtain ⟨hL₂, its₂, hdoc₂, hs₂, hits₂⟩ := LPC.items_of_save 0 hc₂ hwf₂ hnull hsave₂ hcoll₂
  -- the reader does not look at the heap it starts from: the common document is read over the same heap for both
  -- CASes, which is one computation, and what it yields is related to either CAS
  obtain ⟨na₁, p, _, ld, nv₁, hp1, hload, hf₁, hm₁, hn₁, r₁⟩ :=
    LPC.load_perm_base K ts cass₁ ci₁ c₁ hp₁ st₁.heap [] _ 0 0 its₁ hc₁ hwf₁ hnull hL₁ hits₁ hmem₁ hmok₁
  obtain ⟨na₂, p', _, ld', nv₂, hp1', hload', hf₂, hm₂, hn₂, r₂⟩ :=
    LPC.load_perm_base K ts cass₂ ci₂ c₂ hp₂ st₂.heap [] _ 0 0 its₂ hc₂ hwf₂ hnull hL₂ hits₂ hmem₂ hmok₂
  rw [← hdoc₁] at hp1 hload
  rw [← hdoc₂, hp1] at hp1'
  rw [← hdoc₂, hload] at hload'
  cases hp1'
  cases hload'
  refine ⟨?_, ?_, ?_⟩
  · -- two ascending lists with the same elements
    exact List.Perm.eq_of_pairwise (le := (· ≤ ·)) (fun _ _ _ _ => Int.le_antisymm)
      (List.pairwise_map.mpr (sortById_sorted _)) (List.pairwise_map.mpr (sortById_sorted _))
      (List.Perm.cons_inv (hf₁.symm.trans hf₂))
  · intro q₁ hm₁ q₂ hm₂ hid
    obtain ⟨o₁, o₁', ho₁, ho₁', hty₁, _, hfc₁⟩ := CF.content_of_rel hL₁ r₁.rel r₁.colls (mem_sortById.mpr hm₁)
    obtain ⟨o₂, o₂', ho₂, ho₂', hty₂, _, hfc₂⟩ := CF.content_of_rel hL₂ r₂.rel r₂.colls (mem_sortById.mpr hm₂)
    have ha : na₁ q₁.1 = na₂ q₂.1 := Except.ok.inj ((r₁.lookup q₁ (mem_sortById.mpr hm₁)).symm.trans
      ((congrArg (lookupFs p.fss) hid).trans (r₂.lookup q₂ (mem_sortById.mpr hm₂))))
    rw [ha] at ho₁' hfc₁
    rw [ho₂'] at ho₁'
    cases ho₁'
    have hty : o₁.ty = o₂.ty := hty₁.symm.trans hty₂
    exact ⟨o₁, o₂, ho₁, ho₂, hty, fun t ht f hf =>
      (hfc₁ t ht f hf).symm.trans (hfc₂ t (by rw [← hty]; exact ht) f hf)⟩
  · -- the sofa elements stand in the order of the written views, the initial view first
    have hvc₁ := r₁.content
    have hvc₂ := r₂.content
    rw [hs₁] at hm₁ hvc₁
    rw [hs₂] at hm₂ hvc₂
    rw [LPC.initial_first hwf₁ hm₁ hn₁] at hvc₁
    rw [LPC.initial_first hwf₂ hm₂ hn₂] at hvc₂
    exact hvc₁.symm.trans hvc₂

/-! ### Non-vacuity

`CollDemo.hp` (`Spec/RoundTripCollCheck.lean`: an annotation with an inlined feature of every array and list kind and
shared arrays and lists, a second structure, one view) and `CollDemo.hpB` (`Proofs/InstancesColl.lean`): the same CAS in
another heap layout — two inlined array objects have changed places, the inlined StringArray `["a b", "", null, "c"]`
is `["a b", null, "", "c"]`, and the heap is longer by an unreachable object.  The heaps differ, both satisfy all
hypotheses (`CollDemo.two_layouts`; Boolean checkers proved sound, evaluated by the kernel), and both are written to
the same document.  The theorem applies to the pair. -/

example : CollDemo.hp ≠ CollDemo.hpB ∧ CollDemo.hpB.length = CollDemo.hp.length + 1 :=
  ⟨CollDemo.hpB_ne, CollDemo.hpB_length⟩

/-- the two string arrays that differ in null / `""` have the same content -/
example : elemVals CollDemo.hp (.strs [some "a b", some "", none, some "c"]) =
    elemVals CollDemo.hpB (.strs [some "a b", none, some "", some "c"]) := by simp [elemVals]

example : ∃ (doc : XDoc) (st₁ st₂ : St),
    saveXmi CollDemo.K CollDemo.ts [CollDemo.cas] 0 CollDemo.hp = .ok (doc, st₁) ∧
    saveXmi CollDemo.K CollDemo.ts [CollDemo.cas] 0 CollDemo.hpB = .ok (doc, st₂) ∧
    (sortById st₁.allFs).map (·.1) = (sortById st₂.allFs).map (·.1) ∧
    (∀ q₁ ∈ st₁.allFs, ∀ q₂ ∈ st₂.allFs, q₁.1 = q₂.1 →
      ∃ o₁ o₂ : Obj, st₁.heap[q₁.2]? = some o₁ ∧ st₂.heap[q₂.2]? = some o₂ ∧ o₁.ty = o₂.ty ∧
        ∀ t : TypeRec, find? CollDemo.ts o₁.ty = some t → ∀ f ∈ allFeatures t,
          featContentC CollDemo.K st₁.heap q₁.2 f = featContentC CollDemo.K st₂.heap q₂.2 f) ∧
    CollDemo.cas.views.map (viewContent st₁.heap) = CollDemo.cas.views.map (viewContent st₂.heap) := by
  obtain ⟨doc, st₁, st₂, hs₁, hs₂, hn, hwf₁, hf₁, hd₁, hm₁, hmo₁, hwf₂, hf₂, hd₂, hm₂, hmo₂⟩ := CollDemo.two_layouts
  exact ⟨doc, st₁, st₂, hs₁, hs₂,
    saveXmi_faithful_coll CollDemo.K CollDemo.ts [CollDemo.cas] [CollDemo.cas] 0 0 CollDemo.cas CollDemo.cas
      CollDemo.hp CollDemo.hpB doc st₁ st₂ hn rfl hwf₁ hs₁ hf₁ hd₁ hm₁ hmo₁ rfl hwf₂ hs₂ hf₂ hd₂ hm₂ hmo₂⟩

#print axioms saveXmi_faithful_coll
#print axioms CollDemo.two_layouts

end Cassis.Xmi
