/-
Specification-side definitions for order independence of `merge_typesystems` (C13) with names with
competing supertypes that have declared subtypes — the re-parenting of a whole subtree (`Properties/C13PermSub.lean`).
-/
import CassisModel.Spec.MergePermCompete

namespace Cassis.TS

/-- `DeclAnc decls a b`: `a` is `b`, or is reached from `b` by following declared supertypes upwards (any declaration of a
    name counts, so for a name declared with several supertypes all of them — and their declared ancestors — count) -/
inductive DeclAnc (decls : List Decl) : String → String → Prop where
  | refl (a : String) : DeclAnc decls a a
  | step (a : String) (d : Decl) : d ∈ decls → DeclAnc decls a d.super → DeclAnc decls a d.name

/-- every competing supertype of a name, and every declared ancestor of it, is declared with one supertype throughout.
    The name with competing supertypes itself may have declared subtypes (a whole subtree is re-parented); what is
    excluded is that comparing two competing supertypes hinges on another pending re-parenting.  (Finding M6: `x.A` is
    declared below `x.B` and below `uima.tcas.Annotation`; `x.C`, the declared supertype of `x.B`, is itself declared
    below `uima.cas.TOP` and below `uima.tcas.Annotation`.) -/
def StableCompete (decls : List Decl) : Prop :=
  ∀ d ∈ decls, Competing decls d.name → ∀ a, DeclAnc decls a d.super → ¬ Competing decls a

/-- Boolean versions, for tests: the declared ancestors of `b` (fuel = number of declarations) -/
def declAncs (decls : List Decl) : Nat → String → List String
  | 0, b => [b]
  | k+1, b => b :: (decls.filter (·.name == b)).flatMap (fun d => declAncs decls k d.super)

def competingB (decls : List Decl) (n : String) : Bool :=
  decls.any (fun d => decls.any (fun d' => d.name == n && d'.name == n && d.super != d'.super))

def stableCompeteB (decls : List Decl) : Bool :=
  decls.all (fun d => !(competingB decls d.name) ||
    (declAncs decls decls.length d.super).all (fun a => !(competingB decls a)))

end Cassis.TS
