/-
Non-vacuity of the faithfulness theorems for JSON (`Properties/C04FaithfulJson.lean`): for each of them two *different*
inputs (heaps of different layout and length; for the flat theorem also different CASes in different lists of CASes, at
different indices) that satisfy all hypotheses and are written to the *same* JSON document.
-/
import CassisModel.Proofs.RoundTripJsonDemo
import CassisModel.Proofs.RoundTripJsonCollCheckSound
import CassisModel.Proofs.RoundTripJsonCollDemo

namespace Cassis.Json
open Cassis.Traverse Cassis.Xmi

/-! ### the flat instance in two layouts

`ResDemo.flatCas` over `ResDemo.flatHp` (`Spec/RoundTripCollCheck.lean`: two `x.F` annotations referring to each other,
the first one indexed; `x.F` has an integer and a reference feature), written as CAS 0 of `[flatCas]`; and the same
content as CAS 1 of a list of two CASes, over a heap that starts with an unreachable object (an empty list node) and
holds the two structures in the opposite order (so the references, the index entry and the sofa references —
`.sofa 1 …` — all differ). -/

namespace FlatDemo
open CollDemo ResDemo

theorem heaps_ne : flatHp ≠ flatHp2 := flatDemo_evals.heaps_ne
theorem cas_ne : flatCas ≠ flatCas2 := flatDemo_evals.cas_ne

/-- both inputs satisfy the hypotheses of `saveJson_faithful_flat` and are written to the same document -/
theorem two_layouts :
    ∃ (doc : JDoc) (st₁ st₂ : Traverse.St),
      saveJson K flatTs [flatCas] 0 flatHp .none = .ok (doc, st₁) ∧
      saveJson K flatTs [cas, flatCas2] 1 flatHp2 .none = .ok (doc, st₂) ∧
      RTWf flatCas flatHp ∧ (∀ q ∈ st₁.allFs, FlatFs K flatTs flatCas 0 st₁.heap q.2) ∧
      (∀ q ∈ st₁.allFs, JsonFs flatTs st₁.heap q.2) ∧
      (∀ nv ∈ flatCas.views, ∀ e ∈ Index.all nv.2.idx, (xidOf flatHp e.oid).isSome = true) ∧
      (∀ q ∈ st₁.allFs, ∀ nv ∈ flatCas.views, q.1 ≠ nv.2.sofa.xid) ∧
      (∀ nv ∈ flatCas.views, ∀ e ∈ Index.all nv.2.idx, Xmi.slot st₁.heap e.oid "sofa" ≠ some .none) ∧
      MembersOk flatCas st₁.heap ∧
      RTWf flatCas2 flatHp2 ∧ (∀ q ∈ st₂.allFs, FlatFs K flatTs flatCas2 1 st₂.heap q.2) ∧
      (∀ q ∈ st₂.allFs, JsonFs flatTs st₂.heap q.2) ∧
      (∀ nv ∈ flatCas2.views, ∀ e ∈ Index.all nv.2.idx, (xidOf flatHp2 e.oid).isSome = true) ∧
      (∀ q ∈ st₂.allFs, ∀ nv ∈ flatCas2.views, q.1 ≠ nv.2.sofa.xid) ∧
      (∀ nv ∈ flatCas2.views, ∀ e ∈ Index.all nv.2.idx, Xmi.slot st₂.heap e.oid "sofa" ≠ some .none) ∧
      MembersOk flatCas2 st₂.heap := by
  obtain ⟨c₁, doc₁, st₁, hc₁, hs₁, hwf₁, hf₁, hj₁, hi₁, hd₁, hm₁, hmo₁⟩ := jflatAppliesB_hyps _ _ _ _ _ flatDemo_evals.applies1
  obtain ⟨c₂, doc₂, st₂, hc₂, hs₂, hwf₂, hf₂, hj₂, hi₂, hd₂, hm₂, hmo₂⟩ := jflatAppliesB_hyps _ _ _ _ _ flatDemo_evals.applies2
  cases hc₁
  cases hc₂
  have hd := flatDemo_evals.sameDoc
  rw [hs₁, hs₂] at hd
  have : doc₁ = doc₂ := by simpa [Except.toOption] using hd
  subst this
  exact ⟨doc₁, st₁, st₂, hs₁, hs₂, hwf₁, hf₁, hj₁, hi₁, hd₁, hm₁, hmo₁, hwf₂, hf₂, hj₂, hi₂, hd₂, hm₂, hmo₂⟩

end FlatDemo

/-! ### the instance with every collection kind in two layouts

`CollDemo.hp` (`Spec/RoundTripCollCheck.lean`) and `CollDemoJ.hpJ` (`Proofs/InstancesColl.lean`): the ShortArray and
LongArray objects have changed places (addresses 3 and 4) and an unreachable object is appended.  (JSON keeps null and
`""` apart: exchanging the two inside the string array of `hp`, as `CollDemo.hpB` of the XMI example does, changes the
JSON document — `docs_differ` — although `featContentC` identifies the two; faithfulness is an implication, not an
equivalence.) -/

namespace CollDemoJ
open CollDemo

theorem hpJ_ne : hp ≠ hpJ := collDemoJ_evals.hpJ_ne
theorem hpJ_length : hpJ.length = hp.length + 1 := collDemoJ_evals.hpJ_length

/-- a null element and `""` of a string array are kept apart by JSON: changing one into the other changes the document -/
theorem docs_differ : (saveJson K ts [cas] 0 hp .none).toOption.map (·.1) ≠
    (saveJson K ts [cas] 0
      (hp.set 9 (arr "uima.cas.StringArray" (.strs [some "a b", none, some "", some "c"]))) .none).toOption.map (·.1) :=
  collDemoJ_evals.nullVsEmptyDiffer

/-- both layouts satisfy the hypotheses of `saveJson_faithful_coll` and are written to the same document -/
theorem two_layouts :
    ∃ (doc : JDoc) (st₁ st₂ : Traverse.St),
      saveJson K ts [cas] 0 hp .none = .ok (doc, st₁) ∧ saveJson K ts [cas] 0 hpJ .none = .ok (doc, st₂) ∧
      RTWf cas hp ∧ (∀ q ∈ st₁.allFs, JCollFs K ts cas 0 st₁.heap q.2) ∧
      (∀ nv ∈ cas.views, ∀ e ∈ Index.all nv.2.idx, (xidOf hp e.oid).isSome = true) ∧
      (∀ q ∈ st₁.allFs, ∀ nv ∈ cas.views, q.1 ≠ nv.2.sofa.xid) ∧
      (∀ nv ∈ cas.views, ∀ e ∈ Index.all nv.2.idx, Xmi.slot st₁.heap e.oid "sofa" ≠ some .none) ∧
      MembersOk cas st₁.heap ∧
      RTWf cas hpJ ∧ (∀ q ∈ st₂.allFs, JCollFs K ts cas 0 st₂.heap q.2) ∧
      (∀ nv ∈ cas.views, ∀ e ∈ Index.all nv.2.idx, (xidOf hpJ e.oid).isSome = true) ∧
      (∀ q ∈ st₂.allFs, ∀ nv ∈ cas.views, q.1 ≠ nv.2.sofa.xid) ∧
      (∀ nv ∈ cas.views, ∀ e ∈ Index.all nv.2.idx, Xmi.slot st₂.heap e.oid "sofa" ≠ some .none) ∧
      MembersOk cas st₂.heap := by
  obtain ⟨c₁, doc₁, st₁, hc₁, hs₁, hwf₁, hf₁, hi₁, hd₁, hm₁, hmo₁⟩ := jcollDemo_hyps
  obtain ⟨c₂, doc₂, st₂, hc₂, hs₂, hwf₂, hf₂, hi₂, hd₂, hm₂, hmo₂⟩ := jcollAppliesB_hyps _ _ _ _ _ collDemoJ_evals.applies_hpJ
  cases hc₁
  cases hc₂
  have hd := collDemoJ_evals.sameDoc
  rw [hs₁, hs₂] at hd
  have : doc₁ = doc₂ := by simpa [Except.toOption] using hd
  subst this
  exact ⟨doc₁, st₁, st₂, hs₁, hs₂, hwf₁, hf₁, hi₁, hd₁, hm₁, hmo₁, hwf₂, hf₂, hi₂, hd₂, hm₂, hmo₂⟩

end CollDemoJ

end Cassis.Json
