/-
C13 — merging with itself or with an empty type system changes nothing.

For every type system built through the API (any history of `create_type` / `create_feature` that declares features on
user types), merging it alone, with itself, or with a fresh empty type system (in either order) succeeds and yields a type
system with the same types, supertypes, descriptions, children and effective features under every name (features
compared as `Feature.__eq__` does, see `SameDecl`: of two identical definitions on one chain the merge exposes the
ancestor's, the original the one made first).
-/
import CassisModel.Proofs.MergeSelf

namespace Cassis.TS

/-- merging a type system alone reproduces it -/
theorem merge_single_same (ops : List TsOp) (h : UserOnly Gen.consts ops) :
    ∃ m, merge Gen.consts Gen.builtinTS [ops.foldl (applyOp Gen.consts) Gen.builtinTS] = .ok m ∧
      SameTs (ops.foldl (applyOp Gen.consts) Gen.builtinTS) m :=
  merge_same_of _ (hist_of_history ops h) _ (by simp) (by simp)

/-- … so does merging it with itself -/
theorem merge_self_same (ops : List TsOp) (h : UserOnly Gen.consts ops) :
    ∃ m, merge Gen.consts Gen.builtinTS
        [ops.foldl (applyOp Gen.consts) Gen.builtinTS, ops.foldl (applyOp Gen.consts) Gen.builtinTS] = .ok m ∧
      SameTs (ops.foldl (applyOp Gen.consts) Gen.builtinTS) m :=
  merge_same_of _ (hist_of_history ops h) _ (by simp) (by simp)

/-- … and with a fresh empty type system, in either order -/
theorem merge_empty_same (ops : List TsOp) (h : UserOnly Gen.consts ops) :
    (∃ m, merge Gen.consts Gen.builtinTS [ops.foldl (applyOp Gen.consts) Gen.builtinTS, Gen.builtinTS] = .ok m ∧
      SameTs (ops.foldl (applyOp Gen.consts) Gen.builtinTS) m) ∧
    (∃ m, merge Gen.consts Gen.builtinTS [Gen.builtinTS, ops.foldl (applyOp Gen.consts) Gen.builtinTS] = .ok m ∧
      SameTs (ops.foldl (applyOp Gen.consts) Gen.builtinTS) m) :=
  ⟨merge_same_of _ (hist_of_history ops h) _ (by simp) (by simp),
   merge_same_of _ (hist_of_history ops h) _ (by simp) (by simp)⟩

end Cassis.TS
