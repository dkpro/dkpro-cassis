/-
Non-vacuity of `chain_xmi_json_coll` and `chain_json_xmi_coll` (`Properties/C16ChainColl.lean`): the tests
`chainCollAppliesB` and `chainJXAppliesB` answer `true` on `CollDemo`.  The counterexamples for `harr` and `htys` are run in
`Spec/ChainCollCheck.lean` (namespace `Json.ChainDemo`; `#eval`: the readers do not reduce in the kernel); here the kernel
checks the *test* on them: for `harr` the other hypotheses hold (`chainBaseB`) and the whole test fails, for `htys` only
`collTypesOkB` is evaluated (it fails).
-/
import CassisModel.Proofs.ChainCollCheckSound
import CassisModel.Proofs.RoundTripCollDemo

namespace Cassis.Json
open Cassis.Xmi

theorem chainCollDemo_applies : chainCollAppliesB CollDemo.K CollDemo.ts [CollDemo.cas] 0 CollDemo.hp = true :=
  chainCollDemo_evals.chainXJ

/-- the generated constants and the demo type system (built-in types plus `x.Doc`) satisfy `CollTypesOk` -/
theorem collDemo_types : CollTypesOk CollDemo.K CollDemo.ts := collTypesOkB_sound _ _ chainCollDemo_evals.typesOk

theorem builtin_types : CollTypesOk Gen.consts Gen.builtinTS := collTypesOkB_sound _ _ chainCollDemo_evals.builtinTypesOk

/-- counterexample for `harr`: every other hypothesis holds, `harr` fails
    (the chain ends with a different `elements`: `Json.ChainDemo.cx_obj_elements_none`, evaluated) -/
example : chainBaseB CollDemo.K CollDemo.ts [CollDemo.cas] 0
    (CollDemo.hp.set 24 (CollDemo.arr "uima.cas.IntegerArray" .none)) = true := chainCollDemo_evals.harrBase
example : chainCollAppliesB CollDemo.K CollDemo.ts [CollDemo.cas] 0
    (CollDemo.hp.set 24 (CollDemo.arr "uima.cas.IntegerArray" .none)) = false := chainCollDemo_evals.harrFails

/-- counterexample for `htys`: `collTypesOkB` fails for the type system without `uima.cas.NonEmptyIntegerList` (that
    the other hypotheses hold there and the chain raises is evaluated:
    `Json.ChainDemo.cx_missing_node_type`; `getType` on a missing name does not reduce in the kernel) -/
example : collTypesOkB CollDemo.K (ChainDemo.tsWithout "uima.cas.NonEmptyIntegerList") = false :=
  chainCollDemo_evals.htysFails

theorem chainJXDemo_applies : chainJXAppliesB CollDemo.K CollDemo.ts [CollDemo.cas] 0 CollDemo.hp = true :=
  chainCollDemo_evals.chainJX

end Cassis.Json
