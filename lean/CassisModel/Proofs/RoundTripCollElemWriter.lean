/-
Round trip with collections, layer G1 of `RoundTripColl_NOTES.md`, the writer: what `renderFeature` emits for a shared and
for an inlined collection feature, kind by kind (`render_*`), and for every feature of a general structure that it succeeds
with a contribution of the shape the reader expects (`feat_shape`).
-/
import CassisModel.Proofs.RoundTripCollElemDefs
import CassisModel.Proofs.RoundTripCollLemmas
import CassisModel.Proofs.Lists

namespace Cassis.Xmi.CG1
open Cassis.TS Cassis.Lex

/-- the token the writer emits for a head of an FSList -/
def refTok (H : Heap) : Val → String
  | .ref b => idTok H b
  | _ => ""

theorem render_strarr_empty (K : Consts) (ts : TypeSystem) (cass : List Cas) (H : Heap) (a : Nat) (isAnn : Bool) (f : Feature)
    (o : Obj) (c : Nat) (ev : Val) (ho : H[a]? = some o) (nk : NameOk f)
    (hm : f.multi.getD false = false)
    (hv : alistGet? o.slots f.name = some (.ref c))
    (hsa : isInstanceOf ts f.range STRING_ARRAY = true)
    (hev : slot H c "elements" = some ev) (hemp : ev = .refs [] ∨ ev = .strs [])
    (hann : AnnSofa cass isAnn o) :
    renderFeature K ts cass H a isAnn f = .ok ([(xmlName f, "")], []) := by
  rw [renderFeature_val nk.1 nk.2.1 nk.2.2.1 ho hv nofun hann]
  simp only [renderVal, extVal, hm, Bool.not_false, Bool.and_true, hsa, if_true, hev, pure, Except.pure, bind, Except.bind]
  rcases hemp with rfl | rfl <;> rfl

theorem render_strarr_cons (K : Consts) (ts : TypeSystem) (cass : List Cas) (H : Heap) (a : Nat) (isAnn : Bool) (f : Feature)
    (o : Obj) (c : Nat) (l : List (Option String)) (ho : H[a]? = some o) (nk : NameOk f)
    (hm : f.multi.getD false = false)
    (hv : alistGet? o.slots f.name = some (.ref c))
    (hsa : isInstanceOf ts f.range STRING_ARRAY = true)
    (hev : slot H c "elements" = some (.strs l)) (hl : l ≠ [])
    (hann : AnnSofa cass isAnn o) :
    renderFeature K ts cass H a isAnn f = .ok ([], l.map (fun e => (xmlName f, normTxt e))) := by
  rw [renderFeature_val nk.1 nk.2.1 nk.2.2.1 ho hv nofun hann]
  simp only [renderVal, extVal, hm, Bool.not_false, Bool.and_true, hsa, if_true, hev, pure, Except.pure, bind, Except.bind]

theorem render_strlist (K : Consts) (ts : TypeSystem) (cass : List Cas) (H : Heap) (a : Nat) (isAnn : Bool) (f : Feature)
    (o : Obj) (c : Nat) (hs' : List Val)
    (ho : H[a]? = some o) (nk : NameOk f)
    (hm : f.multi.getD false = false)
    (hv : alistGet? o.slots f.name = some (.ref c))
    (hsa : isInstanceOf ts f.range STRING_ARRAY = false)
    (hsl : isInstanceOf ts f.range STRING_LIST = true)
    (hcl : collectList H (H.length + 1) (.ref c) = .ok hs')
    (hk : ∀ h ∈ hs', h = .none ∨ ∃ s : String, h = .str s)
    (hann : AnnSofa cass isAnn o) :
    renderFeature K ts cass H a isAnn f = .ok ([], hs'.map (fun h => (xmlName f, kidTxt h))) := by
  rw [renderFeature_val nk.1 nk.2.1 nk.2.2.1 ho hv nofun hann]
  simp only [renderVal, extVal, hm, Bool.not_false, Bool.and_true, hsa, hsl, Bool.false_eq_true, if_false, if_true, hcl, pure, Except.pure, bind, Except.bind]
  rw [Det.mapM_ok_of_forall _ (fun h => (xmlName f, kidTxt h)) hs' (by
    intro h hh
    rcases hk h hh with rfl | ⟨s, rfl⟩ <;> rfl)]

theorem render_primarr (K : Consts) (ts : TypeSystem) (cass : List Cas) (H : Heap) (a : Nat) (isAnn : Bool) (f : Feature)
    (o : Obj) (c : Nat) (ev : Val) (s : String) (ho : H[a]? = some o) (nk : NameOk f)
    (hm : f.multi.getD false = false)
    (hv : alistGet? o.slots f.name = some (.ref c))
    (hsa : isInstanceOf ts f.range STRING_ARRAY = false)
    (hsl : isInstanceOf ts f.range STRING_LIST = false)
    (hpa : isPrimitiveArray K f.range = true)
    (hev : slot H c "elements" = some ev) (hne : ev ≠ .none) (hsp : showPrimArray f.range ev = .ok s)
    (hann : AnnSofa cass isAnn o) :
    renderFeature K ts cass H a isAnn f = .ok ([(xmlName f, s)], []) := by
  rw [renderFeature_val nk.1 nk.2.1 nk.2.2.1 ho hv nofun hann]
  simp only [renderVal, extVal, hm, Bool.not_false, Bool.and_true, hsa, hsl, hpa, Bool.false_eq_true, if_false, if_true, hev, hsp, pure, Except.pure, bind, Except.bind]

theorem render_primlist (K : Consts) (ts : TypeSystem) (cass : List Cas) (H : Heap) (a : Nat) (isAnn : Bool) (f : Feature)
    (o : Obj) (c : Nat) (hs' : List Val) (toks : List String)
    (ho : H[a]? = some o) (nk : NameOk f)
    (hm : f.multi.getD false = false)
    (hv : alistGet? o.slots f.name = some (.ref c))
    (hsa : isInstanceOf ts f.range STRING_ARRAY = false)
    (hsl : isInstanceOf ts f.range STRING_LIST = false)
    (hpa : isPrimitiveArray K f.range = false)
    (hpl : isPrimitiveList K f.range = true)
    (hcl : collectList H (H.length + 1) (.ref c) = .ok hs')
    (hk : hs'.mapM showPrim = .ok toks)
    (hann : AnnSofa cass isAnn o) :
    renderFeature K ts cass H a isAnn f = .ok ([(xmlName f, joinSp toks)], []) := by
  rw [renderFeature_val nk.1 nk.2.1 nk.2.2.1 ho hv nofun hann]
  simp only [renderVal, extVal, hm, Bool.not_false, Bool.and_true, hsa, hsl, hpa, hpl, Bool.false_eq_true, if_false, if_true, hcl, hk, pure, Except.pure, bind, Except.bind]

theorem render_fsarr (K : Consts) (ts : TypeSystem) (cass : List Cas) (H : Heap) (a : Nat) (isAnn : Bool) (f : Feature)
    (o : Obj) (c : Nat) (l : List (Option Nat)) (ids : List String) (ho : H[a]? = some o) (nk : NameOk f)
    (hm : f.multi.getD false = false)
    (hv : alistGet? o.slots f.name = some (.ref c))
    (hsa : isInstanceOf ts f.range STRING_ARRAY = false)
    (hsl : isInstanceOf ts f.range STRING_LIST = false)
    (hpa : isPrimitiveArray K f.range = false)
    (hpl : isPrimitiveList K f.range = false)
    (hr : f.range = FS_ARRAY)
    (hev : slot H c "elements" = some (.refs l)) (hids : refIds H l = .ok ids)
    (hann : AnnSofa cass isAnn o) :
    renderFeature K ts cass H a isAnn f = .ok ([(xmlName f, joinSp ids)], []) := by
  have hfa : (f.range == FS_ARRAY) = true := by rw [hr]; rfl
  rw [renderFeature_val nk.1 nk.2.1 nk.2.2.1 ho hv nofun hann]
  simp only [renderVal, extVal, hm, Bool.not_false, Bool.and_true, hsa, hsl, hpa, hpl, hfa, Bool.false_eq_true, if_false, if_true, hev, hids, pure, Except.pure, bind, Except.bind]

theorem render_fslist (K : Consts) (ts : TypeSystem) (cass : List Cas) (H : Heap) (a : Nat) (isAnn : Bool) (f : Feature)
    (o : Obj) (c : Nat) (hs' : List Val)
    (ho : H[a]? = some o) (nk : NameOk f)
    (hm : f.multi.getD false = false)
    (hv : alistGet? o.slots f.name = some (.ref c))
    (hsa : isInstanceOf ts f.range STRING_ARRAY = false)
    (hsl : isInstanceOf ts f.range STRING_LIST = false)
    (hpa : isPrimitiveArray K f.range = false)
    (hpl : isPrimitiveList K f.range = false)
    (hr : f.range = FS_LIST)
    (hcl : collectList H (H.length + 1) (.ref c) = .ok hs')
    (hk : ∀ h ∈ hs', ∃ b : Nat, h = .ref b ∧ RefOk H b)
    (hann : AnnSofa cass isAnn o) :
    renderFeature K ts cass H a isAnn f = .ok ([(xmlName f, joinSp (hs'.map (refTok H)))], []) := by
  have hfa : (f.range == FS_ARRAY) = false := by simp [hr, FS_LIST, FS_ARRAY]
  have hfl : (f.range == FS_LIST) = true := by rw [hr]; rfl
  rw [renderFeature_val nk.1 nk.2.1 nk.2.2.1 ho hv nofun hann]
  simp only [renderVal, extVal, hm, Bool.not_false, Bool.and_true, hsa, hsl, hpa, hpl, hfa, hfl, Bool.false_eq_true, if_false, if_true, hcl, pure, Except.pure, bind, Except.bind]
  rw [Det.mapM_ok_of_forall _ (refTok H) hs' (by
    intro h hh
    obtain ⟨b, rfl, hb⟩ := hk h hh
    exact xidStr_idTok hb)]

theorem render_shared_ref (K : Consts) (ts : TypeSystem) (cass : List Cas) (H : Heap) (a : Nat) (isAnn : Bool) (f : Feature)
    (o : Obj) (b : Nat) (ho : H[a]? = some o) (nk : NameOk f)
    (hm : f.multi = some true)
    (hv : alistGet? o.slots f.name = some (.ref b)) (hx : RefOk H b)
    (hp : isPrimitive K ts f.range = false)
    (hb : f.range ≠ "uima.cas.Boolean" ∧ f.range ≠ "uima.cas.Double" ∧ f.range ≠ "uima.cas.Float")
    (hann : AnnSofa cass isAnn o) :
    renderFeature K ts cass H a isAnn f = .ok ([(xmlName f, idTok H b)], []) := by
  rw [renderFeature_val nk.1 nk.2.1 nk.2.2.1 ho hv nofun hann]
  simp only [renderVal, hm, Option.getD_some, Bool.not_true, Bool.and_false, Bool.false_eq_true, if_false]
  simp only [scalarAttr, extVal, xmlName_sofa f nk.1, beq_eq_false_iff_ne.mpr nk.2.2.2.2.2, beq_eq_false_iff_ne.mpr hb.1,
    beq_eq_false_iff_ne.mpr hb.2.1, beq_eq_false_iff_ne.mpr hb.2.2, Bool.or_self, hp, Bool.false_eq_true, if_false, pure,
    Except.pure, bind, Except.bind, xidStr_idTok hx]

/-- `str(head)` of a head of a primitive list -/
def primTok : Val → String
  | .int i => showInt i
  | .float t => t
  | _ => ""

theorem mapM_showPrim_int (hs : List Val) (h : ∀ x ∈ hs, ∃ i : Int, x = .int i) :
    hs.mapM showPrim = .ok (hs.map primTok) :=
  Det.mapM_ok_of_forall _ _ hs (by intro x hx; obtain ⟨i, rfl⟩ := h x hx; rfl)

theorem mapM_showPrim_float (hs : List Val) (h : ∀ x ∈ hs, ∃ t : String, x = .float t ∧ TokOk t) :
    hs.mapM showPrim = .ok (hs.map primTok) :=
  Det.mapM_ok_of_forall _ _ hs (by intro x hx; obtain ⟨t, rfl, _⟩ := h x hx; rfl)

theorem txtHead_kidTxt (h : Val) (hh : h = .none ∨ ∃ s : String, h = .str s) : txtHead (kidTxt h) = strHead h := by
  rcases hh with rfl | ⟨s, rfl⟩
  · rfl
  · unfold kidTxt normTxt strHead
    by_cases hs : s = ""
    · subst hs; rfl
    · have h1 : (some s == some "") = false := by simp [hs]
      have h2 : (s == "") = false := by simp [hs]
      simp only [h1, h2, Bool.false_eq_true, if_false]
      rfl

theorem flatTok_sofa_int {K : Consts} {ts : TypeSystem} {cass : List Cas} {c : Cas} {ci : Nat} {H : Heap} {isAnn : Bool}
    {o : Obj} {f : Feature} {v : Val} (hc : cass[ci]? = some c) (hf : FlatFeat K ts c ci H isAnn o f)
    (hv : alistGet? o.slots f.name = some v) (hn : f.name = "sofa") (s : String)
    (hs : flatTok cass H isAnn o f.name v = some s) : (parseInt s).isSome = true := by
  obtain ⟨v', hv', hcase⟩ := hf.2.2.2.2.2.2.2.2.2.2.2
  cases hv.symm.trans hv'
  rcases hcase with ⟨_, hsofa⟩ | ⟨hne, _⟩ | ⟨hne, _⟩
  · rcases hsofa with ⟨vn, rfl, hsome⟩ | ⟨rfl, _⟩
    · cases hg' : Cas.getViewRec c vn with
      | none => rw [hg'] at hsome; cases hsome
      | some view =>
        have hview : (cass[ci]?).bind (fun c => Cas.getViewRec c vn) = some view := by
          rw [hc]; exact hg'
        unfold flatTok at hs
        simp only [hview, Option.map_some, Option.some.injEq] at hs
        rw [← hs, parseInt_showInt_aux]; rfl
    · cases hs
  · exact absurd hn hne
  · exact absurd hn hne

theorem Shape.attr {K : Consts} {f : Feature} (nk : NameOk f) (av : Option String) : Shape K f av [] :=
  { names := ⟨nk.2.2.2.2.1, nk.2.2.2.1, nk.2.2.1⟩, excl := fun h => absurd rfl h, kidSofa := fun h => absurd rfl h,
    sofa := fun h => absurd h nk.2.2.2.2.2, res := nk.1, kid := fun h => absurd rfl h }

theorem Shape.kids {K : Consts} {f : Feature} (nk : NameOk f) {ks : List (Option String)}
    (hk : isPrimitiveArray K f.range = true ∨ (isPrimitiveList K f.range = true ∧ f.range = STRING_LIST)) :
    Shape K f none ks :=
  { names := ⟨nk.2.2.2.2.1, nk.2.2.2.1, nk.2.2.1⟩, excl := fun _ => rfl, kidSofa := fun _ => nk.2.2.2.2.2,
    sofa := fun h => absurd h nk.2.2.2.2.2, res := nk.1, kid := fun _ => hk }

theorem feat_shape {K : Consts} {ts : TypeSystem} {cass : List Cas} {c : Cas} {ci : Nat} {H : Heap} {a : Nat}
    {isAnn : Bool} {o : Obj} {f : Feature} (hc : cass[ci]? = some c) (ho : H[a]? = some o)
    (hann : AnnSofa cass isAnn o) (hf : CollFeat K ts c ci H isAnn o f) :
    ∃ (av : Option String) (ks : List (Option String)),
      renderFeature K ts cass H a isAnn f = .ok (featOut f av ks) ∧ Shape K f av ks := by
  have none : ∀ (nk : NameOk f), alistGet? o.slots f.name = some .none → ∃ (av : Option String)
      (ks : List (Option String)), renderFeature K ts cass H a isAnn f = .ok (featOut f av ks) ∧ Shape K f av ks :=
    fun nk hv => ⟨.none, [], by
      rw [renderFeature_none K ts cass H a isAnn f nk.2.1 nk.2.2.1 (by rw [Xmi.slot_of ho _, hv]; rfl)]; rfl, .attr nk _⟩
  have attr : ∀ (_ : NameOk f) s, renderFeature K ts cass H a isAnn f = .ok ([(xmlName f, s)], []) →
      ∃ (av : Option String) (ks : List (Option String)),
        renderFeature K ts cass H a isAnn f = .ok (featOut f av ks) ∧ Shape K f av ks :=
    fun nk s h => ⟨some s, [], h, .attr nk _⟩
  rcases hf with hflat | ⟨nk, hsh | hin⟩
  · obtain ⟨v, hv, _⟩ := hflat.2.2.2.2.2.2.2.2.2.2.2
    refine ⟨flatTok cass H isAnn o f.name v, [], ?_, ⟨⟨hflat.2.2.2.2.1, hflat.2.2.2.1, hflat.2.2.1⟩, fun h => absurd rfl h,
      fun h => absurd rfl h, flatTok_sofa_int hc hflat hv⟩, hflat.1, fun h => absurd rfl h⟩
    rw [renderFeature_flat K ts cass c ci H a isAnn f o hc ho hflat hann, hv]; rfl
  · obtain ⟨hm, _, hp, hb1, hb2, hb3, v, hv, hcase⟩ := hsh
    rcases hcase with rfl | ⟨b, rfl, hx⟩
    · exact none nk hv
    · exact attr nk _ (render_shared_ref K ts cass H a isAnn f o b ho nk hm hv hx hp ⟨hb1, hb2, hb3⟩ hann)
  · obtain ⟨hm, v, hv, hcase⟩ := hin
    rcases hcase with ⟨_, rk, hi⟩ | ⟨_, rk, hi⟩ | ⟨hr, rk, hi⟩ | ⟨_, rk, hi⟩ | ⟨_, rk, hi⟩ | ⟨hr, rk, hi⟩ | ⟨hr, rk, hi⟩
    · rcases hi with rfl | ⟨cc, ev, rfl, hev, hP⟩
      · exact none nk hv
      · obtain ⟨hne, s, hsp⟩ := showPrimArray_ok hP
        exact attr nk s (render_primarr K ts cass H a isAnn f o cc ev s ho nk hm hv rk.strArr rk.strList rk.primArr hev
          hne hsp hann)
    · rcases hi with rfl | ⟨cc, ev, rfl, hev, hP⟩
      · exact none nk hv
      · have hemp : (ev = .refs [] ∨ ev = .strs []) → _ := fun he =>
          attr nk "" (render_strarr_empty K ts cass H a isAnn f o cc ev ho nk hm hv rk.strArr hev he hann)
        rcases hP with h | ⟨l, rfl⟩
        · exact hemp (.inl h)
        · by_cases hl : l = []
          · exact hemp (.inr (hl ▸ rfl))
          · refine ⟨.none, l.map normTxt, ?_, .kids nk (.inl rk.primArr)⟩
            rw [render_strarr_cons K ts cass H a isAnn f o cc l ho nk hm hv rk.strArr hev hl hann]
            unfold featOut; rw [List.map_map]; rfl
    · rcases hi with rfl | ⟨cc, ev, rfl, hev, l, rfl, hl⟩
      · exact none nk hv
      · exact attr nk _ (render_fsarr K ts cass H a isAnn f o cc _ _ ho nk hm hv rk.strArr rk.strList rk.primArr
          rk.primList hr hev (refIds_ok H l hl) hann)
    · rcases hi with rfl | ⟨cc, hs, rfl, hcl, hP⟩
      · exact none nk hv
      · exact attr nk _ (render_primlist K ts cass H a isAnn f o cc hs _ ho nk hm hv rk.strArr rk.strList rk.primArr
          rk.primList hcl (mapM_showPrim_int hs hP) hann)
    · rcases hi with rfl | ⟨cc, hs, rfl, hcl, hP⟩
      · exact none nk hv
      · exact attr nk _ (render_primlist K ts cass H a isAnn f o cc hs _ ho nk hm hv rk.strArr rk.strList rk.primArr
          rk.primList hcl (mapM_showPrim_float hs hP) hann)
    · rcases hi with rfl | ⟨cc, hs, rfl, hcl, hne, hP⟩
      · exact none nk hv
      · refine ⟨.none, hs.map kidTxt, ?_, .kids nk (.inr ⟨rk.primList, hr⟩)⟩
        rw [render_strlist K ts cass H a isAnn f o cc hs ho nk hm hv rk.strArr rk.strList hcl hP hann]
        unfold featOut; rw [List.map_map]; rfl
    · rcases hi with rfl | ⟨cc, hs, rfl, hcl, hP⟩
      · exact none nk hv
      · exact attr nk _ (render_fslist K ts cass H a isAnn f o cc hs ho nk hm hv rk.strArr rk.strList rk.primArr
          rk.primList hr hcl hP hann)

end Cassis.Xmi.CG1
