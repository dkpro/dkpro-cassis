/-
Non-vacuity for `Properties/C20Iso.lean`: the flat instance `Demo.demo` (`Proofs/InstancesFlat.lean`) satisfies `Distinct`.
-/
import CassisModel.Spec.Comparable
import CassisModel.Proofs.RoundTripDemo
import CassisModel.Proofs.RoundTripJsonDemo

namespace Cassis.Comparable
open Cassis.TS Cassis.Traverse Cassis.Xmi

theorem demo_distinct_lit : Distinct Demo.hpS [0, 1] := by
  unfold Distinct
  decide +kernel

theorem demo_distinct {doc : XDoc} {st : St}
    (hs : saveXmi Demo.K Demo.demoTS [Demo.demo.1] 0 Demo.demo.2 = .ok (doc, st)) :
    Distinct st.heap (st.allFs.map (·.2)) := by
  rw [Demo.demo_lit, Demo.demoTS_eq] at hs
  rw [(Demo.save_st hs).1, (Demo.save_st hs).2]
  exact demo_distinct_lit

theorem demo_distinctJ {doc : Json.JDoc} {st : St}
    (hs : Json.saveJson Demo.K Demo.demoTS [Demo.demo.1] 0 Demo.demo.2 .none = .ok (doc, st)) :
    Distinct st.heap (st.allFs.map (·.2)) := by
  rw [Demo.demo_lit, Demo.demoTS_eq] at hs
  rw [(Json.Demo.save_stJ hs).1, (Json.Demo.save_stJ hs).2]
  exact demo_distinct_lit

end Cassis.Comparable
