/-
The two hypotheses of `json_full_ts_multi_chain_of_prov` that are not proved for the rebuilt type system (`InhAnc ts'`,
`OwnLike o ts'`), evaluated on the instances (evidence only: `inhAncB`, `ownLikeB` have no soundness lemma): they hold on `UnrelDemo`,
and also on the counterexample `RedefDemo` (there it is `FlagCoherentChain` that fails).
-/
import CassisModel.Proofs.ChainEmbRebuiltFlags

namespace Cassis.ChainE
open Cassis.TS Cassis.Json

def ownLikeB (o m : TypeSystem) : Bool :=
  m.types.all (fun t' => t'.own.all (fun r =>
    match find? o t'.name with
    | some t => t.own.any (fun g => r.name == g.name && r.multi == g.multi && r.reserved == g.reserved)
    | none => false))

#guard (match rebuiltTs Gen.consts UnrelDemo.ts [UnrelDemo.cas] 0 UnrelDemo.hp with
  | .ok m => inhAncB m && ownLikeB UnrelDemo.ts m && inhAncB UnrelDemo.ts | .error _ => false)
#guard (match rebuiltTs Gen.consts RedefDemo.ts [RedefDemo.cas] 0 RedefDemo.hp with
  | .ok m => inhAncB m && ownLikeB RedefDemo.ts m && inhAncB RedefDemo.ts | .error _ => false)

end Cassis.ChainE
