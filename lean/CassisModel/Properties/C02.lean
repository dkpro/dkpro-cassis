/-
C02 — JSON save/load is lossless and carries a sufficient type system.

Proved here (about `Model/Json.lean`): the per-kind encode/decode pairs of the JSON codec (special float
values, array elements incl. the "absent %ELEMENTS = empty array" rule, the `<element>[]` encoding of array
ranges in the embedded type system), the shape of the written document (per view the byte array, if any, and the
sofa, then every collected structure once, ascending distinct ids) and the dependency order in which embedded types are
created.  That merging the embedded type system into the supplied one yields one tree is C13.
The end-to-end statement `load (save c) ≈ c` is in `C02RoundTrip.lean` (flat fragment), `C02RoundTripColl.lean` (arrays and
lists) and `C02RoundTripEmbedded.lean` (embedded type systems).
-/
import CassisModel.Proofs.JsonWriter
import CassisModel.Proofs.Toposort

namespace Cassis.Json
open Cassis.TS

/-- NaN and the infinities travel as strings under a `#` key and come back as the same token -/
theorem parseFloatValue_special (t : String) (h : isSpecialFloat t = true) :
    parseFloatValue (floatElem t) = .ok (.float t) :=
  parseFloatValue_special_aux t h

/-- every float token written as an array element is read back (ordinary tokens as numbers) -/
theorem floatElem_roundtrip (t : String) : parseFloatValue (floatElem t) = .ok (.float t) :=
  floatElem_roundtrip_aux t

/-- an absent `%ELEMENTS` member denotes the empty array (findings J2, J5) -/
theorem parsePrimArray_absent (ty : String) : parsePrimArray ty none = .ok (.refs []) := by
  simp [parsePrimArray]

theorem intArray_roundtrip (hp : Heap) (ty : String) (l : List Int) (hne : l ≠ [])
    (hty : ty ≠ "uima.cas.ByteArray" ∧ ty ≠ "uima.cas.DoubleArray" ∧ ty ≠ "uima.cas.FloatArray" ∧ ty ≠ FS_ARRAY) :
    ∃ e, arrayElements hp ty (some (.ints l)) = .ok e ∧ parsePrimArray ty e = .ok (.ints l) := by
  obtain ⟨h1, h2, h3, h4⟩ := hty
  obtain ⟨e, he, hp'⟩ := primElems_ints hp ty l
    (by rw [beq_false_of_ne h2, beq_false_of_ne h3]; rfl) h4
  rw [if_neg (by simpa using hne)] at hp'
  exact ⟨e, he, hp'⟩

theorem floatArray_roundtrip (hp : Heap) (ty : String) (l : List String) (hne : l ≠ [])
    (hty : ty = "uima.cas.DoubleArray" ∨ ty = "uima.cas.FloatArray") :
    ∃ e, arrayElements hp ty (some (.floats l)) = .ok e ∧ parsePrimArray ty e = .ok (.floats l) := by
  obtain ⟨e, he, hp'⟩ := primElems_floats hp ty l hty.symm
  rw [if_neg (by simpa using hne)] at hp'
  exact ⟨e, he, hp'⟩

/-- the range of a primitive-array feature is written as `<element>[]` and decoded to the same array type
    with no element type (finding J3) -/
theorem range_roundtrip_primArray (f : Feature) (h : isPrimitiveArray Gen.consts f.range = true) :
    let jf := renderFeatDecl Gen.consts f
    jf.range.endsWith "[]" = true ∧
    arrayTypeNameFor (String.ofList (jf.range.toList.dropLast.dropLast)) = f.range ∧ jf.elem = none := by
  have h' := h
  unfold isPrimitiveArray at h'
  rw [Bool.and_eq_true] at h'
  obtain ⟨ha, ht⟩ := primArray_table f.range (List.contains_iff_mem.mp h'.2)
  simp only [renderFeatDecl, isArray, h'.1, ha, h, Bool.and_self, if_true, brackets_endsWith, brackets_dropLast2, ht,
    and_self]

/-- an FSArray feature with a declared element type `e` is written as `e[]`; without one as `uima.cas.TOP[]` -/
theorem range_roundtrip_fsArray (f : Feature) (h : f.range = FS_ARRAY) :
    (renderFeatDecl Gen.consts f).range = (f.elem.getD TOP) ++ "[]" ∧ (renderFeatDecl Gen.consts f).elem = none := by
  have h1 : isArray Gen.consts f.range = true := by rw [h]; decide +kernel
  have h2 : isPrimitiveArray Gen.consts f.range = false := by rw [h]; decide +kernel
  simp only [renderFeatDecl, h1, h2, if_true, Bool.false_eq_true, if_false]
  cases f.elem <;> simp only [Option.getD, and_self]

/-- every other range is written as it is, with its element type if declared -/
theorem range_roundtrip_other (f : Feature) (h : isArray Gen.consts f.range = false) :
    (renderFeatDecl Gen.consts f).range = f.range ∧ (renderFeatDecl Gen.consts f).elem = f.elem := by
  simp only [renderFeatDecl, h, Bool.false_eq_true, if_false, and_self]

/-- the written document: per view (the byte array, if any, and) the sofa, then the collected structures
    once each in ascending id order with pairwise distinct ids -/
theorem saveJson_shape (K : Consts) (ts : TypeSystem) (cass : List Cas) (ci : Nat) (hp : Heap) (mode : Mode)
    (doc : JDoc) (st : Traverse.St) (h : saveJson K ts cass ci hp mode = .ok (doc, st)) :
    ∃ (c : Cas) (sofaFss fsElems : List JFs), cass[ci]? = some c ∧ doc.fss = sofaFss ++ fsElems ∧
      fsElems.map (·.id) = (Xmi.sortById st.allFs).map (fun p => some p.1) ∧
      ((Xmi.sortById st.allFs).map (·.1)).Nodup ∧
      doc.views.map (·.name) = c.views.map (fun p => p.2.sofa.sofaID) ∧
      (mode = .none → doc.types = none) := by
  obtain ⟨c, parts, es, decls, hc, _, hst, hr, hd, rfl⟩ := saveJson_ok_iff.mp h
  obtain ⟨inv, _⟩ := Traverse.findAllFs_inv K ts { includeInlinable := true } hp c.nextXid (Traverse.defaultSeeds c) st hst
  have hperm := Xmi.sortById_perm_aux st.allFs
  refine ⟨c, parts.flatten, es, hc, rfl, ?_, (hperm.map (·.1)).nodup_iff.mpr inv.nodupK, ?_, ?_⟩
  · exact renderAll_ids K ts cass st.heap _ _ hr fun p hp' => inv.link p.1 p.2 (hperm.mem_iff.mp hp')
  · simp only [List.map_map]
    rfl
  · rintro rfl
    exact (Except.ok.inj hd).symm

/-- embedded types are created supertypes first, whatever the order of the declarations -/
theorem toposort_sound (types : List JType) (order : List String) (h : toposort types = .ok order) :
    (∀ t ∈ types, t.name ∈ order) ∧
    ∀ t ∈ types, t.super ≠ t.name → ∀ i j : Nat, order[i]? = some t.name → order[j]? = some t.super → j < i := by
  obtain ⟨hpw, hmem⟩ := toposort_spec types order h
  refine ⟨fun t ht => (hmem t ht).1, ?_⟩
  intro t ht hne i j hi hj
  obtain ⟨hi1, hi2⟩ := List.getElem?_eq_some_iff.mp hi
  obtain ⟨hj1, hj2⟩ := List.getElem?_eq_some_iff.mp hj
  rcases Nat.lt_trichotomy j i with hlt | heq | hgt
  · exact hlt
  · subst heq
    rw [hi2] at hj2
    exact absurd hj2.symm hne
  · have := List.pairwise_iff_getElem.mp hpw i j hi1 hj1 hgt t ht hi2.symm hj2.symm
    rw [hi2, hj2] at this
    exact absurd this hne

/-! Non-vacuity (tests of concrete instances) -/
example : toposort [{ name := "x.B", super := "x.A" }, { name := "x.A", super := "uima.tcas.Annotation" }] =
    .ok ["uima.tcas.Annotation", "x.A", "x.B"] := by
  unfold toposort
  simp only []
  rw [toposort_go_step1 _ _ 3 _ _ "uima.tcas.Annotation" (by decide) (by decide) (by decide)]
  rw [toposort_go_step1 _ _ 2 _ _ "x.A" (by decide) (by decide) (by decide)]
  rw [toposort_go_step1 _ _ 1 _ _ "x.B" (by decide) (by decide) (by decide)]
  rfl
example : parseFloatValue (floatElem "-Infinity") = .ok (.float "-Infinity") := by rfl
example : (renderFeatDecl Gen.consts { name := "a", domain := "x.T", range := "uima.cas.IntegerArray" }).range = "uima.cas.Integer[]" := by
  decide +kernel

end Cassis.Json
