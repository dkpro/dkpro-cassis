/-
The instances over the built-in type system plus one or a few small user types (`x.Tok` with an Integer and a reference
feature, `x.F`, `x.Span`; `SensDemo` has an `x.Tok` of its own with an FSArray and an IntegerArray feature as well; the small
history of the descriptor round trip declares three types with an FSArray feature), and everything that is evaluated on
them, as ONE statement `Facts.flat`: the kernel keeps what it has computed only within one declaration, and any evaluation
over a type system that extends the built-in one first pays for decoding and comparing the built-in type names.  The facts
are structures with named fields (a single fact is a plain `def … : Prop`), `Facts.<name>` after the module or the instance
that uses them (a module may have two or three).
-/
import CassisModel.Spec.IdsWrite
import CassisModel.Spec.Cas
import CassisModel.Spec.ChainCollCheck
import CassisModel.Spec.JsonDoc
import CassisModel.Spec.TsXmlRoundTripCheck
import CassisModel.Proofs.TsXmlNoPad
import CassisModel.Proofs.ApiHistoryEval
import CassisModel.Spec.ComparableSens
import CassisModel.Proofs.FeatureLeaf
import CassisModel.Proofs.RoundTripJsonCollCheckSound
import CassisModel.Proofs.JsonDecEq

/-! ### the instance that `Proofs/RoundTripDemo.lean` uses: the built-in type system plus an annotation type `x.Tok` (an Integer
feature `n`, a reference feature `next`), a CAS over the text `a😀b`, two `x.Tok` that refer to each other, the first one
indexed with `Cas.add`; the reader with the dot test of `containsType` as a parameter (`String.contains` does not
evaluate in the kernel), and the conclusion of `xmi_roundtrip_flat` as a Boolean function -/

namespace Cassis.Xmi.Demo
open Cassis.TS Cassis.Xmi Cassis.Traverse

def K : Consts := Gen.consts

def demoTS : TypeSystem :=
  match (do
    let ts ← createType K Gen.builtinTS "x.Tok" ANNOTATION none
    let ts ← createFeature ts "x.Tok" "n" "uima.cas.Integer"
    createFeature ts "x.Tok" "next" "x.Tok") with
  | .ok ts => ts
  | .error _ => Gen.builtinTS

def demoTS' : TypeSystem :=
  match (do
    let ts ← createType K Gen.builtinTS "x.Tok" ANNOTATION none
    let ts ← createFeatureLeaf ts "x.Tok" "n" "uima.cas.Integer"
    createFeatureLeaf ts "x.Tok" "next" "x.Tok") with
  | .ok ts => ts
  | .error _ => Gen.builtinTS

def txt : List Nat := [97, 0x1F600, 98]

def c0 : Cas := Cas.new (some txt) none

def hp0 : Heap :=
  [ { ty := "x.Tok", ts := 0, xid := none, slots := [("n", .int 7), ("next", .ref 1), ("begin", .int 0), ("end", .int 2), ("sofa", .sofa 0 "_InitialView")] },
    { ty := "x.Tok", ts := 0, xid := none, slots := [("n", .none), ("next", .ref 0), ("begin", .int 2), ("end", .int 3), ("sofa", .sofa 0 "_InitialView")] } ]

def demo : Cas × Heap :=
  match Cas.add demoTS 0 c0 hp0 { view := "_InitialView", lenient := false } 0 true with
  | .ok r => r
  | .error _ => (c0, hp0)

def demo' : Cas × Heap :=
  match Cas.add demoTS' 0 c0 hp0 { view := "_InitialView", lenient := false } 0 true with
  | .ok r => r
  | .error _ => (c0, hp0)

def casL : Cas :=
  { views := [("_InitialView",
      { sofa := { sofaID := "_InitialView", sofaNum := 1, xid := 1, text := some [97, 128512, 98],
                  mime := some "text/plain", uri := none, arr := .none, conv := some [0, 1, 3, 4] },
        idx := [("x.Tok", [{ b := 0, e := 2, oid := 0 }])] })],
    nextXid := 3, nextSofaNum := 2 }

def hpL : Heap :=
  [ { ty := "x.Tok", ts := 0, xid := some 2, slots := [("n", .int 7), ("next", .ref 1), ("begin", .int 0), ("end", .int 2), ("sofa", .sofa 0 "_InitialView")] },
    { ty := "x.Tok", ts := 0, xid := none, slots := [("n", .none), ("next", .ref 0), ("begin", .int 2), ("end", .int 3), ("sofa", .sofa 0 "_InitialView")] } ]

def containsTypeP (hd : String → Bool) (ts : TypeSystem) (n : String) (exact : Bool := false) : Bool :=
  if hd n || exact then hasExact ts n
  else match getType ts n with
    | .ok _ => true
    | .error _ => false

def addP (hd : String → Bool) (ts : TS.TypeSystem) (cas : Nat) (c : Cas) (hp : Heap) (h : Handle) (addr : Nat) (keepId : Bool := true) :
    Except Err (Cas × Heap) := do
  let o ← match hp[addr]? with
    | some o => pure o
    | none => throw .attributeError
  if !h.lenient && !(containsTypeP hd ts o.ty) then throw .runtimeError
  let v ← Cas.cur c h
  let (x, c1) := match keepId, o.xid with
    | true, some x => (x, c)
    | _, _ => (c.nextXid, { c with nextXid := c.nextXid + 1 })
  let slots := if (alistGet? o.slots "sofa").isSome then alistSet o.slots "sofa" (.sofa cas h.view) else o.slots
  let o' : Obj := { o with xid := some x, slots := slots }
  let e ← Cas.entryOf o' addr
  if (Index.get v.idx o.ty).any (fun x => decide (x.b = Index.NONE_KEY) != decide (e.b = Index.NONE_KEY)) then
    throw .typeError
  let v' : View := { v with idx := Index.add v.idx o.ty e }
  pure (Cas.setViewRec c1 h.view v', hp.set addr o')

def addMembersP (hd : String → Bool) (ts : TypeSystem) (ci : Nat) (h : Handle) (conv : Offsets.Conv) (sofas : List (Int × PSofa))
    (lenientIds : List Int) (fss : List (Int × Nat)) : List Int → Build → Except Err Build
  | [], b => .ok b
  | m :: ms, b =>
    if lenientIds.contains m then addMembersP hd ts ci h conv sofas lenientIds fss ms b
    else
      match lookupFs fss m with
      | .error e => .error e
      | .ok a =>
        match b.heap[a]? with
        | none => .error .attributeError
        | some o =>
          let (own, ms') : Option Val × List (Int × Val) :=
            match b.memberSofas.find? (fun q => q.1 == m) with
            | some q => (some q.2, b.memberSofas)
            | none =>
              match slot b.heap a "sofa" with
              | some v => (some v, b.memberSofas ++ [(m, v)])
              | none => (none, b.memberSofas)
          let r : Except Err (Heap × List Int) :=
            if !(b.converted.contains m) && isInstanceOf ts o.ty ANNOTATION then
              match convertOffsets (ownConv sofas conv own) b.heap a with
              | .error e => .error e
              | .ok hp' => .ok (hp', b.converted ++ [m])
            else .ok (b.heap, b.converted)
          match r with
          | .error e => .error e
          | .ok (hp1, cv1) =>
            match addP hd ts ci b.cas hp1 h a true with
            | .error e => .error e
            | .ok (c', hp2) =>
              addMembersP hd ts ci h conv sofas lenientIds fss ms { cas := c', heap := hp2, converted := cv1, memberSofas := ms' }

def buildViewP (hd : String → Bool) (ts : TypeSystem) (ci : Nat) (lenient : Bool) (p : Pass1) (s : PSofa) (b : Build) : Except Err Build :=
  let h0 : Handle := { view := Cas.INITIAL_VIEW, lenient := lenient }
  let h : Handle := { view := s.sofaID, lenient := lenient }
  let c1 : Except Err Cas :=
    if s.sofaID == Cas.INITIAL_VIEW then
      Cas.updSofa b.cas h0 (fun so => { so with xid := s.xid, sofaNum := s.num })
    else
      match Cas.createView b.cas h0 s.sofaID (some s.xid) (some s.num) with
      | .error e => .error e
      | .ok (c', _) => .ok c'
  match c1 with
  | .error e => .error e
  | .ok c1 =>
    let conv := convOfText s.text
    match Cas.updSofa c1 h (fun so => { so with text := s.text.map (fun t => t.toList.map Char.toNat), conv := conv, mime := s.mime }) with
    | .error e => .error e
    | .ok c2 =>
      let members := match p.views.find? (fun q => q.1 == s.xid) with
        | some q => q.2.members
        | none => []
      addMembersP hd ts ci h conv p.sofas p.lenientIds p.fss members { b with cas := c2 }

def buildViewsP (hd : String → Bool) (ts : TypeSystem) (ci : Nat) (lenient : Bool) (p : Pass1) : List (Int × PSofa) → Build → Except Err Build
  | [], b => .ok b
  | (_, s) :: rest, b =>
    match buildViewP hd ts ci lenient p s b with
    | .error e => .error e
    | .ok b' => buildViewsP hd ts ci lenient p rest b'

def buildCasP (hd : String → Bool) (_K : Consts) (ts : TypeSystem) (ci : Nat) (lenient : Bool) (p : Pass1) (hp : Heap) : Except Err Loaded :=
  match buildViewsP hd ts ci lenient p p.sofas { cas := Cas.empty, heap := hp } with
  | .error e => .error e
  | .ok b0 =>
    match rehome p.fss b0.memberSofas b0.heap with
    | .error e => .error e
    | .ok hpR =>
    let b : Build := { b0 with heap := hpR }
    match convertReferenced ts p b.converted p.fss b.heap with
    | .error e => .error e
    | .ok heap => .ok { cas := { b.cas with nextXid := p.maxId + 1, nextSofaNum := p.maxNum + 1 }, heap := heap }

def loadXmiP (hd : String → Bool) (K : Consts) (ts : TypeSystem) (tsIdx ci : Nat) (lenient : Bool) (hp : Heap) (doc : XDoc) : Except Err Loaded := do
  let p ← pass1 K ts tsIdx lenient doc { heap := hp }
  let hp2 ← postAll K ts tsIdx ci p.sofas p.fss p.fss p.heap
  buildCasP hd K ts ci lenient p hp2

/-- `hasDot`, answering for the one user type name of the instance without `String.contains` -/
def hasDotK (n : String) : Bool := if n = "x.Tok" then true else hasDot n

/-- the conclusion of `xmi_roundtrip_flat` as a Boolean function of the inputs (`load` is `loadXmi K ts`) -/
def conclWith (load : Nat → Nat → Bool → Heap → XDoc → Except Err Loaded)
    (K : Consts) (ts : TypeSystem) (cass : List Cas) (ci : Nat) (c : Cas) (hp : Heap) (tsIdx ci' : Nat) : Bool :=
  match saveXmi K ts cass ci hp with
  | .error _ => false
  | .ok (doc, st) =>
    match pass1 K ts tsIdx false doc { heap := st.heap }, load tsIdx ci' false st.heap doc with
    | .ok p, .ok ld =>
      decide (p.fss.map (·.1) = 0 :: (sortById st.allFs).map (·.1)) &&
      st.allFs.all (fun q =>
        match lookupFs p.fss q.1, st.heap[q.2]? with
        | .ok a', some o =>
          match ld.heap[a']?, find? ts o.ty with
          | some o', some t =>
            decide (o'.ty = o.ty) && decide (o'.xid = some q.1) &&
            (allFeatures t).all (fun f => decide (featContent ld.heap a' f.name = featContent st.heap q.2 f.name))
          | _, _ => false
        | _, _ => false) &&
      decide (ld.cas.views.map (viewContent ld.heap) = c.views.map (viewContent st.heap)) &&
      st.allFs.all (fun q => decide (q.1 < ld.cas.nextXid)) &&
      c.views.all (fun nv => decide (nv.2.sofa.xid < ld.cas.nextXid) && decide (nv.2.sofa.sofaNum < ld.cas.nextSofaNum))
    | _, _ => false

def conclB (K : Consts) (ts : TypeSystem) (cass : List Cas) (ci : Nat) (c : Cas) (hp : Heap) (tsIdx ci' : Nat) : Bool :=
  conclWith (loadXmi K ts) K ts cass ci c hp tsIdx ci'

/-- what the conclusion of `xmi_roundtrip_flat` compares: the attributes of the saved document, the view contents of the
    loaded CAS, and the contents of the five features of `x.Tok` for every loaded structure (references by id; offsets in
    code points although the document has UTF-16 offsets) -/
def loadedWith (load : Nat → Nat → Bool → Heap → XDoc → Except Err Loaded)
    (K : Consts) (ts : TypeSystem) (cass : List Cas) (ci : Nat) (hp : Heap) (tsIdx ci' : Nat) :
    Option (List (String × List (String × String)) × List ViewContent × List (Int × List (String × DVal)) × Int × Int) :=
  match saveXmi K ts cass ci hp with
  | .error _ => none
  | .ok (doc, st) =>
    match pass1 K ts tsIdx false doc { heap := st.heap }, load tsIdx ci' false st.heap doc with
    | .ok p, .ok ld =>
      some (doc.map (fun e => (e.ty, e.attrs)), ld.cas.views.map (viewContent ld.heap),
        p.fss.map (fun q => (q.1, ["n", "next", "begin", "end", "sofa"].map (fun n => (n, featContent ld.heap q.2 n)))),
        ld.cas.nextXid, ld.cas.nextSofaNum)
    | _, _ => none

/-- the value of `loadedWith` on the instance (`end="3"` of the document is read back as 2) -/
def loadedLit :
    List (String × List (String × String)) × List ViewContent × List (Int × List (String × DVal)) × Int × Int :=
    ( [ ("uima.cas.NULL", [("xmi:id", "0")]),
        ("x.Tok", [("xmi:id", "2"), ("n", "7"), ("next", "3"), ("begin", "0"), ("end", "3"), ("sofa", "1")]),
        ("x.Tok", [("xmi:id", "3"), ("next", "2"), ("begin", "3"), ("end", "4"), ("sofa", "1")]),
        ("uima.cas.Sofa", [("xmi:id", "1"), ("sofaNum", "1"), ("sofaID", "_InitialView"), ("mimeType", "text/plain"),
            ("sofaString", "a😀b")]),
        ("uima.cas.View", [("sofa", "1"), ("members", "2")]) ],
      [ { name := "_InitialView", xid := 1, num := 1, text := some [97, 128512, 98], mime := some "text/plain", members := [2] } ],
      [ (0, [("n", .none), ("next", .none), ("begin", .none), ("end", .none), ("sofa", .none)]),
        (2, [("n", .int 7), ("next", .ref (some 3)), ("begin", .int 0), ("end", .int 2), ("sofa", .sofa "_InitialView")]),
        (3, [("n", .none), ("next", .ref (some 2)), ("begin", .int 2), ("end", .int 3), ("sofa", .sofa "_InitialView")]) ],
      4, 2 )

def hpS : Heap :=
  [ { ty := "x.Tok", ts := 0, xid := some 2, slots := [("n", .int 7), ("next", .ref 1), ("begin", .int 0), ("end", .int 2), ("sofa", .sofa 0 "_InitialView")] },
    { ty := "x.Tok", ts := 0, xid := some 3, slots := [("n", .none), ("next", .ref 0), ("begin", .int 2), ("end", .int 3), ("sofa", .sofa 0 "_InitialView")] } ]

end Cassis.Xmi.Demo

/-! ### `FlatDemo` (`Proofs/FaithfulJsonDemo.lean`): the flat instance `ResDemo.flatCas` / `ResDemo.flatHp` in a second layout -/

namespace Cassis.Json.FlatDemo
open Cassis.TS Cassis.Traverse Cassis.Xmi Cassis.Xmi.CollDemo Cassis.Xmi.ResDemo

def tail2 (b e : Int) : List (String × Val) :=
  [("begin", .int b), ("end", .int e), ("sofa", .sofa 1 "_InitialView")]

def flatHp2 : Heap :=
  [ /- 0 -/ enode "uima.cas.EmptyStringList",
    /- 1 -/ { ty := "x.F", ts := 0, xid := none, slots := [("self_", .none), ("type_", .ref 2)] ++ tail2 2 3 },
    /- 2 -/ { ty := "x.F", ts := 0, xid := some 2, slots := [("self_", .int 7), ("type_", .ref 1)] ++ tail2 0 2 } ]

def flatCas2 : Cas :=
  { cas with views := cas.views.map (fun nv => (nv.1, { nv.2 with idx := [("x.F", [{ b := 0, e := 2, oid := 2 }])] })) }

end Cassis.Json.FlatDemo

/-! ### `PermDemo` (`Proofs/LoadPermJsonDemo.lean`): three views, five `x.Tok` -/

namespace Cassis.Json.PermDemo
open Cassis.TS Cassis.Traverse

abbrev K : Consts := Xmi.Demo.K

abbrev tsP : TypeSystem := Xmi.Demo.demoTS'

def casP : Cas :=
  { views := [("_InitialView",
      { sofa := { sofaID := "_InitialView", sofaNum := 1, xid := 1, text := some [97, 128512, 98],
                  mime := some "text/plain", uri := none, arr := .none, conv := some [0, 1, 3, 4] },
        idx := [("x.Tok", [{ b := 0, e := 2, oid := 0 }])] }),
      ("v2",
      { sofa := { sofaID := "v2", sofaNum := 2, xid := 4, text := some [128512, 98, 99],
                  mime := none, uri := none, arr := .none, conv := some [0, 2, 3, 4] },
        idx := [("x.Tok", [{ b := 0, e := 1, oid := 2 }, { b := 1, e := 2, oid := 3 }])] }),
      ("v3",
      { sofa := { sofaID := "v3", sofaNum := 3, xid := 8, text := some [100],
                  mime := none, uri := none, arr := .none, conv := some [0, 1] },
        idx := [("x.Tok", [{ b := 0, e := 1, oid := 4 }])] })],
    nextXid := 9, nextSofaNum := 4 }

def hpP : Heap :=
  [ { ty := "x.Tok", ts := 0, xid := some 2, slots := [("n", .int 7), ("next", .ref 1), ("begin", .int 0), ("end", .int 2), ("sofa", .sofa 0 "_InitialView")] },
    { ty := "x.Tok", ts := 0, xid := none, slots := [("n", .none), ("next", .ref 2), ("begin", .int 2), ("end", .int 3), ("sofa", .sofa 0 "_InitialView")] },
    { ty := "x.Tok", ts := 0, xid := some 6, slots := [("n", .int 1), ("next", .ref 0), ("begin", .int 0), ("end", .int 1), ("sofa", .sofa 0 "v2")] },
    { ty := "x.Tok", ts := 0, xid := some 5, slots := [("n", .int 2), ("next", .ref 3), ("begin", .int 1), ("end", .int 2), ("sofa", .sofa 0 "v2")] },
    { ty := "x.Tok", ts := 0, xid := some 7, slots := [("n", .int 3), ("next", .none), ("begin", .int 0), ("end", .int 1), ("sofa", .sofa 0 "v3")] } ]

end Cassis.Json.PermDemo

/-! ### `IdsDemo` (`Proofs/JsonIdsDemo.lean`): hand-written JSON documents and what is looked at after loading them -/

namespace Cassis.Json.IdsDemo
open Cassis.TS Cassis.Xmi.Demo

def sofaJ (id num : Int) (name : String) : JFs :=
  { id := some id, ty := SOFA, feats := [("sofaNum", .int num), ("sofaID", .str name), ("sofaString", .str "abc")] }

def tokJ (id : Int) (extra : List (String × JV)) : JFs :=
  { id := some id, ty := "x.Tok", feats := [("begin", .int 0), ("end", .int 1), ("@sofa", .int 1)] ++ extra }

/-- what the examples look at: both generators, (name, sofa id, sofaNum) of every view, the ids in the heap -/
structure Summary where
  nextXid : Int
  nextSofaNum : Int
  views : List (String × Int × Int)
  ids : List (Option Int)
deriving DecidableEq, Repr

def summary (r : Except Err Loaded) : Option Summary :=
  match r with
  | .error _ => none
  | .ok ld => some ⟨ld.cas.nextXid, ld.cas.nextSofaNum,
      ld.cas.views.map (fun p => (p.1, p.2.sofa.xid, p.2.sofa.sofaNum)), ld.heap.map (·.xid)⟩

/-- two sofas, two structures referring to each other (one forward reference), one of them indexed -/
def doc1 : JDoc :=
  { types := none,
    fss := [sofaJ 1 1 "_InitialView", sofaJ 8 3 "v", tokJ 5 [("@next", .int 6)], tokJ 6 [("@next", .int 5)]],
    views := [{ name := "_InitialView", sofa := some 1, members := [5] }, { name := "v", sofa := some 8, members := [] }] }

/-- a second sofa element with the name of an existing view (other than the initial one) is applied to that view, which
    keeps its sofa id and sofaNum (`cas.get_view` in `_get_or_create_view`): the id (3) and the sofaNum (7) of the element
    are ignored, both generators end at or below them (Python: the same; a structure added next gets id 3) -/
def docDup : JDoc := { types := none, fss := [sofaJ 1 1 "_InitialView", sofaJ 2 2 "v", sofaJ 3 7 "v"], views := [] }

/-- a second sofa element for the *initial* view replaces its sofa id and sofaNum (ids 1 and 5 are both registered) -/
def docDupInit : JDoc := { types := none, fss := [sofaJ 1 1 "_InitialView", sofaJ 5 4 "_InitialView"], views := [] }

/-- a view that is only named in `%VIEWS` is created in the views pass and consumes an id and a sofaNum -/
def docView : JDoc :=
  { types := none, fss := [sofaJ 1 1 "_InitialView", tokJ 5 []], views := [{ name := "w", sofa := none, members := [5] }] }

/-- a dangling `@xmiID` member: the deferred `setattr(fs, "xmiID", None)` drops the id … -/
def docDangling : JDoc := { types := none, fss := [sofaJ 1 1 "_InitialView", tokJ 5 [("@xmiID", .int 99)]], views := [] }

/-- … and indexing the structure gives it a fresh one -/
def docDangling2 : JDoc :=
  { docDangling with views := [{ name := "_InitialView", sofa := some 1, members := [5] }] }

/-- the empty document: the implicit initial view keeps sofa id 1 / sofaNum 1, the generators restart at 1 -/
def docEmpty : JDoc := { types := none, fss := [], views := [] }

def sofaNamesDistinctB : List JFs → Bool
  | [] => true
  | a :: rest =>
    rest.all (fun b => !(a.ty == SOFA && b.ty == SOFA) || sofaIdOf a != sofaIdOf b ||
      sofaIdOf a == some Cas.INITIAL_VIEW) && sofaNamesDistinctB rest

end Cassis.Json.IdsDemo

/-! ### `DetDemo` (`Proofs/DeterminismJsonDemo.lean`): a sofa with a byte array, an indexed `x.Tok` referring to a second one -/

namespace Cassis.Json.DetDemo
open Cassis.TS Cassis.Xmi Cassis.Traverse Cassis.Xmi.Demo

def sofaD : Sofa :=
  { sofaID := "_InitialView", sofaNum := 1, xid := 1, text := none, mime := some "x/y", uri := none,
    arr := .ref 0, conv := none }

def casD : Cas :=
  { views := [("_InitialView", { sofa := sofaD, idx := [("x.Tok", [{ b := 0, e := 0, oid := 1 }])] })],
    nextXid := 4, nextSofaNum := 2 }

def tok (x : Option Int) (next : Val) : Obj :=
  { ty := "x.Tok", ts := 0, xid := x,
    slots := [("n", .int 7), ("next", next), ("begin", .int 0), ("end", .int 0), ("sofa", .sofa 0 "_InitialView")] }

def hpD : Heap :=
  [ { ty := "uima.cas.ByteArray", ts := 0, xid := some 3, slots := [("elements", .ints [1, 2])] },
    tok (some 2) (.ref 2), tok none .none ]

/-- the same with an id-less byte array that the indexed structure refers to -/
def casB : Cas := { casD with nextXid := 3 }

def hpB : Heap :=
  [ { ty := "uima.cas.ByteArray", ts := 0, xid := none, slots := [("elements", .ints [1, 2])] }, tok (some 2) (.ref 0) ]

def idsBelowB (hp : Heap) (nx : Int) : Bool :=
  hp.all (fun o => match o.xid with | some x => decide (x < nx) | none => true)

def refsHaveIdsB (hp : Heap) (a : Nat) : Bool :=
  (xidOf hp a).isSome &&
  match hp[a]? with
  | none => true
  | some o => o.slots.all (fun p =>
      match p.2 with
      | .ref t => (xidOf hp t).isSome
      | .refs l => l.all (fun r => match r with | some t => (xidOf hp t).isSome | none => true)
      | _ => true)

/-- first and second serialisation, started from `c`/`hp` -/
def twice (c : Cas) (hp : Heap) : Option (JDoc × JDoc) :=
  match saveJson K demoTS' [c] 0 hp .none with
  | .error _ => none
  | .ok (d1, s1) =>
    match saveJson K demoTS' ([c].set 0 { c with nextXid := s1.nextXid }) 0 s1.heap .none with
    | .error _ => none
    | .ok (d2, _) => some (d1, d2)

end Cassis.Json.DetDemo

/-! ### `IdsWriteDemo` (`Proofs/IdsWriteDemo.lean`): chains of `x.Tok` with kept, missing and duplicate ids; tests for the
`Reach`-quantified hypotheses -/

namespace Cassis.IdsWriteDemo
open Cassis.TS Cassis.Traverse Cassis.Xmi.Demo

def tok (x : Option Int) (next : Val) : Obj :=
  { ty := "x.Tok", ts := 0, xid := x,
    slots := [("n", .int 7), ("next", next), ("begin", .int 0), ("end", .int 0), ("sofa", .sofa 0 "_InitialView")] }

def sofa1 : Sofa := { sofaID := "_InitialView", sofaNum := 1, xid := 1, text := some [97], mime := none }

/-- one view indexing the structure at address 0 -/
def cas1 (s : Sofa) (nx : Int) : Cas :=
  { views := [("_InitialView", { sofa := s, idx := [("x.Tok", [{ b := 0, e := 0, oid := 0 }])] })],
    nextXid := nx, nextSofaNum := 2 }

def expandableB (K : Consts) (ts : TypeSystem) (o : Opts) (hp : Heap) (lf a : Nat) : Bool :=
  match hp[a]? with
  | none => false
  | some ob =>
    ob.xid == some 0 ||
    match getType ts ob.ty with
    | .error _ => false
    | .ok t => match nodeSuccs K ts o hp [] lf a t with
      | .ok _ => true
      | .error _ => false

/-- seeds and all successors stay inside the heap -/
def closedB (K : Consts) (ts : TypeSystem) (o : Opts) (hp : Heap) (lf : Nat) (seeds : List Nat) : Bool :=
  seeds.all (fun a => decide (a < hp.length)) &&
  (List.range hp.length).all (fun a => (succsOf K ts o hp lf a).all (fun b => decide (b < hp.length)))

def noSofaIdB (hp : Heap) (c : Cas) : Bool :=
  hp.all (fun ob => match ob.xid with | some x => !(Cas.sofaIds c).contains x | none => true)

def errOf {α} : Except Err α → Option Err
  | .ok _ => none
  | .error e => some e

def hpDup : Heap := [tok (some 2) (.ref 1), tok (some 5) (.ref 2), tok (some 5) .none]

def casDup : Cas := cas1 sofa1 6

def hpOk : Heap := [tok (some 2) (.ref 1), tok none .none]

def casOk : Cas := cas1 sofa1 3

/-- a history on a lenient CAS: a second view, a structure, added with its (missing) id generated -/
def hist : List Cas.COp :=
  [.createView 0 "v2", .newFs "x.Tok" [("n", .int 7), ("begin", .int 0), ("end", .int 0)], .add 1 0 false]

end Cassis.IdsWriteDemo

/-! ### `OffsetsDoc.Demo` (`Proofs/OffsetsDocDemo.lean`): the records of `x.Tok`, and a type `x.Span` under TOP with integer
features `begin` / `end` of its own -/

namespace Cassis.OffsetsDoc.Demo
open Cassis.TS Cassis.Xmi Cassis.Json Cassis.Traverse Cassis.Xmi.Demo Cassis.OffsetsDoc

def fBegin : Feature := { name := "begin", domain := ANNOTATION, range := "uima.cas.Integer" }

def fEnd : Feature := { name := "end", domain := ANNOTATION, range := "uima.cas.Integer" }

def tokRec : TypeRec := (find? demoTS' "x.Tok").getD default

def tsP : TypeSystem :=
  match (do
    let ts ← createType K Gen.builtinTS "x.Span" TOP none
    let ts ← createFeatureLeaf ts "x.Span" "begin" "uima.cas.Integer"
    createFeatureLeaf ts "x.Span" "end" "uima.cas.Integer") with
  | .ok ts => ts
  | .error _ => Gen.builtinTS

def gBegin : Feature := { name := "begin", domain := "x.Span", range := "uima.cas.Integer" }

def spanRec : TypeRec := (find? tsP "x.Span").getD default

def hpP : Heap := [ { ty := "x.Span", ts := 0, xid := none, slots := [("begin", .int 2), ("end", .int 3)] } ]

def casP : Cas :=
  { casL with views := casL.views.map (fun nv => (nv.1, { nv.2 with idx := [("x.Span", [{ b := 2, e := 3, oid := 0 }])] })) }

def casR : Cas :=
  match Cas.setSofaString casL { view := "_InitialView", lenient := false } (some [0x1F600, 0x1F600, 98]) with
  | .ok c => c
  | .error _ => casL

end Cassis.OffsetsDoc.Demo

/-! ### `SensDemo` (`Proofs/ComparableSensDemo.lean`): one CAS on which every hypothesis of every theorem of
`Properties/C20Sens.lean` holds, and its point updates -/

namespace Cassis.Comparable.SensDemo
open Cassis.TS Cassis.Traverse Cassis.Comparable

def K : Consts := Gen.consts

/-- built-in types plus the annotation type `x.Tok` with features `n : Integer`, `r : Annotation`, `arr : FSArray`,
    `ia : IntegerArray` -/
def tsD : TypeSystem :=
  match (do
    let ts ← createType K Gen.builtinTS "x.Tok" ANNOTATION none
    let ts ← createFeatureLeaf ts "x.Tok" "n" "uima.cas.Integer"
    let ts ← createFeatureLeaf ts "x.Tok" "r" ANNOTATION
    let ts ← createFeatureLeaf ts "x.Tok" "arr" FS_ARRAY
    createFeatureLeaf ts "x.Tok" "ia" "uima.cas.IntegerArray") with
  | .ok ts => ts
  | .error _ => Gen.builtinTS

def tokT : TypeRec := match getType tsD "x.Tok" with | .ok t => t | .error _ => default

def viewD (id : String) (num xid : Int) : String × View :=
  (id, { sofa := { sofaID := id, sofaNum := num, xid := xid, text := some [97, 98, 99, 100] }, idx := [] })

def casD : Cas := { views := [viewD "V" 1 1, viewD "W" 2 2], nextXid := 20, nextSofaNum := 3 }

def tok (x b e : Int) (v : String) (n r arr ia : Val) : Obj :=
  { ty := "x.Tok", ts := 0, xid := some x,
    slots := [("arr", arr), ("ia", ia), ("n", n), ("r", r), ("begin", .int b), ("end", .int e), ("sofa", .sofa 0 v)] }

/-- 0: `Tok[0-1]@V` with `n = 7`, `r → 1`, `arr → 4`, `ia → 5`; 1: `Tok[1-2]@V`; 2: `Tok[2-3]@V`; 3: `Tok[0-3]@W`;
    4: an FSArray `[1, 2]`; 5: an IntegerArray `[1, 2]` -/
def hpD : Heap :=
  [ tok 10 0 1 "V" (.int 7) (.ref 1) (.ref 4) (.ref 5),
    tok 11 1 2 "V" .none .none .none .none,
    tok 12 2 3 "V" .none .none .none .none,
    tok 13 0 3 "W" .none .none .none .none,
    { ty := FS_ARRAY, ts := 0, xid := some 14, slots := [("elements", .refs [some 1, some 2])] },
    { ty := "uima.cas.IntegerArray", ts := 0, xid := some 15, slots := [("elements", .ints [1, 2])] } ]

def addrsD : List Nat := [0, 1, 2, 3, 4, 5]

def addrsD' : List Nat := [5, 3, 1, 0, 2, 4]

def idxD : List Nat := [0, 1, 2, 3]

def idxD' : List Nat := [3, 2, 1, 0, 0]

/-- the indexed list without structure 1 -/
def idxD1 : List Nat := [3, 2, 0]

def hshD : Nat → Int := fun _ => 0

def hshD' : Nat → Int := fun a => a

def upd (hp : Heap) (a : Nat) (f : String) (v : Val) : Heap :=
  match Heap.setSlot hp a f v with | .ok h => h | .error _ => hp

def hpPrim : Heap := upd hpD 0 "n" (.int 8)

def hpOff : Heap := upd hpD 1 "end" (.int 3)

def hpRef : Heap := upd hpD 0 "r" (.ref 2)

def hpFsa : Heap := upd hpD 4 "elements" (.refs ([some 1, some 2].set 0 (some 3)))

def hpIa : Heap := upd hpD 5 "elements" (.ints [1, 3])

def hpView : Heap := upd hpD 2 "sofa" (.sofa 0 "W")

/-- recursion levels needed for a reference: 3 for the FSArray (the array, its list, an element), 1 otherwise -/
def needD : Nat → Nat := fun x => if x = 4 then 3 else 1

end Cassis.Comparable.SensDemo

/-! ### the history of `Proofs/TsXmlRoundTripDemo.lean`: a chain declared subtypes-first in the emitted descriptor, a
padded and an empty description, a feature named `self`, an array feature with an element type declared later -/

namespace Cassis.TsXml.Demo
open Cassis.TS Cassis.TsXml Cassis.TsXml.Check
open Cassis.Json (applyOpS histOkB)

/-- `StrippedNames` with the kernel-evaluable padding test `noPad` -/
def strippedNamesK (ts : TypeSystem) : Bool :=
  ts.types.all (fun t => Gen.consts.predefined.contains t.name || t.name == DOCUMENT_ANNOTATION ||
    (noPad t.name && t.own.all (fun f => noPad (renderFeat f).name)))

def demoOps : List TsOp :=
  [.createType "x.A" ANNOTATION (some "  padded  "), .createType "x.B" "x.A" (some ""), .createType "a.C" "x.B" none,
   .createFeature "x.A" "self" "a.C" none (some " d ") (some true),
   .createFeature "a.C" "arr" "uima.cas.FSArray" (some "x.B") none none]

/-- what `to_xml` emits for the history: the subtype `a.C` first -/
def demoD : Descriptor :=
  [{ name := "a.C", super := "x.B",
     feats := [{ name := "arr", range := "uima.cas.FSArray", elem := some "x.B" }] },
   { name := "x.A", descr := some "  padded  ", super := "uima.tcas.Annotation",
     feats := [{ name := "self", descr := some " d ", range := "a.C", multi := some true }] },
   { name := "x.B", super := "x.A" }]

/-- another declaration order -/
def demoD' : Descriptor := [demoD[2]!, demoD[0]!, demoD[1]!]

/-- redeclared built-in types and a redeclared DocumentAnnotation, mixed into the descriptor -/
def demoPre : Descriptor :=
  [docEntry, renderType ((find? Gen.builtinTSNoDoc "uima.cas.FSArray").getD default),
   renderType ((find? Gen.builtinTSNoDoc "uima.cas.ArrayBase").getD default),
   renderType ((find? Gen.builtinTSNoDoc "uima.tcas.Annotation").getD default)]

end Cassis.TsXml.Demo

namespace Cassis.Xmi.Demo
open Cassis.TS Cassis.Xmi Cassis.Traverse

structure _root_.Cassis.Facts.RoundTripDemo : Prop where
  -- the two side conditions of `createType_createFeature2_leaf`
  leafTok : leafDomain ((createType K Gen.builtinTS "x.Tok" ANNOTATION none).toOption.getD default) "x.Tok" = true
  leafTokN :
    leafDomain ((createFeatureLeaf ((createType K Gen.builtinTS "x.Tok" ANNOTATION none).toOption.getD default)
    "x.Tok" "n" "uima.cas.Integer").toOption.getD default) "x.Tok" = true
  /-- the state the writer ends in -/
  saved : (saveXmi K demoTS' [casL] 0 hpL).toOption.map (fun r => (r.2.heap, r.2.allFs)) = some (hpS, [(2,0),(3,1)])
  applies : rtAppliesB K demoTS' [casL] 0 hpL = true

instance : Decidable Facts.RoundTripDemo :=
  decidable_of_iff' _ ⟨fun s => And.intro s.leafTok <| And.intro s.leafTokN <| And.intro s.saved s.applies,
    fun h => ⟨h.1, h.2.1, h.2.2.1, h.2.2.2⟩⟩

structure _root_.Cassis.Facts.RoundTripDemoLoaded : Prop where
  -- the conclusion of `xmi_roundtrip_flat` and what it compares (`loadedWith`), with the reader in its evaluable form
  concl : conclWith (loadXmiP hasDotK K demoTS') K demoTS' [casL] 0 casL hpL 0 1 = true
  loaded : loadedWith (loadXmiP hasDotK K demoTS') K demoTS' [casL] 0 hpL 0 1 = some loadedLit
  /-- what `Cas.add` (in its evaluable form) makes of `c0` / `hp0` -/
  added : (match addP hasDotK demoTS' 0 c0 hp0 { view := "_InitialView", lenient := false } 0 true with
    | .ok r => r
    | .error _ => (c0, hp0)) = (casL, hpL)

-- (the equality in `loaded` is over a product of lists of records: its instance alone exceeds the default size)
set_option synthInstance.maxSize 1024 in
instance : Decidable Facts.RoundTripDemoLoaded :=
  decidable_of_iff' _ ⟨fun s => And.intro s.concl <| And.intro s.loaded s.added,
    fun h => ⟨h.1, h.2.1, h.2.2⟩⟩

end Cassis.Xmi.Demo

namespace Cassis.Json.Demo
open Cassis.TS Cassis.Xmi Cassis.Traverse Cassis.Xmi.Demo

structure _root_.Cassis.Facts.RoundTripJsonDemo : Prop where
  saved :
    (saveJson K demoTS' [casL] 0 hpL .none).toOption.map (fun r => (r.2.heap, r.2.allFs)) = some (hpS, [(2,0),(3,1)])
  applies : jflatAppliesB K demoTS' [casL] 0 hpL = true

instance : Decidable Facts.RoundTripJsonDemo :=
  decidable_of_iff' _ ⟨fun s => And.intro s.saved s.applies,
    fun h => ⟨h.1, h.2⟩⟩

end Cassis.Json.Demo

namespace Cassis.Chain.Demo
open Cassis.TS Cassis.Xmi Cassis.Traverse Cassis.Xmi.Demo

/-- `chainBaseB`: the hypotheses of `chain_xmi_json_coll` without `harr` and `htys`; `chainBaseB_hyps` reads `JsonFs` and the
    condition on `sofa` features of `chain_xmi_json_flat` off it -/
def _root_.Cassis.Facts.ChainDemo : Prop := Json.chainBaseB K demoTS' [casL] 0 hpL = true

instance : Decidable Facts.ChainDemo := by unfold Facts.ChainDemo; infer_instance

end Cassis.Chain.Demo

namespace Cassis.Json.FlatDemo
open Cassis.TS Cassis.Traverse Cassis.Xmi Cassis.Xmi.CollDemo Cassis.Xmi.ResDemo

structure _root_.Cassis.Facts.FaithfulJsonFlatDemo : Prop where
  applies1 : jflatAppliesB K flatTs [flatCas] 0 flatHp = true
  applies2 : jflatAppliesB K flatTs [cas, flatCas2] 1 flatHp2 = true
  heaps_ne : flatHp ≠ flatHp2
  cas_ne : flatCas ≠ flatCas2
  sameDoc : (saveJson K flatTs [flatCas] 0 flatHp .none).toOption.map (·.1) =
    (saveJson K flatTs [cas, flatCas2] 1 flatHp2 .none).toOption.map (·.1)

instance : Decidable Facts.FaithfulJsonFlatDemo :=
  decidable_of_iff' _ ⟨fun s => And.intro s.applies1 <| And.intro s.applies2 <| And.intro s.heaps_ne <| And.intro
      s.cas_ne s.sameDoc,
    fun h => ⟨h.1, h.2.1, h.2.2.1, h.2.2.2.1, h.2.2.2.2⟩⟩

end Cassis.Json.FlatDemo

namespace Cassis.Json.PermDemo
open Cassis.TS Cassis.Traverse

structure _root_.Cassis.Facts.LoadPermJsonDemo : Prop where
  applies : jflatAppliesB K tsP [casP] 0 hpP = true
  /-- the view order after reading the sofas in reverse order -/
  reversedViewOrder : (saveJson K tsP [casP] 0 hpP .none).toOption.bind (fun r =>
    (sofaPass K tsP 0 1 r.1.fss.reverse r.1.fss.reverse { cas := Cas.empty, heap := r.2.heap }).toOption.map
      (fun s => s.cas.views.map (·.1))) = some ["_InitialView", "v3", "v2"]

instance : Decidable Facts.LoadPermJsonDemo :=
  decidable_of_iff' _ ⟨fun s => And.intro s.applies s.reversedViewOrder,
    fun h => ⟨h.1, h.2⟩⟩

end Cassis.Json.PermDemo

namespace Cassis.Json.IdsDemo
open Cassis.TS Cassis.Xmi.Demo

structure _root_.Cassis.Facts.JsonIdsDemo : Prop where
  doc1_loads : summary (loadJson K demoTS' 0 0 true false [] doc1) =
    some ⟨9, 4, [("_InitialView", 1, 1), ("v", 8, 3)], [some 5, some 6]⟩
  doc1_noXmiId : ∀ j ∈ doc1.fss, ∀ p ∈ j.feats, p.1 ≠ "@xmiID"
  doc1_distinct : sofaNamesDistinctB doc1.fss = true
  docDup_loads :
    summary (loadJson K demoTS' 0 0 false false [] docDup) = some ⟨3, 3, [("_InitialView", 1, 1), ("v", 2, 2)], []⟩
  -- both sofa elements of `docDup` carry the sofaID `"v"`
  docDup_sofa2_v : sofaIdOf (sofaJ 2 2 "v") = some "v"
  docDup_sofa3_v : sofaIdOf (sofaJ 3 7 "v") = some "v"
  docDupInit_loads :
    summary (loadJson K demoTS' 0 0 false false [] docDupInit) = some ⟨6, 5, [("_InitialView", 5, 4)], []⟩
  docView_loads : summary (loadJson K demoTS' 0 0 true false [] docView) =
    some ⟨7, 3, [("_InitialView", 1, 1), ("w", 6, 2)], [some 5]⟩
  docDangling_loads :
    summary (loadJson K demoTS' 0 0 false false [] docDangling) = some ⟨6, 2, [("_InitialView", 1, 1)], [none]⟩
  docDangling2_loads :
    summary (loadJson K demoTS' 0 0 true false [] docDangling2) = some ⟨7, 2, [("_InitialView", 1, 1)], [some 6]⟩
  docEmpty_loads :
    summary (loadJson K demoTS' 0 0 false false [] docEmpty) = some ⟨1, 1, [("_InitialView", 1, 1)], []⟩

instance : Decidable Facts.JsonIdsDemo :=
  decidable_of_iff' _ ⟨fun s => And.intro s.doc1_loads <| And.intro s.doc1_noXmiId <| And.intro s.doc1_distinct <|
      And.intro s.docDup_loads <| And.intro s.docDup_sofa2_v <| And.intro s.docDup_sofa3_v <| And.intro s.docDupInit_loads <|
      And.intro s.docView_loads <| And.intro s.docDangling_loads <| And.intro s.docDangling2_loads s.docEmpty_loads,
    fun h => ⟨h.1, h.2.1, h.2.2.1, h.2.2.2.1, h.2.2.2.2.1, h.2.2.2.2.2.1, h.2.2.2.2.2.2.1, h.2.2.2.2.2.2.2.1,
      h.2.2.2.2.2.2.2.2.1, h.2.2.2.2.2.2.2.2.2.1, h.2.2.2.2.2.2.2.2.2.2⟩⟩

end Cassis.Json.IdsDemo

namespace Cassis.Json.DetDemo
open Cassis.TS Cassis.Xmi Cassis.Traverse Cassis.Xmi.Demo

structure _root_.Cassis.Facts.DeterminismJsonDemo : Prop where
  memberIds : ∀ nv ∈ casD.views, ∀ e ∈ Index.all nv.2.idx, (xidOf hpD e.oid).isSome = true
  sofaArrayRefsHaveIds : refsHaveIdsB hpD 0 = true
  idsBelow : idsBelowB hpD casD.nextXid = true
  savesFull : (saveJson K demoTS' [casD] 0 hpD .full).toBool = true
  savesMinimal : (saveJson K demoTS' [casD] 0 hpD .minimal).toBool = true
  savesNone : (saveJson K demoTS' [casD] 0 hpD .none).toBool = true
  /-- the traversal assigns the id 4 to the structure at address 2 -/
  assignsFreshId : (saveJson K demoTS' [casD] 0 hpD .none).toOption.map (fun r => (r.2.nextXid, xidOf r.2.heap 2)) =
    some (5, some 4)
  -- the two counterexamples to the statement without the extra hypotheses
  cxMembers :
    (twice casL hp0).map (fun r => (r.1.views.map (·.members), r.2.views.map (·.members))) = some ([[]], [[3]])
  cxSofaArray : (twice casB hpB).map (fun r => ((r.1.fss.map (·.id)), (r.2.fss.map (·.id)))) =
    some ([none, some 1, some 2, some 3], [some 3, some 1, some 2, some 3])

instance : Decidable Facts.DeterminismJsonDemo :=
  decidable_of_iff' _ ⟨fun s => And.intro s.memberIds <| And.intro s.sofaArrayRefsHaveIds <| And.intro s.idsBelow <|
      And.intro s.savesFull <| And.intro s.savesMinimal <| And.intro s.savesNone <| And.intro s.assignsFreshId <| And.intro
      s.cxMembers s.cxSofaArray,
    fun h => ⟨h.1, h.2.1, h.2.2.1, h.2.2.2.1, h.2.2.2.2.1, h.2.2.2.2.2.1, h.2.2.2.2.2.2.1, h.2.2.2.2.2.2.2.1,
      h.2.2.2.2.2.2.2.2⟩⟩

end Cassis.Json.DetDemo

namespace Cassis.IdsWriteDemo
open Cassis.TS Cassis.Traverse Cassis.Xmi.Demo

structure _root_.Cassis.Facts.IdsWriteDemoDup : Prop where
  seed0 : 0 ∈ defaultSeeds casDup
  -- neither carries the id 0 of the null element (a side condition of `Reach.step`)
  idNotZero0 : xidOf hpDup 0 ≠ some 0
  idNotZero1 : xidOf hpDup 1 ≠ some 0
  -- the chain `0 → 1 → 2` under every option
  succ01 : ∀ g i, 1 ∈ succsOf K demoTS' { generateIds := g, includeInlinable := i } hpDup (hpDup.length + 1) 0
  succ12 : ∀ g i, 2 ∈ succsOf K demoTS' { generateIds := g, includeInlinable := i } hpDup (hpDup.length + 1) 1
  dup1 : xidOf hpDup 1 = some 5
  dup2 : xidOf hpDup 2 = some 5
  -- the tests of `safe_of_check`
  closedXmi : closedB K demoTS' {} hpDup (hpDup.length + 1) (defaultSeeds casDup) = true
  expandableXmi : (List.range hpDup.length).all (expandableB K demoTS' {} hpDup (hpDup.length + 1)) = true
  closedJson : closedB K demoTS' { includeInlinable := true } hpDup (hpDup.length + 1) (defaultSeeds casDup) = true
  expandableJson :
    (List.range hpDup.length).all (expandableB K demoTS' { includeInlinable := true } hpDup (hpDup.length + 1)) =
    true
  -- the conclusion of `findAllFs_duplicate_raises` evaluated directly: the traversal from three seed lists, both writers
  raises0 : errOf (findAllFs K demoTS' {} hpDup 6 [0]) = some .valueError
  raises21 : errOf (findAllFs K demoTS' {} hpDup 6 [2, 1]) = some .valueError
  raises12 : errOf (findAllFs K demoTS' {} hpDup 6 [1, 2]) = some .valueError
  raisesXmi : errOf (Xmi.saveXmi K demoTS' [casDup] 0 hpDup) = some .valueError
  raisesJson : errOf (Json.saveJson K demoTS' [casDup] 0 hpDup .none) = some .valueError
  /-- without `IdsBelow`: a generated id that collides with a kept one is reported too -/
  freshCollisionRaises : errOf (findAllFs K demoTS' {} [tok none (.ref 1), tok (some 5) .none] 5 [0]) = some .valueError

instance : Decidable Facts.IdsWriteDemoDup :=
  decidable_of_iff' _ ⟨fun s => And.intro s.seed0 <| And.intro s.idNotZero0 <| And.intro s.idNotZero1 <| And.intro s.succ01 <|
      And.intro s.succ12 <| And.intro s.dup1 <| And.intro s.dup2 <| And.intro s.closedXmi <| And.intro
      s.expandableXmi <| And.intro s.closedJson <| And.intro s.expandableJson <| And.intro s.raises0 <| And.intro
      s.raises21 <| And.intro s.raises12 <| And.intro s.raisesXmi <| And.intro s.raisesJson s.freshCollisionRaises,
    fun h => ⟨h.1, h.2.1, h.2.2.1, h.2.2.2.1, h.2.2.2.2.1, h.2.2.2.2.2.1, h.2.2.2.2.2.2.1, h.2.2.2.2.2.2.2.1,
      h.2.2.2.2.2.2.2.2.1, h.2.2.2.2.2.2.2.2.2.1, h.2.2.2.2.2.2.2.2.2.2.1, h.2.2.2.2.2.2.2.2.2.2.2.1,
      h.2.2.2.2.2.2.2.2.2.2.2.2.1, h.2.2.2.2.2.2.2.2.2.2.2.2.2.1, h.2.2.2.2.2.2.2.2.2.2.2.2.2.2.1,
      h.2.2.2.2.2.2.2.2.2.2.2.2.2.2.2.1, h.2.2.2.2.2.2.2.2.2.2.2.2.2.2.2.2⟩⟩

structure _root_.Cassis.Facts.IdsWriteDemoOk : Prop where
  seed0 : 0 ∈ defaultSeeds casOk
  idNotZero0 : xidOf hpOk 0 ≠ some 0
  succ01 : ∀ g i, 1 ∈ succsOf K demoTS' { generateIds := g, includeInlinable := i } hpOk (hpOk.length + 1) 0
  kept0 : xidOf hpOk 0 = some 2
  noSofaId : noSofaIdB hpOk casOk = true
  savesXmi : (Xmi.saveXmi K demoTS' [casOk] 0 hpOk).toBool = true
  savesFull : (Json.saveJson K demoTS' [casOk] 0 hpOk .full).toBool = true
  savesMinimal : (Json.saveJson K demoTS' [casOk] 0 hpOk .minimal).toBool = true
  savesNone : (Json.saveJson K demoTS' [casOk] 0 hpOk .none).toBool = true
  idsXmi : (Xmi.saveXmi K demoTS' [casOk] 0 hpOk).toOption.map (fun r => Xmi.docIds r.1) = some ["0", "2", "3", "1"]
  idsJson : (Json.saveJson K demoTS' [casOk] 0 hpOk .none).toOption.map (fun r => Json.docIds r.1) =
    some [some 1, some 2, some 3]
  closed : closedB K demoTS' {} hpOk (hpOk.length + 1) [0] = true
  expandable : (List.range hpOk.length).all (expandableB K demoTS' {} hpOk (hpOk.length + 1)) = true
  traverses : (findAllFs K demoTS' {} hpOk 3 [0]).toBool = true

instance : Decidable Facts.IdsWriteDemoOk :=
  decidable_of_iff' _ ⟨fun s => And.intro s.seed0 <| And.intro s.idNotZero0 <| And.intro s.succ01 <| And.intro s.kept0 <|
      And.intro s.noSofaId <| And.intro s.savesXmi <| And.intro s.savesFull <| And.intro s.savesMinimal <| And.intro
      s.savesNone <| And.intro s.idsXmi <| And.intro s.idsJson <| And.intro s.closed <| And.intro s.expandable
      s.traverses,
    fun h => ⟨h.1, h.2.1, h.2.2.1, h.2.2.2.1, h.2.2.2.2.1, h.2.2.2.2.2.1, h.2.2.2.2.2.2.1, h.2.2.2.2.2.2.2.1,
      h.2.2.2.2.2.2.2.2.1, h.2.2.2.2.2.2.2.2.2.1, h.2.2.2.2.2.2.2.2.2.2.1, h.2.2.2.2.2.2.2.2.2.2.2.1,
      h.2.2.2.2.2.2.2.2.2.2.2.2.1, h.2.2.2.2.2.2.2.2.2.2.2.2.2⟩⟩

/-- what the hypotheses of `saveXmi_ids_distinct` / `saveJson_ids_distinct` exclude, each written with a duplicate id: a
    structure on the sofa's id; a sofa id not below the generator; a sofa on the id 0 of the null element; (JSON) a sofa byte
    array on the id of an indexed structure -/
structure _root_.Cassis.Facts.IdsWriteDemoCx : Prop where
  fsOnSofaIdXmi :
    (Xmi.saveXmi K demoTS' [cas1 sofa1 3] 0 [tok (some 1) .none]).toOption.map (fun r => Xmi.docIds r.1) =
    some ["0", "1", "1"]
  fsOnSofaIdJson :
    (Json.saveJson K demoTS' [cas1 sofa1 3] 0 [tok (some 1) .none] .none).toOption.map (fun r => Json.docIds r.1) =
    some [some 1, some 1]
  sofaNotBelow :
    (Xmi.saveXmi K demoTS' [cas1 { sofa1 with xid := 5 } 5] 0 [tok none .none]).toOption.map (fun r => Xmi.docIds r.1) =
    some ["0", "5", "5"]
  sofaZero : (Xmi.saveXmi K demoTS' [cas1 { sofa1 with xid := 0 } 3] 0 [tok (some 2) .none]).toOption.map
    (fun r => Xmi.docIds r.1) = some ["0", "2", "0"]
  sofaArrayOnFsId : (Json.saveJson K demoTS' [cas1 { sofa1 with arr := .ref 1, mime := some "x/y" } 4] 0
    [tok (some 3) .none, { ty := "uima.cas.ByteArray", ts := 0, xid := some 3, slots := [("elements", .ints [1, 2])] }]
    .none).toOption.map (fun r => Json.docIds r.1) = some [some 3, some 1, some 3]
  /-- the ids written for the history `hist` -/
  histIds : (let s := hist.foldl (Cas.cstep K demoTS') (Cas.init true)
    (Xmi.saveXmi K demoTS' [s.cas] 0 s.heap).toOption.map (fun r => Xmi.docIds r.1)) =
     some ["0", "3", "1", "2"]

instance : Decidable Facts.IdsWriteDemoCx :=
  decidable_of_iff' _ ⟨fun s => And.intro s.fsOnSofaIdXmi <| And.intro s.fsOnSofaIdJson <| And.intro s.sofaNotBelow
      <| And.intro s.sofaZero <| And.intro s.sofaArrayOnFsId s.histIds,
    fun h => ⟨h.1, h.2.1, h.2.2.1, h.2.2.2.1, h.2.2.2.2.1, h.2.2.2.2.2⟩⟩

end Cassis.IdsWriteDemo

namespace Cassis.OffsetsDoc.Demo
open Cassis.TS Cassis.Xmi Cassis.Json Cassis.Traverse Cassis.Xmi.Demo Cassis.OffsetsDoc

structure _root_.Cassis.Facts.OffsetsDocDemo : Prop where
  tokFind : find? demoTS' "x.Tok" = some tokRec
  tokBegin : fBegin ∈ allFeatures tokRec
  tokEnd : fEnd ∈ allFeatures tokRec
  tokAnn : isInstanceOf demoTS' "x.Tok" ANNOTATION = true
  intPrim : isPrimitive K demoTS' "uima.cas.Integer" = true
  intSuper : superOf demoTS' "uima.cas.Integer" = some TOP
  spanFind : find? tsP "x.Span" = some spanRec
  spanBegin : gBegin ∈ allFeatures spanRec
  spanNotAnn : isInstanceOf tsP "x.Span" ANNOTATION = false
  intSuper_tsP : superOf tsP "uima.cas.Integer" = some TOP
  -- the structures both writers collect
  allFsJson : (saveJson K tsP [casP] 0 hpP .none).toOption.map (fun r => r.2.allFs) = some [(3, 0)]
  allFsXmi : (saveXmi K tsP [casP] 0 hpP).toOption.map (fun r => r.2.allFs) = some [(3, 0)]
  -- the offsets written for the instance (`casL`), and for the instance with the text `😀😀b` (`casR`)
  attrs : ((saveXmi K demoTS' [casL] 0 hpL).toOption.map (fun r => (r.1.filter (·.ty == "x.Tok")).map (·.attrs))) =
    some [[("xmi:id", "2"), ("n", "7"), ("next", "3"), ("begin", "0"), ("end", "3"), ("sofa", "1")],
          [("xmi:id", "3"), ("next", "2"), ("begin", "3"), ("end", "4"), ("sofa", "1")]]
  attrs_casR : ((saveXmi K demoTS' [casR] 0 hpL).toOption.map (fun r => (r.1.filter (·.ty == "x.Tok")).map (·.attrs))) =
    some [[("xmi:id", "2"), ("n", "7"), ("next", "3"), ("begin", "0"), ("end", "4"), ("sofa", "1")],
          [("xmi:id", "3"), ("next", "2"), ("begin", "4"), ("end", "5"), ("sofa", "1")]]

instance : Decidable Facts.OffsetsDocDemo :=
  decidable_of_iff' _ ⟨fun s => And.intro s.tokFind <| And.intro s.tokBegin <| And.intro s.tokEnd <| And.intro
      s.tokAnn <| And.intro s.intPrim <| And.intro s.intSuper <| And.intro s.spanFind <| And.intro s.spanBegin <|
      And.intro s.spanNotAnn <| And.intro s.intSuper_tsP <| And.intro s.allFsJson <| And.intro s.allFsXmi <| And.intro
      s.attrs s.attrs_casR,
    fun h => ⟨h.1, h.2.1, h.2.2.1, h.2.2.2.1, h.2.2.2.2.1, h.2.2.2.2.2.1, h.2.2.2.2.2.2.1, h.2.2.2.2.2.2.2.1,
      h.2.2.2.2.2.2.2.2.1, h.2.2.2.2.2.2.2.2.2.1, h.2.2.2.2.2.2.2.2.2.2.1, h.2.2.2.2.2.2.2.2.2.2.2.1,
      h.2.2.2.2.2.2.2.2.2.2.2.2.1, h.2.2.2.2.2.2.2.2.2.2.2.2.2⟩⟩

end Cassis.OffsetsDoc.Demo

namespace Cassis.OffsetsDoc
open Cassis.Cas

structure _root_.Cassis.Facts.C03DocWrite : Prop where
  -- written and read back: the demo CAS with its text replaced by `None`, the demo CAS, the `x.Span` instance
  textNone :
    let casN := match setSofaString Xmi.Demo.casL { view := "_InitialView", lenient := false } none with
          | .ok c => c | .error _ => Xmi.Demo.casL
        casN.views.map (fun nv => (nv.2.sofa.text, nv.2.sofa.conv)) = [(none, some [0, 1, 3, 4])] ∧
        ((Xmi.saveXmi Xmi.Demo.K Xmi.Demo.demoTS' [casN] 0 Xmi.Demo.hpL).toOption.bind (fun r =>
          (Xmi.loadXmi Xmi.Demo.K Xmi.Demo.demoTS' 0 1 true r.2.heap r.1).toOption.map (fun ld =>
            [3, 4].map (fun k => (Traverse.slot ld.heap k "begin", Traverse.slot ld.heap k "end"))))) =
          some [(some (.int 0), some (.int 3)), (some (.int 3), some (.int 4))]
  demo :
    ((Xmi.saveXmi Xmi.Demo.K Xmi.Demo.demoTS' [Xmi.Demo.casL] 0 Xmi.Demo.hpL).toOption.bind (fun r =>
      (Xmi.loadXmi Xmi.Demo.K Xmi.Demo.demoTS' 0 1 true r.2.heap r.1).toOption.map (fun ld =>
        [3, 4].map (fun k => (Traverse.slot ld.heap k "begin", Traverse.slot ld.heap k "end"))))) =
      some [(some (.int 0), some (.int 2)), (some (.int 2), some (.int 3))] 
  span :
    ((Xmi.saveXmi Xmi.Demo.K Demo.tsP [Demo.casP] 0 Demo.hpP).toOption.bind (fun r =>
      (Xmi.loadXmi Xmi.Demo.K Demo.tsP 0 1 true r.2.heap r.1).toOption.map (fun ld =>
        [2].map (fun k => (Traverse.slot ld.heap k "begin", Traverse.slot ld.heap k "end"))))) =
      some [(some (.int 2), some (.int 3))]

instance : Decidable Facts.C03DocWrite :=
  decidable_of_iff' _ ⟨fun s => And.intro s.textNone <| And.intro s.demo s.span, fun h => ⟨h.1, h.2.1, h.2.2⟩⟩

end Cassis.OffsetsDoc

namespace Cassis.Xmi

/-- the test is not constantly `true`: the same CAS with the generator below an id in use is rejected -/
def _root_.Cassis.Facts.C01Applies : Prop :=
    rtAppliesB Demo.K Demo.demoTS' [{ Demo.casL with nextXid := 2 }] 0 Demo.hpL = false

instance : Decidable Facts.C01Applies := by unfold Facts.C01Applies; infer_instance

end Cassis.Xmi

namespace Cassis.Json

/-- the document written for the demo CAS (offsets `(0, 3)` and `(3, 4)` over `a😀b`) is read back with the in-memory
    offsets -/
def _root_.Cassis.Facts.C03DocJson : Prop :=
    ((saveJson Xmi.Demo.K Xmi.Demo.demoTS' [Xmi.Demo.casL] 0 Xmi.Demo.hpL .none).toOption.bind (fun r =>
    (loadJson Xmi.Demo.K Xmi.Demo.demoTS' 0 1 true false r.2.heap r.1).toOption.map (fun ld =>
      [2, 3].map (fun k => (Traverse.slot ld.heap k "begin", Traverse.slot ld.heap k "end"))))) =
    some [(some (.int 0), some (.int 2)), (some (.int 2), some (.int 3))]

instance : Decidable Facts.C03DocJson := by unfold Facts.C03DocJson; infer_instance

end Cassis.Json

namespace Cassis.Comparable.SensDemo
open Cassis.TS Cassis.Traverse Cassis.Comparable

structure _root_.Cassis.Facts.ComparableSensDemo : Prop where
  getType0 : (getType tsD (tyOf hpD 0)).toOption = some tokT
  nCol : "n" ∈ columns tokT
  rCol : "r" ∈ columns tokT
  arrCol : "arr" ∈ columns tokT
  iaCol : "ia" ∈ columns tokT
  emptyNameNotArray : isArray K "" = false
  -- for each heap the two tests of `total_of_checks`; the rows of `hpD` in both address orders, those of the varied heaps
  -- in the order `addrsD'`
  nestedD : wellNestedB K hpD needD = true
  rowsD : addrsD.all (rowOkB K tsD [casD] hpD {} needD) = true
  rowsD_addrsD' : addrsD'.all (rowOkB K tsD [casD] hpD {} needD) = true
  nestedPrim : wellNestedB K hpPrim needD = true
  rowsPrim : addrsD'.all (rowOkB K tsD [casD] hpPrim {} needD) = true
  nestedOff : wellNestedB K hpOff needD = true
  rowsOff : addrsD'.all (rowOkB K tsD [casD] hpOff {} needD) = true
  nestedRef : wellNestedB K hpRef needD = true
  rowsRef : addrsD'.all (rowOkB K tsD [casD] hpRef {} needD) = true
  nestedFsa : wellNestedB K hpFsa needD = true
  rowsFsa : addrsD'.all (rowOkB K tsD [casD] hpFsa {} needD) = true
  nestedIa : wellNestedB K hpIa needD = true
  rowsIa : addrsD'.all (rowOkB K tsD [casD] hpIa {} needD) = true
  nestedView : wellNestedB K hpView needD = true
  rowsView : addrsD'.all (rowOkB K tsD [casD] hpView {} needD) = true

instance : Decidable Facts.ComparableSensDemo :=
  decidable_of_iff' _ ⟨fun s => And.intro s.getType0 <| And.intro s.nCol <| And.intro s.rCol <| And.intro s.arrCol <|
      And.intro s.iaCol <| And.intro s.emptyNameNotArray <| And.intro s.nestedD <| And.intro s.rowsD <| And.intro s.rowsD_addrsD'
      <| And.intro s.nestedPrim <| And.intro s.rowsPrim <| And.intro s.nestedOff <| And.intro s.rowsOff <| And.intro
      s.nestedRef <| And.intro s.rowsRef <| And.intro s.nestedFsa <| And.intro s.rowsFsa <| And.intro s.nestedIa <|
      And.intro s.rowsIa <| And.intro s.nestedView s.rowsView,
    fun h => ⟨h.1, h.2.1, h.2.2.1, h.2.2.2.1, h.2.2.2.2.1, h.2.2.2.2.2.1, h.2.2.2.2.2.2.1, h.2.2.2.2.2.2.2.1,
      h.2.2.2.2.2.2.2.2.1, h.2.2.2.2.2.2.2.2.2.1, h.2.2.2.2.2.2.2.2.2.2.1, h.2.2.2.2.2.2.2.2.2.2.2.1,
      h.2.2.2.2.2.2.2.2.2.2.2.2.1, h.2.2.2.2.2.2.2.2.2.2.2.2.2.1, h.2.2.2.2.2.2.2.2.2.2.2.2.2.2.1,
      h.2.2.2.2.2.2.2.2.2.2.2.2.2.2.2.1, h.2.2.2.2.2.2.2.2.2.2.2.2.2.2.2.2.1, h.2.2.2.2.2.2.2.2.2.2.2.2.2.2.2.2.2.1,
      h.2.2.2.2.2.2.2.2.2.2.2.2.2.2.2.2.2.2.1, h.2.2.2.2.2.2.2.2.2.2.2.2.2.2.2.2.2.2.2.1,
      h.2.2.2.2.2.2.2.2.2.2.2.2.2.2.2.2.2.2.2.2⟩⟩

structure _root_.Cassis.Facts.ComparableSensDemoArrs : Prop where
  notArr0 : isArrayFs K hpD 0 = false
  notArr1 : isArrayFs K hpD 1 = false
  notArr2 : isArrayFs K hpD 2 = false
  notArr3 : isArrayFs K hpD 3 = false
  isArr4 : isArrayFs K hpD 4 = true
  isArr5 : isArrayFs K hpD 5 = true

instance : Decidable Facts.ComparableSensDemoArrs :=
  decidable_of_iff' _ ⟨fun s => And.intro s.notArr0 <| And.intro s.notArr1 <| And.intro s.notArr2 <| And.intro
      s.notArr3 <| And.intro s.isArr4 s.isArr5,
    fun h => ⟨h.1, h.2.1, h.2.2.1, h.2.2.2.1, h.2.2.2.2.1, h.2.2.2.2.2⟩⟩

end Cassis.Comparable.SensDemo

namespace Cassis.TsXml.Demo
open Cassis.TS Cassis.TsXml Cassis.TsXml.Check
open Cassis.Json (applyOpS histOkB)

structure _root_.Cassis.Facts.TsXmlRoundTripDemo : Prop where
  hist : histOkB Gen.consts demoOps = true
  noShadow : noShadowB (demoOps.foldl (applyOpS Gen.consts) Gen.builtinTS) = true
  stripped : strippedNamesK (demoOps.foldl (applyOpS Gen.consts) Gen.builtinTS) = true
  descriptor : (toDescriptor Gen.consts (demoOps.foldl (applyOpS Gen.consts) Gen.builtinTS)).toOption = some demoD
  -- the conditions on the redeclared entries `demoPre`
  preRedeclared : demoPre.all (fun e => (Gen.consts.predefined.contains e.name &&
    decide ((find? Gen.builtinTSNoDoc e.name).map renderType = some e)) || decide (e = docEntry)) = true
  preNotTop : demoPre.all (fun e => e.name != TOP) = true
  preNodup : demoPre.Nodup
  /-- `NoShadow` for the counterexample history `hPadType` -/
  padNoShadow : noShadowB (hPadType.foldl (applyOpS Gen.consts) Gen.builtinTS) = true

instance : Decidable Facts.TsXmlRoundTripDemo :=
  decidable_of_iff' _ ⟨fun s => And.intro s.hist <| And.intro s.noShadow <| And.intro s.stripped <| And.intro
      s.descriptor <| And.intro s.preRedeclared <| And.intro s.preNotTop <| And.intro s.preNodup s.padNoShadow,
    fun h => ⟨h.1, h.2.1, h.2.2.1, h.2.2.2.1, h.2.2.2.2.1, h.2.2.2.2.2.1, h.2.2.2.2.2.2.1, h.2.2.2.2.2.2.2⟩⟩

end Cassis.TsXml.Demo

namespace Cassis

theorem Facts.flat :
    Facts.RoundTripDemo ∧ Facts.RoundTripDemoLoaded ∧ Facts.RoundTripJsonDemo ∧ Facts.ChainDemo ∧
    Facts.FaithfulJsonFlatDemo ∧ Facts.LoadPermJsonDemo ∧ Facts.JsonIdsDemo ∧ Facts.DeterminismJsonDemo ∧
    Facts.IdsWriteDemoDup ∧ Facts.IdsWriteDemoOk ∧ Facts.IdsWriteDemoCx ∧ Facts.OffsetsDocDemo ∧
    Facts.C03DocWrite ∧ Facts.C01Applies ∧ Facts.C03DocJson ∧ Facts.ComparableSensDemo ∧
    Facts.ComparableSensDemoArrs ∧ Facts.TsXmlRoundTripDemo := by
  decide +kernel

theorem Xmi.Demo.demo_evals : Facts.RoundTripDemo := Facts.flat.1
theorem Xmi.Demo.demoLoaded_evals : Facts.RoundTripDemoLoaded := Facts.flat.2.1
theorem Json.Demo.demoJson_evals : Facts.RoundTripJsonDemo := Facts.flat.2.2.1
theorem Chain.Demo.chainBase_evals : Facts.ChainDemo := Facts.flat.2.2.2.1
theorem Json.flatDemo_evals : Facts.FaithfulJsonFlatDemo := Facts.flat.2.2.2.2.1
theorem Json.permDemo_evals : Facts.LoadPermJsonDemo := Facts.flat.2.2.2.2.2.1
theorem Json.idsDemo_evals : Facts.JsonIdsDemo := Facts.flat.2.2.2.2.2.2.1
theorem Json.detDemo_evals : Facts.DeterminismJsonDemo := Facts.flat.2.2.2.2.2.2.2.1
theorem IdsWriteDemo.dup_evals : Facts.IdsWriteDemoDup := Facts.flat.2.2.2.2.2.2.2.2.1
theorem IdsWriteDemo.ok_evals : Facts.IdsWriteDemoOk := Facts.flat.2.2.2.2.2.2.2.2.2.1
theorem IdsWriteDemo.cx_evals : Facts.IdsWriteDemoCx := Facts.flat.2.2.2.2.2.2.2.2.2.2.1
theorem OffsetsDoc.offsetsDemo_evals : Facts.OffsetsDocDemo := Facts.flat.2.2.2.2.2.2.2.2.2.2.2.1
theorem OffsetsDoc.writeRead_evals : Facts.C03DocWrite := Facts.flat.2.2.2.2.2.2.2.2.2.2.2.2.1
theorem Xmi.demoRejected_evals : Facts.C01Applies := Facts.flat.2.2.2.2.2.2.2.2.2.2.2.2.2.1
theorem Json.demoReadBack_evals : Facts.C03DocJson := Facts.flat.2.2.2.2.2.2.2.2.2.2.2.2.2.2.1
theorem Comparable.sensDemo_evals : Facts.ComparableSensDemo := Facts.flat.2.2.2.2.2.2.2.2.2.2.2.2.2.2.2.1
theorem Comparable.sensDemoArrs_evals : Facts.ComparableSensDemoArrs := Facts.flat.2.2.2.2.2.2.2.2.2.2.2.2.2.2.2.2.1
theorem TsXml.tsxmlDemo_evals : Facts.TsXmlRoundTripDemo := Facts.flat.2.2.2.2.2.2.2.2.2.2.2.2.2.2.2.2.2

end Cassis
