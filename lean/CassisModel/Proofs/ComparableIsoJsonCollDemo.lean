/-
Soundness of the Boolean test `renderJsonCollAppliesB` (`Spec/ComparableIsoJsonCollCheck.lean`) for the hypotheses of
`render_json_roundtrip_coll` (`renderJsonCollAppliesB_hyps`; the XMI twin has a module of its own,
`Proofs/ComparableIsoCollCheckSound.lean`), and non-vacuity: the test answers `true` (evaluated by the kernel) on the instance `CollDemo`
(every collection kind, inlined and shared, `""` in a string array) and on `IsoJsonCollCheck.rich` (null elements of
FSArrays, an empty inlined StringList besides).
-/
import CassisModel.Spec.ComparableIsoJsonCollCheck
import CassisModel.Proofs.ComparableIsoCollCheckSound
import CassisModel.Proofs.RoundTripJsonCollCheckSound
import CassisModel.Proofs.RoundTripJsonCollDemo

namespace Cassis.Comparable
open Cassis.TS Cassis.Traverse Cassis.Xmi Cassis.Json

theorem renderJsonCollAppliesB_hyps (K : Consts) (ts : TypeSystem) (cass : List Cas) (ci : Nat) (hp : Heap)
    (h : renderJsonCollAppliesB K ts cass ci hp = true) :
    ∃ (c : Cas) (doc : JDoc) (st std : Traverse.St), cass[ci]? = some c ∧
      saveJson K ts cass ci hp .none = .ok (doc, st) ∧ RTWf c hp ∧
      (∀ q ∈ st.allFs, JCollFs K ts c ci st.heap q.2) ∧
      (∀ nv ∈ c.views, ∀ e ∈ Index.all nv.2.idx, (xidOf hp e.oid).isSome = true) ∧
      (∀ q ∈ st.allFs, ∀ nv ∈ c.views, q.1 ≠ nv.2.sofa.xid) ∧
      (∀ nv ∈ c.views, ∀ e ∈ Index.all nv.2.idx, Xmi.slot st.heap e.oid "sofa" ≠ some .none) ∧
      MembersOk c st.heap ∧
      findAllFs K ts {} hp c.nextXid (defaultSeeds c) = .ok std ∧
      Distinct std.heap (std.allFs.map (·.2)) := by
  unfold renderJsonCollAppliesB at h
  rw [Bool.and_eq_true] at h
  obtain ⟨h1, h2⟩ := h
  obtain ⟨c, doc, st, hc, hs, hwf, hf, hi, hd, hm, hmo⟩ := jcollAppliesB_hyps K ts cass ci hp h1
  unfold distinctDefB at h2
  rw [hc] at h2
  simp only at h2
  cases hD : findAllFs K ts {} hp c.nextXid (defaultSeeds c) with
  | error e => rw [hD] at h2; cases h2
  | ok std =>
    rw [hD] at h2
    exact ⟨c, doc, st, std, hc, hs, hwf, hf, hi, hd, hm, hmo, hD, distinctB_sound h2⟩

theorem jsonCollDemo_applies :
    renderJsonCollAppliesB CollDemo.K CollDemo.ts [CollDemo.cas] 0 CollDemo.hp = true :=
  isoJsonCollDemo_evals.demoApplies

theorem jsonCollRich_applies :
    renderJsonCollAppliesB CollDemo.K CollDemo.ts [CollDemo.cas] 0 IsoJsonCollCheck.rich = true :=
  isoJsonCollDemo_evals.richApplies

/-- the test is not constantly true: two structures of one type without offsets (the first node of the inlined FSList
    is shared as well, so the default traversal collects it next to the first node of the shared list) -/
theorem jsonCollShared_rejected :
    renderJsonCollAppliesB CollDemo.K CollDemo.ts [CollDemo.cas] 0
      (CollDemo.setSlot0 CollDemo.hp "mfl" (.ref 13)) = false :=
  isoJsonCollDemo_evals.sharedListRejected

end Cassis.Comparable
