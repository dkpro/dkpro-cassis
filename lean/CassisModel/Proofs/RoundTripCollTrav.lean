/-
Round trip with collections, layer T of `RoundTripColl_NOTES.md`: the successors of a structure of the fragment, computed
against the empty visited map, are exactly its `Target`s (references, elements of inlined FSArrays, heads of inlined
FSLists, elements of FSArray objects): `CT.nodeSuccs_coll_iff`, read off the declarative form of the successor computation
(`Traverse.Src`, `mem_nodeSuccs_iff`); against any visited map they are the unseen ones among them
(`Traverse.nodeSuccs_filter`).  Hence what the traversal of the writer guarantees about the collected structures (`LOkC`).
-/
import CassisModel.Proofs.RoundTripCollDefs
import CassisModel.Proofs.RoundTripCollected

namespace Cassis.Xmi.CT
open Cassis.TS Cassis.Traverse

/-- the part of `Target` that speaks about feature `f` -/
def FT (K : Consts) (H : Heap) (o : Obj) (f : Feature) (b : Nat) : Prop :=
  (isInline K f = false ∧ alistGet? o.slots f.name = some (.ref b))
  ∨ (isInline K f = true ∧ f.range = FS_ARRAY ∧ ∃ (c : Nat) (l : List (Option Nat)),
      alistGet? o.slots f.name = some (.ref c) ∧ Traverse.slot H c "elements" = some (.refs l) ∧ some b ∈ l)
  ∨ (isInline K f = true ∧ f.range = FS_LIST ∧ ∃ (c : Nat) (hs : List Val),
      alistGet? o.slots f.name = some (.ref c) ∧ collectList H (H.length + 1) (.ref c) = .ok hs ∧ Val.ref b ∈ hs)

theorem target_iff {K : Consts} {ts : TypeSystem} {H : Heap} {a b : Nat} {o : Obj} {t : TypeRec}
    (ho : H[a]? = some o) (ht : find? ts o.ty = some t) :
    Target K ts H a b ↔ (∃ f ∈ allFeatures t, FT K H o f b) ∨
      (o.ty = FS_ARRAY ∧ ∃ l : List (Option Nat), alistGet? o.slots "elements" = some (.refs l) ∧ some b ∈ l) := by
  constructor
  · rintro ⟨o', t', ho', ht', hcase⟩
    cases ho.symm.trans ho'
    cases ht.symm.trans ht'
    rcases hcase with ⟨f, hf, h⟩ | ⟨f, hf, h⟩ | ⟨f, hf, h⟩ | h
    · exact .inl ⟨f, hf, .inl h⟩
    · exact .inl ⟨f, hf, .inr (.inl h)⟩
    · exact .inl ⟨f, hf, .inr (.inr h)⟩
    · exact .inr h
  · rintro (⟨f, hf, h | h | h⟩ | h)
    · exact ⟨o, t, ho, ht, .inl ⟨f, hf, h⟩⟩
    · exact ⟨o, t, ho, ht, .inr (.inl ⟨f, hf, h⟩)⟩
    · exact ⟨o, t, ho, ht, .inr (.inr (.inl ⟨f, hf, h⟩))⟩
    · exact ⟨o, t, ho, ht, .inr (.inr (.inr h))⟩

/-- the inlined kinds that hold no structures, beside the primitive arrays -/
theorem otherKind_ne {r : String}
    (h : r = STRING_ARRAY ∨ r = INTEGER_LIST ∨ r = FLOAT_LIST ∨ r = STRING_LIST) : r ≠ FS_ARRAY ∧ r ≠ FS_LIST := by
  rcases h with h | h | h | h <;> subst h <;>
    simp [STRING_ARRAY, INTEGER_LIST, FLOAT_LIST, STRING_LIST, FS_ARRAY, FS_LIST]

theorem inlArr_shape {H : Heap} {P : Val → Prop} {v : Val} (h : InlArr H P v) : v = .none ∨ ∃ c, v = .ref c := by
  rcases h with h | ⟨c, _, h, _⟩
  · exact Or.inl h
  · exact Or.inr ⟨c, h⟩

section
variable {K : Consts} {ts : TypeSystem} {c : Cas} {ci : Nat} {H : Heap} {isAnn : Bool} {o : Obj} {f : Feature}

theorem flat_ref_notInline (hf : FlatFeat K ts c ci H isAnn o f) {b : Nat}
    (hb : alistGet? o.slots f.name = some (.ref b)) :
    f.name ≠ "sofa" ∧ isPrimitive K ts f.range = false ∧ isInline K f = false := by
  rcases hf.val_cases hb with h | ⟨_, h⟩ | ⟨_, h⟩ | ⟨_, h⟩ | ⟨_, h⟩ | ⟨_, h⟩ | ⟨_, _, hn, hp, ha, hl⟩
  rotate_right
  · exact ⟨hn, hp, isInline_of_range ha hl⟩
  all_goals cases h

/-- the kind of an inlined feature, as far as the traversal cares: not primitive, the value `None` or a reference, and
    for an FSList the spine ends -/
theorem inlineFeat_shape (hin : InlineFeat K ts H o f) :
    isPrimitive K ts f.range = false ∧ isInline K f = true ∧ ∃ v, alistGet? o.slots f.name = some v ∧
      (v = .none ∨ ∃ cc, v = .ref cc ∧ (f.range = FS_LIST → ∃ hs, collectList H (H.length + 1) (.ref cc) = .ok hs)) := by
  have hi := hin.isInline
  obtain ⟨_, v, hv, hcase⟩ := hin
  have arr : ∀ {P : Val → Prop}, f.range ≠ FS_LIST → InlArr H P v →
      v = .none ∨ ∃ cc, v = .ref cc ∧ (f.range = FS_LIST → ∃ hs, collectList H (H.length + 1) (.ref cc) = .ok hs) :=
    fun hne h => (inlArr_shape h).imp id fun ⟨cc, e⟩ => ⟨cc, e, fun hr => absurd hr hne⟩
  have list : ∀ {P : List Val → Prop}, InlList H P v →
      v = .none ∨ ∃ cc, v = .ref cc ∧ (f.range = FS_LIST → ∃ hs, collectList H (H.length + 1) (.ref cc) = .ok hs) := by
    rintro P (h | ⟨cc, hs, rfl, hcl, _⟩)
    · exact .inl h
    · exact .inr ⟨cc, rfl, fun _ => ⟨hs, hcl⟩⟩
  rcases hcase with ⟨hr, rk, h⟩ | ⟨hr, rk, h⟩ | ⟨hr, rk, h⟩ | ⟨hr, rk, h⟩ | ⟨hr, rk, h⟩ | ⟨hr, rk, h⟩ | ⟨hr, rk, h⟩
  · exact ⟨rk.prim, hi, v, hv, arr (primArrTy_ne hr (by simp)) h⟩
  · exact ⟨rk.prim, hi, v, hv, arr (by simp [hr, STRING_ARRAY, FS_LIST]) h⟩
  · exact ⟨rk.prim, hi, v, hv, arr (by simp [hr, FS_ARRAY, FS_LIST]) h⟩
  iterate 4 exact ⟨rk.prim, hi, v, hv, list h⟩

theorem collFeat_ref (hf : CollFeat K ts c ci H isAnn o f) {cc : Nat} (hv : alistGet? o.slots f.name = some (.ref cc)) :
    f.name ≠ "sofa" ∧ isPrimitive K ts f.range = false ∧
      (isInline K f = true → f.range = FS_LIST → ∃ hs, collectList H (H.length + 1) (.ref cc) = .ok hs) := by
  rcases hf with hflat | ⟨hname, hsh | hinl⟩
  · obtain ⟨h1, h2, h3⟩ := flat_ref_notInline hflat hv
    exact ⟨h1, h2, fun hi => by rw [h3] at hi; cases hi⟩
  · exact ⟨hname.2.2.2.2.2, hsh.2.2.1, fun hi => by rw [isInline_shared hsh.1] at hi; cases hi⟩
  · obtain ⟨hp, _, v, hv', hval⟩ := inlineFeat_shape hinl
    cases hv.symm.trans hv'
    rcases hval with h | ⟨cc', e, hl⟩
    · cases h
    · cases e
      exact ⟨hname.2.2.2.2.2, hp, fun _ => hl⟩

theorem src_iff_ft (hf : CollFeat K ts c ci H isAnn o f) (b : Nat) :
    Src K ts {} H (H.length + 1) o f b ↔ FT K H o f b := by
  constructor
  · intro h
    cases h with
    | ref _ _ hl hv => exact .inl ⟨hl, hv⟩
    | elem cc l _ _ hl hr hv he hb => exact .inr (.inl ⟨hl, hr, cc, l, hv, he, hb⟩)
    | head cc vs _ _ hl _ hr hv hs hlt hb =>
      exact .inr (.inr ⟨hl, hr, cc, vs, hv, collectList_spine hs _ hlt, hb⟩)
  · rintro (⟨hi, hv⟩ | ⟨hi, hr, cc, l, hv, he, hb⟩ | ⟨hi, hr, cc, hs, hv, hcl, hb⟩)
    · exact .ref (collFeat_ref hf hv).1 (collFeat_ref hf hv).2.1 hi hv
    · exact .elem cc l (collFeat_ref hf hv).1 (collFeat_ref hf hv).2.1 hi hr hv he hb
    · exact .head cc hs (collFeat_ref hf hv).1 (collFeat_ref hf hv).2.1 hi (by simp [hr, FS_LIST, FS_ARRAY]) hr hv
        (collectList_ok hcl).1 (collectList_ok hcl).2 hb

theorem featureSuccs_coll_ok {a : Nat} (ho : H[a]? = some o) (hf : CollFeat K ts c ci H isAnn o f) :
    ∃ r, featureSuccs K ts {} H [] (H.length + 1) a f = .ok r := by
  by_cases hn : f.name = "sofa"
  · exact ⟨_, featureSuccs_skip (.inl hn)⟩
  cases hpr : isPrimitive K ts f.range with
  | true => exact ⟨_, featureSuccs_skip (.inr (.inl hpr))⟩
  | false =>
    refine featureSuccs_ok_of ho (fun v hv => ?_) (fun cc hv hl hr => ?_)
    · rcases hf with hflat | ⟨_, hsh | hinl⟩
      · obtain ⟨_, _, _, _, _, _, _, _, _, _, _, v', hv', hcase⟩ := hflat
        cases hv.symm.trans hv'
        rcases hcase with ⟨h, _⟩ | ⟨_, h, _⟩ | ⟨_, _, _, _, _, _, _, hval⟩
        · exact absurd h hn
        · rw [hpr] at h; cases h
        · exact hval.imp id fun ⟨b, e, _⟩ => ⟨b, e⟩
      · obtain ⟨_, _, _, _, _, _, v', hv', hval⟩ := hsh
        cases hv.symm.trans hv'
        exact hval.imp id fun ⟨b, e, _⟩ => ⟨b, e⟩
      · obtain ⟨_, _, v', hv', hval⟩ := inlineFeat_shape hinl
        cases hv.symm.trans hv'
        exact hval.imp id fun ⟨cc, e, _⟩ => ⟨cc, e⟩
    · obtain ⟨hs, hcl⟩ := (collFeat_ref hf hv).2.2 hl hr
      exact ⟨hs, collectList_ok hcl⟩

end

theorem nodeSuccs_coll_iff {K : Consts} {ts : TypeSystem} {c : Cas} {ci : Nat} {H : Heap} {a : Nat}
    (hc : CollFs K ts c ci H a) :
    ∃ (o : Obj) (t : TypeRec) (ps : List Nat) (n : Nat), H[a]? = some o ∧ find? ts o.ty = some t ∧
      nodeSuccs K ts {} H [] (H.length + 1) a t = .ok (ps, n) ∧ ∀ b, b ∈ ps ↔ Target K ts H a b := by
  rcases hc with hg | ha
  · obtain ⟨o, t, ho, ht, g⟩ := genFs_iff.mp hg
    obtain ⟨⟨ps, n⟩, hnode⟩ : ∃ r, nodeSuccs K ts {} H [] (H.length + 1) a t = .ok r :=
      nodeSuccs_ok_iff.mpr (.inr fun f hf => featureSuccs_coll_ok ho (g.feat f hf))
    refine ⟨o, t, ps, n, ho, ht, hnode, fun b => ?_⟩
    rw [mem_nodeSuccs_iff ho hnode]
    constructor
    · rintro (⟨_, f, hf, hs⟩ | ⟨h, _⟩)
      · refine ⟨o, t, ho, ht, ?_⟩
        rcases (src_iff_ft (g.feat f hf) b).mp hs with ⟨h1, h2⟩ | ⟨h1, h2, h3⟩ | ⟨h1, h2, h3⟩
        · exact .inl ⟨f, hf, h1, h2⟩
        · exact .inr (.inl ⟨f, hf, h1, h2, h3⟩)
        · exact .inr (.inr (.inl ⟨f, hf, h1, h2, h3⟩))
      · exact absurd h g.notArrBase
    · rintro ⟨o', t', ho', ht', hcase⟩
      cases ho.symm.trans ho'
      cases ht.symm.trans ht'
      rcases hcase with ⟨f, hf, h1, h2⟩ | ⟨f, hf, h1, h2, h3⟩ | ⟨f, hf, h1, h2, h3⟩ | ⟨hty, _⟩
      · exact .inl ⟨g.notArrBase, f, hf, (src_iff_ft (g.feat f hf) b).mpr (.inl ⟨h1, h2⟩)⟩
      · exact .inl ⟨g.notArrBase, f, hf, (src_iff_ft (g.feat f hf) b).mpr (.inr (.inl ⟨h1, h2, h3⟩))⟩
      · exact .inl ⟨g.notArrBase, f, hf, (src_iff_ft (g.feat f hf) b).mpr (.inr (.inr ⟨h1, h2, h3⟩))⟩
      · exact absurd hty g.notFsArr
  · obtain ⟨o, t, f, ev, ho, ht, ar⟩ := ha.obj
    have hel : alistGet? o.slots "elements" = some ev := by
      rw [ar.slots]; unfold alistGet?; rw [if_pos rfl]
    obtain ⟨⟨ps, n⟩, hnode⟩ : ∃ r, nodeSuccs K ts {} H [] (H.length + 1) a t = .ok r :=
      nodeSuccs_ok_iff.mpr (.inl ar.arrBase)
    refine ⟨o, t, ps, n, ho, ht, hnode, fun b => ?_⟩
    rw [mem_nodeSuccs_iff ho hnode]
    have hnoref : ∀ b, ev ≠ .ref b := by
      rintro b rfl
      rcases ar.kind with ⟨_, _, _, h | ⟨l, h, _⟩⟩ | ⟨_, _, h | ⟨l, h⟩⟩ | ⟨hpa, _, _, h | h⟩
      iterate 5 cases h
      rcases h with h | ⟨_, l, h⟩ | ⟨_, l, h, _⟩ | ⟨_, l, h⟩ | ⟨_, l, h, _⟩ <;> cases h
    constructor
    · rintro (⟨h, _⟩ | ⟨_, hfa, l, hl, hb⟩)
      · exact absurd ar.arrBase h
      · exact ⟨o, t, ho, ht, .inr (.inr (.inr ⟨ar.name ▸ hfa, l, hl, hb⟩))⟩
    · rintro ⟨o', t', ho', ht', hcase'⟩
      cases ho.symm.trans ho'
      cases ht.symm.trans ht'
      rcases hcase' with ⟨g, hgm, _, h2⟩ | ⟨g, hgm, _, h2, _⟩ | ⟨g, hgm, _, h2, _⟩ | ⟨hty, l, h3, h4⟩
      · rw [ar.feats] at hgm
        rw [List.mem_singleton.mp hgm, ar.fname, hel] at h2
        exact absurd (Option.some.inj h2) (hnoref b)
      · rw [ar.feats] at hgm
        rw [List.mem_singleton.mp hgm, ar.frange] at h2
        simp [TOP, FS_ARRAY] at h2
      · rw [ar.feats] at hgm
        rw [List.mem_singleton.mp hgm, ar.frange] at h2
        simp [TOP, FS_LIST] at h2
      · exact .inr ⟨ar.arrBase, ar.name.trans hty, l, h3, h4⟩

theorem nodeSuccs_coll {K : Consts} {ts : TypeSystem} {c : Cas} {ci : Nat} {H : Heap} {a : Nat}
    (hc : CollFs K ts c ci H a) :
    ∃ (o : Obj) (t : TypeRec) (ps : List Nat) (n : Nat), H[a]? = some o ∧ find? ts o.ty = some t ∧
      nodeSuccs K ts {} H [] (H.length + 1) a t = .ok (ps, n) ∧ ∀ b, Target K ts H a b → b ∈ ps := by
  obtain ⟨o, t, ps, n, ho, ht, hnode, hm⟩ := nodeSuccs_coll_iff hc
  exact ⟨o, t, ps, n, ho, ht, hnode, fun b hb => (hm b).mpr hb⟩

theorem succsOf_coll {K : Consts} {ts : TypeSystem} {c : Cas} {ci : Nat} {H : Heap} {a : Nat}
    (hc : CollFs K ts c ci H a) (b : Nat) :
    b ∈ succsOf K ts {} H (H.length + 1) a ↔ Target K ts H a b := by
  obtain ⟨o, t, ps, n, ho, ht, hnode, hm⟩ := nodeSuccs_coll_iff hc
  rw [succsOf_eq K ts {} ho (getType_of_find ht) hnode]
  exact hm b

end Cassis.Xmi.CT

namespace Cassis.Xmi
open Cassis.TS Cassis.Traverse

/-- what a successful traversal with the XMI writer's options guarantees about the structures it collected, when they are
    in the fragment and neither a seed nor a target is the `cas:NULL` object -/
theorem lokC_of_findAllFs {K : Consts} {ts : TypeSystem} {ci : Nat} {c : Cas} {hp : Heap} {nx : Int} {st : St}
    (hfa : findAllFs K ts {} hp nx (defaultSeeds c) = .ok st) (hpos : 0 < nx)
    (hcoll : ∀ q ∈ st.allFs, CollFs K ts c ci st.heap q.2)
    (hseed : ∀ a ∈ defaultSeeds c, xidOf st.heap a ≠ some 0)
    (hnz : ∀ q ∈ st.allFs, ∀ b, Target K ts st.heap q.2 b → xidOf st.heap b ≠ some 0) :
    LOkC K ts c ci st.heap (sortById st.allFs) := by
  have C := listed_of_findAllFs hpos hfa
  refine ⟨fun q hq => hcoll q (mem_sortById.mp hq), C.ids, C.nodup, fun q hq b hb => ?_,
    fun nv hnv e he => C.seeds _ (mem_defaultSeeds hnv he) (hseed _ (mem_defaultSeeds hnv he))⟩
  obtain ⟨o, t, ps, n, ho, ht, hnode, hm⟩ := CT.nodeSuccs_coll (hcoll q (mem_sortById.mp hq))
  rw [C.len] at hnode
  refine C.closed q hq b ?_ (hnz q (mem_sortById.mp hq) b hb)
  rw [succsOf_eq K ts {} ho (getType_of_find ht) hnode]
  exact hm b hb

theorem lokC_of_save {K : Consts} {ts : TypeSystem} {cass : List Cas} {ci : Nat} {c : Cas} {hp : Heap}
    {doc : XDoc} {st : St} (hc : cass[ci]? = some c) (hwf : RTWf c hp)
    (hsave : saveXmi K ts cass ci hp = .ok (doc, st))
    (hcoll : ∀ q ∈ st.allFs, CollFs K ts c ci st.heap q.2) :
    LOkC K ts c ci st.heap (sortById st.allFs) := by
  have hfa := saveXmi_findAllFs hc hsave
  have hnz : ∀ b, xidOf st.heap b ≠ some 0 := fun b h0 => by
    have := st_ids_pos hwf hfa b 0 h0
    omega
  exact lokC_of_findAllFs hfa hwf.next_pos hcoll (fun a _ => hnz a) (fun _ _ b _ => hnz b)

end Cassis.Xmi
