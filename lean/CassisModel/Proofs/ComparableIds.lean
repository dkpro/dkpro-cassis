/-
The id-invariance part of C20.  `renumber σ hp` changes nothing but the `xid` field of the objects; `renderFrom` reads
that field only through `xidOf`, as a key into the anchor map.  For an injective `σ` every structure has "the same key"
(`SameKey`) in both heaps, so the two sides correspond through the identity on addresses: the same sorted lists and
anchor texts (`agreeSort_renumber`), and the same rows whenever the two anchor maps answer alike (`renderRow_renumber`).
`Properties/C20Ids.lean` puts the two into `renderFrom_rel` (`Proofs/ComparableRel.lean`).
-/
import CassisModel.Spec.ComparableIds
import CassisModel.Proofs.ComparableRel

namespace Cassis.Comparable
open Cassis.TS Cassis.Traverse

theorem renumber_getElem? (σ : Int → Int) (hp : Heap) (a : Nat) :
    (renumber σ hp)[a]? = (hp[a]?).map (fun o => { o with xid := o.xid.map σ }) := by
  simp [renumber]

theorem renumber_id (hp : Heap) : renumber id hp = hp := by
  unfold renumber
  rw [List.map_congr_left (g := id) fun ob _ => by cases ob; simp only [Option.map_id_fun, id_eq], List.map_id]

theorem renumber_length (σ : Int → Int) (hp : Heap) : (renumber σ hp).length = hp.length := by
  simp [renumber]

theorem slot_renumber (σ : Int → Int) (hp : Heap) (a : Nat) (n : String) :
    slot (renumber σ hp) a n = slot hp a n := by
  unfold slot
  rw [renumber_getElem?]
  cases hp[a]? <;> rfl

theorem tyOf_renumber (σ : Int → Int) (hp : Heap) (a : Nat) : tyOf (renumber σ hp) a = tyOf hp a := by
  unfold tyOf
  rw [renumber_getElem?]
  cases hp[a]? <;> rfl

theorem xidOf_renumber (σ : Int → Int) (hp : Heap) (a : Nat) :
    xidOf (renumber σ hp) a = (xidOf hp a).map σ := by
  unfold xidOf
  rw [renumber_getElem?]
  cases hp[a]? <;> rfl

theorem agreeSort_renumber (σ : Int → Int) (hp : Heap) : AgreeSort hp (renumber σ hp) :=
  .of_slots (tyOf_renumber σ hp) (fun c => slot_renumber σ hp c _) (fun c => slot_renumber σ hp c _)

theorem coveredText_renumber (σ : Int → Int) (cass : List Cas) (hp : Heap) (a : Nat) :
    Cas.coveredText cass (renumber σ hp) a = Cas.coveredText cass hp a := by
  unfold Cas.coveredText
  rw [renumber_getElem?]
  cases hp[a]? <;> rfl

theorem sameKey_renumber (σ : Int → Int) (hσ : ∀ x y, σ x = σ y → x = y) (hp : Heap) (addrs : List Nat) (a : Nat) :
    SameKey hp (renumber σ hp) addrs id a a := by
  intro b _
  rw [xidOf_renumber, xidOf_renumber, id]
  refine ⟨congrArg _, fun h => ?_⟩
  cases hb : xidOf hp b <;> cases ha : xidOf hp a <;> rw [hb, ha] at h
  · cases h
  · cases h
  · rw [hσ _ _ (Option.some.inj h)]

theorem renderRow_renumber (σ : Int → Int) (hσ : ∀ x y, σ x = σ y → x = y) (K : Consts) (hp : Heap) {addrs : List Nat}
    {byId byId' : List (Option Int × String)} (hA : AnchRel hp (renumber σ hp) addrs id byId byId')
    (cass : List Cas) (t : TypeRec) (annType : Bool) (a : Nat) :
    renderRow K cass (renumber σ hp) byId' t annType a = renderRow K cass hp byId t annType a :=
  renderRow_agree (tyOf_renumber σ hp) (slot_renumber σ hp) (fun c => hA c c (sameKey_renumber σ hσ hp addrs c))
    (renumber_length σ hp) (coveredText_renumber σ cass hp) t annType a

end Cassis.Comparable
