/-
C20 across the JSON round trip, whole format: what the default traversal of the original collects (in the heap `std.heap`
it leaves behind) and what the default traversal of the loaded CAS collects are isomorphic in the semantic sense `IsoR`
(`Proofs/ComparableIsoRel.lean`), through the address map the ids of the JSON writer induce (`isoR_of_dctx`).

The simulation relation on addresses (`ChainC.Cp`) is simply "a structure the JSON writer collected and its counterpart":
JSON restores every collection object under its id, so arrays are related as *objects* (then compared by content), and
a reference to a structure the default traversal does not collect (an inlined list node, say) finds no anchor on
either side (`DCtx.sameKey`).
-/
import CassisModel.Proofs.ComparableIsoJsonCollTrav

namespace Cassis.Comparable
open Cassis.TS Cassis.Traverse Cassis.Json Cassis.Json.CC Cassis.ChainC

section
variable {K : Consts} {ts : TypeSystem} {c : Cas} {ci : Nat} {hp H : Heap} {L : List (Int × Nat)} {ci' : Nat}
  {HF : Heap} {c' : Cas} {std : St}

theorem DCtx.slotD (X : DCtx K ts c ci hp H L ci' HF c' std) (a : Nat) (n : String) :
    Traverse.slot std.heap a n = Traverse.slot H a n := by
  rw [X.shapeD.slot a n, X.shape.slot a n]

theorem DCtx.tyD (X : DCtx K ts c ci hp H L ci' HF c' std) (a : Nat) : tyOf std.heap a = tyOf H a := by
  rw [tyOf_shape X.shapeD, tyOf_shape X.shape]

theorem DCtx.tyOf_new (X : DCtx K ts c ci hp H L ci' HF c' std) {q : Int × Nat} (hq : q ∈ L) :
    tyOf HF (naOf H L q.1) = tyOf std.heap q.2 := by
  rw [X.tyD, heapRel_tyOf X.jw.rel hq]

theorem DCtx.isArrayFs_new (X : DCtx K ts c ci hp H L ci' HF c' std) {q : Int × Nat} (hq : q ∈ L) :
    isArrayFs K HF (naOf H L q.1) = isArrayFs K std.heap q.2 :=
  isArrayFs_of_tyOf (X.tyOf_new hq) K

theorem DCtx.slot_new (X : DCtx K ts c ci hp H L ci' HF c' std) {q : Int × Nat} (hq : q ∈ L) (n : String) :
    Traverse.slot HF (naOf H L q.1) n = (Traverse.slot std.heap q.2 n).map (exp3J H (naOf H L) ci') := by
  rw [X.slotD]
  exact CC.slot_new X.jw.rel hq n

/-- **anchor keys**: a structure of `L` and its counterpart share their ids with corresponding collected structures
    (with none, when the default traversal does not collect them) -/
theorem DCtx.sameKey (X : DCtx K ts c ci hp H L ci' HF c' std) {q : Int × Nat} (hq : q ∈ L) :
    SameKey std.heap HF (std.allFs.map (·.2)) (phiOf H (naOf H L)) q.2 (naOf H L q.1) := by
  intro b hb
  obtain ⟨qb, hqb, rfl, _⟩ := inL_pair (X.sub hb)
  rw [X.jw.phi hqb, X.jw.rel.xid hqb, X.jw.rel.xid hq]
  constructor
  · intro h
    have e := X.key hq hb h
    have : qb = q := by
      apply Det.inj_of_nodup_map (·.1) L X.jw.lok.nodup hqb hq
      have h1 := (X.jw.lok.ids qb hqb).1
      rw [e, (X.jw.lok.ids q hq).1] at h1
      exact (Option.some.inj h1).symm
    rw [this]
  · intro h
    rw [Det.inj_of_nodup_map (·.1) L X.jw.lok.nodup hqb hq (Option.some.inj h)]

/-- a value of a collected structure and what the reader made of it are related to one level (`VRof`) by the
    counterpart relation `Cp`; `isoR_of_sim` makes equal rendering of that -/
theorem vrof_exp3J {v : Val} (hna : noAttr v = true) (hr : RefsIn H L v) :
    VRof (Cp H L) v (exp3J H (naOf H L) ci' v) := by
  cases v with
  | attr s => cases hna
  | ref b =>
    obtain ⟨y, hy, hyl⟩ := hr.1 b rfl
    rw [exp3J_ref hy]
    exact .inr (.inr (.inl ⟨b, _, rfl, rfl, (y, b), hyl, rfl, rfl⟩))
  | refs l => exact .inr (.inr (.inr ⟨l, _, rfl, rfl, refsRel_map_na (fun q hq => ⟨q, hq, rfl, rfl⟩) l (hr.2 l rfl)⟩))
  | ints l | bools l | floats l | strs l =>
    cases l with
    | nil => exact .inr (.inl ⟨by simp [EmptyList], .inl rfl⟩)
    | cons i l => exact .inl ⟨_, rfl, rfl⟩
  | sofa i vn => exact .inl ⟨.none, rfl, rfl⟩
  | _ => exact .inl ⟨_, rfl, rfl⟩

theorem exp3J_ne_none {v : Val} (hna : noAttr v = true) (hr : RefsIn H L v) (hv : v ≠ .none) :
    exp3J H (naOf H L) ci' v ≠ .none := by
  cases v with
  | attr s => cases hna
  | none => exact absurd rfl hv
  | ref b =>
    obtain ⟨y, hy, _⟩ := hr.1 b rfl
    rw [exp3J_ref hy]
    exact nofun
  | ints l | bools l | floats l | strs l => simp only [exp3J, elemsExpJ]; split <;> exact nofun
  | _ => exact nofun

theorem DCtx.slot_vrof (X : DCtx K ts c ci hp H L ci' HF c' std) {q : Int × Nat} (hq : q ∈ L) (n : String) :
    VRof (Cp H L) ((Traverse.slot std.heap q.2 n).getD .none) ((Traverse.slot HF (naOf H L q.1) n).getD .none) := by
  have hnew := CC.slot_new_getD X.jw.rel hq n
  simp only [Xmi.slot] at hnew
  rw [hnew, X.slotD]
  obtain ⟨hna, hr⟩ := slotD_good X.jw.lok hq n
  exact vrof_exp3J hna hr

theorem DCtx.simStep (X : DCtx K ts c ci hp H L ci' HF c' std) {byId byId' : List (Option Int × String)}
    (hA : AnchRel std.heap HF (std.allFs.map (·.2)) (phiOf H (naOf H L)) byId byId') :
    SimStep K std.heap HF byId byId' (Cp H L) := by
  rintro a a' ⟨q, hq, rfl, rfl⟩
  have harr := X.isArrayFs_new (K := K) hq
  cases hk : isArrayFs K std.heap q.2 with
  | false => exact .inl ⟨rfl, hk ▸ harr, hA _ _ (X.sameKey hq)⟩
  | true =>
    refine .inr ⟨rfl, hk ▸ harr, ?_⟩
    rw [X.slot_new hq, X.slotD]
    cases hs : Traverse.slot H q.2 "elements" with
    | none => exact .inl ⟨rfl, rfl⟩
    | some v =>
      obtain ⟨hna, hr⟩ := slotS_good X.jw.lok hq hs
      by_cases hv : v = .none
      · subst hv; exact .inr (.inl ⟨rfl, rfl⟩)
      · exact .inr (.inr ⟨v, _, rfl, rfl, hv, exp3J_ne_none hna hr hv, vrof_exp3J hna hr⟩)

theorem DCtx.sofaSame (X : DCtx K ts c ci hp H L ci' HF c' std) {q : Int × Nat} (hq : q ∈ L) :
    SofaSame c ci ci' (Traverse.slot std.heap q.2 "sofa") (Traverse.slot HF (naOf H L q.1) "sofa") := by
  rw [X.slotD]
  exact heapRel_sofaSame X.jw.rel (fun _ _ => rfl) (fun _ => rfl) hq (jcoll_sofa_slot (X.jw.lok.coll q hq).1)

theorem DCtx.ints (X : DCtx K ts c ci hp H L ci' HF c' std) {q : Int × Nat} (hq : q ∈ L) (n : String) :
    intOf (Traverse.slot HF (naOf H L q.1) n) = intOf (Traverse.slot std.heap q.2 n) :=
  intOf_congr (vrof_int (X.slot_vrof hq n))

theorem DCtx.coveredText (X : DCtx K ts c ci hp H L ci' HF c' std) {cass cass' : List Cas}
    (hc : cass[ci]? = some c) (hc' : cass'[ci']? = some c') (hviews : ViewsSame c c') {q : Int × Nat} (hq : q ∈ L)
    (hann : isAnnot std.heap q.2 = true) :
    Cas.coveredText cass' HF (naOf H L q.1) = Cas.coveredText cass std.heap q.2 :=
  coveredText_of_sofaSame hc hc' hviews hann (X.ints hq _) (X.ints hq _) (X.sofaSame hq)

theorem isoR_of_dctx (X : DCtx K ts c ci hp H L ci' HF c' std) {cass cass' : List Cas}
    (hc : cass[ci]? = some c) (hc' : cass'[ci']? = some c') (hviews : ViewsSame c c')
    (addrs' : List Nat) (hnd : addrs'.Nodup)
    (hperm' : addrs'.Perm ((std.allFs.map (·.2)).map (phiOf H (naOf H L)))) :
    IsoR K cass cass' std.heap HF (defaultSeeds c) (defaultSeeds c') (std.allFs.map (·.2)) addrs'
      (phiOf H (naOf H L)) := by
  refine isoR_of_sim (Cp H L) hperm'.symm hnd ?_ ?_ ?_ ?_ ?_ ?_ ?_ (fun _ _ hA => X.simStep hA)
  -- every remaining condition speaks about a collected `a` and its image: a pair `q ∈ L` and `naOf H L q.1`
  all_goals
    intro a ha
    obtain ⟨q, hq, rfl, _⟩ := inL_pair (X.sub ha)
    rw [X.jw.phi hq]
  · refine ⟨X.seed_bwd hq, fun h => ?_⟩
    obtain ⟨q', hq', e, hs⟩ := X.seed_fwd h
    rw [X.jw.na_inj hq hq' e]
    exact hs
  · exact X.tyOf_new hq
  · exact X.sameKey hq
  · exact viewTag_of_sofaSame hc hc' hviews (X.sofaSame hq)
  · exact X.coveredText hc hc' hviews hq
  · exact fun n _ => X.slot_vrof hq n
  · intro _
    rw [X.slot_new hq]
    cases Traverse.slot std.heap q.2 "elements" <;> rfl

end

end Cassis.Comparable
