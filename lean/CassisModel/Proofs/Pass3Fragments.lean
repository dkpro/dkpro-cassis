/-
The third pass of the reader (`buildCas`) in the terms of a single fragment and a single order of the document: the
relation `Pass3.ObjOk` written out for the expectation functions of the flat fragment (`RTB`) and of the whole format
(`RTCB`), and the contexts of the document as written on the flat fragment (`RTB.Ctx`, `buildCas_flat`), as written on
the whole format (`RTCB.Ctx`), and permuted on the flat fragment (`LP.CtxP` over `LP.P1SpecP`).  Each relation unfolds
to `Pass3.ObjOk` at its pair of expectation functions: no lemma says so, `ObjOk.rehome` hands a hypothesis of the one to
a lemma about the other as it is.  Each context gives an `LPC.CtxC` (`toC`); the round trips use `Pass3.buildCas_ok`
over `LPC.CtxC` directly.
-/
import CassisModel.Proofs.Pass3BuildCas
import CassisModel.Proofs.RoundTripFlatOfColl
import CassisModel.Proofs.RoundTripCollContent

namespace Cassis.Xmi.RTB
open Cassis.TS Cassis.Traverse Cassis.Xmi

section
variable (ts : TypeSystem) (cass : List Cas) (H : Heap) (na : Int → Nat) (ci' : Nat)

/-- what slot `n` of the new object may hold (`w`) when the old object holds `v`, on the flat fragment: `Pass3.SlotOk`
    for `E2`, `E3` (`E3 H na ci' o n v` is `exp3 H na ci' v`) -/
def SlotOk (C K : Prop) (o : Obj) (n : String) (v w : Val) : Prop :=
  if n = "sofa" then (w = exp3 H na ci' v ∨ (K ∧ ∃ u, w = .sofa ci' u))
  else ((C → w = exp3 H na ci' v) ∧ (¬ C → w = E2 ts cass H na ci' o n v))

def ObjOk (C K : Prop) (o o' : Obj) (x : Int) : Prop :=
  o'.ty = o.ty ∧ o'.xid = some x ∧ o'.slots.map (·.1) = o.slots.map (·.1) ∧
  ∀ (n : String) (v : Val), alistGet? o.slots n = some v →
    ∃ w, alistGet? o'.slots n = some w ∧ SlotOk ts cass H na ci' C K o n v w

end

section
variable {ts : TypeSystem} {cass : List Cas} {H : Heap} {na : Int → Nat} {ci' : Nat}

theorem ObjOk.rehome {C K K' : Prop} {o o' : Obj} {x : Int} (h : ObjOk ts cass H na ci' C K o o' x) {v : Val}
    (hv : alistGet? o.slots "sofa" = some v) :
    ObjOk ts cass H na ci' C K' o { o' with slots := alistSet o'.slots "sofa" (exp3 H na ci' v) } x :=
  Pass3.ObjOk.rehome (E2 := E2 ts cass H na ci') (E3 := E3 H na ci') h hv

end

end Cassis.Xmi.RTB

namespace Cassis.Xmi.Pass3
open Cassis.TS Cassis.Traverse Cassis.Xmi Cassis.Xmi.RTB

theorem expOk_flat (ts : TypeSystem) (cass : List Cas) (H : Heap) (na : Int → Nat) (ci' : Nat) :
    ExpOk ts cass ci' (E2 ts cass H na ci') (E3 H na ci') :=
  ⟨fun o n v h => exp2_eq_exp3 cass H na ci' _ o n v h, fun _ _ _ => rfl, fun _ _ _ => rfl, fun _ _ => rfl,
    fun _ _ _ _ => rfl⟩

end Cassis.Xmi.Pass3

namespace Cassis.Xmi.RTCB
open Cassis.TS Cassis.Xmi Cassis.Xmi.RTB

section
variable (K : Consts) (ts : TypeSystem) (cass : List Cas) (H : Heap) (na : Int → Nat) (ia : Int → String → Nat) (ci' : Nat)

/-- `Pass3.SlotOk` for `E2c`, `E3c` -/
def SlotOk (C Kp : Prop) (o : Obj) (n : String) (v w : Val) : Prop :=
  if n = "sofa" then (w = E3c K ts H na ia ci' o n v ∨ (Kp ∧ ∃ u, w = .sofa ci' u))
  else ((C → w = E3c K ts H na ia ci' o n v) ∧ (¬ C → w = E2c K ts cass H na ia ci' o n v))

def ObjOk (C Kp : Prop) (o o' : Obj) (x : Int) : Prop :=
  o'.ty = o.ty ∧ o'.xid = some x ∧ o'.slots.map (·.1) = o.slots.map (·.1) ∧
  ∀ (n : String) (v : Val), alistGet? o.slots n = some v →
    ∃ w, alistGet? o'.slots n = some w ∧ SlotOk K ts cass H na ia ci' C Kp o n v w

variable {K ts cass H na ia ci'}

theorem ObjOk.rehome {C Kp Kp' : Prop} {o o' : Obj} {x : Int} (h : ObjOk K ts cass H na ia ci' C Kp o o' x) {v : Val}
    (hv : alistGet? o.slots "sofa" = some v) :
    ObjOk K ts cass H na ia ci' C Kp' o { o' with slots := alistSet o'.slots "sofa" (E3c K ts H na ia ci' o "sofa" v) } x :=
  Pass3.ObjOk.rehome h hv

end

end Cassis.Xmi.RTCB

namespace Cassis.Xmi.LP
open Cassis.TS Cassis.Traverse Cassis.Xmi Cassis.Xmi.LPC

structure P1SpecP (ts : TypeSystem) (cass : List Cas) (c : Cas) (H : Heap) (L : List (Int × Nat)) (na : Int → Nat)
    (n0 : Nat) (p : Pass1) : Prop where
  fss : p.fss.Perm ((0, n0) :: L.map (fun q => (q.1, na q.1)))
  sofas : p.sofas.Perm (c.views.map (fun nv => (nv.2.sofa.xid, psofaOf nv)))
  views : p.views.Perm (c.views.map (fun nv => (nv.2.sofa.xid, pviewOf H nv)))
  lenient : p.lenientIds = []
  len : p.heap.length = H.length + 1 + L.length
  null : ∃ o0 : Obj, p.heap[n0]? = some o0 ∧ o0.ty = NULL_T ∧ o0.xid = some 0 ∧ o0.slots = []
  rel : HeapRel H L na (E1 ts cass H) p.heap

end Cassis.Xmi.LP

namespace Cassis.Xmi
open Cassis.TS Cassis.Traverse

theorem P1Spec.toWP {ts : TypeSystem} {cass : List Cas} {c : Cas} {H : Heap} {L : List (Int × Nat)} {na : Int → Nat}
    {p : Pass1} (h : P1Spec ts cass c H L na p) : LPC.P1WP c H L na H.length p :=
  ⟨h.fss ▸ List.Perm.refl _, h.sofas ▸ List.Perm.refl _, h.views ▸ List.Perm.refl _, h.lenient, h.null⟩

theorem LOk.toW {K : Consts} {ts : TypeSystem} {c : Cas} {ci : Nat} {H : Heap} {L : List (Int × Nat)}
    (h : LOk K ts c ci H L) : LOkW ts c ci H L := lokW_of_lokC (lokC_of_lok h)

end Cassis.Xmi

namespace Cassis.Xmi.LP
open Cassis.TS Cassis.Traverse Cassis.Xmi Cassis.Xmi.LPC

section
variable {K : Consts} {ts : TypeSystem} {cass : List Cas} {ci : Nat} {c : Cas} {H : Heap}
  {L : List (Int × Nat)} {na : Int → Nat} {n0 : Nat} {p : Pass1}

theorem P1SpecP.toW (h : P1SpecP ts cass c H L na n0 p) : P1WP c H L na n0 p :=
  ⟨h.fss, h.sofas, h.views, h.lenient, h.null⟩

theorem P1SpecP.lookup (h : P1SpecP ts cass c H L na n0 p) (hL : LOk K ts c ci H L) {q : Int × Nat} (hq : q ∈ L) :
    lookupFs p.fss q.1 = .ok (na q.1) :=
  h.toW.lookup hL.toW.idsOk hq

end

end Cassis.Xmi.LP

namespace Cassis.Xmi
open Cassis.TS Cassis.Traverse

namespace RTB

/-- the hypotheses of `buildCas_flat` -/
structure Ctx (K : Consts) (ts : TypeSystem) (cass : List Cas) (ci : Nat) (c : Cas) (hp H : Heap)
    (L : List (Int × Nat)) (na : Int → Nat) (p : Pass1) : Prop where
  hc : cass[ci]? = some c
  wf : RTWf c hp
  lok : LOk K ts c ci H L
  nok : NaOk H.length L na
  p1 : P1Spec ts cass c H L na p
  hmem : ∀ nv ∈ c.views, ∀ e ∈ Index.all nv.2.idx, slot H e.oid "sofa" ≠ some .none
  mok : MembersOk c H

section
variable {K : Consts} {ts : TypeSystem} {cass : List Cas} {ci : Nat} {c : Cas} {hp H : Heap}
  {L : List (Int × Nat)} {na : Int → Nat} {p : Pass1}

theorem Ctx.toC (ctx : Ctx K ts cass ci c hp H L na p) : LPC.CtxC K ts cass ci c hp H L na H.length p :=
  ⟨ctx.hc, ctx.wf, ctx.lok.toW, ctx.nok.toP, ctx.p1.toWP, ctx.hmem, ctx.mok⟩

theorem Ctx.lookup (ctx : Ctx K ts cass ci c hp H L na p) {m : Int} {am : Nat} (h : (m, am) ∈ L) :
    lookupFs p.fss m = .ok (na m) :=
  ctx.toC.lookup h

theorem Ctx.member (ctx : Ctx K ts cass ci c hp H L na p) {nv : String × View} (hnv : nv ∈ c.views) {m : Int}
    (hm : m ∈ (pviewOf H nv).members) : ∃ e ∈ Index.all nv.2.idx, (m, e.oid) ∈ L :=
  ctx.toC.member hnv hm

theorem Ctx.contains (ctx : Ctx K ts cass ci c hp H L na p) {m : Int} {am : Nat} (h : (m, am) ∈ L) {o : Obj}
    (ho : H[am]? = some o) : containsType ts o.ty = true :=
  ctx.toC.contains h ho

end

end RTB

namespace LP
open Cassis.Xmi.RTB

/-- the hypotheses of the third pass on a permuted document of the flat fragment -/
structure CtxP (K : Consts) (ts : TypeSystem) (cass : List Cas) (ci : Nat) (c : Cas) (hp H : Heap)
    (L : List (Int × Nat)) (na : Int → Nat) (n0 : Nat) (p : Pass1) : Prop where
  hc : cass[ci]? = some c
  wf : RTWf c hp
  lok : LOk K ts c ci H L
  nok : NaOkP n0 L na
  p1 : P1SpecP ts cass c H L na n0 p
  hmem : ∀ nv ∈ c.views, ∀ e ∈ Index.all nv.2.idx, slot H e.oid "sofa" ≠ some .none
  mok : MembersOk c H

section
variable {K : Consts} {ts : TypeSystem} {cass : List Cas} {ci : Nat} {c : Cas} {hp H : Heap}
  {L : List (Int × Nat)} {na : Int → Nat} {n0 : Nat} {p : Pass1}

theorem CtxP.toC (ctx : CtxP K ts cass ci c hp H L na n0 p) : LPC.CtxC K ts cass ci c hp H L na n0 p :=
  ⟨ctx.hc, ctx.wf, ctx.lok.toW, ctx.nok, ctx.p1.toW, ctx.hmem, ctx.mok⟩

theorem CtxP.id_ne_zero (ctx : CtxP K ts cass ci c hp H L na n0 p) {m : Int} {am : Nat} (h : (m, am) ∈ L) : m ≠ 0 :=
  ctx.toC.id_ne_zero h

theorem CtxP.lookup (ctx : CtxP K ts cass ci c hp H L na n0 p) {m : Int} {am : Nat} (h : (m, am) ∈ L) :
    lookupFs p.fss m = .ok (na m) :=
  ctx.toC.lookup h

theorem CtxP.member (ctx : CtxP K ts cass ci c hp H L na n0 p) {nv : String × View} (hnv : nv ∈ c.views) {m : Int}
    (hm : m ∈ (pviewOf H nv).members) : ∃ e ∈ Index.all nv.2.idx, (m, e.oid) ∈ L :=
  ctx.toC.member hnv hm

theorem CtxP.contains (ctx : CtxP K ts cass ci c hp H L na n0 p) {m : Int} {am : Nat} (h : (m, am) ∈ L) {o : Obj}
    (ho : H[am]? = some o) : containsType ts o.ty = true :=
  ctx.toC.contains h ho

end

end LP

namespace RTCB
open Cassis.Xmi.RTB

/-- the hypotheses of the third pass on the document as written, with collections -/
structure Ctx (K : Consts) (ts : TypeSystem) (cass : List Cas) (ci : Nat) (c : Cas) (hp H : Heap)
    (L : List (Int × Nat)) (na : Int → Nat) (p : Pass1) : Prop where
  hc : cass[ci]? = some c
  wf : RTWf c hp
  lok : LOkW ts c ci H L
  nok : NaOk H.length L na
  p1 : P1W c H L na p
  hmem : ∀ nv ∈ c.views, ∀ e ∈ Index.all nv.2.idx, slot H e.oid "sofa" ≠ some .none
  mok : MembersOk c H

section
variable {K : Consts} {ts : TypeSystem} {cass : List Cas} {ci : Nat} {c : Cas} {hp H : Heap}
  {L : List (Int × Nat)} {na : Int → Nat} {p : Pass1}

theorem Ctx.toC (ctx : Ctx K ts cass ci c hp H L na p) : LPC.CtxC K ts cass ci c hp H L na H.length p :=
  ⟨ctx.hc, ctx.wf, ctx.lok, ctx.nok.toP, ctx.p1.toWP, ctx.hmem, ctx.mok⟩

theorem Ctx.lookup (ctx : Ctx K ts cass ci c hp H L na p) {m : Int} {am : Nat} (h : (m, am) ∈ L) :
    lookupFs p.fss m = .ok (na m) :=
  ctx.toC.lookup h

theorem Ctx.member (ctx : Ctx K ts cass ci c hp H L na p) {nv : String × View} (hnv : nv ∈ c.views) {m : Int}
    (hm : m ∈ (pviewOf H nv).members) : ∃ e ∈ Index.all nv.2.idx, (m, e.oid) ∈ L :=
  ctx.toC.member hnv hm

theorem Ctx.contains (ctx : Ctx K ts cass ci c hp H L na p) {m : Int} {am : Nat} (h : (m, am) ∈ L) {o : Obj}
    (ho : H[am]? = some o) : containsType ts o.ty = true :=
  ctx.toC.contains h ho

end

end RTCB

theorem buildCas_flat (K : Consts) (ts : TypeSystem) (cass : List Cas) (ci : Nat) (c : Cas) (hp H : Heap)
    (L : List (Int × Nat)) (na : Int → Nat) (ci' : Nat) (p : Pass1) (hp2 : Heap)
    (hc : cass[ci]? = some c) (hwf : RTWf c hp) (hnull : NullOk ts) (hL : LOk K ts c ci H L)
    (hna : NaOk H.length L na) (hp1 : P1Spec ts cass c H L na p)
    (hmem : ∀ nv ∈ c.views, ∀ e ∈ Index.all nv.2.idx, slot H e.oid "sofa" ≠ some .none)
    (hmok : MembersOk c H)
    (hlen : hp2.length = p.heap.length) (hnull2 : hp2[H.length]? = p.heap[H.length]?)
    (hrel : HeapRel H L na (E2 ts cass H na ci') hp2) :
    ∃ ld : Loaded, buildCas K ts ci' false p hp2 = .ok ld ∧ HeapRel H L na (E3 H na ci') ld.heap ∧
      ld.cas.views.map (viewContent ld.heap) = c.views.map (viewContent H) :=
  have ctx : RTB.Ctx K ts cass ci c hp H L na p := ⟨hc, hwf, hL, hna, hp1, hmem, hmok⟩
  by
  obtain ⟨ld, nvI, h1, h2, hm, hnvI, _, hcont, _⟩ :=
    Pass3.buildCas_ok ctx.toC (Pass3.expOk_flat ts cass H na ci') (List.Perm.refl _) hp1.sofas hnull2 hrel
  rw [LPC.initial_first hwf hm hnvI] at hcont
  exact ⟨ld, h1, h2, hcont⟩

end Cassis.Xmi
