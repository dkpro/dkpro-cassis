/-
C16 — what the conversion chains (`Properties/C16Chain.lean`, `Properties/C16ChainColl.lean`) need of the *views* of a
loaded CAS: they are well-formed in the sense of `RTWf`, stated against the empty heap (after the XMI reader: for the
normalised CAS of `ChainNorm.lean`, whose converters agree with the installed ones inside the texts).
`json_roundtrip_of_xmi_loaded` is the second half of both chains that begin with XMI: only there the normalised CAS appears.
-/
import CassisModel.Proofs.OffsetsDocXmiReader
import CassisModel.Proofs.ChainNorm
import CassisModel.Proofs.ChainCollJsonCore

namespace Cassis.Chain
open Cassis.TS Cassis.Xmi Cassis.Json

/-- the sofas of a CAS built by the XMI reader have no byte array and no URI (`Cas.empty` / `createView` create them
    without, and nothing the third pass does sets them) -/
theorem loadXmi_plain {K : Consts} {ts : TypeSystem} {tsIdx ci : Nat} {lenient : Bool} {hp : Heap} {doc : XDoc}
    {ld : Xmi.Loaded} (h : loadXmi K ts tsIdx ci lenient hp doc = .ok ld) :
    ∀ nv ∈ ld.cas.views, nv.2.sofa.arr = .none ∧ nv.2.sofa.uri = none :=
  Xmi.loadXmi_allSofas (P := fun s => s.arr = .none ∧ s.uri = none) (fun _ _ _ => ⟨rfl, rfl⟩)
    (fun _ _ _ h => h) (fun _ _ _ h => h) h

/-- a CAS whose views correspond (`VRL`) to those of a well-formed CAS is well formed against the empty heap, given what the
    view relation does not say: text sofas only, the converters of the setter, the generator above the sofa ids -/
theorem rtwf_of_vrl {c c' : Cas} {hp H : Heap} {na : Int → Nat} (hwf : RTWf c hp) (hv : VRL H na c.views c'.views)
    (text_sofa : ∀ nv ∈ c'.views, nv.2.sofa.arr = .none ∧ nv.2.sofa.uri = none)
    (conv : ∀ nv ∈ c'.views, ∀ t, nv.2.sofa.text = some t → nv.2.sofa.conv = some (Offsets.table t))
    (conv_none : ∀ nv ∈ c'.views, nv.2.sofa.text = none → nv.2.sofa.conv = none)
    (hnx : 0 < c'.nextXid) (hb : ∀ nv ∈ c.views, nv.2.sofa.xid < c'.nextXid) : RTWf c' [] := by
  have hkeys : c'.views.map (·.1) = c.views.map (·.1) := hv.all2.map_eq fun _ _ _ h => h.1
  have hxids : c'.views.map (·.2.sofa.xid) = c.views.map (·.2.sofa.xid) := hv.all2.map_eq fun _ _ _ h => h.2.2.1
  refine
    { init_first := ?_, names := ?_, names_nodup := hkeys ▸ hwf.names_nodup, sofa_ids_nodup := hxids ▸ hwf.sofa_ids_nodup,
      text_sofa := text_sofa, conv := conv, conv_none := conv_none, scalar := ?_, next_pos := hnx,
      ids_below := fun a ob _ ha => (by cases ha), sofa_ids := ?_, ids_pos := fun a ob _ ha => (by cases ha) }
  · have h1 : (c'.views.map (·.1)).head? = (c.views.map (·.1)).head? := by rw [hkeys]
    rw [List.head?_map, List.head?_map] at h1
    rw [h1]; exact hwf.init_first
  · intro nv' hnv'
    obtain ⟨nv, hnv, hr⟩ := hv.all2.bwd nv' hnv'
    rw [hr.2.1, hr.1]; exact hwf.names nv hnv
  · intro nv' hnv' t ht
    obtain ⟨nv, hnv, hr⟩ := hv.all2.bwd nv' hnv'
    rw [hr.2.2.2.2.1] at ht
    exact hwf.scalar nv hnv t ht
  · intro nv' hnv'
    obtain ⟨nv, hnv, hr⟩ := hv.all2.bwd nv' hnv'
    rw [hr.2.2.1]; exact ⟨(hwf.sofa_ids nv hnv).1, hb nv hnv⟩

theorem rtwf_of_json {c c' : Cas} {hp H : Heap} {na : Int → Nat} (hwf : RTWf c hp)
    (hv : ViewsRelJ H na c.views c'.views) (hnx : 0 < c'.nextXid)
    (hb : ∀ nv ∈ c.views, nv.2.sofa.xid < c'.nextXid) : RTWf c' [] := by
  have same : ∀ nv' ∈ c'.views, ∃ nv ∈ c.views, nv'.2.sofa = nv.2.sofa := fun nv' hnv' => by
    obtain ⟨nv, hnv, hr⟩ := hv.all2.bwd nv' hnv'
    exact ⟨nv, hnv, hr.2.1⟩
  refine rtwf_of_vrl hwf (.of_json hv) ?_ ?_ ?_ hnx hb
  · intro nv' hnv'
    obtain ⟨nv, hnv, e⟩ := same nv' hnv'
    rw [e]; exact hwf.text_sofa nv hnv
  · intro nv' hnv' t ht
    obtain ⟨nv, hnv, e⟩ := same nv' hnv'
    rw [e] at ht ⊢; exact hwf.conv nv hnv t ht
  · intro nv' hnv' ht
    obtain ⟨nv, hnv, e⟩ := same nv' hnv'
    rw [e] at ht ⊢; exact hwf.conv_none nv hnv ht

/-- the converters the XMI reader installs agree with the setter's on every offset inside the text -/
theorem conv_of_xmi {c c' : Cas} {hp H : Heap} {na : Int → Nat} (hwf : RTWf c hp)
    (hv : ViewsRelL H na c.views c'.views) :
    ∀ nv ∈ c'.views, ∀ t, nv.2.sofa.text = some t → ∀ k, k ≤ t.length →
      Offsets.pythonToExternal nv.2.sofa.conv k = Offsets.pythonToExternal (some (Offsets.table t)) k := by
  intro nv' hnv' t ht k hk
  obtain ⟨nv, hnv, hr⟩ := hv.all2.bwd nv' hnv'
  have ht0 : nv.2.sofa.text = some t := by rw [← hr.2.2.2.2.1]; exact ht
  rw [hr.2.2.2.2.2.2.1, ht0]
  exact conv_p2e_eq t (hwf.scalar nv hnv t ht0) k hk

theorem rtwf_norm_of_xmi {c c' : Cas} {hp H : Heap} {na : Int → Nat} (hwf : RTWf c hp)
    (hv : ViewsRelL H na c.views c'.views)
    (hplain : ∀ nv ∈ c'.views, nv.2.sofa.arr = .none ∧ nv.2.sofa.uri = none) (hnx : 0 < c'.nextXid)
    (hb : ∀ nv ∈ c.views, nv.2.sofa.xid < c'.nextXid) : RTWf (normCas c') [] := by
  refine rtwf_of_vrl hwf (VRL.of_xmi hv).norm ?_ ?_ ?_ hnx hb
  · intro nv hnv
    obtain ⟨nv0, hnv0, rfl⟩ := List.mem_map.mp hnv
    exact hplain nv0 hnv0
  · intro nv hnv t ht
    obtain ⟨nv0, _, rfl⟩ := List.mem_map.mp hnv
    show Offsets.createMapping none nv0.2.sofa.text = _
    rw [show nv0.2.sofa.text = some t from ht]; rfl
  · intro nv hnv ht
    obtain ⟨nv0, _, rfl⟩ := List.mem_map.mp hnv
    show Offsets.createMapping none nv0.2.sofa.text = _
    rw [show nv0.2.sofa.text = none from ht]; rfl

/-- **the second half of a chain that begins with XMI.**  `c'` is a CAS the XMI reader made (views `ViewsRelL` to those of
    the well-formed `c`); its JSON document — sofas rendered over `hp1`, the elements of the structures `L2` collected over
    `H2`, the view records over `hp1` — is read back.  Inside, the round trip is that of the normalised CAS (`normCas`:
    the reader installs no converter for the empty text), which is written as the same document. -/
theorem json_roundtrip_of_xmi_loaded {K : Consts} {ts : TypeSystem} {cass : List Cas} {c c' : Cas} {hp H : Heap}
    {na : Int → Nat} (hwf : RTWf c hp) (hv : ViewsRelL H na c.views c'.views)
    (hplain : ∀ nv ∈ c'.views, nv.2.sofa.arr = .none ∧ nv.2.sofa.uri = none) (hnx : 0 < c'.nextXid)
    (hb : ∀ nv ∈ c.views, nv.2.sofa.xid < c'.nextXid) (hp1 H2 : Heap) (L2 : List (Int × Nat)) (tsIdx : Nat)
    (hL : LOkJ K ts c' cass.length H2 L2) (hdis : ∀ q ∈ L2, ∀ nv ∈ c'.views, q.1 ≠ nv.2.sofa.xid)
    (hmem : ∀ nv ∈ c'.views, ∀ e ∈ Index.all nv.2.idx, Xmi.slot H2 e.oid "sofa" ≠ some .none)
    (hmok : MembersOk c' H2) (hjv : c'.views.map (jviewOf hp1) = c'.views.map (jviewOf H2)) :
    ∃ (ld2 : Json.Loaded) (fss2 : List (Int × Val)),
      loadJson K ts tsIdx (cass.length + 1) false false H2
        { types := none,
          fss := c'.views.map (fun p => renderSofa hp1 p.2.sofa) ++ L2.map (elemOfJ K ts (cass ++ [c']) H2),
          views := c'.views.map (jviewOf hp1) } = .ok ld2 ∧
      (∀ q ∈ L2, ∃ (a' : Nat) (o o' : Obj), Json.lookup fss2 q.1 = some (.ref a') ∧
          H2[q.2]? = some o ∧ ld2.heap[a']? = some o' ∧ o'.ty = o.ty ∧ o'.xid = some q.1 ∧
          ∀ t : TS.TypeRec, find? ts o.ty = some t → ∀ f ∈ allFeatures t,
            featContentC K ld2.heap a' f = featContentC K H2 q.2 f) ∧
      ld2.cas.views.map (viewContent ld2.heap) = c'.views.map (viewContent H2) := by
  have hc' : (cass ++ [c'])[cass.length]? = some c' := List.getElem?_concat_length
  have hcB : (cass ++ [normCas c'])[cass.length]? = some (normCas c') := List.getElem?_concat_length
  obtain ⟨ld2, fss2, hload2, hfs2, hvc2⟩ :=
    ChainC.json_roundtrip_coll_weak K ts (cass ++ [normCas c']) cass.length (normCas c') [] H2 L2 tsIdx (cass.length + 1)
      { types := none,
        fss := c'.views.map (fun p => renderSofa hp1 p.2.sofa) ++ L2.map (elemOfJ K ts (cass ++ [c']) H2),
        views := c'.views.map (jviewOf hp1) }
      hcB (rtwf_norm_of_xmi hwf hv hplain hnx hb) (ChainC.lokJ_norm hL) (dis_norm hdis) (mem_sofa_norm hmem)
      (membersOk_norm hmok)
      (by
        show _ ++ _ = _ ++ _
        rw [renderSofa_norm hp1 [] c' (fun nv hnv => (hplain nv hnv).1)]
        congr 1
        apply List.map_congr_left
        intro r hr
        exact (ChainC.elemOfJ_norm hc' hcB (conv_of_xmi hwf hv) r (hL.coll r hr).1).symm)
      (by
        show c'.views.map (jviewOf hp1) = _
        rw [jviews_norm H2 c']
        exact hjv)
  exact ⟨ld2, fss2, hload2, hfs2, by rw [hvc2, viewContent_norm]⟩

end Cassis.Chain
