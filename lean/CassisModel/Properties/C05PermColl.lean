/-
C05 — loading depends on what a document says, not on the order of its elements (XMI, the whole format).

`xmi_load_perm_coll` speaks of structures with array and list features, inlined or shared (the fragment `CollFs` of
`xmi_roundtrip_coll`, `C01RoundTripColl.lean`; `xmi_load_perm_flat`, `C05Perm.lean`, is its restriction to the flat
fragment): for a document written by `saveXmi`, *every permutation* of its elements (structures before the structures
they refer to or after them, collection objects and list nodes anywhere, sofas and views anywhere, the `cas:NULL`
element anywhere) loads, and loads to the same content: the same structures under the same ids and types with the same
DEEP content of every feature (`featContentC`: an inlined array or list is its sequence of elements, a shared one a
reference to the collection object), the same views with the same sofa data and member ids (the initial view first, the
other views in the order of their sofa elements), generators reseeded.

The heap ADDRESSES of the loaded structures do depend on the element order — the first pass appends an object per
element, and before it the objects without id it makes for inlined string arrays / string lists; the second pass appends
the objects for the other inlined collections in the order of the id table — so the statement speaks through the id table
`p'.fss` of the first pass (`lookupFs`), as the flat one does, and compares inlined collections by content.

Evaluated instances (`Spec/LoadPermCollCheck.lean`: `CollDemo` and a two-view variant, reversed /
rotated / views first / `cas:NULL` last / structures in descending id order; no difference, identical id-keyed dumps).
-/
import CassisModel.Proofs.RoundTripColl
import CassisModel.Proofs.RoundTripCollDemo
import CassisModel.Spec.LoadPermCollCheck

namespace Cassis.Xmi
open Cassis.TS Cassis.Traverse

/-- **element-order independence of the XMI reader, collections included** -/
theorem xmi_load_perm_coll (K : Consts) (ts : TypeSystem) (cass : List Cas) (ci : Nat) (c : Cas) (hp : Heap)
    (tsIdx ci' : Nat) (doc doc' : XDoc) (st : St)
    (hc : cass[ci]? = some c) (hwf : RTWf c hp) (hnull : NullOk ts)
    (hsave : saveXmi K ts cass ci hp = .ok (doc, st))
    (hcoll : ∀ q ∈ st.allFs, CollFs K ts c ci st.heap q.2)
    (hdis : ∀ q ∈ st.allFs, ∀ nv ∈ c.views, q.1 ≠ nv.2.sofa.xid)
    (hmem : ∀ nv ∈ c.views, ∀ e ∈ Index.all nv.2.idx, slot st.heap e.oid "sofa" ≠ some .none)
    (hmok : MembersOk c st.heap)
    (hperm : doc'.Perm doc) :
    ∃ (p' : Pass1) (ld' : Loaded),
      pass1 K ts tsIdx false doc' { heap := st.heap } = .ok p' ∧
      loadXmi K ts tsIdx ci' false st.heap doc' = .ok ld' ∧
      -- the same structures under the same ids
      (p'.fss.map (·.1)).Perm (0 :: (sortById st.allFs).map (·.1)) ∧
      (∀ q ∈ st.allFs, ∃ (a' : Nat) (o o' : Obj), lookupFs p'.fss q.1 = .ok a' ∧
          st.heap[q.2]? = some o ∧ ld'.heap[a']? = some o' ∧ o'.ty = o.ty ∧ o'.xid = some q.1 ∧
          ∀ t : TypeRec, find? ts o.ty = some t → ∀ f ∈ allFeatures t,
            featContentC K ld'.heap a' f = featContentC K st.heap q.2 f) ∧
      -- the same views (the initial view first)
      (ld'.cas.views.map (viewContent ld'.heap)).Perm (c.views.map (viewContent st.heap)) ∧
      (ld'.cas.views.head?).map (·.1) = some Cas.INITIAL_VIEW ∧
      -- generators reseeded
      (∀ q ∈ st.allFs, q.1 < ld'.cas.nextXid) ∧
      (∀ nv ∈ c.views, nv.2.sofa.xid < ld'.cas.nextXid ∧ nv.2.sofa.sofaNum < ld'.cas.nextSofaNum) :=
  by
  obtain ⟨hL, its, hdoc, _, hits⟩ := LPC.items_of_save tsIdx hc hwf hnull hsave hcoll
  rw [hdoc] at hperm
  obtain ⟨its', hp', hdoc'⟩ := Det.perm_map_inv (LPC.ItemC.elem st.heap) doc' its hperm
  rw [hdoc']
  have hits' := hits.perm hp'
  obtain ⟨_, p, _, ld, nvI, hp1, hload, hids, hmI, hnI, r⟩ :=
    LPC.load_perm_base K ts cass ci c hp st.heap st.heap _ tsIdx ci' its' hc hwf hnull hL hits' hmem hmok
  refine ⟨p, ld, hp1, hload, hids, fun q hq => r.found hL (mem_sortById.mpr hq), ?_, ?_,
    fun q hq => r.fs_below q (mem_sortById.mpr hq), r.sofas_below⟩
  · -- the views of the reader: the initial view, then the others in the order of the sofa elements of `doc'`
    rw [r.content, ← hnI]
    exact ((Det.perm_cons_filter_ne (fun nv : String × View => nv.1)
      ((hits'.sofas.map _).nodup_iff.mpr hwf.names_nodup) hmI).trans hits'.sofas).map _
  · have hv := r.views
    cases hw : ld.cas.views with
    | nil => rw [hw] at hv; exact hv.elim
    | cons w ws =>
      rw [hw] at hv
      exact congrArg some (hv.1.1.trans hnI)

/-! ### Non-vacuity

The instance `CollDemo` (`Spec/RoundTripCollCheck.lean`: an annotation type with one feature per collection kind, inlined
and shared; two structures referring to each other directly, through an inlined FSArray, an inlined FSList and shared
collections; the collection objects and list nodes written as structures of their own): all hypotheses hold
(`collDemo_hyps`, evaluated by the kernel), and the written document REVERSED (the view before the sofa before the
structures, the list nodes and collection objects before the structures that refer to them, the later structure before
the earlier one, the `cas:NULL` element last) is a permutation of it, so the theorem applies: the reversed document
loads, every collected structure is found under its id with its type and the same deep content of every feature, the
view content is the same. -/

example : ∃ (c : Cas) (doc : XDoc) (st : St) (p' : Pass1) (ld' : Loaded),
    [CollDemo.cas][0]? = some c ∧
    saveXmi CollDemo.K CollDemo.ts [CollDemo.cas] 0 CollDemo.hp = .ok (doc, st) ∧
    doc.reverse.Perm doc ∧
    pass1 CollDemo.K CollDemo.ts 0 false doc.reverse { heap := st.heap } = .ok p' ∧
    loadXmi CollDemo.K CollDemo.ts 0 1 false st.heap doc.reverse = .ok ld' ∧
    (p'.fss.map (·.1)).Perm (0 :: (sortById st.allFs).map (·.1)) ∧
    (∀ q ∈ st.allFs, ∃ (a' : Nat) (o o' : Obj), lookupFs p'.fss q.1 = .ok a' ∧
        st.heap[q.2]? = some o ∧ ld'.heap[a']? = some o' ∧ o'.ty = o.ty ∧ o'.xid = some q.1 ∧
        ∀ t : TypeRec, find? CollDemo.ts o.ty = some t → ∀ f ∈ allFeatures t,
          featContentC CollDemo.K ld'.heap a' f = featContentC CollDemo.K st.heap q.2 f) ∧
    (ld'.cas.views.map (viewContent ld'.heap)).Perm (c.views.map (viewContent st.heap)) ∧
    (ld'.cas.views.head?).map (·.1) = some Cas.INITIAL_VIEW := by
  obtain ⟨c, doc, st, hc, hs, hwf, hn, hf, hd, hm, hmo⟩ := collDemo_hyps
  obtain ⟨p', ld', hp, hl, hids, hcont, hv, hh, _⟩ :=
    xmi_load_perm_coll CollDemo.K CollDemo.ts [CollDemo.cas] 0 c CollDemo.hp 0 1 doc doc.reverse st
      hc hwf hn hs hf hd hm hmo (List.reverse_perm doc)
  exact ⟨c, doc, st, p', ld', hc, hs, List.reverse_perm doc, hp, hl, hids, hcont, hv, hh⟩

/-- the demo document is not trivially short: it has 14 elements (`cas:NULL`, two `x.Doc` structures, three shared
    collection objects, three list heads and three list ends written as structures, one sofa, one view), so reversing it
    moves every element -/
example : (saveXmi CollDemo.K CollDemo.ts [CollDemo.cas] 0 CollDemo.hp).toOption.map (fun r => r.1.length) = some 14 :=
  collDemo_doc_length

#print axioms xmi_load_perm_coll

end Cassis.Xmi
