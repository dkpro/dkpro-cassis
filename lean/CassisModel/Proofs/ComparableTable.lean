/-
The functions of `Model/Comparable.lean` in normal form, for everything that is proved about the table: the anchor text
through `viewTag` (`anchorOf_eq`; `anchorOf_congr`: equal parts, equal anchor text); the sorted lists (`sortedOf`,
`Proofs/Comparable.lean`) and their members; `renderFrom` as anchors, then sections (`renderFrom_eq`); the section, row
and column loops as `mapM`s; a row as anchor cell, covered text, value cells (`renderRow_eq`).  Equal parts give
equal tables by rewriting with these equations; from two equal tables to equal rows and equal cells is one fact about
`mapM` (`Det.mapM_ok_both`).  Last, two heaps that agree address by address on what sorting looks at (`AgreeSort`: a point
update of another slot, a renumbering of the ids) have the same sorted lists.
-/
import CassisModel.Spec.ComparableIso
import CassisModel.Proofs.Comparable
import CassisModel.Proofs.Lists

namespace Cassis.Comparable
open Cassis.TS Cassis.Traverse

theorem anchorOf_eq (cass : List Cas) (hp : Heap) (indexed : List Nat) (o : Opts) (a : Nat) :
    anchorOf cass hp indexed o a = (do
      let view ← viewTag cass hp a
      pure (shortName (tyOf hp a) ++
        (if isAnnot hp a then "[" ++ Lex.showInt (beginOf hp a) ++ "-" ++ Lex.showInt (endOf hp a) ++ "]" else "") ++
        (if o.markIndexed && indexed.contains a then "*" else "") ++ view)) := by
  unfold anchorOf viewTag
  cases slot hp a "sofa" with
  | none => rfl
  | some v =>
    cases v with
    | sofa ci vn =>
      simp only []
      cases cass[ci]? with
      | none => rfl
      | some c =>
        simp only []
        cases Cas.getViewRec c vn <;> rfl
    | _ => rfl

theorem anchorOf_congr {cass cass' : List Cas} {hp hp' : Heap} {indexed indexed' : List Nat} {a a' : Nat} (o : Opts)
    (hv : viewTag cass' hp' a' = viewTag cass hp a) (hty : tyOf hp' a' = tyOf hp a)
    (hann : isAnnot hp' a' = isAnnot hp a) (hb : beginOf hp' a' = beginOf hp a) (he : endOf hp' a' = endOf hp a)
    (hi : a' ∈ indexed' ↔ a ∈ indexed) :
    anchorOf cass' hp' indexed' o a' = anchorOf cass hp indexed o a := by
  have hc : indexed'.contains a' = indexed.contains a := by
    rw [Bool.eq_iff_iff, List.contains_iff_mem, List.contains_iff_mem]
    exact hi
  rw [anchorOf_eq, anchorOf_eq, hv, hty, hann, hb, he, hc]

theorem columns_ne_sofa (t : TypeRec) : ∀ n ∈ columns t, n ≠ "sofa" := by
  intro n hn
  unfold columns at hn
  have := (List.mem_filter.1 hn).2
  simpa using this

theorem mem_sortFs_group (lt : Nat → Nat → Bool) (hp : Heap) (addrs : List Nat) (a : Nat) (t : String) :
    a ∈ sortFs lt (group hp addrs t) ↔ a ∈ addrs ∧ tyOf hp a = t := by
  constructor
  · intro h
    have := List.mem_filter.1 ((sortFs_perm_aux lt _).subset h)
    exact ⟨this.1, by simpa using this.2⟩
  · intro h
    apply (sortFs_perm_aux lt _).symm.subset
    unfold group
    rw [List.mem_filter]
    exact ⟨h.1, by simp [h.2]⟩

theorem tyOf_mem_sortNames_typeKeys (hp : Heap) (addrs : List Nat) (a : Nat) (ha : a ∈ addrs) :
    tyOf hp a ∈ sortNames (typeKeys hp addrs) := by
  apply (sortNames_perm _).symm.subset
  unfold typeKeys
  rw [List.mem_eraseDups]
  exact List.mem_map_of_mem ha

theorem mem_sortedOf_pair (lt : Nat → Nat → Bool) (hp : Heap) (addrs : List Nat) (p : String × List Nat)
    (h : p ∈ sortedOf lt hp addrs) :
    (∃ a ∈ addrs, tyOf hp a = p.1) ∧ ∀ a ∈ p.2, a ∈ addrs ∧ tyOf hp a = p.1 := by
  unfold sortedOf at h
  obtain ⟨t, ht, rfl⟩ := List.mem_map.1 h
  have ht' : t ∈ typeKeys hp addrs := (sortNames_perm _).subset ht
  unfold typeKeys at ht'
  rw [List.mem_eraseDups] at ht'
  obtain ⟨a, ha, rfl⟩ := List.mem_map.1 ht'
  exact ⟨⟨a, ha, rfl⟩, fun b hb => (mem_sortFs_group lt hp addrs b _).1 hb⟩

theorem mem_sortedOf (lt : Nat → Nat → Bool) (hp : Heap) (addrs : List Nat) (a : Nat) :
    a ∈ (sortedOf lt hp addrs).flatMap (·.2) ↔ a ∈ addrs :=
  ⟨fun h => let ⟨p, hp', ha⟩ := List.mem_flatMap.1 h; ((mem_sortedOf_pair lt hp addrs p hp').2 a ha).1,
   fun ha => List.mem_flatMap.2 ⟨(tyOf hp a, _), List.mem_map.2 ⟨_, tyOf_mem_sortNames_typeKeys hp addrs a ha, rfl⟩,
     (mem_sortFs_group lt hp addrs a _).2 ⟨ha, rfl⟩⟩⟩

theorem renderFrom_eq (K : Consts) (ts : TypeSystem) (cass : List Cas) (hp : Heap) (o : Opts) (hsh : Nat → Int)
    (indexed addrs : List Nat) :
    renderFrom K ts cass hp o hsh indexed addrs =
      (genAnchors ts cass hp indexed o (sortedOf (ltFs hp hsh) hp addrs) (sortedOf (ltFs hp hsh) hp addrs) {}).bind
        fun st => renderSections K ts cass hp o st.byId (sortedOf (ltFs hp hsh) hp addrs) := by
  unfold renderFrom sortedOf
  dsimp only
  cases genAnchors ts cass hp indexed o _ _ {} <;> rfl

theorem renderFrom_ok {K : Consts} {ts : TypeSystem} {cass : List Cas} {hp : Heap} {o : Opts} {hsh : Nat → Int}
    {indexed addrs : List Nat} {secs : List Section}
    (h : renderFrom K ts cass hp o hsh indexed addrs = .ok secs) :
    ∃ st, genAnchors ts cass hp indexed o (sortedOf (ltFs hp hsh) hp addrs) (sortedOf (ltFs hp hsh) hp addrs) {} = .ok st ∧
      renderSections K ts cass hp o st.byId (sortedOf (ltFs hp hsh) hp addrs) = .ok secs :=
  Det.bind_ok (renderFrom_eq .. ▸ h)

/-- the section flag `is_annotation_type` -/
def annFlag (ts : TypeSystem) (o : Opts) (t : TypeRec) : Bool := o.coveredText && subsumes ts ANNOTATION t.name

def renderSection (K : Consts) (ts : TypeSystem) (cass : List Cas) (hp : Heap) (o : Opts)
    (byId : List (Option Int × String)) (tn : String) (fss : List Nat) : Except Err Section :=
  (getType ts tn).bind fun t => (renderRows K cass hp byId t (annFlag ts o t) fss).bind fun rows =>
    .ok { tyName := t.name, header := header t (annFlag ts o t), rows := rows }

theorem renderSection_ok {K : Consts} {ts : TypeSystem} {cass : List Cas} {hp : Heap} {o : Opts}
    {byId : List (Option Int × String)} {tn : String} {fss : List Nat} {sec : Section}
    (h : renderSection K ts cass hp o byId tn fss = .ok sec) :
    ∃ t, getType ts tn = .ok t ∧ renderRows K cass hp byId t (annFlag ts o t) fss = .ok sec.rows := by
  obtain ⟨t, ht, h⟩ := Det.bind_ok h
  obtain ⟨rows, hr, h⟩ := Det.bind_ok h
  cases h
  exact ⟨t, ht, hr⟩

theorem renderSections_eq_mapM (K : Consts) (ts : TypeSystem) (cass : List Cas) (hp : Heap) (o : Opts)
    (byId : List (Option Int × String)) (S : String → List Nat) (names : List String) :
    renderSections K ts cass hp o byId (names.map (fun t => (t, S t))) =
      (names.filter (fun t => !o.exclude.contains t)).mapM (fun t => renderSection K ts cass hp o byId t (S t)) := by
  induction names with
  | nil => rfl
  | cons n ns ih =>
    rw [List.map_cons, renderSections, ih, List.filter_cons]
    cases o.exclude.contains n with
    | true => rfl
    | false =>
      simp only [Bool.not_false, if_true, Bool.false_eq_true, if_false, List.mapM_cons]
      generalize (ns.filter (fun t => !o.exclude.contains t)).mapM (fun t => renderSection K ts cass hp o byId t (S t)) = tl
      unfold renderSection annFlag
      cases getType ts n with
      | error e => rfl
      | ok t =>
        dsimp only [Except.bind]
        cases renderRows K cass hp byId t (o.coveredText && subsumes ts ANNOTATION t.name) (S n) with
        | error e => rfl
        | ok rows => cases tl <;> rfl

theorem renderSections_rows {K : Consts} {ts : TypeSystem} {cass : List Cas} {hp hp' : Heap} {o : Opts}
    {byId byId' : List (Option Int × String)} (S S' : String → List Nat) (names : List String) (secs : List Section)
    (h : renderSections K ts cass hp o byId (names.map (fun t => (t, S t))) = .ok secs)
    (h' : renderSections K ts cass hp' o byId' (names.map (fun t => (t, S' t))) = .ok secs)
    (tn : String) (htn : tn ∈ names) (hex : o.exclude.contains tn = false) :
    ∃ t rows, getType ts tn = .ok t ∧
      renderRows K cass hp byId t (annFlag ts o t) (S tn) = .ok rows ∧
      renderRows K cass hp' byId' t (annFlag ts o t) (S' tn) = .ok rows := by
  rw [renderSections_eq_mapM] at h h'
  obtain ⟨sec, _, h1, h2⟩ := Det.mapM_ok_both h h' (List.mem_filter.mpr ⟨htn, by rw [hex]; rfl⟩)
  obtain ⟨t, ht, hr⟩ := renderSection_ok h1
  obtain ⟨t', ht', hr'⟩ := renderSection_ok h2
  cases ht.symm.trans ht'
  exact ⟨t, sec.rows, ht, hr, hr'⟩

theorem renderRows_eq_mapM (K : Consts) (cass : List Cas) (hp : Heap) (byId : List (Option Int × String)) (t : TypeRec)
    (ann : Bool) (l : List Nat) : renderRows K cass hp byId t ann l = l.mapM (renderRow K cass hp byId t ann) := by
  induction l with
  | nil => rfl
  | cons a as ih =>
    rw [renderRows, ih, List.mapM_cons]
    cases renderRow K cass hp byId t ann a with
    | error e => rfl
    | ok r => cases as.mapM (renderRow K cass hp byId t ann) <;> rfl

theorem renderCols_eq_mapM (K : Consts) (hp : Heap) (byId : List (Option Int × String)) (a : Nat) (cols : List String) :
    renderCols K hp byId a cols =
      cols.mapM (fun n => renderVal K hp byId (2 * hp.length + 2) ((slot hp a n).getD .none)) := by
  induction cols with
  | nil => rfl
  | cons n ns ih =>
    rw [renderCols, ih, List.mapM_cons]
    cases renderVal K hp byId (2 * hp.length + 2) ((slot hp a n).getD .none) with
    | error e => rfl
    | ok c =>
      cases ns.mapM (fun n => renderVal K hp byId (2 * hp.length + 2) ((slot hp a n).getD .none)) <;> rfl

def anchorCell (hp : Heap) (byId : List (Option Int × String)) (a : Nat) : Cell :=
  match getById byId (xidOf hp a) with | some s => .str s | none => .none

def covOf (cass : List Cas) (hp : Heap) (ann : Bool) (a : Nat) : Except Err (List Cell) :=
  if ann && isAnnot hp a then do
      let ct ← Cas.coveredText cass hp a
      pure [match ct with | some t => Cell.text (abbreviate t) | none => Cell.null]
    else pure []

/-- the value cells of a row: the `elements` of an array, the feature columns of any other structure -/
def cellsOf (K : Consts) (hp : Heap) (byId : List (Option Int × String)) (t : TypeRec) (a : Nat) :
    Except Err (List Cell) :=
  if isArrayFs K hp a then
    match slot hp a "elements" with
    | none => .error .attributeError
    | some v => (renderVal K hp byId (2 * hp.length + 2) v).map ([·])
  else renderCols K hp byId a (columns t)

theorem renderRow_eq (K : Consts) (cass : List Cas) (hp : Heap) (byId : List (Option Int × String)) (t : TypeRec)
    (ann : Bool) (a : Nat) :
    renderRow K cass hp byId t ann a =
      (covOf cass hp ann a).bind fun cov => (cellsOf K hp byId t a).bind fun cs =>
        .ok (anchorCell hp byId a :: (cov ++ cs)) := by
  have tail : ∀ cov : List Cell,
      (if isArrayFs K hp a = true then
          match slot hp a "elements" with
          | none => (throw Err.attributeError : Except Err (List Cell))
          | some v => do
            let c ← renderVal K hp byId (2 * hp.length + 2) v
            pure ([anchorCell hp byId a] ++ cov ++ [c])
        else do
          let cs ← renderCols K hp byId a (columns t)
          pure ([anchorCell hp byId a] ++ cov ++ cs)) =
      (cellsOf K hp byId t a).bind fun cs => .ok (anchorCell hp byId a :: (cov ++ cs)) := by
    intro cov
    unfold cellsOf
    by_cases harr : isArrayFs K hp a = true
    · rw [if_pos harr, if_pos harr]
      cases slot hp a "elements" with
      | none => rfl
      | some v =>
        dsimp only
        cases renderVal K hp byId (2 * hp.length + 2) v <;> rfl
    · rw [if_neg harr, if_neg harr]
      cases renderCols K hp byId a (columns t) <;> rfl
  unfold renderRow covOf
  cases (ann && isAnnot hp a) with
  | true =>
    cases Cas.coveredText cass hp a with
    | error e => rfl
    | ok ct => exact tail _
  | false => exact tail _

theorem renderRow_ok {K : Consts} {cass : List Cas} {hp : Heap} {byId : List (Option Int × String)} {t : TypeRec}
    {ann : Bool} {a : Nat} {r : List Cell} (h : renderRow K cass hp byId t ann a = .ok r) :
    ∃ cov cs, covOf cass hp ann a = .ok cov ∧ cellsOf K hp byId t a = .ok cs ∧
      r = anchorCell hp byId a :: (cov ++ cs) := by
  rw [renderRow_eq] at h
  cases hcov : covOf cass hp ann a with
  | error e => rw [hcov] at h; cases h
  | ok cov =>
    rw [hcov] at h
    cases hcs : cellsOf K hp byId t a with
    | error e => rw [hcs] at h; cases h
    | ok cs =>
      rw [hcs] at h
      cases h
      exact ⟨cov, cs, rfl, rfl, rfl⟩

theorem renderRow_head {K : Consts} {cass : List Cas} {hp : Heap} {byId : List (Option Int × String)} {t : TypeRec}
    {ann : Bool} {a : Nat} {r : List Cell} (h : renderRow K cass hp byId t ann a = .ok r) :
    r.head? = some (anchorCell hp byId a) := by
  obtain ⟨_, _, _, _, rfl⟩ := renderRow_ok h
  rfl

theorem cellsOf_length {K : Consts} {hp : Heap} {byId : List (Option Int × String)} {t : TypeRec} {a : Nat}
    {cs : List Cell} (h : cellsOf K hp byId t a = .ok cs) :
    cs.length = if isArrayFs K hp a then 1 else (columns t).length := by
  unfold cellsOf at h
  split at h
  · rw [if_pos ‹_›]
    cases hv : slot hp a "elements" with
    | none => rw [hv] at h; cases h
    | some v =>
      rw [hv] at h
      dsimp only at h
      cases hc : renderVal K hp byId (2 * hp.length + 2) v with
      | error e => rw [hc] at h; cases h
      | ok c => rw [hc] at h; cases h; rfl
  · rw [if_neg ‹_›]
    rw [renderCols_eq_mapM] at h
    exact Det.mapM_ok_length h

theorem row_cells_eq {K : Consts} {cass : List Cas} {hp hp' : Heap} {byId byId' : List (Option Int × String)}
    {t : TypeRec} {ann : Bool} {a : Nat} {r : List Cell}
    (h : renderRow K cass hp byId t ann a = .ok r) (h' : renderRow K cass hp' byId' t ann a = .ok r)
    (harr : isArrayFs K hp' a = isArrayFs K hp a) :
    ∃ cs, cellsOf K hp byId t a = .ok cs ∧ cellsOf K hp' byId' t a = .ok cs := by
  obtain ⟨cov, cs, _, hcs, hr⟩ := renderRow_ok h
  obtain ⟨cov', cs', _, hcs', hr'⟩ := renderRow_ok h'
  rw [hr] at hr'
  have := List.append_inj_right' (List.cons.inj hr').2 (by rw [cellsOf_length hcs, cellsOf_length hcs', harr])
  exact ⟨cs, hcs, by rw [hcs', this]⟩

/-! ### two heaps that agree, address by address, on what sorting looks at -/

structure AgreeSort (hp hp' : Heap) : Prop where
  ty : ∀ c, tyOf hp' c = tyOf hp c
  ann : ∀ c, isAnnot hp' c = isAnnot hp c
  beg : ∀ c, beginOf hp' c = beginOf hp c
  en : ∀ c, endOf hp' c = endOf hp c

theorem AgreeSort.of_slots {hp hp' : Heap} (hty : ∀ c, tyOf hp' c = tyOf hp c)
    (sb : ∀ c, slot hp' c "begin" = slot hp c "begin") (se : ∀ c, slot hp' c "end" = slot hp c "end") :
    AgreeSort hp hp' :=
  ⟨hty, fun c => by unfold isAnnot; rw [sb, se], fun c => by unfold beginOf; rw [sb], fun c => by unfold endOf; rw [se]⟩

theorem AgreeSort.refl (hp : Heap) : AgreeSort hp hp := ⟨fun _ => rfl, fun _ => rfl, fun _ => rfl, fun _ => rfl⟩

theorem AgreeSort.ltFs {hp hp' : Heap} (ag : AgreeSort hp hp') (hsh : Nat → Int) : ltFs hp' hsh = ltFs hp hsh := by
  funext a b
  unfold Comparable.ltFs cmpFs
  simp only [ag.ann, ag.beg, ag.en]

theorem typeKeys_congr {hp hp' : Heap} (hty : ∀ c, tyOf hp' c = tyOf hp c) (addrs : List Nat) :
    typeKeys hp' addrs = typeKeys hp addrs := by
  unfold typeKeys
  rw [show tyOf hp' = tyOf hp from funext hty]

theorem group_congr {hp hp' : Heap} (hty : ∀ c, tyOf hp' c = tyOf hp c) (addrs : List Nat) (t : String) :
    group hp' addrs t = group hp addrs t := by
  unfold group
  rw [show tyOf hp' = tyOf hp from funext hty]

theorem AgreeSort.sortedOf {hp hp' : Heap} (ag : AgreeSort hp hp') (hsh : Nat → Int) (addrs : List Nat) :
    sortedOf (Comparable.ltFs hp' hsh) hp' addrs = sortedOf (Comparable.ltFs hp hsh) hp addrs := by
  unfold Comparable.sortedOf
  rw [ag.ltFs, typeKeys_congr ag.ty]
  simp only [group_congr ag.ty]

theorem AgreeSort.distinct {hp hp' : Heap} (ag : AgreeSort hp hp') {addrs : List Nat} (hd : Distinct hp addrs) :
    Distinct hp' addrs := by
  intro a ha b hb hab hty
  rw [ag.ty, ag.ty] at hty
  rw [ag.ann, ag.ann, ag.beg, ag.beg, ag.en, ag.en]
  exact hd a ha b hb hab hty

theorem isArrayFs_congr {hp hp' : Heap} (hty : ∀ c, tyOf hp' c = tyOf hp c) (K : Consts) (c : Nat) :
    isArrayFs K hp' c = isArrayFs K hp c :=
  isArrayFs_of_tyOf (hty c) K

/-- the anchor text looks at what sorting looks at and at the `sofa` slot, not at the id -/
theorem AgreeSort.anchorOf {hp hp' : Heap} (ag : AgreeSort hp hp') (hs : ∀ c, slot hp' c "sofa" = slot hp c "sofa")
    (cass : List Cas) (indexed : List Nat) (o : Opts) (a : Nat) :
    Comparable.anchorOf cass hp' indexed o a = Comparable.anchorOf cass hp indexed o a :=
  anchorOf_congr o (by unfold viewTag; rw [hs]) (ag.ty a) (ag.ann a) (ag.beg a) (ag.en a) Iff.rfl

end Cassis.Comparable
