/-
Round trip: the normal form of `renderFeature` behind the offset conversion (`renderVal`, `renderFeature_val`) for
every kind of feature, and what it gives for a feature that is no collection (`scalarAttr`, `renderFeature_flat`).
-/
import CassisModel.Proofs.RoundTripDefs
import CassisModel.Proofs.ResName
import CassisModel.Proofs.XmiLookups

namespace Cassis.Xmi
open Cassis.TS Cassis.Traverse Cassis.Lex

/-- the range of `f` is not a collection in any of the senses the writer tests, and `renderFeature` does not skip `f` for
    its name (`n1`, `n2`); `res` is the condition on reserved names under which the reader restores the name -/
structure NoColl (K : Consts) (ts : TypeSystem) (f : Feature) : Prop where
  res : ResOk f
  n1 : f.name ≠ "xmiID"
  n2 : f.name ≠ "type"
  pa : isPrimitiveArray K f.range = false
  pl : isPrimitiveList K f.range = false
  fa : f.range ≠ FS_ARRAY
  fl : f.range ≠ FS_LIST
  sa : isInstanceOf ts f.range STRING_ARRAY = false
  sl : isInstanceOf ts f.range STRING_LIST = false

/-- what the writer needs to know about the sofa of an annotation -/
def AnnSofa (cass : List Cas) (isAnn : Bool) (o : Obj) : Prop :=
  isAnn = true → ∃ ci vn view, alistGet? o.slots "sofa" = some (.sofa ci vn) ∧
    (cass[ci]?).bind (fun c => Cas.getViewRec c vn) = some view

theorem renderFeature_none (K : Consts) (ts : TypeSystem) (cass : List Cas) (H : Heap) (a : Nat) (isAnn : Bool) (f : Feature)
    (h1 : f.name ≠ "xmiID") (h2 : f.name ≠ "type") (hv : (slot H a f.name).getD .none = .none) :
    renderFeature K ts cass H a isAnn f = .ok ([], []) := by
  unfold renderFeature
  rw [if_neg (by rw [beq_eq_false_iff_ne.mpr h1, beq_eq_false_iff_ne.mpr h2]; decide)]
  extract_lets name v multi fuel jp
  rw [if_pos (by rw [show v = .none from hv]; rfl)]
  rfl

/-- the end of the case distinction of `renderFeature` (`Model/Xmi.lean`), reached when none of the six collection tests
    applies: a function of the written name, the range and the value only -/
def scalarAttr (K : Consts) (ts : TypeSystem) (cass : List Cas) (hp : Heap) (name range : String) (v : Val) :
    Except Err (List (String × String) × List (String × Option String)) := do
  if name == "sofa" then
    match v with
    | .sofa ci vn =>
      match (cass[ci]?).bind (fun c => Cas.getViewRec c vn) with
      | some view => return ([(name, showInt view.sofa.xid)], [])
      | none => throw .attributeError
    | .ref t => do let x ← xidStr hp t; return ([(name, x)], [])
    | _ => throw .attributeError
  else if range == "uima.cas.Boolean" then
    match v with
    | .bool b => return ([(name, showBool b)], [])
    | .int i => return ([(name, showBool (i != 0))], [])
    | _ => return ([(name, "true")], [])
  else if range == "uima.cas.Double" || range == "uima.cas.Float" then
    match v with
    | .float t => return ([(name, t)], [])
    | _ => throw .typeError
  else if isPrimitive K ts range then
    let s ← showPrim v
    return ([(name, s)], [])
  else
    match v with
    | .ref t => do let x ← xidStr hp t; return ([(name, x)], [])
    | .sofa ci vn =>
      match (cass[ci]?).bind (fun c => Cas.getViewRec c vn) with
      | some view => return ([(name, showInt view.sofa.xid)], [])
      | none => throw .attributeError
    | _ => throw .attributeError

/-- the value after the writer's offset conversion (`extInt`) -/
def extVal (cass : List Cas) (isAnn : Bool) (o : Obj) (n : String) : Val → Val
  | .int i => .int (extInt cass isAnn o n i)
  | v => v

/-- the case distinction of `renderFeature` (`Model/Xmi.lean`) behind the offset conversion, as a function of the written
    name, the range, `multipleReferencesAllowed` and the value: the six collection tests, then `scalarAttr` -/
def renderVal (K : Consts) (ts : TypeSystem) (cass : List Cas) (hp : Heap) (name range : String) (multi : Bool) (v : Val) :
    Except Err (List (String × String) × List (String × Option String)) := do
  let fuel := hp.length + 1
  if isInstanceOf ts range STRING_ARRAY && !multi then
    match v with
    | .ref arr =>
      match slot hp arr "elements" with
      | some (.strs []) | some (.refs []) => return ([(name, "")], [])
      | some (.strs l) => return ([], l.map (fun e => (name, normTxt e)))
      | some .none | none => return ([], [])
      | _ => throw .typeError
    | _ => throw .attributeError
  else if isInstanceOf ts range STRING_LIST && !multi then
    let heads ← collectList hp fuel v
    let kids ← heads.mapM (fun h => match h with
      | .str s => pure (name, normTxt (some s))
      | .none => pure (name, (none : Option String))
      | _ => throw Err.typeError)
    return ([], kids)
  else if isPrimitiveArray K range && !multi then
    match v with
    | .ref arr =>
      match slot hp arr "elements" with
      | some .none | none => return ([], [])
      | some ev => do
        let s ← showPrimArray range ev
        return ([(name, s)], [])
    | _ => throw .attributeError
  else if isPrimitiveList K range && !multi then
    let heads ← collectList hp fuel v
    let toks ← heads.mapM showPrim
    return ([(name, joinSp toks)], [])
  else if range == FS_ARRAY && !multi then
    match v with
    | .ref arr =>
      match slot hp arr "elements" with
      | some .none | none => return ([], [])
      | some (.refs l) => do
        let ids ← refIds hp l
        return ([(name, joinSp ids)], [])
      | _ => throw .typeError
    | _ => throw .attributeError
  else if range == FS_LIST && !multi then
    let heads ← collectList hp fuel v
    let ids ← heads.mapM (fun h => match h with
      | .ref t => xidStr hp t
      | _ => throw Err.attributeError)
    return ([(name, joinSp ids)], [])
  else scalarAttr K ts cass hp name range v

-- decides the offset-conversion test of `renderFeature` and runs `t` in both branches; unhygienic: it reads `isAnn` and `f`
-- of the goal it is called in and leaves `hA`, `h1`, `h2` for `t`
set_option hygiene false in
macro "flat_tail" hann:ident " with " t:tacticSeq : tactic => `(tactic|
  (by_cases hA : (isAnn && (f.name == "begin" || f.name == "end")) = true
   · have hia : isAnn = true := by
       rw [Bool.and_eq_true] at hA; exact hA.1
     obtain ⟨ci, vn, view, h1, h2⟩ := $hann hia
     rw [if_pos hA, h1]
     dsimp only
     (rw [h2])
     ($t)
   · (rw [if_neg hA])
     ($t)))

/-- the writer on a feature that holds a value: one unfolding of `renderFeature` for all kinds of feature -/
theorem renderFeature_val {K : Consts} {ts : TypeSystem} {cass : List Cas} {H : Heap} {a : Nat} {isAnn : Bool}
    {f : Feature} {o : Obj} {v : Val} (hres : ResOk f) (n1 : f.name ≠ "xmiID") (n2 : f.name ≠ "type")
    (ho : H[a]? = some o) (hv : alistGet? o.slots f.name = some v) (hne : v ≠ .none) (hann : AnnSofa cass isAnn o) :
    renderFeature K ts cass H a isAnn f =
      renderVal K ts cass H (xmlName f) f.range (f.multi.getD false) (extVal cass isAnn o f.name v) := by
  have hs := slot_of ho
  have h0 : ¬ (f.name == "xmiID" || f.name == "type") = true := by
    rw [beq_eq_false_iff_ne.mpr n1, beq_eq_false_iff_ne.mpr n2]; decide
  unfold renderFeature
  rw [if_neg h0]
  -- `jp` is the continuation behind the offset conversion; kept as a variable so that the case split on the value
  -- below does not copy it
  extract_lets name v0 multi fuel jp
  have hjp : ∀ w, jp w = renderVal K ts cass H (xmlName f) f.range (f.multi.getD false) w := fun w => rfl
  have hv0 : v0 = v := by simp only [v0, hs, hv, Option.getD_some]
  have hname : name = xmlName f := rfl
  rw [hv0, if_neg (by rw [beq_eq_false_iff_ne.mpr hne]; decide), hname, xmlName_begin f hres, xmlName_end f hres, hs]
  rw [← hjp]
  clear hjp
  clear_value jp
  flat_tail hann with
    cases v <;> first
      | rfl
      | (simp only [extVal, extInt, hA, if_true, h1, h2]; rfl)
      | (simp only [extVal, extInt, hA, Bool.false_eq_true, if_false]; rfl)

theorem renderFeature_noColl {K : Consts} {ts : TypeSystem} {cass : List Cas} {H : Heap} {a : Nat} {isAnn : Bool}
    {f : Feature} {o : Obj} {v : Val} (nc : NoColl K ts f) (ho : H[a]? = some o)
    (hv : alistGet? o.slots f.name = some v) (hne : v ≠ .none) (hann : AnnSofa cass isAnn o) :
    renderFeature K ts cass H a isAnn f =
      scalarAttr K ts cass H (xmlName f) f.range (extVal cass isAnn o f.name v) := by
  rw [renderFeature_val nc.res nc.n1 nc.n2 ho hv hne hann]
  unfold renderVal
  simp only [nc.sa, nc.sl, nc.pa, nc.pl, beq_eq_false_iff_ne.mpr nc.fa, beq_eq_false_iff_ne.mpr nc.fl,
    Bool.false_and, Bool.false_eq_true, if_false]

theorem notFloatBool {r : String} (hr : isIntRange r = true ∨ r = "uima.cas.String") :
    (r == "uima.cas.Boolean") = false ∧ (r == "uima.cas.Double" || r == "uima.cas.Float") = false := by
  rcases hr.imp_left isIntRange_cases with (h | h | h | h) | h <;> rw [h] <;> decide

theorem renderFeature_int (K : Consts) (ts : TypeSystem) (cass : List Cas) (H : Heap) (a : Nat) (isAnn : Bool) (f : Feature)
    (o : Obj) (i : Int) (ho : H[a]? = some o)
    (nc : NoColl K ts f) (hv : alistGet? o.slots f.name = some (.int i))
    (hns : f.name ≠ "sofa") (hr : isIntRange f.range = true) (hp : isPrimitive K ts f.range = true)
    (hann : isAnn = true → ∃ ci vn view, alistGet? o.slots "sofa" = some (.sofa ci vn) ∧
       (cass[ci]?).bind (fun c => Cas.getViewRec c vn) = some view) :
    renderFeature K ts cass H a isAnn f = .ok ([(xmlName f, showInt (extInt cass isAnn o f.name i))], []) := by
  rw [renderFeature_noColl nc ho hv (by intro h; cases h) hann]
  unfold scalarAttr
  rw [xmlName_sofa f nc.res, beq_eq_false_iff_ne.mpr hns, (notFloatBool (.inl hr)).1,
    (notFloatBool (.inl hr)).2, hp]
  rfl

theorem xidStr_of_xidOf {H : Heap} {b : Nat} {x : Int} (hx : xidOf H b = some x) : xidStr H b = .ok (showInt x) := by
  obtain ⟨ob, hb, hx⟩ := xidOf_some hx
  unfold xidStr
  rw [hb]
  dsimp only
  rw [hx]

theorem FlatFeat.noColl {K : Consts} {ts : TypeSystem} {c : Cas} {ci : Nat} {H : Heap} {isAnn : Bool} {o : Obj} {f : Feature}
    (h : FlatFeat K ts c ci H isAnn o f) : NoColl K ts f :=
  ⟨h.1, h.2.1, h.2.2.1, h.2.2.2.2.2.1, h.2.2.2.2.2.2.1, h.2.2.2.2.2.2.2.1, h.2.2.2.2.2.2.2.2.1, h.2.2.2.2.2.2.2.2.2.1,
    h.2.2.2.2.2.2.2.2.2.2.1⟩

theorem renderFeature_flat (K : Consts) (ts : TypeSystem) (cass : List Cas) (c : Cas) (ci : Nat) (H : Heap) (a : Nat)
    (isAnn : Bool) (f : Feature) (o : Obj) (hc : cass[ci]? = some c) (ho : H[a]? = some o)
    (hf : FlatFeat K ts c ci H isAnn o f) (hann : AnnSofa cass isAnn o) :
    renderFeature K ts cass H a isAnn f =
      .ok ((match flatTok cass H isAnn o f.name ((alistGet? o.slots f.name).getD .none) with
            | some s => [(xmlName f, s)]
            | none => []), []) := by
  have nc := hf.noColl
  obtain ⟨v, hv, hcase⟩ := hf.2.2.2.2.2.2.2.2.2.2.2
  rw [hv, Option.getD_some]
  by_cases hne : v = .none
  · subst hne
    exact renderFeature_none K ts cass H a isAnn f nc.n1 nc.n2 (by
      rw [slot_of ho, hv]; rfl)
  rw [renderFeature_noColl nc ho hv hne hann]
  unfold scalarAttr
  rw [xmlName_sofa f nc.res]
  rcases hcase with ⟨hn, hsofa⟩ | ⟨hn, hp, hprim⟩ | ⟨hn, hp, _, _, hb1, hb2, hb3, href⟩
  · rw [hn]
    rcases hsofa with ⟨vn, rfl, hsome⟩ | ⟨h, _⟩
    · obtain ⟨view, hg⟩ := Option.isSome_iff_exists.mp hsome
      simp only [extVal, flatTok, hc, Option.bind_some, hg, Option.map_some]
      rfl
    · exact absurd h hne
  · rw [beq_eq_false_iff_ne.mpr hn]
    rcases hprim with h | ⟨hr, i, rfl⟩ | ⟨hr, s, rfl⟩ | ⟨hr, b, rfl⟩ | ⟨hr, t, rfl⟩
    · exact absurd h hne
    · simp only [(notFloatBool (.inl hr)).1, (notFloatBool (.inl hr)).2, hp, Bool.false_eq_true, if_false, if_true, extVal, showPrim, flatTok]
      rfl
    · simp only [(notFloatBool (.inr hr)).1, (notFloatBool (.inr hr)).2, hp, Bool.false_eq_true, if_false, if_true,
        extVal, showPrim, flatTok]
      rfl
    · simp only [hr, extVal, flatTok]
      rfl
    · have hb : (f.range == "uima.cas.Boolean") = false ∧
          (f.range == "uima.cas.Double" || f.range == "uima.cas.Float") = true := by
        rcases hr with h | h <;> rw [h] <;> decide
      simp only [hb.1, hb.2, Bool.false_eq_true, if_false, if_true, extVal, flatTok]
      rfl
  · rw [beq_eq_false_iff_ne.mpr hn, beq_eq_false_iff_ne.mpr hb1, beq_eq_false_iff_ne.mpr hb2,
      beq_eq_false_iff_ne.mpr hb3, hp]
    rcases href with h | ⟨b, rfl, hx, _⟩
    · exact absurd h hne
    · obtain ⟨x, hxb⟩ := Option.isSome_iff_exists.mp hx
      simp only [extVal, flatTok, xidStr_of_xidOf hxb, hxb, Option.map_some]
      rfl

end Cassis.Xmi
