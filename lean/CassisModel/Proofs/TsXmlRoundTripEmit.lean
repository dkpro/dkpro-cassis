/-
C12 round trip: re-emitting a type system that declares the same as `ts` (`SameXml`) gives the entries it remembers
as redeclared followed by the descriptor of `ts` with descriptions trimmed.  Nothing here mentions the loader.
-/
import CassisModel.Spec.TsXmlRoundTrip
import CassisModel.Proofs.TsXml
import CassisModel.Proofs.Determinism

namespace Cassis.TsXml
open Cassis.TS

theorem SameXml.right {ts ts' : TypeSystem} (h : SameXml ts ts') {n : String} {t' : TypeRec}
    (ht' : find? ts' n = some t') : ∃ t, find? ts n = some t ∧ renderType t' = trimT (renderType t) := by
  have := h n
  rw [ht'] at this
  cases ht : find? ts n with
  | none => rw [ht] at this; exact this.elim
  | some t => rw [ht] at this; exact ⟨t, rfl, this.2.1⟩

theorem SameXml.left {ts ts' : TypeSystem} (h : SameXml ts ts') {n : String} {t : TypeRec}
    (ht : find? ts n = some t) : ∃ t', find? ts' n = some t' ∧ renderType t' = trimT (renderType t) := by
  have := h n
  rw [ht] at this
  cases ht' : find? ts' n with
  | none => rw [ht'] at this; exact this.elim
  | some t' => rw [ht'] at this; exact ⟨t', rfl, this.2.1⟩

theorem user_part_of_same {ts ts2 : TypeSystem} (hn : (ts.types.map (·.name)).Nodup)
    (hn2 : (ts2.types.map (·.name)).Nodup) (h : SameXml ts ts2) :
    (Json.fullRecs Gen.consts ts2).map renderType = ((Json.fullRecs Gen.consts ts).map renderType).map trimT := by
  have hnA : (((Json.fullRecs Gen.consts ts2).map renderType).map (·.name)).Nodup := by
    rw [List.map_map]; exact fullRecs_names_nodup hn2
  have hnB : ((((Json.fullRecs Gen.consts ts).map renderType).map trimT).map (·.name)).Nodup := by
    rw [List.map_map, List.map_map]; exact fullRecs_names_nodup hn
  have hperm : ((Json.fullRecs Gen.consts ts2).map renderType).Perm
      (((Json.fullRecs Gen.consts ts).map renderType).map trimT) := by
    rw [List.perm_ext_iff_of_nodup (Det.nodup_of_nodup_map (·.name) _ hnA) (Det.nodup_of_nodup_map (·.name) _ hnB)]
    intro x
    simp only [List.mem_map]
    constructor
    · rintro ⟨t', ht', rfl⟩
      obtain ⟨h1, h2, h3⟩ := (Json.mem_fullRecs _ _ _).mp ht'
      obtain ⟨t, ht, e⟩ := h.right (find?_of_mem hn2 h1)
      have hname : t.name = t'.name := find?_name ht
      exact ⟨renderType t, ⟨t, (Json.mem_fullRecs _ _ _).mpr ⟨find?_mem ht, by rw [hname]; exact h2, by rw [hname]; exact h3⟩,
        rfl⟩, e.symm⟩
    · rintro ⟨y, ⟨t, ht, rfl⟩, rfl⟩
      obtain ⟨h1, h2, h3⟩ := (Json.mem_fullRecs _ _ _).mp ht
      obtain ⟨t', ht', e⟩ := h.left (find?_of_mem hn h1)
      have hname : t'.name = t.name := find?_name ht'
      exact ⟨t', (Json.mem_fullRecs _ _ _).mpr ⟨find?_mem ht', by rw [hname]; exact h2, by rw [hname]; exact h3⟩, e⟩
  -- two name-sorted lists with distinct names and the same members
  refine List.Perm.eq_of_pairwise (le := fun a b => a.name ≤ b.name) ?_
    (List.pairwise_map.mpr (fullRecs_sorted _ _))
    (List.pairwise_map.mpr (List.pairwise_map.mpr (fullRecs_sorted _ _))) hperm
  intro a b ha hb hab hba
  -- (the equation as a term of its own: inline it is dear to elaborate)
  have e : a.name = b.name := String.le_antisymm hab hba
  exact Det.inj_of_nodup_map (·.name) _ hnA ha (hperm.mem_iff.mpr hb) e

theorem toDescriptor_noRedeclared {ts : TypeSystem} (hred : ts.redeclared = []) (d : Descriptor)
    (hd : toDescriptor Gen.consts ts = .ok d) :
    d = (Json.fullRecs Gen.consts ts).map renderType := by
  rw [toDescriptor_eq, hred] at hd
  have : sortStrs ([] : List String).eraseDups = [] := by decide
  rw [this] at hd
  simp only [List.mapM_nil, bind, Except.bind, pure, Except.pure, List.nil_append] at hd
  cases hd
  rfl

/-- **re-emission follows from `SameXml`**: whatever declares the same as `ts` (descriptions trimmed) emits the descriptor
    of `ts` with descriptions trimmed, after the entries it remembers as redeclared -/
theorem toDescriptor_of_same {ts ts' : TypeSystem} (hn : (ts.types.map (·.name)).Nodup)
    (hn' : (ts'.types.map (·.name)).Nodup) (h : SameXml ts ts') (hred : ts.redeclared = [])
    (hR : ∀ n ∈ ts'.redeclared, hasExact ts' n = true) (d : Descriptor) (hd : toDescriptor Gen.consts ts = .ok d) :
    ∃ preOut, toDescriptor Gen.consts ts' = .ok (preOut ++ d.map trimT) ∧
      preOut.map (·.name) = sortStrs ts'.redeclared.eraseDups ∧
      ∀ e ∈ preOut, ∃ t, find? ts e.name = some t ∧ e = trimT (renderType t) := by
  have hd' := toDescriptor_noRedeclared hred d hd
  obtain ⟨pre, hpre, hnames, hall⟩ := mapM_render_ok ts' (sortStrs ts'.redeclared.eraseDups) (by
    intro n hn
    have h1 := (sortStrs_perm _).mem_iff.mp hn
    rw [List.mem_eraseDups] at h1
    exact hR n h1)
  refine ⟨pre, ?_, hnames, fun e he => ?_⟩
  · rw [toDescriptor_eq]
    simp only [bind, Except.bind, pure, Except.pure] at hpre ⊢
    rw [hpre]
    simp only []
    rw [hd', ← user_part_of_same hn hn' h]
  · obtain ⟨t', ht', rfl⟩ := hall e he
    obtain ⟨t, ht, e'⟩ := h.right ht'
    exact ⟨t, ht, e'⟩

end Cassis.TsXml
