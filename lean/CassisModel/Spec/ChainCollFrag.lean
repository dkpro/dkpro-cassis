/-
C16 with collections: the condition on the type system that the conversion chains need beyond the hypotheses of the two
round-trip theorems.

The XMI reader makes the objects of *inlined* collections itself: an array object of the type named by the range of
the feature, list nodes of the types `uima.cas.NonEmpty…List` / `uima.cas.Empty…List` — by name, without consulting the
type system (`buildPrimList`, `buildFsList`, `postFeature` in `Model/Xmi.lean`; `_parse_primitive_list` etc. in
`cassis/xmi.py` look the types up in the type system, where they always exist).  In the CAS that is written first these
objects are not structures of their own (XMI writes an inlined collection inside its owner), so no hypothesis of
`xmi_roundtrip_coll` speaks about their types.  The JSON writer writes every collection object as a structure of its own
and looks up its type.  The model's `TypeSystem` and `Consts` are arbitrary records; `CollTypesOk K ts` says that the
built-in collection types are declared the way `TypeSystem()` declares them, as far as the JSON codec looks:

* the nine array types are children of `uima.cas.ArrayBase` with the single feature `elements`;
* the four empty-list node types have no features, the four non-empty ones exactly `head` and `tail`, `head` of the
  primitive kind of the list (a reference for `FSList`), `tail` a reference;
* none of the node types is classified as an array, list or annotation type.

True for `Gen.builtinTS` and every type system obtained from it with `createType` / `createFeature` (the built-in types
are final or cannot be redeclared); `collTypesOkB` is a computable test (soundness: `Proofs/ChainCollCheckSound.lean`).
Counterexample without it (`Spec/ChainCollCheck.lean`, `cx_missing_node_type`): the demo type system without
`uima.cas.NonEmptyIntegerList` — every hypothesis of both round-trip theorems holds, `saveXmi` / `loadXmi` succeed (no
list node is written or looked up), and `saveJson` on the loaded CAS raises `TypeNotFoundError`.
-/
import CassisModel.Spec.RoundTripJsonCollFrag

namespace Cassis.Json
open Cassis.TS Cassis.Traverse Cassis.Xmi

/-- the range of a feature that holds a reference -/
def RefRange (K : Consts) (ts : TypeSystem) (f : Feature) : Prop :=
  isPrimitive K ts f.range = false ∧ f.range ≠ "uima.cas.Boolean" ∧ f.range ≠ "uima.cas.Double" ∧
  f.range ≠ "uima.cas.Float"

/-- the array type `n`: a child of `uima.cas.ArrayBase` whose only feature is `elements` -/
def ArrTyOk (ts : TypeSystem) (n : String) : Prop :=
  ∃ (t : TypeRec) (f : Feature), find? ts n = some t ∧ t.name = n ∧ t.super = some ARRAY_BASE ∧ allFeatures t = [f] ∧
    f.name = "elements" ∧ f.reserved = false ∧ isInstanceOf ts n ANNOTATION = false

/-- the list-node type `n` with the features `fs`: registered, and not an array, list or annotation type -/
def NodeTyOk (K : Consts) (ts : TypeSystem) (n : String) (fs : List Feature) : Prop :=
  ∃ t : TypeRec, find? ts n = some t ∧ t.name = n ∧ allFeatures t = fs ∧
    isArray K n = false ∧ isList K n = false ∧ t.super ≠ some ARRAY_BASE ∧ isPrimitiveArray K n = false ∧
    isInstanceOf ts n STRING_ARRAY = false ∧ isInstanceOf ts n ANNOTATION = false

/-- a non-empty-list node type: features `head` (of the kind `Ph`) and `tail` (a reference) -/
def NeNodeOk (K : Consts) (ts : TypeSystem) (n : String) (Ph : Feature → Prop) : Prop :=
  ∃ fh ft : Feature, NodeTyOk K ts n [fh, ft] ∧ fh.name = "head" ∧ ft.name = "tail" ∧ fh.reserved = false ∧
    ft.reserved = false ∧ Ph fh ∧ RefRange K ts ft

/-- **the built-in collection types are declared as in `TypeSystem()`** -/
structure CollTypesOk (K : Consts) (ts : TypeSystem) : Prop where
  arr : ∀ n : String, (PrimArrTy n ∨ n = STRING_ARRAY ∨ n = FS_ARRAY) → ArrTyOk ts n
  emptyFs : NodeTyOk K ts "uima.cas.EmptyFSList" []
  emptyInt : NodeTyOk K ts "uima.cas.EmptyIntegerList" []
  emptyFlt : NodeTyOk K ts "uima.cas.EmptyFloatList" []
  emptyStr : NodeTyOk K ts "uima.cas.EmptyStringList" []
  neFs : NeNodeOk K ts "uima.cas.NonEmptyFSList" (fun f => RefRange K ts f ∧ isInline K f = false)
  neInt : NeNodeOk K ts "uima.cas.NonEmptyIntegerList"
    (fun f => isPrimitive K ts f.range = true ∧ isIntRange f.range = true)
  neFlt : NeNodeOk K ts "uima.cas.NonEmptyFloatList"
    (fun f => isPrimitive K ts f.range = true ∧ (f.range = "uima.cas.Float" ∨ f.range = "uima.cas.Double"))
  neStr : NeNodeOk K ts "uima.cas.NonEmptyStringList"
    (fun f => isPrimitive K ts f.range = true ∧ f.range = "uima.cas.String")

/-! ### a computable test -/

def refRangeB (K : Consts) (ts : TypeSystem) (f : Feature) : Bool :=
  !isPrimitive K ts f.range && decide (f.range ≠ "uima.cas.Boolean") && decide (f.range ≠ "uima.cas.Double") &&
  decide (f.range ≠ "uima.cas.Float")

def arrTyOkB (ts : TypeSystem) (n : String) : Bool :=
  match find? ts n with
  | none => false
  | some t =>
    match allFeatures t with
    | [f] => decide (t.name = n) && decide (t.super = some ARRAY_BASE) && decide (f.name = "elements") &&
        decide (f.reserved = false) && !isInstanceOf ts n ANNOTATION
    | _ => false

def nodeStaticB (K : Consts) (ts : TypeSystem) (n : String) (t : TypeRec) : Bool :=
  decide (t.name = n) && !isArray K n && !isList K n && decide (t.super ≠ some ARRAY_BASE) && !isPrimitiveArray K n &&
  !isInstanceOf ts n STRING_ARRAY && !isInstanceOf ts n ANNOTATION

def emptyNodeOkB (K : Consts) (ts : TypeSystem) (n : String) : Bool :=
  match find? ts n with
  | none => false
  | some t => (allFeatures t).isEmpty && nodeStaticB K ts n t

def neNodeOkB (K : Consts) (ts : TypeSystem) (n : String) (ph : Feature → Bool) : Bool :=
  match find? ts n with
  | none => false
  | some t =>
    match allFeatures t with
    | [fh, ft] => nodeStaticB K ts n t && decide (fh.name = "head") && decide (ft.name = "tail") &&
        decide (fh.reserved = false) && decide (ft.reserved = false) && ph fh && refRangeB K ts ft
    | _ => false

def arrTypeNames : List String :=
  ["uima.cas.IntegerArray", "uima.cas.ShortArray", "uima.cas.LongArray", "uima.cas.ByteArray", "uima.cas.BooleanArray",
   "uima.cas.FloatArray", "uima.cas.DoubleArray", STRING_ARRAY, FS_ARRAY]

/-- `CollTypesOk K ts` -/
def collTypesOkB (K : Consts) (ts : TypeSystem) : Bool :=
  arrTypeNames.all (arrTyOkB ts) &&
  emptyNodeOkB K ts "uima.cas.EmptyFSList" && emptyNodeOkB K ts "uima.cas.EmptyIntegerList" &&
  emptyNodeOkB K ts "uima.cas.EmptyFloatList" && emptyNodeOkB K ts "uima.cas.EmptyStringList" &&
  neNodeOkB K ts "uima.cas.NonEmptyFSList" (fun f => refRangeB K ts f && !isInline K f) &&
  neNodeOkB K ts "uima.cas.NonEmptyIntegerList" (fun f => isPrimitive K ts f.range && isIntRange f.range) &&
  neNodeOkB K ts "uima.cas.NonEmptyFloatList"
    (fun f => isPrimitive K ts f.range && (decide (f.range = "uima.cas.Float") || decide (f.range = "uima.cas.Double"))) &&
  neNodeOkB K ts "uima.cas.NonEmptyStringList" (fun f => isPrimitive K ts f.range && decide (f.range = "uima.cas.String"))

end Cassis.Json
