/-
C20 across two heaps: the syntactic notion of isomorphism, `Iso` (`Spec/ComparableIso.lean`: slot values related by
`ValRel` to a finite nesting depth), is a special case of the semantic one (`Iso.toIsoR`), and inherits its theory.
The references that `ValRel` relates at some depth form a simulation (`Proofs/ComparableSim.lean`).
-/
import CassisModel.Proofs.ComparableSim
import CassisModel.Proofs.ComparableRel

namespace Cassis.Comparable
open Cassis.TS

section
variable {K : Consts} {hp hp' : Heap} {R : Nat → Nat → Prop}

/-- the references that `ValRel` relates at some depth: the relation on addresses with which `Iso` enters `isoR_of_sim`
    (`Iso.toIsoR`) -/
def RefRel (K : Consts) (hp hp' : Heap) (R : Nat → Nat → Prop) (a a' : Nat) : Prop :=
  ∃ d, ValRel K hp hp' R (d + 1) (.ref a) (.ref a')

theorem vrof_of_valRel : ∀ (d : Nat) (v v' : Val), ValRel K hp hp' R d v v' → VRof (RefRel K hp hp' R) v v'
  | 0, _, _, h => Or.inl h
  | d+1, _, _, h => by
    rcases h with h | ⟨a, a', rfl, rfl, h⟩ | ⟨a, a', rfl, rfl, h⟩ | ⟨l, l', rfl, rfl, hl⟩ | h
    · exact Or.inl h
    · exact Or.inr (Or.inr (Or.inl ⟨a, a', rfl, rfl, d, Or.inr (Or.inl ⟨a, a', rfl, rfl, h⟩)⟩))
    · exact Or.inr (Or.inr (Or.inl ⟨a, a', rfl, rfl, d, Or.inr (Or.inr (Or.inl ⟨a, a', rfl, rfl, h⟩))⟩))
    · refine Or.inr (Or.inr (Or.inr ⟨l, l', rfl, rfl, refsRel_mono (fun a a' hr => ?_) hl⟩))
      cases d with
      | zero => exact absurd hr sameCell_ref
      | succ d => exact ⟨d, hr⟩
    · exact Or.inr (Or.inl h)

theorem simStep_of_valRel {addrs : List Nat} {φ : Nat → Nat} {byId byId' : List (Option Int × String)}
    (hA : AnchRel hp hp' addrs φ byId byId') :
    SimStep K hp hp' byId byId' (RefRel K hp hp' (SameKey hp hp' addrs φ)) := by
  rintro a a' ⟨d, h⟩
  rcases h with h | ⟨b, b', e, e', h1, h2, hk⟩ | ⟨b, b', e, e', h1, h2, he⟩ | ⟨l, l', e, _⟩ | ⟨h, _⟩
  · exact absurd h sameCell_ref
  · cases e; cases e'
    exact Or.inl ⟨h1, h2, hA _ _ hk⟩
  · cases e; cases e'
    refine Or.inr ⟨h1, h2, ?_⟩
    rcases he with he | he | ⟨w, w', e1, e2, n1, n2, hw⟩
    · exact Or.inl he
    · exact Or.inr (Or.inl he)
    · exact Or.inr (Or.inr ⟨w, w', e1, e2, n1, n2, vrof_of_valRel d w w' hw⟩)
  · cases e
  · rcases h with h | h | h | h | h <;> cases h

end

theorem Iso.toIsoR {K : Consts} {cass cass' : List Cas} {hp hp' : Heap} {indexed indexed' addrs addrs' : List Nat}
    {φ : Nat → Nat} (h : Iso K cass cass' hp hp' indexed indexed' addrs addrs' φ) :
    IsoR K cass cass' hp hp' indexed indexed' addrs addrs' φ :=
  isoR_of_sim (RefRel K hp hp' (SameKey hp hp' addrs φ)) h.bij h.nodup h.idx h.ty h.key h.view h.covered
    (fun a ha n hn => let ⟨d, hr⟩ := h.slots a ha n hn; vrof_of_valRel d _ _ hr)
    h.elems (fun _ _ hA => simStep_of_valRel hA)

section
variable {K : Consts} {cass cass' : List Cas} {hp hp' : Heap} {indexed indexed' addrs addrs' : List Nat} {φ : Nat → Nat}

theorem Iso.distinct (h : Iso K cass cass' hp hp' indexed indexed' addrs addrs' φ) (hd : Distinct hp addrs) :
    Distinct hp' addrs' := h.toIsoR.distinct hd

theorem Iso.anchorOf (h : Iso K cass cass' hp hp' indexed indexed' addrs addrs' φ) (o : Opts) {a : Nat}
    (ha : a ∈ addrs) : anchorOf cass' hp' indexed' o (φ a) = Comparable.anchorOf cass hp indexed o a :=
  h.toIsoR.anchorOf o ha

theorem Iso.anchorStep (h : Iso K cass cass' hp hp' indexed indexed' addrs addrs' φ) (o : Opts) {a : Nat}
    (ha : a ∈ addrs) {st st' : AnchorSt} (hst : StRel hp hp' addrs φ st st') :
    ExRel (StRel hp hp' addrs φ) (Comparable.anchorStep cass hp indexed o st a)
      (Comparable.anchorStep cass' hp' indexed' o st' (φ a)) :=
  h.toIsoR.anchorStep o ha hst

theorem Iso.genAnchors (h : Iso K cass cass' hp hp' indexed indexed' addrs addrs' φ) (ts : TypeSystem) (o : Opts)
    (sorted sorted' : List (String × List Nat)) :
    ∀ (L : List (String × List Nat)), (∀ p ∈ L, ∀ a ∈ p.2, a ∈ addrs) → ∀ {st st' : AnchorSt},
      StRel hp hp' addrs φ st st' →
      ExRel (StRel hp hp' addrs φ) (Comparable.genAnchors ts cass hp indexed o sorted L st)
        (Comparable.genAnchors ts cass' hp' indexed' o sorted' (L.map (fun p => (p.1, p.2.map φ))) st') :=
  h.toIsoR.genAnchors ts o sorted sorted'

theorem Iso.renderRow (h : Iso K cass cass' hp hp' indexed indexed' addrs addrs' φ)
    {byId byId' : List (Option Int × String)} (hA : AnchRel hp hp' addrs φ byId byId') (t : TypeRec) (annType : Bool)
    {a : Nat} (ha : a ∈ addrs) :
    Comparable.renderRow K cass' hp' byId' t annType (φ a) = Comparable.renderRow K cass hp byId t annType a :=
  h.toIsoR.renderRow hA t annType ha

theorem Iso.renderSections (h : Iso K cass cass' hp hp' indexed indexed' addrs addrs' φ) (ts : TypeSystem) (o : Opts)
    {byId byId' : List (Option Int × String)} (hA : AnchRel hp hp' addrs φ byId byId') :
    ∀ (L : List (String × List Nat)), (∀ p ∈ L, ∀ a ∈ p.2, a ∈ addrs) →
      Comparable.renderSections K ts cass' hp' o byId' (L.map (fun p => (p.1, p.2.map φ)))
        = Comparable.renderSections K ts cass hp o byId L :=
  h.toIsoR.renderSections ts o hA

end

end Cassis.Comparable
