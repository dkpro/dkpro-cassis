/-
C05 — loading depends on what a document says, not on the order of its entries (JSON, arrays and lists included).

`json_load_perm_coll` extends `json_load_perm_flat` (`C05PermJson.lean`) to the fragment of `json_roundtrip_coll`
(`Properties/C02RoundTripColl.lean`, `JCollFs`: array and list features, inlined or shared; every collection object is a
structure of its own in JSON).  For every document `doc'` whose `%FEATURE_STRUCTURES` and `%VIEWS` are permutations of
the written ones — an FSArray before or after its elements, a list node before or after its tail, a structure before or
after the array it refers to, the sofas anywhere — the reader succeeds and yields the same content as the round-trip
theorem states for `doc`: the written ids, every structure under its id with the same type and the same deep content
`featContentC` of every feature, the same views as a permutation with the initial view first (the order of `Cas.views`
follows the order of the sofas in `doc'`, see `C05PermJson.lean`), the generators reseeded.
-/
import CassisModel.Proofs.LoadPermJsonColl
import CassisModel.Proofs.RoundTripJsonCollDemo

namespace Cassis.Json
open Cassis.TS Cassis.Traverse Cassis.Xmi

/-- **entry-order independence of the JSON reader, collections included** -/
theorem json_load_perm_coll (K : Consts) (ts : TypeSystem) (cass : List Cas) (ci : Nat) (c : Cas) (hp : Heap)
    (tsIdx ci' : Nat) (doc doc' : JDoc) (st : St)
    (hc : cass[ci]? = some c) (hwf : RTWf c hp)
    (hsave : saveJson K ts cass ci hp .none = .ok (doc, st))
    (hcoll : ∀ q ∈ st.allFs, JCollFs K ts c ci st.heap q.2)
    (hids : ∀ nv ∈ c.views, ∀ e ∈ Index.all nv.2.idx, (xidOf hp e.oid).isSome = true)
    (hdis : ∀ q ∈ st.allFs, ∀ nv ∈ c.views, q.1 ≠ nv.2.sofa.xid)
    (hmem : ∀ nv ∈ c.views, ∀ e ∈ Index.all nv.2.idx, Xmi.slot st.heap e.oid "sofa" ≠ some .none)
    (hmok : MembersOk c st.heap)
    (hpf : doc'.fss.Perm doc.fss) (hpv : doc'.views.Perm doc.views) :
    ∃ (s1 s : RState) (ld' : Loaded),
      -- the two passes over `%FEATURE_STRUCTURES` and the whole reader succeed
      sofaPass K ts tsIdx ci' doc'.fss doc'.fss { cas := Cas.empty, heap := st.heap } = .ok s1 ∧
      fsPass K ts tsIdx doc'.fss s1 = .ok s ∧
      loadJson K ts tsIdx ci' false false st.heap doc' = .ok ld' ∧ ld'.ts = ts ∧
      -- the reader registered exactly the written ids
      (s.fss.map (·.1)).Perm (c.views.map (·.2.sofa.xid) ++ (sortById st.allFs).map (·.1)) ∧
      -- the same structures under the same ids, with the same deep content of every feature
      (∀ q ∈ st.allFs, ∃ (a' : Nat) (o o' : Obj), lookup s.fss q.1 = some (.ref a') ∧
          st.heap[q.2]? = some o ∧ ld'.heap[a']? = some o' ∧ o'.ty = o.ty ∧ o'.xid = some q.1 ∧
          ∀ t : TypeRec, find? ts o.ty = some t → ∀ f ∈ allFeatures t,
            featContentC K ld'.heap a' f = featContentC K st.heap q.2 f) ∧
      (∀ nv ∈ c.views, lookup s.fss nv.2.sofa.xid = some (.sofa ci' nv.1)) ∧
      -- the same views (the initial view first)
      (ld'.cas.views.map (viewContent ld'.heap)).Perm (c.views.map (viewContent st.heap)) ∧
      (ld'.cas.views.head?).map (·.1) = some Cas.INITIAL_VIEW ∧
      -- generators reseeded
      (∀ q ∈ st.allFs, q.1 < ld'.cas.nextXid) ∧
      (∀ nv ∈ c.views, nv.2.sofa.xid < ld'.cas.nextXid ∧ nv.2.sofa.sofaNum < ld'.cas.nextSofaNum) :=
  by
  obtain ⟨g, hdfss, hdviews⟩ := json_written_coll hc hwf hsave hcoll hids hdis
  -- the parts of the permuted document: the sofas `σ`, the other structures `L'`, the `%VIEWS` entries `τ`
  obtain ⟨σ, L', hσ, hL', hσeq, hL'eq⟩ :=
    LPJ.split_perm (fun p : String × View => renderSofa hp p.2.sofa) (elemOfJ K ts cass st.heap) c.views
      (sortById st.allFs) doc'.fss (fun _ _ => rfl) (fun q hq => elemOfJ_notSofa g.lok q hq)
      (by rw [← hdfss]; exact hpf)
  obtain ⟨τ, hτ, hτeq⟩ := Det.perm_map_inv (jviewH st.heap) doc'.views c.views (by rw [← hdviews]; exact hpv)
  obtain ⟨iv, rest, hcv, hiv⟩ := hwf.views_cons
  obtain ⟨pre, post, rfl⟩ := List.append_of_mem (hσ.mem_iff.mpr (hcv ▸ List.mem_cons_self))
  obtain ⟨s1, s, ld, h1, h2, hload, hts, hkeys, hcont, hsofas, hviews, hhead, hnext, hnum⟩ :=
    LPJ.load_perm_base g st.heap (Nat.le_refl _) hmem hmok tsIdx ci' pre post iv hσ hiv L' hL' τ hτ doc' hσeq hL'eq hτeq
  refine ⟨s1, s, ld, h1, h2, hload, hts, ?_, fun q hq => hcont q (mem_sortById.mpr hq), hsofas, ?_, hhead,
    fun q hq => hnext q (mem_sortById.mpr hq), hnum⟩
  · rw [hkeys]
    exact (hσ.map _).append (hL'.map _)
  · rw [hviews]
    exact (List.perm_middle.symm.trans hσ).map _

/-! ### Non-vacuity

The instance `CollDemo` of `Spec/RoundTripCollCheck.lean` (every collection kind, inlined and shared): all hypotheses hold
(`jcollDemo_hyps`, `Proofs/RoundTripJsonCollDemo.lean`, kernel evaluation of the sound test `jcollAppliesB`), and the written
document with `%FEATURE_STRUCTURES` and `%VIEWS` reversed is a permutation of it, so the theorem applies: the reversed
document (every array behind its elements' referrers, the sofa last) loads, to the same view content. -/

example : ∃ (doc : JDoc) (st : St) (s1 s : RState) (ld' : Loaded),
    saveJson CollDemo.K CollDemo.ts [CollDemo.cas] 0 CollDemo.hp .none = .ok (doc, st) ∧
    doc.fss.reverse.Perm doc.fss ∧ doc.views.reverse.Perm doc.views ∧
    sofaPass CollDemo.K CollDemo.ts 0 1 doc.fss.reverse doc.fss.reverse { cas := Cas.empty, heap := st.heap } = .ok s1 ∧
    fsPass CollDemo.K CollDemo.ts 0 doc.fss.reverse s1 = .ok s ∧
    loadJson CollDemo.K CollDemo.ts 0 1 false false st.heap
      { doc with fss := doc.fss.reverse, views := doc.views.reverse } = .ok ld' ∧
    (s.fss.map (·.1)).Perm (CollDemo.cas.views.map (·.2.sofa.xid) ++ (sortById st.allFs).map (·.1)) ∧
    (ld'.cas.views.map (viewContent ld'.heap)).Perm (CollDemo.cas.views.map (viewContent st.heap)) ∧
    (ld'.cas.views.head?).map (·.1) = some Cas.INITIAL_VIEW := by
  obtain ⟨c, doc, st, hc, hs, hwf, hf, hi, hd, hm, hmo⟩ := jcollDemo_hyps
  obtain rfl : CollDemo.cas = c := Option.some.inj hc
  obtain ⟨s1, s, ld', h1, h2, hl, _, hids, _, _, hv, hh, _⟩ :=
    json_load_perm_coll CollDemo.K CollDemo.ts [CollDemo.cas] 0 CollDemo.cas CollDemo.hp 0 1 doc
      { doc with fss := doc.fss.reverse, views := doc.views.reverse } st
      hc hwf hs hf hi hd hm hmo (List.reverse_perm _) (List.reverse_perm _)
  exact ⟨doc, st, s1, s, ld', hs, List.reverse_perm _, List.reverse_perm _, h1, h2, hl, hids, hv, hh⟩

#print axioms json_load_perm_coll

end Cassis.Json
