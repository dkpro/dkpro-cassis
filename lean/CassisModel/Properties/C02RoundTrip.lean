/-
C02, end to end on the flat fragment — `load_cas_from_json(cas.to_json(...), typesystem=ts)` yields the same CAS.

The JSON counterpart of `C01RoundTrip.lean`, for the configuration "no embedded type system, the original type system
supplied, no merge" (`TypeSystemMode.NONE`, `merge_typesystem=False`): for every CAS whose reachable feature structures are
flat (`Spec/RoundTrip.lean`), writing it with the model's `saveJson` and reading the document back with the model's
`loadJson` succeeds, yields the written structures under the same ids and types with the same content of every feature,
the same views, and reseeds the generators above everything (the JSON half of C09's document level).
The other configurations (embedded FULL / MINIMAL type systems, merged into or replacing the supplied one) are
`C02RoundTripEmbedded.lean`; arrays and lists are `C02RoundTripColl.lean`.

Two hypotheses go beyond those of the XMI theorem; both are needed (counterexamples below, from runs of the model that no
file of the sources repeats):
* `hjson` (`JsonFs`, `Spec/RoundTripJson.lean`): the names of the types and features of the written structures can be
  carried by the format (no type name ending in `[]`, no feature name starting with `@`, `#`, `%`), and `begin`/`end` are
  declared by `uima.tcas.Annotation` exactly for annotations;
* `hids`: every indexed structure carries an id already in the heap that is handed to the writer (`Cas.add` assigns
  one): the writer lists the members of the views *before* it assigns the missing ids.

Counterexamples without them (`saveJson … .none`, then `loadJson … false false`, run on `demoTS`, `casL`, `hp0`, `c0` of
`Proofs/InstancesFlat.lean`, text `a😀b`, and on variants of `demoTS` with the types described; only the first uses the
instance as it stands):
* without `hids`: `casL` with the heap `hp0` (the indexed `x.Tok` has no id yet): the document's view has
  `members := []`, the loaded view has no member, the written one has one;
* type `x.T[]` (child of TOP, one Integer feature): `loadJson` fails with `typeError` (the name is read as an array type);
* a feature `@n : Integer` with value 5: `attributeError`; `#n`: `valueError`; `%n`: loads, but the value is lost (`None`);
* a type under TOP whose `begin`/`end`/`sofa` features claim the domain `uima.tcas.Annotation`: offsets (2, 3) are
  written as (3, 4) and read back unconverted; the annotation `x.Tok` with `begin`/`end` re-declared with domain
  `x.Tok`: offsets are written unconverted and converted by the reader ((2, 3) comes back as (2, 2)).
-/
import CassisModel.Properties.C02RoundTripColl
import CassisModel.Proofs.RoundTripFlatOfColl
import CassisModel.Proofs.RoundTripJsonFixpoint
import CassisModel.Proofs.RoundTripJsonDemo

namespace Cassis.Json
open Cassis.TS Cassis.Traverse Cassis.Xmi

/-- **JSON round trip on the flat fragment** -/
theorem json_roundtrip_flat (K : Consts) (ts : TypeSystem) (cass : List Cas) (ci : Nat) (c : Cas) (hp : Heap)
    (tsIdx ci' : Nat) (doc : JDoc) (st : St)
    (hc : cass[ci]? = some c) (hwf : RTWf c hp)
    (hsave : saveJson K ts cass ci hp .none = .ok (doc, st))
    (hflat : ∀ q ∈ st.allFs, FlatFs K ts c ci st.heap q.2)
    (hjson : ∀ q ∈ st.allFs, JsonFs ts st.heap q.2)
    (hids : ∀ nv ∈ c.views, ∀ e ∈ Index.all nv.2.idx, (xidOf hp e.oid).isSome = true)
    (hdis : ∀ q ∈ st.allFs, ∀ nv ∈ c.views, q.1 ≠ nv.2.sofa.xid)
    (hmem : ∀ nv ∈ c.views, ∀ e ∈ Index.all nv.2.idx, Xmi.slot st.heap e.oid "sofa" ≠ some .none)
    (hmok : MembersOk c st.heap) :
    ∃ (ld : Loaded) (fss : List (Int × Val)),
      loadJson K ts tsIdx ci' false false st.heap doc = .ok ld ∧ ld.ts = ts ∧
      -- the written structures, under the same ids
      (∀ q ∈ st.allFs, ∃ (a' : Nat) (o o' : Obj), lookup fss q.1 = some (.ref a') ∧
          st.heap[q.2]? = some o ∧ ld.heap[a']? = some o' ∧ o'.ty = o.ty ∧ o'.xid = some q.1 ∧
          ∀ t : TypeRec, find? ts o.ty = some t → ∀ f ∈ allFeatures t,
            featContent ld.heap a' f.name = featContent st.heap q.2 f.name) ∧
      -- nothing else was created: every structure the loader registered is a written one or a sofa
      (∀ p ∈ fss, (∃ q ∈ st.allFs, q.1 = p.1) ∨ (∃ nv ∈ c.views, nv.2.sofa.xid = p.1)) ∧
      -- the same views
      ld.cas.views.map (viewContent ld.heap) = c.views.map (viewContent st.heap) ∧
      -- generators reseeded
      (∀ q ∈ st.allFs, q.1 < ld.cas.nextXid) ∧
      (∀ nv ∈ c.views, nv.2.sofa.xid < ld.cas.nextXid ∧ nv.2.sofa.sofaNum < ld.cas.nextSofaNum) := by
  -- the flat fragment is part of the whole format; there the deep content of a feature determines the flat one
  obtain ⟨ld, fss, hload, hts, hcont, rest⟩ :=
    json_roundtrip_coll K ts cass ci c hp tsIdx ci' doc st hc hwf hsave
      (fun q hq => jcollFs_of_flatFs K ts c ci st.heap q.2 (hflat q hq) (hjson q hq)) hids hdis hmem hmok
  refine ⟨ld, fss, hload, hts, fun q hq => ?_, rest⟩
  obtain ⟨a', o, o', hl, ho, ho', hty, hx, hc⟩ := hcont q hq
  exact ⟨a', o, o', hl, ho, ho', hty, hx, fun t ht f hf => flatFs_content (hflat q hq) ho ht hf (hc t ht f hf)⟩

/-- serialising the loaded CAS again yields the identical JSON document -/
theorem json_roundtrip_flat_fixpoint (K : Consts) (ts : TypeSystem) (cass : List Cas) (ci : Nat) (c : Cas) (hp : Heap)
    (tsIdx : Nat) (doc : JDoc) (st : St) (ld : Loaded)
    (hc : cass[ci]? = some c) (hwf : RTWf c hp)
    (hsave : saveJson K ts cass ci hp .none = .ok (doc, st))
    (hflat : ∀ q ∈ st.allFs, FlatFs K ts c ci st.heap q.2)
    (hjson : ∀ q ∈ st.allFs, JsonFs ts st.heap q.2)
    (hids : ∀ nv ∈ c.views, ∀ e ∈ Index.all nv.2.idx, (xidOf hp e.oid).isSome = true)
    (hdis : ∀ q ∈ st.allFs, ∀ nv ∈ c.views, q.1 ≠ nv.2.sofa.xid)
    (hmem : ∀ nv ∈ c.views, ∀ e ∈ Index.all nv.2.idx, Xmi.slot st.heap e.oid "sofa" ≠ some .none)
    (hmok : MembersOk c st.heap)
    (hload : loadJson K ts tsIdx cass.length false false st.heap doc = .ok ld) :
    ∃ st' : St, saveJson K ts (cass ++ [ld.cas]) cass.length ld.heap .none = .ok (doc, st') := by
  obtain ⟨ld', m, hload', _, g, hdfss, hdviews, hdtypes, hsr, hrel, hviews, hvc, hnx, hm0, _, _⟩ :=
    json_core K ts cass ci c hp tsIdx cass.length doc st hc hwf hsave hflat hjson hids hdis hmem hmok
  rw [hload] at hload'
  cases hload'
  have hL := g
  have hc' : (cass ++ [ld.cas])[cass.length]? = some ld.cas := List.getElem?_concat_length
  have harr : ∀ nv ∈ c.views, nv.2.sofa.arr = .none := fun nv hnv => (hwf.text_sofa nv hnv).1
  have hfa := (saveJson_parts hc harr hsave).1
  have hnx' : 0 < ld.cas.nextXid := by omega
  -- the loaded structures are a copy of the collected ones: the second traversal collects their counterparts
  obtain ⟨st', hfa', hheap, _, hsort⟩ := Traverse.Moved.sorted hwf.next_pos hfa
    (moved_of_flat (op := { includeInlinable := true }) (op' := { includeInlinable := true }) hL hrel
      (new_flatJ (ci' := cass.length) hL hrel hviews) _)
    (fun _ ha => seed_fwdJ hL hviews ha) (fun _ _ hx ha => seed_bwdJ hL hviews hx ha) hnx'
  have hren : renderAll K ts (cass ++ [ld.cas]) st'.heap (sortById st'.allFs) =
      .ok ((sortById st.allFs).map (elemOfJ K ts cass st.heap)) := by
    rw [hheap, hsort, renderAll_eq_mapM, List.mapM_map]
    exact Det.mapM_ok_of_forall _ _ _ fun q hq => renderFs_new hc hL (fun q hq => hjson q (mem_sortById.mp hq)) hc' hsr hrel hviews q hq
  have harr' : ∀ nv' ∈ ld.cas.views, nv'.2.sofa.arr = .none := by
    intro nv' hnv'
    obtain ⟨nv, hnv, hr⟩ := hviews.all2.bwd nv' hnv'
    rw [hr.2.1]
    exact harr nv hnv
  refine ⟨st', ?_⟩
  rw [saveJson_of_parts hc' harr' hfa' hren, sofas_new hp ld.heap _ _ hviews harr, views_new ld.heap _ _ hviews hvc,
    ← hdfss, ← hdviews, ← hdtypes]

/-! ### Non-vacuity

The instance `Xmi.Demo` of `Proofs/InstancesFlat.lean` (its facts for JSON: `Proofs/RoundTripJsonDemo.lean`): every hypothesis holds, by
kernel evaluation of sound Boolean checkers. -/

example : ∃ (doc : JDoc) (st : St),
    saveJson Xmi.Demo.K Xmi.Demo.demoTS [Xmi.Demo.demo.1] 0 Xmi.Demo.demo.2 .none = .ok (doc, st) ∧
    [Xmi.Demo.demo.1][0]? = some Xmi.Demo.demo.1 ∧ RTWf Xmi.Demo.demo.1 Xmi.Demo.demo.2 ∧
    (∀ q ∈ st.allFs, FlatFs Xmi.Demo.K Xmi.Demo.demoTS Xmi.Demo.demo.1 0 st.heap q.2) ∧
    (∀ q ∈ st.allFs, JsonFs Xmi.Demo.demoTS st.heap q.2) ∧
    (∀ nv ∈ Xmi.Demo.demo.1.views, ∀ e ∈ Index.all nv.2.idx, (xidOf Xmi.Demo.demo.2 e.oid).isSome = true) ∧
    (∀ q ∈ st.allFs, ∀ nv ∈ Xmi.Demo.demo.1.views, q.1 ≠ nv.2.sofa.xid) ∧
    (∀ nv ∈ Xmi.Demo.demo.1.views, ∀ e ∈ Index.all nv.2.idx, Xmi.slot st.heap e.oid "sofa" ≠ some .none) ∧
    MembersOk Xmi.Demo.demo.1 st.heap := Demo.demo_hypsJ

/-- the theorem applied to the instance -/
example : ∃ (doc : JDoc) (st : St) (ld : Loaded),
    saveJson Xmi.Demo.K Xmi.Demo.demoTS [Xmi.Demo.demo.1] 0 Xmi.Demo.demo.2 .none = .ok (doc, st) ∧
    loadJson Xmi.Demo.K Xmi.Demo.demoTS 0 1 false false st.heap doc = .ok ld ∧
    ld.cas.views.map (viewContent ld.heap) = Xmi.Demo.demo.1.views.map (viewContent st.heap) := by
  obtain ⟨doc, st, hs, hc, hwf, hf, hj, hi, hd, hm, hmo⟩ := Demo.demo_hypsJ
  obtain ⟨ld, _, hl, _, _, _, hv, _⟩ :=
    json_roundtrip_flat Xmi.Demo.K Xmi.Demo.demoTS [Xmi.Demo.demo.1] 0 Xmi.Demo.demo.1 Xmi.Demo.demo.2 0 1 doc st
      hc hwf hs hf hj hi hd hm hmo
  exact ⟨doc, st, ld, hs, hl, hv⟩

/-- … and the fixpoint theorem applied to the instance: saving what was loaded gives the same document -/
example : ∃ (doc : JDoc) (st st' : St) (ld : Loaded),
    saveJson Xmi.Demo.K Xmi.Demo.demoTS [Xmi.Demo.demo.1] 0 Xmi.Demo.demo.2 .none = .ok (doc, st) ∧
    loadJson Xmi.Demo.K Xmi.Demo.demoTS 0 1 false false st.heap doc = .ok ld ∧
    saveJson Xmi.Demo.K Xmi.Demo.demoTS ([Xmi.Demo.demo.1] ++ [ld.cas]) 1 ld.heap .none = .ok (doc, st') := by
  obtain ⟨doc, st, hs, hc, hwf, hf, hj, hi, hd, hm, hmo⟩ := Demo.demo_hypsJ
  obtain ⟨ld, _, hl, _⟩ :=
    json_roundtrip_flat Xmi.Demo.K Xmi.Demo.demoTS [Xmi.Demo.demo.1] 0 Xmi.Demo.demo.1 Xmi.Demo.demo.2 0 1 doc st
      hc hwf hs hf hj hi hd hm hmo
  obtain ⟨st', hs'⟩ :=
    json_roundtrip_flat_fixpoint Xmi.Demo.K Xmi.Demo.demoTS [Xmi.Demo.demo.1] 0 Xmi.Demo.demo.1 Xmi.Demo.demo.2 0 doc st ld
      hc hwf hs hf hj hi hd hm hmo hl
  exact ⟨doc, st, st', ld, hs, hl, hs'⟩

#print axioms json_roundtrip_flat
#print axioms json_roundtrip_flat_fixpoint

end Cassis.Json
