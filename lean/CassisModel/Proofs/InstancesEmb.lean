/-
The instances whose type system is an API history over the built-in one (`EmbDemo` flat, with collections and with an
unused type; `PartDemo`, `RedefDemo`, `UnrelDemo`; the demo and the counterexample of `Properties/C02EmbeddedTs.lean`),
and everything that is evaluated on them, as ONE statement `Facts.emb`: the kernel keeps what it has computed only
within one declaration, and any evaluation over a type system that extends the built-in one first pays for decoding
and comparing the built-in type names.  One structure of named facts (`Facts.<module or instance>`) per module or
instance.
-/
import CassisModel.Spec.ChainCollCheck
import CassisModel.Spec.ChainEmb
import CassisModel.Spec.ChainEmbCheck
import CassisModel.Spec.ChainEmbLocal
import CassisModel.Spec.RoundTripJsonCollCheck
import CassisModel.Proofs.ApiHistoryEval
import CassisModel.Proofs.EmbeddedTsEval
import CassisModel.Proofs.RoundTripJsonCollCheckSound

/-! ### `EmbDemo`: a chain `x.A > x.B > x.C` whose features are declared bottom-up

`fc` on `x.C`, then `fb` on `x.B`, then `fa` and the reserved name `self` on `x.A`: in the original the features of `x.C`
come in the order `fc, begin, end, sofa, fb, fa, self_`, in the type system rebuilt from the `%TYPES` section in the order
`fc, fb, fa, self_, begin, end, sofa` — the instance on which the loaded heaps differ in the order of the slots (`HeapSim`
is not equality).  The CAS has the text `a😀b`, two `x.C` structures that refer to each other (one indexed, one only
referenced) and an indexed `x.B`.  `embTsC` / `hpC` add an inlined IntegerArray and a shared FSArray feature for the
theorems with collections; `embTsZ` adds a type `x.Z` the CAS does not use, so that the MINIMAL document declares a
proper part of the type system. -/

namespace Cassis.Json.EmbDemo
open Cassis.TS Cassis.Traverse

def embOps : List TsOp :=
  [ .createType "x.A" "uima.tcas.Annotation" none,
    .createType "x.B" "x.A" (some "middle"),
    .createType "x.C" "x.B" none,
    .createFeature "x.C" "fc" "uima.cas.Integer" none none none,
    .createFeature "x.B" "fb" "uima.cas.String" none (some "a string") none,
    .createFeature "x.A" "fa" "x.C" none none none,
    .createFeature "x.A" "self" "uima.cas.Boolean" none none none ]

def embOpsC : List TsOp := embOps ++
  [ .createFeature "x.A" "ia" "uima.cas.IntegerArray" none none none,
    .createFeature "x.B" "fsa" "uima.cas.FSArray" (some "x.C") none (some true) ]

def embTs : TypeSystem := embOps.foldl (applyOpS Gen.consts) Gen.builtinTS
def embTsC : TypeSystem := embOpsC.foldl (applyOpS Gen.consts) Gen.builtinTS

/-- the flat history plus a type the CAS does not use -/
def embOpsZ : List TsOp := embOps ++
  [ .createType "x.Z" "uima.cas.TOP" (some "not needed by the document"),
    .createFeature "x.Z" "z" "uima.cas.Integer" none none none ]

def embTsZ : TypeSystem := embOpsZ.foldl (applyOpS Gen.consts) Gen.builtinTS

def cas : Cas :=
  { views := [("_InitialView",
      { sofa := { sofaID := "_InitialView", sofaNum := 1, xid := 1, text := some [97, 128512, 98],
                  mime := some "text/plain", uri := none, arr := .none, conv := some [0, 1, 3, 4] },
        idx := [("x.C", [{ b := 0, e := 2, oid := 0 }]), ("x.B", [{ b := 1, e := 3, oid := 2 }])] })],
    nextXid := 4, nextSofaNum := 2 }

def tailSlots (b e : Int) : List (String × Val) :=
  [("begin", .int b), ("end", .int e), ("sofa", .sofa 0 "_InitialView")]

/-- the flat instance -/
def hpF : Heap :=
  [ { ty := "x.C", ts := 0, xid := some 2,
      slots := [("fc", .int 7)] ++ tailSlots 0 2 ++ [("fb", .str "u"), ("fa", .ref 1), ("self_", .bool true)] },
    { ty := "x.C", ts := 0, xid := none,
      slots := [("fc", .none)] ++ tailSlots 2 3 ++ [("fb", .none), ("fa", .ref 0), ("self_", .none)] },
    { ty := "x.B", ts := 0, xid := some 3,
      slots := [("fb", .str "w")] ++ tailSlots 1 3 ++ [("fa", .ref 1), ("self_", .none)] } ]

/-- the instance with collections: an inlined IntegerArray and a shared (multipleReferencesAllowed) FSArray -/
def hpC : Heap :=
  [ { ty := "x.C", ts := 0, xid := some 2,
      slots := [("fc", .int 7)] ++ tailSlots 0 2 ++
        [("fb", .str "u"), ("fa", .ref 1), ("self_", .bool true), ("ia", .ref 3), ("fsa", .ref 4)] },
    { ty := "x.C", ts := 0, xid := none,
      slots := [("fc", .none)] ++ tailSlots 2 3 ++
        [("fb", .none), ("fa", .ref 0), ("self_", .none), ("ia", .none), ("fsa", .none)] },
    { ty := "x.B", ts := 0, xid := some 3,
      slots := [("fb", .str "w"), ("fsa", .ref 4)] ++ tailSlots 1 3 ++ [("fa", .ref 1), ("self_", .none), ("ia", .none)] },
    { ty := "uima.cas.IntegerArray", ts := 0, xid := none, slots := [("elements", .ints [1, -2, 30])] },
    { ty := "uima.cas.FSArray", ts := 0, xid := none, slots := [("elements", .refs [some 1, some 0])] } ]

/-- the `%TYPES` section of the FULL document of the instance with collections -/
def embTypes : List JType :=
  [ { name := "x.A", super := "uima.tcas.Annotation",
      feats := [ { name := "fa", range := "x.C" }, { name := "self", range := "uima.cas.Boolean" },
                 { name := "ia", range := "uima.cas.Integer[]" } ] },
    { name := "x.B", super := "x.A", descr := some "middle",
      feats := [ { name := "fb", range := "uima.cas.String", descr := some "a string" },
                 { name := "fsa", range := "x.C[]", multi := some true } ] },
    { name := "x.C", super := "x.B", feats := [ { name := "fc", range := "uima.cas.Integer" } ] } ]

end Cassis.Json.EmbDemo

/-! ### `PartDemo`: the type system of `EmbDemo` with collections plus two types the CAS does not use
(`x.U < Annotation` with a shared `FSArray<x.U>` feature and an Integer feature, `x.V < x.U`); same CAS, same heap -/

namespace Cassis.Json.PartDemo
open Cassis.TS Cassis.Json.EmbDemo

def ops : List TsOp := embOpsC ++
  [ .createType "x.U" "uima.tcas.Annotation" (some "unused"),
    .createType "x.V" "x.U" none,
    .createFeature "x.U" "us" "uima.cas.FSArray" (some "x.U") none (some true),
    .createFeature "x.V" "n" "uima.cas.Integer" none none none ]

def ts : TypeSystem := ops.foldl (applyOpS Gen.consts) Gen.builtinTS

end Cassis.Json.PartDemo

/-! ### the type systems of `RedefDemo` (`Spec/ChainEmbCheck.lean`) and `UnrelDemo` (`Spec/ChainEmbLocal.lean`) as the
kernel evaluates them: by `applyOpS` (`Proofs/ApiHistoryEval.lean`), which is `applyOp` by `applyOp_eq_S` -/

namespace Cassis.Json.RedefDemo
open Cassis.TS

def tsS : TypeSystem := ops.foldl (applyOpS Gen.consts) Gen.builtinTS

end Cassis.Json.RedefDemo

namespace Cassis.Json.UnrelDemo
open Cassis.TS

def tsS : TypeSystem := ops.foldl (applyOpS Gen.consts) Gen.builtinTS

end Cassis.Json.UnrelDemo

/-! ### the demo history of `json_full_ts_same` and the counterexample to the statement without `Writable` -/

namespace Cassis.Json
open Cassis.TS

/-- a chain, a type without namespace, a user subtype of `uima.cas.String`, a subtype of DocumentAnnotation, a feature
    redefined identically on a subtype, a reserved feature name, array ranges with and without element type,
    `multipleReferencesAllowed`, a list with element type -/
def demoOps : List TsOp :=
  [ .createType "x.A" "uima.tcas.Annotation" none,
    .createType "x.B" "x.A" (some "a subtype"),
    .createType "Plain" "uima.cas.TOP" none,
    .createType "x.S" "uima.cas.String" none,
    .createType "x.D" "uima.tcas.DocumentAnnotation" none,
    .createFeature "x.B" "f" "uima.cas.Integer" none none none,
    .createFeature "x.A" "f" "uima.cas.Integer" none none none,
    .createFeature "x.A" "self" "x.S" none (some "reserved name") none,
    .createFeature "x.A" "arr" "uima.cas.FSArray" (some "x.B") none (some true),
    .createFeature "x.A" "top" "uima.cas.FSArray" none none none,
    .createFeature "x.B" "ints" "uima.cas.IntegerArray" none none (some false),
    .createFeature "x.B" "lst" "uima.cas.FSList" (some "Plain") none none,
    .createFeature "x.D" "g" "Plain" none none none ]

def demoTs : TypeSystem := demoOps.foldl (applyOpS Gen.consts) Gen.builtinTS

def cexOps : List TsOp := [.createType "x.A" "uima.cas.TOP" (some "")]
def cexTs : TypeSystem := cexOps.foldl (applyOp Gen.consts) Gen.builtinTS
def cexTypes : List JType := [{ name := "x.A", super := "uima.cas.TOP" }]

end Cassis.Json

namespace Cassis.Facts
open Cassis.Json Cassis.TS Cassis.Traverse Cassis.ChainE Cassis.Json.EmbDemo

structure RoundTripJsonEmbDemo : Prop where
  /-- the feature order of `x.C` in the original -/
  featureOrder : ((find? embTs "x.C").map (fun t => (allFeatures t).map (·.name))) =
    some ["fc", "begin", "end", "sofa", "fb", "fa", "self_"]
  histBase : histOkB Gen.consts embOps = true
  writableBase : Writable Gen.consts embTs
  noPctBase : NoPercentNames embTs
  flatApplies : jflatAppliesB Gen.consts embTs [cas] 0 hpF = true
  histColl : histOkB Gen.consts embOpsC = true
  writableColl : Writable Gen.consts embTsC
  noPctColl : NoPercentNames embTsC
  collApplies : jcollAppliesB Gen.consts embTsC [cas] 0 hpC = true
  histZ : histOkB Gen.consts embOpsZ = true
  writableZ : Writable Gen.consts embTsZ
  noPctZ : NoPercentNames embTsZ
  flatZApplies : jflatAppliesB Gen.consts embTsZ [cas] 0 hpF = true
  /-- the FULL document of `embTsZ` declares `x.Z`, the MINIMAL one does not -/
  typesFullZ :
    (saveJson Gen.consts embTsZ [cas] 0 hpF .full).toOption.map (fun r => (r.1.types.getD []).map (·.name)) =
    some ["x.A", "x.B", "x.C", "x.Z"]
  typesMinimalZ :
    (saveJson Gen.consts embTsZ [cas] 0 hpF .minimal).toOption.map (fun r => (r.1.types.getD []).map (·.name)) =
    some ["x.A", "x.B", "x.C"]

instance : Decidable RoundTripJsonEmbDemo :=
  decidable_of_iff' _ ⟨fun s => And.intro s.featureOrder <| And.intro s.histBase <| And.intro s.writableBase <|
      And.intro s.noPctBase <| And.intro s.flatApplies <| And.intro s.histColl <| And.intro s.writableColl <|
      And.intro s.noPctColl <| And.intro s.collApplies <| And.intro s.histZ <| And.intro s.writableZ <| And.intro
      s.noPctZ <| And.intro s.flatZApplies <| And.intro s.typesFullZ s.typesMinimalZ,
    fun h => ⟨h.1, h.2.1, h.2.2.1, h.2.2.2.1, h.2.2.2.2.1, h.2.2.2.2.2.1, h.2.2.2.2.2.2.1, h.2.2.2.2.2.2.2.1,
      h.2.2.2.2.2.2.2.2.1, h.2.2.2.2.2.2.2.2.2.1, h.2.2.2.2.2.2.2.2.2.2.1, h.2.2.2.2.2.2.2.2.2.2.2.1,
      h.2.2.2.2.2.2.2.2.2.2.2.2.1, h.2.2.2.2.2.2.2.2.2.2.2.2.2.1, h.2.2.2.2.2.2.2.2.2.2.2.2.2.2⟩⟩

structure ChainEmbDemo : Prop where
  chainXJ : chainCollAppliesB Gen.consts embTsC [cas] 0 hpC = true
  chainJX : chainJXAppliesB Gen.consts embTsC [cas] 0 hpC = true
  flagCoherent : FlagCoherent Gen.consts embTsC
  embTypes_eq : (fullRecs Gen.consts embTsC).map (renderTypeDecl0 Gen.consts) = embTypes
  /-- for the type system rebuilt from the `%TYPES` section, in the form of `loadTs_afterMerge` -/
  multiResAgree : afterMerge Gen.consts Gen.builtinTS (fun ts' => decide (MultiResAgree Gen.consts embTsC ts')) (do
    let ts1 ← ["uima.tcas.Annotation", "x.A", "x.B", "x.C"].foldlM (typeStep Gen.consts embTypes) Gen.builtinTS
    embTypes.foldlM (featsStepS Gen.consts) ts1) = true

instance : Decidable ChainEmbDemo :=
  decidable_of_iff' _ ⟨fun s => And.intro s.chainXJ <| And.intro s.chainJX <| And.intro s.flagCoherent <| And.intro
      s.embTypes_eq s.multiResAgree,
    fun h => ⟨h.1, h.2.1, h.2.2.1, h.2.2.2.1, h.2.2.2.2⟩⟩

structure RedefDemo : Prop where
  hist : histOkB Gen.consts RedefDemo.ops = true
  writable : Writable Gen.consts RedefDemo.tsS
  noPct : NoPercentNames RedefDemo.tsS
  chainJX : chainJXAppliesB Gen.consts RedefDemo.tsS [RedefDemo.cas] 0 RedefDemo.hp = true
  notFlagCoherent : ¬ FlagCoherent Gen.consts RedefDemo.tsS
  fOriginal : RedefDemo.fOfB RedefDemo.tsS = some ("x.B", some true)
  notFlagCoherentChain : ¬ FlagCoherentChain Gen.consts RedefDemo.tsS

instance : Decidable RedefDemo :=
  decidable_of_iff' _ ⟨fun s => And.intro s.hist <| And.intro s.writable <| And.intro s.noPct <| And.intro s.chainJX
      <| And.intro s.notFlagCoherent <| And.intro s.fOriginal s.notFlagCoherentChain,
    fun h => ⟨h.1, h.2.1, h.2.2.1, h.2.2.2.1, h.2.2.2.2.1, h.2.2.2.2.2.1, h.2.2.2.2.2.2⟩⟩

structure ChainEmbPartDemo : Prop where
  hist : histOkB Gen.consts PartDemo.ops = true
  writable : Writable Gen.consts PartDemo.ts
  noPct : NoPercentNames PartDemo.ts
  flagCoherent : FlagCoherent Gen.consts PartDemo.ts
  chainJX : chainJXAppliesB Gen.consts PartDemo.ts [cas] 0 hpC = true

instance : Decidable ChainEmbPartDemo :=
  decidable_of_iff' _ ⟨fun s => And.intro s.hist <| And.intro s.writable <| And.intro s.noPct <| And.intro
      s.flagCoherent s.chainJX,
    fun h => ⟨h.1, h.2.1, h.2.2.1, h.2.2.2.1, h.2.2.2.2⟩⟩

structure UnrelDemo : Prop where
  flagCoherentChain : FlagCoherentChain Gen.consts UnrelDemo.tsS
  notFlagCoherent : ¬ FlagCoherent Gen.consts UnrelDemo.tsS
  writable : Writable Gen.consts UnrelDemo.tsS
  noPct : NoPercentNames UnrelDemo.tsS
  chainJX : chainJXAppliesB Gen.consts UnrelDemo.tsS [UnrelDemo.cas] 0 UnrelDemo.hp = true

instance : Decidable UnrelDemo :=
  decidable_of_iff' _ ⟨fun s => And.intro s.flagCoherentChain <| And.intro s.notFlagCoherent <| And.intro s.writable
      <| And.intro s.noPct s.chainJX,
    fun h => ⟨h.1, h.2.1, h.2.2.1, h.2.2.2.1, h.2.2.2.2⟩⟩

structure EmbeddedTsDemo : Prop where
  hist : histOkB Gen.consts demoOps = true
  writable : Writable Gen.consts demoTs
  noPct : NoPercentNames demoTs
  /-- `f` is both an own and an inherited feature of `x.B` -/
  featuresOfB : ((find? demoTs "x.B").map (fun t => (t.own.map (·.name), t.inh.map (·.name)))) =
    some (["f", "ints", "lst"], ["begin", "end", "sofa", "f", "self_", "arr", "top"])
  saves : (match saveJson Gen.consts demoTs [Cas.empty] 0 [] .full with | .ok _ => true | .error _ => false) = true
  /-- `Writable` is not constantly true -/
  notWritableEmptyDescr : ¬ Writable Gen.consts
    ([TsOp.createType "x.A" "uima.cas.TOP" (some "")].foldl (applyOpS Gen.consts) Gen.builtinTS)

instance : Decidable EmbeddedTsDemo :=
  decidable_of_iff' _ ⟨fun s => And.intro s.hist <| And.intro s.writable <| And.intro s.noPct <| And.intro
      s.featuresOfB <| And.intro s.saves s.notWritableEmptyDescr,
    fun h => ⟨h.1, h.2.1, h.2.2.1, h.2.2.2.1, h.2.2.2.2.1, h.2.2.2.2.2⟩⟩

structure EmbeddedTsRefute : Prop where
  saves : (match saveJson Gen.consts cexTs [Cas.empty] 0 [] .full with | .ok _ => true | .error _ => false) = true
  typesSection : (fullRecs Gen.consts cexTs).map (renderTypeDecl Gen.consts) = cexTypes
  /-- no feature is written under the name `"%NAME"` -/
  noFeatNamedPctNAME : (fullRecs Gen.consts cexTs).any
    (fun t => t.own.any (fun f => (renderFeatDecl Gen.consts f).name == "%NAME")) = false
  -- the original gives `x.A` the description `""`, the type system built from `cexTypes` gives it none
  origDescr : (find? cexTs "x.A").bind (·.descr) = some ""
  loadedDescrNone : afterMerge Gen.consts Gen.builtinTS (fun ts' => (find? ts' "x.A").bind (·.descr) == none) (do
    let ts1 ← ["uima.cas.TOP", "x.A"].foldlM (typeStep Gen.consts cexTypes) Gen.builtinTS
    cexTypes.foldlM (featsStepS Gen.consts) ts1) = true

instance : Decidable EmbeddedTsRefute :=
  decidable_of_iff' _ ⟨fun s => And.intro s.saves <| And.intro s.typesSection <| And.intro s.noFeatNamedPctNAME <| And.intro
      s.origDescr s.loadedDescrNone,
    fun h => ⟨h.1, h.2.1, h.2.2.1, h.2.2.2.1, h.2.2.2.2⟩⟩

theorem emb :
    RoundTripJsonEmbDemo ∧ ChainEmbDemo ∧ RedefDemo ∧ ChainEmbPartDemo ∧
    UnrelDemo ∧ EmbeddedTsDemo ∧ EmbeddedTsRefute := by
  decide +kernel

end Cassis.Facts

namespace Cassis.Json

theorem embDemo_evals : Facts.RoundTripJsonEmbDemo := Facts.emb.1
theorem embDemoChain_evals : Facts.ChainEmbDemo := Facts.emb.2.1
theorem redefDemo_evals : Facts.RedefDemo := Facts.emb.2.2.1
theorem partDemo_evals : Facts.ChainEmbPartDemo := Facts.emb.2.2.2.1
theorem unrelDemo_evals : Facts.UnrelDemo := Facts.emb.2.2.2.2.1
theorem embeddedTsDemo_evals : Facts.EmbeddedTsDemo := Facts.emb.2.2.2.2.2.1
theorem cex_evals : Facts.EmbeddedTsRefute := Facts.emb.2.2.2.2.2.2

end Cassis.Json
