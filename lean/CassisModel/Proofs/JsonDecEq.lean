/-
Equality of JSON documents is decidable (for the instances that compare documents).  `JV` is a nested inductive type, the deriving handler does not apply; the instance is written by hand and proved correct.
-/
import CassisModel.Model.Json

namespace Cassis.Json


mutual
def jvBeq : JV → JV → Bool
  | .null, .null => true
  | .int i, .int j => i == j
  | .flt s, .flt t => s == t
  | .bool a, .bool b => a == b
  | .str s, .str t => s == t
  | .ints l, .ints m => l == m
  | .flts l, .flts m => jvsBeq l m
  | .bools l, .bools m => l == m
  | .strs l, .strs m => l == m
  | .refs l, .refs m => l == m
  | _, _ => false
def jvsBeq : List JV → List JV → Bool
  | [], [] => true
  | a :: l, b :: m => jvBeq a b && jvsBeq l m
  | _, _ => false
end

mutual
theorem jvBeq_sound : ∀ (a b : JV), jvBeq a b = true → a = b
  | .null, b, h => by cases b <;> simp [jvBeq] at h ⊢
  | .int i, b, h => by cases b <;> simp [jvBeq] at h ⊢; exact h
  | .flt s, b, h => by cases b <;> simp [jvBeq] at h ⊢; exact h
  | .bool s, b, h => by cases b <;> simp [jvBeq] at h ⊢; exact h
  | .str s, b, h => by cases b <;> simp [jvBeq] at h ⊢; exact h
  | .ints s, b, h => by cases b <;> simp [jvBeq] at h ⊢; exact h
  | .bools s, b, h => by cases b <;> simp [jvBeq] at h ⊢; exact h
  | .strs s, b, h => by cases b <;> simp [jvBeq] at h ⊢; exact h
  | .refs s, b, h => by cases b <;> simp [jvBeq] at h ⊢; exact h
  | .flts l, b, h => by
    cases b <;> simp [jvBeq] at h ⊢
    exact jvsBeq_sound _ _ h
theorem jvsBeq_sound : ∀ (l m : List JV), jvsBeq l m = true → l = m
  | [], [], _ => rfl
  | [], _ :: _, h => by simp [jvsBeq] at h
  | _ :: _, [], h => by simp [jvsBeq] at h
  | a :: l, b :: m, h => by
    simp only [jvsBeq, Bool.and_eq_true] at h
    rw [jvBeq_sound a b h.1, jvsBeq_sound l m h.2]
end

mutual
theorem jvBeq_refl : ∀ (a : JV), jvBeq a a = true
  | .flts l => by simp only [jvBeq]; exact jvsBeq_refl l
  | .null | .int _ | .flt _ | .bool _ | .str _ | .ints _ | .bools _ | .strs _ | .refs _ => by simp [jvBeq]
theorem jvsBeq_refl : ∀ (l : List JV), jvsBeq l l = true
  | [] => rfl
  | a :: l => by simp only [jvsBeq, Bool.and_eq_true]; exact ⟨jvBeq_refl a, jvsBeq_refl l⟩
end

instance : DecidableEq JV := fun a b =>
  if h : jvBeq a b = true then isTrue (jvBeq_sound a b h)
  else isFalse (fun e => h (e ▸ jvBeq_refl a))

deriving instance DecidableEq for JFs, JFeat, JType, JView, JDoc

end Cassis.Json
