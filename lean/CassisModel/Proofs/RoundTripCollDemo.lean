/-
Non-vacuity of `xmi_roundtrip_coll` (layer C of `RoundTripColl_NOTES.md`): the test `collAppliesB`
(`Spec/RoundTripCollCheck.lean`) answers `true` on the hand-built instance `CollDemo` (every collection kind, inlined and
shared), `false` on the counterexamples to (S1)–(S7), `true` on the instances `ResDemo` with reserved feature names and on
the second layout `CollDemo.hpB` of the same document.  The kernel evaluates the whole test, `saveXmi` included (`Facts.coll`
in `Proofs/InstancesColl.lean`); the statements here are projections of it.
-/
import CassisModel.Proofs.RoundTripCollCheckSound
import CassisModel.Proofs.InstancesColl

namespace Cassis.Xmi

theorem collDemo_applies : collAppliesB CollDemo.K CollDemo.ts [CollDemo.cas] 0 CollDemo.hp = true :=
  collDemo_evals.applies

theorem collDemo_hyps :
    ∃ (c : Cas) (doc : XDoc) (st : Traverse.St), [CollDemo.cas][0]? = some c ∧
      saveXmi CollDemo.K CollDemo.ts [CollDemo.cas] 0 CollDemo.hp = .ok (doc, st) ∧
      RTWf c CollDemo.hp ∧ NullOk CollDemo.ts ∧
      (∀ q ∈ st.allFs, CollFs CollDemo.K CollDemo.ts c 0 st.heap q.2) ∧
      (∀ q ∈ st.allFs, ∀ nv ∈ c.views, q.1 ≠ nv.2.sofa.xid) ∧
      (∀ nv ∈ c.views, ∀ e ∈ Index.all nv.2.idx, slot st.heap e.oid "sofa" ≠ some .none) ∧
      MembersOk c st.heap :=
  collAppliesB_hyps _ _ _ _ _ collDemo_applies

/-! ### the first component of the evaluated examples of `Spec/RoundTripCollCheck.lean` -/

example : CollDemo.cx_demo.1 = true := by simp only [CollDemo.cx_demo, CollDemo.run, collDemo_applies]

/-- the test is not constantly true: an inlined array with `elements = None` (S2) is rejected -/
example : collAppliesB CollDemo.K CollDemo.ts [CollDemo.cas] 0
    (CollDemo.hp.set 2 (CollDemo.arr "uima.cas.IntegerArray" .none)) = false := by
  -- `cx_inline_elements_none` is `run` of this heap: unfold the two definitions, or the elaborator evaluates the test to compare
  have h := collDemo_evals.s2_inlineElementsNone
  simp only [CollDemo.cx_inline_elements_none, CollDemo.run] at h
  exact h

example : CollDemo.cx_fsarray_null.1 = false := collDemo_evals.s1_fsarrayNull          -- (S1)
example : CollDemo.cx_inline_elements_none.1 = false := collDemo_evals.s2_inlineElementsNone  -- (S2)
example : CollDemo.cx_strarray_obj_none.1 = false := collDemo_evals.s3_strarrayObjNone     -- (S3)
example : CollDemo.cx_inline_strlist_empty.1 = false := collDemo_evals.s4_inlineStrlistEmpty  -- (S4)
example : CollDemo.cx_float_token_blank.1 = false := collDemo_evals.s5_floatTokenBlank     -- (S5)
example : CollDemo.cx_byte_range.1 = false := collDemo_evals.s6_byteRange            -- (S6)
example : CollDemo.cx_cyclic_spine.1 = false := collDemo_evals.s7_cyclicSpine          -- (S7)
/-- the test accepts the variations that are no restriction -/
example : CollDemo.ok_obj_elements_none.1 = true := collDemo_evals.okObjElementsNone
example : CollDemo.ok_inline_lists_empty.1 = true := collDemo_evals.okInlineListsEmpty
example : CollDemo.ok_inline_and_shared.1 = true := collDemo_evals.okInlineAndShared

/-! ### reserved names: instances with a feature declared as `self` / `type` (`Spec/RoundTripCollCheck.lean`, `ResDemo`)

The test accepts them (evaluated by the kernel, the writer's `String.ofList f.name.toList.dropLast` included), hence
the hypotheses of `xmi_roundtrip_coll` hold on instances whose type has a reserved feature: a primitive one written as
the attribute `self`, a StringArray written as child elements `type`, a reference written as the attribute `type`. -/

theorem resDemo_applies_self_prim :
    collAppliesB CollDemo.K (ResDemo.resTs "n" "self_") [CollDemo.cas] 0 (ResDemo.resHp "n" "self_") = true :=
  collDemo_evals.resSelfPrim

theorem resDemo_applies_type_kids :
    collAppliesB CollDemo.K (ResDemo.resTs "sa" "type_") [CollDemo.cas] 0 (ResDemo.resHp "sa" "type_") = true :=
  collDemo_evals.resTypeKids

example : collAppliesB CollDemo.K (ResDemo.resTs "next" "type_") [CollDemo.cas] 0 (ResDemo.resHp "next" "type_") = true :=
  collDemo_evals.resTypeRef

/-- all hypotheses of `xmi_roundtrip_coll` hold on an instance with the reserved feature `type_` (a StringArray,
    written as child elements `type`) -/
theorem resDemo_hyps :
    ∃ (c : Cas) (doc : XDoc) (st : Traverse.St), [CollDemo.cas][0]? = some c ∧
      saveXmi CollDemo.K (ResDemo.resTs "sa" "type_") [CollDemo.cas] 0 (ResDemo.resHp "sa" "type_") = .ok (doc, st) ∧
      RTWf c (ResDemo.resHp "sa" "type_") ∧ NullOk (ResDemo.resTs "sa" "type_") ∧
      (∀ q ∈ st.allFs, CollFs CollDemo.K (ResDemo.resTs "sa" "type_") c 0 st.heap q.2) ∧
      (∀ q ∈ st.allFs, ∀ nv ∈ c.views, q.1 ≠ nv.2.sofa.xid) ∧
      (∀ nv ∈ c.views, ∀ e ∈ Index.all nv.2.idx, slot st.heap e.oid "sofa" ≠ some .none) ∧
      MembersOk c st.heap :=
  collAppliesB_hyps _ _ _ _ _ resDemo_applies_type_kids

/-- the flat test (`rtAppliesB`, hypotheses of `xmi_roundtrip_flat`) accepts the flat instance whose type has the two
    reserved features `self_` (integer) and `type_` (reference) -/
theorem resDemo_flat_applies : rtAppliesB CollDemo.K ResDemo.flatTs [ResDemo.flatCas] 0 ResDemo.flatHp = true :=
  collDemo_evals.resFlat

/-- the type of that instance does have a reserved feature -/
example : ((TS.find? (ResDemo.resTs "sa" "type_") "x.Doc").map
    (fun t => (TS.allFeatures t).any (fun f => f.reserved && f.name == "type_"))) = some true :=
  collDemo_evals.resHasReserved

/-! ### the layout `CollDemo.hpB` and the length of the document -/

theorem collDemoB_applies : collAppliesB CollDemo.K CollDemo.ts [CollDemo.cas] 0 CollDemo.hpB = true :=
  collDemoB_evals.applies_hpB

theorem collDemoB_same_doc :
    (saveXmi CollDemo.K CollDemo.ts [CollDemo.cas] 0 CollDemo.hp).toOption.map (·.1) =
      (saveXmi CollDemo.K CollDemo.ts [CollDemo.cas] 0 CollDemo.hpB).toOption.map (·.1) :=
  collDemoB_evals.sameDoc

theorem collDemo_doc_length :
    (saveXmi CollDemo.K CollDemo.ts [CollDemo.cas] 0 CollDemo.hp).toOption.map (fun r => r.1.length) = some 14 :=
  collDemoB_evals.docLength

end Cassis.Xmi
