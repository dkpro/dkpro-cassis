/-
C20 — cas_to_comparable_text ignores ids and creation order but not content.

The model (`Model/Comparable.lean`) splits the function into the traversal (`findAllFs`, C04/C15) and
`renderFrom`, which turns the list of collected structures and the list of indexed structures into the table.
Ids, creation order and insertion order reach `renderFrom` only through the *order* of those two lists (which
structures are collected is the reachable set, by `findAllFs_sound` / `findAllFs_complete` of C04, whatever the ids), and
through the xmi:id-keyed anchor map.  Proved here (`Distinct` is the side condition of the two
`…_perm_invariant` theorems):

* `renderFrom_perm_invariant`: the table is the same for every order of the collected list, every order /
  multiplicity of the indexed list and every content-hash function;
* `sortFs_perm_invariant`, `sortFs_sorted`, `sortFs_perm`: per type the rows are the collected structures of that
  type, ascending by begin and descending by end, independent of the incoming order;
* `typeKeys_perm`, `group_perm`: sections and their members do not depend on the order;
* `renderVal_prim_injective`, `renderCols_prim_sensitive`: a changed primitive feature value changes the row.

Elsewhere: ids (`Properties/C20Ids.lean`); sensitivity to offsets, reference targets, array elements, view and indexed
status at the level of the complete text, and totality (`Properties/C20Sens.lean`); two different heaps and the
save/load round trips (`Properties/C20Iso.lean`, `C20IsoColl.lean`, `C20IsoJsonColl.lean`).
-/
import CassisModel.Proofs.ComparableRel

namespace Cassis.Comparable
open Cassis.TS Cassis.Traverse

/-- under a strict order on the members the sorted list does not depend on the incoming order nor on the hash -/
theorem sortFs_perm_invariant (hp : Heap) (hsh hsh' : Nat → Int) (l l' : List Nat) (hp' : l.Perm l')
    (hn : l.Nodup) (hd : Distinct hp l) (hty : ∀ a ∈ l, ∀ b ∈ l, tyOf hp a = tyOf hp b) :
    sortFs (ltFs hp hsh) l = sortFs (ltFs hp hsh') l' :=
  sortFs_perm_invariant_aux hp hsh hsh' l l' hp' hd hty

theorem sortFs_perm (lt : Nat → Nat → Bool) (l : List Nat) : (sortFs lt l).Perm l :=
  sortFs_perm_aux lt l

/-- rows of a type whose structures all carry offsets ascend by begin, then descend by end -/
theorem sortFs_sorted (hp : Heap) (hsh : Nat → Int) (l : List Nat) (ha : ∀ a ∈ l, isAnnot hp a = true) :
    (sortFs (ltFs hp hsh) l).Pairwise (offsetLe hp) := by
  have hs := sortFs_sorted_gen (ltFs hp hsh) (fun a => isAnnot hp a = true)
    (by
      intro a b sa sb hab
      rw [ltFs_annot hp hsh a b sa sb] at hab
      apply Bool.eq_false_iff.2
      rw [Ne, ltFs_annot hp hsh b a sb sa]
      omega)
    (by
      intro a b c sa sb sc hab hbc
      rw [ltFs_annot hp hsh a b sa sb] at hab
      rw [ltFs_annot hp hsh b c sb sc] at hbc
      rw [ltFs_annot hp hsh a c sa sc]
      refine ⟨?_, by omega⟩
      intro hac
      subst hac
      omega)
    l ha
  refine hs.imp_of_mem ?_
  intro a b hma hmb hab
  have sa := ha a ((sortFs_perm _ l).subset hma)
  have sb := ha b ((sortFs_perm _ l).subset hmb)
  have hab' := Bool.eq_false_iff.1 hab
  rw [Ne, ltFs_annot hp hsh b a sb sa] at hab'
  unfold offsetLe
  by_cases h : b = a
  · subst h; omega
  · omega

theorem group_perm (hp : Heap) (addrs addrs' : List Nat) (h : addrs.Perm addrs') (t : String) :
    (group hp addrs t).Perm (group hp addrs' t) :=
  h.filter _

theorem typeKeys_perm (hp : Heap) (addrs addrs' : List Nat) (h : addrs.Perm addrs') :
    sortNames (typeKeys hp addrs) = sortNames (typeKeys hp addrs') :=
  sortNames_perm_eq _ _ (typeKeys_perm_of_perm hp addrs addrs' h)

/-- **the table depends only on the set of collected structures and the set of indexed structures** -/
theorem renderFrom_perm_invariant (K : Consts) (ts : TypeSystem) (cass : List Cas) (hp : Heap) (o : Opts)
    (hsh hsh' : Nat → Int) (indexed indexed' addrs addrs' : List Nat)
    (hperm : addrs.Perm addrs') (hidx : ∀ a, a ∈ indexed ↔ a ∈ indexed')
    (hn : addrs.Nodup) (hd : Distinct hp addrs) :
    renderFrom K ts cass hp o hsh indexed addrs = renderFrom K ts cass hp o hsh' indexed' addrs' :=
  renderFrom_perm K ts cass hp o hsh hsh' hperm hidx hd

/-- distinct primitive values of one kind give distinct cells -/
theorem renderVal_prim_injective (K : Consts) (hp hp' : Heap) (byId byId' : List (Option Int × String)) (f f' : Nat)
    (p p' : Val) (hk : SameKindPrim p p') (c : Cell)
    (h : renderVal K hp byId f p = .ok c) (h' : renderVal K hp' byId' f' p' = .ok c) : p = p' := by
  cases p <;> cases p' <;> try exact hk.elim
  all_goals
    cases f <;> cases f' <;> cases h <;> cases h' <;> rfl

/-- a structure whose primitive feature `f` differs is rendered differently (whatever else differs) -/
theorem renderCols_prim_sensitive (K : Consts) (hp hp' : Heap) (byId byId' : List (Option Int × String)) (a a' : Nat)
    (cols : List String) (f : String) (p p' : Val) (hf : f ∈ cols)
    (hs : slot hp a f = some p) (hs' : slot hp' a' f = some p') (hk : SameKindPrim p p') (hne : p ≠ p')
    (cs cs' : List Cell) (h : renderCols K hp byId a cols = .ok cs) (h' : renderCols K hp' byId' a' cols = .ok cs') :
    cs ≠ cs' := by
  rintro rfl
  rw [renderCols_eq_mapM] at h h'
  obtain ⟨c, _, hc, hc'⟩ := Det.mapM_ok_both h h' hf
  rw [hs] at hc
  rw [hs'] at hc'
  exact hne (renderVal_prim_injective K hp hp' byId byId' _ _ p p' hk c hc hc')

example : sortFs (fun a b => a < b) [3, 1, 2] = [1, 2, 3] := by decide
example : sortNames ["x.B", "x.A"] = ["x.A", "x.B"] := by decide

end Cassis.Comparable
