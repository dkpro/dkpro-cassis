/-
Boolean checkers for the invariants on *concrete* tables.  They live on the specification side (plain
definitions, no proofs) so that the compiled driver can evaluate them on the regenerated built-in
table (`Proofs/TypeSystem.lean`, `Proofs/Features.lean` prove them sound: `consistentB ts = true → Consistent ts`,
`featInvB ts = true → FeatInv ts`; the kernel decides them on the root table `initTS` only, the regenerated tables
inherit the invariants along their creation script: `builtins_of_init`, `Proofs/ApiHistory.lean`).
-/
import CassisModel.Spec.TypeSystem
import CassisModel.Spec.Features

namespace Cassis.TS

def nodupB : List String → Bool
  | [] => true
  | a :: l => !(l.contains a) && nodupB l

def consistentB (ts : TypeSystem) : Bool :=
  nodupB (ts.types.map (·.name)) &&
  (match find? ts TOP with
    | some t => t.super.isNone
    | none => false) &&
  (ts.types.all fun t => t.super.isSome || t.name == TOP) &&
  (ts.types.all fun t => match t.super with
    | none => true
    | some s => hasExact ts s) &&
  (ts.types.all fun ta => ta.children.all fun b => match find? ts b with
    | some tb => tb.super == some ta.name
    | none => false) &&
  (ts.types.all fun tb => match tb.super with
    | none => true
    | some a => match find? ts a with
      | some ta => ta.children.contains tb.name
      | none => false) &&
  (ts.types.all fun t => nodupB t.children) &&
  ((List.range ts.types.length).all fun i => match ts.types[i]? with
    | none => true
    | some t => match t.super with
      | none => true
      | some s => (ts.types.take i).any (·.name == s))

def featInvB (ts : TypeSystem) : Bool :=
  ts.types.all fun t =>
    nodupB (fnames t.own) && nodupB (fnames t.inh) &&
    (t.own.all fun f => t.inh.all fun g => !(f.name == g.name) || featureEq f g) &&
    (match t.super with
     | none => t.inh.isEmpty
     | some s => match find? ts s with
       | none => true
       | some ps =>
         (t.inh.all fun g => (fnames (allFeatures ps)).contains g.name) &&
         ((allFeatures ps).all fun f => (fnames t.inh).contains f.name) &&
         (t.inh.all fun g => (allFeatures ps).all fun f => !(f.name == g.name) || featureEq f g))

end Cassis.TS

namespace Cassis.Gen
open Cassis.TS

/-- the obligations about the regenerated table, evaluated by compiled code (the theorems `consistent_builtins`, `featInv_builtins`
    obtain the invariants by replaying the creation script, not by deciding these tests) -/
def builtinSelfCheck : List (String × Bool) :=
  [ ("replay builtinScript = builtinTS", decide (replay consts builtinScript = some builtinTS)),
    ("consistentB builtinTS", consistentB builtinTS),
    ("consistentB builtinTSNoDoc", consistentB builtinTSNoDoc),
    ("featInvB builtinTS", featInvB builtinTS),
    ("featInvB builtinTSNoDoc", featInvB builtinTSNoDoc) ]

end Cassis.Gen
