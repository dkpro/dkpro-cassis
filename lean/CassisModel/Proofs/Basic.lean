/-
Association lists (`alistGet?`, `alistSet`, `Model/Basic.lean`): the facts about lookup, update, keys and concatenation
that the proofs of several areas share.  `alistGet?_set_same` / `alistGet?_set_other` stand next to the definitions.
-/
import CassisModel.Model.Basic

namespace Cassis

universe u v
variable {β : Type u} {γ : Type v}

theorem alistGet?_cons (k' : String) (v' : β) (rest : List (String × β)) (k : String) :
    alistGet? ((k', v') :: rest) k = if k' = k then some v' else alistGet? rest k := rfl

theorem alistGet?_cons_self (k : String) (v : β) (l : List (String × β)) : alistGet? ((k, v) :: l) k = some v := by
  rw [alistGet?_cons, if_pos rfl]

theorem alistGet?_cons_ne (k k' : String) (v : β) (l : List (String × β)) (h : k' ≠ k) :
    alistGet? ((k', v) :: l) k = alistGet? l k := by
  rw [alistGet?_cons, if_neg h]

theorem alistSet_nil (k : String) (v : β) : alistSet ([] : List (String × β)) k v = [(k, v)] := rfl

theorem alistSet_cons (k' : String) (v' : β) (rest : List (String × β)) (k : String) (v : β) :
    alistSet ((k', v') :: rest) k v = if k' = k then (k, v) :: rest else (k', v') :: alistSet rest k v := rfl

theorem alistGet?_mem : ∀ (l : List (String × β)) (k : String) (v : β), alistGet? l k = some v → (k, v) ∈ l
  | [], _, _, h => nomatch h
  | (k', v') :: rest, k, v, h => by
    rw [alistGet?_cons] at h
    split at h
    · rename_i hk
      cases h
      exact hk ▸ List.mem_cons_self
    · exact List.mem_cons_of_mem _ (alistGet?_mem rest k v h)

theorem alistGet?_mem_keys (l : List (String × β)) (k : String) (v : β) (h : alistGet? l k = some v) :
    k ∈ l.map (·.1) :=
  List.mem_map.mpr ⟨(k, v), alistGet?_mem l k v h, rfl⟩

theorem alistGet?_isSome_iff (l : List (String × β)) (k : String) :
    (alistGet? l k).isSome = true ↔ k ∈ l.map (·.1) := by
  induction l with
  | nil => simp [alistGet?]
  | cons p rest ih =>
    obtain ⟨k', v'⟩ := p
    rw [alistGet?_cons, List.map_cons, List.mem_cons]
    by_cases hk : k' = k
    · rw [if_pos hk]
      exact ⟨fun _ => .inl hk.symm, fun _ => rfl⟩
    · rw [if_neg hk, ih]
      exact ⟨.inr, fun h => h.resolve_left fun e => hk e.symm⟩

theorem alistGet?_eq_none_iff (l : List (String × β)) (k : String) : alistGet? l k = none ↔ k ∉ l.map (·.1) := by
  rw [← alistGet?_isSome_iff]
  cases alistGet? l k <;> simp

theorem alistGet?_single {k n : String} {w v : β} (h : alistGet? [(k, w)] n = some v) : k = n ∧ v = w := by
  rw [alistGet?_cons] at h
  split at h
  · rename_i hk
    exact ⟨hk, (Option.some.inj h).symm⟩
  · cases h

theorem eq_single_of_keys : ∀ (l : List (String × β)) (k : String) (v : β), l.map (·.1) = [k] →
    alistGet? l k = some v → l = [(k, v)]
  | [], _, _, h, _ => nomatch h
  | [(k', v')], k, v, h, hg => by
    simp only [List.map_cons, List.map_nil, List.cons.injEq, and_true] at h
    subst h
    rw [alistGet?_cons_self] at hg
    cases hg
    rfl
  | _ :: _ :: _, _, _, h, _ => by simp at h

theorem alistGet?_alistSet (l : List (String × β)) (k n : String) (v : β) :
    alistGet? (alistSet l k v) n = if n = k then some v else alistGet? l n := by
  by_cases h : n = k
  · subst h; rw [if_pos rfl]; exact alistGet?_set_same l n v
  · rw [if_neg h]; exact alistGet?_set_other l k n v h

theorem mem_alistSet : ∀ (l : List (String × β)) (k : String) (v : β) (x : String × β),
    x ∈ alistSet l k v → x = (k, v) ∨ x ∈ l
  | [], _, _, _, h => .inl (List.mem_singleton.mp h)
  | (k', v') :: rest, k, v, x, h => by
    rw [alistSet_cons] at h
    split at h
    · rcases List.mem_cons.mp h with h | h
      · exact .inl h
      · exact .inr (List.mem_cons_of_mem _ h)
    · rcases List.mem_cons.mp h with h | h
      · exact .inr (h ▸ List.mem_cons_self)
      · exact (mem_alistSet rest k v x h).imp_right (List.mem_cons_of_mem _)

theorem alistSet_keys (l : List (String × β)) (k : String) (v : β) :
    (alistSet l k v).map (·.1) = if k ∈ l.map (·.1) then l.map (·.1) else l.map (·.1) ++ [k] := by
  induction l with
  | nil => simp [alistSet_nil]
  | cons p rest ih =>
    obtain ⟨k', v'⟩ := p
    rw [alistSet_cons]
    by_cases hk : k' = k
    · subst hk
      simp
    · have hk' : ¬ k = k' := fun h => hk h.symm
      simp only [hk, if_false, List.map_cons, ih, List.mem_cons, hk', false_or]
      split <;> simp

theorem alistSet_keys_of_mem (l : List (String × β)) (k : String) (v : β) (h : k ∈ l.map (·.1)) :
    (alistSet l k v).map (·.1) = l.map (·.1) := by
  rw [alistSet_keys, if_pos h]

theorem alistSet_of_not_mem (l : List (String × β)) (k : String) (v : β) (h : k ∉ l.map (·.1)) :
    alistSet l k v = l ++ [(k, v)] := by
  induction l with
  | nil => rfl
  | cons p rest ih =>
    obtain ⟨k', v'⟩ := p
    rw [List.map_cons, List.mem_cons, not_or] at h
    rw [alistSet_cons, if_neg (fun e => h.1 e.symm), ih h.2]
    rfl

theorem alistSet_of_none (l : List (String × β)) (k : String) (v : β) (h : alistGet? l k = none) :
    alistSet l k v = l ++ [(k, v)] :=
  alistSet_of_not_mem l k v ((alistGet?_eq_none_iff l k).mp h)

theorem alistGet?_append (A B : List (String × β)) (k : String) :
    alistGet? (A ++ B) k = match alistGet? A k with | some v => some v | none => alistGet? B k := by
  induction A with
  | nil => rfl
  | cons p A ih =>
    obtain ⟨k', v'⟩ := p
    rw [List.cons_append, alistGet?_cons, alistGet?_cons]
    by_cases hk : k' = k
    · rw [if_pos hk, if_pos hk]
    · rw [if_neg hk, if_neg hk]; exact ih

theorem alistGet?_append_of_none (l1 l2 : List (String × β)) (k : String) (h : alistGet? l1 k = none) :
    alistGet? (l1 ++ l2) k = alistGet? l2 k := by
  rw [alistGet?_append, h]

theorem alistGet?_append_of_some (l1 l2 : List (String × β)) (k : String) (v : β) (h : alistGet? l1 k = some v) :
    alistGet? (l1 ++ l2) k = some v := by
  rw [alistGet?_append, h]

theorem alistGet?_append_mid (pre : List (String × β)) (k : String) (v : β) (post : List (String × β))
    (h : k ∉ pre.map (·.1)) : alistGet? (pre ++ (k, v) :: post) k = some v := by
  rw [alistGet?_append_of_none _ _ _ ((alistGet?_eq_none_iff pre k).mpr h), alistGet?_cons_self]

theorem alistSet_append_mid (pre : List (String × β)) (k : String) (v v' : β) (post : List (String × β))
    (h : k ∉ pre.map (·.1)) : alistSet (pre ++ (k, v) :: post) k v' = pre ++ (k, v') :: post := by
  induction pre with
  | nil => rw [List.nil_append, alistSet_cons, if_pos rfl]; rfl
  | cons p rest ih =>
    obtain ⟨k', w⟩ := p
    rw [List.map_cons, List.mem_cons, not_or] at h
    rw [List.cons_append, alistSet_cons, if_neg (fun e => h.1 e.symm), ih h.2]
    rfl

theorem alistGet?_mapVal (g : String → β → γ) (l : List (String × β)) (k : String) :
    alistGet? (l.map (fun kv => (kv.1, g kv.1 kv.2))) k = (alistGet? l k).map (g k) := by
  induction l with
  | nil => rfl
  | cons p rest ih =>
    obtain ⟨k', v'⟩ := p
    rw [List.map_cons, alistGet?_cons, alistGet?_cons]
    by_cases hk : k' = k
    · rw [if_pos hk, if_pos hk, hk]; rfl
    · rw [if_neg hk, if_neg hk]; exact ih

theorem alistGet?_map_self (g : String → β) (l : List String) (k : String) (hk : k ∈ l) :
    alistGet? (l.map (fun n => (n, g n))) k = some (g k) := by
  induction l with
  | nil => cases hk
  | cons m l ih =>
    rw [List.map_cons, alistGet?_cons]
    by_cases hm : m = k
    · rw [if_pos hm, hm]
    · rw [if_neg hm]
      exact ih ((List.mem_cons.mp hk).resolve_left fun e => hm e.symm)

theorem alistGet?_map_isSome (g : String → β) (l : List String) (k : String) :
    (alistGet? (l.map (fun n => (n, g n))) k).isSome = true ↔ k ∈ l := by
  rw [alistGet?_isSome_iff, List.map_map]
  exact ⟨fun h => by simpa using h, fun h => by simpa using h⟩

theorem alistGet?_of_keys (l : List (String × β)) (l' : List (String × γ)) (n : String) (w : γ)
    (hk : l.map (·.1) = l'.map (·.1)) (h : alistGet? l' n = some w) : ∃ v, alistGet? l n = some v :=
  Option.isSome_iff_exists.mp
    ((alistGet?_isSome_iff l n).mpr (hk ▸ (alistGet?_isSome_iff l' n).mp (by rw [h]; rfl)))

theorem nodup_snoc {α} {l : List α} {a : α} (h : l.Nodup) (ha : a ∉ l) : (l ++ [a]).Nodup := by
  rw [List.nodup_append]
  refine ⟨h, List.pairwise_singleton _ _, ?_⟩
  intro b hb c hc e
  rw [List.mem_singleton.mp hc] at e
  exact ha (e ▸ hb)

theorem alistSet_keys_congr {β γ} (l1 : List (String × β)) (l2 : List (String × γ)) (k : String)
    (v1 : β) (v2 : γ) (h : l1.map (·.1) = l2.map (·.1)) :
    (alistSet l1 k v1).map (·.1) = (alistSet l2 k v2).map (·.1) := by
  rw [alistSet_keys, alistSet_keys, h]

theorem alistSet_keys_nodup {β} (l : List (String × β)) (k : String) (v : β)
    (h : (l.map (·.1)).Nodup) : ((alistSet l k v).map (·.1)).Nodup := by
  rw [alistSet_keys]
  split
  · exact h
  · exact nodup_snoc h ‹_›

theorem alistSet_map_same {β γ} (g : String × β → γ) (l : List (String × β)) (k : String) (v v' : β)
    (h : alistGet? l k = some v) (hg : g (k, v') = g (k, v)) :
    (alistSet l k v').map g = l.map g := by
  induction l with
  | nil => cases h
  | cons p rest ih =>
    obtain ⟨k', w⟩ := p
    rw [alistGet?_cons] at h
    rw [alistSet_cons]
    split at h
    · rename_i hk
      cases h
      subst hk
      simp only [if_true, List.map_cons, hg]
    · rename_i hk
      simp only [hk, if_false, List.map_cons, ih h]

theorem alistSet_alistSet {β} (l : List (String × β)) (k : String) (v v' : β) :
    alistSet (alistSet l k v) k v' = alistSet l k v' := by
  induction l with
  | nil => simp [alistSet_nil, alistSet_cons]
  | cons p rest ih =>
    obtain ⟨k', w⟩ := p
    by_cases hk : k' = k
    · simp [alistSet_cons, hk]
    · simp [alistSet_cons, hk, ih]

theorem alistSet_alistSet_get {β} (l : List (String × β)) (k : String) (v w : β) (h : alistGet? l k = some w) :
    alistSet (alistSet l k v) k w = l := by
  induction l with
  | nil => cases h
  | cons p rest ih =>
    obtain ⟨k', v'⟩ := p
    rw [alistGet?_cons] at h
    by_cases hk : k' = k
    · subst hk
      rw [if_pos rfl] at h
      cases h
      simp [alistSet_cons]
    · rw [if_neg hk] at h
      rw [alistSet_cons, if_neg hk, alistSet_cons, if_neg hk, ih h]

theorem alistGet?_perm {β} {l l' : List (String × β)} (h : l.Perm l') (hn : (l.map (·.1)).Nodup) (k : String) :
    alistGet? l k = alistGet? l' k := by
  induction h with
  | nil => rfl
  | cons x _ ih =>
    obtain ⟨k', v'⟩ := x
    rw [List.map_cons, List.nodup_cons] at hn
    rw [alistGet?_cons, alistGet?_cons]
    by_cases e : k' = k
    · rw [if_pos e, if_pos e]
    · rw [if_neg e, if_neg e]; exact ih hn.2
  | swap x y l =>
    obtain ⟨kx, vx⟩ := x
    obtain ⟨ky, vy⟩ := y
    simp only [List.map_cons, List.nodup_cons, List.mem_cons, not_or] at hn
    have hne : ky ≠ kx := hn.1.1
    simp only [alistGet?_cons]
    by_cases e1 : ky = k
    · have e2 : ¬ kx = k := fun e => hne (e1.trans e.symm)
      rw [if_pos e1, if_neg e2, if_pos e1]
    · rw [if_neg e1, if_neg e1]
  | trans h1 _ ih1 ih2 =>
    rw [ih1 hn]
    exact ih2 ((h1.map (·.1)).nodup_iff.mp hn)

end Cassis
