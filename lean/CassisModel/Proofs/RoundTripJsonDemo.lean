/-
Non-vacuity of `json_roundtrip_flat` (`Properties/C02RoundTrip.lean`): the instance `Xmi.Demo` of `Proofs/InstancesFlat.lean` (the
built-in type system plus the annotation type `x.Tok`, a CAS over the text `a😀b`, two `x.Tok` structures that refer to
each other, one of them indexed) satisfies every hypothesis of the theorem (`demo_hypsJ`).
-/
import CassisModel.Proofs.RoundTripDemo

namespace Cassis.Json.Demo
open Cassis.Xmi Cassis.Traverse Cassis.Xmi.Demo

theorem save_litJ : (saveJson K demoTS' [casL] 0 hpL .none).toOption.map (fun r => (r.2.heap, r.2.allFs)) =
    some (hpS, [(2,0),(3,1)]) :=
  demoJson_evals.saved

theorem save_stJ {doc : JDoc} {st : Traverse.St} (hs : saveJson K demoTS' [casL] 0 hpL .none = .ok (doc, st)) :
    st.heap = hpS ∧ st.allFs = [(2, 0), (3, 1)] := by
  obtain ⟨_, hr, he⟩ := Det.ok_of_toOption_map save_litJ
  cases hs.symm.trans hr
  exact Prod.mk.inj he

/-- **non-vacuity**: every hypothesis of `json_roundtrip_flat` holds for `K := Gen.consts`, `ts := demoTS`,
    `cass := [demo.1]`, `ci := 0`, `c := demo.1`, `hp := demo.2` and the `(doc, st)` that `saveJson` returns -/
theorem demo_hypsJ : ∃ (doc : JDoc) (st : Traverse.St),
    saveJson K demoTS [demo.1] 0 demo.2 .none = .ok (doc, st) ∧
    [demo.1][0]? = some demo.1 ∧ RTWf demo.1 demo.2 ∧
    (∀ q ∈ st.allFs, FlatFs K demoTS demo.1 0 st.heap q.2) ∧
    (∀ q ∈ st.allFs, JsonFs demoTS st.heap q.2) ∧
    (∀ nv ∈ demo.1.views, ∀ e ∈ Index.all nv.2.idx, (xidOf demo.2 e.oid).isSome = true) ∧
    (∀ q ∈ st.allFs, ∀ nv ∈ demo.1.views, q.1 ≠ nv.2.sofa.xid) ∧
    (∀ nv ∈ demo.1.views, ∀ e ∈ Index.all nv.2.idx, Xmi.slot st.heap e.oid "sofa" ≠ some .none) ∧
    MembersOk demo.1 st.heap := by
  rw [demo_eq, demo'_lit, demoTS_eq]
  obtain ⟨c, doc, st, hc, hs, h⟩ := jflatAppliesB_hyps _ _ _ _ _ demoJson_evals.applies
  cases hc
  exact ⟨doc, st, hs, rfl, h⟩

end Cassis.Json.Demo
