/-
The normalised CAS (`normCas`, `ChainDefs.lean`: every sofa gets the converter the sofa setter builds for its text): its
views correspond to the written ones as before (`VRL.norm`), it is in the JSON fragment when the CAS is (`lokJ_norm`), and
it is written as the same JSON elements (`renderSofa_norm`, `elemOfJ_norm`), provided the converters agree on the offsets
inside the texts (true for what the XMI reader installs: `conv_p2e_eq`).
-/
import CassisModel.Proofs.ChainDefs

namespace Cassis.Chain
open Cassis.Traverse Cassis.Xmi Cassis.Json

theorem getViewRec_norm (c : Cas) (vn : String) :
    Cas.getViewRec (normCas c) vn = (Cas.getViewRec c vn).map normView := by
  unfold Cas.getViewRec normCas
  show alistGet? (c.views.map _) vn = _
  induction c.views with
  | nil => rfl
  | cons p r ih =>
    obtain ⟨k, v⟩ := p
    simp only [List.map_cons, alistGet?]
    by_cases hk : k = vn
    · rw [if_pos hk, if_pos hk]; rfl
    · rw [if_neg hk, if_neg hk]; exact ih

theorem defaultSeeds_norm (c : Cas) : defaultSeeds (normCas c) = defaultSeeds c := by
  unfold defaultSeeds normCas
  show (c.views.map _).flatMap _ = _
  rw [List.flatMap_map]
  rfl

theorem membersOk_norm {c : Cas} {H : Heap} (h : MembersOk c H) : MembersOk (normCas c) H := by
  intro nv hnv
  obtain ⟨nv0, hnv0, rfl⟩ := List.mem_map.mp hnv
  exact h nv0 hnv0

theorem mem_sofa_norm {c : Cas} {H : Heap}
    (h : ∀ nv ∈ c.views, ∀ e ∈ Index.all nv.2.idx, Xmi.slot H e.oid "sofa" ≠ some .none) :
    ∀ nv ∈ (normCas c).views, ∀ e ∈ Index.all nv.2.idx, Xmi.slot H e.oid "sofa" ≠ some .none := by
  intro nv hnv
  obtain ⟨nv0, hnv0, rfl⟩ := List.mem_map.mp hnv
  exact h nv0 hnv0

theorem dis_norm {c : Cas} {L : List (Int × Nat)} (h : ∀ q ∈ L, ∀ nv ∈ c.views, q.1 ≠ nv.2.sofa.xid) :
    ∀ q ∈ L, ∀ nv ∈ (normCas c).views, q.1 ≠ nv.2.sofa.xid := by
  intro q hq nv hnv
  obtain ⟨nv0, hnv0, rfl⟩ := List.mem_map.mp hnv
  exact h q hq nv0 hnv0

theorem viewContent_norm (H : Heap) (c : Cas) :
    (normCas c).views.map (viewContent H) = c.views.map (viewContent H) := by
  unfold normCas
  show (c.views.map _).map _ = _
  rw [List.map_map]
  rfl

/-- the sofas are rendered alike (the converter is not part of the document; without a byte array the heap is not
    consulted) -/
theorem renderSofa_norm (hp hp' : Heap) (c : Cas) (harr : ∀ nv ∈ c.views, nv.2.sofa.arr = .none) :
    (normCas c).views.map (fun p => Json.renderSofa hp' p.2.sofa) = c.views.map (fun p => Json.renderSofa hp p.2.sofa) := by
  unfold normCas
  show (c.views.map _).map _ = _
  rw [List.map_map]
  apply List.map_congr_left
  intro nv hnv
  have := harr nv hnv
  show Json.renderSofa hp' (normView nv.2).sofa = Json.renderSofa hp nv.2.sofa
  unfold Json.renderSofa normView
  simp only [this]

theorem jviews_norm (H : Heap) (c : Cas) : (normCas c).views.map (jviewH H) = c.views.map (jviewOf H) := by
  unfold normCas
  show (c.views.map _).map _ = _
  rw [List.map_map]
  rfl

/-- the common view relation does not mention the converter -/
theorem VRL.norm {H : Heap} {na : Int → Nat} : ∀ {l l' : List (String × View)}, VRL H na l l' →
    VRL H na l (l'.map fun nv => (nv.1, normView nv.2))
  | [], [], _ => trivial
  | [], _ :: _, h => h.elim
  | _ :: _, [], h => h.elim
  | _ :: _, _ :: _, ⟨h, hr⟩ => ⟨h, VRL.norm hr⟩

theorem extInt_norm {cassA cassB : List Cas} {c : Cas} {ci : Nat} {o : Obj} {isAnn : Bool}
    (hcA : cassA[ci]? = some c) (hcB : cassB[ci]? = some (normCas c))
    (hconv : ∀ nv ∈ c.views, ∀ t, nv.2.sofa.text = some t → ∀ k, k ≤ t.length →
      Offsets.pythonToExternal nv.2.sofa.conv k = Offsets.pythonToExternal (some (Offsets.table t)) k)
    (hann : isAnn = true → AnnOk c ci o)
    (n : String) (i : Int) (hi : alistGet? o.slots n = some (.int i)) :
    extInt cassB isAnn o n i = extInt cassA isAnn o n i := by
  by_cases hcond : (isAnn && (n == "begin" || n == "end")) = true
  · simp only [Bool.and_eq_true, Bool.or_eq_true, beq_iff_eq] at hcond
    obtain ⟨rfl, hn⟩ := hcond
    obtain ⟨vn, v, text, b, e, hs, hv, ht, hb, he, hbl, hel⟩ := hann rfl
    obtain ⟨k, hk, rfl⟩ : ∃ k : Nat, k ≤ text.length ∧ i = (k : Int) := by
      rcases hn with rfl | rfl
      · rw [hb] at hi; cases hi; exact ⟨b, hbl, rfl⟩
      · rw [he] at hi; cases hi; exact ⟨e, hel, rfl⟩
    rw [extInt_mapped hn hs (view := normView v) (by rw [hcB, Option.bind_some, getViewRec_norm, hv]; rfl),
      extInt_mapped hn hs (by rw [hcA]; exact hv),
      Int.toNat_natCast, hconv (vn, v) (alistGet?_mem c.views vn v hv) text ht k hk]
    rw [show (normView v).sofa.conv = Offsets.createMapping none v.sofa.text from rfl, ht]
    rfl
  · rw [extInt_plain (Bool.eq_false_iff.mpr hcond), extInt_plain (Bool.eq_false_iff.mpr hcond)]

end Cassis.Chain

namespace Cassis.ChainC
open Cassis.TS Cassis.Json Cassis.Chain

theorem jgenFs_norm {K : Consts} {ts : TypeSystem} {c : Cas} {ci : Nat} {H : Heap} {a : Nat}
    (h : JGenFs K ts c ci H a) : JGenFs K ts (normCas c) ci H a := by
  obtain ⟨o, t, ho, ht, g⟩ := jgenFs_iff.mp h
  refine jgenFs_iff.mpr ⟨o, t, ho, ht, g.copy rfl rfl (fun f _ hf => ?_) fun h => ?_⟩
  · obtain ⟨r1, r2, r3, r4, r5, v, hv, hcase⟩ := hf
    refine ⟨r1, r2, r3, r4, r5, v, hv, ?_⟩
    rcases hcase with ⟨hn, hs⟩ | hr
    · refine Or.inl ⟨hn, ?_⟩
      rcases hs with ⟨vn, hvn, hsome⟩ | hs
      · refine Or.inl ⟨vn, hvn, ?_⟩
        rw [getViewRec_norm, Option.isSome_map]; exact hsome
      · exact Or.inr hs
    · exact Or.inr hr
  · exact h.copy (E := fun _ v => v) (fun _ _ h => h) (fun _ => rfl) (fun _ _ => rfl)
      fun vn v hv => ⟨normView v, by rw [getViewRec_norm, hv]; rfl, rfl⟩

theorem lokJ_norm {K : Consts} {ts : TypeSystem} {c : Cas} {ci : Nat} {H : Heap} {L : List (Int × Nat)}
    (h : LOkJ K ts c ci H L) : LOkJ K ts (normCas c) ci H L := by
  refine ⟨fun q hq => ?_, h.ids, h.nodup, h.closed, h.closedE, ?_⟩
  · obtain ⟨hk, hj⟩ := h.coll q hq
    refine ⟨?_, hj⟩
    rcases hk with hg | ha
    · exact .inl (jgenFs_norm hg)
    · exact .inr ha
  · intro nv hnv
    obtain ⟨nv0, hnv0, rfl⟩ := List.mem_map.mp hnv
    exact h.members nv0 hnv0

/-- the elements of the collected structures do not change: only offsets inside the text of the sofa are converted -/
theorem elemOfJ_norm {K : Consts} {ts : TypeSystem} {cassA cassB : List Cas} {c : Cas} {ci : Nat} {H : Heap}
    (hcA : cassA[ci]? = some c) (hcB : cassB[ci]? = some (normCas c))
    (hconv : ∀ nv ∈ c.views, ∀ t, nv.2.sofa.text = some t → ∀ k, k ≤ t.length →
      Offsets.pythonToExternal nv.2.sofa.conv k = Offsets.pythonToExternal (some (Offsets.table t)) k)
    (q : Int × Nat) (hcoll : JGenFs K ts c ci H q.2 ∨ JArrFs K ts H q.2) :
    elemOfJ K ts cassB H q = elemOfJ K ts cassA H q := by
  rcases hcoll with hg | ha
  · obtain ⟨o, t, ho, ht, g⟩ := jgenFs_iff.mp hg
    unfold elemOfJ
    simp only [ho, ht]
    split
    · rfl
    · unfold genJFs
      congr 1
      apply Det.flatMap_congr
      intro f hf
      obtain ⟨hres, _, _, _, _, v, hv, hcase⟩ := g.feat f hf
      unfold jmemF
      rw [hv, Option.getD_some]
      rcases hcase with ⟨_, ⟨vn, rfl, hsome⟩ | ⟨rfl, _⟩⟩ | ⟨_, _, hp⟩ | ⟨_, _, _, _, _, hr⟩
      · unfold jmem
        simp only [hcB, hcA, Option.bind_some, getViewRec_norm]
        cases hview : Cas.getViewRec c vn with
        | none => rfl
        | some view => rfl
      · rfl
      · rcases hp with rfl | ⟨_, i, rfl⟩ | ⟨_, s, rfl⟩ | ⟨_, b, rfl⟩ | ⟨_, t, rfl⟩
        · rfl
        · unfold jmem
          simp only
          rw [Json.extInt_xmlName cassB _ o f hres, Json.extInt_xmlName cassA _ o f hres,
            extInt_norm hcA hcB hconv g.ann f.name i hv]
        · rfl
        · rfl
        · rfl
      · rcases hr with rfl | ⟨b, rfl, _⟩
        · rfl
        · rfl
  · obtain ⟨o, _, _, _, ho, _⟩ := ha.obj
    have hcond := jarr_cond ha ho
    unfold elemOfJ
    rw [ho]
    dsimp only
    rw [hcond]
    rfl

end Cassis.ChainC
