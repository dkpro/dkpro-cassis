/-
The third pass of the reader (`buildCas`): the conversion of one annotation, the invariant of the build state and the
step for one member of one view.  The view being filled may stand anywhere in the list of views (the initial view is
filled in place, every other view is the last one when it is filled).
-/
import CassisModel.Proofs.Pass3Ctx
import CassisModel.Proofs.Pass3ObjRel

namespace Cassis.Xmi.RTB

theorem extInt_ann (cass : List Cas) {ci : Nat} {c : Cas} (hc : cass[ci]? = some c) {o : Obj} {vn : String} {v : View}
    (hs : alistGet? o.slots "sofa" = some (.sofa ci vn)) (hv : Cas.getViewRec c vn = some v) (n : String)
    (hn : n = "begin" ∨ n = "end") (i : Nat) :
    extInt cass true o n (i : Int) = ((Offsets.pythonToExternal v.sofa.conv i : Nat) : Int) := by
  rw [extInt_mapped hn hs (by rw [hc]; exact hv), if_neg (by omega), Int.toNat_natCast]

end Cassis.Xmi.RTB

namespace Cassis.Xmi.Pass3
open Cassis.TS Cassis.Xmi.RTB Cassis.Xmi.LPC

theorem convert_ann {K : Consts} {ts : TypeSystem} {cass : List Cas} {ci : Nat} {c : Cas} {hp H : Heap}
    {L : List (Int × Nat)} {na : Int → Nat} {n0 : Nat} {p : Pass1} {E2 E3 : Obj → String → Val → Val} {ci' : Nat}
    (ctx : CtxC K ts cass ci c hp H L na n0 p) (hE : ExpOk ts cass ci' E2 E3) {m : Int} {am : Nat} (hq : (m, am) ∈ L)
    {o o' : Obj} {hpX : Heap} (ho : H[am]? = some o) (ho' : hpX[na m]? = some o') {C Kp : Prop}
    (hok : ObjOk E2 E3 ci' C Kp o o' m) (hC : ¬ C) (hann : isInstanceOf ts o.ty ANNOTATION = true) :
    ∃ (vn : String) (v : View) (text : List Nat) (o1 : Obj),
      alistGet? o.slots "sofa" = some (.sofa ci vn) ∧ Cas.getViewRec c vn = some v ∧ v.sofa.text = some text ∧
      convertOffsets (convOfText (some (docText text))) hpX (na m) = .ok (hpX.set (na m) o1) ∧
      ∀ C' : Prop, C' → ObjOk E2 E3 ci' C' Kp o o1 m := by
  obtain ⟨vn, v, text, b, e, hs, hv, ht, hb, he, hbl, hel⟩ := ctx.lok.ann _ hq o ho hann
  have hvm : (vn, v) ∈ c.views := alistGet?_mem _ _ _ hv
  have hconv : v.sofa.conv = some (Offsets.table text) := ctx.wf.conv _ hvm text ht
  have hsc : ∀ cp ∈ text, Offsets.IsScalar cp := ctx.wf.scalar _ hvm text ht
  -- the new slots hold the external offsets
  obtain ⟨wb, hwb, hsb⟩ := hok.2.2.2 "begin" _ hb
  obtain ⟨we, hwe, hse⟩ := hok.2.2.2 "end" _ he
  have eb := ((slotOk_ne (by decide)).mp hsb).2 hC
  have ee := ((slotOk_ne (by decide)).mp hse).2 hC
  rw [hE.int2, hann, extInt_ann cass ctx.hc hs hv "begin" (Or.inl rfl) b, hconv] at eb
  rw [hE.int2, hann, extInt_ann cass ctx.hc hs hv "end" (Or.inr rfl) e, hconv] at ee
  subst eb ee
  refine ⟨vn, v, text, _, hs, hv, ht, convertOffsets_int _ ho' hwb hwe, ?_⟩
  intro C' hC'
  rw [cvI_restores text hsc b hbl, cvI_restores text hsc e hel]
  exact hok.convert hE hC' hb he

end Cassis.Xmi.Pass3

namespace Cassis.Xmi.RTB
open Cassis.TS

/-- the entries of the new index of a view come from entries of the old one -/
def IdxFrom (H : Heap) (nv : String × View) (idx : Index.Idx) : Prop :=
  ∀ (ty : String), ∀ x ∈ Index.get idx ty, ∃ e ∈ Index.all nv.2.idx, ∃ (o : Obj) (k : Index.Entry),
    H[e.oid]? = some o ∧ o.ty = ty ∧ Cas.entryOf o e.oid = .ok k ∧ x.b = k.b

/-- the new object `o1` at `a` stands for the indexed structure `e` of the written view `nv` (same type, the id `m`, the
    same sort key): `Cas.add` puts it into the view `nv.1`, wherever that view stands, and the index stays made of
    entries of the old one -/
theorem add_member {ts : TypeSystem} {c : Cas} {H : Heap} (hmok : MembersOk c H) {nv : String × View} (hnv : nv ∈ c.views)
    {e : Index.Entry} (he : e ∈ Index.all nv.2.idx) {o o1 : Obj} (ho : H[e.oid]? = some o) {k : Index.Entry}
    (hk : Cas.entryOf o e.oid = .ok k) (ci' : Nat) {hp1 : Heap} {a : Nat} (ho1 : hp1[a]? = some o1) (hty : o1.ty = o.ty)
    {m : Int} (hx : o1.xid = some m) (hct : containsType ts o.ty = true)
    (hent : Cas.entryOf (Cas.addObj ci' { view := nv.1, lenient := false } o1 m) a = .ok { k with oid := a })
    (cas : Cas) {pre : List (String × View)} {cur : View} {post : List (String × View)}
    (hviews : cas.views = pre ++ (nv.1, cur) :: post) (hpre : nv.1 ∉ pre.map (·.1)) (hidx : IdxFrom H nv cur.idx) :
    ∃ cur' : View,
      Cas.add ts ci' cas hp1 { view := nv.1, lenient := false } a true =
        .ok ({ cas with views := pre ++ (nv.1, cur') :: post },
             hp1.set a (Cas.addObj ci' { view := nv.1, lenient := false } o1 m)) ∧
      cur'.sofa = cur.sofa ∧ ((Index.all cur'.idx).map (·.oid)).Perm (a :: (Index.all cur.idx).map (·.oid)) ∧
      IdxFrom H nv cur'.idx := by
  let h : Handle := { view := nv.1, lenient := false }
  have hget : Cas.getViewRec cas h.view = some cur := by
    unfold Cas.getViewRec
    rw [hviews]; exact alistGet?_append_mid pre nv.1 cur post hpre
  -- the keys of the type agree on being `NONE_KEY`, as they did in the old index
  have hnone : (Index.get cur.idx o1.ty).any
      (fun y => decide (y.b = Index.NONE_KEY) != decide (({ k with oid := a } : Index.Entry).b = Index.NONE_KEY)) = false := by
    rw [List.any_eq_false]
    intro x hx
    obtain ⟨e2, he2, o2, k2, ho2, hty2, hk2, hb2⟩ := hidx o1.ty x hx
    have := (hmok nv hnv).2 e2 he2 e he o2 o k2 k ho2 ho (hty2.trans hty) hk2 hk
    show ¬ ((decide (x.b = Index.NONE_KEY) != decide (k.b = Index.NONE_KEY)) = true)
    rw [hb2]
    by_cases h1 : k2.b = Index.NONE_KEY
    · simp [h1, this.mp h1]
    · have h2 : ¬ k.b = Index.NONE_KEY := fun h' => h1 (this.mpr h')
      simp [h1, h2]
  have hadd := add_eq ts ci' cas h (hct ▸ hty ▸ rfl : containsType ts o1.ty = true) hget hx hent hnone (ho := ho1)
  refine ⟨{ cur with idx := Index.add cur.idx o1.ty { k with oid := a } }, ?_, rfl, ?_, ?_⟩
  · rw [hadd]
    unfold Cas.setViewRec
    rw [hviews, alistSet_append_mid pre nv.1 _ _ post hpre]
  · exact (Index.all_add cur.idx o1.ty _).map (·.oid)
  · intro ty x hx
    rw [Index.get_add] at hx
    split at hx
    · rename_i hty'
      rcases Index.mem_insert.mp hx with hx | hx
      · exact ⟨e, he, o, k, ho, by rw [hty', hty], hk, by rw [hx]⟩
      · rw [← hty'] at hx
        exact hidx ty x hx
    · exact hidx ty x hx

end Cassis.Xmi.RTB

namespace Cassis.Xmi.Pass3
open Cassis.TS Cassis.Xmi.RTB Cassis.Xmi.LPC

/-- a recorded own sofa is the expected value of the `sofa` slot of a collected structure -/
def MSOk (E3 : Obj → String → Val → Val) (ci' : Nat) (H : Heap) (L : List (Int × Nat)) (r : Int × Val) : Prop :=
  ∃ (am : Nat) (o : Obj) (v : Val) (vn : String), (r.1, am) ∈ L ∧ H[am]? = some o ∧
    alistGet? o.slots "sofa" = some v ∧ r.2 = E3 o "sofa" v ∧ r.2 = .sofa ci' vn

/-- the invariant of the third pass; `o0` is the `cas:NULL` object at `n0`, `hp0` the heap the pass started with -/
structure Inv (E2 E3 : Obj → String → Val → Val) (ci' : Nat) (H : Heap) (L : List (Int × Nat)) (na : Int → Nat)
    (n0 : Nat) (o0 : Obj) (hp0 : Heap) (b : Build) : Prop where
  heap : HInv E2 E3 ci' H L na (fun x => x ∈ b.converted) (fun x => x ∈ b.memberSofas.map (·.1)) b.heap
  ms : ∀ r ∈ b.memberSofas, MSOk E3 ci' H L r
  cv : ∀ x ∈ b.converted, x ∈ L.map (·.1)
  null : b.heap[n0]? = some o0
  frz : Frz hp0 b.heap

section
variable {K : Consts} {ts : TypeSystem} {cass : List Cas} {ci : Nat} {c : Cas} {hp H : Heap}
  {L : List (Int × Nat)} {na : Int → Nat} {n0 : Nat} {p : Pass1} {E2 E3 : Obj → String → Val → Val} {ci' : Nat}
  {o0 : Obj} {hp0 : Heap}

/-- the own sofa of a member: taken from the record, or read from its slot and put on record -/
theorem memberOwn_facts (ctx : CtxC K ts cass ci c hp H L na n0 p) (hE : ExpOk ts cass ci' E2 E3) {b : Build}
    (hb : Inv E2 E3 ci' H L na n0 o0 hp0 b)
    {m : Int} {am : Nat} (hq : (m, am) ∈ L) {o o' : Obj} (ho : H[am]? = some o) (ho' : b.heap[na m]? = some o')
    (hok : ObjOk E2 E3 ci' (m ∈ b.converted) (m ∈ b.memberSofas.map (·.1)) o o' m)
    (hnn : alistGet? o.slots "sofa" ≠ some .none) :
    (memberOwn m (na m) b).1 = (alistGet? o.slots "sofa").map (E3 o "sofa") ∧
    (∀ r ∈ (memberOwn m (na m) b).2, MSOk E3 ci' H L r) ∧
    (∀ x, x ∈ b.memberSofas.map (·.1) → x ∈ (memberOwn m (na m) b).2.map (·.1)) ∧
    ((alistGet? o'.slots "sofa").isSome = true → m ∈ (memberOwn m (na m) b).2.map (·.1)) := by
  unfold memberOwn
  cases hf : b.memberSofas.find? (fun q => q.1 == m) with
  | some r =>
    dsimp only
    have hr := List.mem_of_find?_eq_some hf
    have hr1 : r.1 = m := by simpa using List.find?_some hf
    obtain ⟨am', o_, v, vn, h1, h2, h3, h4, h5⟩ := hb.ms r hr
    rw [hr1] at h1
    have := congrArg Prod.snd (Det.inj_of_nodup_map (·.1) _ ctx.lok.nodup h1 hq rfl)
    subst this
    rw [ho] at h2
    cases h2
    refine ⟨?_, hb.ms, fun x hx => hx, fun _ => ?_⟩
    · rw [h3, h4]; rfl
    · rw [← hr1]; exact List.mem_map.mpr ⟨r, hr, rfl⟩
  | none =>
    dsimp only
    have hnk : m ∉ b.memberSofas.map (·.1) := by
      intro hin
      obtain ⟨r, hr, e⟩ := List.mem_map.mp hin
      have := List.find?_eq_none.mp hf r hr
      exact this (by simpa using e)
    have hslot : slot b.heap (na m) "sofa" = alistGet? o'.slots "sofa" := by
      show (b.heap[na m]?).bind _ = _
      rw [ho']; rfl
    rw [hslot]
    cases hs : alistGet? o'.slots "sofa" with
    | none =>
      dsimp only
      refine ⟨?_, hb.ms, fun x hx => hx, fun h => by cases h⟩
      rw [(hok.none_iff "sofa").mp hs]; rfl
    | some w =>
      dsimp only
      obtain ⟨v, hv⟩ := Option.isSome_iff_exists.mp ((hok.isSome_iff "sofa").mp (by rw [hs]; rfl))
      obtain ⟨w', hw', hso⟩ := hok.2.2.2 "sofa" v hv
      rw [hs] at hw'
      cases hw'
      have hw : w = E3 o "sofa" v := (slotOk_sofa.mp hso).resolve_right (fun h => hnk h.1)
      -- the member is indexed, so its old `sofa` slot names a view
      obtain ⟨vn, hvn⟩ : ∃ vn, v = .sofa ci vn := by
        rcases ctx.lok.sofa_shape _ hq o ho v hv with e | e
        · rw [e] at hv; exact absurd hv hnn
        · exact e
      refine ⟨?_, ?_, ?_, fun _ => ?_⟩
      · rw [hv, hw]; rfl
      · intro r hr
        rcases List.mem_append.mp hr with hr | hr
        · exact hb.ms r hr
        · rw [List.mem_singleton] at hr
          subst hr
          exact ⟨am, o, v, vn, hq, ho, hv, hw, by rw [hw, hvn]; exact hE.sofa3 ..⟩
      · intro x hx
        rw [List.map_append]
        exact List.mem_append_left _ hx
      · rw [List.map_append]
        exact List.mem_append_right _ (by simp)

/-- `Cas.add` of a member whose offsets are internal -/
theorem phase2 (ctx : CtxC K ts cass ci c hp H L na n0 p) (hE : ExpOk ts cass ci' E2 E3)
    {nv : String × View} (hnv : nv ∈ c.views)
    {e : Index.Entry} (he : e ∈ Index.all nv.2.idx) {m : Int} (hq : (m, e.oid) ∈ L)
    {o o1 : Obj} (ho : H[e.oid]? = some o) {hp1 : Heap} (ho1 : hp1[na m]? = some o1)
    {Cp Kp : Int → Prop} (hinv : HInv E2 E3 ci' H L na Cp Kp hp1)
    (hann : isInstanceOf ts o.ty ANNOTATION = true → Cp m)
    (hkey : (alistGet? o1.slots "sofa").isSome = true → Kp m)
    (cas : Cas) {pre : List (String × View)} {cur : View} {post : List (String × View)}
    (hviews : cas.views = pre ++ (nv.1, cur) :: post)
    (hpre : nv.1 ∉ pre.map (·.1)) (hidx : IdxFrom H nv cur.idx) :
    ∃ cur' : View,
      Cas.add ts ci' cas hp1 { view := nv.1, lenient := false } (na m) true =
        .ok ({ cas with views := pre ++ (nv.1, cur') :: post },
             hp1.set (na m) (Cas.addObj ci' { view := nv.1, lenient := false } o1 m)) ∧
      HInv E2 E3 ci' H L na Cp Kp (hp1.set (na m) (Cas.addObj ci' { view := nv.1, lenient := false } o1 m)) ∧
      cur'.sofa = cur.sofa ∧
      ((Index.all cur'.idx).map (·.oid)).Perm (na m :: (Index.all cur.idx).map (·.oid)) ∧
      IdxFrom H nv cur'.idx := by
  obtain ⟨o1_, ho1_, hok⟩ := hinv.get hq ho
  rw [ho1] at ho1_; cases ho1_
  have hokT : ObjOk E2 E3 ci' True (Kp m) o o1 m := by
    cases ha : isInstanceOf ts o.ty ANNOTATION
    · exact hok.nonann hE ha
    · exact hok.mono (iff_true_intro (hann ha)) id
  obtain ⟨o2, k, ho2, hk⟩ := (ctx.mok nv hnv).1 e he
  rw [ho] at ho2; cases ho2
  have hslot : ∀ n : String, n ≠ "sofa" →
      alistGet? (Cas.addObj ci' { view := nv.1, lenient := false } o1 m).slots n = (alistGet? o.slots n).map (E3 o n) :=
    fun n hn => (addObj_slot_ne ci' _ o1 m hn).trans (hokT.slot_exp3 hn)
  have hent := entryOf_map (a2 := na m) (hE.int3 o "begin") (hE.none3 o "begin") (hE.int3 o "end") (hE.none3 o "end")
    (hslot "begin" (by decide)) (hslot "end" (by decide)) hk
  obtain ⟨cur', hadd, hs, hperm, hidx'⟩ :=
    add_member ctx.mok hnv he ho hk ci' ho1 hok.1 hok.2.1 (ctx.contains hq ho) hent cas hviews hpre hidx
  exact ⟨cur', hadd, hinv.step ctx.nok.inj ctx.lok.nodup hq ho ho1 (hok.add _ id hkey) (fun _ _ _ => Iff.rfl)
    (fun _ _ _ hk => hk), hs, hperm, hidx'⟩

theorem member_step (ctx : CtxC K ts cass ci c hp H L na n0 p) (hE : ExpOk ts cass ci' E2 E3)
    {nv : String × View} (hnv : nv ∈ c.views) {m : Int}
    (hm : m ∈ (pviewOf H nv).members) {b : Build} (hb : Inv E2 E3 ci' H L na n0 o0 hp0 b)
    {pre post : List (String × View)} {cur : View} (hviews : b.cas.views = pre ++ (nv.1, cur) :: post)
    (hpre : nv.1 ∉ pre.map (·.1)) (hidx : IdxFrom H nv cur.idx) (conv : Offsets.Conv) :
    ∃ (b' : Build) (cur' : View),
      addMember1 ts ci' { view := nv.1, lenient := false } conv p.sofas p.fss m b = .ok b' ∧
      Inv E2 E3 ci' H L na n0 o0 hp0 b' ∧ b'.cas.views = pre ++ (nv.1, cur') :: post ∧ cur'.sofa = cur.sofa ∧
      ((Index.all cur'.idx).map (·.oid)).Perm (na m :: (Index.all cur.idx).map (·.oid)) ∧
      IdxFrom H nv cur'.idx := by
  obtain ⟨e, he, hq⟩ := ctx.member hnv hm
  obtain ⟨o, o', ho, ho', hok⟩ := hb.heap (m, e.oid) hq
  simp only at ho ho' hok
  have hgt : n0 ≠ na m := ctx.nok.ne0 _ hq
  have hnn : alistGet? o.slots "sofa" ≠ some .none := by
    have := ctx.hmem nv hnv e he
    rwa [slot_of ho] at this
  obtain ⟨own_eq, ms_ok, keys_mono, key_m⟩ := memberOwn_facts ctx hE hb hq ho ho' hok hnn
  unfold addMember1
  rw [ctx.lookup hq]
  dsimp only
  rw [ho']
  dsimp only
  by_cases hcond : (!(b.converted.contains m) && isInstanceOf ts o'.ty ANNOTATION) = true
  · -- an annotation not yet converted: `convertOffsets` with the text of its own sofa, then `Cas.add`
    rw [if_pos hcond]
    simp only [Bool.and_eq_true, Bool.not_eq_true', hok.1] at hcond
    have hnc : m ∉ b.converted := by
      intro hin
      have := List.contains_iff_mem.mpr hin
      rw [hcond.1] at this
      cases this
    have hann := hcond.2
    obtain ⟨vn, v, text, o1, hs, hv, ht, hconv, hok1⟩ := convert_ann ctx hE hq ho ho' hok hnc hann
    have hown : ownConv p.sofas conv (memberOwn m (na m) b).1 = convOfText (some (docText text)) := by
      rw [own_eq, hs, Option.map_some, hE.sofa3]
      unfold ownConv
      dsimp only
      rw [ctx.find_sofa hv]
      dsimp only
      show convOfText ((v.sofa.text).map docText) = _
      rw [ht]; rfl
    rw [hown, hconv]
    dsimp only
    have hcv : m ∈ b.converted ++ [m] := List.mem_append_right _ List.mem_cons_self
    have hok1' : ObjOk E2 E3 ci' (m ∈ b.converted ++ [m]) (m ∈ (memberOwn m (na m) b).2.map (·.1)) o o1 m :=
      (hok1 _ hcv).mono Iff.rfl (keys_mono m)
    have hinv1 : HInv E2 E3 ci' H L na (fun x => x ∈ b.converted ++ [m])
        (fun x => x ∈ (memberOwn m (na m) b).2.map (·.1)) (b.heap.set (na m) o1) :=
      hb.heap.step ctx.nok.inj ctx.lok.nodup hq ho ho' hok1'
        (fun q _ hne => ⟨List.mem_append_left _, fun h => (List.mem_append.mp h).resolve_right
          (fun h' => hne (List.mem_singleton.mp h'))⟩)
        (fun q _ _ hk => keys_mono _ hk)
    have hkey : (alistGet? o1.slots "sofa").isSome = true → m ∈ (memberOwn m (na m) b).2.map (·.1) := by
      intro h1
      exact key_m ((hok.isSome_iff "sofa").mpr ((hok1'.isSome_iff "sofa").mp h1))
    obtain ⟨cur', hadd, hinv2, hsofa, hperm, hidx'⟩ :=
      phase2 ctx hE hnv he hq ho (Det.set_get_self ho') hinv1 (fun _ => hcv) hkey b.cas hviews hpre hidx
    rw [hadd]
    dsimp only
    refine ⟨_, cur', rfl, ⟨hinv2, ms_ok, ?_, ?_, ?_⟩, rfl, hsofa, hperm, hidx'⟩
    · intro x hx
      rcases List.mem_append.mp hx with hx | hx
      · exact hb.cv x hx
      · rw [List.mem_singleton] at hx
        subst hx
        exact List.mem_map.mpr ⟨_, hq, rfl⟩
    · show ((b.heap.set (na m) o1).set (na m) _)[n0]? = some o0
      rw [List.getElem?_set_ne hgt.symm, List.getElem?_set_ne hgt.symm]; exact hb.null
    · show Frz hp0 ((b.heap.set (na m) o1).set (na m) _)
      exact (hb.frz.trans (Frz.set_some ho' hok.2.1)).trans (Frz.set_some (Det.set_get_self ho') hok1'.2.1)
  · -- offsets internal already, or no annotation: `Cas.add` only
    rw [if_neg hcond]
    dsimp only
    have hinv1 : HInv E2 E3 ci' H L na (fun x => x ∈ b.converted)
        (fun x => x ∈ (memberOwn m (na m) b).2.map (·.1)) b.heap :=
      hb.heap.mono (fun _ _ => Iff.rfl) (fun q _ hk => keys_mono _ hk)
    have hann : isInstanceOf ts o.ty ANNOTATION = true → m ∈ b.converted := by
      intro ha
      rw [hok.1, ha] at hcond
      simp only [Bool.and_true, Bool.not_eq_true', Bool.not_eq_false] at hcond
      exact List.contains_iff_mem.mp hcond
    obtain ⟨cur', hadd, hinv2, hsofa, hperm, hidx'⟩ :=
      phase2 ctx hE hnv he hq ho ho' hinv1 hann key_m b.cas hviews hpre hidx
    rw [hadd]
    dsimp only
    refine ⟨_, cur', rfl, ⟨hinv2, ms_ok, hb.cv, ?_, ?_⟩, rfl, hsofa, hperm, hidx'⟩
    · show (b.heap.set (na m) _)[n0]? = some o0
      rw [List.getElem?_set_ne hgt.symm]; exact hb.null
    · show Frz hp0 (b.heap.set (na m) _)
      exact hb.frz.trans (Frz.set_some ho' hok.2.1)

end

end Cassis.Xmi.Pass3
