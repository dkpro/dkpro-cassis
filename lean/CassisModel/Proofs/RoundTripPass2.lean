/-
Round trip: the branches of `postFeature` a flat feature takes (one equation each), the primitive values read back, and
one step of the loop `postAll`.
-/
import CassisModel.Proofs.RoundTripDefs
import CassisModel.Proofs.XmiLookups

namespace Cassis.Xmi
open Cassis.TS

/-- `hpY` is `hpX` with slot `n` of the object at `a` holding `w` (and nothing else changed) -/
def Step (hpX hpY : Heap) (a : Nat) (n : String) (w : Val) : Prop :=
  hpY.length = hpX.length ∧ (∀ b, b ≠ a → hpY[b]? = hpX[b]?) ∧
  ∃ o1 o2 : Obj, hpX[a]? = some o1 ∧ hpY[a]? = some o2 ∧ SetR n w o1 o2

theorem Step.same {hpX : Heap} {a : Nat} {n : String} {w : Val} {o1 : Obj} (h1 : hpX[a]? = some o1)
    (h2 : alistGet? o1.slots n = some w) : Step hpX hpX a n w :=
  ⟨rfl, fun _ _ => rfl, o1, o1, h1, h1, .same h2⟩

theorem setSlot_step {hpX : Heap} {a : Nat} {n : String} {u : Val} (w : Val) {o1 : Obj} (h1 : hpX[a]? = some o1)
    (h2 : alistGet? o1.slots n = some u) : ∃ hpY, Heap.setSlot hpX a n w = .ok hpY ∧ Step hpX hpY a n w := by
  have hlt : a < hpX.length := by
    rcases Nat.lt_or_ge a hpX.length with h | h
    · exact h
    · rw [List.getElem?_eq_none h] at h1; cases h1
  refine ⟨hpX.set a { o1 with slots := alistSet o1.slots n w }, ?_, ?_⟩
  · exact Heap.setSlot_existing w h1 h2
  · exact ⟨List.length_set, fun b hb => List.getElem?_set_ne (Ne.symm hb), o1, _, h1,
      List.getElem?_set_self hlt, .alistSet w h2⟩

theorem slot_getD_eq {hpX : Heap} {a : Nat} {n : String} {w : Val} {o1 : Obj} (h1 : hpX[a]? = some o1)
    (h2 : alistGet? o1.slots n = some w) : (Xmi.slot hpX a n).getD .none = w := by
  rw [slot_of h1, h2]; rfl

theorem postFeature_sofa_none (K : Consts) (ts : TypeSystem) (tsIdx ci' : Nat) (sofas : List (Int × PSofa))
    (fss : List (Int × Nat)) (hpX : Heap) (a : Nat) (ty : String) (isStrArr : Bool) (f : Feature) (o1 : Obj)
    (hname : f.name = "sofa") (h1 : hpX[a]? = some o1) (h2 : alistGet? o1.slots f.name = some .none) :
    postFeature K ts tsIdx ci' sofas fss hpX a ty isStrArr f = .ok hpX := by
  unfold postFeature
  extract_lets v multi
  have hv : v = .none := slot_getD_eq h1 h2
  rw [if_pos (by rw [hname]; rfl), hv]
  rfl

theorem postFeature_sofa_int (K : Consts) (ts : TypeSystem) (tsIdx ci' : Nat) (sofas : List (Int × PSofa))
    (fss : List (Int × Nat)) (hpX : Heap) (a : Nat) (ty : String) (isStrArr : Bool) (f : Feature) (o1 : Obj)
    (i : Int) (ps : Int × PSofa)
    (hname : f.name = "sofa") (h1 : hpX[a]? = some o1) (h2 : alistGet? o1.slots f.name = some (.int i))
    (hf : sofas.find? (fun p => p.1 == i) = some ps) :
    postFeature K ts tsIdx ci' sofas fss hpX a ty isStrArr f = Heap.setSlot hpX a "sofa" (.sofa ci' ps.2.sofaID) := by
  unfold postFeature
  extract_lets v multi
  have hv : v = .int i := slot_getD_eq h1 h2
  rw [if_pos (by rw [hname]; rfl), hv]
  dsimp only
  rw [hf]

theorem postFeature_prim (K : Consts) (ts : TypeSystem) (tsIdx ci' : Nat) (sofas : List (Int × PSofa))
    (fss : List (Int × Nat)) (hpX : Heap) (a : Nat) (ty : String) (f : Feature) (o1 : Obj) (w w' : Val)
    (hname : f.name ≠ "sofa") (hprim : isPrimitive K ts f.range = true)
    (h1 : hpX[a]? = some o1) (h2 : alistGet? o1.slots f.name = some w)
    (hparse : parsePrimValue ts (ts.types.length + 1) f.range w = .ok w') :
    postFeature K ts tsIdx ci' sofas fss hpX a ty false f = Heap.setSlot hpX a f.name w' := by
  unfold postFeature
  extract_lets v multi
  have hv : v = w := slot_getD_eq h1 h2
  rw [if_neg (by rw [beq_eq_false_iff_ne.2 hname]; exact Bool.false_ne_true), if_neg Bool.false_ne_true, if_pos hprim, hv, hparse]
  rfl

theorem postFeature_ref_str (K : Consts) (ts : TypeSystem) (tsIdx ci' : Nat) (sofas : List (Int × PSofa))
    (fss : List (Int × Nat)) (hpX : Heap) (a : Nat) (ty : String) (f : Feature) (o1 : Obj) (s : String) (x : Int)
    (t : Nat)
    (hname : f.name ≠ "sofa") (hprim : isPrimitive K ts f.range = false)
    (hty : isPrimitiveArray K ty = false) (hr1 : isPrimitiveArray K f.range = false)
    (hr2 : isPrimitiveList K f.range = false) (hty2 : ty ≠ FS_ARRAY) (hr3 : f.range ≠ FS_ARRAY)
    (hr4 : f.range ≠ FS_LIST)
    (h1 : hpX[a]? = some o1) (h2 : alistGet? o1.slots f.name = some (.str s))
    (hparse : parseIntE s = .ok x) (hlook : lookupFs fss x = .ok t) :
    postFeature K ts tsIdx ci' sofas fss hpX a ty false f = Heap.setSlot hpX a f.name (.ref t) := by
  unfold postFeature
  simp only [slot_getD_eq h1 h2]
  simp only [beq_eq_false_iff_ne.2 hname, Bool.false_eq_true, if_false, hprim, hty, hr1, hr2, Bool.false_and,
    beq_eq_false_iff_ne.2 hty2, beq_eq_false_iff_ne.2 hr3, beq_eq_false_iff_ne.2 hr4, Bool.or_self, hparse]
  show (lookupFs fss x >>= fun t => Heap.setSlot hpX a f.name (.ref t)) = _
  rw [hlook]
  rfl

theorem primValue_roundtrip_none (ts : TypeSystem) (n : Nat) (r : String) : parsePrimValue ts (n + 1) r .none = .ok .none := by
  unfold parsePrimValue
  rfl

theorem primValue_roundtrip_float (ts : TypeSystem) (n : Nat) (r t : String) (h : r = "uima.cas.Float" ∨ r = "uima.cas.Double") :
    parsePrimValue ts (n + 1) r (.str t) = .ok (.float t) := by
  unfold parsePrimValue
  rcases h with rfl | rfl
  · rw [if_neg (by decide), if_pos (by decide)]
  · rw [if_neg (by decide), if_pos (by decide)]

theorem isIntRange_mem {r : String} (h : isIntRange r = true) :
    r ∈ ["uima.cas.Integer", "uima.cas.Short", "uima.cas.Long", "uima.cas.Byte"] := by
  simpa only [List.mem_cons, List.not_mem_nil, or_false] using isIntRange_cases h

theorem postAll_cons (K : Consts) (ts : TypeSystem) (tsIdx ci' : Nat) (sofas : List (Int × PSofa))
    (fss : List (Int × Nat)) (i : Int) (a : Nat) (rest : List (Int × Nat)) (hpX hp1 : Heap) (o' : Obj) (t : TypeRec)
    (h1 : hpX[a]? = some o') (hgt : getType ts o'.ty = .ok t)
    (hpf : postFeatures K ts tsIdx ci' sofas fss a o'.ty (isInstanceOf ts o'.ty STRING_ARRAY) (allFeatures t) hpX
      = .ok hp1) :
    postAll K ts tsIdx ci' sofas fss ((i, a) :: rest) hpX = postAll K ts tsIdx ci' sofas fss rest hp1 := by
  rw [postAll]
  simp only [h1]
  show (getType ts o'.ty >>= fun t => _) = _
  rw [hgt]
  show (postFeatures K ts tsIdx ci' sofas fss a o'.ty (isInstanceOf ts o'.ty STRING_ARRAY) (allFeatures t) hpX
    >>= fun hp' => _) = _
  rw [hpf]
  rfl

end Cassis.Xmi
