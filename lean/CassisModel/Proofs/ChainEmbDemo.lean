/-
Non-vacuity of `Properties/C16ChainEmbedded.lean`: the tests `chainCollAppliesB` / `chainJXAppliesB`
(`Spec/ChainCollCheck.lean`) answer `true` on the instance `EmbDemo` with collections (`Proofs/InstancesEmb.lean`:
an API-built type system with the chain `x.A > x.B > x.C`, features declared bottom-up, an inlined IntegerArray and a
shared FSArray feature; text `a😀b`, two `x.C` that refer to each other, an indexed `x.B`).  The tests save with mode
`.none`, the theorems with `.full` / `.minimal`: `saveJson_mode_fss_aux` carries the result over (as in
`Proofs/RoundTripJsonEmbDemo.lean`, whose hypotheses about the type system — `UserOnly`, `Writable`, `NoPercentNames` — are
the ones needed here); no `…_hyps` statement is assembled in this file.  Then the hypothesis `MultiResAgree` on the instance,
and the counterexample `RedefDemo`.  The kernel evaluates the whole tests (`Facts.emb`).
-/
import CassisModel.Proofs.RoundTripJsonEmbDemo
import CassisModel.Spec.ChainEmb
import CassisModel.Spec.ChainEmbCheck

namespace Cassis.Json.EmbDemo
open Cassis.TS Cassis.ChainE

theorem chainXJ_applies : chainCollAppliesB Gen.consts embTsC [cas] 0 hpC = true := embDemoChain_evals.chainXJ

theorem chainJX_applies : chainJXAppliesB Gen.consts embTsC [cas] 0 hpC = true := embDemoChain_evals.chainJX

/-- equally named own features of the instance's type system (built-in types included) agree on the flags -/
theorem flagCoherent : Cassis.ChainE.FlagCoherent Gen.consts embTsC := embDemoChain_evals.flagCoherent

/-! ### the hypothesis `MultiResAgree` on the instance

The type system rebuilt from the `%TYPES` section of the FULL document of the instance agrees with the original on
`multipleReferencesAllowed` and the reserved flag of every effective feature — evaluated by the kernel in the form of
`loadTs_afterMerge` (`Proofs/EmbeddedTsEval.lean`). -/

theorem embTypes_eq : (fullRecs Gen.consts embTsC).map (renderTypeDecl0 Gen.consts) = embTypes := embDemoChain_evals.embTypes_eq

theorem embTypes_toposort : toposort embTypes = .ok ["uima.tcas.Annotation", "x.A", "x.B", "x.C"] := by
  unfold toposort
  simp only []
  rw [toposort_go_step1 _ _ 4 _ _ "uima.tcas.Annotation" (by decide) (by decide) (by decide)]
  rw [toposort_go_step1 _ _ 3 _ _ "x.A" (by decide) (by decide) (by decide)]
  rw [toposort_go_step1 _ _ 2 _ _ "x.B" (by decide) (by decide) (by decide)]
  rw [toposort_go_step1 _ _ 1 _ _ "x.C" (by decide) (by decide) (by decide)]
  rfl

theorem embTypes_noPct : ∀ jt ∈ embTypes, ∀ jf ∈ jt.feats, jf.name.startsWith "%" = false := by
  rw [← embTypes_eq]
  exact renderTypeDecl0_noPct _ _ (fun t ht => noPct_coll t ((mem_fullRecs _ _ _).mp ht).1)

theorem embTypes_hmr (doc : JDoc) (hdoc : doc.types = some embTypes) (ts' : TypeSystem)
    (h : loadTs Gen.consts Gen.builtinTS true doc = .ok ts') : MultiResAgree Gen.consts embTsC ts' :=
  of_decide_eq_true
    (loadTs_afterMerge _ _ _ _ (by decide) embTypes_noPct embTypes_toposort embDemoChain_evals.multiResAgree doc hdoc ts' h)

/-- **non-vacuity of `chain_json_xmi_full_coll_partial`**: every type system the reader builds from the `%TYPES` section
    of the FULL document of the instance satisfies `MultiResAgree` -/
theorem full_hmr (doc : JDoc) (st : Traverse.St) (hs : saveJson Gen.consts embTsC [cas] 0 hpC .full = .ok (doc, st)) :
    ∀ ts', loadTs Gen.consts Gen.builtinTS true doc = .ok ts' → MultiResAgree Gen.consts embTsC ts' := by
  obtain ⟨decls, hdecls, htypes⟩ := saveJson_full_types _ _ _ _ _ _ _ hs
  rw [renderTypeDecls_noPct _ _ (fun t ht => noPct_coll t ((mem_fullRecs _ _ _).mp ht).1)] at hdecls
  -- (`cases hdecls` would make the unifier evaluate the closed `%TYPES` section)
  have hd := Except.ok.inj hdecls
  rw [← hd, embTypes_eq] at htypes
  exact fun ts' h => embTypes_hmr doc htypes ts' h

end Cassis.Json.EmbDemo

/-! ### the counterexample `RedefDemo` (`Spec/ChainEmbCheck.lean`): its history satisfies `UserOnlyNoDoc`, the type system
is `Writable` and has no feature name starting with `%`, and the test of `chain_json_xmi_coll` applies (kernel) -/

namespace Cassis.Json.RedefDemo
open Cassis.TS

theorem ts_eq : ts = tsS := by unfold ts tsS; rw [applyOp_eq_S]

theorem userOnly : UserOnly Gen.consts ops := (histOkB_sound _ _ redefDemo_evals.hist).1

theorem noDoc : ∀ op ∈ ops, match op with
    | .createFeature dom _ _ _ _ _ => dom ≠ DOCUMENT_ANNOTATION
    | .createType _ _ _ => True :=
  (histOkB_sound _ _ redefDemo_evals.hist).2

theorem writable : Writable Gen.consts tsS := redefDemo_evals.writable
theorem noPct : NoPercentNames tsS := redefDemo_evals.noPct

theorem chainJX_applies : chainJXAppliesB Gen.consts tsS [cas] 0 hp = true := redefDemo_evals.chainJX

/-- … but NOT `FlagCoherent`: `x.B.f` (`multipleReferencesAllowed = true`) and `x.A.f` (absent) have an array range -/
theorem not_flagCoherent : ¬ Cassis.ChainE.FlagCoherent Gen.consts tsS := redefDemo_evals.notFlagCoherent

/-- the effective feature `f` of `x.B` in the original: the definition on `x.B`, `multipleReferencesAllowed = true` -/
theorem f_original : fOfB tsS = some ("x.B", some true) := redefDemo_evals.fOriginal

end Cassis.Json.RedefDemo
