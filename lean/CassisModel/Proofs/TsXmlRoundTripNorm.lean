/-
C12 round trip: what the reader's normalisation does to the writer's output.  On a descriptor with pairwise distinct
names whose names (type name, supertype, feature name, range, element type) carry no surrounding whitespace, `normalize`
only strips the descriptions (`normT`, `Proofs/TsXmlNoPad.lean`), and the entries the loader works on are these plus the
implicit DocumentAnnotation (`effective_eq`); under `StrippedNames` every declaration the writer emits for a user type,
and every redeclaration of a built-in type or of DocumentAnnotation, is such a declaration (`NamesStrippedT`).
-/
import CassisModel.Spec.TsXmlRoundTrip
import CassisModel.Proofs.TsXml

namespace Cassis.TsXml
open Cassis.TS

@[simp] theorem normT_name (t : TDesc) : (normT t).name = t.name := rfl
@[simp] theorem normT_super (t : TDesc) : (normT t).super = t.super := rfl

theorem groupByName_of_nodup (d : Descriptor) (hn : (d.map (·.name)).Nodup) : groupByName d = d := by
  unfold groupByName
  simp only []
  rw [Det.eraseDups_of_nodup _ hn, List.filterMap_map]
  conv => rhs; rw [← List.map_id d]
  apply Det.filterMap_eq_map_of
  intro t ht
  simp only [Function.comp]
  rw [filter_name_single d hn t ht]
  simp only [List.getLast?_singleton, List.flatMap_cons, List.flatMap_nil, List.append_nil]
  rfl

theorem normalize_of_nodup (d : Descriptor) (hn : (d.map (·.name)).Nodup) (hs : ∀ t ∈ d, NamesStrippedT t) :
    normalize d = d.map normT := by
  unfold normalize
  have hm : d.map stripT = d.map normT := List.map_congr_left (fun t ht => stripT_of_stripped (hs t ht))
  rw [hm]
  apply groupByName_of_nodup
  rw [List.map_map]
  exact hn

theorem normT_docEntry : normT docEntry = docEntry := rfl

theorem effective_eq (d : Descriptor) (hn : (d.map (·.name)).Nodup) (hs : ∀ t ∈ d, NamesStrippedT t) :
    effective d = d.map normT ++ (if (d.map (·.name)).contains DOCUMENT_ANNOTATION then [] else [docEntry]) ∧
    ((normalize d).map (·.name)).contains DOCUMENT_ANNOTATION = (d.map (·.name)).contains DOCUMENT_ANNOTATION := by
  have hnames : (d.map normT).map (·.name) = d.map (·.name) := by rw [List.map_map]; rfl
  unfold effective
  simp only []
  rw [normalize_of_nodup d hn hs, hnames]
  refine ⟨?_, rfl⟩
  split
  · rw [List.append_nil]
  · rfl

theorem effective_names (d : Descriptor) (hn : (d.map (·.name)).Nodup) (hs : ∀ t ∈ d, NamesStrippedT t) :
    (effective d).map (·.name) =
      if (d.map (·.name)).contains DOCUMENT_ANNOTATION then d.map (·.name)
      else d.map (·.name) ++ [DOCUMENT_ANNOTATION] := by
  rw [(effective_eq d hn hs).1, List.map_append, List.map_map]
  split
  · exact List.append_nil _
  · rfl

/-- supertype, range and element type are registered names: only the type's own name and its feature names
    are its own -/
theorem rendered_stripped {ts : TypeSystem} (hc : Consistent ts) (ho : OwnOK ts)
    (hreg : ∀ n, hasExact ts n = true → strip n = n) {t : TypeRec} (ht : t ∈ ts.types)
    (hf : ∀ f ∈ t.own, strip (renderFeat f).name = (renderFeat f).name) : NamesStrippedT (renderType t) := by
  refine ⟨hreg _ ((hasExact_iff_mem ts _).mpr (List.mem_map_of_mem ht)), ?_, ?_⟩
  · show strip (t.super.getD "") = t.super.getD ""
    cases hs : t.super with
    | none => exact strip_of_noPad (by decide)
    | some s => exact hreg s (hc.superReg t ht s hs)
  · intro fd hfd
    obtain ⟨f, hfm, rfl⟩ := List.mem_map.mp hfd
    obtain ⟨hr, he, _⟩ := ho t ht f hfm
    refine ⟨hf f hfm, hreg _ hr, ?_⟩
    show f.elem.map strip = f.elem
    cases hel : f.elem with
    | none => rfl
    | some e => rw [Option.map_some, hreg e (he e hel)]

/-! ### closed facts: the predefined names, DocumentAnnotation and the built-in feature names are unpadded -/

theorem predefined_noPad : Gen.consts.predefined.all noPad = true := by rw [noPad_eq]; exact builtin_evals.predefinedNoPad

theorem doc_noPad : noPad DOCUMENT_ANNOTATION = true := by rw [noPad_eq]; decide +kernel

theorem docEntry_stripped : NamesStrippedT docEntry :=
  namesStrippedT_of_noPad (by simp only [noPadT, noPad_eq]; decide +kernel)

theorem base_stripped {n : String} {pt : TypeRec} (h : find? Gen.builtinTSNoDoc n = some pt) :
    NamesStrippedT (renderType pt) := by
  have hfeat : Gen.builtinTSNoDoc.types.all (fun t => t.own.all (fun f => noPad (renderFeat f).name)) = true := by
    rw [noPad_eq]; exact builtin_evals.ownFeatNoPad
  exact rendered_stripped built_builtins.2.cons built_builtins.2.ownOK
    (fun x hx => strip_of_noPad (List.all_eq_true.mp predefined_noPad _ (List.contains_iff_mem.mp (base_all_predef x hx))))
    (find?_mem h)
    (fun f hf => strip_of_noPad (List.all_eq_true.mp (List.all_eq_true.mp hfeat pt (find?_mem h)) f hf))

/-- under `StrippedNames` every registered name is its own strip: built-in names and DocumentAnnotation are -/
theorem registered_stripped {ts : TypeSystem} (hsn : StrippedNames Gen.consts ts) {n : String}
    (h : hasExact ts n = true) : strip n = n := by
  obtain ⟨t, ht, rfl⟩ := List.mem_map.mp ((hasExact_iff_mem ts n).mp h)
  cases hp : Gen.consts.predefined.contains t.name with
  | true => exact strip_of_noPad (List.all_eq_true.mp predefined_noPad _ (List.contains_iff_mem.mp hp))
  | false =>
    by_cases hd : t.name = DOCUMENT_ANNOTATION
    · rw [hd]; exact strip_of_noPad doc_noPad
    · exact (hsn t ht hp hd).1

theorem rendered_user_stripped {ts : TypeSystem} (hc : Consistent ts) (ho : OwnOK ts)
    (hsn : StrippedNames Gen.consts ts) {t : TypeRec} (ht : t ∈ Json.fullRecs Gen.consts ts) :
    NamesStrippedT (renderType t) := by
  obtain ⟨htm, hp, hd⟩ := (Json.mem_fullRecs _ _ _).mp ht
  exact rendered_stripped hc ho (fun _ => registered_stripped hsn) htm (hsn t htm hp hd).2

end Cassis.TsXml
