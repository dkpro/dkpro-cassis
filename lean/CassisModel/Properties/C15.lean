/-
C15 — Every operation terminates on every reference-graph shape.

The worklist loop of `Cas._find_all_fs` (`Model/Traverse.lean`, counters included) performs at most
`|seeds| + Σ_a outdeg a` iterations on *every* heap: cycles, self references, diamonds, repeated, visited
and null elements.  `outdeg a` is the number of references `a` holds directly or through its inlined
arrays/lists, so the bound is linear in the size of the CAS as it is serialised.  The only
hypothesis for termination is that inline list spines are finite.  (Bounded recursion of
`descendants` / `subsumes` / `is_instance_of` on type trees of any depth is `descendants_eq_closure`,
`subsumes_iff_ancestor`, `isInstanceOf_iff_ancestor` of C10: fuel `|types| + 1` always suffices.)
-/
import CassisModel.Proofs.Traverse
import CassisModel.Proofs.FeatureLeaf

namespace Cassis.Traverse
open Cassis.TS

/-- **iteration bound**: whenever the traversal returns, it has popped at most `|seeds| + Σ outdeg`
    entries, pushed at most `Σ outdeg`, and the open list is empty -/
theorem findAllFs_steps_bound (K : Consts) (ts : TypeSystem) (o : Opts) (hp : Heap) (nx : Int)
    (seeds : List Nat) (s' : St) (h : findAllFs K ts o hp nx seeds = .ok s') :
    s'.pops ≤ seeds.length + totalOut K ts o hp (hp.length + 1) ∧
    s'.pushes ≤ totalOut K ts o hp (hp.length + 1) ∧
    s'.pops = seeds.length + s'.pushes ∧
    s'.openl = [] := by
  obtain ⟨inv, ho⟩ := findAllFs_inv K ts o hp nx seeds s' h
  have h1 := inv.count
  have h2 := inv.pot
  rw [ho, List.length_nil] at h1
  exact ⟨by omega, by omega, by omega, ho⟩

/-- **termination**: with finite list spines the loop never runs out of the fuel `|seeds| + Σ outdeg`
    (any other error is a Python exception the model reproduces, never divergence) -/
theorem findAllFs_terminates (K : Consts) (ts : TypeSystem) (o : Opts) (hp : Heap) (nx : Int)
    (seeds : List Nat) (hfin : FiniteSpines hp) :
    findAllFs K ts o hp nx seeds ≠ .error .outOfFuel := fun h => by
  -- a failing run fails in an iteration, and no iteration answers `outOfFuel`
  obtain ⟨s, a, rest, hi, _, hs⟩ := findAllFs_error_iter h
  exact step_noFuel K ts o hp s a rest (hi.inv (inv_init K ts o hp _ nx seeds)).shape hfin hs

/-- each structure is collected once and under one id (shared with C04 / C09) -/
theorem findAllFs_nodup (K : Consts) (ts : TypeSystem) (o : Opts) (hp : Heap) (nx : Int)
    (seeds : List Nat) (s' : St) (h : findAllFs K ts o hp nx seeds = .ok s') :
    (s'.allFs.map (·.1)).Nodup ∧ (s'.allFs.map (·.2)).Nodup :=
  let inv := (findAllFs_inv K ts o hp nx seeds s' h).1
  ⟨inv.nodupK, inv.nodupA⟩

/-- the traversal changes nothing in the heap except assigning ids to structures that had none -/
theorem findAllFs_heap_frame (K : Consts) (ts : TypeSystem) (o : Opts) (hp : Heap) (nx : Int)
    (seeds : List Nat) (s' : St) (h : findAllFs K ts o hp nx seeds = .ok s') :
    s'.heap.length = hp.length ∧
    ∀ (a : Nat) (ob : Obj), hp[a]? = some ob → ∃ ob' : Obj, s'.heap[a]? = some ob' ∧ ob'.ty = ob.ty ∧ ob'.slots = ob.slots ∧
      (ob.xid ≠ none → ob'.xid = ob.xid) :=
  (findAllFs_inv K ts o hp nx seeds s' h).1.shape

/-! Non-vacuity (tests of concrete instances): a diamond `0 → {1,2} → 3` plus a self loop on 3 -/
def demoTS : TypeSystem :=
  match (do
    let ts ← createType Gen.consts Gen.builtinTS "x.N" "uima.cas.TOP" none
    let ts ← createFeature ts "x.N" "l" "x.N"
    createFeature ts "x.N" "r" "x.N") with
  | .ok ts => ts
  | .error _ => Gen.builtinTS

def demoHeap : Heap :=
  [ { ty := "x.N", ts := 0, xid := none, slots := [("l", .ref 1), ("r", .ref 2)] },
    { ty := "x.N", ts := 0, xid := none, slots := [("l", .ref 3), ("r", .none)] },
    { ty := "x.N", ts := 0, xid := none, slots := [("l", .ref 3), ("r", .none)] },
    { ty := "x.N", ts := 0, xid := none, slots := [("l", .ref 3), ("r", .ref 0)] } ]

/-- `demoTS` built with `createFeatureLeaf`: `createFeature` goes through the well-founded `pushInherited`,
    which the kernel cannot unfold; on the childless type `x.N` the two agree -/
def demoLeaf : R TypeSystem := do
  let ts ← createType Gen.consts Gen.builtinTS "x.N" "uima.cas.TOP" none
  let ts ← createFeatureLeaf ts "x.N" "l" "x.N"
  createFeatureLeaf ts "x.N" "r" "x.N"

/-- everything the two tests evaluate, in one statement (one kernel evaluation; see the head of `Proofs/InstancesFlat.lean`): the two side
    conditions of `createType_createFeature2_leaf`, that `demoLeaf` succeeds, and the two tested values -/
theorem demo_evals :
    leafDomain ((createType Gen.consts Gen.builtinTS "x.N" "uima.cas.TOP" none).toOption.getD default) "x.N" = true ∧
    leafDomain ((createFeatureLeaf ((createType Gen.consts Gen.builtinTS "x.N" "uima.cas.TOP" none).toOption.getD
      default) "x.N" "l" "x.N").toOption.getD default) "x.N" = true ∧
    demoLeaf.toOption.isSome = true ∧
    (findAllFs Gen.consts (demoLeaf.toOption.getD default) {} demoHeap 1 [0]).toOption.map
      (fun s => (s.pops, s.pushes, s.allFs.length)) = some (5, 4, 4) ∧
    totalOut Gen.consts (demoLeaf.toOption.getD default) {} demoHeap 5 = 6 := by decide +kernel

theorem demoTS_eq : demoTS = demoLeaf.toOption.getD default := by
  -- (`rw`, not `unfold`: the kernel would evaluate `demoTS` to check a definitional unfolding)
  rw [demoTS, createType_createFeature2_leaf _ _ _ _ _ _ _ _ _ _ demo_evals.1 demo_evals.2.1, ← demoLeaf.eq_1]
  have h := demo_evals.2.2.1
  generalize demoLeaf = r at h ⊢
  cases r with
  | error e => cases h
  | ok ts => rfl

example : (findAllFs Gen.consts demoTS {} demoHeap 1 [0]).toOption.map (fun s => (s.pops, s.pushes, s.allFs.length))
    = some (5, 4, 4) := by
  rw [demoTS_eq]; exact demo_evals.2.2.2.1
example : totalOut Gen.consts demoTS {} demoHeap 5 = 6 := by
  rw [demoTS_eq]; exact demo_evals.2.2.2.2

end Cassis.Traverse
