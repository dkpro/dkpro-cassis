/-
JSON round trip on the flat fragment, from the whole format: a flat structure is a general structure (`lokJ_of_lok`) and
holds no raw element list, so its counterpart is described by `E3` (`heapRel_flat`).  `json_core` states the flat
interface (`LOk`, `E3`) that the fixpoint (`Properties/C02RoundTrip.lean`), the flat chains (`Properties/C16Chain.lean`) and
`Properties/C20Iso.lean` use.
-/
import CassisModel.Proofs.RoundTripJsonColl

namespace Cassis.Json
open Cassis.TS Cassis.Traverse Cassis.Xmi

section
variable {K : Consts} {ts : TypeSystem} {cass : List Cas} {c : Cas} {ci : Nat} {hp H : Heap} {L : List (Int × Nat)}

theorem lokJ_of_lok (h : LOk K ts c ci H L) (hj : ∀ q ∈ L, JsonFs ts H q.2) : LOkJ K ts c ci H L :=
  ⟨fun q hq => ⟨Or.inl (jgenFs_of_flatFs (h.flat q hq)), hj q hq⟩, h.ids, h.nodup, h.closed,
    fun q hq _ ho _ hl => (jgen_no_refs (jgenFs_of_flatFs (h.flat q hq)) ho hl).elim, h.members⟩

theorem heapRel_flat (hL : LOk K ts c ci H L) {na : Int → Nat} {ci' : Nat} {HF : Heap}
    (hrel : HeapRel H L na (E3J H na ci') HF) : HeapRel H L na (E3 H na ci') HF := by
  intro q hq
  obtain ⟨o, o', ho, ho', h1, h2, h3, h4⟩ := hrel q hq
  obtain ⟨o1, t, ho1, _, g⟩ := jgenFs_iff.mp (jgenFs_of_flatFs (hL.flat q hq))
  cases ho.symm.trans ho1
  exact ⟨o, o', ho, ho', h1, h2, h3, fun n v hv =>
    (h4 n v hv).trans (congrArg some (exp3J_plain H na ci' v (jgen_plain g hv)))⟩

end

theorem json_core (K : Consts) (ts : TypeSystem) (cass : List Cas) (ci : Nat) (c : Cas) (hp : Heap)
    (tsIdx ci' : Nat) (doc : JDoc) (st : St)
    (hc : cass[ci]? = some c) (hwf : RTWf c hp)
    (hsave : saveJson K ts cass ci hp .none = .ok (doc, st))
    (hflat : ∀ q ∈ st.allFs, FlatFs K ts c ci st.heap q.2)
    (hjson : ∀ q ∈ st.allFs, JsonFs ts st.heap q.2)
    (hids : ∀ nv ∈ c.views, ∀ e ∈ Index.all nv.2.idx, (xidOf hp e.oid).isSome = true)
    (hdis : ∀ q ∈ st.allFs, ∀ nv ∈ c.views, q.1 ≠ nv.2.sofa.xid)
    (hmem : ∀ nv ∈ c.views, ∀ e ∈ Index.all nv.2.idx, Xmi.slot st.heap e.oid "sofa" ≠ some .none)
    (hmok : MembersOk c st.heap) :
    ∃ (ld : Loaded) (m : Int),
      loadJson K ts tsIdx ci' false false st.heap doc = .ok ld ∧ ld.ts = ts ∧
      LOk K ts c ci st.heap (sortById st.allFs) ∧
      doc.fss = c.views.map (fun p => renderSofa hp p.2.sofa) ++ (sortById st.allFs).map (elemOfJ K ts cass st.heap) ∧
      doc.views = c.views.map (jviewH st.heap) ∧ doc.types = none ∧
      (∀ q ∈ sortById st.allFs, ∀ o t, st.heap[q.2]? = some o → find? ts o.ty = some t →
        ∀ f ∈ allFeatures t, SofaRangeOk K ts o f) ∧
      HeapRel st.heap (sortById st.allFs) (naOf st.heap (sortById st.allFs))
        (E3 st.heap (naOf st.heap (sortById st.allFs)) ci') ld.heap ∧
      ViewsRelJ st.heap (naOf st.heap (sortById st.allFs)) c.views ld.cas.views ∧
      ld.cas.views.map (viewContent ld.heap) = c.views.map (viewContent st.heap) ∧
      ld.cas.nextXid = m + 1 ∧ 0 ≤ m ∧ (∀ q ∈ sortById st.allFs, q.1 ≤ m) ∧
      (∀ nv ∈ c.views, nv.2.sofa.xid ≤ m ∧ nv.2.sofa.sofaNum < ld.cas.nextSofaNum) := by
  obtain ⟨hfa, fsElems, hr, _, _, hdtypes⟩ := saveJson_parts hc (fun nv hnv => (hwf.text_sofa nv hnv).1) hsave
  have hL := lok_of_findAllFs (ci := ci) hwf hfa hflat
  obtain ⟨g, hdfss, hviews⟩ := json_written_coll hc hwf hsave
    (fun q hq => ⟨Or.inl (jgenFs_of_flatFs (hflat q hq)), hjson q hq⟩) hids hdis
  have hsr : ∀ q ∈ sortById st.allFs, ∀ o t, st.heap[q.2]? = some o → find? ts o.ty = some t →
      ∀ f ∈ allFeatures t, SofaRangeOk K ts o f := by
    intro q hq o t ho ht
    obtain ⟨e, he⟩ := renderAll_ok_each K ts cass st.heap _ fsElems hr q hq
    exact sofaRange_of_renderFs K ts cass c ci st.heap q.2 o t (jgenFs_of_flatFs (hL.flat q hq)) ho ht e he
  obtain ⟨ld, m, hload, hts, hrel, hvrel, hvc, hrest⟩ := json_read_coll g st.heap tsIdx ci' doc hdfss hviews hmem hmok
  exact ⟨ld, m, hload, hts, hL, hdfss, hviews, (Except.ok.inj hdtypes).symm, hsr, heapRel_flat hL hrel, hvrel, hvc, hrest⟩

end Cassis.Json
