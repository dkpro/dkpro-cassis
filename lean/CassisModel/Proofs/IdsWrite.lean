/-
C09, document level (`Properties/C09Write.lean`).  The written documents: the pieces of a written XMI or JSON document
that carry ids, and why sofas and collected structures never share one (what `findAllFs` does with the ids it finds is
read off `Collected`, `Proofs/Reach.lean`; in JSON the sofa part is rendered before the traversal, `Json.sofaPart`, the collected
structures after it).  Histories: along every API history from an empty CAS the generator and all sofa ids stay positive
(`Pos`), which with `ids_history` (unique, bounded ids) gives the hypotheses of `saveXmi_ids_distinct` /
`saveJson_ids_distinct` in every reachable state (`write_hyps`).
-/
import CassisModel.Spec.IdsWrite
import CassisModel.Proofs.Reach
import CassisModel.Proofs.XmiCodec
import CassisModel.Proofs.JsonWriter
import CassisModel.Proofs.Cas

namespace Cassis.Traverse
open Cassis.TS

/-- what the run knows about ids: relation to the initial heap, ids below the generator, and every id assigned
    during the run is registered in `allFs` -/
structure NInv (hp0 : Heap) (nx0 : Int) (s : St) : Prop where
  fut : Fut hp0 nx0 s.heap s.nextXid
  below : IdsBelow s.heap s.nextXid
  assigned : ∀ a x, xidOf hp0 a = none → xidOf s.heap a = some x → (x, a) ∈ s.allFs

theorem allFs_nodup_append {K : Consts} {ts : TypeSystem} {o : Opts} {hp : Heap} {nx : Int} {seeds : List Nat} {st : St}
    (h : findAllFs K ts o hp nx seeds = .ok st) (S : List Int) :
    (S ++ st.allFs.map (·.1)).Nodup ↔ S.Nodup ∧ ∀ p ∈ st.allFs, p.1 ∉ S := by
  rw [List.nodup_append]
  constructor
  · rintro ⟨hs, _, hdis⟩
    exact ⟨hs, fun p hp' hm => hdis p.1 hm p.1 (List.mem_map.mpr ⟨p, hp', rfl⟩) rfl⟩
  · rintro ⟨hs, hdis⟩
    refine ⟨hs, (findAllFs_inv K ts o hp nx seeds st h).1.nodupK, fun x hx y hy e => ?_⟩
    obtain ⟨p, hp', rfl⟩ := List.mem_map.mp hy
    exact hdis p hp' (by rw [← e]; exact hx)

/-- sofas and collected structures never share an id, under the input-level hypotheses: a kept id is not a sofa's by
    assumption, a generated one is not below the generator -/
theorem collected_sofa_disjoint (K : Consts) (ts : TypeSystem) (o : Opts) (hp : Heap) (c : Cas) (seeds : List Nat)
    (st : St) (hnx : 0 < c.nextXid) (hs : (Cas.sofaIds c).Nodup) (hsb : ∀ x ∈ Cas.sofaIds c, x < c.nextXid)
    (hfs : ∀ a x, Reach K ts o hp (hp.length + 1) seeds a → xidOf hp a = some x → x ∉ Cas.sofaIds c)
    (h : findAllFs K ts o hp c.nextXid seeds = .ok st) :
    (Cas.sofaIds c ++ st.allFs.map (·.1)).Nodup := by
  have cl := findAllFs_collected hnx h
  refine (allFs_nodup_append h _).mpr ⟨hs, fun p hp' hm => ?_⟩
  rcases cl.oinv.origin p.1 p.2 hp' with hk | ⟨_, hge, _⟩
  · exact hfs p.2 p.1 ((cl.mem_iff hnx p.2).mp (List.mem_map_of_mem hp')).1 hk hm
  · have := hsb p.1 hm
    omega

end Cassis.Traverse

namespace Cassis.Xmi
open Cassis.TS Cassis.Lex

theorem filterMap_of_map_some {α β} (f : α → Option β) (l : List α) (m : List β) (h : l.map f = m.map some) :
    l.filterMap f = m := by
  induction l generalizing m with
  | nil =>
    cases m with
    | nil => rfl
    | cons _ _ => cases h
  | cons a l ih =>
    cases m with
    | nil => cases h
    | cons b m =>
      simp only [List.map_cons, List.cons.injEq] at h
      rw [List.filterMap_cons, h.1, ih m h.2]

theorem attr_renderSofa_id (s : Sofa) : attr (renderSofa s) ID = some (showInt s.xid) := by
  show alistGet? ((ID, _) :: _) ID = _
  rw [alistGet?_cons, if_pos rfl]

theorem attr_renderSofa_num (s : Sofa) : attr (renderSofa s) "sofaNum" = some (showInt s.sofaNum) := by
  show alistGet? ((ID, _) :: ("sofaNum", _) :: _) "sofaNum" = _
  rw [alistGet?_cons, if_neg (by decide), alistGet?_cons, if_pos rfl]

theorem attr_renderView_id (hp : Heap) (v : View) : attr (renderView hp v) ID = none := by
  show alistGet? [("sofa", _), ("members", _)] ID = _
  rw [alistGet?_cons, if_neg (by decide), alistGet?_cons, if_neg (by decide)]
  rfl

theorem docIds_sofaElems (c : Cas) :
    docIds (c.views.map (fun p => renderSofa p.2.sofa)) = (Cas.sofaIds c).map showInt := by
  unfold docIds Cas.sofaIds
  apply filterMap_of_map_some
  simp only [List.map_map]
  exact List.map_congr_left (fun p _ => attr_renderSofa_id _)

theorem docIds_views (hp : Heap) (c : Cas) : docIds (c.views.map (fun p => renderView hp p.2)) = [] := by
  unfold docIds
  rw [List.filterMap_eq_nil_iff]
  intro e he
  obtain ⟨p, _, rfl⟩ := List.mem_map.mp he
  exact attr_renderView_id _ _

theorem docIds_renderAll {K : Consts} {ts : TypeSystem} {cass : List Cas} {hp : Heap} {c : Cas} {st : Traverse.St}
    {fsElems : List XElem}
    (hst : Traverse.findAllFs K ts {} hp c.nextXid (Traverse.defaultSeeds c) = .ok st)
    (hr : renderAll K ts cass st.heap (sortById st.allFs) = .ok fsElems) :
    docIds fsElems = (sortById st.allFs).map (fun p => showInt p.1) := by
  refine filterMap_of_map_some _ _ _ ?_
  rw [List.map_map]
  refine renderAll_ids K ts cass st.heap _ _ hr (fun p hp' => ?_)
  exact (Traverse.findAllFs_inv K ts {} hp c.nextXid _ st hst).1.link p.1 p.2
    ((sortById_perm_aux st.allFs).mem_iff.mp hp')

theorem nodup_map_showInt (l : List Int) : (l.map showInt).Nodup ↔ l.Nodup :=
  Det.nodup_map_iff (fun _ _ => showInt_injective) l

theorem sofaElems_nums_nodup (c : Cas) (h : (Cas.sofaNums c).Nodup) :
    ((sofaElems c).map (fun e => attr e "sofaNum")).Nodup := by
  have : (sofaElems c).map (fun e => attr e "sofaNum") = ((Cas.sofaNums c).map showInt).map some := by
    unfold sofaElems Cas.sofaNums
    simp only [List.map_map]
    exact List.map_congr_left (fun p _ => attr_renderSofa_num _)
  rw [this, Det.nodup_map_iff (fun _ _ => Option.some.inj), nodup_map_showInt]
  exact h

end Cassis.Xmi

namespace Cassis.Json
open Cassis.TS

theorem sofaPart_ids {K : Consts} {ts : TypeSystem} {cass : List Cas} {hp : Heap} {p : String × View} {part : List JFs}
    (h : sofaPart K ts cass hp p = .ok part) :
    part.map (·.id) = (match p.2.sofa.arr with | .ref a => [idOf hp a] | _ => []) ++ [some p.2.sofa.xid] := by
  unfold sofaPart at h
  split at h
  · rename_i a ha
    obtain ⟨e, hr, rfl⟩ := Det.map_ok h
    have : e.id = idOf hp a := renderFs_xid hr
    rw [ha]
    simp only [List.map_cons, List.map_nil, this, renderSofa, List.cons_append, List.nil_append]
  · rename_i hna
    cases h
    split
    · rename_i a ha; exact absurd ha (hna a)
    · rfl

theorem sofaParts_ids {K : Consts} {ts : TypeSystem} {cass : List Cas} {hp : Heap} {c : Cas} {parts : List (List JFs)}
    (h : c.views.mapM (sofaPart K ts cass hp) = .ok parts) : parts.flatten.map (·.id) = sofaPartIds hp c := by
  unfold sofaPartIds
  rw [List.map_flatten, Det.mapM_ok_map h (fun p _ part hpart => sofaPart_ids hpart), List.flatMap_def]
  rfl

theorem sofaParts_mem {K : Consts} {ts : TypeSystem} {cass : List Cas} {hp : Heap} {l : List (String × View)}
    {parts : List (List JFs)} (h : l.mapM (sofaPart K ts cass hp) = .ok parts) (p : String × View) (hp' : p ∈ l) :
    renderSofa hp p.2.sofa ∈ parts.flatten := by
  obtain ⟨part, hm, hpart⟩ := (Det.mapM_ok_mem h).1 p hp'
  refine List.mem_flatten.mpr ⟨part, hm, ?_⟩
  unfold sofaPart at hpart
  split at hpart
  · obtain ⟨e, _, rfl⟩ := Det.map_ok hpart
    exact List.mem_cons_of_mem _ List.mem_cons_self
  · cases hpart
    exact List.mem_cons_self

theorem saveJson_error_of (K : Consts) (ts : TypeSystem) (cass : List Cas) (ci : Nat) (hp : Heap) (mode : Mode)
    (c : Cas) (e : Err) (hc : cass[ci]? = some c)
    (hs : ∀ p ∈ c.views, ∀ a, p.2.sofa.arr = .ref a → ∃ e, renderFs K ts cass hp a = .ok e)
    (h : Traverse.findAllFs K ts { includeInlinable := true } hp c.nextXid (Traverse.defaultSeeds c) = .error e) :
    saveJson K ts cass ci hp mode = .error e := by
  obtain ⟨parts, hps⟩ : ∃ parts, c.views.mapM (sofaPart K ts cass hp) = .ok parts := by
    refine Det.mapM_total (fun p hp' => ?_)
    unfold sofaPart
    split
    · rename_i a ha
      obtain ⟨e, he⟩ := hs p hp' a ha
      rw [he]
      exact ⟨_, rfl⟩
    · exact ⟨_, rfl⟩
  rw [saveJson_eq K ts cass ci c hp mode hc, hps]
  show (Traverse.findAllFs K ts { includeInlinable := true } hp c.nextXid (Traverse.defaultSeeds c)).bind _ = _
  rw [h]
  rfl

theorem fss_ids {K : Consts} {ts : TypeSystem} {cass : List Cas} {hp : Heap} {c : Cas} {st : Traverse.St}
    {fsElems : List JFs}
    (hst : Traverse.findAllFs K ts { includeInlinable := true } hp c.nextXid (Traverse.defaultSeeds c) = .ok st)
    (hr : renderAll K ts cass st.heap (Xmi.sortById st.allFs) = .ok fsElems) :
    fsElems.map (·.id) = (Xmi.sortById st.allFs).map (fun p => some p.1) :=
  renderAll_ids K ts cass st.heap _ _ hr (fun p hp' =>
    (Traverse.findAllFs_inv K ts _ hp c.nextXid _ st hst).1.link p.1 p.2 ((Xmi.sortById_perm_aux st.allFs).mem_iff.mp hp'))

theorem sofaPartIds_noArray (hp : Heap) (c : Cas) (hna : NoSofaArray c) :
    sofaPartIds hp c = (Cas.sofaIds c).map some := by
  unfold sofaPartIds Cas.sofaIds
  have : ∀ l : List (String × View), (∀ p ∈ l, ∀ a, p.2.sofa.arr ≠ .ref a) →
      l.flatMap (fun p => (match p.2.sofa.arr with | .ref a => [idOf hp a] | _ => []) ++ [some p.2.sofa.xid]) =
      (l.map (fun p => p.2.sofa.xid)).map some := by
    intro l
    induction l with
    | nil => intro _; rfl
    | cons p l ih =>
      intro hl
      rw [List.flatMap_cons, ih (fun q hq => hl q (List.mem_cons_of_mem _ hq))]
      have : (match p.2.sofa.arr with | .ref a => [idOf hp a] | _ => ([] : List (Option Int))) = [] := by
        split
        · rename_i a ha; exact absurd ha (hl p List.mem_cons_self a)
        · rfl
      rw [this]
      rfl
  exact this c.views hna

theorem sofaNumOf_renderSofa (hp : Heap) (s : Sofa) : sofaNumOf (renderSofa hp s) = some (JV.int s.sofaNum) := by
  show alistGet? (("sofaNum", _) :: _) "sofaNum" = _
  rw [alistGet?_cons, if_pos rfl]

theorem sofa_nums_nodup (hp : Heap) (c : Cas) (h : (Cas.sofaNums c).Nodup) :
    ((c.views.map (fun p => renderSofa hp p.2.sofa)).map sofaNumOf).Nodup := by
  have : (c.views.map (fun p => renderSofa hp p.2.sofa)).map sofaNumOf =
      ((Cas.sofaNums c).map JV.int).map some := by
    unfold Cas.sofaNums
    simp only [List.map_map]
    exact List.map_congr_left (fun p _ => sofaNumOf_renderSofa _ _)
  rw [this, Det.nodup_map_iff (fun _ _ => Option.some.inj), Det.nodup_map_iff (fun _ _ => JV.int.inj)]
  exact h

end Cassis.Json

namespace Cassis.Cas

/-- the generator and every sofa id are positive (so no sofa collides with the `cas:NULL` element) -/
def Pos (s : CState) : Prop := 0 < s.cas.nextXid ∧ ∀ x ∈ sofaIds s.cas, 0 < x

theorem pos_update {s s' : CState} (hp : Pos s) (hsig : sig s'.cas = sig s.cas)
    (hnx : s.cas.nextXid ≤ s'.cas.nextXid) : Pos s' := by
  refine ⟨Int.lt_of_lt_of_le hp.1 hnx, ?_⟩
  rw [sofaIds_of_sig, hsig, ← sofaIds_of_sig]
  exact hp.2

theorem eff_pos {s s' : CState} (e : Eff s s') (hp : Pos s) : Pos s' := by
  cases e with
  | view hd name _ _ =>
    refine ⟨Int.lt_trans hp.1 (Int.lt_succ _), fun x hx => ?_⟩
    rcases List.mem_append.mp (show x ∈ sofaIds s.cas ++ [s.cas.nextXid] by simpa [sofaIds, newView] using hx) with h | h
    · exact hp.2 x h
    · rw [List.mem_singleton.mp h]; exact hp.1
  | handle | alloc | keep => exact hp
  | fresh a o' hx => exact pos_update hp rfl (Int.le_of_lt (Int.lt_succ _))
  | setView n v v' hv hs => exact pos_update hp (sig_setViewRec _ _ v v' hv hs.sig.1 hs.sig.2.1 hs.sig.2.2) (Int.le_refl _)

theorem pos_init (lenient : Bool) : Pos (init lenient) := by
  unfold Pos init
  simp only [empty_eq]
  refine ⟨by omega, ?_⟩
  intro x hx
  simp only [sofaIds, List.map_cons, List.map_nil, List.mem_singleton] at hx
  omega

theorem pos_history (K : TS.Consts) (ts : TS.TypeSystem) (lenient : Bool) (ops : List COp) :
    Pos (ops.foldl (cstep K ts) (init lenient)) :=
  history_ind (fun _ _ => eff_pos) K ts ops _ (pos_init lenient)

/-- the hypotheses of the writers' distinctness theorems, from the state invariants -/
theorem write_hyps {s : CState} (hb : Bounded s) (hu : UniqueIds s) (hp : Pos s) :
    0 < s.cas.nextXid ∧ (sofaIds s.cas).Nodup ∧ (∀ x ∈ sofaIds s.cas, 0 < x ∧ x < s.cas.nextXid) ∧
    (∀ a x, Traverse.xidOf s.heap a = some x → x ∉ sofaIds s.cas) ∧ (sofaNums s.cas).Nodup := by
  have hnd := List.nodup_append.mp hu.1
  refine ⟨hp.1, hnd.1, fun x hx => ⟨hp.2 x hx, hb.1 x hx⟩, ?_, hu.2⟩
  intro a x hxa hm
  refine hnd.2.2 x hm x ?_ rfl
  rw [mem_fsIds]
  obtain ⟨o, ho, hxa⟩ := Traverse.xidOf_some hxa
  exact ⟨a, o, ho, hxa⟩

end Cassis.Cas
