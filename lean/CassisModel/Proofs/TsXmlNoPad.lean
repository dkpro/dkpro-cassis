/-
What the reader's whitespace stripping (`strip`, `stripF`, `stripT` of `Model/TsXml.lean`) does to texts that carry no
surrounding whitespace: nothing.  `noPad` is a Boolean test that the kernel can evaluate on string literals
(`String.Slice.dropWhile` itself does not reduce in the kernel).  At the end the two kinds of declaration that a
descriptor may repeat from the library's own definitions (`docEntry`, `builtinEntry`), which the evaluated instances need
without the loader's proofs.
-/
import CassisModel.Spec.TsXml

namespace Cassis.TsXml
open Cassis.TS

/-- neither the first nor the last character is whitespace (`isPySpace`: Python's `str.isspace`) -/
def noPad (s : String) : Bool :=
  !(s.toList.head?.any isPySpace) && !(s.toList.getLast?.any isPySpace)

theorem strip_of_noPad {s : String} (h : noPad s = true) : strip s = s := by
  unfold noPad at h
  simp only [Bool.and_eq_true, Bool.not_eq_true'] at h
  unfold strip
  have a : s.toSlice.dropWhile isPySpace = s.toSlice := by
    rw [String.dropWhile_toSlice]
    exact String.dropWhile_eq_toSlice (by rw [String.startsWith_bool_eq_head?]; exact h.1)
  rw [a, String.dropEndWhile_toSlice,
    String.dropEndWhile_eq_toSlice (by rw [String.endsWith_bool_eq_getLast?]; exact h.2)]
  simp

/-- `front?` / `back?` decode one character each; rewriting with this before a kernel evaluation on literals avoids
    `String.toList`, which is many times dearer there -/
theorem noPad_eq : noPad = fun s => !(s.front?.any isPySpace) && !(s.back?.any isPySpace) := by
  funext s
  rw [noPad, String.front?_eq, String.back?_eq]

/-- the feature texts other than the description carry no surrounding whitespace -/
def noPadF (f : FDesc) : Bool :=
  noPad f.name && noPad f.range && (match f.elem with | none => true | some e => noPad e)

def noPadT (t : TDesc) : Bool := noPad t.name && noPad t.super && t.feats.all noPadF

/-- the feature texts other than the description are fixed by `strip`, so the reader changes nothing but the description
    (`stripF_of_stripped`) -/
def NamesStrippedF (f : FDesc) : Prop := strip f.name = f.name ∧ strip f.range = f.range ∧ f.elem.map strip = f.elem
/-- likewise the texts of a type entry and of its features (`stripT_of_stripped`) -/
def NamesStrippedT (t : TDesc) : Prop :=
  strip t.name = t.name ∧ strip t.super = t.super ∧ ∀ f ∈ t.feats, NamesStrippedF f

theorem namesStrippedF_of_noPad {f : FDesc} (h : noPadF f = true) : NamesStrippedF f := by
  unfold noPadF at h
  simp only [Bool.and_eq_true] at h
  refine ⟨strip_of_noPad h.1.1, strip_of_noPad h.1.2, ?_⟩
  cases he : f.elem with
  | none => rfl
  | some e =>
    rw [he] at h
    simp only [Option.map_some, strip_of_noPad h.2]

theorem namesStrippedT_of_noPad {t : TDesc} (h : noPadT t = true) : NamesStrippedT t := by
  unfold noPadT at h
  simp only [Bool.and_eq_true] at h
  exact ⟨strip_of_noPad h.1.1, strip_of_noPad h.1.2,
    fun f hf => namesStrippedF_of_noPad (List.all_eq_true.mp h.2 f hf)⟩

/-- `normF`, `normT`: what `normalize` does to an entry whose texts are fixed by `strip` and whose type name occurs
    once — it normalises the descriptions -/
def normF (f : FDesc) : FDesc := { f with descr := normDescr f.descr }
def normT (t : TDesc) : TDesc := { t with descr := normDescr t.descr, feats := t.feats.map normF }

theorem stripF_of_stripped {f : FDesc} (h : NamesStrippedF f) : stripF f = normF f := by
  unfold stripF
  rw [h.1, h.2.1, h.2.2]
  rfl

theorem stripT_of_stripped {t : TDesc} (h : NamesStrippedT t) : stripT t = normT t := by
  unfold stripT normT
  rw [h.1, h.2.1]
  congr 1
  exact List.map_congr_left (fun f hf => stripF_of_stripped (h.2.2 f hf))

theorem stripT_of_noPad_nodescr {t : TDesc} (h : noPadT t = true) (hd : t.descr = none)
    (hf : t.feats.all (fun f => f.descr.isNone) = true) : stripT t = t := by
  rw [stripT_of_stripped (namesStrippedT_of_noPad h)]
  cases t with
  | mk n d s fs =>
    simp only at hd hf ⊢
    subst hd
    simp only [normT, normDescr, TDesc.mk.injEq, true_and]
    conv => rhs; rw [← List.map_id fs]
    apply List.map_congr_left
    intro f hfm
    have := List.all_eq_true.mp hf f hfm
    cases f with
    | mk fn fd fr fm fe =>
      simp only [Option.isNone_iff_eq_none] at this
      subst this
      rfl

/-! ### the declarations a descriptor may repeat -/

/-- the DocumentAnnotation declaration the loader assumes when the descriptor has none -/
def docEntry : TDesc :=
  { name := DOCUMENT_ANNOTATION, super := ANNOTATION, feats := [{ name := "language", range := "uima.cas.String" }] }

/-- a built-in type redeclared exactly as the library defines it -/
def builtinEntry (n : String) : Option TDesc :=
  (find? Gen.builtinTSNoDoc n).map renderType

end Cassis.TsXml
