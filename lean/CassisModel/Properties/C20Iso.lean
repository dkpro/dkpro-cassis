/-
C20 — the comparable text of two *different heaps* that hold isomorphic CASes is the same, and a save/load round trip
produces such a heap.

`Properties/C20.lean` (order) and `Properties/C20Ids.lean` (ids) speak about one heap.  Here:

* `renderFrom_iso` — **invariance under isomorphism**: if the structures collected in `(cass, hp)` and those collected in
  `(cass', hp')` correspond through an address map `φ` (`Iso`, `Spec/ComparableIso.lean`: a bijection between the two
  collected lists that respects the indexed status, the type name, the view, the covered text and every slot value —
  primitives and primitive arrays equal, references to corresponding structures, array objects compared by their
  content, xmi:ids *not* preserved: only their coincidences, `SameKey`), then under the side condition `Distinct` (on one
  side; it transfers, `distinct_iso`) `renderFrom` gives the same result on both sides: the same table or the same
  exception.  The order of the two collected lists, the order and multiplicity of the two indexed lists and the two
  content-hash functions are arbitrary.
* `render_xmi_roundtrip_flat` — **the XMI round trip**: for a CAS in the flat fragment (the hypotheses of
  `xmi_roundtrip_flat`, `Properties/C01RoundTrip.lean`, without `hdis`) whose collected structures satisfy `Distinct`,
  `cas_to_comparable_text(load_cas_from_xmi(cas.to_xmi()))` is `cas_to_comparable_text(cas)`: `render` of the loaded CAS
  (its own traversal of the loaded heap included) and `render` of the original give the same table (or fail alike).
  `xmi_roundtrip_flat_iso` exhibits the isomorphism.
* `render_json_roundtrip_flat` — the same for `load_cas_from_json(cas.to_json())` (hypotheses of `json_roundtrip_flat`).

What the definitions of `Iso` rest on (each point has an evaluated instance in `Spec/ComparableIsoCheck.lean`):
* ids: `SameKey` is what the anchor map needs — the map is keyed by xmi:id, a later structure with the same id
  overwrites the anchor of an earlier one, and a reference is rendered by looking up the id of its target.  Two collected
  structures that share an id on one side but not on the other give different tables (`cx_key`); a reference to a
  structure that is not collected renders as `None` unless its id is the id of a collected structure (`cx_stale_id`);
* nesting depth: `ValRel` is indexed by a nesting depth; `Iso.slots` asks for it at *some* depth (`∃ d`), with no
  reference to the sizes of the heaps: the recursion budget of the model, `2 * |heap| + 2` (two units per level of array
  nesting: `[[[]]]` in a heap of four objects takes more than `|heap| + 1`), is as good as any larger one
  (`renderVal_saturated`, `Proofs/ComparableFuel.lean`), so each side may run with its own budget (`cx_depth`: the same
  `[[[]]]` in a heap of four and in a heap of seven objects).  A cyclic
  nesting of arrays is related to no finite depth, although both sides then fail alike (`RecursionError` in Python,
  `RuntimeError` in the model); `Properties/C20IsoColl.lean` covers that case with a semantic variant of `Iso`;
* arrays are compared by content, so an inlined array that comes back from a load as a new object without id is fine;
  `elements = None` (rendered as `None`) is kept apart from `<NULL>`.

A reachable difference outside the flat fragment (and outside the fragment of `xmi_roundtrip_coll` only through the
known equivalence it states): an *empty string* element of a `StringArray` feature is read back from
XMI as `None`, so the comparable text changes from `''` to `'<NULL>'` across `load_cas_from_xmi(cas.to_xmi())`
(`cx_strarray_empty` in the check file; replayed on `/repo`).  `Properties/C20IsoColl.lean` extends the XMI corollary to the
whole format (`render_xmi_roundtrip_coll`) with this and three more hypotheses, each forced by a counterexample.
-/
import CassisModel.Proofs.ComparableIsoFlat
import CassisModel.Proofs.RoundTripFlat
import CassisModel.Proofs.ComparableIsoDemo
import CassisModel.Spec.ComparableIsoCheck

namespace Cassis.Comparable
open Cassis.TS Cassis.Traverse Cassis.Xmi

/-- **invariance under isomorphism**: the tables of two isomorphic sides are equal (both `.ok` with the same
    sections, or both the same exception) -/
theorem renderFrom_iso (K : Consts) (ts : TypeSystem) (cass cass' : List Cas) (hp hp' : Heap) (o : Opts)
    (hsh hsh' : Nat → Int) (indexed indexed' addrs addrs' : List Nat) (φ : Nat → Nat)
    (hiso : Iso K cass cass' hp hp' indexed indexed' addrs addrs' φ) (hd : Distinct hp addrs) :
    renderFrom K ts cass' hp' o hsh' indexed' addrs' = renderFrom K ts cass hp o hsh indexed addrs :=
  renderFrom_isoR K ts cass cass' hp hp' o hsh hsh' indexed indexed' addrs addrs' φ hiso.toIsoR hd

/-- the side condition transfers along an isomorphism -/
theorem distinct_iso (K : Consts) (cass cass' : List Cas) (hp hp' : Heap) (indexed indexed' addrs addrs' : List Nat)
    (φ : Nat → Nat) (hiso : Iso K cass cass' hp hp' indexed indexed' addrs addrs' φ) (hd : Distinct hp addrs) :
    Distinct hp' addrs' :=
  hiso.distinct hd

/-- the condition on ids (`Iso.key`) when the collected ids are pairwise distinct on both sides (what every traversal
    delivers: `findAllFs` gives every collected structure an id of its own): no condition at all -/
theorem sameKey_of_ids_distinct (hp hp' : Heap) (addrs : List Nat) (φ : Nat → Nat)
    (h1 : ∀ a ∈ addrs, ∀ b ∈ addrs, xidOf hp a = xidOf hp b → a = b)
    (h2 : ∀ a ∈ addrs, ∀ b ∈ addrs, xidOf hp' (φ a) = xidOf hp' (φ b) → a = b) :
    ∀ a ∈ addrs, SameKey hp hp' addrs φ a (φ a) :=
  fun a ha b hb => ⟨fun h => by rw [h1 b hb a ha h], fun h => by rw [h2 b hb a ha h]⟩

/-- a reference to a structure that is not collected and whose id is not the id of a collected structure, on both
    sides (both render as `None`) -/
theorem sameKey_fresh (hp hp' : Heap) (addrs : List Nat) (φ : Nat → Nat) (a a' : Nat)
    (h1 : ∀ b ∈ addrs, xidOf hp b ≠ xidOf hp a) (h2 : ∀ b ∈ addrs, xidOf hp' (φ b) ≠ xidOf hp' a') :
    SameKey hp hp' addrs φ a a' :=
  fun b hb => ⟨fun h => absurd h (h1 b hb), fun h => absurd h (h2 b hb)⟩

/-- the XMI round trip on the flat fragment produces an isomorphic CAS: the traversal of the loaded CAS succeeds without
    touching the loaded heap, and what it collects is isomorphic to what the writer collected -/
theorem xmi_roundtrip_flat_iso (K : Consts) (ts : TypeSystem) (cass : List Cas) (ci : Nat) (c : Cas) (hp : Heap)
    (tsIdx : Nat) (doc : XDoc) (st : St)
    (hc : cass[ci]? = some c) (hwf : RTWf c hp) (hnull : NullOk ts)
    (hsave : saveXmi K ts cass ci hp = .ok (doc, st))
    (hflat : ∀ q ∈ st.allFs, FlatFs K ts c ci st.heap q.2)
    (hmem : ∀ nv ∈ c.views, ∀ e ∈ Index.all nv.2.idx, Xmi.slot st.heap e.oid "sofa" ≠ some .none)
    (hmok : MembersOk c st.heap) :
    ∃ (ld : Loaded) (φ : Nat → Nat) (st' : St),
      loadXmi K ts tsIdx cass.length false st.heap doc = .ok ld ∧
      findAllFs K ts {} ld.heap ld.cas.nextXid (defaultSeeds ld.cas) = .ok st' ∧ st'.heap = ld.heap ∧
      Iso K cass (cass ++ [ld.cas]) st.heap ld.heap (defaultSeeds c) (defaultSeeds ld.cas)
        (st.allFs.map (·.2)) (st'.allFs.map (·.2)) φ := by
  obtain ⟨na, p, ld, _, hload, hL, _, _, hrel3, _, hvrel, _⟩ :=
    xmi_core_flat K ts cass ci c hp tsIdx cass.length doc st hc hwf hnull hsave hflat hmem hmok
  obtain ⟨st', hfa', hheap, hperm⟩ := (moved_flat (op := {}) hL hrel3 (viewsRel_get_text hvrel) _).findAllFs_collected
    hwf.next_pos (saveXmi_findAllFs hc hsave) (sortById_perm _) (fun _ ha => seeds_fwd hL.ids hL.members hvrel ha)
    (fun _ _ hx ha => seeds_bwd hL.ids hvrel hx ha) (loadXmi_nextXid_pos hload)
  exact ⟨ld, phiOf st.heap na, st', hload, hfa', hheap,
    iso_of_heapRel hc List.getElem?_concat_length hL hrel3 (viewsSame_of_rel hvrel) (viewsMembers_of_rel hvrel) _ _
      ((sortById_perm st.allFs).symm.map _) (perm_map_snd_sortById hperm)⟩

/-- **C20 across the XMI round trip (flat fragment)**: the comparable text of the loaded CAS is that of the original.
    The loaded CAS is registered behind the existing ones (`cass ++ [ld.cas]`, index `cass.length`) and lives in the heap
    the loader extended (`ld.heap`); both sides run the whole function, traversal included; options and the two
    content-hash functions are arbitrary.  `Except.map (·.1)` drops the traversal state: equal tables or equal exceptions. -/
theorem render_xmi_roundtrip_flat (K : Consts) (ts : TypeSystem) (cass : List Cas) (ci : Nat) (c : Cas) (hp : Heap)
    (tsIdx : Nat) (doc : XDoc) (st : St) (o : Opts) (hsh hsh' : Nat → Int)
    (hc : cass[ci]? = some c) (hwf : RTWf c hp) (hnull : NullOk ts)
    (hsave : saveXmi K ts cass ci hp = .ok (doc, st))
    (hflat : ∀ q ∈ st.allFs, FlatFs K ts c ci st.heap q.2)
    (hmem : ∀ nv ∈ c.views, ∀ e ∈ Index.all nv.2.idx, Xmi.slot st.heap e.oid "sofa" ≠ some .none)
    (hmok : MembersOk c st.heap)
    (hd : Distinct st.heap (st.allFs.map (·.2))) :
    ∃ ld : Loaded,
      loadXmi K ts tsIdx cass.length false st.heap doc = .ok ld ∧
      (render K ts (cass ++ [ld.cas]) cass.length ld.heap o hsh' none).map (·.1)
        = (render K ts cass ci hp o hsh none).map (·.1) := by
  obtain ⟨ld, φ, st', hload, hfa', hheap, hiso⟩ :=
    xmi_roundtrip_flat_iso K ts cass ci c hp tsIdx doc st hc hwf hnull hsave hflat hmem hmok
  exact ⟨ld, hload, render_eq_of_isoR o hsh hsh' hc List.getElem?_concat_length (saveXmi_findAllFs hc hsave) hfa'
    (hheap ▸ hiso.toIsoR) hd⟩

/-- the JSON round trip on the flat fragment (no embedded type system, the original type system supplied) produces an
    isomorphic CAS.  The JSON writer traverses with `include_inlinable_arrays_and_lists=True`; on the flat fragment
    this is the run `cas_to_comparable_text` makes on the original (second conjunct). -/
theorem json_roundtrip_flat_iso (K : Consts) (ts : TypeSystem) (cass : List Cas) (ci : Nat) (c : Cas) (hp : Heap)
    (tsIdx : Nat) (doc : Json.JDoc) (st : St)
    (hc : cass[ci]? = some c) (hwf : RTWf c hp)
    (hsave : Json.saveJson K ts cass ci hp .none = .ok (doc, st))
    (hflat : ∀ q ∈ st.allFs, FlatFs K ts c ci st.heap q.2)
    (hjson : ∀ q ∈ st.allFs, Json.JsonFs ts st.heap q.2)
    (hids : ∀ nv ∈ c.views, ∀ e ∈ Index.all nv.2.idx, (xidOf hp e.oid).isSome = true)
    (hdis : ∀ q ∈ st.allFs, ∀ nv ∈ c.views, q.1 ≠ nv.2.sofa.xid)
    (hmem : ∀ nv ∈ c.views, ∀ e ∈ Index.all nv.2.idx, Xmi.slot st.heap e.oid "sofa" ≠ some .none)
    (hmok : MembersOk c st.heap) :
    ∃ (ld : Json.Loaded) (φ : Nat → Nat) (st' : St),
      Json.loadJson K ts tsIdx cass.length false false st.heap doc = .ok ld ∧
      findAllFs K ts {} hp c.nextXid (defaultSeeds c) = .ok st ∧
      findAllFs K ts {} ld.heap ld.cas.nextXid (defaultSeeds ld.cas) = .ok st' ∧ st'.heap = ld.heap ∧
      Iso K cass (cass ++ [ld.cas]) st.heap ld.heap (defaultSeeds c) (defaultSeeds ld.cas)
        (st.allFs.map (·.2)) (st'.allFs.map (·.2)) φ := by
  obtain ⟨ld, m, hload, _, g, _, _, _, _, hrel, hviews, _, hnx, hm0, _, _⟩ :=
    Json.json_core K ts cass ci c hp tsIdx cass.length doc st hc hwf hsave hflat hjson hids hdis hmem hmok
  have hL := g
  have hfaJ := (Json.saveJson_parts hc (fun nv hnv => (hwf.text_sofa nv hnv).1) hsave).1
  have hfa : findAllFs K ts {} hp c.nextXid (defaultSeeds c) = .ok st :=
    findAllFs_opts false hfaJ (fun q hq ob t hob ht => optFree_of_flat (hflat q hq) hob ht)
  obtain ⟨st', hfa', hheap, hperm⟩ := (moved_flat (op := {}) hL hrel (Json.viewsRelJ_get_text hviews) _).findAllFs_collected
    hwf.next_pos hfa (sortById_perm _) (fun _ ha => Json.seed_fwdJ hL hviews ha)
    (fun _ _ hx ha => Json.seed_bwdJ hL hviews hx ha) (nx' := ld.cas.nextXid) (by omega)
  exact ⟨ld, _, st', hload, hfa, hfa', hheap,
    iso_of_heapRel hc List.getElem?_concat_length hL hrel (viewsSame_of_relJ hviews) (viewsMembers_of_relJ hviews) _ _
      ((sortById_perm st.allFs).symm.map _) (perm_map_snd_sortById hperm)⟩

/-- **C20 across the JSON round trip (flat fragment)**: the hypotheses of `json_roundtrip_flat`
    (`Properties/C02RoundTrip.lean`) and `Distinct` -/
theorem render_json_roundtrip_flat (K : Consts) (ts : TypeSystem) (cass : List Cas) (ci : Nat) (c : Cas) (hp : Heap)
    (tsIdx : Nat) (doc : Json.JDoc) (st : St) (o : Opts) (hsh hsh' : Nat → Int)
    (hc : cass[ci]? = some c) (hwf : RTWf c hp)
    (hsave : Json.saveJson K ts cass ci hp .none = .ok (doc, st))
    (hflat : ∀ q ∈ st.allFs, FlatFs K ts c ci st.heap q.2)
    (hjson : ∀ q ∈ st.allFs, Json.JsonFs ts st.heap q.2)
    (hids : ∀ nv ∈ c.views, ∀ e ∈ Index.all nv.2.idx, (xidOf hp e.oid).isSome = true)
    (hdis : ∀ q ∈ st.allFs, ∀ nv ∈ c.views, q.1 ≠ nv.2.sofa.xid)
    (hmem : ∀ nv ∈ c.views, ∀ e ∈ Index.all nv.2.idx, Xmi.slot st.heap e.oid "sofa" ≠ some .none)
    (hmok : MembersOk c st.heap)
    (hd : Distinct st.heap (st.allFs.map (·.2))) :
    ∃ ld : Json.Loaded,
      Json.loadJson K ts tsIdx cass.length false false st.heap doc = .ok ld ∧
      (render K ts (cass ++ [ld.cas]) cass.length ld.heap o hsh' none).map (·.1)
        = (render K ts cass ci hp o hsh none).map (·.1) := by
  obtain ⟨ld, φ, st', hload, hfa, hfa', hheap, hiso⟩ :=
    json_roundtrip_flat_iso K ts cass ci c hp tsIdx doc st hc hwf hsave hflat hjson hids hdis hmem hmok
  exact ⟨ld, hload, render_eq_of_isoR o hsh hsh' hc List.getElem?_concat_length hfa hfa' (hheap ▸ hiso.toIsoR) hd⟩

/-! ### Non-vacuity

The instance `Demo` of `Proofs/InstancesFlat.lean` (two `x.Tok` annotations over the text `a😀b` that refer to each other, one
indexed): all hypotheses of `render_xmi_roundtrip_flat` hold (`Demo.demo_hyps`, `demo_distinct`), so the theorem applies;
the isomorphism it goes through is an instance of `Iso` with a non-empty collected list (two structures, references
between them, a view, covered text).  `Spec/ComparableIsoCheck.lean` quotes the evaluated table (both sides) of
the like instance `ResDemo.flat*` (type `x.F` in place of `x.Tok`). -/

example : ∃ (doc : XDoc) (st : St),
    saveXmi Demo.K Demo.demoTS [Demo.demo.1] 0 Demo.demo.2 = .ok (doc, st) ∧
    [Demo.demo.1][0]? = some Demo.demo.1 ∧ RTWf Demo.demo.1 Demo.demo.2 ∧ NullOk Demo.demoTS ∧
    (∀ q ∈ st.allFs, FlatFs Demo.K Demo.demoTS Demo.demo.1 0 st.heap q.2) ∧
    (∀ nv ∈ Demo.demo.1.views, ∀ e ∈ Index.all nv.2.idx, Xmi.slot st.heap e.oid "sofa" ≠ some .none) ∧
    MembersOk Demo.demo.1 st.heap ∧ Distinct st.heap (st.allFs.map (·.2)) ∧ st.allFs.length = 2 := by
  obtain ⟨doc, st, hs, hc, hwf, hn, hf, _, hm, hmo⟩ := Demo.demo_hyps
  refine ⟨doc, st, hs, hc, hwf, hn, hf, hm, hmo, demo_distinct hs, ?_⟩
  rw [Demo.demo_lit, Demo.demoTS_eq] at hs
  rw [(Demo.save_st hs).2]
  rfl

/-- the theorem applied to the instance -/
example : ∃ (doc : XDoc) (st : St) (ld : Loaded),
    saveXmi Demo.K Demo.demoTS [Demo.demo.1] 0 Demo.demo.2 = .ok (doc, st) ∧
    loadXmi Demo.K Demo.demoTS 0 1 false st.heap doc = .ok ld ∧
    (render Demo.K Demo.demoTS ([Demo.demo.1] ++ [ld.cas]) 1 ld.heap {} (fun a => a) none).map (·.1)
      = (render Demo.K Demo.demoTS [Demo.demo.1] 0 Demo.demo.2 {} (fun _ => 0) none).map (·.1) := by
  obtain ⟨doc, st, hs, hc, hwf, hn, hf, _, hm, hmo⟩ := Demo.demo_hyps
  obtain ⟨ld, hl, hr⟩ := render_xmi_roundtrip_flat Demo.K Demo.demoTS [Demo.demo.1] 0 Demo.demo.1 Demo.demo.2 0 doc st
    {} (fun _ => 0) (fun a => a) hc hwf hn hs hf hm hmo (demo_distinct hs)
  exact ⟨doc, st, ld, hs, hl, hr⟩

/-- an instance of `Iso` together with `Distinct` (the hypotheses of `renderFrom_iso`): two different heaps, two
    collected structures -/
example : ∃ (cass cass' : List Cas) (hp hp' : Heap) (indexed indexed' addrs addrs' : List Nat) (φ : Nat → Nat),
    Iso Demo.K cass cass' hp hp' indexed indexed' addrs addrs' φ ∧ Distinct hp addrs ∧ addrs.length = 2 := by
  obtain ⟨doc, st, hs, hc, hwf, hn, hf, _, hm, hmo⟩ := Demo.demo_hyps
  obtain ⟨ld, φ, st', _, _, _, hiso⟩ := xmi_roundtrip_flat_iso Demo.K Demo.demoTS [Demo.demo.1] 0 Demo.demo.1
    Demo.demo.2 0 doc st hc hwf hn hs hf hm hmo
  refine ⟨_, _, _, _, _, _, _, _, φ, hiso, demo_distinct hs, ?_⟩
  rw [Demo.demo_lit, Demo.demoTS_eq] at hs
  rw [(Demo.save_st hs).2]
  rfl

/-- the JSON theorem applied to the instance (all hypotheses: `Json.Demo.demo_hypsJ`, `demo_distinctJ`) -/
example : ∃ (doc : Json.JDoc) (st : St) (ld : Json.Loaded),
    Json.saveJson Demo.K Demo.demoTS [Demo.demo.1] 0 Demo.demo.2 .none = .ok (doc, st) ∧
    Distinct st.heap (st.allFs.map (·.2)) ∧
    Json.loadJson Demo.K Demo.demoTS 0 1 false false st.heap doc = .ok ld ∧
    (render Demo.K Demo.demoTS ([Demo.demo.1] ++ [ld.cas]) 1 ld.heap {} (fun a => a) none).map (·.1)
      = (render Demo.K Demo.demoTS [Demo.demo.1] 0 Demo.demo.2 {} (fun _ => 0) none).map (·.1) := by
  obtain ⟨doc, st, hs, hc, hwf, hf, hj, hi, hd, hm, hmo⟩ := Json.Demo.demo_hypsJ
  obtain ⟨ld, hl, hr⟩ := render_json_roundtrip_flat Demo.K Demo.demoTS [Demo.demo.1] 0 Demo.demo.1 Demo.demo.2 0 doc st
    {} (fun _ => 0) (fun a => a) hc hwf hs hf hj hi hd hm hmo (demo_distinctJ hs)
  exact ⟨doc, st, ld, hs, demo_distinctJ hs, hl, hr⟩

#print axioms renderFrom_iso
#print axioms distinct_iso
#print axioms sameKey_of_ids_distinct
#print axioms sameKey_fresh
#print axioms xmi_roundtrip_flat_iso
#print axioms render_xmi_roundtrip_flat
#print axioms json_roundtrip_flat_iso
#print axioms render_json_roundtrip_flat

end Cassis.Comparable
