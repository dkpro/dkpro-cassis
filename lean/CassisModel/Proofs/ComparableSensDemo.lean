/-
Non-vacuity instance for `Properties/C20Sens.lean`: one CAS on which every hypothesis of every theorem there holds.
The facts are checked by the kernel; the examples that put them together are in the Properties file.
-/
import CassisModel.Proofs.ComparableSensTotal
import CassisModel.Proofs.ComparableSensCheckSound
import CassisModel.Proofs.InstancesFlat

namespace Cassis.Comparable.SensDemo
open Cassis Cassis.TS Cassis.Traverse Cassis.Comparable

theorem needD_pos (x : Nat) : 1 ≤ needD x := by unfold needD; split <;> omega

theorem perm_addrs : addrsD.Perm addrsD' := by decide +kernel
theorem nodup_addrs : addrsD.Nodup := by decide +kernel
theorem idx_iff : ∀ x, x ∈ idxD ↔ x ∈ idxD' := by
  intro x
  simp only [idxD, idxD', List.mem_cons, List.mem_nil_iff, or_false]
  omega
theorem mem0 : 0 ∈ addrsD := by decide
theorem mem1 : 1 ∈ addrsD := by decide
theorem mem2 : 2 ∈ addrsD := by decide
theorem mem3 : 3 ∈ addrsD := by decide
theorem mem4 : 4 ∈ addrsD := by decide
theorem mem5 : 5 ∈ addrsD := by decide

theorem distinct_hpD : Distinct hpD addrsD := by unfold Distinct; decide +kernel
theorem distinct_hpOff : Distinct hpOff addrsD := by unfold Distinct; decide +kernel
theorem xidInj_hpD : XidInj hpD addrsD := by unfold XidInj; decide +kernel

theorem getType0 : getType tsD (tyOf hpD 0) = .ok tokT := Det.ok_of_toOption sensDemo_evals.getType0
theorem notExcl (a : Nat) : ({} : Opts).exclude.contains (tyOf hpD a) = false := rfl

theorem notArr0 : isArrayFs K hpD 0 = false := sensDemoArrs_evals.notArr0
theorem notArr1 : isArrayFs K hpD 1 = false := sensDemoArrs_evals.notArr1
theorem notArr2 : isArrayFs K hpD 2 = false := sensDemoArrs_evals.notArr2
theorem notArr3 : isArrayFs K hpD 3 = false := sensDemoArrs_evals.notArr3
theorem isArr4 : isArrayFs K hpD 4 = true := sensDemoArrs_evals.isArr4
theorem isArr5 : isArrayFs K hpD 5 = true := sensDemoArrs_evals.isArr5
theorem annot1 : isAnnot hpD 1 = true := by decide +kernel
theorem n_col : "n" ∈ columns tokT := sensDemo_evals.nCol
theorem r_col : "r" ∈ columns tokT := sensDemo_evals.rCol
theorem arr_col : "arr" ∈ columns tokT := sensDemo_evals.arrCol
theorem ia_col : "ia" ∈ columns tokT := sensDemo_evals.iaCol
theorem slot_n : slot hpD 0 "n" = some (.int 7) := by decide +kernel
theorem slot_r : slot hpD 0 "r" = some (.ref 1) := by decide +kernel
theorem slot_arr : slot hpD 0 "arr" = some (.ref 4) := by decide +kernel
theorem slot_ia : slot hpD 0 "ia" = some (.ref 5) := by decide +kernel
theorem slot_end1 : slot hpD 1 "end" = some (.int 2) := by decide +kernel
theorem slot_el4 : slot hpD 4 "elements" = some (.refs [some 1, some 2]) := by decide +kernel
theorem slot_el5 : slot hpD 5 "elements" = some (.ints [1, 2]) := by decide +kernel
theorem slot_sofa2 : slot hpD 2 "sofa" = some (.sofa 0 "V") := by decide +kernel
theorem cas0 : [casD][0]? = some casD := rfl
theorem viewV : Cas.getViewRec casD "V" = some (viewD "V" 1 1).2 := by decide +kernel
theorem viewW : Cas.getViewRec casD "W" = some (viewD "W" 2 2).2 := by decide +kernel
theorem sofaIDs_ne : (viewD "V" 1 1).2.sofa.sofaID ≠ (viewD "W" 2 2).2.sofa.sofaID := by decide +kernel
theorem plainV : NoParenEnd (viewD "V" 1 1).2.sofa.sofaID := by decide +kernel
theorem plainW : NoParenEnd (viewD "W" 2 2).2.sofa.sofaID := by decide +kernel

theorem upd_ok {hp : Heap} {a : Nat} {f : String} {p : Val} (v : Val) (hs : slot hp a f = some p) :
    Heap.setSlot hp a f v = .ok (upd hp a f v) := by
  obtain ⟨o, _, h⟩ := setSlot_of_slot v hs
  unfold upd
  rw [h]

theorem set_prim : Heap.setSlot hpD 0 "n" (.int 8) = .ok hpPrim := upd_ok _ slot_n
theorem set_off : Heap.setSlot hpD 1 "end" (.int 3) = .ok hpOff := upd_ok _ slot_end1
theorem set_ref : Heap.setSlot hpD 0 "r" (.ref 2) = .ok hpRef := upd_ok _ slot_r
theorem set_fsa : Heap.setSlot hpD 4 "elements" (.refs ([some 1, some 2].set 0 (some 3))) = .ok hpFsa :=
  upd_ok _ slot_el4
theorem set_ia : Heap.setSlot hpD 5 "elements" (.ints [1, 3]) = .ok hpIa := upd_ok _ slot_el5
theorem set_view : Heap.setSlot hpD 2 "sofa" (.sofa 0 "W") = .ok hpView := upd_ok _ slot_sofa2

theorem slot_sofa1 : slot hpD 1 "sofa" = some (.sofa 0 "V") := by decide +kernel
theorem slot_sofa3 : slot hpD 3 "sofa" = some (.sofa 0 "W") := by decide +kernel

theorem plain1 (idx : List Nat) : AnchorPlain [casD] hpD idx {} 1 := anchorPlain_of_sofa slot_sofa1 cas0 viewV plainV
theorem plain2 (idx : List Nat) : AnchorPlain [casD] hpD idx {} 2 := anchorPlain_of_sofa slot_sofa2 cas0 viewV plainV
theorem plain3 (idx : List Nat) : AnchorPlain [casD] hpD idx {} 3 := anchorPlain_of_sofa slot_sofa3 cas0 viewW plainW

/-! ### both runs succeed (through `renderFrom_total`) -/

theorem isArray_empty : isArray K "" = false := sensDemo_evals.emptyNameNotArray
theorem wellNestedB_hpD : wellNestedB K hpD needD = true := sensDemo_evals.nestedD
theorem rowOkB_hpD : addrsD.all (rowOkB K tsD [casD] hpD {} needD) = true := sensDemo_evals.rowsD

theorem total_of_checks (hp : Heap) (addrs : List Nat) (h1 : wellNestedB K hp needD = true)
    (h2 : addrs.all (rowOkB K tsD [casD] hp {} needD) = true) (hsh : Nat → Int) (idx : List Nat) :
    ∃ secs, renderFrom K tsD [casD] hp {} hsh idx addrs = .ok secs :=
  renderFrom_total_aux K tsD [casD] hp {} hsh idx addrs needD
    (wellNestedB_sound needD_pos isArray_empty h1)
    (fun a ha => rowOkB_sound ((List.all_eq_true.1 h2) a ha))

theorem total_first (hsh : Nat → Int) (idx : List Nat) :
    ∃ secs, renderFrom K tsD [casD] hpD {} hsh idx addrsD = .ok secs :=
  total_of_checks hpD addrsD wellNestedB_hpD rowOkB_hpD hsh idx

theorem total_second (hsh : Nat → Int) (idx : List Nat) :
    ∃ secs, renderFrom K tsD [casD] hpD {} hsh idx addrsD' = .ok secs :=
  total_of_checks hpD addrsD' wellNestedB_hpD sensDemo_evals.rowsD_addrsD' hsh idx

theorem total_hpPrim (hsh : Nat → Int) (idx : List Nat) :
    ∃ secs, renderFrom K tsD [casD] hpPrim {} hsh idx addrsD' = .ok secs :=
  total_of_checks hpPrim addrsD' sensDemo_evals.nestedPrim sensDemo_evals.rowsPrim hsh idx

theorem total_hpOff (hsh : Nat → Int) (idx : List Nat) :
    ∃ secs, renderFrom K tsD [casD] hpOff {} hsh idx addrsD' = .ok secs :=
  total_of_checks hpOff addrsD' sensDemo_evals.nestedOff sensDemo_evals.rowsOff hsh idx

theorem total_hpRef (hsh : Nat → Int) (idx : List Nat) :
    ∃ secs, renderFrom K tsD [casD] hpRef {} hsh idx addrsD' = .ok secs :=
  total_of_checks hpRef addrsD' sensDemo_evals.nestedRef sensDemo_evals.rowsRef hsh idx

theorem total_hpFsa (hsh : Nat → Int) (idx : List Nat) :
    ∃ secs, renderFrom K tsD [casD] hpFsa {} hsh idx addrsD' = .ok secs :=
  total_of_checks hpFsa addrsD' sensDemo_evals.nestedFsa sensDemo_evals.rowsFsa hsh idx

theorem total_hpIa (hsh : Nat → Int) (idx : List Nat) :
    ∃ secs, renderFrom K tsD [casD] hpIa {} hsh idx addrsD' = .ok secs :=
  total_of_checks hpIa addrsD' sensDemo_evals.nestedIa sensDemo_evals.rowsIa hsh idx

theorem total_hpView (hsh : Nat → Int) (idx : List Nat) :
    ∃ secs, renderFrom K tsD [casD] hpView {} hsh idx addrsD' = .ok secs :=
  total_of_checks hpView addrsD' sensDemo_evals.nestedView sensDemo_evals.rowsView hsh idx

end Cassis.Comparable.SensDemo
