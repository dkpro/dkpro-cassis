/-
Non-vacuity of `merge_perm_leaf_compete` (`Properties/C13Perm.lean`): the Boolean test `competeHypsB` of its
hypotheses, proved sound, and the declaration list `demoX` (`Proofs/InstancesMerge.lean`), in which `x.X` is declared
below three different, comparable supertypes.
-/
import CassisModel.Proofs.MergePermMain
import CassisModel.Proofs.MergePermDemo

namespace Cassis.TS

theorem competeHypsB_sound (K : Consts) (rank : String → Nat) (decls : List Decl)
    (h : competeHypsB K rank decls = true) :
    ClosedDecls K decls ∧ UserDecls K decls ∧ BaseAgree decls ∧ LeafCompete decls ∧ CompeteNonFinal K decls := by
  unfold competeHypsB at h
  rw [Bool.and_eq_true, Bool.and_eq_true] at h
  obtain ⟨⟨hcu, h4⟩, h5⟩ := h
  obtain ⟨hc, hu⟩ := closedUserB_sound K rank decls hcu
  rw [List.all_eq_true] at h5
  have key : ∀ d ∈ decls, ∀ d' ∈ decls, d.name = d'.name → d.super ≠ d'.super →
      (∀ e ∈ decls, e.super ≠ d.name) ∧ K.finalTypes.contains d.super = false := by
    intro d hd d' hd' hn hne
    have := List.all_eq_true.mp (h5 d hd) d' hd'
    simp only [Bool.or_eq_true, bne_iff_ne, ne_eq, beq_iff_eq, Bool.and_eq_true, List.all_eq_true,
      Bool.not_eq_true'] at this
    rcases this with (h | h) | h
    · exact absurd hn h
    · exact absurd h hne
    · exact h
  refine ⟨hc, hu, baseAgree_of_all h4, ?_, ?_⟩
  · rintro n ⟨d, hd, d', hd', h1', h2', hne⟩ e he
    rw [← h1']
    exact (key d hd d' hd' (h1'.trans h2'.symm) hne).1 e he
  · rintro d hd ⟨d1, hd1, d2, hd2, h1', h2', hne⟩
    -- `d` differs in its supertype from `d1` or from `d2`
    by_cases hs : d.super = d1.super
    · exact (key d hd d2 hd2 h2'.symm (by rw [hs]; exact hne)).2
    · exact (key d hd d1 hd1 h1'.symm hs).2

theorem demoX_hyps : competeHypsB Gen.consts demoRankX demoX = true := mergePermLeafDemo_evals.hypsX

/-- the hypotheses hold on `demoX`, both orders succeed — hence, by `merge_perm_movable_ok` and `stable_of_stableCompete`
    (the two steps of `merge_perm_leaf_compete`, which imports this file), with the same hierarchy -/
theorem demoX_sameHier : ∃ ts ts', mergeDecls Gen.consts Gen.builtinTS demoX = .ok ts ∧
    mergeDecls Gen.consts Gen.builtinTS demoX.reverse = .ok ts' ∧ SameHier ts ts' := by
  obtain ⟨hc, hu, hb, hl, hnf⟩ := competeHypsB_sound _ _ _ demoX_hyps
  obtain ⟨ts, h⟩ : ∃ ts, mergeDecls Gen.consts Gen.builtinTS demoX = .ok ts :=
    ok_of_isSome (by rw [mergeDecls_eq_S]; exact mergePermLeafDemo_evals.mergeX)
  obtain ⟨ts', h'⟩ : ∃ ts, mergeDecls Gen.consts Gen.builtinTS demoX.reverse = .ok ts :=
    ok_of_isSome (by rw [mergeDecls_eq_S]; exact mergePermLeafDemo_evals.mergeXrev)
  exact ⟨ts, ts', h, h', merge_perm_movable_ok _ _ (List.reverse_perm demoX).symm hc hu
    (stable_of_stableCompete hu hb (stableCompete_of_leaf hl)) hnf h h'⟩

/-- `x.X` ends below the most specific of its declared supertypes, in either order -/
example : ((mergeDecls Gen.consts Gen.builtinTS demoX).toOption.bind (fun ts => find? ts "x.X")).map (·.super)
    = some (some "x.B") := by rw [mergeDecls_eq_S]; exact mergePermLeafDemo_evals.superX
example : ((mergeDecls Gen.consts Gen.builtinTS demoX.reverse).toOption.bind (fun ts => find? ts "x.X")).map (·.super)
    = some (some "x.B") := by rw [mergeDecls_eq_S]; exact mergePermLeafDemo_evals.superXrev

/-- the hypothesis on final types is needed: `x.X` below `uima.cas.ArrayBase` and below the final
    `uima.cas.IntegerArray` merges in one order (the re-parenting branch does not check finality) and fails in the
    other (`create_type` does) -/
example : (mergeDecls Gen.consts Gen.builtinTS demoFinal).toOption.isSome = true ∧
    (mergeDecls Gen.consts Gen.builtinTS demoFinal.reverse).toOption.isSome = false := by
  rw [mergeDecls_eq_S, mergeDecls_eq_S]; exact ⟨mergePermLeafDemo_evals.mergeFinal, mergePermLeafDemo_evals.failsFinalRev⟩

end Cassis.TS
