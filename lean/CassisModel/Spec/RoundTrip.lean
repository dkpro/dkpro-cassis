/-
Specification-side definitions for the end-to-end XMI round trip (C01) on the *flat fragment*:
feature structures whose features are primitives (integers, strings, booleans, float tokens), plain references to
other feature structures, and the sofa reference; any number of views with text sofas; any reference graph (cycles,
sharing, structures that are only referenced); annotations with offsets into astral text.
Arrays and lists (inlined or not) are outside the fragment.
-/
import CassisModel.Spec.Determinism

namespace Cassis.Xmi
open Cassis.TS Cassis.Traverse

/-- what a slot value *means*, independently of heap addresses: references are named by the xmi:id of their target,
    sofa references by the view name -/
inductive DVal where
  | none
  | int (i : Int)
  | str (s : String)
  | bool (b : Bool)
  | float (t : String)
  | ref (id : Option Int)
  | sofa (view : String)
  | other
deriving Repr, DecidableEq, Inhabited

def dvalOf (hp : Heap) : Val → DVal
  | .none => .none
  | .int i => .int i
  | .str s => .str s
  | .bool b => .bool b
  | .float t => .float t
  | .ref a => .ref (xidOf hp a)
  | .sofa _ vn => .sofa vn
  | _ => .other

/-- the content of the feature `n` of the structure at `a` -/
def featContent (hp : Heap) (a : Nat) (n : String) : DVal := dvalOf hp ((slot hp a n).getD .none)

/-- the content of a view: sofa data and the ids of the indexed structures (in ascending order) -/
structure ViewContent where
  name : String
  xid : Int
  num : Int
  text : Option (List Nat)
  mime : Option String
  members : List Int
deriving Repr, DecidableEq, Inhabited

def viewContent (hp : Heap) (nv : String × View) : ViewContent :=
  { name := nv.1, xid := nv.2.sofa.xid, num := nv.2.sofa.sofaNum, text := nv.2.sofa.text, mime := nv.2.sofa.mime,
    members := sortInts ((Index.all nv.2.idx).filterMap (fun e => xidOf hp e.oid)) }

def isIntRange (r : String) : Bool :=
  r == "uima.cas.Integer" || r == "uima.cas.Short" || r == "uima.cas.Long" || r == "uima.cas.Byte"

/-- the reserved names.  A feature declared as `self` / `type` is stored under the Python name `self_` / `type_` with
    `reserved = true` (`createFeature`); the writers strip the underscore (`renderFeature`: the name written is the
    stored name without its last character), the readers add it again to the attributes / keys / child elements `self`
    and `type`.  So either the feature is not reserved, or it is one of the two features `createFeature` marks as
    reserved.  (Evaluated on the model for every range kind, XMI and JSON: `Spec/RoundTripCollCheck.lean`, section
    "reserved names", and `Spec/RoundTripJsonCollCheck.lean`.)

    Together with the conditions `f.name ≠ "type"`, `f.name ≠ "self"`, … that accompany it in `FlatFeat`, `NameOk`,
    `JFeatOk` this says: EITHER `f.reserved = false` and the stored name is none of the strings the codecs treat
    specially, OR `f.reserved = true` and the stored name is `self_` or `type_` (which are none of these strings).
    A feature that is not reserved must not be named `self` / `type` (impossible through `createFeature`): the readers
    would rename it. -/
def ResOk (f : Feature) : Prop :=
  f.reserved = false ∨ (f.reserved = true ∧ (f.name = "self_" ∨ f.name = "type_"))

instance (f : Feature) : Decidable (ResOk f) := by unfold ResOk; infer_instance

/-- one feature of a flat structure -/
def FlatFeat (K : Consts) (ts : TypeSystem) (c : Cas) (ci : Nat) (hp : Heap) (isAnn : Bool) (o : Obj) (f : Feature) : Prop :=
  ResOk f ∧ f.name ≠ "xmiID" ∧ f.name ≠ "type" ∧ f.name ≠ "self" ∧ f.name ≠ ID ∧
  -- the range is not a collection in any of the senses the codec tests (automatic for the generated constants `K`
  -- and a consistent type system; needed because `K` and `ts` are arbitrary here)
  isPrimitiveArray K f.range = false ∧ isPrimitiveList K f.range = false ∧ f.range ≠ FS_ARRAY ∧ f.range ≠ FS_LIST ∧
  isInstanceOf ts f.range STRING_ARRAY = false ∧ isInstanceOf ts f.range STRING_LIST = false ∧
  ∃ v : Val, alistGet? o.slots f.name = some v ∧
    ( -- the sofa reference: a view of this CAS (a structure that is not an annotation may have none)
      (f.name = "sofa" ∧ ((∃ vn, v = .sofa ci vn ∧ (Cas.getViewRec c vn).isSome = true) ∨ (v = .none ∧ isAnn = false)))
    ∨ -- primitive features
      (f.name ≠ "sofa" ∧ isPrimitive K ts f.range = true ∧
        ( v = .none
        ∨ (isIntRange f.range = true ∧ ∃ i : Int, v = .int i)
        ∨ (f.range = "uima.cas.String" ∧ ∃ s : String, v = .str s)
        ∨ (f.range = "uima.cas.Boolean" ∧ ∃ b : Bool, v = .bool b)
        ∨ ((f.range = "uima.cas.Float" ∨ f.range = "uima.cas.Double") ∧ ∃ t : String, v = .float t)))
    ∨ -- plain references
      (f.name ≠ "sofa" ∧ isPrimitive K ts f.range = false ∧ isArray K f.range = false ∧ isList K f.range = false ∧
        f.range ≠ "uima.cas.Boolean" ∧ f.range ≠ "uima.cas.Double" ∧ f.range ≠ "uima.cas.Float" ∧
        (v = .none ∨ ∃ b : Nat, v = .ref b ∧ (xidOf hp b).isSome = true ∧ xidOf hp b ≠ some 0)))

/-- a flat structure: registered non-collection type (not the sofa or view pseudo-types), feature names pairwise
    distinct, one slot per constructor field, every feature flat; an annotation has integer offsets inside the text
    of its sofa -/
def FlatFs (K : Consts) (ts : TypeSystem) (c : Cas) (ci : Nat) (hp : Heap) (a : Nat) : Prop :=
  ∃ (o : Obj) (t : TypeRec), hp[a]? = some o ∧ find? ts o.ty = some t ∧ t.name = o.ty ∧
    isArray K o.ty = false ∧ isList K o.ty = false ∧ t.super ≠ some ARRAY_BASE ∧
    isPrimitiveArray K o.ty = false ∧ o.ty ≠ FS_ARRAY ∧ isInstanceOf ts o.ty STRING_ARRAY = false ∧
    o.ty ≠ SOFA ∧ o.ty ≠ VIEW_T ∧
    (ctorFields t).Nodup ∧
    o.slots.map (·.1) = (ctorFields t).eraseDups ∧
    (∀ f ∈ allFeatures t, FlatFeat K ts c ci hp (isInstanceOf ts o.ty ANNOTATION) o f) ∧
    (isInstanceOf ts o.ty ANNOTATION = true →
      ∃ (vn : String) (v : View) (text : List Nat) (b e : Nat),
        alistGet? o.slots "sofa" = some (.sofa ci vn) ∧ Cas.getViewRec c vn = some v ∧ v.sofa.text = some text ∧
        alistGet? o.slots "begin" = some (.int b) ∧ alistGet? o.slots "end" = some (.int e) ∧
        b ≤ text.length ∧ e ≤ text.length)

/-- the indexed structures can be indexed again: the sort key of each exists (`begin`/`end` are both integers, both
    `None`, or absent), and within one view the structures of one type agree on having `None` offsets (Python
    cannot order `None` against an integer: `Cas.add` raises `TypeError`) -/
def MembersOk (c : Cas) (hp : Heap) : Prop :=
  ∀ nv ∈ c.views,
    (∀ e ∈ Index.all nv.2.idx, ∃ (o : Obj) (k : Index.Entry), hp[e.oid]? = some o ∧ Cas.entryOf o e.oid = .ok k) ∧
    (∀ e1 ∈ Index.all nv.2.idx, ∀ e2 ∈ Index.all nv.2.idx, ∀ (o1 o2 : Obj) (k1 k2 : Index.Entry),
      hp[e1.oid]? = some o1 → hp[e2.oid]? = some o2 → o1.ty = o2.ty →
      Cas.entryOf o1 e1.oid = .ok k1 → Cas.entryOf o2 e2.oid = .ok k2 →
      (k1.b = Index.NONE_KEY ↔ k2.b = Index.NONE_KEY))

/-- the `cas:NULL` type (the type of the first element of every document) is registered and has no features -/
def NullOk (ts : TypeSystem) : Prop := ∃ t0 : TypeRec, find? ts NULL_T = some t0 ∧ allFeatures t0 = []

/-- well-formedness of the CAS that is written: what `Cas(...)`/`create_view`/the sofa setter establish -/
structure RTWf (c : Cas) (hp : Heap) : Prop where
  /-- the first view is the initial view -/
  init_first : (c.views.head?).map (·.1) = some Cas.INITIAL_VIEW
  /-- view names are the keys and the sofa ids, pairwise distinct -/
  names : ∀ nv ∈ c.views, nv.2.sofa.sofaID = nv.1
  names_nodup : (c.views.map (·.1)).Nodup
  /-- sofa ids are distinct from each other (positive: `sofa_ids`) -/
  sofa_ids_nodup : (c.views.map (·.2.sofa.xid)).Nodup
  /-- text sofas only; the converter is the one the setter builds for the text; texts are Unicode scalar values -/
  text_sofa : ∀ nv ∈ c.views, nv.2.sofa.arr = .none ∧ nv.2.sofa.uri = none
  conv : ∀ nv ∈ c.views, ∀ t, nv.2.sofa.text = some t → nv.2.sofa.conv = some (Offsets.table t)
  conv_none : ∀ nv ∈ c.views, nv.2.sofa.text = none → nv.2.sofa.conv = none
  scalar : ∀ nv ∈ c.views, ∀ t, nv.2.sofa.text = some t → ∀ cp ∈ t, Offsets.IsScalar cp
  /-- generators are above every id in use (C09) -/
  next_pos : 0 < c.nextXid
  ids_below : Traverse.IdsBelow hp c.nextXid
  sofa_ids : ∀ nv ∈ c.views, 0 < nv.2.sofa.xid ∧ nv.2.sofa.xid < c.nextXid
  /-- ids in use are positive (the generator starts at 1; id 0 is the `cas:NULL` element of a document) -/
  ids_pos : ∀ (a : Nat) (ob : Obj) (x : Int), hp[a]? = some ob → ob.xid = some x → 0 < x

end Cassis.Xmi
