/-
`toposort` (the dependency order in which the loaders create the declared types, `Model/Json.lean`).  `Array.qsort`
permutes its input; the loop keeps "no name before what it depends on" (`toposort_go_spec`), so a successful run returns
every declared name and supertype with no name before its supertype (`toposort_spec`); it succeeds on every set of
declarations whose supertype links decrease a rank, with a permutation of the declared names and supertypes
(`toposort_of_rank`).
-/
import CassisModel.Model.Json
import CassisModel.Proofs.Lists

/-! ### `Array.qsort` permutes its input

Core Lean has no lemma about `Array.qsort`; its two local loops are private declarations of
`Init.Data.Array.QSort.Basic`.  The two macros below only produce the names of these declarations
(nothing is added to the environment); the proofs are ordinary functional inductions. -/

namespace Cassis.QSort
open Lean

def privQ (n : Name) : Name :=
  (Name.num (Name.str (Name.str (Name.str (Name.str (Name.str (Name.str .anonymous "_private") "Init") "Data")
    "Array") "QSort") "Basic") 0) ++ n

macro "qsortSort%" args:(ppSpace colGt term:max)* : term => `($(mkIdent (privQ `Array.qsort.sort)) $args*)
macro "qpartLoop%" args:(ppSpace colGt term:max)* : term => `($(mkIdent (privQ `Array.qpartition.loop)) $args*)

theorem qpart_loop_perm {α} {n} (lt : α → α → Bool) (lo hi : Nat) (hhi : hi < n) (pivot : α)
    (as : Vector α n) (i k : Nat) (ilo : lo ≤ i) (ik : i ≤ k) (w : k ≤ hi) :
    (qpartLoop% lt lo hi hhi pivot as i k ilo ik w).2.Perm as := by
  fun_induction qpartLoop% lt lo hi hhi pivot as i k ilo ik w with
  | case1 as i k ilo ik w h hlt ih =>
    exact ih.trans (Vector.swap_perm (by omega) (by omega))
  | case2 as i k ilo ik w h hlt ih =>
    exact ih
  | case3 as i k ilo ik w h =>
    exact Vector.swap_perm (by omega) (by omega)

theorem qpartition_perm {α} {n} (as : Vector α n) (lt : α → α → Bool) (lo hi : Nat) (w : lo ≤ hi)
    (hlo : lo < n) (hhi : hi < n) : (Array.qpartition as lt lo hi w hlo hhi).2.Perm as := by
  unfold Array.qpartition
  simp only []
  refine (qpart_loop_perm ..).trans ?_
  have swp : ∀ (v : Vector α n) (c : Prop) [Decidable c] (i j : Nat) (hi : i < n) (hj : j < n),
      (if c then v.swap i j hi hj else v).Perm v := by
    intro v c _ i j hi hj
    split
    · exact Vector.swap_perm hi hj
    · exact Vector.Perm.refl _
  exact (swp _ _ _ _ _ _).trans ((swp _ _ _ _ _ _).trans (swp _ _ _ _ _ _))

theorem qsort_sort_perm {α} {n} (lt : α → α → Bool) (as : Vector α n) (lo hi : Nat) (w : lo ≤ hi)
    (hlo : lo < n) (hhi : hi < n) : (qsortSort% lt as lo hi w hlo hhi).Perm as := by
  fun_induction qsortSort% lt as lo hi w hlo hhi with
  | case1 as lo hi w hlo hhi h₁ mid hmid as' hp h₂ =>
    have := qpartition_perm as lt lo hi w hlo hhi
    rw [hp] at this
    exact this
  | case2 as lo hi w hlo hhi h₁ mid hmid as' hp h₂ ih3 ih2 ih1 =>
    have := qpartition_perm as lt lo hi w hlo hhi
    rw [hp] at this
    exact ih1.trans (ih2.trans this)
  | case3 => exact Vector.Perm.refl _

theorem qsort_perm {α} (as : Array α) (lt : α → α → Bool) : (as.qsort lt).Perm as := by
  unfold Array.qsort
  split
  · exact Array.Perm.refl _
  · simp only []
    exact (qsort_sort_perm ..).toArray

theorem qsort_toList_perm {α} (l : List α) (lt : α → α → Bool) : (l.toArray.qsort lt).toList.Perm l := by
  have := qsort_perm l.toArray lt
  rw [Array.perm_iff_toList_perm] at this
  exact this

end Cassis.QSort

namespace Cassis.Json

/-- `a` does not depend on `b` -/
def NoDep (depOf : String → List String) (a b : String) : Prop := ¬ (b ∈ depOf a ∧ b ≠ a)

theorem toposort_go_spec (depOf : String → List String) (fuel : Nat) (done rest order : List String)
    (h : toposort.go depOf fuel done rest = .ok order)
    (I1 : done.Pairwise (NoDep depOf))
    (I2 : ∀ a ∈ done, ∀ d ∈ depOf a, d ≠ a → d ∈ done)
    (I3 : ∀ x ∈ done, x ∉ rest)
    (I4 : ∀ a ∈ rest, ∀ d ∈ depOf a, d ∈ done ∨ d ∈ rest) :
    order.Pairwise (NoDep depOf) ∧ (∀ x ∈ done, x ∈ order) ∧ (∀ x ∈ rest, x ∈ order) := by
  induction fuel generalizing done rest with
  | zero =>
    unfold toposort.go at h
    cases h
  | succ fuel ih =>
    unfold toposort.go at h
    simp only [] at h
    split at h
    · rename_i hemp
      cases h
      have : rest = [] := List.isEmpty_iff.mp hemp
      subst this
      exact ⟨I1, fun x hx => hx, fun x hx => absurd hx List.not_mem_nil⟩
    · split at h
      · cases h
      · have key : ∀ level : List String,
            (∀ x, x ∈ level ↔ x ∈ rest.filter (fun n => (depOf n).all
              (fun d => d == n || done.contains d || !(rest.contains d)))) →
            toposort.go depOf fuel (done ++ level) (rest.filter (fun n => !(level.contains n))) = .ok order →
            order.Pairwise (NoDep depOf) ∧ (∀ x ∈ done, x ∈ order) ∧ (∀ x ∈ rest, x ∈ order) := by
          intro level hlev hgo
          have hready : ∀ x ∈ level, x ∈ rest ∧ ∀ d ∈ depOf x, d ≠ x → d ∈ done := by
            intro x hx
            have hx' := (hlev x).mp hx
            rw [List.mem_filter, List.all_eq_true] at hx'
            refine ⟨hx'.1, ?_⟩
            intro d hd hne
            have hd' := hx'.2 d hd
            simp only [Bool.or_eq_true, beq_iff_eq, List.contains_iff_mem, Bool.not_eq_true',
              Det.contains_false_iff] at hd'
            rcases hd' with (hd' | hd') | hd'
            · exact absurd hd' hne
            · exact hd'
            · rcases I4 x hx'.1 d hd with h1 | h1
              · exact h1
              · exact absurd h1 hd'
          have hrest' : ∀ x, x ∈ rest.filter (fun n => !(level.contains n)) ↔ x ∈ rest ∧ x ∉ level := by
            intro x
            rw [List.mem_filter]
            simp only [Bool.not_eq_true', Det.contains_false_iff]
          have res := ih (done ++ level) (rest.filter (fun n => !(level.contains n))) hgo ?_ ?_ ?_ ?_
          · refine ⟨res.1, fun x hx => res.2.1 x (List.mem_append_left _ hx), ?_⟩
            intro x hx
            by_cases hxl : x ∈ level
            · exact res.2.1 x (List.mem_append_right _ hxl)
            · exact res.2.2 x ((hrest' x).mpr ⟨hx, hxl⟩)
          · rw [List.pairwise_append]
            refine ⟨I1, ?_, ?_⟩
            · apply List.pairwise_of_forall_mem_list
              intro a ha b hb hdep
              have hbd := (hready a ha).2 b hdep.1 hdep.2
              exact I3 b hbd (hready b hb).1
            · intro a ha b hb hdep
              have hbd := I2 a ha b hdep.1 hdep.2
              exact I3 b hbd (hready b hb).1
          · intro a ha d hd hne
            rcases List.mem_append.mp ha with ha | ha
            · exact List.mem_append_left _ (I2 a ha d hd hne)
            · exact List.mem_append_left _ ((hready a ha).2 d hd hne)
          · intro x hx hx'
            have hx'' := (hrest' x).mp hx'
            rcases List.mem_append.mp hx with hx | hx
            · exact I3 x hx hx''.1
            · exact hx''.2 hx
          · intro a ha d hd
            have ha' := (hrest' a).mp ha
            rcases I4 a ha'.1 d hd with h1 | h1
            · exact Or.inl (List.mem_append_left _ h1)
            · by_cases hdl : d ∈ level
              · exact Or.inl (List.mem_append_right _ hdl)
              · exact Or.inr ((hrest' d).mpr ⟨h1, hdl⟩)
        exact key _ (fun x => (QSort.qsort_toList_perm _ _).mem_iff) h

/-- one round of `toposort.go` (for the evaluation of concrete instances: the kernel does not reduce the well-founded
    recursion inside `Array.qsort`, so the sorted level `L` is given) -/
theorem toposort_go_stepL (depOf : String → List String) (fuel f : Nat) (done rest R L : List String)
    (hf : fuel = f + 1) (hne : rest.isEmpty = false)
    (hready : rest.filter (fun n => (depOf n).all (fun d => d == n || done.contains d || !(rest.contains d))) = R)
    (hRne : R.isEmpty = false) (hq : (R.toArray.qsort (· < ·)).toList = L) :
    toposort.go depOf fuel done rest =
      toposort.go depOf f (done ++ L) (rest.filter (fun n => !(L.contains n))) := by
  subst hf
  conv => lhs; unfold toposort.go
  simp only [hne, Bool.false_eq_true, if_false]
  rw [hready]
  simp only [hRne, Bool.false_eq_true, if_false]
  rw [hq]

theorem toposort_go_step1 (depOf : String → List String) (fuel f : Nat) (done rest : List String) (a : String)
    (hf : fuel = f + 1) (hne : rest.isEmpty = false)
    (hready : rest.filter (fun n => (depOf n).all (fun d => d == n || done.contains d || !(rest.contains d))) = [a]) :
    toposort.go depOf fuel done rest =
      toposort.go depOf f (done ++ [a]) (rest.filter (fun n => !([a].contains n))) :=
  toposort_go_stepL depOf fuel f done rest [a] [a] hf hne hready rfl
    (List.perm_singleton.mp (QSort.qsort_toList_perm _ _))

theorem toposort_spec (types : List JType) (order : List String) (h : toposort types = .ok order) :
    order.Pairwise (fun a b => ∀ t ∈ types, t.name = a → t.super = b → b = a) ∧
    ∀ t ∈ types, t.name ∈ order ∧ t.super ∈ order := by
  unfold toposort at h
  simp only [] at h
  obtain ⟨hpw, _, hmem⟩ := toposort_go_spec _ _ _ _ _ h List.Pairwise.nil
    (fun a ha => absurd ha List.not_mem_nil) (fun a ha => absurd ha List.not_mem_nil) (by
      intro a _ d hd
      right
      obtain ⟨t, ht, rfl⟩ := List.mem_map.mp hd
      rw [List.mem_eraseDups]
      exact List.mem_append_right _ (List.mem_map.mpr ⟨t, (List.mem_filter.mp ht).1, rfl⟩))
  refine ⟨hpw.imp ?_, fun t ht => ⟨hmem _ ?_, hmem _ ?_⟩⟩
  · intro a b hnd t ht hta htb
    apply Decidable.byContradiction
    intro hne
    subst hta; subst htb
    exact hnd ⟨List.mem_map.mpr ⟨t, List.mem_filter.mpr ⟨ht, beq_self_eq_true _⟩, rfl⟩, hne⟩
  · rw [List.mem_eraseDups]
    exact List.mem_append_left _ (List.mem_map.mpr ⟨t, ht, rfl⟩)
  · rw [List.mem_eraseDups]
    exact List.mem_append_right _ (List.mem_map.mpr ⟨t, ht, rfl⟩)

/-- the loop of `toposort` does not get stuck: an element of `rest` of minimal rank is ready, so every round removes
    something -/
theorem toposort_go_ok (depOf : String → List String) (rank : String → Nat)
    (hrank : ∀ a d, d ∈ depOf a → d ≠ a → rank d < rank a) :
    ∀ (fuel : Nat) (done rest : List String), rest.length < fuel → rest.Nodup → done.Nodup →
      (∀ x ∈ done, x ∉ rest) →
      ∃ order, toposort.go depOf fuel done rest = .ok order ∧ order.Perm (done ++ rest) := by
  intro fuel
  induction fuel with
  | zero => intro done rest h; omega
  | succ fuel ih =>
    intro done rest hlen hnr hnd hdis
    unfold toposort.go
    simp only []
    split
    · rename_i hemp
      have : rest = [] := List.isEmpty_iff.mp hemp
      subst this
      exact ⟨done, rfl, by simp⟩
    · rename_i hemp
      have hne : rest ≠ [] := fun e => hemp (by rw [e]; rfl)
      obtain ⟨m, hm, hmin⟩ := Det.exists_min_rank rank rest hne
      have hPm : (depOf m).all (fun d => d == m || done.contains d || !(rest.contains d)) = true := by
        rw [List.all_eq_true]
        intro d hd
        by_cases hdm : d = m
        · simp [hdm]
        · have hlt := hrank m d hd hdm
          have hdr : d ∉ rest := fun hdr => by have := hmin d hdr; omega
          have : rest.contains d = false := (Det.contains_false_iff rest d).mpr hdr
          rw [this]; simp
      have hmready : m ∈ rest.filter (fun n => (depOf n).all
          (fun d => d == n || done.contains d || !(rest.contains d))) :=
        List.mem_filter.mpr ⟨hm, hPm⟩
      split
      · rename_i hre
        have := List.isEmpty_iff.mp hre
        rw [this] at hmready
        cases hmready
      · have hperm := QSort.qsort_toList_perm (rest.filter (fun n => (depOf n).all
          (fun d => d == n || done.contains d || !(rest.contains d)))) (· < ·)
        generalize hL : ((rest.filter (fun n => (depOf n).all
          (fun d => d == n || done.contains d || !(rest.contains d)))).toArray.qsort (· < ·)).toList = level
          at hperm
        have hlev : ∀ x, x ∈ level ↔ x ∈ rest ∧ (depOf x).all
            (fun d => d == x || done.contains d || !(rest.contains d)) = true := by
          intro x
          rw [hperm.mem_iff, List.mem_filter]
        have hfe : rest.filter (fun n => !(level.contains n)) =
            rest.filter (fun n => !((depOf n).all (fun d => d == n || done.contains d || !(rest.contains d)))) := by
          apply List.filter_congr
          intro x hx
          congr 1
          cases hp : (depOf x).all (fun d => d == x || done.contains d || !(rest.contains d)) with
          | true => exact List.contains_iff_mem.mpr ((hlev x).mpr ⟨hx, hp⟩)
          | false =>
            apply (Det.contains_false_iff level x).mpr
            intro hxl
            rw [((hlev x).mp hxl).2] at hp
            cases hp
        have hml : m ∈ level := (hlev m).mpr ⟨hm, hPm⟩
        have hlt : (rest.filter (fun n => !(level.contains n))).length < rest.length := by
          apply List.length_filter_lt_length_iff_exists.mpr
          exact ⟨m, hm, by simp [hml]⟩
        have hsplit : (level ++ rest.filter (fun n => !(level.contains n))).Perm rest := by
          rw [hfe]
          exact (List.Perm.append_right _ hperm).trans (List.filter_append_perm _ rest)
        obtain ⟨order, hgo, hp⟩ := ih (done ++ level) (rest.filter (fun n => !(level.contains n)))
          (by omega) (hnr.sublist List.filter_sublist)
          (by
            rw [List.nodup_append]
            refine ⟨hnd, hperm.nodup_iff.mpr (hnr.sublist List.filter_sublist), ?_⟩
            intro a ha b hb e
            subst e
            exact hdis a ha ((hlev a).mp hb).1)
          (by
            intro x hx hx'
            have hx'' := List.mem_filter.mp hx'
            rcases List.mem_append.mp hx with hx | hx
            · exact hdis x hx hx''.1
            · have : level.contains x = true := List.contains_iff_mem.mpr hx
              rw [this] at hx''
              exact absurd hx''.2 (by simp))
        refine ⟨order, hgo, hp.trans ?_⟩
        rw [List.append_assoc]
        exact List.Perm.append_left _ hsplit

theorem toposort_of_rank (types : List JType) (rank : String → Nat)
    (hrank : ∀ t ∈ types, t.super ≠ t.name → rank t.super < rank t.name) :
    ∃ order, toposort types = .ok order ∧
      order.Perm (types.map (·.name) ++ types.map (·.super)).eraseDups ∧
      order.Pairwise (fun a b => ∀ t ∈ types, t.name = a → t.super = b → b = a) := by
  obtain ⟨order, hgo, hp⟩ := toposort_go_ok
    (fun n => (types.filter (fun t => t.name == n)).map (·.super)) rank (by
      intro a d hd hne
      obtain ⟨t, ht, rfl⟩ := List.mem_map.mp hd
      obtain ⟨ht1, ht2⟩ := List.mem_filter.mp ht
      have : t.name = a := by simpa using ht2
      subst this
      exact hrank t ht1 hne)
    ((types.map (·.name) ++ types.map (·.super)).eraseDups.length + 1) []
    (types.map (·.name) ++ types.map (·.super)).eraseDups (Nat.lt_succ_self _)
    (Det.nodup_eraseDups _) List.nodup_nil (fun x hx => by cases hx)
  rw [List.nil_append] at hp
  exact ⟨order, hgo, hp, (toposort_spec types order hgo).1⟩

end Cassis.Json
