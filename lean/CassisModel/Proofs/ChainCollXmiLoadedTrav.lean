/-
C16 with collections, the CAS loaded from XMI: the traversal of the JSON writer (`includeInlinable := true`) on the loaded
CAS succeeds and collects structures of `SAll` only (`XLd.traversal`; ids are assigned to the inlined collection objects,
`findAllFs_ok_of_closed_gen`, `Reach.lean`); the fragment is kept when ids are assigned (`SameShape`); what is collected
satisfies `LOkJ` (`XLd.lokJ`) and contains the counterpart of every written structure under the id of the written one
(`XLd.complete`: every written structure is reachable from the indexed ones; each step of that path is a `Target`, which
the reader copies (`Loc.target_bwd`), and a `Target` of a collected structure — a reference, an element of an inlined
FSArray, a head of an inlined FSList, an element of an FSArray object — is collected by the second traversal because what
it collects is closed, `target_collected`).
-/
import CassisModel.Proofs.ChainCollXmiLoadedFrag
import CassisModel.Proofs.RoundTripJsonCollSave
import CassisModel.Properties.C04
import CassisModel.Properties.C15

namespace Cassis.ChainC
open Cassis.TS Cassis.Traverse Cassis.Xmi Cassis.Json

theorem nodeSuccs_arr_total {K : Consts} {ts : TypeSystem} {op : Opts} {H : Heap} {allFs : List (Int × Nat)} {fuel a : Nat}
    {t : TypeRec} (h : t.super = some ARRAY_BASE) : ∃ ps, nodeSuccs K ts op H allFs fuel a t = .ok (ps, 0) := by
  unfold nodeSuccs
  rw [if_pos (by rw [h]; exact beq_self_eq_true _)]
  split
  · split
    · exact ⟨_, rfl⟩
    · exact ⟨_, rfl⟩
  · exact ⟨_, rfl⟩

/-- a structure of the JSON fragment: the successor computation succeeds and yields targets of reference slots or
    elements of the `elements` slot -/
theorem jop_succs {K : Consts} {ts : TypeSystem} {c : Cas} {ci : Nat} {hp : Heap} {a : Nat} (fuel : Nat)
    (h : JGenFs K ts c ci hp a ∨ JArrFs K ts hp a) :
    ∃ (ob : Obj) (t : TypeRec) (ps : List Nat) (n : Nat), hp[a]? = some ob ∧ getType ts ob.ty = .ok t ∧
      nodeSuccs K ts jop hp [] fuel a t = .ok (ps, n) ∧
      ∀ b ∈ ps, (∃ m, alistGet? ob.slots m = some (.ref b)) ∨
        (∃ l, alistGet? ob.slots "elements" = some (.refs l) ∧ some b ∈ l) := by
  obtain ⟨o, t, ps, ho, ht, hnode⟩ : ∃ o t ps, hp[a]? = some o ∧ find? ts o.ty = some t ∧
      nodeSuccs K ts jop hp [] fuel a t = .ok (ps, 0) := by
    rcases h with hg | ha
    · obtain ⟨o, t, ho, ht, g⟩ := jgenFs_iff.mp hg
      obtain ⟨ps, hps, _⟩ := jfeaturesSuccs_coll (K := K) (ts := ts) fuel ho (allFeatures t) g.feat
      exact ⟨o, t, ps, ho, ht, (nodeSuccs_of_not_array g.notArrBase).trans hps⟩
    · obtain ⟨o, t, _, _, ho, ht, g⟩ := ha.obj
      obtain ⟨ps, hps⟩ := nodeSuccs_arr_total (K := K) (ts := ts) (op := jop) (H := hp) (allFs := []) (fuel := fuel)
        (a := a) g.arrBase
      exact ⟨o, t, ps, ho, ht, hps⟩
  refine ⟨o, t, ps, 0, ho, Cassis.TS.getType_of_find ht, hnode, fun b hb => ?_⟩
  -- the JSON writer looks through nothing
  rcases (mem_nodeSuccs_iff ho hnode b).mp hb with ⟨_, f, _, hsrc⟩ | ⟨_, _, l, hl, hbl⟩
  · cases hsrc with
    | ref _ _ _ hs => exact .inl ⟨f.name, hs⟩
    | elem _ _ _ _ hlt => cases hlt
    | head _ _ _ _ hlt => cases hlt
  · exact .inr ⟨l, hl, hbl⟩

theorem spineEnds_shape {hp hp' : Heap} (sh : SameShape hp hp') {b : Nat} (h : SpineEnds hp b) : SpineEnds hp' b := by
  obtain ⟨hs, h⟩ := h
  refine ⟨hs, ?_⟩
  rw [sh.1, collectList_congr sh.slot]
  exact h

theorem jcollFs_shape {K : Consts} {ts : TypeSystem} {c : Cas} {ci : Nat} {hp hp' : Heap} (sh : SameShape hp hp')
    {a : Nat} (h : JCollFs K ts c ci hp a) : JCollFs K ts c ci hp' a := by
  obtain ⟨hk, hj⟩ := h
  refine ⟨?_, ?_⟩
  · rcases hk with hg | ⟨o, t, f, ev, ho, ht, htn, hsup, hall, hfn, hres, hsl, hann, hns, hcase⟩
    · obtain ⟨o, t, ho, ht, g⟩ := jgenFs_iff.mp hg
      obtain ⟨o', ho', hty, hslots, _⟩ := sh.2 a o ho
      refine .inl (jgenFs_iff.mpr ⟨o', t, ho', hty ▸ ht, g.copy hty (by rw [hslots]) (fun f _ hf => ?_)
        fun h => h.copy (E := fun _ v => v) (fun n v hv => by rw [hslots]; exact hv) (fun _ => rfl) (fun _ _ => rfl)
          fun vn v hv => ⟨v, hv, rfl⟩⟩)
      obtain ⟨r1, r2, r3, r4, r5, v, hv, hc⟩ := hf
      refine ⟨r1, r2, r3, r4, r5, v, by rw [hslots]; exact hv, ?_⟩
      rcases hc with hc | hc | ⟨p1, p2, p3, p4, p5, hval⟩
      · exact .inl hc
      · exact .inr (.inl hc)
      · refine .inr (.inr ⟨p1, p2, p3, p4, p5, ?_⟩)
        rcases hval with hval | ⟨b, hb, hsp⟩
        · exact .inl hval
        · exact .inr ⟨b, hb, fun hi hna => spineEnds_shape sh (hsp hi hna)⟩
    · obtain ⟨o', ho', hty, hslots, _⟩ := sh.2 a o ho
      obtain ⟨ty, tsi, xid, slots⟩ := o
      obtain ⟨ty', tsi', xid', slots'⟩ := o'
      simp only at hty hslots
      subst hty hslots
      exact .inr ⟨_, t, f, ev, ho', ht, htn, hsup, hall, hfn, hres, hsl, hann, hns, hcase⟩
  · intro o' t ho' ht
    obtain ⟨o, ho, hty, _⟩ := sh.get_back ho'
    rw [hty] at ht ⊢
    exact hj o t ho ht

section
variable {K : Consts} {ts : TypeSystem} {c : Cas} {ci : Nat} {H : Heap} {L : List (Int × Nat)} {ci' : Nat}
  {na : Int → Nat} {ia : Int → String → Nat} {ld : Xmi.Loaded}

theorem XLd.sall_xid (x : XLd K ts c ci H L ci' na ia ld) {a : Nat} (ha : SAll K ld.heap L na a) {y : Int}
    (hy : xidOf ld.heap a = some y) : ∃ q ∈ L, a = na q.1 ∧ y = q.1 := by
  rcases ha with ⟨q, hq, rfl⟩ | ⟨o, _, ho, hx, _⟩ | ⟨k, vs, hv, _⟩
  · rw [x.rel.xid hq] at hy
    cases hy
    exact ⟨q, hq, rfl, rfl⟩
  · rw [xidOf_eq ho, hx] at hy; cases hy
  · cases hv with
    | nil g1 g2 _ _ =>
      rw [xidOf_eq g1, g2] at hy; cases hy
    | cons g1 g2 _ _ _ =>
      rw [xidOf_eq g1, g2] at hy; cases hy

/-- **the traversal of the JSON writer on the loaded CAS** -/
theorem XLd.traversal (x : XLd K ts c ci H L ci' na ia ld) (htys : CollTypesOk K ts)
    (hjson : ∀ q ∈ L, JsonFs ts H q.2) (harr : ∀ q ∈ L, ArrElemsSome H q.2) :
    ∃ st2 : St, findAllFs K ts jop ld.heap ld.cas.nextXid (defaultSeeds ld.cas) = .ok st2 ∧
      SameShape ld.heap st2.heap ∧ (∀ r ∈ st2.allFs, SAll K ld.heap L na r.2) ∧
      (∀ a, SAll K ld.heap L na a → xidOf st2.heap a ≠ some 0) ∧
      ∀ a, SAll K ld.heap L na a → ∀ y, xidOf st2.heap a = some y → xidOf ld.heap a = some y ∨ ld.cas.nextXid ≤ y := by
  obtain ⟨st2, hfa, hsub, hnz, hfresh⟩ := findAllFs_ok_of_closed_gen K ts jop rfl ld.heap ld.cas.nextXid (defaultSeeds ld.cas)
    (SAll K ld.heap L na)
    (fun a ha => by obtain ⟨q, hq, e⟩ := x.ldViews.seed_fwd ha; exact .inl ⟨q, hq, e⟩)
    (fun a ha => by
      obtain ⟨⟨hk, _⟩, hcl⟩ := x.sall_j (ci' := ci') htys hjson harr ha
      obtain ⟨ob, t, ps, n, hob, hty, hns, hps⟩ := jop_succs (ld.heap.length + 1) hk
      refine ⟨ob, t, ps, n, hob, hty, hns, fun b hb => ?_⟩
      rcases hps b hb with ⟨m, hm⟩ | ⟨l, hl, hbl⟩
      · exact (hcl ob hob).1 m b hm
      · exact (hcl ob hob).2 l hl b hbl)
    (fun a ha y hy => by
      obtain ⟨q, hq, rfl, rfl⟩ := x.sall_xid ha hy
      obtain ⟨o, o', _, ho', hor⟩ := x.rel q hq
      exact x.ids_below (na q.1) o' q.1 (Nat.le_of_lt (x.naOk.gt q hq)) ho' hor.2.1)
    (fun a b ha hb y hya hyb => by
      obtain ⟨q, hq, rfl, rfl⟩ := x.sall_xid ha hya
      obtain ⟨q', hq', rfl, e⟩ := x.sall_xid hb hyb
      rw [e])
    x.next_pos
    (fun a ha h0 => by
      obtain ⟨q, hq, _, e⟩ := x.sall_xid ha h0
      exact (x.lok.ids q hq).2 e.symm)
  exact ⟨st2, hfa, (findAllFs_inv K ts jop ld.heap _ _ st2 hfa).1.shape, hsub, hnz, hfresh⟩

/-- everything known after the traversal of the JSON writer on the loaded CAS -/
structure JTrav (K : Consts) (ts : TypeSystem) (L : List (Int × Nat)) (na : Int → Nat) (ld : Xmi.Loaded) (st2 : St) :
    Prop where
  fa : findAllFs K ts jop ld.heap ld.cas.nextXid (defaultSeeds ld.cas) = .ok st2
  shape : SameShape ld.heap st2.heap
  sub : ∀ r ∈ st2.allFs, SAll K ld.heap L na r.2
  nz : ∀ a, SAll K ld.heap L na a → xidOf st2.heap a ≠ some 0
  fresh : ∀ a, SAll K ld.heap L na a → ∀ y, xidOf st2.heap a = some y → xidOf ld.heap a = some y ∨ ld.cas.nextXid ≤ y

theorem XLd.lokJ (x : XLd K ts c ci H L ci' na ia ld) (htys : CollTypesOk K ts)
    (hjson : ∀ q ∈ L, JsonFs ts H q.2) (harr : ∀ q ∈ L, ArrElemsSome H q.2) {st2 : St} (j : JTrav K ts L na ld st2) :
    LOkJ K ts ld.cas ci' st2.heap (sortById st2.allFs) := by
  have hS : ∀ r ∈ st2.allFs, SAll K ld.heap L na r.2 := j.sub
  refine lokJ_of_findAllFs j.fa x.next_pos
    (fun r hr => jcollFs_shape j.shape (x.sall_j (ci' := ci') htys hjson harr (hS r hr)).1)
    (fun a ha => by obtain ⟨q, hq, e⟩ := x.ldViews.seed_fwd ha; exact j.nz _ (.inl ⟨q, hq, e⟩))
    (fun r hr o ho => ?_)
  -- what a collected structure refers to lies in `SAll`
  obtain ⟨o0, ho0, _, hsl⟩ := j.shape.get_back ho
  obtain ⟨h1, h2⟩ := (x.sall_j (ci' := ci') htys hjson harr (hS r hr)).2 o0 ho0
  exact ⟨fun n b hb => j.nz b (h1 n b (by rw [← hsl]; exact hb)),
    fun l hl b hb => j.nz b (h2 l (by rw [← hsl]; exact hl) b hb)⟩

theorem XLd.main_id (x : XLd K ts c ci H L ci' na ia ld) {st2 : St} (j : JTrav K ts L na ld st2)
    {q : Int × Nat} (hq : q ∈ L) {y : Int} (h : xidOf st2.heap (na q.1) = some y) : y = q.1 := by
  have := j.shape.xidOf (x.rel.xid hq)
  rw [this] at h
  exact (Option.some.inj h).symm

end

/-- what a collected structure holds in a reference slot is collected (`hp`: before ids were assigned) -/
theorem closed_slot {hp hp2 : Heap} {L2 : List (Int × Nat)} (hcl : ClosedL hp2 L2) (sh : SameShape hp hp2) {y : Int} {a : Nat}
    (hy : (y, a) ∈ L2) {n : String} {b : Nat} (h : Xmi.slot hp a n = some (.ref b)) : ∃ y' : Int, (y', b) ∈ L2 := by
  obtain ⟨o, ho, hv⟩ := Xmi.slot_obj h
  obtain ⟨o2, ho2, _, hsl, _⟩ := sh.2 a o ho
  obtain ⟨y', _, hy'⟩ := hcl (y, a) hy o2 ho2 n b (by rw [hsl]; exact hv)
  exact ⟨y', hy'⟩

theorem closed_elems {hp hp2 : Heap} {L2 : List (Int × Nat)} (hcl : ClosedE hp2 L2) (sh : SameShape hp hp2) {y : Int} {a : Nat}
    (hy : (y, a) ∈ L2) {l : List (Option Nat)} {b : Nat} (h : Xmi.slot hp a "elements" = some (.refs l)) (hb : some b ∈ l) :
    ∃ y' : Int, (y', b) ∈ L2 := by
  obtain ⟨o, ho, hv⟩ := Xmi.slot_obj h
  obtain ⟨o2, ho2, _, hsl, _⟩ := sh.2 a o ho
  obtain ⟨y', _, hy'⟩ := hcl (y, a) hy o2 ho2 l (by rw [hsl]; exact hv) b hb
  exact ⟨y', hy'⟩

/-- the heads along the spine of a collected node are collected -/
theorem closed_heads {hp hp2 : Heap} {L2 : List (Int × Nat)} (hcl : ClosedL hp2 L2) (sh : SameShape hp hp2) {b a : Nat}
    {vs : List Val} (h : Spine hp (.ref a) vs) (hb : Val.ref b ∈ vs) {y : Int} (hy : (y, a) ∈ L2) :
    ∃ y' : Int, (y', b) ∈ L2 := by
  obtain ⟨a', ⟨y', hy'⟩, hh⟩ := h.heads (P := fun a => ∃ y : Int, (y, a) ∈ L2)
    (fun a ⟨y, hy⟩ b ht => closed_slot hcl sh hy ht) (fun _ e => by cases e; exact ⟨y, hy⟩) _ hb
  exact closed_slot hcl sh hy' hh

/-- what the XMI writer reaches from a structure in one step — looking through inlined FSArrays and FSLists — the JSON
    writer reaches in several: a collected structure's targets are collected -/
theorem target_collected {K : Consts} {ts : TypeSystem} {hp hp2 : Heap} {L2 : List (Int × Nat)} (hcl : ClosedL hp2 L2)
    (hclE : ClosedE hp2 L2) (sh : SameShape hp hp2) {y : Int} {a b : Nat} (hy : (y, a) ∈ L2) (hb : Target K ts hp a b) :
    ∃ y' : Int, (y', b) ∈ L2 := by
  obtain ⟨o, t, ho, _, hcase⟩ := hb
  have hs := Xmi.slot_of ho
  rcases hcase with ⟨f, _, _, hv⟩ | ⟨f, _, _, _, c, l, hv, hel, hm⟩ | ⟨f, _, _, _, c, hs', hv, hcl', hm⟩ | ⟨_, l, hel, hm⟩
  · exact closed_slot hcl sh hy ((hs _).trans hv)
  · obtain ⟨y1, hy1⟩ := closed_slot hcl sh hy ((hs _).trans hv)
    exact closed_elems hclE sh hy1 hel hm
  · obtain ⟨y1, hy1⟩ := closed_slot hcl sh hy ((hs _).trans hv)
    exact closed_heads hcl sh (collectList_ok hcl').1 hm hy1
  · exact closed_elems hclE sh hy ((hs _).trans hel) hm

/-- **the counterparts of the written structures are collected** -/
theorem XLd.complete {K : Consts} {ts : TypeSystem} {c : Cas} {ci : Nat} {hp0 : Heap} {st : St} {ci' : Nat}
    {na : Int → Nat} {ia : Int → String → Nat} {ld : Xmi.Loaded}
    (x : XLd K ts c ci st.heap (sortById st.allFs) ci' na ia ld)
    (hnx : 0 < c.nextXid) (hfa : findAllFs K ts {} hp0 c.nextXid (defaultSeeds c) = .ok st)
    {st2 : St} (j : JTrav K ts (sortById st.allFs) na ld st2)
    (hL2 : LOkJ K ts ld.cas ci' st2.heap (sortById st2.allFs)) :
    ∀ q ∈ sortById st.allFs, (q.1, na q.1) ∈ sortById st2.allFs := by
  have hlen : st.heap.length = hp0.length := (findAllFs_heap_frame K ts {} hp0 c.nextXid _ st hfa).1
  -- a collected counterpart carries the id of the written structure
  have hid : ∀ q ∈ sortById st.allFs, ∀ y : Int, (y, na q.1) ∈ sortById st2.allFs → (q.1, na q.1) ∈ sortById st2.allFs := by
    intro q hq y hy
    have e : y = q.1 := x.main_id j hq (hL2.ids _ hy).1
    rw [e] at hy
    exact hy
  have key : ∀ a, Reach K ts {} st.heap (hp0.length + 1) (defaultSeeds c) a →
      ∀ i, (i, a) ∈ sortById st.allFs → (i, na i) ∈ sortById st2.allFs := by
    intro a hr
    induction hr with
    | seed a hs =>
      intro i hi
      have hbm := findAllFs_complete K ts jop ld.heap _ _ st2 x.next_pos j.fa (na i) (.seed _ (x.ldViews.seed_bwd hi hs))
        (j.nz _ (.inl ⟨(i, a), hi, rfl⟩))
      obtain ⟨y, hp1⟩ := mem_sorted_of_addr hbm
      exact hid (i, a) hi y hp1
    | step a b hra hnull hsucc ih =>
      intro i hib
      have hmem := findAllFs_complete K ts {} hp0 c.nextXid _ st hnx hfa a hra hnull
      obtain ⟨⟨xa, a2⟩, hq0, rfl⟩ := List.mem_map.mp hmem
      have hq : (xa, a2) ∈ sortById st.allFs := mem_sortById.mpr hq0
      -- the step is a step of the loaded CAS (the reader copies the targets), which the second traversal follows
      obtain ⟨o, o', t, h⟩ := x.loc hq
      have hT := h.target_bwd ((CT.succsOf_coll (x.lok.coll _ hq) b).mp (hlen ▸ hsucc)) hib
      obtain ⟨y, hy⟩ := target_collected hL2.closed hL2.closedE j.shape (ih xa hq) hT
      exact hid _ hib y hy
  intro q hq
  have hreach := findAllFs_sound K ts {} hp0 c.nextXid _ st hnx hfa q.2
    (List.mem_map.mpr ⟨q, mem_sortById.mp hq, rfl⟩)
  exact key q.2 hreach q.1 hq

end Cassis.ChainC
