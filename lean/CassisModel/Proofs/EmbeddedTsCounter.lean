/-
Evaluated counterexamples to the statement of `Properties/C02EmbeddedTs.lean` without the hypothesis `Writable`
(`UserOnlyNoDoc` only): histories that satisfy `UserOnlyNoDoc` but whose FULL document does not lead back to the same type system.
Each one is evaluated on the model (`#guard`, compiled evaluation) and on the implementation
(`Cas(typesystem=ts).to_json(type_system_mode=FULL)`, `load_cas_from_json` without a type system).  Each forces one
clause of the hypothesis `Writable` (`Spec/EmbeddedTs.lean`) under which the statement is proved
(`Proofs/EmbeddedTs.lean`, `Properties/C02EmbeddedTs.lean`).

`sameTsB` is the Boolean reading of `SameTs` over all names registered on either side.
-/
import CassisModel.Spec.EmbeddedTs

namespace Cassis.Json.Counter
open Cassis.TS

def permB {α} [BEq α] (a b : List α) : Bool := a.length == b.length && a.all (fun x => a.count x == b.count x)

def sameDeclB (t t' : TypeRec) : Bool :=
  t'.name == t.name && t'.super == t.super && t'.descr == t.descr && permB t'.children t.children &&
  permB ((allFeatures t').map featKey) ((allFeatures t).map featKey)

def sameTsB (a b : TypeSystem) : Bool :=
  (a.types.map (·.name) ++ b.types.map (·.name)).all (fun n =>
    match find? a n, find? b n with
    | some t, some t' => sameDeclB t t'
    | none, none => true
    | _, _ => false)

inductive Outcome | same | differs | loadError | saveError
deriving DecidableEq, Repr

/-- build the type system, write an empty CAS with mode FULL, read the type system back without supplying one -/
def run (ops : List TsOp) : Outcome :=
  let o := ops.foldl (applyOp Gen.consts) Gen.builtinTS
  match saveJson Gen.consts o [Cas.empty] 0 [] .full with
  | .error _ => .saveError
  | .ok (doc, _) =>
    match loadTs Gen.consts Gen.builtinTS true doc with
    | .error _ => .loadError
    | .ok ts' => if sameTsB o ts' then .same else .differs

open TsOp

/-- (1) an empty type description is not written and comes back as `None` -/
def cexTypeDescr : List TsOp := [createType "x.A" "uima.cas.TOP" (some "")]
#guard run cexTypeDescr == .differs

/-- (2) an empty feature description likewise -/
def cexFeatDescr : List TsOp :=
  [createType "x.A" "uima.cas.TOP" none, createFeature "x.A" "f" "uima.cas.Integer" none (some "") none]
#guard run cexFeatDescr == .differs

/-- (3) the element type given for a primitive array is lost (`Feature.__eq__` compares it) -/
def cexPrimArrayElem : List TsOp :=
  [createType "x.A" "uima.cas.TOP" none,
   createFeature "x.A" "f" "uima.cas.IntegerArray" (some "uima.cas.Integer") none none]
#guard run cexPrimArrayElem == .differs

/-- (4) an FSArray of a primitive element type is written as `uima.cas.Integer[]` and read back as IntegerArray -/
def cexFsArrayPrimElem : List TsOp :=
  [createType "x.A" "uima.cas.TOP" none,
   createFeature "x.A" "f" "uima.cas.FSArray" (some "uima.cas.Integer") none none]
#guard run cexFsArrayPrimElem == .differs

/-- (5) a range type whose name ends in `[]` is read as an array of `x.T` (TypeNotFoundError) -/
def cexBracketName : List TsOp :=
  [createType "x.T[]" "uima.cas.TOP" none, createType "x.A" "uima.cas.TOP" none,
   createFeature "x.A" "f" "x.T[]" none none none]
#guard run cexBracketName == .loadError

/-- (6) a type named `DocumentAnnotation` (no namespace) makes the reader start without
    `uima.tcas.DocumentAnnotation`; a declared subtype of the latter then fails with KeyError -/
def cexDocKey : List TsOp :=
  [createType "DocumentAnnotation" "uima.cas.TOP" none, createType "x.D" "uima.tcas.DocumentAnnotation" none]
#guard run cexDocKey == .loadError

/- … while the type alone does no harm (the clause `hasExact ts "DocumentAnnotation" = false` of `Writable` is
   sufficient, not necessary) -/
#guard run [createType "DocumentAnnotation" "uima.cas.TOP" none] == .same

/- what `UserOnlyNoDoc` excludes: a feature on DocumentAnnotation is not written -/
#guard run [createFeature "uima.tcas.DocumentAnnotation" "f" "uima.cas.Integer" none none none] == .differs

/-! instances that do come back -/
#guard run [createType "x.A" "uima.tcas.Annotation" none, createType "x.B" "x.A" (some "d"),
  createFeature "x.B" "f" "uima.cas.Integer" none none none, createFeature "x.A" "f" "uima.cas.Integer" none none none,
  createFeature "x.A" "self" "uima.cas.String" none none none,
  createFeature "x.A" "arr" "uima.cas.FSArray" (some "x.B") none (some true),
  createFeature "x.B" "ia" "uima.cas.IntegerArray" none none none] == .same

end Cassis.Json.Counter
