/-
C20 across the XMI round trip, whole format: every slot of a collected structure and the corresponding slot of its loaded
counterpart hold related values (`slot_vrof`): by the shape of the value (`None`, a scalar or a sofa; a reference held by a
feature that is not inlined; an inlined array; an inlined list), the fragment `CollFs` only says which shapes occur.
-/
import CassisModel.Proofs.ComparableIsoCollRel
import CassisModel.Proofs.RoundTripJsonCollOfXmiFrag
import CassisModel.Proofs.RoundTripJsonCollDefs

namespace Cassis.Comparable
open Cassis.TS Cassis.Traverse Cassis.Xmi Cassis.ChainC

/-- an inlined collection feature holding a reference, summarised: an array (a list value whose references — only in an
    FSArray — are not null) or a list -/
theorem inline_kind {K : Consts} {ts : TypeSystem} {H : Heap} {o : Obj} {f : Feature} (h : InlineFeat K ts H o f)
    {cc : Nat} (hv : alistGet? o.slots f.name = some (.ref cc)) :
    (isArray K f.range = true ∧ ∃ ev : Val, Traverse.slot H cc "elements" = some ev ∧ isListV ev = true ∧
        ∀ l, ev = .refs l → ∀ r ∈ l, f.range = FS_ARRAY ∧ ∃ b : Nat, r = some b)
    ∨ (isArray K f.range = false ∧ isPrimitiveArray K f.range = false ∧ f.range ≠ FS_ARRAY) := by
  obtain ⟨_, v, hv', hk⟩ := h
  cases hv.symm.trans hv'
  have harr : ∀ (P : Val → Prop), InlArr H P (.ref cc) → (∀ ev, P ev →
      isListV ev = true ∧ ∀ l, ev = .refs l → ∀ r ∈ l, f.range = FS_ARRAY ∧ ∃ b : Nat, r = some b) →
      ∃ ev : Val, Traverse.slot H cc "elements" = some ev ∧ isListV ev = true ∧
        ∀ l, ev = .refs l → ∀ r ∈ l, f.range = FS_ARRAY ∧ ∃ b : Nat, r = some b := by
    intro P hi hP
    rcases hi with e | ⟨arr, ev, e, hev, hp⟩
    · cases e
    · cases e
      exact ⟨ev, hev, hP ev hp⟩
  have hnil : ∀ r, r ∈ ([] : List (Option Nat)) → f.range = FS_ARRAY ∧ ∃ b : Nat, r = some b := fun r hr => by cases hr
  rcases hk with ⟨hty, rk, hi⟩ | ⟨hty, rk, hi⟩ | ⟨hty, rk, hi⟩ | ⟨hty, rk, hi⟩ | ⟨hty, rk, hi⟩ | ⟨hty, rk, hi⟩ |
    ⟨hty, rk, hi⟩
  · refine Or.inl ⟨rk.arr, harr _ hi fun ev hp => ?_⟩
    rcases hp with rfl | ⟨_, l, rfl⟩ | ⟨_, l, rfl, _⟩ | ⟨_, l, rfl⟩ | ⟨_, l, rfl, _⟩
    · exact ⟨rfl, fun l hl => by cases hl; exact hnil⟩
    all_goals exact ⟨rfl, fun l hl => by cases hl⟩
  · refine Or.inl ⟨rk.arr, harr _ hi fun ev hp => ?_⟩
    rcases hp with rfl | ⟨l, rfl⟩
    · exact ⟨rfl, fun l hl => by cases hl; exact hnil⟩
    · exact ⟨rfl, fun l hl => by cases hl⟩
  · refine Or.inl ⟨rk.arr, harr _ hi fun ev hp => ?_⟩
    obtain ⟨l, rfl, _⟩ := hp
    refine ⟨rfl, fun l' hl' r hr => ?_⟩
    cases hl'
    obtain ⟨b, _, rfl⟩ := List.mem_map.mp hr
    exact ⟨hty, b, rfl⟩
  all_goals exact Or.inr ⟨rk.arr, rk.primArr, by rw [hty]; decide⟩

theorem tList_ty {hp : Heap} {k : LK} {a : Nat} (h : TList hp k a) :
    ∃ o : Obj, hp[a]? = some o ∧ o.ty ∈ listNodeTypes := by
  cases h with
  | nil h1 _ h3 _ => exact ⟨_, h1, by rw [h3]; cases k <;> simp [listNodeTypes, LK.emptyT]⟩
  | cons h1 _ h3 _ _ => exact ⟨_, h1, by rw [h3]; cases k <;> simp [listNodeTypes, LK.neT]⟩

section
variable {K : Consts} {ts : TypeSystem} {c : Cas} {ci : Nat} {H : Heap} {L : List (Int × Nat)} {na : Int → Nat}
  {ia : Int → String → Nat} {ci' : Nat} {hpL : Heap} {addrs : List Nat}

/-- `None`, a scalar or a sofa comes back as the same cell, whatever the feature -/
theorem vrof_plain {AR : Nat → Nat → Prop} {o : Obj} {n : String} {v : Val} (h1 : ∀ b, v ≠ .ref b)
    (h2 : Json.plainV v = true) (h3 : Json.CC.noAttr v = true) : VRof AR v (E3c K ts H na ia ci' o n v) := by
  cases v <;> first | exact Or.inl ⟨_, rfl, rfl⟩ | exact absurd rfl (h1 _) | exact absurd h2 Bool.false_ne_true |
    exact absurd h3 Bool.false_ne_true

theorem slot_vrof (X : CtxC K ts c ci H L na ia ci' hpL addrs) {q : Int × Nat} (hq : q ∈ L) (n : String) :
    VRof (ARc K H hpL L na addrs) ((Traverse.slot H q.2 n).getD .none) ((Traverse.slot hpL (na q.1) n).getD .none) := by
  obtain ⟨o, o', ho, ho', hty, hx', hkeys, hslots⟩ := X.hrel q hq
  rw [X.hrel.slot hq ho n, slot_eq ho n]
  cases hv : alistGet? o.slots n with
  | none => exact vrof_none
  | some v =>
    simp only [Option.map_some, Option.getD_some]
    rcases X.hL.coll q hq with hg | ha
    · -- a general structure
      obtain ⟨o1, t, ho1, ht, g⟩ := genFs_iff.mp hg
      cases ho.symm.trans ho1
      obtain ⟨f, hf, rfl⟩ := g.slot_feature hv
      have h : Loc K ts c ci H L na ia ci' hpL q o o' t :=
        ⟨X.hL, fun q hq => X.hrel.xid hq, X.hcolls, hq, ho, ho', hty, hkeys, hslots, ht⟩
      obtain ⟨hpl, hna⟩ := (Json.jfeatOk_of_collFeat K ts c ci H _ o f (g.feat f hf)).scalar hv
      by_cases hr : ∃ b, v = .ref b
      case neg => exact vrof_plain (fun b e => hr ⟨b, e⟩) hpl hna
      obtain ⟨cc, rfl⟩ := hr
      by_cases hi : Xmi.isInline K f = true
      case neg =>
        -- a reference held by a feature that is not inlined
        obtain ⟨x, _, hxl, _, _, hs'⟩ := h.ref hf (by simpa using hi) hv
        rw [hslots _ _ hv] at hs'
        rw [Option.some.inj hs']
        exact Or.inr (Or.inr (Or.inl ⟨cc, na x, rfl, rfl, Or.inl ⟨(x, cc), hxl, rfl, rfl⟩⟩))
      have hin : InlineFeat K ts H o f := by
        rcases g.feat f hf with hflat | ⟨_, hsh | hin⟩
        · rw [(hflat.plain hv).1 cc rfl] at hi; cases hi
        · rw [CT.isInline_shared hsh.1] at hi; cases hi
        · exact hin
      have hinl : inlineSlot K ts o f.name = true := (CF.inlineSlot_eq (K := K) ht g.nodup hf).trans hi
      have hox := h.ox
      have hnew := X.typed q hq o ho f.name cc hv hinl t f ht hf rfl
      rw [E3c_inl hinl hox]
      rcases inline_kind hin hv with ⟨harr, ev, hev, hlv, hrefs⟩ | ⟨harr, hpa', hnfs⟩
      · -- an inlined array
        obtain ⟨c', hs', hat⟩ := h.arrAt hf hi harr hv hev
        rw [hslots _ _ hv, E3c_inl hinl hox] at hs'
        cases Option.some.inj hs'
        obtain ⟨hA, hstr⟩ := (X.inl q hq).arr o t f cc ho ht hf hi harr hv
        have hA' : isArrayFs K hpL (ia q.1 f.name) = true := by
          rcases hnew with ⟨⟨ob, ev', hob, _, hobt, _⟩, _⟩ | ⟨k, _, htl⟩
          · rw [isArrayFs_of_obj hob, hobt]; exact harr
          · exfalso
            obtain ⟨ob, h1, _, h3⟩ := hat
            cases htl with
            | nil g1 _ _ g4 => rw [h1] at g1; cases g1; rw [g4] at h3; simp [alistGet?] at h3
            | cons g1 _ _ g4 _ => rw [h1] at g1; cases g1; rw [g4] at h3; simp [alistGet?] at h3
        refine Or.inr (Or.inr (Or.inl ⟨cc, _, rfl, rfl, Or.inr (Or.inl ⟨hA, hA', ev, hev, slot_arrAt hat, hlv,
          hstr ev hev, ?_⟩)⟩))
        intro l hl b hr
        obtain ⟨hfs, _⟩ := hrefs l hl _ hr
        subst hl
        exact X.hL.closed q hq b ⟨o, t, ho, ht, Or.inr (Or.inl ⟨f, hf, hi, hfs, cc, l, hv, hev, hr⟩)⟩
      · -- an inlined list
        obtain ⟨_, ⟨hyes, _⟩ | ⟨_, hs, _, hat, _⟩⟩ := h.inl hf hi hv
        · rw [harr] at hyes; cases hyes
        obtain ⟨hA, hfresh⟩ := (X.inl q hq).list o t f cc ho ht hf hi harr hv
        obtain ⟨ob, hob, hobx⟩ := ListAt.noId hat
        have hA' : isArrayFs K hpL (ia q.1 f.name) = false := by
          rcases hnew with ⟨_, hp | hp⟩ | ⟨k, _, htl⟩
          · rw [hpa'] at hp; cases hp
          · exact absurd hp hnfs
          · obtain ⟨ob', hob', hmem⟩ := tList_ty htl
            rw [isArrayFs_of_obj hob']
            exact X.nodes _ hmem
        refine Or.inr (Or.inr (Or.inl ⟨cc, _, rfl, rfl, Or.inr (Or.inr ⟨hA, hA', hfresh, ?_⟩)⟩))
        exact (xidOf_eq hob).trans hobx
    · -- an array object
      obtain ⟨o1, ev, ho1, hsl, hev⟩ := X.arrFs_elems hq ha
      rw [ho] at ho1; cases ho1
      rw [hsl] at hv
      obtain ⟨rfl, rfl⟩ := CAR.get_elems_inv _ _ _ hv
      rcases hev with rfl | hok
      · exact vrof_none
      · rw [E3c_list hok.1]; exact vrof_elems hok

end

end Cassis.Comparable
