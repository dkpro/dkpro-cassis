/-
The relations `Obj1` / `Obj2` / `CollsAt` / `CollsNew` and their parts (`Proofs/RoundTripCollDefs.lean`) survive every later
change of the heap that leaves the objects without id alone (`Frz`): `X.frz`.  A step of the second pass is such a change
(`Ext.toFrz`).
-/
import CassisModel.Proofs.RoundTripCollDefs

namespace Cassis.Xmi
open Cassis.TS

theorem KidAt.frz {K : Consts} {hp hp' : Heap} {f : Feature} {l : List (Option String)} {w : Val}
    (h : KidAt K hp f l w) (fr : Frz hp hp') : KidAt K hp' f l w := by
  obtain ⟨addr, hw, hn, h⟩ := h
  refine ⟨addr, hw, hn.mono fr.2, ?_⟩
  rcases h with ⟨h1, h2⟩ | ⟨h1, h2, h3⟩
  · exact Or.inl ⟨h1, h2.frz fr⟩
  · exact Or.inr ⟨h1, h2.frz fr, Nat.lt_of_lt_of_le h3 fr.1⟩

theorem Read1.frz {K : Consts} {hpX hpY : Heap} {f : Feature} {av : Option String} {ks : List (Option String)} {w : Val}
    (h : Read1 K hpX f av ks w) (fr : Frz hpX hpY) : Read1 K hpY f av ks w :=
  ⟨h.1, fun hk => (h.2 hk).frz fr⟩

theorem Slot1.frz {K : Consts} {ts : TypeSystem} {cass : List Cas} {H hpX hpY : Heap} {o : Obj} {n : String} {v w : Val}
    (h : Slot1 K ts cass H hpX o n v w) (fr : Frz hpX hpY) : Slot1 K ts cass H hpY o n v w :=
  ⟨h.1, fun hl => by
    obtain ⟨a, t, f, h1, h2, h3, h4, h5, h6⟩ := h.2 hl
    exact ⟨a, t, f, h1, h2, h3, h4, h5, h6.frz fr⟩⟩

theorem Obj1.frz {K : Consts} {ts : TypeSystem} {cass : List Cas} {H hpX hpY : Heap} {o o1 : Obj} {x : Int}
    (h : Obj1 K ts cass H hpX o o1 x) (f : Frz hpX hpY) : Obj1 K ts cass H hpY o o1 x :=
  ObjRelS.mono h fun _ _ _ _ hs => hs.frz f

theorem InlAt.frz {K : Consts} {ts : TypeSystem} {H : Heap} {na : Int → Nat} {hpX hpY : Heap} {o : Obj} {n : String}
    {c addr : Nat} (h : InlAt K ts H na hpX o n c addr) (f : Frz hpX hpY) : InlAt K ts H na hpY o n c addr := by
  obtain ⟨t, ft, h1, h2, h3, h4⟩ := h
  refine ⟨t, ft, h1, h2, h3, ?_⟩
  rcases h4 with ⟨e, ev, g1, g2⟩ | ⟨e, hs, g1, g2, g3⟩
  · exact .inl ⟨e, ev, g1, g2.frz f⟩
  · exact .inr ⟨e, hs, g1, ListAt.frz f g2, Nat.lt_of_lt_of_le g3 f.1⟩

theorem Slot2.frz {K : Consts} {ts : TypeSystem} {cass : List Cas} {H : Heap} {na : Int → Nat} {ci' : Nat}
    {hpX hpY : Heap} {o : Obj} {n : String} {v w : Val}
    (h : Slot2 K ts cass H na ci' hpX o n v w) (f : Frz hpX hpY) : Slot2 K ts cass H na ci' hpY o n v w := by
  obtain ⟨addr, h1, h2⟩ := h
  exact ⟨addr, h1, fun c hc hi => ⟨(h2 c hc hi).1.frz f, fun t g ht hg hn => ((h2 c hc hi).2 t g ht hg hn).mono f.2⟩⟩

theorem Obj2.frz {K : Consts} {ts : TypeSystem} {cass : List Cas} {H : Heap} {na : Int → Nat} {ci' : Nat}
    {hpX hpY : Heap} {o o2 : Obj} {x : Int}
    (h : Obj2 K ts cass H na ci' hpX o o2 x) (f : Frz hpX hpY) : Obj2 K ts cass H na ci' hpY o o2 x :=
  ObjRelS.mono h fun _ _ _ _ hs => hs.frz f

theorem CollsAt.frz {K : Consts} {ts : TypeSystem} {H : Heap} {L : List (Int × Nat)} {na : Int → Nat}
    {ia : Int → String → Nat} {hpX hpY : Heap} (h : CollsAt K ts H L na ia hpX) (f : Frz hpX hpY) :
    CollsAt K ts H L na ia hpY :=
  fun q hq o ho n c hv hi => (h q hq o ho n c hv hi).frz f

theorem CollsNew.frz {K : Consts} {ts : TypeSystem} {H : Heap} {L : List (Int × Nat)} {ia : Int → String → Nat}
    {hpX hpY : Heap} (h : CollsNew K ts H L ia hpX) (f : Frz hpX hpY) : CollsNew K ts H L ia hpY :=
  fun q hq o ho n c hv hi t g ht hg hn => (h q hq o ho n c hv hi t g ht hg hn).mono f.2

theorem Ext.toFrz {hpX hpY : Heap} {a : Nat} {o : Obj} (h : Ext hpX hpY a) (ho : hpX[a]? = some o) (hx : o.xid ≠ none) :
    Frz hpX hpY := by
  refine ⟨h.1, fun b ob hb hbx => ?_⟩
  have hlt : b < hpX.length := (List.getElem?_eq_some_iff.mp hb).1
  by_cases e : b = a
  · subst e; rw [ho] at hb; cases hb; exact absurd hbx hx
  · rw [h.2 b hlt e]; exact hb

theorem Ext.refl (hp : Heap) (a : Nat) : Ext hp hp a := ⟨Nat.le_refl _, fun _ _ _ => rfl⟩

theorem Ext.trans {h1 h2 h3 : Heap} {a : Nat} (e1 : Ext h1 h2 a) (e2 : Ext h2 h3 a) : Ext h1 h3 a :=
  ⟨Nat.le_trans e1.1 e2.1, fun b hb hne => by
    rw [e2.2 b (Nat.lt_of_lt_of_le hb e1.1) hne, e1.2 b hb hne]⟩

end Cassis.Xmi
