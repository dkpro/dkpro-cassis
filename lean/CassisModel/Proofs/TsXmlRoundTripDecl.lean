/-
C12 round trip: a descriptor that lists exactly the user types of an API-built type system `ts` as the writer renders them
(descriptions stripped; `Faithful`), possibly with built-in types redeclared as the library defines them, loads, and the
loaded type system is a part of `trTs ts` (`load_of_faithful`).

The type system is `UserBuilt` (`Proofs/ApiHistory.lean`): what every call keeps, and the records of the built-in types
and of DocumentAnnotation as the library made them.  `trTs ts`: `ts` with all descriptions as the round trip leaves them
(an empty description is none, the others are stripped); same tree, `FeatInv` again; it is the target `o` of
`load_succeeds`.
-/
import CassisModel.Proofs.TsXmlRoundTripLoad
import CassisModel.Proofs.TsXmlRoundTripNorm

namespace Cassis.TsXml
open Cassis.TS

/-! ### the target of the simulation -/

/-- a description after `to_xml` and `load_typesystem` -/
def trD (d : Option String) : Option String := normDescr (noEmpty d)
def trFeat (f : Feature) : Feature := { f with descr := trD f.descr }
def trRec (t : TypeRec) : TypeRec :=
  { t with descr := trD t.descr, own := t.own.map trFeat, inh := t.inh.map trFeat }
def trTs (ts : TypeSystem) : TypeSystem := { ts with types := ts.types.map trRec }

@[simp] theorem trRec_name (t : TypeRec) : (trRec t).name = t.name := rfl
@[simp] theorem trRec_super (t : TypeRec) : (trRec t).super = t.super := rfl
@[simp] theorem trRec_children (t : TypeRec) : (trRec t).children = t.children := rfl
@[simp] theorem trFeat_name (f : Feature) : (trFeat f).name = f.name := rfl

theorem find?_trTs (ts : TypeSystem) (x : String) : find? (trTs ts) x = (find? ts x).map trRec :=
  find_map_of_name ts ts.redeclared trRec (fun _ => rfl) x

theorem skel_trTs (ts : TypeSystem) : skel (trTs ts) = skel ts := by
  simp [skel, trTs, tr, List.map_map, Function.comp_def]

theorem hasExact_trTs (ts : TypeSystem) (x : String) : hasExact (trTs ts) x = hasExact ts x :=
  hasExact_transfer (skel_trTs ts) x

theorem fnames_map_trFeat (l : List Feature) : fnames (l.map trFeat) = fnames l := by
  simp [fnames, List.map_map, Function.comp_def]

theorem featureEq_trFeat {f g : Feature} (h : featureEq f g = true) : featureEq (trFeat f) (trFeat g) = true := by
  rw [featureEq_iff] at h ⊢
  obtain ⟨h1, h2, h3, h4⟩ := h
  exact ⟨h1, by show trD f.descr = trD g.descr; rw [h2], h3, h4⟩

theorem eff_trRec (t : TypeRec) : (trRec t).own ++ (trRec t).inh = (t.own ++ t.inh).map trFeat := by
  simp [trRec]

theorem featInv_trTs (ts : TypeSystem) (hf : FeatInv ts) : FeatInv (trTs ts) := by
  have hmem : ∀ t' ∈ (trTs ts).types, ∃ t ∈ ts.types, t' = trRec t := by
    intro t' ht'
    obtain ⟨t, ht, e⟩ := List.mem_map.mp ht'
    exact ⟨t, ht, e.symm⟩
  refine ⟨?_, ?_, ?_, ?_, ?_, ?_⟩
  · intro t' ht'
    obtain ⟨t, ht, rfl⟩ := hmem t' ht'
    show (fnames (t.own.map trFeat)).Nodup
    rw [fnames_map_trFeat]; exact hf.ownNodup t ht
  · intro t' ht'
    obtain ⟨t, ht, rfl⟩ := hmem t' ht'
    show (fnames (t.inh.map trFeat)).Nodup
    rw [fnames_map_trFeat]; exact hf.inhNodup t ht
  · intro t' ht' f hfm g hg e
    obtain ⟨t, ht, rfl⟩ := hmem t' ht'
    obtain ⟨f0, hf0, rfl⟩ := List.mem_map.mp hfm
    obtain ⟨g0, hg0, rfl⟩ := List.mem_map.mp hg
    exact featureEq_trFeat (hf.compat t ht f0 hf0 g0 hg0 e)
  · intro t' ht' s ps' hs hps' n
    obtain ⟨t, ht, rfl⟩ := hmem t' ht'
    rw [find?_trTs] at hps'
    obtain ⟨ps, hps, rfl⟩ := Option.map_eq_some_iff.mp hps'
    rw [mem_fnames_allFeatures]
    show n ∈ fnames (t.inh.map trFeat) ↔ n ∈ fnames (ps.own.map trFeat) ∨ n ∈ fnames (ps.inh.map trFeat)
    rw [fnames_map_trFeat, fnames_map_trFeat, fnames_map_trFeat]
    exact hf.inherit' ht hs hps n
  · intro t' ht' s ps' hs hps' g hg f hfm e
    obtain ⟨t, ht, rfl⟩ := hmem t' ht'
    rw [find?_trTs] at hps'
    obtain ⟨ps, hps, rfl⟩ := Option.map_eq_some_iff.mp hps'
    have hfm' := allFeatures_sub hfm
    rw [eff_trRec] at hfm'
    obtain ⟨f0, hf0, rfl⟩ := List.mem_map.mp hfm'
    obtain ⟨g0, hg0, rfl⟩ := List.mem_map.mp hg
    exact featureEq_trFeat (hf.inheritEq' ht hs hps g0 hg0 f0 hf0 e)
  · intro t' ht' hs
    obtain ⟨t, ht, rfl⟩ := hmem t' ht'
    show t.inh.map trFeat = []
    rw [hf.rootInh t ht hs]; rfl

/-- the effective descriptor against the type system it was written from -/
structure Faithful (ts : TypeSystem) (E : Descriptor) : Prop where
  user_in : ∀ t ∈ ts.types, Gen.consts.predefined.contains t.name = false → normT (renderType t) ∈ E
  user_of : ∀ e ∈ E, Gen.consts.predefined.contains e.name = false → ∃ t ∈ ts.types, e = normT (renderType t)
  pre_of : ∀ e ∈ E, Gen.consts.predefined.contains e.name = true →
    ∃ pt, find? Gen.builtinTSNoDoc e.name = some pt ∧ pt.super = some e.super ∧ e = renderType pt

theorem featWFB_spec {f : Feature} (h : featWFB f = true) :
    storedName (renderFeat f).name = f.name ∧ isReservedName (renderFeat f).name = f.reserved := by
  unfold featWFB at h
  unfold renderFeat
  simp only []
  cases hr : f.reserved with
  | false =>
    rw [hr] at h
    simp only [Bool.false_eq_true, if_false, Bool.and_eq_true, bne_iff_ne, ne_eq] at h ⊢
    have : isReservedName f.name = false := by
      unfold isReservedName
      simp [h.1, h.2]
    exact ⟨by unfold storedName; rw [this]; rfl, this⟩
  | true =>
    rw [hr] at h
    simp only [if_true, Bool.or_eq_true, beq_iff_eq] at h ⊢
    rcases h with h | h
    · rw [h]; exact ⟨by decide, by decide⟩
    · rw [h]; exact ⟨by decide, by decide⟩

theorem mkFeat_render {f0 : Feature} (h : featWFB f0 = true) (dom : String) :
    mkFeat dom (normF (renderFeat f0)) =
      { f0 with domain := dom, descr := trD f0.descr } := by
  obtain ⟨h1, h2⟩ := featWFB_spec h
  unfold mkFeat
  show ({ name := storedName (renderFeat f0).name, domain := dom, range := f0.range, elem := f0.elem,
          descr := normDescr (noEmpty f0.descr), multi := f0.multi,
          reserved := isReservedName (renderFeat f0).name } : Feature) = _
  rw [h1, h2]
  rfl

theorem nodescr_fixed {f : Feature} (h : f.descr = none) :
    trFeat f = f ∧ normF (renderFeat f) = renderFeat f ∧ trimF (renderFeat f) = renderFeat f := by
  cases f
  cases h
  exact ⟨rfl, rfl, rfl⟩

/-- the records of the table the loader starts from carry no descriptions (`base_plain`), so neither the reader's
    normalisation nor the writer's trimming changes their rendering -/
theorem base_fixed {pt : TypeRec} (h : pt ∈ Gen.builtinTSNoDoc.types) :
    normT (renderType pt) = renderType pt ∧ trimT (renderType pt) = renderType pt ∧
      (renderType pt).feats.map (fun f => featKey f.name f.descr f.range f.elem) =
        pt.own.map (fun f => featKey f.name f.descr f.range f.elem) := by
  obtain ⟨hd, hf⟩ := base_plain h
  have hm : ∀ g : FDesc → FDesc, (∀ f ∈ pt.own, g (renderFeat f) = renderFeat f) →
      (pt.own.map renderFeat).map g = pt.own.map renderFeat :=
    fun g hg => by rw [List.map_map]; exact List.map_congr_left hg
  have hn := hm normF fun f m => (nodescr_fixed (hf f (List.mem_append_left _ m)).1).2.1
  have ht := hm trimF fun f m => (nodescr_fixed (hf f (List.mem_append_left _ m)).1).2.2
  refine ⟨?_, ?_, ?_⟩
  · unfold normT renderType
    simp only [hd, hn]
    rfl
  · unfold trimT renderType
    simp only [hd, ht]
    rfl
  · show (pt.own.map renderFeat).map _ = _
    rw [List.map_map]
    apply List.map_congr_left
    intro f m
    obtain ⟨h1, h2⟩ := hf f (List.mem_append_left _ m)
    simp only [Function.comp, renderFeat, h1, h2, noEmpty]
    rfl

theorem trD_none : trD none = none := rfl

theorem sub_base (ts : TypeSystem) (hx : UserBuilt ts) : Sub (trTs ts) Gen.builtinTSNoDoc := by
  intro n tm hn
  obtain ⟨t, ht, hs, hd, ho, hi, _⟩ := hx.growBase n tm hn
  obtain ⟨hdn, hfn⟩ := base_plain (find?_mem hn)
  refine ⟨trRec t, by rw [find?_trTs, ht]; rfl, hs, ?_, ?_, ?_⟩
  · show trD t.descr = tm.descr
    rw [hd, hdn]; rfl
  · intro f hf
    refine ⟨trFeat f, ?_, ?_⟩
    · show trFeat f ∈ (trRec t).own ++ (trRec t).inh
      rw [eff_trRec]
      apply List.mem_map_of_mem
      rcases List.mem_append.mp hf with hf | hf
      · exact List.mem_append_left _ (ho f hf)
      · exact List.mem_append_right _ (hi f hf)
    · rw [(nodescr_fixed (hfn f hf).1).1]; exact featureEq_refl f
  · intro c hc
    obtain ⟨tc, htc, hsc⟩ := (built_builtins.2.cons.link n c).mp ⟨tm, hn, hc⟩
    obtain ⟨t2, ht2, hs2, _⟩ := hx.growBase c tc htc
    exact ⟨trRec t2, by rw [find?_trTs, ht2]; rfl, by show t2.super = some n; rw [hs2]; exact hsc⟩

theorem load_of_faithful (ts : TypeSystem) (hx : UserBuilt ts) (d0 : Descriptor)
    (hF : Faithful ts (effective d0)) :
    ∃ ts2, load Gen.consts d0 = .ok { ts2 with redeclared :=
        (if ((normalize d0).map (·.name)).contains DOCUMENT_ANNOTATION then [DOCUMENT_ANNOTATION] else []) ++
          ((effective d0).filter (fun t => Gen.consts.predefined.contains t.name)).map (·.name) } ∧
      LInv Gen.consts (trTs ts) ts2 ∧ Grow Gen.consts Gen.builtinTSNoDoc ts2 := by
  have hc := hx.hist.cons
  have hco : Consistent (trTs ts) := consistent_of_skel (skel_trTs ts) hc
  have hfo : FeatInv (trTs ts) := featInv_trTs ts hx.hist.feat
  have hpre_reg : ∀ p, Gen.consts.predefined.contains p = true → hasExact ts p = true :=
    fun p hp => hx.hist.grow.reg p (builtin_pre p hp)
  apply load_succeeds (trTs ts) hco hfo d0 ?_ ?_ ?_ (sub_base ts hx)
  · -- every declaration is one of `trTs ts`
    intro e he
    cases hp : Gen.consts.predefined.contains e.name with
    | false =>
      obtain ⟨t, ht, rfl⟩ := hF.user_of e he hp
      have hpt : Gen.consts.predefined.contains t.name = false := hp
      obtain ⟨s, hs, hnf⟩ := hx.hist.nofinal t ht hpt
      have hft : find? ts t.name = some t := find?_of_mem hc.nodup ht
      have hsup : (normT (renderType t)).super = s := by
        show t.super.getD "" = s
        rw [hs]; rfl
      refine ⟨trRec t, by rw [normT_name]; show find? (trTs ts) t.name = _; rw [find?_trTs, hft]; rfl, ?_, ?_, ?_⟩
      · rw [hsup]; exact hs
      · intro _
        refine ⟨rfl, by rw [hsup]; exact hnf, ?_⟩
        intro f hf
        obtain ⟨f1, hf1, rfl⟩ := List.mem_map.mp hf
        obtain ⟨f0, hf0, rfl⟩ := List.mem_map.mp hf1
        obtain ⟨_, _, hwf⟩ := hx.built.ownOK t ht f0 hf0
        refine ⟨trRec t, by show find? (trTs ts) t.name = _; rw [find?_trTs, hft]; rfl, trFeat f0,
          List.mem_append_left _ (List.mem_map_of_mem hf0), ?_⟩
        show featureEq (trFeat f0) (mkFeat t.name (normF (renderFeat f0))) = true
        rw [mkFeat_render hwf]
        exact featureEq_refl _
      · intro f hf
        obtain ⟨f1, hf1, rfl⟩ := List.mem_map.mp hf
        obtain ⟨f0, hf0, rfl⟩ := List.mem_map.mp hf1
        obtain ⟨hr, hel, _⟩ := hx.built.ownOK t ht f0 hf0
        refine ⟨by rw [hasExact_trTs]; exact hr, ?_⟩
        intro e he'
        rw [hasExact_trTs]
        exact hel e he'
    | true =>
      obtain ⟨pt, hpt, hps, rfl⟩ := hF.pre_of e he hp
      have hn : (renderType pt).name = pt.name := rfl
      have hpn : pt.name = (renderType pt).name := rfl
      obtain ⟨t, ht, hs, _⟩ := hx.growBase _ pt hpt
      refine ⟨trRec t, by rw [find?_trTs, ht]; rfl, ?_, ?_, ?_⟩
      · show t.super = _
        rw [hs]; exact hps
      · intro hq; cases hq
      · intro f hf
        obtain ⟨f0, hf0, rfl⟩ := List.mem_map.mp hf
        obtain ⟨hr, hel, _⟩ := built_builtins.2.ownOK pt (find?_mem hpt) f0 hf0
        have hup : ∀ x, hasExact Gen.builtinTSNoDoc x = true → hasExact (trTs ts) x = true := by
          intro x hx'
          rw [hasExact_trTs]
          exact hpre_reg x (base_all_predef x hx')
        exact ⟨hup _ hr, fun e he' => hup _ (hel e he')⟩
  · -- every registered name is predefined or declared
    intro x hx'
    rw [hasExact_trTs] at hx'
    cases hp : Gen.consts.predefined.contains x with
    | true => exact Or.inl rfl
    | false =>
      right
      obtain ⟨t, ht⟩ := (hasExact_iff_find ts x).mp hx'
      have hn := find?_name ht
      have := hF.user_in t (find?_mem ht) (by rw [hn]; exact hp)
      exact List.mem_map.mpr ⟨_, this, hn⟩
  · -- redeclared built-in types agree with the table
    intro e he hp
    obtain ⟨pt, hpt, hps, rfl⟩ := hF.pre_of e he hp
    exact ⟨pt, hpt, hps, (base_fixed (find?_mem hpt)).2.2⟩

end Cassis.TsXml
