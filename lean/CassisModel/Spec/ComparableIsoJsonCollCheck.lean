/-
Evaluated tests for `Properties/C20IsoJsonColl.lean` (`render_json_roundtrip_coll`: `cas_to_comparable_text` across the JSON
round trip, whole format), and a computable test for its hypotheses.

* `distinctDefB`: `Distinct` on what the *default* traversal of the original collects (`cas_to_comparable_text` traverses
  with the default options; the JSON writer with `include_inlinable_arrays_and_lists=True`, collecting more);
* `renderJsonCollAppliesB`: all hypotheses of `render_json_roundtrip_coll` (sound: `Proofs/ComparableIsoJsonCollDemo.lean`);
* the candidate statement evaluated on the instance `CollDemo` and on variations of it — every variation on which the
  hypotheses of `json_roundtrip_coll` and `Distinct` hold keeps its comparable text; no further hypothesis was found
  necessary.  In particular the instances on which the XMI round trip changes the text (`""` in string arrays, an inlined
  list that is also shared, an inlined "array" that is no array object, …) keep it under JSON.
-/
import CassisModel.Spec.ComparableIsoCollCheck
import CassisModel.Spec.RoundTripJsonCollCheck

namespace Cassis.Comparable
open Cassis.TS Cassis.Traverse

/-- `Distinct` on what the default traversal of `cass[ci]` over `hp` collects (`false` if that traversal fails) -/
def distinctDefB (K : Consts) (ts : TypeSystem) (cass : List Cas) (ci : Nat) (hp : Heap) : Bool :=
  match cass[ci]? with
  | none => false
  | some c =>
    match findAllFs K ts {} hp c.nextXid (defaultSeeds c) with
    | .error _ => false
    | .ok st => distinctB st.heap (st.allFs.map (·.2))

/-- every hypothesis of `render_json_roundtrip_coll` holds for the CAS `cass[ci]` over the heap `hp` -/
def renderJsonCollAppliesB (K : Consts) (ts : TypeSystem) (cass : List Cas) (ci : Nat) (hp : Heap) : Bool :=
  Json.jcollAppliesB K ts cass ci hp && distinctDefB K ts cass ci hp

end Cassis.Comparable

namespace Cassis.Comparable.IsoJsonCollCheck
open Cassis.TS Cassis.Traverse Cassis.Xmi Cassis.Xmi.CollDemo Cassis.Comparable.IsoCollCheck

structure OutcomeJ where
  jcollApplies : Bool       -- the hypotheses of `json_roundtrip_coll`
  distinct : Bool           -- `Distinct` on the default traversal of the original
  collected : Nat × Nat × Nat  -- number of structures: JSON writer / default traversal of the original / of the loaded CAS
  same : Bool               -- the two comparable texts agree (same table or same exception)
  ok : Bool                 -- … and are tables
  diff : List String        -- the cells that differ (written / loaded)
deriving Repr, BEq

def outcomeJ (K : Consts) (ts : TypeSystem) (c : Cas) (h : Heap) : Except Err OutcomeJ := do
  let (doc, st) ← Json.saveJson K ts [c] 0 h .none
  let ld ← Json.loadJson K ts 0 1 false false st.heap doc
  let r0 := render K ts [c] 0 h {} (fun _ => 0) none
  let r0' := render K ts [c, ld.cas] 1 ld.heap {} (fun a => a) none
  let r : Except Err (List Section) := r0.map (·.1)
  let r' : Except Err (List Section) := r0'.map (·.1)
  let n (x : Except Err (List Section × St)) : Nat := match x with | .ok p => p.2.allFs.length | .error _ => 0
  pure { jcollApplies := Json.jcollAppliesB K ts [c] 0 h,
         distinct := distinctDefB K ts [c] 0 h,
         collected := (st.allFs.length, n r0, n r0'),
         same := exBeq secsBeq r r',
         ok := match r, r' with | .ok _, .ok _ => true | _, _ => false,
         diff := match r, r' with
           | .ok a, .ok b => diffSecs a b
           | .error e, .ok _ => ["written: " ++ reprStr e]
           | .ok _, .error e => ["loaded: " ++ reprStr e]
           | .error e, .error e' => if e == e' then [] else ["written: " ++ reprStr e ++ " / loaded: " ++ reprStr e'] }

def good' (r : Except Err OutcomeJ) : Bool :=
  match r with | .ok x => x.jcollApplies && x.distinct && x.same | .error _ => false

/-- hypotheses hold and the text changes: a counterexample to the candidate statement (none found) -/
def bad (r : Except Err OutcomeJ) : Bool :=
  match r with | .ok x => x.jcollApplies && x.distinct && !x.same | .error _ => false

/-! ### the instance: every collection kind, inlined and shared.  The JSON writer collects 32 structures, the default
traversal 11, on both sides. -/

def okj_demo := outcomeJ K ts cas hp
#eval okj_demo
#guard okj_demo matches .ok { jcollApplies := true, distinct := true, collected := (32, 11, 11), same := true, ok := true, diff := [] }
#guard renderJsonCollAppliesB K ts [cas] 0 hp

/-- the instance with what the XMI fragment excludes: null elements in the inlined and in the shared FSArray, an empty
    inlined StringList, `""` in the inlined StringArray (already in `CollDemo.hp`) -/
def rich : Heap :=
  setSlot0 ((hp.set 11 (arr "uima.cas.FSArray" (.refs [some 1, none, some 0]))).set 23
    (arr "uima.cas.FSArray" (.refs [none, some 1, none]))) "sl" (.ref 20)

def okj_rich := outcomeJ K ts cas rich
#guard okj_rich matches .ok { jcollApplies := true, distinct := true, collected := (30, 11, 11), same := true, ok := true, diff := [] }
#guard renderJsonCollAppliesB K ts [cas] 0 rich
-- the same instance is outside the hypotheses of the XMI theorem (the writer raises on a null element)
#guard !renderCollAppliesB K ts [cas] 0 rich

/-! ### variations inside the hypotheses: what JSON keeps and XMI does not -/

def variants : List (String × Heap) :=
  [ ("good", good),
    -- null elements of FSArrays, inlined and shared
    ("fsarray_null", hp.set 11 (arr "uima.cas.FSArray" (.refs [some 1, none]))),
    ("fsarray_null_shared", hp.set 23 (arr "uima.cas.FSArray" (.refs [none, some 1, none]))),
    ("fsarray_all_null", hp.set 11 (arr "uima.cas.FSArray" (.refs [none, none]))),
    ("fsarray_empty", hp.set 11 (arr "uima.cas.FSArray" (.refs []))),
    -- empty lists
    ("inline_strlist_empty", setSlot0 hp "sl" (.ref 20)),
    ("inline_lists_empty", setSlot0 (setSlot0 (setSlot0 hp "il" (.ref 15)) "fsl" (.ref 12)) "fl" (.ref 19)),
    -- `""` in string arrays, objects and inlined; empty arrays of every kind
    ("strarray_obj_empty_str", good.set 25 (arr "uima.cas.StringArray" (.strs [some "p", some ""]))),
    ("strarray_all_empty_str", hp.set 9 (arr "uima.cas.StringArray" (.strs [some "", some ""]))),
    ("strarray_obj_empty", hp.set 25 (arr "uima.cas.StringArray" (.strs []))),
    ("intarray_obj_empty", hp.set 24 (arr "uima.cas.IntegerArray" (.ints []))),
    ("floats_empty", hp.set 7 (arr "uima.cas.FloatArray" (.floats []))),
    ("bools_empty", hp.set 6 (arr "uima.cas.BooleanArray" (.bools []))),
    -- tokens, bytes
    ("float_tokens", hp.set 7 (arr "uima.cas.FloatArray" (.floats ["1.5 2.5", "", "NaN", "-Infinity"]))),
    ("float_list_token_empty", hp.set 18 (node "uima.cas.NonEmptyFloatList" (.float "") (.ref 19))),
    ("byte_range", hp.set 5 (arr "uima.cas.ByteArray" (.ints [256, -1]))),
    -- null heads
    ("fslist_null_head", hp.set 14 (node "uima.cas.NonEmptyFSList" .none (.ref 12))),
    ("intlist_null_head", hp.set 17 (node "uima.cas.NonEmptyIntegerList" .none (.ref 15))),
    -- element kind not tied to the type
    ("int_array_of_strings", hp.set 2 (arr "uima.cas.IntegerArray" (.strs [some "a", none, some ""]))),
    -- sharing
    ("inline_shared_twice", setSlot0 hp "sha" (.ref 2)),
    ("inline_and_shared", setSlot0 hp "mia" (.ref 2)),
    ("list_inline_and_shared", setSlot0 good "mil" (.ref 18)),                 -- `cx_list_shared` of the XMI check
    ("fslist_inline_and_shared", setSlot0 hp "mfl" (.ref 13)),
    ("fsarray_inline_and_shared", setSlot0 hp "mfa" (.ref 11)),
    -- an inlined "array" that is a structure; that is another array type; that is a list node
    ("inline_not_array", setSlot0 hp "ia" (.ref 1)),
    ("inline_other_array", good.set 2 (arr "uima.cas.LongArray" (.ints [1, -2, 30]))),
    ("inline_not_array_node", good.set 2 { ty := "uima.cas.EmptyFSList", ts := 0, xid := none, slots := [] }),
    ("fsarray_feature_holds_doc", setSlot0 hp "fsa" (.ref 1)),
    ("fslist_feature_holds_doc", setSlot0 hp "fsl" (.ref 1)),
    ("fslist_feature_holds_array", setSlot0 hp "fsl" (.ref 11)),
    -- cyclic shared list / cyclic array nesting (both sides `RuntimeError`)
    ("cyclic_shared_list", hp.set 27 (node "uima.cas.NonEmptyFSList" (.ref 1) (.ref 27))),
    ("cyclic_arrays", good.set 23 (arr "uima.cas.FSArray" (.refs [some 0, some 23]))),
    ("fsarray_in_fsarray", hp.set 11 (arr "uima.cas.FSArray" (.refs [some 23, some 11, some 24]))),
    -- a subtype relation the traversal relies on: an FSArray object in a shared IntegerArray feature
    ("shared_other_array", setSlot0 hp "mia" (.ref 23))
  ]

/-- the CAS with a second view (sofa id 40, generator at 41): room for ids that are in use but not by collected structures -/
def cas2 : Cas :=
  { views := cas.views ++ [("v2",
      { sofa := { sofaID := "v2", sofaNum := 2, xid := 40, text := some [120, 121, 122, 120],
                  mime := none, uri := none, arr := .none, conv := some (Offsets.table [120, 121, 122, 120]) },
        idx := [("x.Doc", [{ b := 2, e := 3, oid := 1 }])] })],
    nextXid := 41, nextSofaNum := 3 }

def doc1 (x : Option Int) (sofa : String) : Obj :=
  { ty := "x.Doc", ts := 0, xid := x, slots := [("n", .none), ("next", .ref 0)] ++ noColl ++
      [("begin", .int 2), ("end", .int 3), ("sofa", .sofa 0 sofa)] }

/-- two views: the second structure (id 3) is indexed in the second view and belongs to its sofa -/
def hp2 : Heap := hp.set 1 (doc1 (some 3) "v2")

def variants2 : List (String × Heap) :=
  [ ("two_views", hp2),
    -- pre-assigned ids on collection objects the default traversal does not collect (in use, below the generator)
    ("inline_node_has_id", hp2.set 13 { (node "uima.cas.NonEmptyFSList" (.ref 1) (.ref 14)) with xid := some 17 }),
    ("inline_arr_has_id", hp2.set 2 { (arr "uima.cas.IntegerArray" (.ints [1])) with xid := some 5 }),
    ("inline_floatlist_has_id", hp2.set 18 { (node "uima.cas.NonEmptyFloatList" (.float "0.25") (.ref 19)) with xid := some 39 }),
    ("shared_arr_has_id", hp2.set 23 { (arr "uima.cas.FSArray" (.refs [some 0, some 1])) with xid := some 30 }),
    -- the second structure indexed in the second view but belonging to the sofa of the first
    ("member_other_sofa", hp.set 1 (doc1 (some 3) "_InitialView")),
    -- the second structure indexed in both views
    ("two_views_null_elems", hp2.set 11 (arr "uima.cas.FSArray" (.refs [none, some 1, none, some 0])))
  ]

def results : List (String × Except Err OutcomeJ) :=
  variants.map (fun p => (p.1, outcomeJ K ts cas p.2)) ++ variants2.map (fun p => (p.1, outcomeJ K ts cas2 p.2))

#eval results.map (fun p => (p.1, match p.2 with
  | .ok x => s!"applies={x.jcollApplies} distinct={x.distinct} n={x.collected} same={x.same} ok={x.ok} {x.diff}"
  | .error e => s!"error {reprStr e}"))

-- no variation satisfies the hypotheses and changes its text
#guard results.all (fun p => !bad p.2)
#guard (results.filter (fun p => good' p.2)).length ≥ 30

/-! ### the hypothesis "the default traversal of the original succeeds"

It follows from the other hypotheses when the constants do not classify `uima.cas.FSList` as an array type
(`default_traversal_succeeds`, `Properties/C20IsoJsonColl.lean`).  With constants that do (`K2`; not reachable in Python), the
fragment `JCollFs` does not ask that the spine of an inlined FSList ends (J2 is about the lists the content function
unrolls), the JSON round trip of a cyclic spine succeeds, and the default traversal runs out of budget — on both sides
alike, so the comparable "text" is the same exception; the theorem does not cover this artefact. -/

def K2 : Consts := { K with arrays := K.arrays ++ [FS_LIST] }
def cyclicSpine : Heap := hp.set 14 (node "uima.cas.NonEmptyFSList" (.ref 0) (.ref 13))

def note_k2 := outcomeJ K2 ts cas cyclicSpine
#guard note_k2 matches .ok { jcollApplies := true, distinct := false, collected := (31, 0, 0), same := true, ok := false, diff := [] }
#guard (findAllFs K2 ts {} cyclicSpine cas.nextXid (defaultSeeds cas)).toOption.isNone
-- with the generated constants the instance is outside the fragment (J2)
#guard !Json.jcollAppliesB K ts [cas] 0 cyclicSpine

end Cassis.Comparable.IsoJsonCollCheck
