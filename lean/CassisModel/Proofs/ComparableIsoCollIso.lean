/-
C20 across the XMI round trip, whole format: the loaded CAS is isomorphic (`IsoR`, `Proofs/ComparableIsoRel.lean`) to the
written one.  `isoR_of_ctx`: the relation between the written and the loaded heap (`CtxC`, `ComparableIsoCollRel.lean`) is
an `IsoR`, by the one-step simulation `simStep_c`.  `xmi_roundtrip_coll_isoR` gets the `CtxC` from `xmi_core_coll`
(`Proofs/RoundTripCollLoaded.lean`: what the reader makes of the document, types of the inlined collection objects
included) and the traversal of the loaded CAS from `XLd.moved` (`Proofs/RoundTripCollFixpoint.lean`) and
`Traverse.Moved.findAllFs_collected`.
-/
import CassisModel.Proofs.ComparableIsoCollSlots
import CassisModel.Proofs.RoundTripCollFixpoint

namespace Cassis.Comparable
open Cassis.TS Cassis.Traverse Cassis.Xmi

section
variable {K : Consts} {ts : TypeSystem} {c : Cas} {ci : Nat} {H : Heap} {L : List (Int × Nat)} {na : Int → Nat}
  {ia : Int → String → Nat} {ci' : Nat} {hpL : Heap} {addrs : List Nat}

theorem CtxC.sofaSame (X : CtxC K ts c ci H L na ia ci' hpL addrs) {q : Int × Nat} (hq : q ∈ L) :
    SofaSame c ci ci' (Traverse.slot H q.2 "sofa") (Traverse.slot hpL (na q.1) "sofa") :=
  heapRel_sofaSame X.hrel (fun _ _ => rfl) (fun _ => rfl) hq (X.hL.coll q hq).sofa_slot

theorem CtxC.ints (X : CtxC K ts c ci H L na ia ci' hpL addrs) {q : Int × Nat} (hq : q ∈ L) (n : String) :
    intOf (Traverse.slot hpL (na q.1) n) = intOf (Traverse.slot H q.2 n) :=
  intOf_congr (vrof_int (slot_vrof X hq n))

theorem CtxC.coveredText (X : CtxC K ts c ci H L na ia ci' hpL addrs) {cass cass' : List Cas} {c' : Cas}
    (hc : cass[ci]? = some c) (hc' : cass'[ci']? = some c') (hviews : ViewsSame c c') {q : Int × Nat} (hq : q ∈ L)
    (hann : isAnnot H q.2 = true) :
    Cas.coveredText cass' hpL (na q.1) = Cas.coveredText cass H q.2 :=
  coveredText_of_sofaSame hc hc' hviews hann (X.ints hq _) (X.ints hq _) (X.sofaSame hq)

theorem isoR_of_ctx (X : CtxC K ts c ci H L na ia ci' hpL addrs) {cass cass' : List Cas} {c' : Cas}
    (hc : cass[ci]? = some c) (hc' : cass'[ci']? = some c') (hviews : ViewsSame c c')
    (hmembers : ViewsMembers H na c c')
    (addrs' : List Nat) (hperm : addrs.Perm (L.map (·.2))) (hperm' : addrs'.Perm (L.map (fun q => na q.1))) :
    IsoR K cass cass' H hpL (defaultSeeds c) (defaultSeeds c') addrs addrs' (phiOf H na) := by
  refine isoR_of_sim (ARc K H hpL L na addrs) (perm_map_phiOf X.ids hperm hperm')
    (hperm'.nodup_iff.mpr (heapRel_nodup X.hrel X.hL.nodup)) ?_ ?_ ?_ ?_ ?_ ?_ ?_ (fun _ _ hA => simStep_c X hA)
  -- every remaining condition speaks about a collected `a` and `phiOf H na a`: a pair `q ∈ L` and `na q.1`
  all_goals
    intro a ha
    obtain ⟨q, hq, rfl⟩ := X.addrs_sub a ha
    rw [phiOf_of_xid (X.ids q hq)]
  · exact seed_iff_of X.hL.ids hmembers X.hL.members X.hL.nodup (fun _ hq _ hq' => X.hrel.na_inj hq hq') q hq
  · exact heapRel_tyOf X.hrel hq
  · exact heapRel_sameKey X.ids X.hrel X.addrs_sub hq
  · exact viewTag_of_sofaSame hc hc' hviews (X.sofaSame hq)
  · exact X.coveredText hc hc' hviews hq
  · exact fun n _ => slot_vrof X hq n
  · intro _
    obtain ⟨o, _, ho, _⟩ := X.hrel q hq
    rw [X.hrel.slot hq ho, slot_eq ho]
    cases alistGet? o.slots "elements" <;> rfl

end

open Cassis.ChainC

theorem xmi_roundtrip_coll_isoR (K : Consts) (ts : TypeSystem) (cass : List Cas) (ci : Nat) (c : Cas) (hp : Heap)
    (tsIdx : Nat) (doc : XDoc) (st : St)
    (hc : cass[ci]? = some c) (hwf : RTWf c hp) (hnull : NullOk ts)
    (hsave : saveXmi K ts cass ci hp = .ok (doc, st))
    (hcoll : ∀ q ∈ st.allFs, CollFs K ts c ci st.heap q.2)
    (hmem : ∀ nv ∈ c.views, ∀ e ∈ Index.all nv.2.idx, Xmi.slot st.heap e.oid "sofa" ≠ some .none)
    (hmok : MembersOk c st.heap)
    (hnodes : NodeTysNotArr K)
    (hinl : ∀ q ∈ st.allFs, InlOk K ts st.heap (st.allFs.map (·.2)) q.2) :
    ∃ (ld : Loaded) (φ : Nat → Nat) (st' : St),
      loadXmi K ts tsIdx cass.length false st.heap doc = .ok ld ∧
      findAllFs K ts {} ld.heap ld.cas.nextXid (defaultSeeds ld.cas) = .ok st' ∧ st'.heap = ld.heap ∧
      IsoR K cass (cass ++ [ld.cas]) st.heap ld.heap (defaultSeeds c) (defaultSeeds ld.cas)
        (st.allFs.map (·.2)) (st'.allFs.map (·.2)) φ := by
  obtain ⟨na, ia, ld, hload, hX⟩ :=
    xmi_core_coll K ts cass ci c hp tsIdx cass.length doc st hc hwf hnull hsave hcoll hmem hmok
  have hc' : (cass ++ [ld.cas])[cass.length]? = some ld.cas := List.getElem?_concat_length
  have hfa := saveXmi_findAllFs hc hsave
  have hL := hX.lok
  have X : CtxC K ts c ci st.heap (sortById st.allFs) na ia cass.length ld.heap (st.allFs.map (·.2)) :=
    { hL := hL, hrel := hX.rel, hcolls := hX.colls, typed := hX.typed, nodes := hnodes,
      inl := fun q hq => hinl q (mem_sortById.mp hq),
      addrs_sub := by
        intro b hb
        obtain ⟨q, hq, rfl⟩ := List.mem_map.mp hb
        exact ⟨q, mem_sortById.mpr hq, rfl⟩ }
  obtain ⟨st', hfa', hheap, hperm⟩ :=
    (hX.moved (by rw [(findAllFs_heap_frame K ts {} hp c.nextXid _ st hfa).1])).findAllFs_collected
      hwf.next_pos hfa (sortById_perm_aux _) (fun _ ha => seeds_fwd hL.ids hL.members hX.views ha)
      (fun _ _ hx ha => seeds_bwd hL.ids hX.views hx ha) hX.next_pos
  exact ⟨ld, phiOf st.heap na, st', hload, hfa', hheap,
    isoR_of_ctx X hc hc' (viewsSame_of_rel hX.views) (viewsMembers_of_rel hX.views) (st'.allFs.map (·.2))
      ((sortById_perm_aux st.allFs).symm.map _) (perm_map_snd_sortById hperm)⟩

end Cassis.Comparable
