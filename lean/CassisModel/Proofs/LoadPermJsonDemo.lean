/-
Non-vacuity of `json_load_perm_flat` (`Properties/C05PermJson.lean`): an instance with THREE views, so that the order of
the views of the loaded CAS can differ from the written one (`_InitialView` over `a😀b`, `v2` over `😀bc`, `v3` over `d`;
five `x.Tok`: references across views, a cycle, a self reference, one structure that gets its id from the writer).
-/
import CassisModel.Proofs.InstancesFlat

namespace Cassis.Json.PermDemo
open Cassis.Traverse

/-- **non-vacuity**: every hypothesis of `json_load_perm_flat` holds for `K := Gen.consts`, the type system `tsP`,
    `cass := [casP]`, `ci := 0`, `c := casP`, `hp := hpP` and the `(doc, st)` that `saveJson` returns -/
theorem demoP_hyps : ∃ (doc : JDoc) (st : Traverse.St),
    saveJson K tsP [casP] 0 hpP .none = .ok (doc, st) ∧
    [casP][0]? = some casP ∧ Xmi.RTWf casP hpP ∧
    (∀ q ∈ st.allFs, Xmi.FlatFs K tsP casP 0 st.heap q.2) ∧
    (∀ q ∈ st.allFs, JsonFs tsP st.heap q.2) ∧
    (∀ nv ∈ casP.views, ∀ e ∈ Index.all nv.2.idx, (xidOf hpP e.oid).isSome = true) ∧
    (∀ q ∈ st.allFs, ∀ nv ∈ casP.views, q.1 ≠ nv.2.sofa.xid) ∧
    (∀ nv ∈ casP.views, ∀ e ∈ Index.all nv.2.idx, Xmi.slot st.heap e.oid "sofa" ≠ some .none) ∧
    Xmi.MembersOk casP st.heap := by
  obtain ⟨c, doc, st, hc, hs, h⟩ := jflatAppliesB_hyps _ _ _ _ _ permDemo_evals.applies
  cases hc
  exact ⟨doc, st, hs, rfl, h⟩

/-- the written document read with its `%FEATURE_STRUCTURES` reversed (structures before the sofas, `v3` before `v2`
    before `_InitialView`): the reader's views are `_InitialView`, `v3`, `v2` — the initial view first, the other views
    in the order of their sofas in the document.  So the views of the loaded CAS are a permutation of the written
    ones and in general not the same list. -/
theorem reversed_view_order :
    (saveJson K tsP [casP] 0 hpP .none).toOption.bind (fun r =>
      (sofaPass K tsP 0 1 r.1.fss.reverse r.1.fss.reverse { cas := Cas.empty, heap := r.2.heap }).toOption.map
        (fun s => s.cas.views.map (·.1))) = some ["_InitialView", "v3", "v2"] :=
  permDemo_evals.reversedViewOrder

end Cassis.Json.PermDemo
