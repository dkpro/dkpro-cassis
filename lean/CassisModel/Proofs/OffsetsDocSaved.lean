/-
What an element of a saved document is made of, both writers (for `Properties/C03DocWrite.lean`; no offset occurs here):
the object a collected structure has after the traversal (`collected_obj`), the element of a structure that is no array
(`renderFs_struct`), its members / attributes as the concatenation of the per-feature renderings (`renderFeatures_members`).
-/
import CassisModel.Proofs.XmiCodec
import CassisModel.Proofs.XmiLookups
import CassisModel.Proofs.JsonWriter
import CassisModel.Properties.C15

namespace Cassis.OffsetsDoc
open Cassis.TS Cassis.Traverse

/-- the heap the writers render is the given heap up to the ids the traversal assigns -/
theorem slots_after_traversal {K : Consts} {ts : TypeSystem} {opts : Opts} {hp : Heap} {nx : Int} {seeds : List Nat}
    {st : St} (h : findAllFs K ts opts hp nx seeds = .ok st) {a : Nat} {o : Obj} (ho : hp[a]? = some o) :
    ∃ o', st.heap[a]? = some o' ∧ o'.ty = o.ty ∧ o'.slots = o.slots ∧
      ∀ n, Xmi.slot st.heap a n = alistGet? o.slots n := by
  obtain ⟨o', h1, h2, h3, _⟩ := (findAllFs_heap_frame K ts opts hp nx seeds st h).2 a o ho
  refine ⟨o', h1, h2, h3, ?_⟩
  intro n
  rw [Xmi.slot_of h1, h3]

theorem collected_obj {K : Consts} {ts : TypeSystem} {opts : Opts} {hp : Heap} {nx : Int} {seeds : List Nat} {st : St}
    (h : findAllFs K ts opts hp nx seeds = .ok st) {p : Int × Nat} (hp' : p ∈ st.allFs) {o : Obj}
    (ho : hp[p.2]? = some o) :
    ∃ o', st.heap[p.2]? = some o' ∧ o'.ty = o.ty ∧ o'.xid = some p.1 ∧
      ∀ n, Xmi.slot st.heap p.2 n = alistGet? o.slots n := by
  obtain ⟨o', h1, h2, _, h4⟩ := slots_after_traversal h ho
  refine ⟨o', h1, h2, ?_, h4⟩
  have hl := (findAllFs_inv K ts opts hp nx seeds st h).1.link p.1 p.2 hp'
  exact (xidOf_eq h1).symm.trans hl

end Cassis.OffsetsDoc

namespace Cassis.Json
open Cassis.TS

theorem renderFeatures_members (K : Consts) (ts : TypeSystem) (cass : List Cas) (H : Heap) (a : Nat)
    (fs : List Feature) (r : List (String × JV)) (h : renderFeatures K ts cass H a fs = .ok r) :
    (∀ f ∈ fs, ∃ out, renderFeature K ts cass H a f = .ok out ∧ ∀ m ∈ out, m ∈ r) ∧
    (∀ m ∈ r, ∃ f ∈ fs, ∃ out, renderFeature K ts cass H a f = .ok out ∧ m ∈ out) := by
  rw [renderFeatures_eq] at h
  obtain ⟨outs, ho, rfl⟩ := Det.map_ok h
  obtain ⟨m1, m2⟩ := Det.mapM_ok_mem ho
  constructor
  · intro f hf
    obtain ⟨out, hm, e⟩ := m1 f hf
    exact ⟨out, e, fun m h => List.mem_flatten.mpr ⟨out, hm, h⟩⟩
  · intro m hm
    obtain ⟨out, ho', hmo⟩ := List.mem_flatten.mp hm
    obtain ⟨f, hf, e⟩ := m2 out ho'
    exact ⟨f, hf, out, e, hmo⟩

theorem renderFs_struct {K : Consts} {ts : TypeSystem} {cass : List Cas} {H : Heap} {a : Nat} {j : JFs} {o : Obj}
    (h : renderFs K ts cass H a = .ok j) (ho : H[a]? = some o)
    (hna : isPrimitiveArray K o.ty = false) (hnf : o.ty ≠ FS_ARRAY) :
    ∃ tr : TypeRec, getType ts o.ty = .ok tr ∧ j.id = o.xid ∧ j.ty = o.ty ∧
      renderFeatures K ts cass H a (allFeatures tr) = .ok j.feats := by
  rw [renderFs_eq, ho] at h
  simp only [hna, beq_false_of_ne hnf, Bool.or_self, Bool.false_eq_true, if_false] at h
  obtain ⟨t, ht, h⟩ := Det.bind_ok h
  obtain ⟨fs, hfs, rfl⟩ := Det.map_ok h
  exact ⟨t, ht, rfl, rfl, hfs⟩

end Cassis.Json

namespace Cassis.Xmi
open Cassis.TS

theorem renderFeatures_members (K : Consts) (ts : TypeSystem) (cass : List Cas) (H : Heap) (a : Nat) (isAnn : Bool)
    (fs : List Feature) (r : List (String × String) × List (String × Option String))
    (h : renderFeatures K ts cass H a isAnn fs = .ok r) :
    (∀ f ∈ fs, ∃ out, renderFeature K ts cass H a isAnn f = .ok out ∧ (∀ m ∈ out.1, m ∈ r.1) ∧ ∀ m ∈ out.2, m ∈ r.2) ∧
    (∀ m ∈ r.1, ∃ f ∈ fs, ∃ out, renderFeature K ts cass H a isAnn f = .ok out ∧ m ∈ out.1) := by
  rw [renderFeatures_eq] at h
  obtain ⟨outs, ho, rfl⟩ := Det.map_ok h
  obtain ⟨m1, m2⟩ := Det.mapM_ok_mem ho
  constructor
  · intro f hf
    obtain ⟨out, hm, e⟩ := m1 f hf
    exact ⟨out, e, fun m h => List.mem_flatMap.mpr ⟨out, hm, h⟩, fun m h => List.mem_flatMap.mpr ⟨out, hm, h⟩⟩
  · intro m hm
    obtain ⟨out, ho', hmo⟩ := List.mem_flatMap.mp hm
    obtain ⟨f, hf, e⟩ := m2 out ho'
    exact ⟨f, hf, out, e, hmo⟩

theorem renderFs_struct {K : Consts} {ts : TypeSystem} {cass : List Cas} {H : Heap} {a : Nat} {e : XElem} {o : Obj}
    (h : renderFs K ts cass H a = .ok e) (ho : H[a]? = some o)
    (hna : isPrimitiveArray K o.ty = false) (hnf : o.ty ≠ FS_ARRAY) :
    ∃ (tr : TypeRec) (as : List (String × String)) (ks : List (String × Option String)),
      getType ts o.ty = .ok tr ∧ e.ty = o.ty ∧
      e.attrs = (ID, match o.xid with | some x => Lex.showInt x | none => "None") :: as ∧ e.kids = ks ∧
      renderFeatures K ts cass H a (isInstanceOf ts o.ty ANNOTATION) (allFeatures tr) = .ok (as, ks) := by
  obtain ⟨o', ho', as, hty, hat, hf⟩ := renderFs_shape h
  cases ho.symm.trans ho'
  obtain ⟨tr, htr, hr⟩ := hf (by rw [hna]; simpa using hnf)
  exact ⟨tr, as, e.kids, htr, hty, hat, rfl, hr⟩

end Cassis.Xmi
