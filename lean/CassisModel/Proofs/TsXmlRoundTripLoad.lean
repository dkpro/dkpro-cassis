/-
C12 round trip: `load` succeeds on every descriptor whose declarations are declarations of a consistent type system `o`
(`load_succeeds`), the converse of what `Properties/C12.lean` says of a successful load.

The two loops of the loader are run under the simulation invariant `LInv K o ·`: as long as every declaration is one that
`o` makes too, creating the types in a dependency-first order and then adding the features never fails, and the type
system built so far stays a part of `o` (`Sub o ·`, `Proofs/MergeReplay.lean`) with what every call keeps (`Built`,
`Proofs/ApiHistory.lean`).  The dependency order exists because the registry order of `o` is a rank (`toposort_of_rank`).
-/
import CassisModel.Proofs.TsXml
import CassisModel.Proofs.MergeReplay
import CassisModel.Proofs.Toposort

namespace Cassis.TsXml
open Cassis.TS

/-- the stored name is `self_`/`type_` exactly for the reserved features (the third clause of `OwnOK`) -/
def featWFB (f : Feature) : Bool :=
  if f.reserved then f.name == "self_" || f.name == "type_" else f.name != "self" && f.name != "type"

/-- what the loader maintains -/
structure LInv (K : Consts) (o m : TypeSystem) : Prop where
  built : Built K m
  sub : Sub o m

theorem LInv.cons {K : Consts} {o m : TypeSystem} (h : LInv K o m) : Consistent m := h.built.cons
theorem LInv.feat {K : Consts} {o m : TypeSystem} (h : LInv K o m) : FeatInv m := h.built.feat

theorem createTypes_ok (K : Consts) (o : TypeSystem) (hfo : FeatInv o) (E : Descriptor)
    (hE : ∀ n t, E.find? (fun u => u.name == n) = some t → K.predefined.contains n = false →
      ∃ tn, find? o n = some tn ∧ tn.super = some t.super ∧ tn.descr = t.descr ∧
        K.finalTypes.contains t.super = false) :
    ∀ (ns : List String) (m : TypeSystem), ns.Nodup → LInv K o m →
      (∀ n ∈ ns, K.predefined.contains n = false →
        hasExact m n = false ∧ ∃ t, E.find? (fun u => u.name == n) = some t) →
      (∀ pre n post, ns = pre ++ n :: post → K.predefined.contains n = false →
        ∀ t, E.find? (fun u => u.name == n) = some t → hasExact m t.super = true ∨ t.super ∈ pre) →
      (∀ p ∈ ns, K.predefined.contains p = true → hasExact m p = true) →
      ∃ m' created, createTypes K E ns m = .ok (m', created) ∧ LInv K o m' ∧ Grow K m m' := by
  intro ns
  induction ns with
  | nil =>
    intro m _ hi _ _ _
    exact ⟨m, [], rfl, hi, Grow.refl K m⟩
  | cons n ns ih =>
    intro m hnd hi hnew hsup hpre
    obtain ⟨hnns, hnd'⟩ := List.nodup_cons.mp hnd
    cases hp : K.predefined.contains n with
    | true =>
      obtain ⟨m', created, h, hi', hg⟩ := ih m hnd' hi
        (fun x hx => hnew x (List.mem_cons_of_mem _ hx))
        (by
          intro pre x post e hpx t ht
          rcases hsup (n :: pre) x post (by rw [e]; rfl) hpx t ht with h1 | h1
          · exact Or.inl h1
          · rcases List.mem_cons.mp h1 with e1 | h1
            · left; rw [e1]; exact hpre n List.mem_cons_self hp
            · exact Or.inr h1)
        (fun x hx => hpre x (List.mem_cons_of_mem _ hx))
      refine ⟨m', created, ?_, hi', hg⟩
      unfold createTypes
      rw [if_pos hp]
      exact h
    | false =>
      obtain ⟨hnewn, t, ht⟩ := hnew n List.mem_cons_self hp
      have htn : t.name = n := (dfind_some ht).2
      obtain ⟨tn, hftn, htns, htnd, hnf⟩ := hE n t ht hp
      have hsreg : hasExact m t.super = true := by
        rcases hsup [] n ns rfl hp t ht with h1 | h1
        · exact h1
        · cases h1
      obtain ⟨sup, hsupf⟩ := (hasExact_iff_find m t.super).mp hsreg
      obtain ⟨m1, h1, _, _, hs1, hg1, hreg1⟩ :=
        createType_sub K o hfo m n t.super tn sup hi.cons hi.feat hi.sub hnewn hsupf hnf hftn htns
      rw [htnd] at h1
      have hi1 : LInv K o m1 := ⟨hi.built.createType hnewn h1, hs1⟩
      obtain ⟨_, _, _, _, hback⟩ :=
        createType_recs K m m1 n t.super t.descr hi.built hp h1
      obtain ⟨m', created, h2, hi', hg2⟩ := ih m1 hnd' hi1
        (by
          intro x hx hpx
          obtain ⟨hx1, hx2⟩ := hnew x (List.mem_cons_of_mem _ hx) hpx
          refine ⟨?_, hx2⟩
          cases hq : hasExact m1 x with
          | false => rfl
          | true =>
            obtain ⟨tx, htx⟩ := (hasExact_iff_find m1 x).mp hq
            rcases hback x tx htx with e | ⟨t0, ht0⟩
            · subst e; exact absurd hx hnns
            · have : hasExact m x = true := (hasExact_iff_find m x).mpr ⟨t0, ht0⟩
              rw [hx1] at this; cases this)
        (by
          intro pre x post e hpx u hu
          rcases hsup (n :: pre) x post (by rw [e]; rfl) hpx u hu with h3 | h3
          · exact Or.inl (hg1.reg _ h3)
          · rcases List.mem_cons.mp h3 with e1 | h3
            · left; rw [e1]; exact hreg1
            · exact Or.inr h3)
        (fun x hx hpx => hg1.reg x (hpre x (List.mem_cons_of_mem _ hx) hpx))
      refine ⟨m', n :: created, ?_, hi', hg1.trans hg2⟩
      unfold createTypes
      rw [if_neg (by rw [hp]; simp), ht]
      simp only [htn, h1, h2]

theorem featWFB_mkFeat (dom : String) (f : FDesc) : featWFB (mkFeat dom f) = true := by
  unfold featWFB mkFeat storedName isReservedName
  simp only []
  by_cases h1 : f.name = "self"
  · rw [h1]; decide
  · by_cases h2 : f.name = "type"
    · rw [h2]; decide
    · simp [h1, h2]

theorem addFeats_ok (K : Consts) (o : TypeSystem) (hfo : FeatInv o) (tn : String)
    (hp : K.predefined.contains tn = false) :
    ∀ (fs : List FDesc) (m : TypeSystem), LInv K o m → hasExact m tn = true →
      (∀ f ∈ fs, hasExact m f.range = true ∧ (∀ e, f.elem = some e → hasExact m e = true) ∧
        CovIn o tn (mkFeat tn f)) →
      ∃ m', addFeats m tn fs = .ok m' ∧ LInv K o m' ∧ skel m' = skel m ∧ Grow K m m' := by
  intro fs
  induction fs with
  | nil => intro m hi _ _; exact ⟨m, rfl, hi, rfl, Grow.refl K m⟩
  | cons f fs ih =>
    intro m hi hreg hfs
    obtain ⟨hfr, hfe, hcov⟩ := hfs f List.mem_cons_self
    obtain ⟨m1, h1, hs1⟩ := addFeature_sub o hfo m tn (mkFeat tn f) hi.cons hi.sub hreg hcov
    have hsk1 := skel_addFeature m m1 tn _ hi.cons.nodup h1
    have hi1 : LInv K o m1 := ⟨hi.built.addFeature hfr hfe (featWFB_mkFeat tn f) h1, hs1⟩
    have hg1 : Grow K m m1 := addFeature_grow K hp h1
    obtain ⟨m', h2, hi', hsk', hg2⟩ := ih m1 hi1 (hasExact_of_skel hsk1 hreg) (by
      intro g hg
      obtain ⟨a, b, c⟩ := hfs g (List.mem_cons_of_mem _ hg)
      exact ⟨hasExact_of_skel hsk1 a, fun e he => hasExact_of_skel hsk1 (b e he), c⟩)
    refine ⟨m', ?_, hi', hsk'.trans hsk1, hg1.trans hg2⟩
    unfold addFeats
    rw [createFeature_exact m tn f hreg hfr hfe, h1]
    exact h2

theorem addAllFeats_ok (K : Consts) (o : TypeSystem) (hfo : FeatInv o) (E : Descriptor) :
    ∀ (cs : List String) (m : TypeSystem), LInv K o m →
      (∀ n ∈ cs, K.predefined.contains n = false) →
      (∀ n ∈ cs, ∀ t, E.find? (fun u => u.name == n) = some t → hasExact m n = true ∧
        ∀ f ∈ t.feats, hasExact m f.range = true ∧ (∀ e, f.elem = some e → hasExact m e = true) ∧
          CovIn o n (mkFeat n f)) →
      ∃ m', addAllFeats E cs m = .ok m' ∧ LInv K o m' ∧ skel m' = skel m ∧ Grow K m m' := by
  intro cs
  induction cs with
  | nil => intro m hi _ _; exact ⟨m, rfl, hi, rfl, Grow.refl K m⟩
  | cons n cs ih =>
    intro m hi hp hd
    cases hfd : E.find? (fun u => u.name == n) with
    | none =>
      obtain ⟨m', h, hi', hsk, hg⟩ := ih m hi (fun x hx => hp x (List.mem_cons_of_mem _ hx))
        (fun x hx => hd x (List.mem_cons_of_mem _ hx))
      refine ⟨m', ?_, hi', hsk, hg⟩
      unfold addAllFeats
      rw [hfd]
      exact h
    | some t =>
      have htn : t.name = n := (dfind_some hfd).2
      obtain ⟨hreg, hfs⟩ := hd n List.mem_cons_self t hfd
      obtain ⟨m1, h1, hi1, hsk1, hg1⟩ := addFeats_ok K o hfo n (hp n List.mem_cons_self) t.feats m hi hreg hfs
      obtain ⟨m', h2, hi', hsk', hg2⟩ := ih m1 hi1 (fun x hx => hp x (List.mem_cons_of_mem _ hx)) (by
        intro x hx u hu
        obtain ⟨a, b⟩ := hd x (List.mem_cons_of_mem _ hx) u hu
        refine ⟨hasExact_of_skel hsk1 a, ?_⟩
        intro f hf
        obtain ⟨b1, b2, b3⟩ := b f hf
        exact ⟨hasExact_of_skel hsk1 b1, fun e he => hasExact_of_skel hsk1 (b2 e he), b3⟩)
      refine ⟨m', ?_, hi', hsk'.trans hsk1, hg1.trans hg2⟩
      unfold addAllFeats
      rw [hfd]
      simp only [htn, h1]
      exact h2

theorem checkPredefined_ok (K : Consts) (base : TypeSystem) (E : Descriptor)
    (h : ∀ t ∈ E, K.predefined.contains t.name = true → ∃ pt, find? base t.name = some pt ∧ pt.super = some t.super ∧
      t.feats.map (fun f => featKey f.name f.descr f.range f.elem) =
        pt.own.map (fun f => featKey f.name f.descr f.range f.elem)) :
    checkPredefined K base E = .ok ((E.filter (fun t => K.predefined.contains t.name)).map (·.name)) := by
  rw [checkPredefined_eq, List.findSome?_eq_none_iff.mpr]
  intro t ht
  obtain ⟨ht, hp⟩ := List.mem_filter.mp ht
  obtain ⟨pt, hpt, hs, hk⟩ := h t ht hp
  exact entryErr_none.mpr ⟨pt, hpt, hs, by rw [hk]⟩

theorem load_of_parts (K : Consts) (d0 : Descriptor) (redecl order created : List String) (ts1 ts2 : TypeSystem)
    (hres : allResolvable (fun n => K.predefined.contains n || ((effective d0).map (·.name)).contains n)
      (effective d0) = true)
    (hchk : checkPredefined K Gen.builtinTSNoDoc (effective d0) = .ok redecl)
    (hord : creationOrder (effective d0) = .ok order)
    (hct : createTypes K (effective d0) order Gen.builtinTSNoDoc = .ok (ts1, created))
    (haf : addAllFeats (effective d0) created ts1 = .ok ts2) :
    load K d0 = .ok { ts2 with redeclared :=
      (if ((normalize d0).map (·.name)).contains DOCUMENT_ANNOTATION then [DOCUMENT_ANNOTATION] else []) ++ redecl } := by
  simp only [load_eq, hres, hchk, hord, hct, haf, Bool.not_true, Bool.false_eq_true, if_false]

theorem load_succeeds (o : TypeSystem) (hco : Consistent o) (hfo : FeatInv o) (d0 : Descriptor)
    (hdecl : ∀ t ∈ effective d0, ∃ tn, find? o t.name = some tn ∧ tn.super = some t.super ∧
      (Gen.consts.predefined.contains t.name = false →
        tn.descr = t.descr ∧ Gen.consts.finalTypes.contains t.super = false ∧
        ∀ f ∈ t.feats, CovIn o t.name (mkFeat t.name f)) ∧
      (∀ f ∈ t.feats, hasExact o f.range = true ∧ ∀ e, f.elem = some e → hasExact o e = true))
    (hall : ∀ x, hasExact o x = true →
      Gen.consts.predefined.contains x = true ∨ x ∈ (effective d0).map (·.name))
    (hchk : ∀ t ∈ effective d0, Gen.consts.predefined.contains t.name = true →
      ∃ pt, find? Gen.builtinTSNoDoc t.name = some pt ∧ pt.super = some t.super ∧
        t.feats.map (fun f => featKey f.name f.descr f.range f.elem) =
          pt.own.map (fun f => featKey f.name f.descr f.range f.elem))
    (hbase : Sub o Gen.builtinTSNoDoc) :
    ∃ ts2, load Gen.consts d0 = .ok { ts2 with redeclared :=
        (if ((normalize d0).map (·.name)).contains DOCUMENT_ANNOTATION then [DOCUMENT_ANNOTATION] else []) ++
          ((effective d0).filter (fun t => Gen.consts.predefined.contains t.name)).map (·.name) } ∧
      LInv Gen.consts o ts2 ∧ Grow Gen.consts Gen.builtinTSNoDoc ts2 := by
  have hnd := effective_nodup d0
  have hfindE : ∀ t ∈ effective d0, (effective d0).find? (fun u => u.name == t.name) = some t :=
    dfind_of_mem _ hnd
  have hok : ∀ x, hasExact o x = true →
      (Gen.consts.predefined.contains x || ((effective d0).map (·.name)).contains x) = true := by
    intro x hx
    rcases hall x hx with h | h
    · rw [h]; rfl
    · rw [List.contains_iff_mem.mpr h]; simp
  have hsupreg : ∀ t ∈ effective d0, hasExact o t.super = true := by
    intro t ht
    obtain ⟨tn, hftn, htns, _⟩ := hdecl t ht
    exact hco.superReg tn (find?_mem hftn) t.super htns
  have hres : allResolvable (fun n => Gen.consts.predefined.contains n || ((effective d0).map (·.name)).contains n)
      (effective d0) = true := by
    rw [allResolvable_iff]
    intro t ht
    obtain ⟨tn, hftn, htns, _, hr⟩ := hdecl t ht
    refine ⟨hok _ (hsupreg t ht), ?_⟩
    intro f hf
    exact ⟨hok _ (hr f hf).1, fun e he => hok _ ((hr f hf).2 e he)⟩
  have hchk' := checkPredefined_ok Gen.consts Gen.builtinTSNoDoc (effective d0) hchk
  have hsne : ∀ t ∈ effective d0, t.super ≠ t.name := by
    intro t ht e
    obtain ⟨tn, hftn, htns, _⟩ := hdecl t ht
    have := rank_lt hco (find?_mem hftn) htns
    rw [find?_name hftn, e] at this
    omega
  obtain ⟨order, hord, hperm, _⟩ := Json.toposort_of_rank
    ((effective d0).map (fun t => ({ name := t.name, super := t.super } : Json.JType)))
    (fun n => List.idxOf n (o.types.map (·.name))) (by
      intro jt hjt _
      obtain ⟨t, ht, rfl⟩ := List.mem_map.mp hjt
      obtain ⟨tn, hftn, htns, _⟩ := hdecl t ht
      exact find?_name hftn ▸ rank_lt hco (find?_mem hftn) htns)
  have hordnd : order.Nodup := hperm.nodup_iff.mpr (Det.nodup_eraseDups _)
  have hordmem := fun x (hx : x ∈ order) => List.mem_append.mp (List.mem_eraseDups.mp (hperm.mem_iff.mp hx))
  have hord' : creationOrder (effective d0) = .ok order := hord
  have hordE : ∀ x ∈ order, Gen.consts.predefined.contains x = false → ∃ t ∈ effective d0, t.name = x := by
    intro x hx hpx
    rcases hordmem x hx with h | h
    · simp only [List.map_map, List.mem_map, Function.comp] at h
      obtain ⟨t, ht, e⟩ := h
      exact ⟨t, ht, e⟩
    · simp only [List.map_map, List.mem_map, Function.comp] at h
      obtain ⟨t, ht, e⟩ := h
      rcases hall x (e ▸ hsupreg t ht) with h1 | h1
      · rw [hpx] at h1; cases h1
      · obtain ⟨u, hu, hun⟩ := List.mem_map.mp h1
        exact ⟨u, hu, hun⟩
  have hE : ∀ n t, (effective d0).find? (fun u => u.name == n) = some t →
      Gen.consts.predefined.contains n = false →
      ∃ tn, find? o n = some tn ∧ tn.super = some t.super ∧ tn.descr = t.descr ∧
        Gen.consts.finalTypes.contains t.super = false := by
    intro n t hfd hpn
    obtain ⟨htm, htn⟩ := dfind_some hfd
    obtain ⟨tn, hftn, htns, hu, _⟩ := hdecl t htm
    rw [htn] at hftn hu
    obtain ⟨h1, h2, _⟩ := hu hpn
    exact ⟨tn, hftn, htns, h1, h2⟩
  have hbinv : LInv Gen.consts o Gen.builtinTSNoDoc := ⟨built_builtins.2, hbase⟩
  obtain ⟨ts1, created, hct, hi1, hg1⟩ := createTypes_ok Gen.consts o hfo (effective d0) hE order
    Gen.builtinTSNoDoc hordnd hbinv
    (by
      intro n hn hpn
      refine ⟨?_, ?_⟩
      · cases hx : hasExact Gen.builtinTSNoDoc n with
        | false => rfl
        | true =>
          have := base_all_predef n hx
          rw [hpn] at this
          cases this
      · obtain ⟨t, ht, e⟩ := hordE n hn hpn
        exact ⟨t, e ▸ hfindE t ht⟩)
    (by
      intro pre n post hsplit hpn t hfd
      obtain ⟨htm, htn⟩ := dfind_some hfd
      exact Or.inr ((creationOrder_spec hord' htm).2 pre post (by rw [hsplit, htn]) (hsne t htm)))
    (fun p _ hp => base_predef_reg p hp)
  have S := createTypes_spec Gen.consts (effective d0) order Gen.builtinTSNoDoc ts1 created built_builtins.2 hct
  have hcreated : ∀ t ∈ effective d0, Gen.consts.predefined.contains t.name = false → t.name ∈ created :=
    fun t ht hp => S.mem_created (creationOrder_spec hord' ht).1 hp
  have hreg1 : ∀ x, hasExact o x = true → hasExact ts1 x = true := by
    intro x hx
    rcases hall x hx with h | h
    · exact hg1.reg x (base_predef_reg x h)
    · cases hp : Gen.consts.predefined.contains x with
      | true => exact hg1.reg x (base_predef_reg x hp)
      | false =>
        obtain ⟨u, hu, hun⟩ := List.mem_map.mp h
        have hmc : x ∈ created := hun ▸ hcreated u hu (by rw [hun]; exact hp)
        obtain ⟨u', hu'⟩ := S.decl x hmc
        obtain ⟨r, hr, _⟩ := S.made x hmc u' hu'
        exact (hasExact_iff_find ts1 x).mpr ⟨r, hr⟩
  obtain ⟨ts2, haf, hi2, hsk2, hg2⟩ := addAllFeats_ok Gen.consts o hfo (effective d0) created ts1 hi1
    (fun n hn => S.user hn)
    (by
      intro n hn t hfd
      obtain ⟨htm, htn⟩ := dfind_some hfd
      have hpn : Gen.consts.predefined.contains n = false := S.user hn
      obtain ⟨tn, hftn, _, hu, hr⟩ := hdecl t htm
      rw [htn] at hftn hu
      obtain ⟨_, _, hcov⟩ := hu hpn
      refine ⟨hreg1 n ((hasExact_iff_find o n).mpr ⟨tn, hftn⟩), ?_⟩
      intro f hf
      exact ⟨hreg1 _ (hr f hf).1, fun e he => hreg1 _ ((hr f hf).2 e he), hcov f hf⟩)
  exact ⟨ts2, load_of_parts Gen.consts d0 _ order created ts1 ts2 hres hchk' hord' hct haf, hi2, hg1.trans hg2⟩

end Cassis.TsXml
