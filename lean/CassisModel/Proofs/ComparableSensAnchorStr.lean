/-
String facts behind the sensitivity half of C20: offsets can be read back from an anchor, the disambiguation
counter `(n)` can be split off an anchor whose text does not end in `)`.
-/
import CassisModel.Spec.ComparableSens
import CassisModel.Proofs.Lex

namespace Cassis.Comparable
open Cassis.Lex

/-- `anchor` with the counter appended the way `_generate_anchors` does -/
def withCount (s : String) (n : Nat) : String :=
  if n != 0 then s ++ "(" ++ Lex.showInt n ++ ")" else s

theorem not_isDig_rbrack : ¬ IsDig ']' := not_isDig_of_digitChar_ne _ (by decide)
theorem not_isDig_lparen : ¬ IsDig '(' := not_isDig_of_digitChar_ne _ (by decide)

theorem offsets_split (b e b' e' : Int) (r r' : List Char)
    (h : '[' :: (showIntL b ++ '-' :: (showIntL e ++ ']' :: r)) = '[' :: (showIntL b' ++ '-' :: (showIntL e' ++ ']' :: r'))) :
    b = b' ∧ e = e' := by
  obtain ⟨hb, h2⟩ := showIntL_split '-' not_isDig_minus b b' _ _ (List.cons.inj h).2
  exact ⟨hb, (showIntL_split ']' not_isDig_rbrack e e' r r' h2).1⟩

def cntL (n : Nat) : List Char := if n != 0 then '(' :: (showNatL n ++ [')']) else []

theorem withCount_toList (s : String) (n : Nat) : (withCount s n).toList = s.toList ++ cntL n := by
  unfold withCount cntL
  split
  · simp only [String.toList_append, List.append_assoc]
    change s.toList ++ (['('] ++ ((String.ofList (showNatL n)).toList ++ [')'])) = _
    rw [String.toList_ofList]
    rfl
  · simp

theorem cntL_cases (n : Nat) : cntL n = [] ∨ ∃ r, cntL n = '(' :: r := by
  unfold cntL
  split
  · exact Or.inr ⟨_, rfl⟩
  · exact Or.inl rfl

theorem cntL_getLast (n : Nat) (h : n ≠ 0) (l : List Char) : (l ++ cntL n).getLast? = some ')' := by
  unfold cntL
  simp only [bne_iff_ne, ne_eq, h, not_false_eq_true, if_true]
  rw [show l ++ '(' :: (showNatL n ++ [')']) = (l ++ '(' :: showNatL n) ++ [')'] by simp]
  exact List.getLast?_concat

theorem cnt_split (s s' : List Char) (n m : Nat) (hn : n ≠ 0) (hm : m ≠ 0)
    (h : s ++ cntL n = s' ++ cntL m) : s = s' ∧ n = m := by
  unfold cntL at h
  simp only [bne_iff_ne, ne_eq, hn, hm, not_false_eq_true, if_true] at h
  have h2 := congrArg List.reverse h
  simp only [List.reverse_append, List.reverse_cons, List.reverse_nil, List.nil_append, List.append_assoc,
    List.cons_append, List.cons.injEq, true_and] at h2
  have h3 : (showNatL n).reverse ++ '(' :: s.reverse = (showNatL m).reverse ++ '(' :: s'.reverse := by
    simpa using h2
  obtain ⟨h4, h5⟩ := digit_run_split '(' not_isDig_lparen _ _ _ _
    (fun c hc => showNatL_mem n c (List.mem_reverse.1 hc))
    (fun c hc => showNatL_mem m c (List.mem_reverse.1 hc)) h3
  refine ⟨List.reverse_inj.1 h5, ?_⟩
  have h6 : showNatL n = showNatL m := List.reverse_inj.1 h4
  have := parseNatL_showNatL n
  rw [h6, parseNatL_showNatL] at this
  exact (Option.some.inj this).symm

theorem withCount_inj_right (s : String) (n m : Nat) (h : withCount s n = withCount s m) : n = m := by
  have h1 := congrArg String.toList h
  rw [withCount_toList, withCount_toList] at h1
  by_cases hn : n = 0
  · by_cases hm : m = 0
    · omega
    · exfalso
      have := congrArg List.length h1
      unfold cntL at this
      simp [hn, hm] at this
  · by_cases hm : m = 0
    · exfalso
      have := congrArg List.length h1
      unfold cntL at this
      simp [hn, hm] at this
    · exact (cnt_split _ _ n m hn hm h1).2

theorem withCount_inj (s s' : String) (n m : Nat) (hs : NoParenEnd s) (hs' : NoParenEnd s')
    (h : withCount s n = withCount s' m) : s = s' ∧ n = m := by
  have h1 := congrArg String.toList h
  rw [withCount_toList, withCount_toList] at h1
  by_cases hn : n = 0
  · by_cases hm : m = 0
    · subst hn; subst hm
      simp only [cntL, bne_self_eq_false, Bool.false_eq_true, if_false, List.append_nil] at h1
      exact ⟨String.toList_inj.1 h1, rfl⟩
    · exfalso
      subst hn
      have h2 := cntL_getLast m hm s'.toList
      rw [← h1] at h2
      simp only [cntL, bne_self_eq_false, Bool.false_eq_true, if_false, List.append_nil] at h2
      exact hs h2
  · by_cases hm : m = 0
    · exfalso
      subst hm
      have h2 := cntL_getLast n hn s.toList
      rw [h1] at h2
      simp only [cntL, bne_self_eq_false, Bool.false_eq_true, if_false, List.append_nil] at h2
      exact hs' h2
    · obtain ⟨h2, h3⟩ := cnt_split _ _ n m hn hm h1
      exact ⟨String.toList_inj.1 h2, h3⟩

end Cassis.Comparable
