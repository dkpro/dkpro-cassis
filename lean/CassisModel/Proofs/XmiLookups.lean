/-
At the head `parseFsElem` with named pieces (`CG1.parseFsElem_eq`: `intify`, `rename`, the step `kidStep` of the loop over
the child elements), from which every statement about `parseFsElem` starts; `CG1` is layer G1 (first pass, general
structure) of `RoundTripColl_NOTES.md`.  Then the first pass of the XMI reader (`Model/Xmi.lean`, `pass1`) as a fold of the
step `step1` (defined here; the later reader and round-trip files rest on it), and the id-keyed lookups of both loaders,
used by `Properties/C17.lean` and `Properties/C05.lean`.
-/
import CassisModel.Model.Xmi
import CassisModel.Proofs.GetTypeExact
import CassisModel.Proofs.Heap

namespace Cassis.Xmi.CG1
open Cassis.TS

def kidStep (K : Consts) (t : TypeRec) (tsIdx : Nat) (acc : Heap × List (String × Val))
    (p : String × List (Option String)) : Except Err (Heap × List (String × Val)) := do
  let pn := if p.1 == "self" || p.1 == "type" then p.1 ++ "_" else p.1
  let f ← match getFeature t pn with
    | some f => pure f
    | none => throw Err.attributeError
  if isPrimitiveArray K f.range then
    let arr : Obj := { ty := f.range, ts := tsIdx, xid := none, slots := [("elements", Val.strs p.2)] }
    pure (acc.1 ++ [arr], alistSet acc.2 pn (Val.ref acc.1.length))
  else if isPrimitiveList K f.range then
    let (hp', a) ← buildPrimList acc.1 tsIdx f.range p.2
    pure (hp', alistSet acc.2 pn (Val.ref a))
  else pure acc

def intify (m : List (String × Val)) (n : String) : Except Err (List (String × Val)) :=
    match alistGet? m n with
    | some (.str s) => (parseIntE s).map (fun i => alistSet m n (Val.int i))
    | some (.strs _) => Except.error Err.typeError
    | _ => Except.ok m

def rename (m : List (String × Val)) (o n : String) : List (String × Val) :=
  m.map (fun p => if p.1 == o then (n, p.2) else p)

theorem parseFsElem_eq (K : Consts) (ts : TypeSystem) (tsIdx : Nat) (hp : Heap) (e : XElem) :
    parseFsElem K ts tsIdx hp e = (do
  let t ← getTypeExact ts e.ty
  let kids := groupKids e.kids []
  let rawAttrs : List (String × Val) := e.attrs.map (fun p => (p.1, Val.str p.2))
  let merged : List (String × Val) := kids.foldl (fun acc p => alistSet acc p.1 (Val.strs p.2)) rawAttrs
  let idV ← match alistGet? merged ID with
    | some (.str s) => parseIntE s
    | _ => throw Err.keyError
  let merged := merged.filter (fun p => p.1 != ID)
  let merged ← intify merged "sofa"
  let merged := rename (rename merged "self" "self_") "type" "type_"
  let (hp, merged) ←
    if isPrimitiveArray K e.ty then pure (hp, merged)
    else kids.foldlM (kidStep K t tsIdx) (hp, merged)
  let o ← construct t tsIdx (some idV) merged
  pure (hp ++ [o], idV, hp.length)) := rfl

end Cassis.Xmi.CG1

namespace Cassis.Xmi
open Cassis.TS Cassis.Lex

/-! `slot` is `Traverse.slot` under a second name -/

theorem slot_of {hp : Heap} {a : Nat} {ob : Obj} (hob : hp[a]? = some ob) (n : String) :
    slot hp a n = alistGet? ob.slots n :=
  Traverse.slot_eq hob n

theorem slot_obj {hp : Heap} {a : Nat} {n : String} {v : Val} (h : slot hp a n = some v) :
    ∃ o, hp[a]? = some o ∧ alistGet? o.slots n = some v :=
  Traverse.slot_some h

/-- the computation does not end in `typeNotFound` -/
structure NoTnf {α} (x : Except Err α) : Prop where
  ne : x ≠ .error .typeNotFound

theorem NoTnf.ok {α} (a : α) : NoTnf (Except.ok a : Except Err α) := ⟨by intro h; cases h⟩

theorem NoTnf.pure {α} (a : α) : NoTnf (Pure.pure a : Except Err α) := ⟨by intro h; cases h⟩

theorem NoTnf.err {α} (e : Err) (h : e ≠ .typeNotFound) : NoTnf (Except.error e : Except Err α) :=
  ⟨by intro h'; cases h'; exact h rfl⟩

theorem NoTnf.throw {α} (e : Err) (h : e ≠ .typeNotFound) : NoTnf (throw e : Except Err α) :=
  ⟨by intro h'; cases h'; exact h rfl⟩

theorem NoTnf.bind {α β} {x : Except Err α} {f : α → Except Err β}
    (hx : NoTnf x) (hf : ∀ a, NoTnf (f a)) : NoTnf (x >>= f) := by
  cases x with
  | error e => exact ⟨by intro h; apply hx.ne; cases h; rfl⟩
  | ok a => exact hf a

theorem NoTnf.ite {α} {c : Prop} [Decidable c] {x y : Except Err α} (hx : NoTnf x) (hy : NoTnf y) :
    NoTnf (if c then x else y) := by
  split
  · exact hx
  · exact hy

theorem NoTnf.map {α β} {x : Except Err α} (f : α → β) (hx : NoTnf x) : NoTnf (x.map f) := by
  cases x with
  | error e => exact ⟨by intro h; apply hx.ne; cases h; rfl⟩
  | ok a => exact ⟨by intro h; cases h⟩

theorem NoTnf.mapM {α β} (f : α → Except Err β) (hf : ∀ a, NoTnf (f a)) (l : List α) : NoTnf (l.mapM f) := by
  induction l with
  | nil => rw [List.mapM_nil]; exact NoTnf.pure _
  | cons a l ih =>
    rw [List.mapM_cons]
    exact NoTnf.bind (hf a) (fun b => NoTnf.bind ih (fun bs => NoTnf.pure _))

theorem NoTnf.foldlM {α β} (f : β → α → Except Err β) (hf : ∀ b a, NoTnf (f b a)) (l : List α) (b : β) :
    NoTnf (l.foldlM f b) := by
  induction l generalizing b with
  | nil => rw [List.foldlM_nil]; exact NoTnf.pure _
  | cons a l ih =>
    rw [List.foldlM_cons]
    exact NoTnf.bind (hf b a) (fun b' => ih b')

theorem parseIntE_noTnf (s : String) : NoTnf (parseIntE s) := by
  unfold parseIntE
  split
  · exact NoTnf.ok _
  · exact NoTnf.err _ (by decide)

theorem construct_noTnf (t : TypeRec) (tsIdx : Nat) (xid : Option Int) (kw : List (String × Val)) :
    NoTnf (construct t tsIdx xid kw) := by
  rw [construct_eq]
  split
  · exact NoTnf.ok _
  · exact NoTnf.err _ (by decide)

theorem buildPrimList_noTnf (hp : Heap) (tsIdx : Nat) (rn : String) (elems : List (Option String)) :
    NoTnf (buildPrimList hp tsIdx rn elems) := by
  unfold buildPrimList
  dsimp only
  refine NoTnf.ite ?_ (NoTnf.ite ?_ (NoTnf.ite ?_ (NoTnf.err _ (by decide))))
  all_goals
    refine NoTnf.bind (NoTnf.pure _) (fun names => NoTnf.bind (NoTnf.mapM _ (fun e => ?_) _) (fun _ => NoTnf.pure _))
    refine NoTnf.ite ?_ (NoTnf.ite ?_ ?_)
    · split
      · exact NoTnf.map _ (parseIntE_noTnf _)
      · exact NoTnf.err _ (by decide)
    · split
      · exact NoTnf.ok _
      · exact NoTnf.err _ (by decide)
    · split <;> exact NoTnf.ok _

theorem parseFsElem_noTnf (K : Consts) (ts : TypeSystem) (tsIdx : Nat) (hp : Heap) (e : XElem) (t : TypeRec)
    (ht : getTypeExact ts e.ty = .ok t) : NoTnf (parseFsElem K ts tsIdx hp e) := by
  rw [CG1.parseFsElem_eq, ht]
  refine NoTnf.bind (NoTnf.ok t) (fun t => ?_)
  dsimp only
  have tail : ∀ (idV : Int) (x : Heap × List (String × Val)),
      NoTnf (do let o ← construct t tsIdx (some idV) x.2; Pure.pure (x.1 ++ [o], idV, x.1.length)) :=
    fun _ _ => NoTnf.bind (construct_noTnf _ _ _ _) (fun _ => NoTnf.pure _)
  split
  · refine NoTnf.bind (parseIntE_noTnf _) (fun idV => NoTnf.bind ?_ (fun merged => NoTnf.ite ?_ ?_))
    · unfold CG1.intify
      split
      · exact NoTnf.map _ (parseIntE_noTnf _)
      · exact NoTnf.err _ (by decide)
      · exact NoTnf.ok _
    · exact NoTnf.bind (NoTnf.pure _) (tail idV)
    · refine NoTnf.bind (NoTnf.foldlM _ (fun acc p => ?_) _ _) (tail idV)
      -- `dsimp`, not `unfold`: with the `let` of the tag put in place, `split` takes the `match` on the feature
      dsimp only [CG1.kidStep]
      split
      · refine NoTnf.bind (NoTnf.pure _) (fun f => NoTnf.ite (NoTnf.pure _) (NoTnf.ite ?_ (NoTnf.pure _)))
        exact NoTnf.bind (buildPrimList_noTnf _ _ _ _) (fun _ => NoTnf.pure _)
      · exact NoTnf.throw _ (by decide)
  · exact NoTnf.throw _ (by decide)

theorem parseFsElem_getType_error (K : Consts) (ts : TypeSystem) (tsIdx : Nat) (hp : Heap) (e : XElem) (err : Err)
    (ht : getTypeExact ts e.ty = .error err) : parseFsElem K ts tsIdx hp e = .error err := by
  rw [CG1.parseFsElem_eq, ht]
  rfl

theorem getType_error (ts : TypeSystem) (n : String) (err : Err) (h : getType ts n = .error err) :
    err = .typeNotFound :=
  getType_err ts n err h

/-- the elements the reader can parse: sofas, views, and structures whose type the type system defines *under the name
    the element gives* (`get_type(name, match_exactly=True)`; a document names types by their full names, a name without
    namespace that only matches the short name of a packaged type is unknown — finding L1) -/
def knownElem (ts : TypeSystem) (e : XElem) : Bool :=
  e.ty == SOFA || e.ty == VIEW_T || (find? ts e.ty).isSome

/-- the id a lenient first pass remembers for an element it drops (nothing if the element has no readable id) -/
def lenIds (e : XElem) : List Int := match (attr e ID).bind parseInt with | some i => [i] | none => []

def step1 (K : Consts) (ts : TypeSystem) (tsIdx : Nat) (lenient : Bool) (e : XElem) (s : Pass1) : Except Err Pass1 :=
  if e.ty == SOFA then
    match parseSofa e with
    | .ok p => .ok { s with sofas := pass1.alistSetI s.sofas p.xid p, maxId := max s.maxId p.xid, maxNum := max s.maxNum p.num }
    | .error err => .error err
  else if e.ty == VIEW_T then
    match parseView e with
    | .ok v => .ok { s with views := pass1.alistSetI s.views v.sofa v }
    | .error err => .error err
  else
    match parseFsElem K ts tsIdx s.heap e with
    | .ok (hp, i, a) => .ok { s with heap := hp, fss := pass1.alistSetI s.fss i a, maxId := max s.maxId i }
    | .error .typeNotFound =>
      if lenient then .ok { s with lenientIds := s.lenientIds ++ lenIds e } else .error .typeNotFound
    | .error err => .error err

theorem pass1_cons (K : Consts) (ts : TypeSystem) (tsIdx : Nat) (lenient : Bool) (e : XElem) (es : List XElem) (s : Pass1) :
    pass1 K ts tsIdx lenient (e :: es) s = (step1 K ts tsIdx lenient e s).bind (pass1 K ts tsIdx lenient es) := by
  rw [pass1]
  unfold step1
  split
  · cases parseSofa e <;> rfl
  · split
    · cases parseView e <;> rfl
    · split
      · rename_i h; rw [h]; rfl
      · rename_i h; rw [h]; cases lenient <;> rfl
      · rename_i err h2 h1; rw [h1]
        split
        · rename_i h3; cases h3
        · rename_i h3; cases h3; exact absurd rfl h2
        · rename_i h3; cases h3; rfl

theorem pass1_nil (K : Consts) (ts : TypeSystem) (tsIdx : Nat) (lenient : Bool) (s : Pass1) :
    pass1 K ts tsIdx lenient [] s = .ok s := by
  rw [pass1]

theorem step1_ok {K : Consts} {ts : TypeSystem} {tsIdx : Nat} {b : Bool} {e : XElem} {s s' : Pass1}
    (h : step1 K ts tsIdx b e s = .ok s') :
    ((e.ty == SOFA) = true ∧ ∃ p, parseSofa e = .ok p ∧
      s' = { s with sofas := pass1.alistSetI s.sofas p.xid p, maxId := max s.maxId p.xid, maxNum := max s.maxNum p.num }) ∨
    ((e.ty == SOFA) = false ∧
      (((e.ty == VIEW_T) = true ∧ ∃ v, parseView e = .ok v ∧ s' = { s with views := pass1.alistSetI s.views v.sofa v }) ∨
       ((e.ty == VIEW_T) = false ∧
        ((∃ hp i a, parseFsElem K ts tsIdx s.heap e = .ok (hp, i, a) ∧
          s' = { s with heap := hp, fss := pass1.alistSetI s.fss i a, maxId := max s.maxId i }) ∨
         s' = { s with lenientIds := s.lenientIds ++ lenIds e })))) := by
  unfold step1 at h
  split at h
  · rename_i h1
    refine Or.inl ⟨h1, ?_⟩
    split at h
    · cases h; exact ⟨_, ‹_›, rfl⟩
    · cases h
  · rename_i h1
    refine Or.inr ⟨Bool.not_eq_true _ ▸ h1, ?_⟩
    split at h
    · rename_i h2
      split at h
      · cases h; exact Or.inl ⟨h2, _, ‹_›, rfl⟩
      · cases h
    · rename_i h2
      refine Or.inr ⟨Bool.not_eq_true _ ▸ h2, ?_⟩
      split at h
      · cases h; exact Or.inl ⟨_, _, _, ‹_›, rfl⟩
      · split at h
        · cases h; exact Or.inr rfl
        · cases h
      · cases h

theorem pass1_inv (K : Consts) (ts : TypeSystem) (tsIdx : Nat) (b : Bool) (P : Pass1 → Prop)
    (hstep : ∀ e s s', step1 K ts tsIdx b e s = .ok s' → P s → P s') (d : XDoc) :
    ∀ (s s' : Pass1), pass1 K ts tsIdx b d s = .ok s' → P s → P s' := by
  induction d with
  | nil => intro s s' h hg; rw [pass1_nil] at h; cases h; exact hg
  | cons e es ih =>
    intro s s' h hg
    rw [pass1_cons] at h
    cases hs : step1 K ts tsIdx b e s with
    | error err => rw [hs] at h; cases h
    | ok s1 =>
      rw [hs] at h
      exact ih s1 s' h (hstep e s s1 hs hg)

/-- the state with the list of remembered ids replaced -/
def setL (s : Pass1) (l : List Int) : Pass1 := { s with lenientIds := l }

theorem step1_unknown (K : Consts) (ts : TypeSystem) (tsIdx : Nat) (b : Bool) (e : XElem) (s : Pass1)
    (hu : knownElem ts e = false) :
    step1 K ts tsIdx b e s = if b then .ok (setL s (s.lenientIds ++ lenIds e)) else .error .typeNotFound := by
  unfold knownElem at hu
  simp only [Bool.or_eq_false_iff] at hu
  obtain ⟨⟨h1, h2⟩, h3⟩ := hu
  unfold step1
  simp only [h1, h2, Bool.false_eq_true, if_false]
  have hf : find? ts e.ty = none := by
    cases hf : find? ts e.ty with
    | none => rfl
    | some t => rw [hf] at h3; cases h3
  rw [parseFsElem_getType_error K ts tsIdx s.heap e _ (getTypeExact_of_find_none hf)]
  rfl

theorem step1_known (K : Consts) (ts : TypeSystem) (tsIdx : Nat) (b b' : Bool) (e : XElem) (s : Pass1) (l : List Int)
    (hk : knownElem ts e = true) :
    step1 K ts tsIdx b e (setL s l) = (step1 K ts tsIdx b' e s).map (fun r => setL r l) := by
  unfold step1
  by_cases h1 : (e.ty == SOFA) = true
  · simp only [h1, if_true]
    cases parseSofa e <;> rfl
  · by_cases h2 : (e.ty == VIEW_T) = true
    · simp only [h1, h2, if_true]
      cases parseView e <;> rfl
    · unfold knownElem at hk
      rw [Bool.not_eq_true] at h1 h2
      simp only [h1, h2, Bool.false_or] at hk
      simp only [h1, h2, Bool.false_eq_true, if_false]
      cases hf : find? ts e.ty with
      | none => rw [hf] at hk; cases hk
      | some t =>
        have hg := getTypeExact_of_find hf
        have hn := (parseFsElem_noTnf K ts tsIdx s.heap e t hg).ne
        show (match parseFsElem K ts tsIdx s.heap e with | .ok (hp, i, a) => _ | .error .typeNotFound => _ | .error err => _) = _
        cases hp : parseFsElem K ts tsIdx s.heap e with
        | ok r => rfl
        | error err =>
          rw [hp] at hn
          cases err <;> first | rfl | exact absurd rfl hn

theorem step1_known_lenientIds (K : Consts) (ts : TypeSystem) (tsIdx : Nat) (b : Bool) (e : XElem) (s s1 : Pass1)
    (hk : knownElem ts e = true) (h : step1 K ts tsIdx b e s = .ok s1) : s1.lenientIds = s.lenientIds := by
  have := step1_known K ts tsIdx b b e s s.lenientIds hk
  have hs : setL s s.lenientIds = s := rfl
  rw [hs, h] at this
  have this' : Except.ok s1 = (Except.ok (setL s1 s.lenientIds) : Except Err Pass1) := this
  have h3 := congrArg Pass1.lenientIds (Except.ok.inj this')
  exact h3

theorem step1_known_indep (K : Consts) (ts : TypeSystem) (tsIdx : Nat) (b b' : Bool) (e : XElem) (s : Pass1)
    (hk : knownElem ts e = true) : step1 K ts tsIdx b e s = step1 K ts tsIdx b' e s := by
  have h1 := step1_known K ts tsIdx b b' e s s.lenientIds hk
  have h2 := step1_known K ts tsIdx b' b' e s s.lenientIds hk
  have hs : setL s s.lenientIds = s := rfl
  rw [hs] at h1 h2
  rw [h1, ← h2]

/-! ### a lenient first pass = a first pass over the document without the unknown-typed elements -/

theorem pass1_lenient_filtered (K : Consts) (ts : TypeSystem) (tsIdx : Nat) (doc : XDoc) (s r : Pass1)
    (h : pass1 K ts tsIdx true doc s = .ok r) (b : Bool) (l : List Int) :
    pass1 K ts tsIdx b (doc.filter (knownElem ts)) (setL s l) = .ok (setL r l) := by
  induction doc generalizing s with
  | nil =>
    rw [pass1_nil] at h
    cases h
    rw [List.filter_nil, pass1_nil]
  | cons e es ih =>
    rw [pass1_cons] at h
    cases hk : knownElem ts e with
    | false =>
      rw [step1_unknown K ts tsIdx true e s hk, if_pos rfl] at h
      rw [List.filter_cons_of_neg (by rw [hk]; exact Bool.false_ne_true)]
      exact ih (setL s (s.lenientIds ++ lenIds e)) h
    | true =>
      rw [List.filter_cons_of_pos hk, pass1_cons, step1_known K ts tsIdx b true e s l hk]
      cases hs : step1 K ts tsIdx true e s with
      | error err => rw [hs] at h; cases h
      | ok s1 =>
        rw [hs] at h
        exact ih s1 h

/-! ### id-keyed lookups do not depend on the order of recording -/

theorem findKey_perm {β} (l l' : List (Int × β)) (hp : l.Perm l') (hn : (l.map (·.1)).Nodup) (i : Int) :
    l.find? (fun q => q.1 == i) = l'.find? (fun q => q.1 == i) :=
  Det.find?_perm _ l l' hp fun _ _ ha hb pa pb =>
    Det.inj_of_nodup_map (·.1) l hn ha hb ((eq_of_beq pa).trans (eq_of_beq pb).symm)

theorem alistSetI_length_of_mem {β} (l : List (Int × β)) (k : Int) (v : β) (h : k ∈ l.map (·.1)) :
    (pass1.alistSetI l k v).length = l.length := by
  induction l with
  | nil => cases h
  | cons a l ih =>
    obtain ⟨k', v'⟩ := a
    unfold pass1.alistSetI
    split
    · rfl
    · rename_i hne
      rw [List.map_cons, List.mem_cons] at h
      cases h with
      | inl h => subst h; exact absurd BEq.rfl hne
      | inr h => rw [List.length_cons, List.length_cons, ih h]

theorem alistSetI_of_not_mem {β} (l : List (Int × β)) (k : Int) (v : β) (h : k ∉ l.map (·.1)) :
    pass1.alistSetI l k v = l ++ [(k, v)] := by
  induction l with
  | nil => rfl
  | cons a l ih =>
    obtain ⟨k', v'⟩ := a
    rw [List.map_cons, List.mem_cons, not_or] at h
    unfold pass1.alistSetI
    split
    · rename_i heq
      exact absurd (eq_of_beq heq).symm h.1
    · rw [ih h.2]; rfl

theorem mem_alistSetI {β} {l : List (Int × β)} {k : Int} {v : β} {q : Int × β}
    (h : q ∈ pass1.alistSetI l k v) : q ∈ l ∨ q = (k, v) := by
  induction l with
  | nil =>
    unfold pass1.alistSetI at h
    exact Or.inr (List.mem_singleton.mp h)
  | cons p rest ih =>
    obtain ⟨k', v'⟩ := p
    unfold pass1.alistSetI at h
    split at h
    · rcases List.mem_cons.mp h with h | h
      · exact Or.inr h
      · exact Or.inl (List.mem_cons_of_mem _ h)
    · rcases List.mem_cons.mp h with h | h
      · exact Or.inl (h ▸ List.mem_cons_self)
      · rcases ih h with h | h
        · exact Or.inl (List.mem_cons_of_mem _ h)
        · exact Or.inr h

theorem alistSetI_map {β γ} (g : β → γ) (l : List (Int × β)) (k : Int) (v : β) :
    pass1.alistSetI (l.map (fun q => (q.1, g q.2))) k (g v) =
      (pass1.alistSetI l k v).map (fun q => (q.1, g q.2)) := by
  induction l with
  | nil => rfl
  | cons p rest ih =>
    obtain ⟨k', v'⟩ := p
    rw [List.map_cons]
    unfold pass1.alistSetI
    by_cases hk : (k' == k) = true
    · rw [if_pos hk, if_pos hk]
      rfl
    · rw [if_neg hk, if_neg hk, List.map_cons, ih]

/-- the id-keyed table after recording the entries `l` in order (`pass1.alistSetI`: an entry whose id is present overwrites
    in place, a new id is appended) -/
def setAll {β} (acc : List (Int × β)) (l : List (Int × β)) : List (Int × β) :=
  l.foldl (fun a p => pass1.alistSetI a p.1 p.2) acc

theorem setAll_cons {β} (acc : List (Int × β)) (p : Int × β) (l : List (Int × β)) :
    setAll acc (p :: l) = setAll (pass1.alistSetI acc p.1 p.2) l := rfl

theorem setAll_length_le {β} (l : List (Int × β)) : ∀ acc : List (Int × β),
    (setAll acc l).length ≤ acc.length + l.length := by
  induction l with
  | nil => intro acc; exact Nat.le_refl _
  | cons p l ih =>
    intro acc
    rw [setAll_cons]
    have h1 := ih (pass1.alistSetI acc p.1 p.2)
    by_cases hm : p.1 ∈ acc.map (·.1)
    · rw [alistSetI_length_of_mem acc p.1 p.2 hm] at h1
      rw [List.length_cons]; omega
    · rw [alistSetI_of_not_mem acc p.1 p.2 hm] at h1 ⊢
      rw [List.length_append] at h1
      rw [List.length_cons]
      simp only [List.length_cons, List.length_nil] at h1
      omega

theorem setAll_length_eq {β} (l : List (Int × β)) : ∀ acc : List (Int × β),
    (setAll acc l).length = acc.length + l.length → (acc.map (·.1)).Nodup → ((acc ++ l).map (·.1)).Nodup := by
  induction l with
  | nil => intro acc _ hn; rw [List.append_nil]; exact hn
  | cons p l ih =>
    intro acc hlen hn
    obtain ⟨k, v⟩ := p
    have hlen : (setAll (pass1.alistSetI acc k v) l).length = acc.length + ((k, v) :: l).length := hlen
    by_cases hm : k ∈ acc.map (·.1)
    · have h1 := setAll_length_le l (pass1.alistSetI acc k v)
      rw [alistSetI_length_of_mem acc k v hm] at h1
      rw [List.length_cons] at hlen
      omega
    · rw [alistSetI_of_not_mem acc k v hm] at hlen
      have hn2 : ((acc ++ [(k, v)]).map (·.1)).Nodup := by
        rw [List.map_append, List.nodup_append]
        refine ⟨hn, by simp, ?_⟩
        intro a ha b hb
        simp only [List.map_cons, List.map_nil, List.mem_singleton] at hb
        subst hb
        intro hab; subst hab; exact hm ha
      have := ih (acc ++ [(k, v)]) (by rw [hlen, List.length_append, List.length_cons, List.length_cons, List.length_nil]; omega) hn2
      rw [List.append_assoc] at this
      exact this

theorem setAll_nodup {β} (l : List (Int × β)) : ∀ acc : List (Int × β),
    ((acc ++ l).map (·.1)).Nodup → setAll acc l = acc ++ l := by
  induction l with
  | nil => intro acc _; rw [List.append_nil]; rfl
  | cons p l ih =>
    intro acc hn
    have hm : p.1 ∉ acc.map (·.1) := by
      rw [List.map_append, List.nodup_append] at hn
      intro hm
      exact hn.2.2 _ hm _ (List.mem_map_of_mem (f := fun q : Int × β => q.1) (List.mem_cons_self ..)) rfl
    obtain ⟨k, v⟩ := p
    rw [setAll_cons, alistSetI_of_not_mem acc k v hm]
    have : acc ++ (k, v) :: l = (acc ++ [(k, v)]) ++ l := by rw [List.append_assoc]; rfl
    rw [this] at hn ⊢
    exact ih (acc ++ [(k, v)]) hn

/-- into the empty table: as many entries as insertions means that no insertion overwrote, so the ids are distinct -/
theorem setAll_nil_nodup {β} {l : List (Int × β)} (h : (setAll [] l).length = l.length) : (l.map (·.1)).Nodup := by
  simpa using setAll_length_eq l [] (by simpa using h) List.nodup_nil

theorem setAll_nil {β} {l : List (Int × β)} (h : (l.map (·.1)).Nodup) : setAll [] l = l := by
  simpa using setAll_nodup l [] (by simpa using h)

/-- the entry a sofa element contributes to the table of sofas -/
def sofaEntry (e : XElem) : Option (Int × PSofa) :=
  if e.ty == SOFA then
    match parseSofa e with
    | .ok p => some (p.xid, p)
    | .error _ => none
  else none

theorem step1_sofas (K : Consts) (ts : TypeSystem) (tsIdx : Nat) (b : Bool) (e : XElem) (s s1 : Pass1)
    (h : step1 K ts tsIdx b e s = .ok s1) :
    s1.sofas = setAll s.sofas (sofaEntry e).toList ∧
      ([e].filter (fun e => e.ty == SOFA)).length = (sofaEntry e).toList.length := by
  unfold sofaEntry
  rcases step1_ok h with ⟨h1, p, hp, rfl⟩ | ⟨h1, hrest⟩
  · rw [if_pos h1, hp, List.filter_cons_of_pos (p := fun e : XElem => e.ty == SOFA) h1]
    exact ⟨rfl, rfl⟩
  · have h1' : ¬ (e.ty == SOFA) = true := by rw [h1]; exact Bool.false_ne_true
    rw [if_neg h1', List.filter_cons_of_neg (p := fun e : XElem => e.ty == SOFA) h1']
    refine ⟨?_, rfl⟩
    rcases hrest with ⟨_, v, _, rfl⟩ | ⟨_, ⟨hp', i, a, _, rfl⟩ | rfl⟩ <;> rfl

theorem setAll_append {β} (acc l1 l2 : List (Int × β)) : setAll acc (l1 ++ l2) = setAll (setAll acc l1) l2 := by
  unfold setAll; rw [List.foldl_append]

theorem pass1_sofas (K : Consts) (ts : TypeSystem) (tsIdx : Nat) (b : Bool) (doc : XDoc) : ∀ (s r : Pass1),
    pass1 K ts tsIdx b doc s = .ok r →
    r.sofas = setAll s.sofas (doc.filterMap sofaEntry) ∧
      (doc.filter (fun e => e.ty == SOFA)).length = (doc.filterMap sofaEntry).length := by
  induction doc with
  | nil => intro s r h; rw [pass1_nil] at h; cases h; exact ⟨rfl, rfl⟩
  | cons e es ih =>
    intro s r h
    rw [pass1_cons] at h
    cases hs : step1 K ts tsIdx b e s with
    | error err => rw [hs] at h; cases h
    | ok s1 =>
      rw [hs] at h
      obtain ⟨h1, h2⟩ := step1_sofas K ts tsIdx b e s s1 hs
      obtain ⟨h3, h4⟩ := ih s1 r h
      have hfm : (e :: es).filterMap sofaEntry = (sofaEntry e).toList ++ es.filterMap sofaEntry := by
        rw [List.filterMap_cons]; cases sofaEntry e <;> rfl
      have hf : (e :: es).filter (fun e => e.ty == SOFA) = [e].filter (fun e => e.ty == SOFA) ++ es.filter (fun e => e.ty == SOFA) := by
        rw [← List.filter_append]; rfl
      rw [hfm, hf, setAll_append, ← h1, ← h3, List.length_append, List.length_append, h2, h4]
      exact ⟨rfl, rfl⟩

end Cassis.Xmi
