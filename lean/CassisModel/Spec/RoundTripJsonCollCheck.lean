/-
A computable test "the JSON round-trip theorem with collections (`Properties/C02RoundTripColl.lean`,
`json_roundtrip_coll`) applies to this CAS": Boolean checkers for the fragment `JCollFs`
(`Spec/RoundTripJsonCollFrag.lean`) and the conjunction `jcollAppliesB` of the checkers of all hypotheses (the others are
those of `Spec/RoundTripCheck.lean`).  Soundness: `Proofs/RoundTripJsonCollCheckSound.lean`; `Properties/C02AppliesColl.lean`
derives the conclusion of the theorem from `jcollAppliesB … = true`.

The second half of the file evaluates the round trip on the instance `CollDemo` of `Spec/RoundTripCollCheck.lean` (every
collection kind, inlined and shared) and on variations of it: the counterexamples for the side conditions (J1), (J2) of
the fragment and the cases JSON admits beyond the XMI fragment.

This file imports specification files only (the compiled driver imports it).
-/
import CassisModel.Spec.RoundTripJsonCollFrag
import CassisModel.Spec.RoundTripCollCheck

namespace Cassis.Json
open Cassis.TS Cassis.Traverse Cassis.Xmi

/-! ### Checkers for the parts of `JCollFs` -/

/-- `JsonFs ts hp a` -/
def jsonOkB (ts : TypeSystem) (hp : Heap) (a : Nat) : Bool :=
  match hp[a]? with
  | none => true
  | some o =>
    match find? ts o.ty with
    | none => true
    | some t =>
      !(o.ty.endsWith "[]") &&
      (allFeatures t).all (fun f =>
        !(f.name.startsWith "@") && !(f.name.startsWith "#") && !(f.name.startsWith "%") &&
        (if f.name = "begin" ∨ f.name = "end" then (f.domain == ANNOTATION) == isInstanceOf ts o.ty ANNOTATION else true))

/-- `SpineEnds hp b` -/
def spineEndsB (hp : Heap) (b : Nat) : Bool :=
  match collectList hp (hp.length + 1) (.ref b) with
  | .ok _ => true
  | .error _ => false

/-- the value of a reference feature -/
def jrefOkB (K : Consts) (hp : Heap) (f : Feature) : Val → Bool
  | .none => true
  | .ref b => !(isInline K f) || isArray K f.range || spineEndsB hp b
  | _ => false

/-- `JFeatOk K ts c ci hp isAnn o f` -/
def jfeatOkB (K : Consts) (ts : TypeSystem) (c : Cas) (ci : Nat) (hp : Heap) (isAnn : Bool) (o : Obj) (f : Feature) :
    Bool :=
  decide (ResOk f) && decide (f.name ≠ "xmiID") && decide (f.name ≠ "type") && decide (f.name ≠ "self") &&
  decide (f.name ≠ ID) &&
  match alistGet? o.slots f.name with
  | none => false
  | some v =>
    (decide (f.name = "sofa") && sofaOkB c ci isAnn v) ||
    (decide (f.name ≠ "sofa") && isPrimitive K ts f.range && primOkB f.range v) ||
    (decide (f.name ≠ "sofa") && !isPrimitive K ts f.range &&
      decide (f.range ≠ "uima.cas.Boolean") && decide (f.range ≠ "uima.cas.Double") && decide (f.range ≠ "uima.cas.Float") &&
      jrefOkB K hp f v)

/-- `JGenFs K ts c ci hp a` -/
def jgenFsB (K : Consts) (ts : TypeSystem) (c : Cas) (ci : Nat) (hp : Heap) (a : Nat) : Bool :=
  match hp[a]? with
  | none => false
  | some o =>
    match find? ts o.ty with
    | none => false
    | some t =>
      decide (t.name = o.ty) && decide (isArray K o.ty = false) && decide (isList K o.ty = false) &&
      decide (t.super ≠ some ARRAY_BASE) && decide (isPrimitiveArray K o.ty = false) && decide (o.ty ≠ FS_ARRAY) &&
      decide (isInstanceOf ts o.ty STRING_ARRAY = false) && decide (o.ty ≠ SOFA) && decide (o.ty ≠ VIEW_T) &&
      decide ((ctorFields t).Nodup) && decide (o.slots.map (·.1) = (ctorFields t).eraseDups) &&
      (allFeatures t).all (fun f => jfeatOkB K ts c ci hp (isInstanceOf ts o.ty ANNOTATION) o f) &&
      (!isInstanceOf ts o.ty ANNOTATION || annOkB c ci o)

/-- `JPrimElems ty ev` -/
def jprimElemsB (ty : String) : Val → Bool
  | .refs l => l.isEmpty
  | .ints _ => decide (ty = "uima.cas.ByteArray") || !floatArrTyB ty
  | .floats _ => floatArrTyB ty
  | .bools _ => decide (ty ≠ "uima.cas.ByteArray") && !floatArrTyB ty
  | .strs _ => decide (ty ≠ "uima.cas.ByteArray") && !floatArrTyB ty
  | _ => false

def isRefsV : Val → Bool
  | .refs _ => true
  | _ => false

/-- `JArrFs K ts hp a` -/
def jarrFsB (K : Consts) (ts : TypeSystem) (hp : Heap) (a : Nat) : Bool :=
  match hp[a]? with
  | none => false
  | some o =>
    match find? ts o.ty with
    | none => false
    | some t =>
      match allFeatures t, o.slots with
      | [f], [(n, ev)] =>
        decide (t.name = o.ty) && decide (t.super = some ARRAY_BASE) && decide (f.name = "elements") &&
        decide (f.reserved = false) && decide (n = "elements") &&
        decide (isInstanceOf ts o.ty ANNOTATION = false) && decide (o.ty ≠ SOFA) &&
        ( (decide (o.ty = FS_ARRAY) && decide (isPrimitiveArray K FS_ARRAY = false) && isRefsV ev)
        || (decide (o.ty ≠ FS_ARRAY) && decide (isPrimitiveArray K o.ty = true) && jprimElemsB o.ty ev) )
      | _, _ => false

/-- `JCollFs K ts c ci hp a` -/
def jcollFsB (K : Consts) (ts : TypeSystem) (c : Cas) (ci : Nat) (hp : Heap) (a : Nat) : Bool :=
  (jgenFsB K ts c ci hp a || jarrFsB K ts hp a) && jsonOkB ts hp a

/-- hypothesis `hids` of `json_roundtrip_coll`: every indexed structure carries an id in the heap handed to the writer -/
def memberIdsB (c : Cas) (hp : Heap) : Bool :=
  c.views.all (fun nv => (Index.all nv.2.idx).all (fun e => (xidOf hp e.oid).isSome))

/-! ### The test -/

/-- every hypothesis of `json_roundtrip_coll` holds for the CAS `cass[ci]` over the heap `hp` -/
def jcollAppliesB (K : Consts) (ts : TypeSystem) (cass : List Cas) (ci : Nat) (hp : Heap) : Bool :=
  match cass[ci]? with
  | none => false
  | some c =>
    match saveJson K ts cass ci hp .none with
    | .error _ => false
    | .ok (_, st) =>
      rtWfB c hp && st.allFs.all (fun q => jcollFsB K ts c ci st.heap q.2) && memberIdsB c hp &&
      disjointB st.allFs c && memSofaB c st.heap && membersOkB c st.heap

/-! ### The conclusion of the theorem as a computable test (for experiments and the counterexamples) -/

/-- the features of the collected structures whose content differs after `saveJson … .none` / `loadJson … false false`
    (`none`: the structure is missing or of another type; `(0, "views")`: the views differ); `.error`: writer or reader
    raised.  The id map of the reader is recomputed with the reader's first two passes. -/
def roundTripDiffsJ (K : Consts) (ts : TypeSystem) (cass : List Cas) (ci : Nat) (hp : Heap) (tsIdx ci' : Nat) :
    Except Err (List (Int × Option String)) := do
  let (doc, st) ← saveJson K ts cass ci hp .none
  let s1 ← sofaPass K ts tsIdx ci' doc.fss doc.fss { cas := Cas.empty, heap := st.heap }
  let s ← fsPass K ts tsIdx doc.fss s1
  let ld ← loadJson K ts tsIdx ci' false false st.heap doc
  let c ← match cass[ci]? with | some c => pure c | none => throw .keyError
  let viewsOk := decide (ld.cas.views.map (viewContent ld.heap) = c.views.map (viewContent st.heap))
  let ds := st.allFs.flatMap (fun q =>
    match lookup s.fss q.1, st.heap[q.2]? with
    | some (.ref a'), some o =>
      match ld.heap[a']?, find? ts o.ty with
      | some o', some t =>
        if o'.ty == o.ty && o'.xid == some q.1 then
          (allFeatures t).filterMap (fun f =>
            if CVal.beq (featContentC K ld.heap a' f) (featContentC K st.heap q.2 f) then none else some (q.1, some f.name))
        else [(q.1, none)]
      | _, _ => [(q.1, none)]
    | _, _ => [(q.1, none)])
  pure (if viewsOk then ds else (0, some "views") :: ds)

/-! ## The instance `CollDemo` and its variations -/

namespace JCollDemo
open Cassis.Xmi.CollDemo

/-- `run h` = (`jcollAppliesB`, `collAppliesB` (the XMI test, for comparison), `roundTripDiffsJ`) on the demo CAS over the
    heap `h`; every heap below is the demo heap with one object replaced.  The evaluated results are in the comments
    (`#eval allRuns` at the end re-evaluates them); every `okj_…` run evaluates to `(true, _, ok [])` — the JSON test
    accepts and nothing differs — with the XMI test answering `false` except for `okj_cyclic_shared`,
    `okj_inline_shared_twice`, `okj_inline_and_shared`. -/
def run (h : Heap) : Bool × Bool × Except Err (List (Int × Option String)) :=
  (jcollAppliesB K ts [cas] 0 h, collAppliesB K ts [cas] 0 h, roundTripDiffsJ K ts [cas] 0 h 0 1)

/-- the instance itself -/
def cxj_demo := run hp                                                       -- (true, true, ok [])
/-- (J1) an array object with `elements = None` comes back with `elements = []`: shared IntegerArray / FSArray (both
    admitted by the XMI fragment), an inlined IntegerArray, a StringArray object -/
def cxj_obj_elements_none := run (hp.set 24 (arr "uima.cas.IntegerArray" .none))       -- (false, true, ok [(19, "elements")])
def cxj_obj_elements_none_fs := run (hp.set 23 (arr "uima.cas.FSArray" .none))         -- (false, true, ok [(18, "elements")])
def cxj_inline_elements_none := run (hp.set 2 (arr "uima.cas.IntegerArray" .none))     -- (false, false, ok [(4, "elements")])
def cxj_strarray_obj_none := run (hp.set 25 (arr "uima.cas.StringArray" .none))        -- (false, false, ok [(20, "elements")])
/-- (J2) a cyclic spine of an inlined list: written and read, the unrolled content differs in length -/
def cxj_cyclic_spine := run (hp.set 14 (node "uima.cas.NonEmptyFSList" (.ref 0) (.ref 13)))   -- (false, false, ok [(2, "fsl")])
/-- … whereas a cyclic *shared* list is no problem (compared node by node) -/
def okj_cyclic_shared := run (hp.set 27 (node "uima.cas.NonEmptyFSList" (.ref 1) (.ref 27)))  -- (true, true, ok [])
/-- admitted beyond the XMI fragment: null elements of FSArrays (inlined / shared) -/
def okj_fsarray_null := run (hp.set 11 (arr "uima.cas.FSArray" (.refs [some 1, none])))
def okj_fsarray_null_shared := run (hp.set 23 (arr "uima.cas.FSArray" (.refs [none, some 1, none])))
/-- … an empty inlined StringList -/
def okj_inline_strlist_empty := run (setSlot0 hp "sl" (.ref 20))
/-- … float tokens with blanks / empty, special values -/
def okj_float_token_blank := run (hp.set 7 (arr "uima.cas.FloatArray" (.floats ["1.5 2.5", "", "NaN", "-Infinity"])))
def okj_float_list_token_empty := run (hp.set 18 (node "uima.cas.NonEmptyFloatList" (.float "") (.ref 19)))
/-- … bytes outside `0 … 255` (the document level carries the integers) -/
def okj_byte_range := run (hp.set 5 (arr "uima.cas.ByteArray" (.ints [256, -1])))
/-- … null heads of inlined lists -/
def okj_fslist_null_head := run (hp.set 14 (node "uima.cas.NonEmptyFSList" .none (.ref 12)))
def okj_intlist_null_head := run (hp.set 17 (node "uima.cas.NonEmptyIntegerList" .none (.ref 15)))
/-- … an element kind that does not fit the array type -/
def okj_int_array_of_strings := run (hp.set 2 (arr "uima.cas.IntegerArray" (.strs [some "a", none])))
/-- rejected by the writer: a non-empty list of references / of floats in an integer array -/
def cxj_int_array_of_refs := run (hp.set 2 (arr "uima.cas.IntegerArray" (.refs [some 1])))    -- (false, false, error TypeError)
def cxj_int_array_of_floats := run (hp.set 2 (arr "uima.cas.IntegerArray" (.floats ["1.5"])))  -- (false, false, error TypeError)
def cxj_float_array_of_ints := run (hp.set 7 (arr "uima.cas.FloatArray" (.ints [1])))         -- (false, false, error TypeError)
/-- no condition: an inlined array shared by two features, or inlined and referenced as a shared one as well -/
def okj_inline_shared_twice := run (setSlot0 hp "sha" (.ref 2))
def okj_inline_and_shared := run (setSlot0 hp "mia" (.ref 2))
/-- an inlined array feature that refers to something that is not an array -/
def okj_inline_not_array := run (setSlot0 hp "ia" (.ref 1))

def allRuns : List (String × Bool × Bool × String) :=
  [ ("cxj_demo", cxj_demo), ("cxj_obj_elements_none", cxj_obj_elements_none),
    ("cxj_obj_elements_none_fs", cxj_obj_elements_none_fs), ("cxj_inline_elements_none", cxj_inline_elements_none),
    ("cxj_strarray_obj_none", cxj_strarray_obj_none), ("cxj_cyclic_spine", cxj_cyclic_spine),
    ("okj_cyclic_shared", okj_cyclic_shared),
    ("okj_fsarray_null", okj_fsarray_null), ("okj_fsarray_null_shared", okj_fsarray_null_shared),
    ("okj_inline_strlist_empty", okj_inline_strlist_empty), ("okj_float_token_blank", okj_float_token_blank),
    ("okj_float_list_token_empty", okj_float_list_token_empty), ("okj_byte_range", okj_byte_range),
    ("okj_fslist_null_head", okj_fslist_null_head), ("okj_intlist_null_head", okj_intlist_null_head),
    ("okj_int_array_of_strings", okj_int_array_of_strings), ("cxj_int_array_of_refs", cxj_int_array_of_refs),
    ("cxj_int_array_of_floats", cxj_int_array_of_floats), ("cxj_float_array_of_ints", cxj_float_array_of_ints),
    ("okj_inline_shared_twice", okj_inline_shared_twice), ("okj_inline_and_shared", okj_inline_and_shared),
    ("okj_inline_not_array", okj_inline_not_array) ].map
  (fun (n, r) => (n, r.1, r.2.1, match r.2.2 with
    | .ok l => s!"ok {l.map (fun (d : Int × Option String) => (d.1, d.2.getD "?"))}"
    | .error e => s!"error {e}"))

#eval allRuns

end JCollDemo

/-! ## Reserved names

The JSON counterpart of the section "Reserved names" of `Spec/RoundTripCollCheck.lean`: every feature of `x.Doc` in
turn as the reserved feature `self_` / `type_` (written under the key `self` / `type`, `@self` / `@type` for
references), and the type system made with `createFeature`.  Every run evaluates to `(true, ok [])`. -/

namespace JResDemo
open Cassis.Xmi.CollDemo Cassis.Xmi.ResDemo

def run (n stored : String) : Bool × Except Err (List (Int × Option String)) :=
  (jcollAppliesB K (resTs n stored) [cas] 0 (resHp n stored), roundTripDiffsJ K (resTs n stored) [cas] 0 (resHp n stored) 0 1)

def allRuns : List (String × String × Bool × String) :=
  (docRec.own.map (·.name)).flatMap (fun n =>
    ["self_", "type_"].map (fun stored => (n, stored, (run n stored).1, showDiffs (run n stored).2)))

/-- (test, differences, the keys of the first structure of the type `x.R`) -/
def viaCreate : Bool × Except Err (List (Int × Option String)) × Option (List String) :=
  (jcollAppliesB K tsC [casC] 0 hpC, roundTripDiffsJ K tsC [casC] 0 hpC 0 1,
   match saveJson K tsC [casC] 0 hpC .none with
   | .ok (doc, _) => (doc.fss.find? (fun j => j.ty == "x.R")).map (fun j => j.feats.map (·.1))
   | .error _ => none)

-- 44 runs, each `(feature, stored name, true, "ok []")`:
#eval allRuns
#eval allRuns.all (fun r => r.2.2.1 && r.2.2.2 == "ok []")          -- true
-- (true, ok [], keys self, @type, @peer, begin, end, @sofa):
#eval (viaCreate.1, showDiffs viaCreate.2.1, viaCreate.2.2)
-- the flat instance: (true, "ok []")
#eval (jcollAppliesB K flatTs [flatCas] 0 flatHp, showDiffs (roundTripDiffsJ K flatTs [flatCas] 0 flatHp 0 1))

end JResDemo

end Cassis.Json
