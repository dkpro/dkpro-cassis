/-
Specification-side definitions for order independence of `merge_typesystems` (C13).
-/
import CassisModel.Model.Merge
import CassisModel.Spec.MergeSelf

namespace Cassis.TS

/-- what C13 compares across argument orders: the types, their supertypes (hence children) and effective features
    (as `Feature.__eq__` compares features).  The *description of a type* is that of whichever declaration is processed
    first and is not promised to be order independent (the property does not mention it). -/
def SameHier (ts ts' : TypeSystem) : Prop :=
  ∀ n, match find? ts n, find? ts' n with
    | some t, some t' => t'.super = t.super ∧ t'.children.Perm t.children ∧
        ((allFeatures t').map featKey).Perm ((allFeatures t).map featKey)
    | none, none => True
    | _, _ => False

/-- every name is declared with one and the same supertype throughout: nothing competes for a supertype -/
def OneSuper (decls : List Decl) : Prop :=
  ∀ d ∈ decls, ∀ d' ∈ decls, d.name = d'.name → d.super = d'.super

/-- the declarations are those of user types of well-formed inputs: qualified, not predefined names -/
def UserDecls (K : Consts) (decls : List Decl) : Prop :=
  ∀ d ∈ decls, K.predefined.contains d.name = false ∧ d.name.contains '.' = true

end Cassis.TS
