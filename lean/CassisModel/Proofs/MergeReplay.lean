/-
What it means for a type system `m` under construction to be a part of a type system `o`, and why replaying inside `o`
what `o` contains cannot fail: features up to `Feature.__eq__` (`CovIn`; `CovD` for the own features of a declaration),
the simulation invariant `SubP o X m` (every record of `m` is a record of `o` with a supertype that is an ancestor in
`o` — the same one outside the names `X`, which may still move down —, covered features and children below it) along
`pushInherited`, `addFeature`, `createType`; and `Sub o m`, the case without exceptions and with equal descriptions,
which the loaders of type system descriptions are run under.
-/
import CassisModel.Spec.MergeSelf
import CassisModel.Proofs.MergeFeatInvPush
import CassisModel.Proofs.Merge
import CassisModel.Proofs.ApiHistory

namespace Cassis.TS

theorem featKey_eq_iff (f g : Feature) : featKey f = featKey g ↔ featureEq f g = true := by
  rw [featureEq_iff]
  unfold featKey
  simp only [Prod.mk.injEq]

abbrev eff (t : TypeRec) : List Feature := t.own ++ t.inh

theorem dedup_keys_nodup : ∀ (l seen : List Feature), ((dedupFeatures l seen).map featKey).Nodup := by
  intro l
  induction l with
  | nil => intro seen; simp [dedupFeatures]
  | cons f fs ih =>
    intro seen
    unfold dedupFeatures
    split
    · exact ih seen
    · simp only [List.map_cons, List.nodup_cons]
      refine ⟨?_, ih _⟩
      intro hmem
      obtain ⟨x, hx, hxk⟩ := List.mem_map.mp hmem
      have h1 : featureEq f x = true := (featKey_eq_iff f x).mp hxk.symm
      have h2 := dedup_not_seen fs (seen ++ [f]) x hx f (by simp)
      rw [h1] at h2; cases h2

theorem mem_keys_allFeatures (t : TypeRec) (k : String × Option String × String × String) :
    k ∈ (allFeatures t).map featKey ↔ ∃ f ∈ eff t, featKey f = k := by
  constructor
  · intro h
    obtain ⟨x, hx, e⟩ := List.mem_map.mp h
    exact ⟨x, allFeatures_sub hx, e⟩
  · rintro ⟨f, hf, e⟩
    obtain ⟨y, hy, hyf⟩ := allFeatures_cover hf
    exact List.mem_map.mpr ⟨y, hy, ((featKey_eq_iff y f).mpr hyf).trans e⟩

theorem keys_perm_of_cover (t t' : TypeRec)
    (h1 : ∀ f ∈ eff t, ∃ g ∈ eff t', featureEq g f = true)
    (h2 : ∀ f ∈ eff t', ∃ g ∈ eff t, featureEq g f = true) :
    ((allFeatures t').map featKey).Perm ((allFeatures t).map featKey) := by
  have n1 : ((allFeatures t').map featKey).Nodup := dedup_keys_nodup _ _
  have n2 : ((allFeatures t).map featKey).Nodup := dedup_keys_nodup _ _
  rw [List.perm_ext_iff_of_nodup n1 n2]
  intro k
  rw [mem_keys_allFeatures, mem_keys_allFeatures]
  constructor
  · rintro ⟨f, hf, e⟩
    obtain ⟨g, hg, hgf⟩ := h2 f hf
    exact ⟨g, hg, ((featKey_eq_iff g f).mpr hgf).trans e⟩
  · rintro ⟨f, hf, e⟩
    obtain ⟨g, hg, hgf⟩ := h1 f hf
    exact ⟨g, hg, ((featKey_eq_iff g f).mpr hgf).trans e⟩

theorem featureEq_setDomain (g f : Feature) (n : String) :
    featureEq g { f with domain := n } = featureEq g f := rfl

/-- `f` is (up to `featureEq`) an effective feature of the type named `c` in `o` -/
def CovIn (o : TypeSystem) (c : String) (f : Feature) : Prop :=
  ∃ tc, find? o c = some tc ∧ ∃ g ∈ eff tc, featureEq g f = true

/-- `d.own` is covered (up to `Feature.__eq__`) by the effective features of the record named `d.name` -/
def CovD (ts : TypeSystem) (d : Decl) : Prop :=
  ∃ t', find? ts d.name = some t' ∧ ∀ f ∈ d.own, ∃ g ∈ eff t', featureEq g f = true

theorem CovD.covIn {ts : TypeSystem} {d : Decl} (h : CovD ts d) : ∀ f ∈ d.own, CovIn ts d.name f :=
  let ⟨t, ht, hc⟩ := h
  fun f hf => ⟨t, ht, hc f hf⟩

theorem CovD.of_covIn {ts : TypeSystem} {d : Decl} (hreg : hasExact ts d.name = true)
    (h : ∀ f ∈ d.own, CovIn ts d.name f) : CovD ts d := by
  obtain ⟨t, ht⟩ := (hasExact_iff_find _ _).mp hreg
  refine ⟨t, ht, fun f hf => ?_⟩
  obtain ⟨t', ht', hg⟩ := h f hf
  rw [ht] at ht'; cases ht'
  exact hg

theorem covIn_anc {o : TypeSystem} (hfo : FeatInv o) {a b : String} {f : Feature}
    (h : CovIn o a f) (hab : Anc o a b) : CovIn o b f := by
  obtain ⟨ta, hta, g, hg, hgf⟩ := h
  obtain ⟨tb, htb⟩ := (hasExact_iff_find o b).mp hab.right_reg
  obtain ⟨g', hg', hgg, _⟩ := chain_down hfo hab hta htb g hg
  exact ⟨tb, htb, g', hg', featureEq_trans hgg hgf⟩

theorem cov_agree {o : TypeSystem} (hfo : FeatInv o) {n : String} {to : TypeRec} (hto : find? o n = some to)
    {g0 f0 g f : Feature} (hg0 : g0 ∈ eff to) (hf0 : f0 ∈ eff to)
    (hg : featureEq g0 g = true) (hf : featureEq f0 f = true) (hn : g.name = f.name) :
    featureEq g f = true := by
  have hn0 : g0.name = f0.name := by
    rw [featureEq_name hg, featureEq_name hf, hn]
  have := hfo.coherent (find?_mem hto) g0 hg0 f0 hf0 hn0
  exact featureEq_trans (featureEq_symm hg) (featureEq_trans this hf)

/-! ### The part-of relation, descriptions of types aside -/

/-- the record `tm` (named `n`) of the merged type system against the record `to` of `o`, the weak form: descriptions are
    not compared, and supertype and children of `tm` need only be an ancestor and descendants of `n` in `o` -/
structure SubRecP (o : TypeSystem) (X : String → Prop) (n : String) (tm to : TypeRec) : Prop where
  /-- the same supertype — except for the names in `X`, which the merge may still move down: the document annotation
      type, which a fresh type system registers below `uima.tcas.Annotation`, or names declared with
      competing supertypes -/
  super : ¬ X n → to.super = tm.super
  superW : ∀ s, tm.super = some s → Anc o s n
  feats : ∀ f ∈ eff tm, ∃ g ∈ eff to, featureEq g f = true
  kids : ∀ c ∈ tm.children, Anc o n c

/-- everything `m` declares, `o` declares too, at or below the place `m` gives it (at that place outside `X`) -/
def SubP (o : TypeSystem) (X : String → Prop) (m : TypeSystem) : Prop :=
  ∀ n tm, find? m n = some tm → ∃ to, find? o n = some to ∧ SubRecP o X n tm to

variable {X : String → Prop}

theorem anc_subP {o m : TypeSystem} (hs : SubP o X m) {a b : String} : Anc m a b → Anc o a b :=
  Anc.mono (fun a ha => let ⟨t, ht⟩ := (hasExact_iff_find m a).mp ha; let ⟨to, hto, _⟩ := hs a t ht
      (hasExact_iff_find o a).mpr ⟨to, hto⟩)
    fun b tb s hf hsb _ hab => let ⟨_, _, hr⟩ := hs b tb hf; hab.trans (hr.superW s hsb)

theorem CovIn.mono {a b : TypeSystem} {c : String} {f : Feature} (h : CovIn a c f) (hs : SubP b X a) : CovIn b c f := by
  obtain ⟨t, ht, g, hg, hgf⟩ := h
  obtain ⟨t', ht', hr⟩ := hs c t ht
  obtain ⟨g', hg', e⟩ := hr.feats g hg
  exact ⟨t', ht', g', hg', featureEq_trans e hgf⟩

theorem subP_agree {o ts : TypeSystem} (hfo : FeatInv o) (hs : SubP o X ts) {c : String} {t : TypeRec}
    {f g : Feature} (hf : find? ts c = some t) (hcov : CovIn o c f) (hg : g ∈ eff t) (hgn : g.name = f.name) :
    featureEq g f = true := by
  obtain ⟨to, hto, hr⟩ := hs c t hf
  obtain ⟨g0, hg0, hgg⟩ := hr.feats g hg
  obtain ⟨tc, htc, f0, hf0, hff⟩ := hcov
  rw [hto] at htc; cases htc
  exact cov_agree hfo hto hg0 hf0 hgg hff hgn

theorem subP_setRec {o ts : TypeSystem} (hs : SubP o X ts) {c : String} {t r : TypeRec} {f : Feature}
    (hf : find? ts c = some t) (hcov : CovIn o c f) (hn : r.name = t.name) (hsup : r.super = t.super)
    (hk : r.children = t.children) (heff : ∀ g ∈ eff r, g ∈ eff t ∨ g = f) : SubP o X (setRec ts r) := by
  intro n tm hn'
  by_cases hnc : n = c
  · subst hnc
    rw [find?_setRec_eq ts r t (hn.trans (find?_name hf)) hf] at hn'
    cases hn'
    obtain ⟨to, hto, hr⟩ := hs n t hf
    obtain ⟨tc, htc, f0, hf0, hff⟩ := hcov
    rw [hto] at htc; cases htc
    refine ⟨to, hto, by rw [hsup]; exact hr.super, by rw [hsup]; exact hr.superW, ?_, by rw [hk]; exact hr.kids⟩
    intro g hg
    rcases heff g hg with h | rfl
    · exact hr.feats g h
    · exact ⟨f0, hf0, hff⟩
  · rw [find?_setRec_ne ts r (by rw [hn, find?_name hf]; exact hnc)] at hn'
    exact hs n tm hn'

theorem push_subP (o : TypeSystem) (hfo : FeatInv o) (f : Feature) (fuel : Nat) (ts : TypeSystem)
    (cs : List String) :
    SubP o X ts → (∀ c ∈ cs, CovIn o c f) →
      (∀ e, pushInherited f fuel ts cs = .error e → e = .outOfFuel) ∧
      (∀ ts', pushInherited f fuel ts cs = .ok ts' → SubP o X ts') := by
  fun_induction pushInherited f fuel ts cs with
  | case1 =>
    intro _ _
    exact ⟨fun e h => (by cases h; rfl), fun ts' h => (by cases h)⟩
  | case2 =>
    intro hs _
    exact ⟨fun e h => (by cases h), fun ts' h => (by cases h; exact hs)⟩
  | case3 fuel ts c cs hf ih =>
    intro hs hcov
    exact ih hs (fun c' hc' => hcov c' (List.mem_cons_of_mem _ hc'))
  | case4 fuel ts c cs t hf hchk =>
    intro hs hcov
    exfalso
    obtain ⟨g, hg, hgn, hgf⟩ := addCheck_conflict hchk
    rw [subP_agree hfo hs hf (hcov c List.mem_cons_self) (List.mem_append_right _ hg) hgn] at hgf
    cases hgf
  | case5 fuel ts c cs t hf hchk ih =>
    intro hs hcov
    exact ih hs (fun c' hc' => hcov c' (List.mem_cons_of_mem _ hc'))
  | case6 fuel ts c cs t hf hchk ts1 ih2 ih1 =>
    intro hs hcov
    have hcovc := hcov c List.mem_cons_self
    have hs1 : SubP o X ts1 :=
      subP_setRec (r := { t with inh := t.inh ++ [f] }) hs hf hcovc rfl rfl rfl
        (fun g hg => by simpa only [eff, List.mem_append, List.mem_singleton, or_assoc] using hg)
    have hkids : ∀ d ∈ t.children, CovIn o d f := by
      intro d hd
      obtain ⟨to, _, hr⟩ := hs c t hf
      exact covIn_anc hfo hcovc (hr.kids d hd)
    obtain ⟨a1, a2⟩ := ih2 hs1 hkids
    cases h2 : pushInherited f fuel ts1 t.children with
    | error e =>
      simp only [bind, Except.bind]
      refine ⟨?_, fun ts' h => by cases h⟩
      intro e' h; cases h; exact a1 e h2
    | ok ts2 =>
      simp only [bind, Except.bind]
      exact ih1 ts2 (a2 ts2 h2) (fun c' hc' => hcov c' (List.mem_cons_of_mem _ hc'))

theorem addFeature_subP (o : TypeSystem) (hfo : FeatInv o) (ts : TypeSystem) (dom : String) (f : Feature)
    (hc : Consistent ts) (hs : SubP o X ts) (hreg : hasExact ts dom = true)
    (hcov : CovIn o dom f) : ∃ ts', addFeature ts dom f = .ok ts' ∧ SubP o X ts' := by
  obtain ⟨t, ht⟩ := (hasExact_iff_find ts dom).mp hreg
  rw [addFeature_eq f ht]
  cases hchk : addCheck t f false with
  | conflict =>
    exfalso
    obtain ⟨g, hg, hgn, hgf⟩ := addCheck_conflict hchk
    rw [subP_agree hfo hs ht hcov hg hgn] at hgf
    cases hgf
  | same => exact ⟨ts, rfl, hs⟩
  | fresh =>
    simp only
    have hdc : descendantConflict ts dom f = false :=
      descendantConflict_of_noClash <| noClash_intro hc hreg fun hanc hfd hg hgn =>
        subP_agree hfo hs hfd (covIn_anc hfo hcov (anc_subP hs hanc)) (List.mem_append_left _ hg) hgn
    rw [hdc]
    simp only [Bool.false_eq_true, if_false]
    have hs1 : SubP o X (setRec ts { t with own := t.own ++ [f] }) :=
      subP_setRec (r := { t with own := t.own ++ [f] }) hs ht hcov rfl rfl rfl (fun g hg => by
        simp only [eff, List.mem_append, List.mem_singleton] at hg ⊢
        rcases hg with (h | h) | h
        · exact Or.inl (Or.inl h)
        · exact Or.inr h
        · exact Or.inl (Or.inr h))
    have hkids : ∀ d ∈ t.children, CovIn o d f := by
      intro d hd
      obtain ⟨to, _, hr⟩ := hs dom t ht
      exact covIn_anc hfo hcov (hr.kids d hd)
    obtain ⟨a1, a2⟩ := push_subP o hfo f (ts.types.length + 1) _ t.children hs1 hkids
    cases hp : pushInherited f (ts.types.length + 1) (setRec ts { t with own := t.own ++ [f] }) t.children with
    | ok ts' => exact ⟨ts', rfl, a2 ts' hp⟩
    | error e =>
      exfalso
      have he := a1 e hp
      subst he
      have := pushInherited_ne_fuel f (setRec ts { t with own := t.own ++ [f] }) t.children
      rw [length_setRec] at this
      exact this hp

theorem anc_down_sub {o m : TypeSystem} (hs : SubP o X m) (hcm : Consistent m) {a b : String}
    (h : Anc o a b) : hasExact m b = true → (∀ n, X n → ¬ Anc o n b) → Anc m a b := by
  induction h with
  | refl _ => intro hb _; exact Anc.refl _ hb
  | step b s tb hfb hsb hab ih =>
    intro hb hX
    obtain ⟨tm, htm⟩ := (hasExact_iff_find m b).mp hb
    obtain ⟨to, hto, hr⟩ := hs b tm htm
    rw [hfb] at hto
    cases hto
    have hbX : ¬ X b := fun hXb => hX b hXb (Anc.refl b ((hasExact_iff_find o b).mpr ⟨tb, hfb⟩))
    have hsm : tm.super = some s := by rw [← hr.super hbX]; exact hsb
    have hsreg : hasExact m s = true := hcm.superReg tm (find?_mem htm) s hsm
    exact Anc.step a b s tm htm hsm (ih hsreg (fun n hn h' => hX n hn (Anc.step _ b s tb hfb hsb h')))

/-! ### `SubP · X ·` as an order -/

theorem SubP.intro {a b : TypeSystem} (hc : Consistent a)
    (recs : ∀ x t, find? a x = some t → ∃ t', find? b x = some t' ∧ (¬ X x → t'.super = t.super) ∧
      ∀ g ∈ eff t, ∃ g' ∈ eff t', featureEq g' g = true)
    (mono : ∀ p q, Anc a p q → Anc b p q) : SubP b X a := by
  intro n t hn
  obtain ⟨t', ht', hs', hcov⟩ := recs n t hn
  have hreg : hasExact a n = true := (hasExact_iff_find _ _).mpr ⟨t, hn⟩
  refine ⟨t', ht', hs', ?_, hcov, ?_⟩
  · intro s hs
    exact mono s n (Anc.step s n s t hn hs (Anc.refl s (hc.superReg t (find?_mem hn) s hs)))
  · intro c hc'
    obtain ⟨tc, htc, hsc⟩ := (hc.link n c).mp ⟨t, hn, hc'⟩
    exact mono n c (Anc.step n c n tc htc hsc (Anc.refl n hreg))

theorem SubP.refl {a : TypeSystem} (hc : Consistent a) : SubP a X a :=
  SubP.intro hc (fun _ t hx => ⟨t, hx, fun _ => rfl, fun g hg => ⟨g, hg, featureEq_refl g⟩⟩) (fun _ _ h => h)

theorem SubP.trans {a b c : TypeSystem} (h1 : SubP b X a) (h2 : SubP c X b) : SubP c X a := by
  intro n ta hn
  obtain ⟨tb, htb, r1⟩ := h1 n ta hn
  obtain ⟨tc, htc, r2⟩ := h2 n tb htb
  refine ⟨tc, htc, fun hx => (r2.super hx).trans (r1.super hx), fun s hs => anc_subP h2 (r1.superW s hs), ?_,
    fun c hc => anc_subP h2 (r1.kids c hc)⟩
  intro f hf
  obtain ⟨g, hg, e⟩ := r1.feats f hf
  obtain ⟨g', hg', e'⟩ := r2.feats g hg
  exact ⟨g', hg', featureEq_trans e' e⟩

theorem SubP.reg {a b : TypeSystem} (h : SubP b X a) (x : String) (hx : hasExact a x = true) : hasExact b x = true := by
  obtain ⟨t, ht⟩ := (hasExact_iff_find a x).mp hx
  obtain ⟨t', ht', _⟩ := h x t ht
  exact (hasExact_iff_find b x).mpr ⟨t', ht'⟩

theorem addFeature_covers {ts ts' : TypeSystem} {dom : String} {f : Feature}
    (hc : Consistent ts) (hf : FeatInv ts) (h : addFeature ts dom f = .ok ts') : CovIn ts' dom f := by
  obtain ⟨t, ht, ⟨hsame, rfl⟩ | ⟨_, _, hpush⟩⟩ := addFeature_cases h
  · obtain ⟨g, hg, _, hgf⟩ := addCheck_same hsame
    exact ⟨t, ht, g, hg, hgf⟩
  · have hT := addFeature_target hc hf ht hpush
    obtain ⟨t', ht', h1, _⟩ := hT.recs dom t ht
    refine ⟨t', ht', f, ?_, featureEq_refl f⟩
    rw [h1 rfl]
    exact List.mem_append_left _ (List.mem_append_right _ (List.mem_singleton.mpr rfl))

theorem upd_children (sup n : String) (t : TypeRec) (c : String) (h : c ∈ (upd sup n t).children) :
    c ∈ t.children ∨ (t.name = sup ∧ c = n) := by
  unfold upd at h
  split at h
  · rename_i hn
    rcases List.mem_append.mp h with h | h
    · exact Or.inl h
    · exact Or.inr ⟨by simpa using hn, by simpa using h⟩
  · exact Or.inl h

theorem createType_subP (K : Consts) (o : TypeSystem) (hfo : FeatInv o) (ts : TypeSystem) (n s : String)
    (dsc : Option String) (tn sup : TypeRec) (hc : Consistent ts) (hf : FeatInv ts) (hs : SubP o X ts)
    (hnew : hasExact ts n = false) (hsup : find? ts s = some sup) (hnf : K.finalTypes.contains s = false)
    (htn : find? o n = some tn) (hex : ¬ X n → tn.super = some s) (hanc : Anc o s n) :
    ∃ ts', createType K ts n s dsc = .ok ts' ∧ SubP o X ts' := by
  obtain ⟨ts', h⟩ := createType_succeeds K ts n s dsc sup hf hnew hsup hnf
  obtain ⟨_, C⟩ := createType_created_at K ts ts' n s dsc sup hc hf hnew hsup h
  refine ⟨ts', h, fun x tm hx => ?_⟩
  obtain ⟨rfl, rfl⟩ | ⟨_, t0, hfx, rfl⟩ := C.cases hx
  · refine ⟨tn, htn, hex, fun s' hs' => by cases hs'; exact hanc, ?_, fun c hc => by cases hc⟩
    intro g hg
    simp only [eff, List.nil_append] at hg
    obtain ⟨tn', htn', hg1⟩ :=
      covIn_anc hfo (CovIn.mono ⟨sup, hsup, g, allFeatures_sub hg, featureEq_refl g⟩ hs) hanc
    rw [htn] at htn'; cases htn'
    exact hg1
  · obtain ⟨to, hto, hr⟩ := hs x t0 hfx
    refine ⟨to, hto, by rw [upd_super]; exact hr.super, by rw [upd_super]; exact hr.superW, ?_, ?_⟩
    · intro g hg
      simp only [eff, upd_own, upd_inh] at hg
      exact hr.feats g hg
    · intro c hc
      rcases upd_children _ _ _ _ hc with hc | ⟨h1, h2⟩
      · exact hr.kids c hc
      · rw [h2, ← find?_name hfx, h1]; exact hanc

/-! ### With descriptions and without exceptions -/

/-- the record `tm` (named `n`) of the merged type system against the record `to` of the original, the exact form: same
    supertype, same description, and the children of `tm` are children in `o` -/
structure SubRec (o : TypeSystem) (n : String) (tm to : TypeRec) : Prop where
  super : to.super = tm.super
  descr : to.descr = tm.descr
  feats : ∀ f ∈ eff tm, ∃ g ∈ eff to, featureEq g f = true
  kids : ∀ c ∈ tm.children, ∃ tc, find? o c = some tc ∧ tc.super = some n

/-- everything `m` declares, `o` declares too, with the same supertype and description -/
def Sub (o m : TypeSystem) : Prop :=
  ∀ n tm, find? m n = some tm → ∃ to, find? o n = some to ∧ SubRec o n tm to

/-- descriptions of registered names are those `o` has -/
def DescrLe (o m : TypeSystem) : Prop :=
  ∀ n tm to, find? m n = some tm → find? o n = some to → to.descr = tm.descr

theorem Sub.toP {o m : TypeSystem} (hcm : Consistent m) (hs : Sub o m) : SubP o (fun _ => False) m := by
  intro n tm hn
  obtain ⟨to, hto, hr⟩ := hs n tm hn
  have reg : ∀ {x t}, find? m x = some t → hasExact o x = true := fun h =>
    let ⟨_, h', _⟩ := hs _ _ h; (hasExact_iff_find _ _).mpr ⟨_, h'⟩
  refine ⟨to, hto, fun _ => hr.super, ?_, hr.feats, ?_⟩
  · intro s hss
    obtain ⟨t', ht'⟩ := (hasExact_iff_find m s).mp (hcm.superReg tm (find?_mem hn) s hss)
    exact Anc.step s n s to hto (hr.super ▸ hss) (Anc.refl s (reg ht'))
  · intro c hc
    obtain ⟨tc, htc, hsc⟩ := hr.kids c hc
    exact Anc.step n c n tc htc hsc (Anc.refl n (reg hn))

theorem Sub.descrLe {o m : TypeSystem} (hs : Sub o m) : DescrLe o m := by
  intro n tm to hn hto
  obtain ⟨to', hto', hr⟩ := hs n tm hn
  rw [hto] at hto'; cases hto'; exact hr.descr

theorem Sub.ofP {o m : TypeSystem} (hcm : Consistent m) (hp : SubP o (fun _ => False) m) (hd : DescrLe o m) :
    Sub o m := by
  intro n tm hn
  obtain ⟨to, hto, hr⟩ := hp n tm hn
  refine ⟨to, hto, hr.super not_false, hd n tm to hn hto, hr.feats, ?_⟩
  intro c hc
  obtain ⟨tc, htc, hsc⟩ := (hcm.link n c).mp ⟨tm, hn, hc⟩
  obtain ⟨tc', htc', hrc⟩ := hp c tc htc
  exact ⟨tc', htc', (hrc.super not_false).trans hsc⟩

theorem DescrLe.of_eq {o m m' : TypeSystem} (hd : DescrLe o m)
    (h : ∀ x, (find? m' x).map (·.descr) = (find? m x).map (·.descr)) : DescrLe o m' := by
  intro n tm to hn hto
  have := h n
  rw [hn] at this
  cases hm : find? m n with
  | none => rw [hm] at this; cases this
  | some t0 =>
    rw [hm] at this
    rw [hd n t0 to hm hto]
    exact (Option.some.inj this).symm

theorem frame_descr : FeatFrame (fun _ => True)
    (fun a b => ∀ x, (find? b x).map (·.descr) = (find? a x).map (·.descr)) := by
  have step : ∀ (ts : TypeSystem) (t r : TypeRec), find? ts t.name = some t → r.name = t.name → r.descr = t.descr →
      ∀ x, (find? (setRec ts r) x).map (·.descr) = (find? ts x).map (·.descr) := by
    intro ts t r hf hn hd x
    by_cases hx : x = t.name
    · rw [hx, find?_setRec_eq ts r t hn hf, hf]; exact congrArg some hd
    · rw [find?_setRec_ne ts r (hn ▸ hx)]
  exact ⟨⟨fun _ _ => rfl, fun h1 h2 x => (h2 x).trans (h1 x), fun ts t _ _ hf _ => step ts t _ hf rfl rfl⟩,
    fun ts t _ _ hf _ => step ts t _ hf rfl rfl⟩

theorem addFeature_sub (o : TypeSystem) (hfo : FeatInv o) (ts : TypeSystem) (dom : String) (f : Feature)
    (hc : Consistent ts) (hs : Sub o ts) (hreg : hasExact ts dom = true)
    (hcov : CovIn o dom f) : ∃ ts', addFeature ts dom f = .ok ts' ∧ Sub o ts' := by
  obtain ⟨ts', h, hp⟩ := addFeature_subP o hfo ts dom f hc (Sub.toP hc hs) hreg hcov
  exact ⟨ts', h, Sub.ofP (consistent_addFeature ts ts' dom f hc h) hp ((Sub.descrLe hs).of_eq (frame_descr.addFeature trivial h))⟩

theorem createType_sub (K : Consts) (o : TypeSystem) (hfo : FeatInv o) (ts : TypeSystem) (n s : String)
    (tn sup : TypeRec) (hc : Consistent ts) (hf : FeatInv ts) (hs : Sub o ts)
    (hnew : hasExact ts n = false) (hsup : find? ts s = some sup) (hnf : K.finalTypes.contains s = false)
    (htn : find? o n = some tn) (htns : tn.super = some s) :
    ∃ ts', createType K ts n s tn.descr = .ok ts' ∧ Consistent ts' ∧ FeatInv ts' ∧ Sub o ts' ∧ Grow K ts ts' ∧
      hasExact ts' n = true := by
  obtain ⟨so, hso, _⟩ := hs s sup hsup
  have hanc : Anc o s n := Anc.step s n s tn htn htns (Anc.refl s ((hasExact_iff_find _ _).mpr ⟨so, hso⟩))
  obtain ⟨ts', h, hp⟩ := createType_subP K o hfo ts n s tn.descr tn sup hc hf (Sub.toP hc hs) hnew hsup hnf htn
    (fun _ => htns) hanc
  have hc' := consistent_createType K ts ts' n s _ hc hnew h
  obtain ⟨_, C⟩ := createType_created_at K ts ts' n s tn.descr sup hc hf hnew hsup h
  refine ⟨ts', h, hc', featInv_createType K ts ts' n s _ hc hf hnew h, Sub.ofP hc' hp ?_,
    Grow.of_createType hc hf hnew h, (hasExact_iff_find _ _).mpr ⟨_, C.new⟩⟩
  intro x tm to hx hto
  obtain ⟨rfl, rfl⟩ | ⟨_, t0, hfx, rfl⟩ := C.cases hx
  · rw [htn] at hto; cases hto; rfl
  · rw [upd_descr]; exact Sub.descrLe hs x t0 to hfx hto

/-- a declaration that the original `o` makes too -/
structure DeclOk (K : Consts) (o : TypeSystem) (d : Decl) : Prop where
  ex : ∃ t, find? o d.name = some t ∧ t.super = some d.super ∧ t.descr = d.descr
  cov : CovD o d
  nonfinal : K.finalTypes.contains d.super = false
  user : K.predefined.contains d.name = false

theorem SubP.of_grow {K : Consts} {a b : TypeSystem} (hc : Consistent a) (hg : Grow K a b) : SubP b X a :=
  SubP.intro hc (fun x t hx =>
    let ⟨t', ht', hs, _⟩ := hg x t hx
    let ⟨t'', ht'', hsub⟩ := grow_cov hg hx
    ⟨t', ht', fun _ => hs, fun g hg' => ⟨g, by rw [ht'] at ht''; cases ht''; exact hsub g hg', featureEq_refl g⟩⟩)
    (fun _ _ h => anc_grow hg h)

end Cassis.TS
