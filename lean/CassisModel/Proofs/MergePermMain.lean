/-
Order independence of `merge_typesystems` (`Properties/C13Perm.lean`, `Properties/C13PermSub.lean`): the general statement
`merge_perm_movable`, of which the three properties are instances.

Route: a successful run over one order of the declarations yields a type system `o` (one tree, feature bookkeeping intact)
in which every declared supertype is an ancestor of the declared name and the supertype of every name is that of the base
or a declared one (`Proofs/MergePermRun.lean`).  Replaying the declarations in another order cannot fail and stays inside `o`
(`SubP o`), moving the movable names down step by step (`Proofs/MergePermReplay.lean`) — provided no
movable name lies in `o` above a supertype that a movable name may have on the way (`noX_above`).  By symmetry `o` is a
part of that result, and two trees that are parts of each other agree (`sameHier_of_subP`).

Movable (`Movable`) are the names declared with competing supertypes and the one name that a fresh type system registers
without it being "predefined": `uima.tcas.DocumentAnnotation`, when an input declares it with another supertype than
`uima.tcas.Annotation`.  It is never created by the merge, only re-parented.
(Imports `Properties/C13.lean` for the hypothesis `ClosedDecls`, defined there.)
-/
import CassisModel.Properties.C13
import CassisModel.Spec.MergePermSub
import CassisModel.Proofs.MergePermReplay
import CassisModel.Properties.C10
import CassisModel.Properties.C11

namespace Cassis.TS

theorem DeclAnc.trans {decls : List Decl} {a b c : String} (h1 : DeclAnc decls a b) (h2 : DeclAnc decls b c) :
    DeclAnc decls a c := by
  induction h2 with
  | refl => exact h1
  | step d hd _ ih => exact DeclAnc.step a d hd ih

theorem declAnc_closed {decls : List Decl} {S : List String} (hS : ∀ e ∈ decls, e.name ∈ S → e.super ∈ S)
    {a b : String} (h : DeclAnc decls a b) : b ∈ S → a ∈ S := by
  induction h with
  | refl => exact fun h => h
  | step d hd _ ih => exact fun h => ih (hS d hd h)

/-- going up from a user name, declared supertypes have smaller rank until a predefined name is reached -/
theorem declAnc_rank {K : Consts} {decls : List Decl} (hu : UserDecls K decls) {rank : String → Nat}
    (hr : ∀ d ∈ decls, K.predefined.contains d.super = false → rank d.super < rank d.name) {a b : String}
    (h : DeclAnc decls a b) :
    a = b ∨ K.predefined.contains a = true ∨ (K.predefined.contains b = false ∧ rank a < rank b) := by
  induction h with
  | refl => exact Or.inl rfl
  | step d hd _ ih =>
    right
    cases hp : K.predefined.contains d.super with
    | true =>
      rcases ih with e | h | ⟨h, _⟩
      · exact Or.inl (e ▸ hp)
      · exact Or.inl h
      · rw [hp] at h; cases h
    | false =>
      have := hr d hd hp
      rcases ih with e | h | ⟨_, h⟩
      · exact Or.inr ⟨(hu d hd).1, e ▸ this⟩
      · exact Or.inl h
      · exact Or.inr ⟨(hu d hd).1, Nat.lt_trans h this⟩

/-- the stability the order theorem asks of the names `X` that may move: none of them is a declared ancestor of the
    declared supertype of one of them, so comparing two supertypes never hinges on another pending move
    (`StableCompete` is the case of the competing names) -/
def Stable (decls : List Decl) (X : String → Prop) : Prop :=
  ∀ d ∈ decls, X d.name → ∀ a, DeclAnc decls a d.super → ¬ X a

/-- in a tree whose supertype links are those of the base or declared ones, no movable name lies above a base type that
    is not movable, or above a declared ancestor of a declared supertype of a movable name -/
theorem noX_above {X : String → Prop} (base o : TypeSystem) (decls : List Decl) (hcb : Consistent base)
    (hedge : ∀ x t, find? o x = some t → (∃ tb, find? base x = some tb ∧ t.super = tb.super) ∨
      (∃ d ∈ decls, d.name = x ∧ t.super = some d.super))
    (hXb : ∀ x tb, find? base x = some tb → ∀ c, tb.super = some c → ¬ X c)
    (hbd : ∀ d ∈ decls, ¬ X d.name → ∀ tb, find? base d.name = some tb → tb.super = some d.super)
    (hst : Stable decls X) :
    ∀ n a, Anc o n a → X n →
      ((hasExact base a = true ∧ ¬ X a) ∨ ∃ d ∈ decls, X d.name ∧ DeclAnc decls a d.super) → False := by
  intro n a h
  induction h with
  | refl _ =>
    intro hX hup
    rcases hup with ⟨_, hnX⟩ | ⟨d, hd, hXd, ha⟩
    · exact hnX hX
    · exact hst d hd hXd n ha hX
  | step b s tb hfb hsb _ ih =>
    intro hX hup
    apply ih hX
    have hbase : ∀ tb0, find? base b = some tb0 → tb0.super = some s → hasExact base s = true ∧ ¬ X s :=
      fun tb0 htb0 hs0 => ⟨hcb.superReg tb0 (find?_mem htb0) s hs0, hXb b tb0 htb0 s hs0⟩
    rcases hedge b tb hfb with ⟨tb0, htb0, hs0⟩ | ⟨d', hd', hn', hs'⟩
    · exact Or.inl (hbase tb0 htb0 (by rw [← hs0]; exact hsb))
    · have es : s = d'.super := by rw [hsb] at hs'; exact Option.some.inj hs'
      rcases hup with ⟨hb, hnX⟩ | ⟨d, hd, hXd, ha⟩
      · obtain ⟨tb0, htb0⟩ := (hasExact_iff_find _ _).mp hb
        rw [← hn'] at htb0 hnX
        exact Or.inl (hbase tb0 (hn' ▸ htb0) (by rw [es]; exact hbd d' hd' hnX tb0 htb0))
      · exact Or.inr ⟨d, hd, hXd, (es ▸ hn' ▸ DeclAnc.step _ d' hd' (DeclAnc.refl _) : DeclAnc decls s b).trans ha⟩

/-- the names the merge may move: those declared with competing supertypes, and those declared with another supertype
    than the one a fresh type system gives them (this can only be `uima.tcas.DocumentAnnotation`, registered below
    `uima.tcas.Annotation`: the other built-in names are predefined and not declared) -/
def Movable (decls : List Decl) (n : String) : Prop :=
  Competing decls n ∨ ∃ d ∈ decls, d.name = n ∧ ∃ tb, find? Gen.builtinTS n = some tb ∧ tb.super ≠ some d.super

theorem movable_user {decls : List Decl} (hu : UserDecls Gen.consts decls) {n : String} (h : Movable decls n) :
    Gen.consts.predefined.contains n = false := by
  rcases h with ⟨d, hd, _, _, hn, _⟩ | ⟨d, hd, hn, _⟩ <;> exact hn ▸ (hu d hd).1

/-- a supertype in the base has a child there, so it is predefined and not movable -/
theorem base_super_not_movable {decls : List Decl} (hu : UserDecls Gen.consts decls) (x : String) (tb : TypeRec)
    (hx : find? Gen.builtinTS x = some tb) (c : String) (hc : tb.super = some c) : ¬ Movable decls c := by
  intro hM
  obtain ⟨tc, htc, hm⟩ := (consistent_builtins.1.link c x).mpr ⟨tb, hx, hc⟩
  rcases builtin_names_predefined tc (find?_mem htc) with h | ⟨_, _, h⟩
  · rw [find?_name htc, movable_user hu hM] at h; cases h
  · rw [h] at hm; cases hm

theorem OneSuperOutside.of_competing {decls : List Decl} {X : String → Prop} (h : ∀ n, Competing decls n → X n) :
    OneSuperOutside decls X :=
  fun d hd d' hd' hn hX => Classical.byContradiction fun hne => hX (h _ ⟨d, hd, d', hd', rfl, hn.symm, hne⟩)

/-! ### One direction: if one order succeeds, so does every other, with a part of the same result -/

theorem merge_perm_dir {decls : List Decl} (hc : ClosedDecls Gen.consts decls) (hu : UserDecls Gen.consts decls)
    (hst : Stable decls (Movable decls))
    (hnf : CompeteNonFinal Gen.consts decls) {l l' : List Decl} (hl : decls.Perm l) (hl' : decls.Perm l')
    {o : TypeSystem} (h : mergeDecls Gen.consts Gen.builtinTS l = .ok o) :
    Consistent o ∧ ∃ m, mergeDecls Gen.consts Gen.builtinTS l' = .ok m ∧ Consistent m ∧ SubP o (Movable decls) m := by
  have huser : ∀ d ∈ decls, Gen.consts.predefined.contains d.name = false := fun d hd => (hu d hd).1
  have hcb := consistent_builtins.1
  have hbd : ∀ d ∈ decls, ¬ Movable decls d.name → ∀ tb, find? Gen.builtinTS d.name = some tb →
      tb.super = some d.super :=
    fun d hd hM tb htb => Classical.byContradiction fun hne => hM (Or.inr ⟨d, hd, rfl, tb, htb, hne⟩)
  obtain ⟨s, hs, rfl⟩ := mergeDecls_ok _ _ _ _ h
  have X2 : OneSuperOutside decls (Movable decls) := .of_competing fun _ => Or.inl
  obtain ⟨hi, hbase, hdone⟩ := mergeLoop_run builtin_pre top_predefined X2 huser (fun d hd => hl.mem_iff.mpr hd) _ _ s
    (init_runInv huser hbd) hs
  have hno := noX_above Gen.builtinTS s.ts decls hcb hi.tree.edge (base_super_not_movable hu) hbd hst
  obtain ⟨hclosed, rank, hrank⟩ := hc
  have hok : ∀ d ∈ decls, ReplayOk Gen.consts Gen.builtinTS s.ts (Movable decls) d := by
    intro d hd
    obtain ⟨⟨t, ht, hcv⟩, hanc⟩ := hdone d (hl.mem_iff.mp hd)
    have hxn : d.super ≠ d.name := by
      intro e
      have := hrank d hd (by rw [e]; exact huser d hd)
      rw [e] at this
      exact Nat.lt_irrefl _ this
    refine ⟨⟨⟨t, ht, hcv⟩, hanc⟩, hxn, fun hX t ht => (hi.tree.sup d hd hX t ht).1, ?_, huser d hd,
      fun hX n hn hanc' => hno n d.super hanc' hn (Or.inr ⟨d, hd, hX, DeclAnc.refl _⟩)⟩
    intro hnb
    by_cases hX : Movable decls d.name
    · rcases hX with hX | ⟨_, _, _, tb, htb, _⟩
      · exact hnf d hd hX
      · rw [(hasExact_iff_find _ _).mpr ⟨tb, htb⟩] at hnb; cases hnb
    · exact (hi.tree.sup d hd hX t ht).2
  have hterm := merge_terminates_aux Gen.consts Gen.builtinTS l'
    (fun d hd => (hclosed d (hl'.mem_iff.mpr hd)).imp id (fun h => ((hl'.map _).mem_iff).mp h))
    ⟨rank, fun d hd => hrank d (hl'.mem_iff.mpr hd)⟩
  obtain ⟨s', hm, hi'⟩ := mergeDecls_replay hi.tree.feat hi.tree.cons builtin_pre top_predefined
    (fun x tb hx c hc n hn h' => hno n c h' hn
      (Or.inl ⟨hcb.superReg tb (find?_mem hx) c hc, base_super_not_movable hu x tb hx c hc⟩))
    hok (fun d hd => hl'.mem_iff.mpr hd) ⟨init_runInv huser hbd, hbase⟩ hterm
  exact ⟨hi.tree.cons, s'.ts, hm, hi'.run.tree.cons, hi'.sub⟩

/-! ### Two trees that are parts of each other -/

theorem sameHier_of_subP {X : String → Prop} (o m : TypeSystem) (hco : Consistent o) (hcm : Consistent m)
    (hom : SubP o X m) (hmo : SubP m X o) : SameHier o m := by
  -- the supertype of a name in the part lies, in the whole, at or below the supertype there
  have up : ∀ {a b : TypeSystem}, Consistent b → SubP a X b → ∀ {n : String} {ta tb : TypeRec} {s : String},
      find? a n = some ta → find? b n = some tb → tb.super = some s → ∃ s', ta.super = some s' ∧ Anc a s s' := by
    intro a b hcb hab n ta tb s hfa hfb hs
    obtain ⟨to, hto, hr⟩ := hab n tb hfb
    rw [hfa] at hto; cases hto
    rcases (hr.superW s hs).inv hfa with e | h
    · exact absurd (Anc.refl n ((hasExact_iff_find _ _).mpr ⟨tb, hfb⟩)) (not_anc_of_super hcb hfb (e ▸ hs))
    · exact h
  -- the supertypes agree: exactly outside `X`, and inside `X` because each is an ancestor of the other
  have hsup : ∀ n t t', find? o n = some t → find? m n = some t' → t'.super = t.super := by
    intro n t t' ho hm
    by_cases hn : X n
    · cases hs' : t'.super with
      | none =>
        cases hs : t.super with
        | none => rfl
        | some so =>
          obtain ⟨_, h, _⟩ := up hco hmo hm ho hs
          rw [hs'] at h; cases h
      | some sm =>
        obtain ⟨so, hs, h1⟩ := up hcm hom ho hm hs'
        obtain ⟨sm', hs'', h2⟩ := up hco hmo hm ho hs
        rw [hs'] at hs''; cases hs''
        rw [hs, anc_antisymm hco h1 (anc_subP hom h2)]
    · obtain ⟨to, hto, hr⟩ := hom n t' hm
      rw [ho] at hto; cases hto
      exact (hr.super hn).symm
  intro n
  cases ho : find? o n with
  | none =>
    cases hm : find? m n with
    | none => trivial
    | some t' =>
      obtain ⟨to, hto, _⟩ := hom n t' hm
      rw [ho] at hto; cases hto
  | some t =>
    cases hm : find? m n with
    | none =>
      obtain ⟨tm, htm, _⟩ := hmo n t ho
      rw [hm] at htm; cases htm
    | some t' =>
      obtain ⟨to, hto, hr⟩ := hom n t' hm
      rw [ho] at hto; cases hto
      obtain ⟨tm, htm, hr'⟩ := hmo n t ho
      rw [hm] at htm; cases htm
      show t'.super = t.super ∧ t'.children.Perm t.children ∧
        ((allFeatures t').map featKey).Perm ((allFeatures t).map featKey)
      refine ⟨hsup n t t' ho hm, ?_, keys_perm_of_cover t t' hr'.feats hr.feats⟩
      rw [List.perm_ext_iff_of_nodup (hcm.childNodup t' (find?_mem hm)) (hco.childNodup t (find?_mem ho))]
      intro c
      constructor
      · intro hcm'
        obtain ⟨tc', htc', hsc'⟩ := (hcm.link n c).mp ⟨t', hm, hcm'⟩
        obtain ⟨tc, htc, _⟩ := hom c tc' htc'
        obtain ⟨ta, hta, hmem⟩ := (hco.link n c).mpr ⟨tc, htc, by rw [← hsup c tc tc' htc htc']; exact hsc'⟩
        rw [ho] at hta; cases hta; exact hmem
      · intro hco'
        obtain ⟨tc, htc, hsc⟩ := (hco.link n c).mp ⟨t, ho, hco'⟩
        obtain ⟨tc', htc', _⟩ := hmo c tc htc
        obtain ⟨ta, hta, hmem⟩ := (hcm.link n c).mpr ⟨tc', htc', by rw [hsup c tc tc' htc htc']; exact hsc⟩
        rw [hm] at hta; cases hta; exact hmem

/-- **Order independence for stable movable names.**  For closed, acyclic declaration lists of user types in which no
    declared ancestor of a declared supertype of a movable name is movable itself, and no competing supertype is
    inheritance final: any two orders of the declarations either both fail or both succeed, and then yield the same types
    with the same supertypes, children and effective features. -/
theorem merge_perm_movable (decls decls' : List Decl) (hp : decls.Perm decls')
    (hc : ClosedDecls Gen.consts decls) (hu : UserDecls Gen.consts decls)
    (hst : Stable decls (Movable decls))
    (hnf : CompeteNonFinal Gen.consts decls) :
    match mergeDecls Gen.consts Gen.builtinTS decls, mergeDecls Gen.consts Gen.builtinTS decls' with
    | .ok ts, .ok ts' => SameHier ts ts'
    | .error _, .error _ => True
    | _, _ => False := by
  cases h : mergeDecls Gen.consts Gen.builtinTS decls with
  | ok o =>
    obtain ⟨hco, m, hm, hcm, hom⟩ := merge_perm_dir hc hu hst hnf (.refl _) hp h
    obtain ⟨_, o', ho', _, hmo⟩ := merge_perm_dir hc hu hst hnf hp (.refl _) hm
    rw [h] at ho'
    cases ho'
    rw [hm]
    exact sameHier_of_subP o m hco hcm hom hmo
  | error e =>
    cases h' : mergeDecls Gen.consts Gen.builtinTS decls' with
    | error e' => trivial
    | ok m =>
      obtain ⟨_, o', ho', _⟩ := merge_perm_dir hc hu hst hnf hp (.refl _) h'
      rw [h] at ho'
      cases ho'

theorem sameHier_of_outcome {r r' : Except Err TypeSystem}
    (h : match r, r' with
      | .ok ts, .ok ts' => SameHier ts ts'
      | .error _, .error _ => True
      | _, _ => False) {ts ts' : TypeSystem} (hr : r = .ok ts) (hr' : r' = .ok ts') : SameHier ts ts' := by
  subst hr hr'; exact h

/-- `merge_perm_movable` for two given successful runs.  Stated for variables: instantiating the `match` statement at
    concrete declaration lists makes the elaborator evaluate the merges. -/
theorem merge_perm_movable_ok (decls decls' : List Decl) (hp : decls.Perm decls')
    (hc : ClosedDecls Gen.consts decls) (hu : UserDecls Gen.consts decls)
    (hst : Stable decls (Movable decls))
    (hnf : CompeteNonFinal Gen.consts decls) {ts ts' : TypeSystem}
    (h : mergeDecls Gen.consts Gen.builtinTS decls = .ok ts) (h' : mergeDecls Gen.consts Gen.builtinTS decls' = .ok ts') :
    SameHier ts ts' :=
  sameHier_of_outcome (merge_perm_movable decls decls' hp hc hu hst hnf) h h'

/-! ### The hypotheses of the three properties give those of `merge_perm_movable` -/

/-- when every name is declared with one supertype throughout, only the document annotation type can move, and no
    declared ancestor of its declared supertype is the type itself (acyclicity) -/
theorem stable_of_oneSuper {decls : List Decl} (hc : ClosedDecls Gen.consts decls) (hu : UserDecls Gen.consts decls)
    (h1 : OneSuper decls) :
    Stable decls (Movable decls) ∧ CompeteNonFinal Gen.consts decls := by
  have hnc : ∀ n, ¬ Competing decls n := fun n ⟨d, hd, d', hd', hn, hn', hne⟩ =>
    hne (h1 d hd d' hd' (hn.trans hn'.symm))
  have hda : ∀ n, Movable decls n → n = DOCUMENT_ANNOTATION := by
    rintro n (h | ⟨d, hd, hn, tb, htb, _⟩)
    · exact absurd h (hnc n)
    · rcases builtin_names_predefined tb (find?_mem htb) with h | ⟨h, _⟩
      · rw [find?_name htb, movable_user hu (Or.inr ⟨d, hd, hn, tb, htb, ‹_›⟩)] at h; cases h
      · rw [find?_name htb] at h; exact h
  obtain ⟨rank, hrank⟩ := hc.acyclic
  refine ⟨?_, fun d _ hX => absurd hX (hnc _)⟩
  intro d hd hM a ha hMa
  rw [hda a hMa, ← hda _ hM] at ha
  have hlt := hrank d hd
  rcases declAnc_rank hu hrank ha with e | h | ⟨h, hlt'⟩
  · rw [← e, (hu d hd).1] at hlt
    exact Nat.lt_irrefl _ (e ▸ hlt rfl)
  · rw [(hu d hd).1] at h; cases h
  · exact Nat.lt_asymm hlt' (hlt h)

theorem movable_eq_competing {decls : List Decl} (hu : UserDecls Gen.consts decls) (hb : BaseAgree decls) :
    Movable decls = Competing decls := by
  funext n
  refine propext ⟨fun h => h.elim id ?_, Or.inl⟩
  rintro ⟨d, hd, hn, tb, htb, hne⟩
  exfalso
  rcases builtin_names_predefined tb (find?_mem htb) with h | ⟨h, hs, _⟩
  · rw [find?_name htb, ← hn, (hu d hd).1] at h; cases h
  · rw [find?_name htb, ← hn] at h
    exact hne (by rw [hs, hb d hd h])

theorem stable_of_stableCompete {decls : List Decl} (hu : UserDecls Gen.consts decls) (hb : BaseAgree decls)
    (hst : StableCompete decls) : Stable decls (Movable decls) := by
  rw [movable_eq_competing hu hb]; exact hst

/-- names with competing supertypes that have no declared subtype: no declared ancestor of anything competes -/
theorem stableCompete_of_leaf {decls : List Decl} (h : LeafCompete decls) : StableCompete decls := by
  intro d hd _ a ha hXa
  have key : ∀ {a b : String}, DeclAnc decls a b → (∃ e ∈ decls, e.super = b) → ∃ e ∈ decls, e.super = a := by
    intro a b hab
    induction hab with
    | refl => exact fun h => h
    | step d' hd' _ ih => exact fun _ => ih ⟨d', hd', rfl⟩
  obtain ⟨e, he, hes⟩ := key ha ⟨d, hd, rfl⟩
  exact h a hXa e he hes

end Cassis.TS
