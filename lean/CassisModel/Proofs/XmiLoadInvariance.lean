/-
C17, the later passes (`Properties/C17.lean`): the third pass of the XMI reader skips exactly the remembered ids, the
leniency flag is irrelevant for structures of registered types, and the first pass commutes with trimming the `members`
attributes of the view elements.
-/
import CassisModel.Proofs.XmiReader
import CassisModel.Spec.XmiLoad
import CassisModel.Proofs.Lex

namespace Cassis.Xmi
open Cassis.TS Cassis.Lex

theorem addMembers_skip_eq (ts : TypeSystem) (ci : Nat) (h : Handle) (conv : Offsets.Conv) (sofas : List (Int × PSofa))
    (L : List Int) (fss : List (Int × Nat)) (ms : List Int) (b : Build) :
    addMembers ts ci h conv sofas L fss ms b =
      addMembers ts ci h conv sofas [] fss (ms.filter (fun m => !(L.contains m))) b := by
  induction ms generalizing b with
  | nil => rfl
  | cons m ms ih =>
    rw [addMembers_cons]
    by_cases hm : L.contains m = true
    · rw [if_pos hm, List.filter_cons_of_neg (by rw [hm]; exact Bool.false_ne_true)]
      exact ih b
    · rw [if_neg hm, List.filter_cons_of_pos (by rw [Bool.not_eq_true] at hm; rw [hm]; rfl), addMembers_cons,
        if_neg (by exact Bool.false_ne_true)]
      cases addMember1 ts ci h conv sofas fss m b with
      | error e => rfl
      | ok b' => exact ih b'

theorem membersOf_drop (L : List Int) (views : List (Int × PView)) (s : PSofa) :
    membersOf (views.map (fun q => (q.1, dropMembersPV L q.2))) s =
      (membersOf views s).filter (fun m => !(L.contains m)) := by
  unfold membersOf
  rw [List.find?_map]
  have : ((fun q : Int × PView => q.1 == s.xid) ∘ fun q : Int × PView => (q.1, dropMembersPV L q.2)) = fun q => q.1 == s.xid := rfl
  rw [this]
  cases views.find? (fun q => q.1 == s.xid) with
  | none => rfl
  | some q => rfl

theorem buildView_drop (ts : TypeSystem) (ci : Nat) (lenient : Bool) (p : Pass1) (s : PSofa) (b : Build) :
    buildView ts ci lenient p s b = buildView ts ci lenient (dropMembers p.lenientIds p) s b := by
  rw [buildView_eq, buildView_eq]
  cases viewCas s b.cas with
  | error e => rfl
  | ok c2 =>
    dsimp only
    rw [addMembers_skip_eq]
    show _ = addMembers ts ci _ _ p.sofas [] p.fss (membersOf (p.views.map (fun q => (q.1, dropMembersPV p.lenientIds q.2))) s) _
    rw [membersOf_drop]

theorem buildViews_drop (ts : TypeSystem) (ci : Nat) (lenient : Bool) (p : Pass1) (l : List (Int × PSofa)) (b : Build) :
    buildViews ts ci lenient p l b = buildViews ts ci lenient (dropMembers p.lenientIds p) l b := by
  induction l generalizing b with
  | nil => rw [buildViews, buildViews]
  | cons q rest ih =>
    obtain ⟨i, s⟩ := q
    rw [buildViews, buildViews, ← buildView_drop]
    cases buildView ts ci lenient p s b with
    | error e => rfl
    | ok b' => exact ih b'

theorem convertReferenced_congr (ts : TypeSystem) (p p' : Pass1) (hs : p'.sofas = p.sofas) (cv : List Int)
    (l : List (Int × Nat)) (hp : Heap) :
    convertReferenced ts p' cv l hp = convertReferenced ts p cv l hp := by
  induction l generalizing hp with
  | nil => rw [convertReferenced, convertReferenced]
  | cons q rest ih =>
    obtain ⟨i, a⟩ := q
    rw [convertReferenced, convertReferenced, hs]
    simp only [ih]

/-- the structures of the id table have registered types -/
def FssK (ts : TypeSystem) (fss : List (Int × Nat)) (hp : Heap) : Prop :=
  ∀ q ∈ fss, ∀ o : Obj, hp[q.2]? = some o → containsType ts o.ty = true

theorem FssAll.fssK {Q : Int → Obj → Prop} {ts : TypeSystem} {fss : List (Int × Nat)} {hp : Heap} (h : FssAll Q fss hp)
    (hQ : ∀ i o, Q i o → containsType ts o.ty = true) : FssK ts fss hp := by
  intro q hq o ho
  obtain ⟨o', ho', hc⟩ := h q hq
  cases ho'.symm.trans ho
  exact hQ _ _ hc

theorem FssK.back {ts : TypeSystem} {fss : List (Int × Nat)} {hp hp' : Heap} (h : FssK ts fss hp)
    (t : PlainKeep ts hp hp') : FssK ts fss hp' := by
  intro q hq o' ho'
  obtain ⟨o, ho, e, _⟩ := t.back ho'
  rw [e]
  exact h q hq o ho

theorem addMember1_flag (ts : TypeSystem) (ci : Nat) (v : String) (conv : Offsets.Conv) (sofas : List (Int × PSofa))
    (fss : List (Int × Nat)) (m : Int) (b : Build) (hk : FssK ts fss b.heap) :
    addMember1 ts ci { view := v, lenient := false } conv sofas fss m b =
      addMember1 ts ci { view := v, lenient := true } conv sofas fss m b := by
  unfold addMember1
  cases hl : lookupFs fss m with
  | error e => rfl
  | ok a =>
    obtain ⟨q, hq, rfl⟩ := lookupFs_mem hl
    dsimp only
    cases ho : b.heap[q.2]? with
    | none => rfl
    | some o =>
      dsimp only
      by_cases hi : (!(b.converted.contains m) && isInstanceOf ts o.ty ANNOTATION) = true
      · rw [if_pos hi]
        cases hc : convertOffsets (ownConv sofas conv (memberOwn m q.2 b).1) b.heap q.2 with
        | error e => rfl
        | ok hp' =>
          dsimp only
          rw [Cas.add_lenient_eq (h := { view := v, lenient := false })
            ((hk.back (plainKeep_convert ho (Bool.and_eq_true_iff.mp hi).2 hc)) q hq)]
      · rw [if_neg hi]
        dsimp only
        rw [Cas.add_lenient_eq (h := { view := v, lenient := false }) (hk q hq)]

theorem addMembers_flag (ts : TypeSystem) (ci : Nat) (v : String) (conv : Offsets.Conv) (sofas : List (Int × PSofa))
    (L : List Int) (fss : List (Int × Nat)) (ms : List Int) (b : Build) (hk : FssK ts fss b.heap) :
    addMembers ts ci { view := v, lenient := false } conv sofas L fss ms b =
      addMembers ts ci { view := v, lenient := true } conv sofas L fss ms b := by
  induction ms generalizing b with
  | nil => rw [addMembers_nil, addMembers_nil]
  | cons m ms ih =>
    rw [addMembers_cons, addMembers_cons]
    by_cases hm : L.contains m = true
    · rw [if_pos hm, if_pos hm]; exact ih b hk
    · rw [if_neg hm, if_neg hm, addMember1_flag ts ci v conv sofas fss m b hk]
      cases h1 : addMember1 ts ci { view := v, lenient := true } conv sofas fss m b with
      | error e => rfl
      | ok b1 => exact ih b1 (hk.back (addMember1_plain h1))

theorem buildView_flag (ts : TypeSystem) (ci : Nat) (p : Pass1) (s : PSofa) (b : Build) (hk : FssK ts p.fss b.heap) :
    buildView ts ci false p s b = buildView ts ci true p s b := by
  rw [buildView_eq, buildView_eq]
  cases viewCas s b.cas with
  | error e => rfl
  | ok c2 => exact addMembers_flag ts ci _ _ _ _ _ _ _ hk

theorem buildViews_flag (ts : TypeSystem) (ci : Nat) (p : Pass1) (l : List (Int × PSofa)) (b : Build)
    (hk : FssK ts p.fss b.heap) :
    buildViews ts ci false p l b = buildViews ts ci true p l b := by
  induction l generalizing b with
  | nil => rw [buildViews, buildViews]
  | cons q rest ih =>
    obtain ⟨i, s⟩ := q
    rw [buildViews, buildViews, buildView_flag ts ci p s b hk]
    cases h1 : buildView ts ci true p s b with
    | error e => rfl
    | ok b' => exact ih b' (hk.back (buildView_plain h1))

/-- the filter of `dropMembersElem` on the tokens of a `members` attribute -/
def keepTok (L : List Int) (t : String) : Bool :=
  match parseInt t with
  | some i => !(L.contains i)
  | none => true

theorem parseInts_filter (L : List Int) (toks : List String) : ∀ (ms : List Int), parseInts toks = .ok ms →
    parseInts (toks.filter (keepTok L)) = .ok (ms.filter (fun m => !(L.contains m))) := by
  induction toks with
  | nil =>
    intro ms h
    rw [parseInts_nil] at h
    cases h
    exact parseInts_nil
  | cons s ss ih =>
    intro ms h
    obtain ⟨i, is, hi, hr, rfl⟩ := parseInts_cons_ok h
    have h2 := ih is hr
    have hk : keepTok L s = !(L.contains i) := by unfold keepTok; rw [hi]
    by_cases hc : L.contains i = true
    · rw [List.filter_cons_of_neg (by rw [hk, hc]; exact Bool.false_ne_true),
        List.filter_cons_of_neg (by rw [hc]; exact Bool.false_ne_true)]
      exact h2
    · rw [Bool.not_eq_true] at hc
      rw [List.filter_cons_of_pos (by rw [hk, hc]; rfl), List.filter_cons_of_pos (by rw [hc]; rfl)]
      exact parseInts_cons_of hi h2

/-- what `dropMembersElem` does to the value of the attribute `k` of a view element -/
def dropG (L : List Int) (k v : String) : String :=
  if k == "members" then joinSp ((splitWs v).filter (keepTok L)) else v

theorem dropMembersElem_ty (L : List Int) (e : XElem) : (dropMembersElem L e).ty = e.ty := by
  unfold dropMembersElem
  split <;> rfl

theorem dropMembersElem_of_not_view (L : List Int) (e : XElem) (hv : ¬ (e.ty == VIEW_T) = true) :
    dropMembersElem L e = e := by
  unfold dropMembersElem
  rw [if_neg hv]

theorem dropMembersElem_attrs (L : List Int) (e : XElem) (hv : (e.ty == VIEW_T) = true) :
    (dropMembersElem L e).attrs = e.attrs.map (fun kv => (kv.1, dropG L kv.1 kv.2)) := by
  unfold dropMembersElem
  rw [if_pos hv]
  dsimp only
  apply List.map_congr_left
  intro kv _
  unfold dropG
  split <;> rfl

theorem attr_drop (L : List Int) (e : XElem) (hv : (e.ty == VIEW_T) = true) (k : String) :
    attr (dropMembersElem L e) k = (attr e k).map (dropG L k) := by
  unfold attr
  rw [dropMembersElem_attrs L e hv, alistGet?_mapVal]

theorem parseView_drop (L : List Int) (e : XElem) (v : PView) (hv : (e.ty == VIEW_T) = true)
    (h : parseView e = .ok v) : parseView (dropMembersElem L e) = .ok (dropMembersPV L v) := by
  unfold parseView at h ⊢
  rw [attr_drop L e hv "sofa", attr_drop L e hv "members"]
  cases hs : attr e "sofa" with
  | none => rw [hs] at h; cases h
  | some sS =>
    rw [hs] at h
    have e1 : dropG L "sofa" sS = sS := rfl
    rw [Option.map_some, e1]
    simp only [bind, Except.bind, pure, Except.pure] at h ⊢
    cases hi : parseIntE sS with
    | error err => rw [hi] at h; cases h
    | ok sI =>
      rw [hi] at h
      dsimp only at h ⊢
      cases hm : parseInts (splitWs ((attr e "members").getD "")) with
      | error err => rw [hm] at h; cases h
      | ok ms =>
        rw [hm] at h
        cases h
        have h2 : parseInts (splitWs (((attr e "members").map (dropG L "members")).getD "")) =
            .ok (ms.filter (fun m => !(L.contains m))) := by
          cases ha : attr e "members" with
          | none =>
            rw [ha] at hm
            have e0 : splitWs ((none : Option String).getD "") = [] := rfl
            rw [e0, parseInts_nil] at hm
            cases hm
            exact parseInts_nil
          | some mv =>
            rw [ha] at hm
            have e2 : ((some mv).map (dropG L "members")).getD "" = joinSp ((splitWs mv).filter (keepTok L)) := rfl
            rw [e2, splitWs_joinSp_aux _ (fun t ht => splitWs_isTok mv t (List.mem_filter.mp ht).1)]
            exact parseInts_filter L _ ms hm
        rw [h2]
        rfl

/-- `dropMembers` without the reset of `lenientIds`: what the trimmed document makes of a first-pass state -/
def dropV (L : List Int) (s : Pass1) : Pass1 :=
  { s with views := s.views.map (fun q => (q.1, dropMembersPV L q.2)) }

theorem sofa_ne_view : (SOFA == VIEW_T) = false := by decide

theorem step1_drop_nonview (K : Consts) (ts : TypeSystem) (tsIdx : Nat) (b : Bool) (L : List Int) (e : XElem) (s : Pass1)
    (hv : ¬ (e.ty == VIEW_T) = true) :
    step1 K ts tsIdx b e (dropV L s) = (step1 K ts tsIdx b e s).map (dropV L) := by
  unfold step1
  by_cases h1 : (e.ty == SOFA) = true
  · rw [if_pos h1, if_pos h1]
    cases parseSofa e <;> rfl
  · rw [if_neg h1, if_neg h1, if_neg hv, if_neg hv]
    show (match parseFsElem K ts tsIdx s.heap e with | .ok (hp, i, a) => _ | .error .typeNotFound => _ | .error err => _) = _
    cases parseFsElem K ts tsIdx s.heap e with
    | ok r => rfl
    | error err => cases err <;> cases b <;> rfl

theorem step1_drop (K : Consts) (ts : TypeSystem) (tsIdx : Nat) (b : Bool) (L : List Int) (e : XElem) (s s' : Pass1)
    (h : step1 K ts tsIdx b e s = .ok s') :
    step1 K ts tsIdx b (dropMembersElem L e) (dropV L s) = .ok (dropV L s') := by
  by_cases hv : (e.ty == VIEW_T) = true
  · have h1 : ¬ (e.ty == SOFA) = true := by
      intro h1
      have e1 : e.ty = SOFA := eq_of_beq h1
      have e2 : e.ty = VIEW_T := eq_of_beq hv
      rw [e1] at e2
      have := sofa_ne_view
      rw [e2] at this
      simp at this
    unfold step1 at h ⊢
    rw [dropMembersElem_ty, if_neg h1, if_pos hv] at *
    cases hp : parseView e with
    | error err => rw [hp] at h; cases h
    | ok v =>
      rw [hp] at h
      cases h
      rw [parseView_drop L e v hv hp]
      show Except.ok _ = Except.ok _
      congr 1
      unfold dropV
      have := alistSetI_map (dropMembersPV L) s.views v.sofa v
      have e3 : (dropMembersPV L v).sofa = v.sofa := rfl
      rw [e3]
      dsimp only
      rw [this]
  · rw [dropMembersElem_of_not_view L e hv, step1_drop_nonview K ts tsIdx b L e s hv, h]
    rfl

theorem pass1_drop (K : Consts) (ts : TypeSystem) (tsIdx : Nat) (b : Bool) (L : List Int) (d : XDoc) :
    ∀ (s s' : Pass1), pass1 K ts tsIdx b d s = .ok s' →
      pass1 K ts tsIdx b (d.map (dropMembersElem L)) (dropV L s) = .ok (dropV L s') := by
  induction d with
  | nil =>
    intro s s' h
    rw [pass1_nil] at h
    cases h
    rw [List.map_nil, pass1_nil]
  | cons e es ih =>
    intro s s' h
    rw [pass1_cons] at h
    rw [List.map_cons, pass1_cons]
    cases hs : step1 K ts tsIdx b e s with
    | error err => rw [hs] at h; cases h
    | ok s1 =>
      rw [hs] at h
      rw [step1_drop K ts tsIdx b L e s s1 hs]
      exact ih s1 s' h

end Cassis.Xmi
