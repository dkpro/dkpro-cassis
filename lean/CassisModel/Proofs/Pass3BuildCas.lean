/-
The third pass of the reader (`buildCas`): `rehome`, `convertReferenced`, the content of the views, and the pass
as a whole (`buildCas_ok`).  The table of structures is walked in any order and the `cas:NULL` entry may stand anywhere
in it.  At the end: the expectation functions of the whole format satisfy `ExpOk` (`RTCB.expOk_coll`).  Of the namespaces,
`RTCB` holds what the third pass has for the whole format only; `RTB` holds its flat instance and with it the lemmas
about lists, heaps and views of `RoundTripDefs.lean` and `Pass3Lists` … `Pass3Views` (`RTB.All2`, `cvI_restores`,
…) that every instance and the JSON proofs use.
-/
import CassisModel.Proofs.Pass3Views

namespace Cassis.Xmi.Pass3
open Cassis.TS Cassis.Xmi.RTB Cassis.Xmi.LP Cassis.Xmi.LPC

section
variable {K : Consts} {ts : TypeSystem} {cass : List Cas} {ci : Nat} {c : Cas} {hp H : Heap}
  {L : List (Int × Nat)} {na : Int → Nat} {n0 : Nat} {p : Pass1} {E2 E3 : Obj → String → Val → Val} {ci' : Nat}
  {o0 : Obj} {hp0 : Heap}

/-- `rehome`: every recorded own sofa is written back -/
theorem rehome_ok (ctx : CtxC K ts cass ci c hp H L na n0 p) (Cp : Int → Prop) :
    ∀ (ms : List (Int × Val)), (∀ r ∈ ms, MSOk E3 ci' H L r) → ∀ (hpX : Heap),
      HInv E2 E3 ci' H L na Cp (fun x => x ∈ ms.map (·.1)) hpX → hpX[n0]? = some o0 →
      ∃ hpR, rehome p.fss ms hpX = .ok hpR ∧ HInv E2 E3 ci' H L na Cp (fun _ => False) hpR ∧
        hpR[n0]? = some o0 ∧ Frz hpX hpR := by
  intro ms
  induction ms with
  | nil =>
    intro _ hpX hinv hnull
    refine ⟨hpX, by rw [rehome], hinv.mono (fun _ _ => Iff.rfl) (fun _ _ h => by cases h), hnull, Frz.refl _⟩
  | cons r ms ih =>
    intro hms hpX hinv hnull
    obtain ⟨m, v⟩ := r
    obtain ⟨am, o, v0, vn, hq, ho, hv0, h4, h5⟩ := hms (m, v) List.mem_cons_self
    simp only at hq h4 h5
    subst h5
    obtain ⟨o', ho', hok⟩ := hinv.get hq ho
    obtain ⟨w, hw⟩ := Option.isSome_iff_exists.mp ((hok.isSome_iff "sofa").mpr (by rw [hv0]; rfl))
    have hgt : n0 ≠ na m := ctx.nok.ne0 (m, am) hq
    have hok1 : ObjOk E2 E3 ci' (Cp m) (m ∈ ms.map (·.1)) o
        { o' with slots := alistSet o'.slots "sofa" (.sofa ci' vn) } m :=
      h4 ▸ hok.rehome hv0
    have hinv1 := hinv.step ctx.nok.inj ctx.lok.nodup hq ho ho' hok1 (fun _ _ _ => Iff.rfl)
      (fun q _ hne hk => by
        rw [List.map_cons, List.mem_cons] at hk
        exact hk.resolve_left hne)
    obtain ⟨hpR, h1, h2, h3, h6⟩ := ih (fun r hr => hms r (List.mem_cons_of_mem _ hr)) _ hinv1
      (by rw [List.getElem?_set_ne hgt.symm]; exact hnull)
    refine ⟨hpR, ?_, h2, h3, (Frz.set_some ho' hok.2.1).trans h6⟩
    rw [rehome]
    rw [ctx.lookup hq]
    dsimp only
    rw [Heap.setSlot_existing _ ho' hw]
    exact h1

/-- dropping the head of the work list: the structure with id `i` is converted now, for the others nothing changes -/
theorem conv_iff {cv : List Int} {i : Int} {a : Nat} {l : List (Int × Nat)} {x : Int} (h : x = i → x ∈ cv) :
    (x ∈ cv ∨ x ∉ ((i, a) :: l).map (·.1)) ↔ (x ∈ cv ∨ x ∉ l.map (·.1)) := by
  by_cases e : x = i
  · exact ⟨fun _ => Or.inl (h e), fun _ => Or.inl (h e)⟩
  · rw [List.map_cons, List.mem_cons, not_or]
    exact or_congr Iff.rfl ⟨fun h' => h'.2, fun h' => ⟨e, h'⟩⟩

/-- `convertReferenced` over a work list of entries of the table of structures with pairwise distinct keys -/
theorem convRef_loop (ctx : CtxC K ts cass ci c hp H L na n0 p) (hE : ExpOk ts cass ci' E2 E3)
    (cv : List Int) (hcv : ∀ x ∈ cv, x ∈ L.map (·.1)) (hs0 : o0.slots = []) :
    ∀ (w : List (Int × Nat)), (∀ r ∈ w, FssEntry n0 L na r) → (w.map (·.1)).Nodup → ∀ (hpX : Heap),
      HInv E2 E3 ci' H L na (fun x => x ∈ cv ∨ x ∉ w.map (·.1)) (fun _ => False) hpX → hpX[n0]? = some o0 →
      ∃ hpF, convertReferenced ts p cv w hpX = .ok hpF ∧
        HInv E2 E3 ci' H L na (fun _ => True) (fun _ => False) hpF ∧ Frz hpX hpF := by
  intro w
  induction w with
  | nil =>
    intro _ _ hpX hinv _
    exact ⟨hpX, by rw [convertReferenced],
      hinv.mono (fun _ _ => iff_true_intro (Or.inr List.not_mem_nil)) (fun _ _ h => h), Frz.refl _⟩
  | cons r l ih =>
    intro hent hnd hpX hinv hnull
    have hent' : ∀ r ∈ l, FssEntry n0 L na r := fun r hr => hent r (List.mem_cons_of_mem _ hr)
    rw [List.map_cons, List.nodup_cons] at hnd
    obtain ⟨hil, hnd'⟩ := hnd
    rcases hent r List.mem_cons_self with e | ⟨q, hqL, e⟩
    · -- the `cas:NULL` entry
      subst e
      have h0c : cv.contains 0 = false := by
        cases h : cv.contains 0
        · rfl
        · exact absurd (hcv 0 (List.contains_iff_mem.mp h)) ctx.zero_not_id
      obtain ⟨hpF, hF, hinvF, hfrzF⟩ := ih hent' hnd' hpX
        (hinv.mono (fun q hq => conv_iff (fun e => absurd e (ctx.lok.ids q hq).2)) (fun _ _ h => h)) hnull
      refine ⟨hpF, ?_, hinvF, hfrzF⟩
      rw [convertReferenced, h0c]
      simp only [Bool.false_eq_true, if_false]
      rw [hnull]
      dsimp only
      have hslot : slot hpX n0 "sofa" = none := by
        show (hpX[n0]?).bind _ = _
        rw [hnull]
        show alistGet? o0.slots "sofa" = none
        rw [hs0]; rfl
      rw [hslot]
      dsimp only
      rw [ite_self]
      exact hF
    · -- the entry of a collected structure
      obtain ⟨i, ai⟩ := q
      simp only at e
      subst e
      have hq : (i, ai) ∈ L := hqL
      obtain ⟨o, o', ho, ho', hok⟩ := hinv (i, ai) hq
      simp only at ho ho' hok
      rw [convertReferenced]
      by_cases hc : cv.contains i = true
      · rw [if_pos hc]
        have hic : i ∈ cv := List.contains_iff_mem.mp hc
        exact ih hent' hnd' hpX (hinv.mono (fun q _ => conv_iff (fun e => e ▸ hic)) (fun _ _ h => h)) hnull
      · rw [if_neg hc]
        have hnC : ¬ (i ∈ cv ∨ i ∉ ((i, na i) :: l).map (·.1)) :=
          fun h => h.elim (fun h => hc (List.contains_iff_mem.mpr h)) (fun h => h List.mem_cons_self)
        rw [ho']
        dsimp only
        cases hann : isInstanceOf ts o.ty ANNOTATION
        · rw [hok.1, hann]
          simp only [Bool.false_eq_true, if_false]
          refine ih hent' hnd' hpX (hinv.mono_nonann hE (fun q hq' => ?_) (fun _ _ h => h)) hnull
          by_cases e : q.1 = i
          · right
            intro o2 ho2
            obtain ⟨x, a⟩ := q
            simp only at e
            subst e
            have := congrArg Prod.snd (Det.inj_of_nodup_map (·.1) _ ctx.lok.nodup hq' hq rfl)
            subst this
            rw [ho] at ho2; cases ho2
            exact hann
          · exact Or.inl (conv_iff (fun e' => absurd e' e))
        · rw [hok.1, hann]
          simp only [if_true]
          obtain ⟨vn, v, text, o1, hs, hv, ht, hconv, hok1⟩ := convert_ann ctx hE hq ho ho' hok hnC hann
          have hslot : slot hpX (na i) "sofa" = some (.sofa ci' vn) := by
            show (hpX[na i]?).bind _ = _
            rw [ho']
            obtain ⟨w, hw, hso⟩ := hok.2.2.2 "sofa" _ hs
            rw [(slotOk_sofa.mp hso).resolve_right (fun h => h.1), hE.sofa3] at hw
            exact hw
          rw [hslot]
          dsimp only
          rw [ctx.find_sofa hv]
          dsimp only
          have htext : (psofaOf (vn, v)).text = some (docText text) := by
            show (v.sofa.text).map docText = _
            rw [ht]; rfl
          rw [htext, hconv]
          dsimp only
          have hgt : n0 ≠ na i := ctx.nok.ne0 (i, ai) hq
          obtain ⟨hpF, g1, g2, g3⟩ := ih hent' hnd' _
            (hinv.step ctx.nok.inj ctx.lok.nodup hq ho ho' (hok1 _ (Or.inr hil))
              (fun q _ hne => conv_iff (fun e => absurd e hne)) (fun _ _ _ h => h))
            (by rw [List.getElem?_set_ne hgt.symm]; exact hnull)
          exact ⟨hpF, g1, g2, (Frz.set_some ho' hok.2.1).trans g3⟩

theorem convRef_all (ctx : CtxC K ts cass ci c hp H L na n0 p) (hE : ExpOk ts cass ci' E2 E3)
    (cv : List Int) (hcv : ∀ x ∈ cv, x ∈ L.map (·.1)) (hs0 : o0.slots = []) (hpX : Heap)
    (hinv : HInv E2 E3 ci' H L na (fun x => x ∈ cv) (fun _ => False) hpX) (hnull : hpX[n0]? = some o0) :
    ∃ hpF, convertReferenced ts p cv p.fss hpX = .ok hpF ∧
      HInv E2 E3 ci' H L na (fun _ => True) (fun _ => False) hpF ∧ Frz hpX hpF := by
  refine convRef_loop ctx hE cv hcv hs0 p.fss ctx.p1.fss_entry (ctx.p1.fss_nodup ctx.lok.idsOk) hpX
    (hinv.mono (fun q hq => ?_) (fun _ _ h => h)) hnull
  have : q.1 ∈ p.fss.map (·.1) := List.mem_map.mpr ⟨(q.1, na q.1), ctx.p1.mem_fss hq, rfl⟩
  exact ⟨Or.inl, fun h => h.elim id (fun h' => absurd this h')⟩

theorem view_content (ctx : CtxC K ts cass ci c hp H L na n0 p)
    {E : Obj → String → Val → Val} {hpF : Heap} (hrel : HeapRel H L na E hpF)
    {nv : String × View} (hnv : nv ∈ c.views) {nv' : String × View} (hr : ViewRel H na nv nv') :
    viewContent hpF nv' = viewContent H nv := by
  obtain ⟨h1, _, h2, h3, h4, h5, _, h6⟩ := hr
  unfold viewContent
  rw [h1, h2, h3, h4, h5, members_back (fun m hm => let ⟨_, _, hq⟩ := ctx.member hnv hm; hrel.xid hq) h6]
  rfl

/-- the relation the second pass leaves is the invariant with nothing converted and nothing on record -/
theorem HInv.of_heapRel (hE : ExpOk ts cass ci' E2 E3) {hp2 : Heap} (hrel : HeapRel H L na E2 hp2) :
    HInv E2 E3 ci' H L na (fun x => x ∈ ([] : List Int)) (fun x => x ∈ ([] : List (Int × Val)).map (·.1)) hp2 :=
  HeapRelP.mono (R := fun o o' x => ObjRel (E2 o) o o' x) hrel fun _ _ o _ _ hr =>
    (ObjRel.iffS.1 hr).mono fun n v w _ e => by
      subst e
      by_cases hn : n = "sofa"
      · subst hn
        exact slotOk_sofa.mpr (Or.inl (hE.eq o "sofa" v (by
          have : (("sofa" : String) == "begin" || ("sofa" : String) == "end") = false := by decide
          rw [this]; simp)))
      · exact (slotOk_ne hn).mpr ⟨fun hcv => (by cases hcv), fun _ => rfl⟩

/-- the relation the third pass leaves, from the invariant with everything converted and nothing on record -/
theorem HInv.toHeapRel {hpF : Heap} (h : HInv E2 E3 ci' H L na (fun _ => True) (fun _ => False) hpF) :
    HeapRel H L na E3 hpF :=
  HeapRelP.mono (R' := fun o o' x => ObjRel (E3 o) o o' x) h fun _ _ o _ _ hr =>
    ObjRel.iffS.2 (ObjRelS.mono hr fun n v w _ hs => by
      by_cases hn : n = "sofa"
      · subst hn
        exact (slotOk_sofa.mp hs).resolve_right fun h => h.1
      · exact ((slotOk_ne hn).mp hs).1 trivial)

/-- the third pass, for the sofas in the order `vs0`: the collected structures reach their final state, objects without
    id stay as they are, and the new CAS has the initial view first and then the other views in the order of their
    sofas -/
theorem buildCas_ok (ctx : CtxC K ts cass ci c hp H L na n0 p) (hE : ExpOk ts cass ci' E2 E3)
    {vs0 : List (String × View)} (hvs0 : vs0.Perm c.views)
    (hsofas : p.sofas = vs0.map (fun nv => (nv.2.sofa.xid, psofaOf nv))) {hp2 : Heap}
    (hnull2 : hp2[n0]? = p.heap[n0]?) (hrel : HeapRel H L na E2 hp2) :
    ∃ (ld : Loaded) (nvI : String × View), buildCas K ts ci' false p hp2 = .ok ld ∧ HeapRel H L na E3 ld.heap ∧
      nvI ∈ vs0 ∧ nvI.1 = Cas.INITIAL_VIEW ∧
      All2 (ViewRel H na) (nvI :: vs0.filter (fun nv => nv.1 != Cas.INITIAL_VIEW)) ld.cas.views ∧
      ld.cas.views.map (viewContent ld.heap) =
        (nvI :: vs0.filter (fun nv => nv.1 != Cas.INITIAL_VIEW)).map (viewContent H) ∧
      ld.cas.nextXid = p.maxId + 1 ∧ ld.cas.nextSofaNum = p.maxNum + 1 ∧ Frz hp2 ld.heap := by
  obtain ⟨o0, ho0, _, _, hs0⟩ := ctx.p1.null
  have hb0 : Inv E2 E3 ci' H L na n0 o0 hp2 { cas := Cas.empty, heap := hp2 } :=
    ⟨HInv.of_heapRel hE hrel, fun r hr => (by cases hr), fun x hx => (by cases hx), (by rw [hnull2]; exact ho0),
      Frz.refl _⟩
  obtain ⟨b', nvI, hbv, hb', hmem, hnvI, hall⟩ := views_all ctx hE hvs0 hsofas hb0
  obtain ⟨hpR, hR, hinvR, hnullR, hfrzR⟩ :=
    rehome_ok ctx (fun x => x ∈ b'.converted) b'.memberSofas hb'.ms b'.heap hb'.heap hb'.null
  obtain ⟨hpF, hF, hinvF, hfrzF⟩ := convRef_all ctx hE b'.converted hb'.cv hs0 hpR hinvR hnullR
  have hrel3 := hinvF.toHeapRel
  refine ⟨{ cas := { b'.cas with nextXid := p.maxId + 1, nextSofaNum := p.maxNum + 1 }, heap := hpF }, nvI, ?_, hrel3,
    hmem, hnvI, hall, ?_, rfl, rfl, (hb'.frz.trans hfrzR).trans hfrzF⟩
  · unfold buildCas
    rw [hbv]
    dsimp only
    rw [hR]
    dsimp only
    rw [hF]
  · refine All2.map_eq hall (fun nv hnv nv' hr => view_content ctx hrel3 (hvs0.mem_iff.mp ?_) hr)
    rcases List.mem_cons.mp hnv with e | h
    · exact e ▸ hmem
    · exact (List.mem_filter.mp h).1

end

end Cassis.Xmi.Pass3

namespace Cassis.Xmi

theorem LPC.initial_first {c : Cas} {hp : Heap} (hwf : RTWf c hp) {nvI : String × View} (hm : nvI ∈ c.views)
    (hI : nvI.1 = Cas.INITIAL_VIEW) : nvI :: c.views.filter (fun nv => nv.1 != Cas.INITIAL_VIEW) = c.views := by
  obtain ⟨iv, rest, hv, hiv⟩ := hwf.views_cons
  have hnd := hwf.names_nodup
  rw [hv] at hm hnd ⊢
  obtain rfl : nvI = iv :=
    Det.inj_of_nodup_map (fun nv : String × View => nv.1) _ hnd hm List.mem_cons_self (hI.trans hiv.symm)
  rw [← hI, Det.filter_ne_head (fun nv : String × View => nv.1) hnd]

end Cassis.Xmi

namespace Cassis.Xmi.RTCB
open Cassis.TS Cassis.Xmi.RTB

theorem expOk_coll (K : Consts) (ts : TypeSystem) (cass : List Cas) (H : Heap) (na : Int → Nat)
    (ia : Int → String → Nat) (ci' : Nat) :
    Pass3.ExpOk ts cass ci' (E2c K ts cass H na ia ci') (E3c K ts H na ia ci') :=
  ⟨fun o n v h => by
      have e : E2 ts cass H na ci' o n v = exp3 H na ci' v := exp2_eq_exp3 cass H na ci' _ o n v h
      cases v <;> first | exact e | rfl,
    fun _ _ _ => rfl, fun _ _ _ => rfl, fun _ _ => rfl, fun _ _ _ _ => rfl⟩

end Cassis.Xmi.RTCB
