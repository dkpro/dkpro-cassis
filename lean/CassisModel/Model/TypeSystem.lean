/-
Model of `cassis/typesystem.py`: `Feature`, `Type`, `TypeSystem` (type tree, features, lookups).

Types are identified by name inside one type-system value (the code identifies them by object; the
correspondence check observes object identity on the implementation side, see DESIGN.md §4).
Dictionaries are lists in insertion order.
-/
import CassisModel.Model.Basic

namespace Cassis.TS

def TOP : String := "uima.cas.TOP"
def ANNOTATION : String := "uima.tcas.Annotation"
def DOCUMENT_ANNOTATION : String := "uima.tcas.DocumentAnnotation"
def SOFA : String := "uima.cas.Sofa"
def FS_ARRAY : String := "uima.cas.FSArray"
def FS_LIST : String := "uima.cas.FSList"
def ARRAY_BASE : String := "uima.cas.ArrayBase"
def STRING_ARRAY : String := "uima.cas.StringArray"
def STRING_LIST : String := "uima.cas.StringList"

structure Feature where
  name : String
  domain : String
  range : String
  elem : Option String := none
  descr : Option String := none
  multi : Option Bool := none
  reserved : Bool := false
deriving Repr, DecidableEq, Inhabited

/-- `Feature.__eq__`: name, description, range name, element type name (absent = TOP).
    The multiple-references flag is compared with itself in the code and therefore never differs. -/
def featureEq (f g : Feature) : Bool :=
  f.name == g.name && f.descr == g.descr && f.range == g.range &&
  (f.elem.getD TOP) == (g.elem.getD TOP)

structure TypeRec where
  name : String
  super : Option String
  descr : Option String := none
  children : List String := []     -- keys of `_children`, insertion order
  own : List Feature := []         -- values of `_features`
  inh : List Feature := []         -- values of `_inherited_features`
deriving Repr, DecidableEq, Inhabited

structure TypeSystem where
  types : List TypeRec                  -- `_types`, insertion order
  redeclared : List String := []        -- `_predefined_types`
deriving Repr, DecidableEq, Inhabited

/-- constant name sets of the module, regenerated from the source (see `Gen/Builtins.lean`) -/
structure Consts where
  predefined : List String
  primitive : List String
  finalTypes : List String      -- `_INHERITANCE_FINAL_TYPES`
  primArrays : List String
  primLists : List String
  arrays : List String
  lists : List String
deriving Repr

variable (K : Consts)

def find? (ts : TypeSystem) (n : String) : Option TypeRec := ts.types.find? (·.name == n)

def hasExact (ts : TypeSystem) (n : String) : Bool := (find? ts n).isSome

/-- `Type.short_name`: the part after the last dot -/
def shortName (n : String) : String := (n.splitOn ".").getLast!

def hasDot (n : String) : Bool := n.contains '.'

/-- `TypeSystem.get_type(name)` (`match_exactly=False`) -/
def getType (ts : TypeSystem) (n : String) : R TypeRec :=
  match find? ts n with
  | some t => .ok t
  | none =>
    if hasDot n then .error .typeNotFound
    else
      match ts.types.filter (fun t => shortName t.name == n) with
      | [t] => .ok t
      | _ => .error .typeNotFound

/-- `TypeSystem.get_type(name, match_exactly=True)`: no short-name matching.  The loaders resolve the type an element of a
    document names this way: a document names types by their full names -/
def getTypeExact (ts : TypeSystem) (n : String) : R TypeRec :=
  match find? ts n with
  | some t => .ok t
  | none => .error .typeNotFound

/-- `TypeSystem.contains_type(name, match_exactly)` -/
def containsType (ts : TypeSystem) (n : String) (exact : Bool := false) : Bool :=
  if hasDot n || exact then hasExact ts n
  else match getType ts n with
    | .ok _ => true
    | .error _ => false

/-- replace the record named `r.name` -/
def setRec (ts : TypeSystem) (r : TypeRec) : TypeSystem :=
  { ts with types := ts.types.map (fun t => if t.name == r.name then r else t) }

/-- `_types[name] = new_type` -/
def putRec (ts : TypeSystem) (r : TypeRec) : TypeSystem :=
  if hasExact ts r.name then setRec ts r else { ts with types := ts.types ++ [r] }

/-- `Type.all_features`: own then inherited, `unique_everseen` under `Feature.__eq__` -/
def dedupFeatures : List Feature → List Feature → List Feature
  | [], _ => []
  | f :: fs, seen => if seen.any (featureEq · f) then dedupFeatures fs seen
                     else f :: dedupFeatures fs (seen ++ [f])

def allFeatures (t : TypeRec) : List Feature := dedupFeatures (t.own ++ t.inh) []

/-- `Type.get_feature` -/
def getFeature (t : TypeRec) (n : String) : Option Feature :=
  match t.own.find? (·.name == n) with
  | some f => some f
  | none => t.inh.find? (·.name == n)

/-- `Type.descendants` (pre-order over `_children`), fuel = depth budget -/
def descendants (ts : TypeSystem) : Nat → String → List String
  | 0, _ => []
  | f+1, n => match find? ts n with
    | none => []
    | some t => n :: t.children.flatMap (descendants ts f)

def descendantsOf (ts : TypeSystem) (n : String) : List String := descendants ts (ts.types.length + 1) n

/-- walk of the supertype chain used by `Type.subsumes`, `is_instance_of`, `is_primitive` -/
def superOf (ts : TypeSystem) (n : String) : Option String := (find? ts n).bind (·.super)

/-- `Type.subsumes(self=a, other=b)` -/
def subsumesAux (ts : TypeSystem) (a : String) : Nat → Option String → Bool
  | 0, _ => false
  | _, none => false
  | f+1, some b => if a == b then true else subsumesAux ts a f (superOf ts b)

def subsumes (ts : TypeSystem) (a b : String) : Bool :=
  if a == TOP then true else subsumesAux ts a (ts.types.length + 1) (some b)

/-- `TypeSystem.is_instance_of(type_, parent)` on names of registered types -/
def isInstanceOfAux (ts : TypeSystem) (p : String) : Nat → Option String → Bool
  | 0, _ => false
  | _, none => false
  | f+1, some t => if t == p then true else if t == TOP then false else isInstanceOfAux ts p f (superOf ts t)

def isInstanceOf (ts : TypeSystem) (t p : String) : Bool :=
  isInstanceOfAux ts p (ts.types.length + 1) (some t)

/-- `is_primitive(type_)`: walk up until TOP or a primitive name -/
def isPrimitiveAux (ts : TypeSystem) : Nat → Option String → Bool
  | 0, _ => false
  | _, none => false
  | f+1, some t => if t == TOP then false else if K.primitive.contains t then true
                   else isPrimitiveAux ts f (superOf ts t)

def isPrimitive (ts : TypeSystem) (t : String) : Bool := isPrimitiveAux K ts (ts.types.length + 1) (some t)

def isPrimitiveArray (n : String) : Bool := n != TOP && K.primArrays.contains n
def isPrimitiveList (n : String) : Bool := n != TOP && K.primLists.contains n
def isArray (n : String) : Bool := n != TOP && K.arrays.contains n
def isList (n : String) : Bool := n != TOP && K.lists.contains n

/-! ### `Type._add_feature` -/

/-- outcome of the two dictionary checks at the top of `_add_feature` -/
inductive AddCheck | conflict | same | fresh
deriving DecidableEq, Repr

def addCheck (t : TypeRec) (f : Feature) (inherited : Bool) : AddCheck :=
  let target := if inherited then t.inh else t.own
  match target.find? (·.name == f.name) with
  | some g => if featureEq g f then .same else .conflict
  | none =>
    match t.inh.find? (·.name == f.name) with
    | some g => if featureEq g f then .same else .conflict
    | none => .fresh

/-- push an inherited feature down the `_children` links (fuel = depth budget) -/
def pushInherited (f : Feature) : Nat → TypeSystem → List String → R TypeSystem
  | 0, _, _ => .error .outOfFuel
  | _, ts, [] => .ok ts
  | fuel+1, ts, c :: cs =>
    match find? ts c with
    | none => pushInherited f (fuel+1) ts cs       -- cannot happen in a consistent tree
    | some t =>
      match addCheck t f true with
      | .conflict => .error .valueError
      | .same => pushInherited f (fuel+1) ts cs
      | .fresh => do
        let ts1 := setRec ts { t with inh := t.inh ++ [f] }
        let ts2 ← pushInherited f fuel ts1 t.children
        pushInherited f (fuel+1) ts2 cs
termination_by fuel _ cs => (fuel, cs.length)

/-- does a proper descendant own a feature of that name defined differently? -/
def descendantConflict (ts : TypeSystem) (n : String) (f : Feature) : Bool :=
  (descendantsOf ts n).any (fun d => d != n &&
    match find? ts d with
    | none => false
    | some t => match t.own.find? (·.name == f.name) with
      | some g => !(featureEq g f)
      | none => false)

/-- `domain._add_feature(feature)` with `inherited=False` -/
def addFeature (ts : TypeSystem) (domain : String) (f : Feature) : R TypeSystem :=
  match find? ts domain with
  | none => .error .typeNotFound
  | some t =>
    match addCheck t f false with
    | .conflict => .error .valueError
    | .same => .ok ts
    | .fresh =>
      if descendantConflict ts domain f then .error .valueError
      else
        let ts1 := setRec ts { t with own := t.own ++ [f] }
        pushInherited f (ts.types.length + 1) ts1 t.children

/-- `TypeSystem.create_feature` (names `self`/`type` get a trailing underscore) -/
def createFeature (ts : TypeSystem) (domain name range : String) (elem : Option String := none)
    (descr : Option String := none) (multi : Option Bool := none) : R TypeSystem := do
  let reserved := name == "self" || name == "type"
  let name' := if reserved then name ++ "_" else name
  let d ← getType ts domain
  let r ← getType ts range
  let e ← match elem with
    | none => pure none
    | some en => do let t ← getType ts en; pure (some t.name)
  addFeature ts d.name
    { name := name', domain := d.name, range := r.name, elem := e, descr := descr, multi := multi,
      reserved := reserved }

/-- add the inherited features of the supertype to a fresh (childless, featureless) type:
    the loop `for feature in supertype.all_features: new_type._add_feature(feature, inherited=True)` -/
def inheritAll : List Feature → TypeRec → R TypeRec
  | [], t => .ok t
  | f :: fs, t =>
    match addCheck t f true with
    | .conflict => .error .valueError
    | .same => inheritAll fs t
    | .fresh => inheritAll fs { t with inh := t.inh ++ [f] }

/-- `TypeSystem.create_type` -/
def createType (ts : TypeSystem) (name : String) (superName : String := ANNOTATION)
    (descr : Option String := none) : R TypeSystem := do
  if K.finalTypes.contains superName then throw .valueError
  if hasExact ts name && !(K.predefined.contains name) then throw .valueError
  let sup ← getType ts superName
  if K.finalTypes.contains sup.name then throw .valueError     -- the supertype may be given by short name
  let new0 : TypeRec := { name := name, super := some sup.name, descr := descr }
  -- `supertype._children[name] = new_type`
  let sup' := if sup.children.contains name then sup else { sup with children := sup.children ++ [name] }
  let new1 ← inheritAll (allFeatures sup) new0
  pure (putRec (setRec ts sup') new1)

/-- `TypeSystem.get_types(built_in)` -/
def getTypes (ts : TypeSystem) (builtIn : Bool := false) : List TypeRec :=
  if builtIn then ts.types else ts.types.filter (fun t => !(K.predefined.contains t.name))

/-- field names the instance constructor accepts (besides `type` and `xmiID`) -/
def ctorFields (t : TypeRec) : List String := (allFeatures t).map (·.name)

/-- `TypeSystem.transitive_closure(seeds, built_in=False)`; the open list is a queue, result order is
    the order of first visit (the code returns a set) -/
def closureStep (ts : TypeSystem) (visited : List String) : Nat → List String → List String
  | 0, _ => visited
  | _, [] => visited
  | fuel+1, n :: rest =>
    if visited.contains n then closureStep ts visited fuel rest
    else if K.predefined.contains n then closureStep ts visited fuel rest
    else match find? ts n with
      | none => closureStep ts visited fuel rest
      | some t =>
        let vis := visited ++ [n]
        let sup := match t.super with
          | some s => if vis.contains s then [] else [s]
          | none => []
        let feats := (allFeatures t).flatMap (fun f =>
          (if vis.contains f.range then [] else [f.range]) ++
          (match f.elem with | some e => if vis.contains e then [] else [e] | none => []))
        closureStep ts vis fuel (rest ++ sup ++ feats)

end Cassis.TS
