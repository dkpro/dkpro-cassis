/-
Round trip with collections, layer AR of `RoundTripColl_NOTES.md`: array objects (`ArrFs`), first pass (`arr_elem1`; the
reader through `CG1.parse_nofold`: `parse_arr`).
-/
import CassisModel.Proofs.RoundTripCollLemmas
import CassisModel.Proofs.RoundTripCollElemReader

namespace Cassis.Xmi.CAR
open Cassis.TS Cassis.Traverse Cassis.Lex

theorem strArr_self (ts : TypeSystem) : isInstanceOf ts STRING_ARRAY STRING_ARRAY = true := by
  simp [isInstanceOf, isInstanceOfAux]

theorem get_elems {β} (v : β) : alistGet? [("elements", v)] "elements" = some v :=
  alistGet?_cons_self _ _ _

theorem get_elems_inv {β} (v u : β) (n : String) (h : alistGet? [("elements", v)] n = some u) :
    n = "elements" ∧ u = v :=
  (alistGet?_single h).imp_left Eq.symm

theorem keys_elems {β} (l : List (String × β)) (h : l.map (·.1) = ["elements"]) : ∃ w, l = [("elements", w)] := by
  match l, h with
  | [(k, w)], h =>
    simp only [List.map_cons, List.map_nil, List.cons.injEq, and_true] at h
    subst h; exact ⟨w, rfl⟩

theorem slot_elems {H : Heap} {a : Nat} {o : Obj} {ev : Val} (hH : H[a]? = some o) (hs : o.slots = [("elements", ev)]) :
    Xmi.slot H a "elements" = some ev := by
  rw [Xmi.slot_of hH _, hs, get_elems]

theorem render_none (K : Consts) (ts : TypeSystem) (cass : List Cas) {H : Heap} {a : Nat} {o : Obj} {x : Int}
    (hH : H[a]? = some o) (hs : o.slots = [("elements", .none)]) (hx : o.xid = some x)
    (hb : (isPrimitiveArray K o.ty || o.ty == FS_ARRAY) = true) :
    renderFs K ts cass H a = .ok { ty := o.ty, attrs := [(ID, showInt x)] } := by
  unfold renderFs
  simp only [bind, Except.bind, pure, Except.pure, if_true, hH, slot_elems hH hs, hx, hb]

theorem render_strs (K : Consts) (ts : TypeSystem) (cass : List Cas) {H : Heap} {a : Nat} {o : Obj} {x : Int}
    (l : List (Option String))
    (hH : H[a]? = some o) (hs : o.slots = [("elements", .strs l)]) (hx : o.xid = some x)
    (hb : (isPrimitiveArray K o.ty || o.ty == FS_ARRAY) = true) (hsa : isInstanceOf ts o.ty STRING_ARRAY = true) :
    renderFs K ts cass H a =
      .ok { ty := o.ty, attrs := [(ID, showInt x)], kids := l.map (fun e => ("elements", normTxt e)) } := by
  unfold renderFs
  simp only [bind, Except.bind, pure, Except.pure, if_true, hH, slot_elems hH hs, hx, hb, hsa]

theorem render_strNil (K : Consts) (ts : TypeSystem) (cass : List Cas) {H : Heap} {a : Nat} {o : Obj} {x : Int}
    (hH : H[a]? = some o) (hs : o.slots = [("elements", .refs [])]) (hx : o.xid = some x)
    (hb : (isPrimitiveArray K o.ty || o.ty == FS_ARRAY) = true) (hsa : isInstanceOf ts o.ty STRING_ARRAY = true) :
    renderFs K ts cass H a = .ok { ty := o.ty, attrs := [(ID, showInt x)] } := by
  unfold renderFs
  simp only [bind, Except.bind, pure, Except.pure, if_true, hH, slot_elems hH hs, hx, hb, hsa]

theorem render_refs (K : Consts) (ts : TypeSystem) (cass : List Cas) {H : Heap} {a : Nat} {o : Obj} {x : Int}
    (l : List (Option Nat)) (ids : List String)
    (hH : H[a]? = some o) (hs : o.slots = [("elements", .refs l)]) (hx : o.xid = some x)
    (hty : o.ty = FS_ARRAY) (hsa : isInstanceOf ts o.ty STRING_ARRAY = false)
    (hids : refIds H l = .ok ids) :
    renderFs K ts cass H a = .ok { ty := o.ty, attrs := [(ID, showInt x), ("elements", joinSp ids)] } := by
  rw [hty] at hsa
  unfold renderFs
  simp only [bind, Except.bind, pure, Except.pure, if_true, hH, slot_elems hH hs, hx, hty, hsa, beq_self_eq_true, Bool.or_true, hids,
    Bool.false_eq_true, if_false]

theorem render_prim (K : Consts) (ts : TypeSystem) (cass : List Cas) {H : Heap} {a : Nat} {o : Obj} {x : Int}
    (ev : Val) (s : String)
    (hH : H[a]? = some o) (hs : o.slots = [("elements", ev)]) (hx : o.xid = some x) (hev : ev ≠ .none)
    (hb : isPrimitiveArray K o.ty = true)
    (hty : o.ty ≠ FS_ARRAY) (hsa : isInstanceOf ts o.ty STRING_ARRAY = false)
    (hshow : showPrimArray o.ty ev = .ok s) :
    renderFs K ts cass H a = .ok { ty := o.ty, attrs := [(ID, showInt x), ("elements", s)] } := by
  unfold renderFs
  simp only [bind, Except.bind, pure, Except.pure, if_true, hH, slot_elems hH hs, hx, hsa, hb, Bool.true_or, beq_eq_false_iff_ne.2 hty, hshow]
  cases ev <;> first | exact absurd rfl hev | rfl

theorem ctor_elems {t : TypeRec} {f : Feature} (hf : allFeatures t = [f]) (hn : f.name = "elements") :
    ctorFields t = ["elements"] := by
  unfold ctorFields; rw [hf]; simp [hn]

/-- the element of an array object: `elements` as an attribute (`av`), as child elements (`ks`), or absent -/
def arrElem (ty : String) (x : Int) (av : Option String) (ks : List (Option String)) : XElem :=
  { ty := ty, attrs := (ID, showInt x) :: av.toList.map (fun s => ("elements", s)), kids := ks.map (fun e => ("elements", e)) }

/-- what the first pass stores in `elements` -/
def arrVal (av : Option String) : List (Option String) → Val
  | [] => attrVal "elements" av
  | ks => .strs ks

/-- the first pass on the element of an array object (with child elements it is a StringArray, to which the reader does
    nothing more at this point) -/
theorem parse_arr (K : Consts) (ts : TypeSystem) (tsIdx : Nat) (hp : Heap) (ty : String) (t : TypeRec) (x : Int)
    (f : Feature) (av : Option String) (ks : List (Option String)) (ht : getTypeExact ts ty = .ok t)
    (hfeat : allFeatures t = [f]) (hfn : f.name = "elements") (hfr : f.reserved = false)
    (hex : ks ≠ [] → av = none ∧ isPrimitiveArray K ty = true) :
    parseFsElem K ts tsIdx hp (arrElem ty x av ks) =
      .ok (hp ++ [{ ty := t.name, ts := tsIdx, xid := some x, slots := [("elements", arrVal av ks)] }], x, hp.length) := by
  have hc := ctor_elems hfeat hfn
  have hx : xmlName f = "elements" := by unfold xmlName; rw [hfr, hfn]; rfl
  have hel : arrElem ty x av ks = CG1.gElem xmlName ty x (fun _ => av) (fun _ => ks) (allFeatures t) := by
    rw [hfeat]
    cases av <;>
      simp only [arrElem, CG1.gElem, CG1.gAttrs, CG1.gKids, hx, List.append_nil, Option.toList, List.map_cons, List.map_nil]
  have R : ∀ g ∈ allFeatures t, CG1.Shape0 g av ks := by
    intro g hg; rw [hfeat, List.mem_singleton] at hg; subst hg
    exact ⟨by rw [hfn]; simp [ID], fun hk => (hex hk).1, fun _ => by rw [hfn]; simp, fun h => by rw [hfn] at h; simp at h⟩
  rw [hel, CG1.parse_nofold K ts tsIdx t x ty xmlName _ _ ht (by rw [hfeat]; simp) R (fun g hg => by
      rw [hfeat, List.mem_singleton] at hg; subst hg
      rw [hx]; simp [renRes, hfn, ID])
    (by
      by_cases hk : ks = []
      · exact .inr fun _ _ => hk
      · exact .inl (hex hk).2) hp]
  unfold constructed
  rw [hc, Det.eraseDups_of_nodup _ (List.pairwise_singleton _ _)]
  have hf : f ∈ allFeatures t := by rw [hfeat]; exact List.mem_singleton.mpr rfl
  cases ks with
  | nil =>
    have := CG1.kwArgs_get_attr (ca := fun _ => av) (ck := fun _ => []) (by rw [hfeat]; simp : ((allFeatures t).map (·.name)).Nodup) hf rfl
    rw [hfn] at this
    simp only [List.map_cons, List.map_nil, this]
    rfl
  | cons e0 rest =>
    have hav : av = none := (hex (List.cons_ne_nil _ _)).1
    subst hav
    have : alistGet? (CG1.kwArgs (fun _ => none) (fun _ => e0 :: rest) (allFeatures t)) "elements" = some (.strs (e0 :: rest)) := by
      rw [hfeat]
      simp [CG1.kwArgs, CG1.gAttrs, CG1.gG0, CG1.gF, kwOf, alistGet?, hfn]
    simp only [List.map_cons, List.map_nil, this, Option.getD_some]
    rfl

theorem fsArray_ne : FS_ARRAY ≠ SOFA ∧ FS_ARRAY ≠ VIEW_T := by simp [FS_ARRAY, SOFA, VIEW_T]

theorem strArray_ne : STRING_ARRAY ≠ SOFA ∧ STRING_ARRAY ≠ VIEW_T := by simp [STRING_ARRAY, SOFA, VIEW_T]

theorem wrote1_none (K : Consts) (ts : TypeSystem) (cass : List Cas) {H : Heap} {a : Nat} {o : Obj} {t : TypeRec}
    {f : Feature} (hH : H[a]? = some o) (hfind : find? ts o.ty = some t) (hfeat : allFeatures t = [f])
    (hfn : f.name = "elements") (hna : isInstanceOf ts o.ty ANNOTATION = false)
    (hs : o.slots = [("elements", .none)]) (hpX : Heap) : Wrote1 K ts cass H hpX o "elements" .none := by
  have hr : renderFeature K ts cass H a (isInstanceOf ts o.ty ANNOTATION) f = .ok (featOut f none []) := by
    rw [renderFeature_none K ts cass H a _ f (by simp [hfn]) (by simp [hfn])
      (by rw [Xmi.slot_of hH _, hs, hfn, get_elems]; rfl)]
    rfl
  refine ⟨a, t, f, hH, hfind, (by rw [hfeat]; exact List.mem_singleton.mpr rfl), hfn,
    (fun h => by rw [hna] at h; cases h), ?_⟩
  rw [fAttr_of hr, fKids_of hr]
  exact ⟨fun _ => rfl, fun h => absurd rfl h⟩

theorem obj1_of (K : Consts) (ts : TypeSystem) (cass : List Cas) (H hpX : Heap) (o : Obj) (tn : String) (tsIdx : Nat)
    (x : Int) (ev w : Val) (hs : o.slots = [("elements", ev)]) (htn : tn = o.ty)
    (h : (ev = .none ∧ Wrote1 K ts cass H hpX o "elements" w) ∨ (isListV ev = true ∧ Elems1 H o.ty ev w)) :
    Obj1 K ts cass H hpX o { ty := tn, ts := tsIdx, xid := some x, slots := [("elements", w)] } x := by
  refine ⟨htn, rfl, by rw [hs]; rfl, ?_⟩
  intro n v hv
  rw [hs] at hv
  obtain ⟨rfl, rfl⟩ := get_elems_inv _ _ _ hv
  refine ⟨w, get_elems w, ?_⟩
  rcases h with ⟨rfl, h⟩ | ⟨h1, h2⟩
  · exact ⟨fun hl => (by cases hl), fun _ => h⟩
  · exact ⟨fun _ => h2, fun hl => (by rw [h1] at hl; cases hl)⟩

end Cassis.Xmi.CAR

namespace Cassis.Xmi
open Cassis.TS Cassis.Traverse Cassis.Lex Cassis.Xmi.CAR

theorem arr_elem1 (K : Consts) (ts : TypeSystem) (cass : List Cas) (H : Heap) (tsIdx : Nat) :
    Elem1Stmt K ts cass H tsIdx (ArrFs K ts H) := by
  intro a x hP hid
  obtain ⟨o, t, f, ev, hH, hfind, ar⟩ := hP.obj
  have hx : o.xid = some x := by exact (xidOf_eq hH).symm.trans hid
  -- the writer: `elements` as the attribute `av`, as the child elements `ks`, or not at all; what the slot holds then
  have hw : ∃ (av : Option String) (ks : List (Option String)), renderFs K ts cass H a = .ok (arrElem o.ty x av ks) ∧
      (ks ≠ [] → av = none ∧ isPrimitiveArray K o.ty = true) ∧ (o.ty ≠ SOFA ∧ o.ty ≠ VIEW_T) ∧
      ∀ hpX, (ev = .none ∧ Wrote1 K ts cass H hpX o "elements" (arrVal av ks)) ∨
        (isListV ev = true ∧ Elems1 H o.ty ev (arrVal av ks)) := by
    rcases ar.kind with ⟨hty, hpa, hsa, hev⟩ | ⟨hty, hpa, hev⟩ | ⟨hty, hpa, hsa, hev⟩
    · -- FSArray
      have hb : (isPrimitiveArray K o.ty || o.ty == FS_ARRAY) = true := by rw [hty]; simp
      have hne : o.ty ≠ SOFA ∧ o.ty ≠ VIEW_T := by rw [hty]; exact fsArray_ne
      rcases hev with rfl | ⟨l, rfl, hl⟩
      · exact ⟨.none, [], render_none K ts cass hH ar.slots hx hb, nofun, hne,
          fun hpX => .inl ⟨rfl, wrote1_none K ts cass hH hfind ar.feats ar.fname ar.notAnn ar.slots hpX⟩⟩
      · exact ⟨some _, [], render_refs K ts cass _ _ hH ar.slots hx hty (by rw [hty]; exact hsa) (CG1.refIds_ok H l hl), nofun,
          hne, fun _ => .inr ⟨rfl, .inl ⟨hty, l, rfl, rfl⟩⟩⟩
    · -- StringArray
      have hb : (isPrimitiveArray K o.ty || o.ty == FS_ARRAY) = true := by rw [hty, hpa]; rfl
      have hne : o.ty ≠ SOFA ∧ o.ty ≠ VIEW_T := by rw [hty]; exact strArray_ne
      have hsa : isInstanceOf ts o.ty STRING_ARRAY = true := by rw [hty]; exact strArr_self ts
      rcases hev with rfl | ⟨l, rfl⟩
      · exact ⟨.none, [], render_strNil K ts cass hH ar.slots hx hb hsa, nofun, hne,
          fun _ => .inr ⟨rfl, .inr (.inl ⟨hty, .inl ⟨.inl rfl, rfl⟩⟩)⟩⟩
      · refine ⟨.none, l.map normTxt, ?_, fun _ => ⟨rfl, hty ▸ hpa⟩, hne, fun _ => .inr ⟨rfl, .inr (.inl ⟨hty, ?_⟩)⟩⟩
        · rw [render_strs K ts cass l hH ar.slots hx hb hsa, arrElem, List.map_map]; rfl
        · cases l with
          | nil => exact .inl ⟨.inr rfl, rfl⟩
          | cons e0 rest => exact .inr ⟨e0 :: rest, rfl, List.cons_ne_nil _ _, rfl⟩
    · -- the other primitive arrays
      have hb : (isPrimitiveArray K o.ty || o.ty == FS_ARRAY) = true := by rw [hpa]; rfl
      have hne : o.ty ≠ SOFA ∧ o.ty ≠ VIEW_T := ⟨primArrTy_ne hty (by simp), primArrTy_ne hty (by simp)⟩
      rcases hev with rfl | hev
      · exact ⟨.none, [], render_none K ts cass hH ar.slots hx hb, nofun, hne,
          fun hpX => .inl ⟨rfl, wrote1_none K ts cass hH hfind ar.feats ar.fname ar.notAnn ar.slots hpX⟩⟩
      · obtain ⟨hnn, s, hshow⟩ := CG1.showPrimArray_ok hev
        exact ⟨some s, [], render_prim K ts cass ev s hH ar.slots hx hnn hpa (primArrTy_ne hty (by simp)) hsa hshow, nofun, hne,
          fun _ => .inr ⟨primElems_list hev, .inr (.inr ⟨hty, s, hshow, rfl⟩)⟩⟩
  obtain ⟨av, ks, hr, hex, hne, hsl⟩ := hw
  refine ⟨o, _, hH, hr, hne.1, hne.2, fun hpCur => ⟨[], _, ?_, nofun, obj1_of K ts cass H _ o t.name tsIdx x _ _ ar.slots ar.name (hsl _)⟩⟩
  rw [List.append_nil]
  exact parse_arr K ts tsIdx hpCur o.ty t x f av ks (getTypeExact_of_find hfind) ar.feats ar.fname ar.fres hex

end Cassis.Xmi
