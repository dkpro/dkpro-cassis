/-
C16 with collections, the CAS loaded from XMI, over the heap *after* the traversal of the JSON writer: `MembersOk` carries
over (`membersOk_shape`; the other hypotheses of the JSON round trip over that heap are the `XLd.*` lemmas at the head of
`ChainCollXmiJson.lean`), and so does the deep content `featContentC` of the counterparts (`XLd.content_keep`: the traversal
assigned ids to the inlined collection objects only, which the content of the features of the counterparts does not mention).
-/
import CassisModel.Proofs.ChainCollXmiLoadedTrav

namespace Cassis.ChainC
open Cassis.TS Cassis.Traverse Cassis.Xmi Cassis.Json

section
variable {K : Consts} {ts : TypeSystem} {c : Cas} {ci : Nat} {H : Heap} {L : List (Int × Nat)} {ci' : Nat}
  {na : Int → Nat} {ia : Int → String → Nat} {ld : Xmi.Loaded}

theorem XLd.slot_map (x : XLd K ts c ci H L ci' na ia ld) {q : Int × Nat} (hq : q ∈ L) {o o' : Obj}
    (ho : H[q.2]? = some o) (ho' : ld.heap[na q.1]? = some o') (n : String) :
    alistGet? o'.slots n = (alistGet? o.slots n).map (E3c K ts H na ia ci' o n) := by
  obtain ⟨o1, o1', h1, h1', hor⟩ := x.rel q hq
  rw [ho] at h1; cases h1
  rw [ho'] at h1'; cases h1'
  exact hor.slot n

end

theorem membersOk_shape {c : Cas} {hp hp' : Heap} (sh : SameShape hp hp') : MembersOk c hp → MembersOk c hp' :=
  MembersOk.transport fun nv hnv => ⟨nv, hnv, fun e he => ⟨e, he, fun o ho =>
    let ⟨o', ho', hty, hsl, _⟩ := sh.2 _ o ho
    ⟨o', ho', hty, fun k hk => ⟨k, (Cas.entryOf_congr (by rw [hsl]) (by rw [hsl]) _).trans hk, rfl⟩⟩⟩⟩

theorem elemVals_shape {hp hp' : Heap} (v : Val)
    (h : ∀ l, v = .refs l → ∀ b, some b ∈ l → xidOf hp' b = xidOf hp b) : elemVals hp' v = elemVals hp v := by
  cases v with
  | refs l =>
    simp only [elemVals]
    apply List.map_congr_left
    intro r hr
    cases r with
    | none => rfl
    | some b => simp only [h l rfl b hr]
  | _ => rfl

theorem cvalOf_shape {hp hp' : Heap} (v : Val) (h1 : ∀ b, v = .ref b → xidOf hp' b = xidOf hp b)
    (h2 : ∀ l, v = .refs l → ∀ b, some b ∈ l → xidOf hp' b = xidOf hp b) : cvalOf hp' v = cvalOf hp v := by
  cases v with
  | ref b => simp only [cvalOf, h1 b rfl]
  | refs l =>
    have := elemVals_shape (hp := hp) (hp' := hp') (.refs l) h2
    simp only [cvalOf, this]
  | _ => rfl

theorem headVal_shape {hp hp' : Heap} (isStr : Bool) (v : Val) (h : ∀ b, v = .ref b → xidOf hp' b = xidOf hp b) :
    headVal hp' isStr v = headVal hp isStr v := by
  cases v with
  | ref b => simp only [headVal, h b rfl]
  | _ => rfl

theorem listVals_vlist {hp hp' : Heap} (sh : SameShape hp hp') (isStr : Bool) {k : LK} {a : Nat} {vs : List Val}
    (h : VList hp k a vs) (hx : ∀ v ∈ vs, ∀ b, v = .ref b → xidOf hp' b = xidOf hp b) (fuel : Nat) (hf : vs.length < fuel) :
    listVals hp' isStr fuel (.ref a) = listVals hp isStr fuel (.ref a) := by
  have hs := h.listAt.spine
  rw [listVals_spine isStr hs fuel hf, listVals_spine isStr (hs.congr fun a n => sh.slot a n) fuel hf]
  exact List.map_congr_left fun v hv => headVal_shape isStr v (hx v hv)

section
variable {K : Consts} {ts : TypeSystem} {c : Cas} {ci : Nat} {H : Heap} {L : List (Int × Nat)} {ci' : Nat}
  {na : Int → Nat} {ia : Int → String → Nat} {ld : Xmi.Loaded}

theorem XLd.xid_keep (x : XLd K ts c ci H L ci' na ia ld) {st2 : St} (j : JTrav K ts L na ld st2) {b : Nat}
    (h : SMain L na b) : xidOf st2.heap b = xidOf ld.heap b := by
  obtain ⟨q, hq, rfl⟩ := h
  rw [x.rel.xid hq, j.shape.xidOf (x.rel.xid hq)]

theorem headGood_keep (x : XLd K ts c ci H L ci' na ia ld) {st2 : St} (j : JTrav K ts L na ld st2) {k : LK} {v : Val}
    (h : HeadGood L na k v) : ∀ b, v = .ref b → xidOf st2.heap b = xidOf ld.heap b := by
  intro b hb
  subst hb
  cases k with
  | fs => obtain ⟨q, hq, e⟩ := h; cases e; exact x.xid_keep j ⟨q, hq, rfl⟩
  | int => obtain ⟨i, e⟩ := h; cases e
  | flt => obtain ⟨i, e⟩ := h; cases e
  | str => rcases h with e | ⟨s, e⟩ <;> cases e

/-- **the content of the features of the counterparts is not touched by the second traversal** -/
theorem XLd.content_keep (x : XLd K ts c ci H L ci' na ia ld) {st2 : St} (j : JTrav K ts L na ld st2)
    (harr : ∀ q ∈ L, ArrElemsSome H q.2)
    {q : Int × Nat} (hq : q ∈ L) {o : Obj} (ho : H[q.2]? = some o) {t : TypeRec} (ht : find? ts o.ty = some t)
    {f : Feature} (hf : f ∈ allFeatures t) :
    featContentC K st2.heap (na q.1) f = featContentC K ld.heap (na q.1) f := by
  obtain ⟨o0, o', ho0, ho', hty, _, hkeys, hslots⟩ := x.rel q hq
  rw [ho] at ho0; cases ho0
  have hsl : ∀ a n, Xmi.slot st2.heap a n = Xmi.slot ld.heap a n := fun a n => j.shape.slot a n
  rw [CF.featContentC_eq, CF.featContentC_eq, hsl]
  rcases x.lok.coll q hq with hg | hA
  · obtain ⟨o1, o1', t1, h, hjg, _, hfeat⟩ := x.gen_new (ci' := ci') hq hg
    cases ho.symm.trans h.ho
    cases ho'.symm.trans h.ho'
    cases ht.symm.trans h.ht
    obtain ⟨w, hw⟩ := Xmi.CGM.collFeat_slot _ _ _ _ _ _ _ _ (hfeat f hf)
    have hS : ∀ b, w = .ref b → RefKind K ld.heap L na f b := fun b e => x.feat_new h hf (hfeat f hf) (e ▸ hw)
    rw [Xmi.slot_of ho' f.name, hw]
    simp only [Option.getD_some]
    have hnl : ∀ l, w ≠ .refs l := fun l e => jgen_no_refs hjg ho' (e ▸ hw)
    have plainC : (∀ b, w = .ref b → isInline K f = false) → cvalOf st2.heap w = cvalOf ld.heap w := by
      intro hb
      refine cvalOf_shape w (fun b e => ?_) (fun l e => absurd e (hnl l))
      rcases hS b e with ⟨_, hm⟩ | ⟨hi, _⟩ | ⟨hi, _⟩
      · exact x.xid_keep j hm
      · rw [hb b e] at hi; cases hi
      · rw [hb b e] at hi; cases hi
    by_cases hi : isInline K f = true
    · by_cases hr : ∃ b, w = .ref b
      · obtain ⟨b, rfl⟩ := hr
        rcases hS b rfl with ⟨hni, _⟩ | ⟨_, harr', o2, ev, ho2, _, hsl2, hk⟩ | ⟨_, harr', k, vs, hvl, hlen, hgood⟩
        · rw [hni] at hi; cases hi
        · rw [CF.contentOf_arr _ _ _ _ hi harr', CF.contentOf_arr _ _ _ _ hi harr', hsl, Xmi.slot_of ho2 "elements", hsl2,
            alistGet?_cons_self]
          simp only [Option.getD_some]
          rw [elemVals_shape ev (fun l e b' hb' => ?_)]
          rcases hk with ⟨_, _, l', e', hall⟩ | ⟨_, _, _, hp_⟩
          · rw [e] at e'; cases e'
            obtain ⟨q', hq', e''⟩ := hall _ hb'
            cases e''
            exact x.xid_keep j ⟨q', hq', rfl⟩
          · rw [e] at hp_
            rcases hp_ with e' | ⟨_, l', e'⟩ | ⟨_, l', e'⟩ | ⟨_, _, ⟨l', e'⟩ | ⟨l', e'⟩ | ⟨l', e'⟩⟩
            · cases e'; cases hb'
            all_goals cases e'
        · rw [CF.contentOf_list _ _ _ _ hi harr', CF.contentOf_list _ _ _ _ hi harr', j.shape.1,
            listVals_vlist j.shape _ hvl (fun w hw' => headGood_keep x j (hgood w hw')) _ (by omega)]
      · rw [CF.contentOf_nonref _ _ _ _ fun b e => hr ⟨b, e⟩, CF.contentOf_nonref _ _ _ _ fun b e => hr ⟨b, e⟩]
        exact plainC (fun b e => absurd ⟨b, e⟩ hr)
    · have hi' : isInline K f = false := by simpa using hi
      rw [CF.contentOf_notInline _ _ _ _ hi', CF.contentOf_notInline _ _ _ _ hi']
      exact plainC (fun b _ => hi')
  · obtain ⟨t1, f1, ev, ht1, ar⟩ := hA.at ho
    cases ht.symm.trans ht1
    rw [ar.feats] at hf
    have := List.mem_singleton.mp hf
    subst this
    have hni : isInline K f = false :=
      isInline_of_range (ar.frange ▸ CF.isArray_top K) (ar.frange ▸ CF.isList_top K)
    rw [CF.contentOf_notInline _ _ _ _ hni, CF.contentOf_notInline _ _ _ _ hni]
    obtain ⟨_, hcl⟩ := x.main_arr hq hA (harr q hq)
    refine cvalOf_shape _ (fun b e => ?_) (fun l e b' hb' => ?_)
    · exfalso
      have hs : alistGet? o'.slots f.name = some (.ref b) := Chain.slot_getD ho' e nofun
      exact (hcl o' ho').1 f.name b hs
    · have hs : alistGet? o'.slots "elements" = some (.refs l) := Chain.slot_getD ho' (ar.fname ▸ e) nofun
      exact x.xid_keep j ((hcl o' ho').2 l hs b' hb')

end

end Cassis.ChainC
