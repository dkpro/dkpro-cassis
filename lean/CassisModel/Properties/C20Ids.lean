/-
C20 — the comparable text does not mention xmi:ids.

`renderFrom` uses ids in exactly one way: as keys of the anchor map (`fs_id_to_anchor[fs.xmiID]`).  Renumbering all ids
through an injective function therefore changes nothing in the table, whatever the heap (no side condition): this is the
"differs only in xmi:ids" clause of C20 for the part of the function after the traversal; that the traversal collects the
same structures whatever their ids is C04 (`findAllFs_sound` / `findAllFs_complete`: the reachable set), and the order it delivers
them in is irrelevant by `renderFrom_perm_invariant`.
-/
import CassisModel.Proofs.ComparableIds
import CassisModel.Properties.C20

namespace Cassis.Comparable
open Cassis.TS

/-- **id invariance**: an injective renumbering of all xmi:ids leaves the table unchanged -/
theorem renderFrom_renumber (K : Consts) (ts : TypeSystem) (cass : List Cas) (hp : Heap) (o : Opts) (hsh : Nat → Int)
    (indexed addrs : List Nat) (σ : Int → Int) (hσ : ∀ x y, σ x = σ y → x = y) :
    renderFrom K ts cass (renumber σ hp) o hsh indexed addrs = renderFrom K ts cass hp o hsh indexed addrs := by
  have ag := agreeSort_renumber σ hp
  refine renderFrom_rel K ts o hsh hsh (φ := id) ?_
    (fun a _ => ag.anchorOf (fun c => slot_renumber σ hp c _) cass indexed o a)
    (fun a _ => sameKey_renumber σ hσ hp addrs a)
    (fun _ _ hA t annType a _ => renderRow_renumber σ hσ K hp hA cass t annType a)
  simp only [ag.sortedOf, List.map_id, List.map_id']

/-- ids and order together: any injective renumbering, any order of the collected list, any order of the indexed list,
    any content hash — the same table (under the side condition) -/
theorem renderFrom_ids_and_order (K : Consts) (ts : TypeSystem) (cass : List Cas) (hp : Heap) (o : Opts)
    (hsh hsh' : Nat → Int) (indexed indexed' addrs addrs' : List Nat) (σ : Int → Int) (hσ : ∀ x y, σ x = σ y → x = y)
    (hperm : addrs.Perm addrs') (hidx : ∀ a, a ∈ indexed ↔ a ∈ indexed') (hn : addrs.Nodup) (hd : Distinct hp addrs) :
    renderFrom K ts cass (renumber σ hp) o hsh' indexed' addrs' = renderFrom K ts cass hp o hsh indexed addrs := by
  rw [renderFrom_renumber K ts cass hp o hsh' indexed' addrs' σ hσ]
  exact (renderFrom_perm_invariant K ts cass hp o hsh hsh' indexed indexed' addrs addrs' hperm hidx hn hd).symm

example : renumber (fun x => x + 100) [{ ty := "x.T", ts := 0, xid := some 3, slots := [] }] =
    [{ ty := "x.T", ts := 0, xid := some 103, slots := [] }] := by decide

end Cassis.Comparable
