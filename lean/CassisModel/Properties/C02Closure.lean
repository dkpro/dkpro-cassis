/-
C02 — the MINIMAL embedded type system is sufficient.

`TypeSystem.transitive_closure(used types)` (model: `closureStep`, a queue-driven search with the fuel `saveJson`
gives it) returns a set of user types that contains every used user type and declares everything its members refer
to — supertypes, feature ranges and element types of *all* (own and inherited) features — up to predefined types.
Hence a document written with `TypeSystemMode.MINIMAL` can be loaded without a type system: no declared type refers
to an undeclared, non-predefined one.  The fuel is sufficient for every type system (no run ends early).
-/
import CassisModel.Proofs.Closure

namespace Cassis.TS

/-- **sufficiency of the minimal closure**, for every type system and every set of seeds -/
theorem closure_sufficient (K : Consts) (ts : TypeSystem) (seeds : List String) :
    (∀ n ∈ seeds, K.predefined.contains n = false → (find? ts n).isSome = true →
        n ∈ closureStep K ts [] (closureFuel ts seeds) seeds) ∧
    ClosedUnder K ts (closureStep K ts [] (closureFuel ts seeds) seeds) := by
  have r := Closure.run_closureFuel K ts seeds
  refine ⟨fun n hn hp hf => Closure.run_seeds K ts r n (Or.inr hn) hp hf, ?_⟩
  apply Closure.closed_of_inv
  apply Closure.run_inv K ts r
  intro n hn
  cases hn

/-- nothing superfluous in kind: only registered user types, each once -/
theorem closure_members (K : Consts) (ts : TypeSystem) (seeds : List String) (fuel : Nat) :
    (closureStep K ts [] fuel seeds).Nodup ∧
    ∀ n ∈ closureStep K ts [] fuel seeds, K.predefined.contains n = false ∧ (find? ts n).isSome = true :=
  Closure.members_gen K ts fuel [] seeds ⟨List.nodup_nil, fun n hn => by cases hn⟩

/-- the closure of a closed set of seeds adds nothing (minimality in the simplest form) -/
theorem closure_of_closed (K : Consts) (ts : TypeSystem) (seeds : List String) (hn : seeds.Nodup)
    (hreg : ∀ n ∈ seeds, K.predefined.contains n = false ∧ (find? ts n).isSome = true)
    (hc : ClosedUnder K ts seeds) :
    ∀ n, n ∈ closureStep K ts [] (closureFuel ts seeds) seeds ↔ n ∈ seeds :=
  fun n => ⟨Closure.closure_least K ts seeds seeds hc (fun _ hx => Or.inl hx) n,
    fun h => (closure_sufficient K ts seeds).1 n h (hreg n h).1 (hreg n h).2⟩

end Cassis.TS
