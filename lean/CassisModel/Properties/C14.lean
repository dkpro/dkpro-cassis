/-
C14 — Serialisation is deterministic and does not disturb the CAS.

What the model can carry:

* every place where the code iterates a set or a dict whose order is not fixed (the collected structures keyed
  by id, the members of a view, the set of used / all types, the registry of a type system, the set of redeclared
  built-ins) feeds a sort, and the sorted result does not depend on the incoming order:
  `sortById_perm_invariant`, `sortInts_perm_invariant`, `sortByName_perm_invariant`,
  `toDescriptor_perm_invariant`;
* the traversal every serialiser starts with changes nothing in the heap except ids that were missing
  (`findAllFs_heap_frame`, C15) and is idempotent: run again on the state it left, it collects the same
  structures in the same order, assigns nothing and leaves the state as it is (`findAllFs_idempotent`);
  hence serialising to XMI twice yields the same document and the same state (`saveXmi_idempotent`), and
  the only trace a serialisation leaves is in ids and the id generator (`saveXmi_heap_frame`).

What it cannot: hash randomisation across interpreter processes and the sink dispatch — these are observed
by the subprocess sweep of the check (partial).
-/
import CassisModel.Proofs.Determinism
import CassisModel.Properties.C15
import CassisModel.Proofs.JsonWriter

namespace Cassis

namespace Xmi
open Cassis.TS

/-- structures are written in ascending id order whatever order the traversal found them in -/
theorem sortById_perm_invariant (l l' : List (Int × Nat)) (hp : l.Perm l') (hn : (l.map (·.1)).Nodup) :
    sortById l = sortById l' :=
  insertById_isInsert.foldr_eq_of_perm (fun _ _ => Int.le_total _ _) (fun _ _ _ => Int.le_trans) hp
    (fun _ _ ha hb hab hba => Det.inj_of_nodup_map (·.1) l hn ha hb (Int.le_antisymm hab hba))

/-- view members are written in ascending order whatever order the index delivers them in -/
theorem sortInts_perm_invariant (l l' : List Int) (hp : l.Perm l') : sortInts l = sortInts l' :=
  insertInt_isInsert.foldr_eq_of_perm (fun _ _ => Int.le_total _ _) (fun _ _ _ => Int.le_trans) hp
    (fun _ _ _ _ => Int.le_antisymm)

end Xmi

namespace Json
open Cassis.TS

/-- embedded types are written in name order whatever order the (set of) types is iterated in -/
theorem sortByName_perm_invariant (l l' : List TypeRec) (hp : l.Perm l') (hn : (l.map (·.name)).Nodup) :
    sortByName l = sortByName l' :=
  Json.insertByName_isInsert.foldr_eq_of_perm (fun _ _ => String.le_total _ _) (fun _ _ _ => String.le_trans) hp
    (fun a b ha hb hab hba =>
      -- the equation is stated first: elaborated against `(·.name) a = (·.name) b` the same term is very slow to check
      have e : a.name = b.name := String.le_antisymm hab hba
      Det.inj_of_nodup_map (·.name) l hn ha hb e)

end Json

namespace TsXml
open Cassis.TS

/-- the descriptor does not depend on the order of the registry nor of the set of redeclared built-ins -/
theorem toDescriptor_perm_invariant (K : Consts) (ts ts' : TypeSystem) (ht : ts.types.Perm ts'.types)
    (hr : ts.redeclared.Perm ts'.redeclared) (hn : (ts.types.map (·.name)).Nodup) :
    toDescriptor K ts = toDescriptor K ts' := by
  unfold toDescriptor
  rw [sortStrs_perm_eq _ _ (Det.eraseDups_perm _ _ hr)]
  have hf : (fun n => do let t ← getType ts n; pure (renderType t) : String → Except Err TDesc) =
            (fun n => do let t ← getType ts' n; pure (renderType t)) := by
    funext n; rw [getType_perm ts ts' ht hn n]
  rw [hf]
  have hg : Json.sortByName (getTypes K ts false) = Json.sortByName (getTypes K ts' false) := by
    unfold getTypes
    simp only [Bool.false_eq_true, if_false]
    exact Json.sortByName_perm_invariant _ _ (List.Perm.filter _ ht)
      ((List.Sublist.map _ List.filter_sublist).nodup hn)
  rw [hg]

end TsXml

namespace Traverse
open Cassis.TS

/-- **running the traversal again on the state it left changes nothing and collects the same list** -/
theorem findAllFs_idempotent (K : Consts) (ts : TypeSystem) (o : Opts) (hp : Heap) (nx : Int) (seeds : List Nat)
    (st : St) (hnx : 0 < nx) (hb : IdsBelow hp nx) (h : findAllFs K ts o hp nx seeds = .ok st) :
    ∃ st' : St, findAllFs K ts o st.heap st.nextXid seeds = .ok st' ∧
      st'.allFs = st.allFs ∧ st'.heap = st.heap ∧ st'.nextXid = st.nextXid := by
  have sh : SameShape hp st.heap := findAllFs_heap_frame K ts o hp nx seeds st h
  obtain ⟨hi, ho⟩ := run_ok h
  obtain ⟨st', hi', hall, hopen, hheap, hnx'⟩ := hi.sim (inv_init K ts o hp _ nx seeds) hnx hb
    (start st.heap st.nextXid seeds) rfl rfl rfl rfl
  refine ⟨st', (findAllFs_ok_iff_iter ..).mpr ⟨?_, hopen.trans ho⟩, hall, hheap, hnx'⟩
  rw [sh.1]
  exact hi'

end Traverse

namespace Xmi
open Cassis.TS

/-- serialising again, on the state the first serialisation left, gives the same document and state -/
theorem saveXmi_idempotent (K : Consts) (ts : TypeSystem) (cass : List Cas) (ci : Nat) (hp : Heap) (c : Cas)
    (doc : XDoc) (st : Traverse.St) (hc : cass[ci]? = some c) (hnx : 0 < c.nextXid)
    (hb : Traverse.IdsBelow hp c.nextXid) (h : saveXmi K ts cass ci hp = .ok (doc, st)) :
    ∃ st' : Traverse.St, saveXmi K ts (cass.set ci { c with nextXid := st.nextXid }) ci st.heap = .ok (doc, st') ∧
      st'.heap = st.heap ∧ st'.nextXid = st.nextXid ∧ st'.allFs = st.allFs := by
  obtain ⟨fsElems, hst, hr, rfl⟩ := saveXmi_ok_inv hc h
  obtain ⟨st', h2, ha, hh, hn⟩ :=
    Traverse.findAllFs_idempotent K ts {} hp c.nextXid (Traverse.defaultSeeds c) st hnx hb hst
  refine ⟨st', ?_, hh, hn, ha⟩
  refine saveXmi_ok_iff.mpr ⟨_, fsElems, List.getElem?_set_self (List.getElem?_eq_some_iff.mp hc).1, h2, ?_, ?_⟩
  · rw [hh, ha, renderAll_cass K ts _ cass (sameViews_set cass ci c hc _), hr]
  · rw [hh]; rfl

/-- a serialisation leaves no trace in the heap except ids that were missing -/
theorem saveXmi_heap_frame (K : Consts) (ts : TypeSystem) (cass : List Cas) (ci : Nat) (hp : Heap)
    (doc : XDoc) (st : Traverse.St) (h : saveXmi K ts cass ci hp = .ok (doc, st)) :
    st.heap.length = hp.length ∧
    ∀ (a : Nat) (ob : Obj), hp[a]? = some ob → ∃ ob' : Obj, st.heap[a]? = some ob' ∧ ob'.ty = ob.ty ∧ ob'.slots = ob.slots ∧
      (ob.xid ≠ none → ob'.xid = ob.xid) := by
  obtain ⟨c, _, _, hst, _⟩ := saveXmi_ok_iff.mp h
  exact Traverse.findAllFs_heap_frame K ts {} hp c.nextXid (Traverse.defaultSeeds c) st hst

end Xmi

example : Xmi.sortById [(3, 0), (1, 1), (2, 2)] = Xmi.sortById [(2, 2), (3, 0), (1, 1)] := by decide
example : Traverse.IdsBelow [{ ty := "x.T", ts := 0, xid := some 3, slots := [] }] 4 := by
  intro a ob x h1 h2
  match a, h1 with
  | 0, h1 => simp at h1; subst h1; simp at h2; omega
  | n+1, h1 => simp at h1

end Cassis
