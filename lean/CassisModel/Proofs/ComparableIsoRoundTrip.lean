/-
C20 across a save/load round trip: what the three developments (flat fragment, XMI whole format, JSON whole format)
share.  Each relates the written heap `H` and the loaded heap by `HeapRel H L na E hpL` (`Proofs/RoundTripDefs.lean`)
for an expectation function `E` of its own; nothing here depends on `E`.  Views and covered text depend on the `sofa`
slot (and the integer offsets) only: `SofaSame`, which holds whenever `E` re-registers the view (`heapRel_sofaSame`).
`ViewsSame` and `ViewsMembers` follow from the XMI reader's `ViewsRel` here (`viewsSame_of_rel`,
`viewsMembers_of_rel`) and from the JSON reader's `ViewsRelJ` in `Proofs/ComparableIsoFlat.lean` (`…_of_relJ`).  At
the end the step all three finish with, which is not about a round trip: `IsoR` between the two collected lists gives
equal `render` (`render_eq_of_isoR`).
-/
import CassisModel.Proofs.ComparableRel
import CassisModel.Proofs.RoundTripMoved

namespace Cassis.Comparable
open Cassis.TS Cassis.Traverse Cassis.Xmi

/-- the address map of a load: the new address of the structure that carries the id of `a` -/
def phiOf (H : Heap) (na : Int → Nat) (a : Nat) : Nat :=
  match xidOf H a with
  | some x => na x
  | none => 0

/-- the loaded views answer the same lookups, with the same sofa id and text -/
def ViewsSame (c c' : Cas) : Prop :=
  ∀ vn v, Cas.getViewRec c vn = some v →
    ∃ v', Cas.getViewRec c' vn = some v' ∧ v'.sofa.sofaID = v.sofa.sofaID ∧ v'.sofa.text = v.sofa.text

theorem phiOf_of_xid {H : Heap} {na : Int → Nat} {a : Nat} {x : Int} (h : xidOf H a = some x) :
    phiOf H na a = na x := by
  unfold phiOf; rw [h]

/-- `b` is (the address of) a collected structure -/
def InL (H : Heap) (L : List (Int × Nat)) (b : Nat) : Prop := ∃ y : Int, xidOf H b = some y ∧ (y, b) ∈ L

theorem refsRel_map_na {AR : Nat → Nat → Prop} {H : Heap} {L : List (Int × Nat)} {na : Int → Nat}
    (hAR : ∀ q ∈ L, AR q.2 (na q.1)) : ∀ (l : List (Option Nat)), (∀ b, some b ∈ l → InL H L b) →
    RefsRel AR l (l.map (fun r => r.bind (fun b => (xidOf H b).map na)))
  | [], _ => trivial
  | none :: l, hl => refsRel_map_na hAR l (fun b hb => hl b (List.mem_cons_of_mem _ hb))
  | some a :: l, hl => by
    obtain ⟨y, hy, hyl⟩ := hl a List.mem_cons_self
    simp only [List.map_cons, Option.bind_some, hy, Option.map_some, RefsRel]
    exact ⟨hAR _ hyl, refsRel_map_na hAR l (fun b hb => hl b (List.mem_cons_of_mem _ hb))⟩

section
variable {H hpL : Heap} {L : List (Int × Nat)} {na : Int → Nat} {E : Obj → String → Val → Val}

theorem tyOf_shape {hp hp' : Heap} (sh : SameShape hp hp') (a : Nat) : tyOf hp' a = tyOf hp a := by
  unfold tyOf
  cases h : hp[a]? with
  | none =>
    have : hp'[a]? = none := by
      apply List.getElem?_eq_none
      rw [sh.1]
      exact List.getElem?_eq_none_iff.mp h
    rw [this]
  | some ob =>
    obtain ⟨ob', e, t, _, _⟩ := sh.2 a ob h
    rw [e]
    exact t

theorem heapRel_tyOf (hrel : HeapRel H L na E hpL) {q : Int × Nat} (hq : q ∈ L) : tyOf hpL (na q.1) = tyOf H q.2 := by
  obtain ⟨o, o', ho, ho', hty, _⟩ := hrel q hq
  unfold tyOf
  rw [ho, ho']
  exact hty

theorem heapRel_sameKey (hids : ∀ q ∈ L, xidOf H q.2 = some q.1) (hrel : HeapRel H L na E hpL) {addrs : List Nat}
    (haddrs : ∀ b ∈ addrs, ∃ q ∈ L, q.2 = b) {q : Int × Nat} (hq : q ∈ L) :
    SameKey H hpL addrs (phiOf H na) q.2 (na q.1) := by
  intro b hb
  obtain ⟨q2, hq2, rfl⟩ := haddrs b hb
  rw [phiOf_of_xid (hids q2 hq2), hids q2 hq2, hids q hq, hrel.xid hq2, hrel.xid hq]

theorem heapRel_nodup (hrel : HeapRel H L na E hpL) (hn : (L.map (·.1)).Nodup) : (L.map (fun q => na q.1)).Nodup :=
  Det.nodup_map_of_inj (Det.nodup_of_nodup_map (·.1) L hn)
    fun _ hq _ hq' e => Det.inj_of_nodup_map (·.1) L hn hq hq' (hrel.na_inj hq hq' e)

end

theorem perm_map_phiOf {H : Heap} {L : List (Int × Nat)} {na : Int → Nat} {addrs addrs' : List Nat}
    (hids : ∀ q ∈ L, xidOf H q.2 = some q.1) (hperm : addrs.Perm (L.map (·.2)))
    (hperm' : addrs'.Perm (L.map (fun q => na q.1))) : (addrs.map (phiOf H na)).Perm addrs' := by
  refine ((hperm.map _).trans ?_).trans hperm'.symm
  rw [List.map_map]
  exact .of_eq (List.map_congr_left fun q hq => phiOf_of_xid (hids q hq))

theorem perm_map_snd_sortById {A A' : List (Int × Nat)} {na : Int → Nat} (h : A'.Perm (A.map (fun q => (q.1, na q.1)))) :
    (A'.map (·.2)).Perm ((sortById A).map (fun q => na q.1)) := by
  have h1 := h.map (·.2)
  rw [List.map_map] at h1
  exact h1.trans ((sortById_perm_aux A).symm.map (fun q : Int × Nat => na q.1))

/-- the `sofa` slots of a written structure and of its counterpart: both absent, both `None`, or both name the same view
    (of `c`, registered at `ci`, and of the loaded CAS, registered at `ci'`) -/
def SofaSame (c : Cas) (ci ci' : Nat) (s s' : Option Val) : Prop :=
  (s = none ∧ s' = none) ∨ (s = some .none ∧ s' = some .none) ∨
  ∃ vn, s = some (.sofa ci vn) ∧ s' = some (.sofa ci' vn) ∧ (Cas.getViewRec c vn).isSome = true

theorem heapRel_sofaSame {H hpL : Heap} {L : List (Int × Nat)} {na : Int → Nat} {E : Obj → String → Val → Val} {c : Cas}
    {ci ci' : Nat} (hrel : HeapRel H L na E hpL) (hE : ∀ o vn, E o "sofa" (.sofa ci vn) = .sofa ci' vn)
    (hE0 : ∀ o, E o "sofa" .none = .none) {q : Int × Nat} (hq : q ∈ L)
    (hs : ∀ {o : Obj}, H[q.2]? = some o → ∀ {v : Val}, alistGet? o.slots "sofa" = some v →
      (∃ vn, v = .sofa ci vn ∧ (Cas.getViewRec c vn).isSome = true) ∨ v = .none) :
    SofaSame c ci ci' (Traverse.slot H q.2 "sofa") (Traverse.slot hpL (na q.1) "sofa") := by
  obtain ⟨o, _, ho, _⟩ := hrel q hq
  rw [hrel.slot hq ho, slot_eq ho]
  cases hv : alistGet? o.slots "sofa" with
  | none => exact Or.inl ⟨rfl, rfl⟩
  | some v =>
    rcases hs ho hv with ⟨vn, rfl, h⟩ | rfl
    · exact Or.inr (Or.inr ⟨vn, rfl, congrArg some (hE o vn), h⟩)
    · exact Or.inr (Or.inl ⟨rfl, congrArg some (hE0 o)⟩)

section
variable {cass cass' : List Cas} {c c' : Cas} {ci ci' : Nat} {hp hp' : Heap} {a a' : Nat}

theorem viewTag_of_sofaSame (hc : cass[ci]? = some c) (hc' : cass'[ci']? = some c') (hviews : ViewsSame c c')
    (hs : SofaSame c ci ci' (Traverse.slot hp a "sofa") (Traverse.slot hp' a' "sofa")) :
    viewTag cass' hp' a' = viewTag cass hp a := by
  unfold viewTag
  rcases hs with ⟨h1, h2⟩ | ⟨h1, h2⟩ | ⟨vn, h1, h2, hsome⟩
  · rw [h1, h2]
  · rw [h1, h2]
  · obtain ⟨w, hg⟩ := Option.isSome_iff_exists.mp hsome
    obtain ⟨w', hw', hid, _⟩ := hviews vn w hg
    simp only [h1, h2, hc, hc', hg, hw', hid]

theorem coveredText_of_sofaSame (hc : cass[ci]? = some c) (hc' : cass'[ci']? = some c') (hviews : ViewsSame c c')
    (hann : isAnnot hp a = true)
    (hb : intOf (Traverse.slot hp' a' "begin") = intOf (Traverse.slot hp a "begin"))
    (he : intOf (Traverse.slot hp' a' "end") = intOf (Traverse.slot hp a "end"))
    (hs : SofaSame c ci ci' (Traverse.slot hp a "sofa") (Traverse.slot hp' a' "sofa")) :
    Cas.coveredText cass' hp' a' = Cas.coveredText cass hp a := by
  rw [isAnnot_eq, Bool.and_eq_true, Option.isSome_iff_exists, Option.isSome_iff_exists] at hann
  obtain ⟨⟨b, hb1⟩, ⟨e, he1⟩⟩ := hann
  rw [hb1] at hb
  rw [he1] at he
  rw [intOf_eq_some] at hb he hb1 he1
  obtain ⟨o, ho, _⟩ := slot_some hb1
  obtain ⟨o', ho', _⟩ := slot_some hb
  rw [slot_eq ho] at hb1 he1 hs
  rw [slot_eq ho'] at hb he hs
  unfold Cas.coveredText
  simp only [ho, ho', hb, he, hb1, he1, bind, Except.bind, pure, Except.pure]
  rcases hs with ⟨h1, h2⟩ | ⟨h1, h2⟩ | ⟨vn, h1, h2, hsome⟩
  · rw [h1, h2]
  · rw [h1, h2]
  · obtain ⟨w, hg⟩ := Option.isSome_iff_exists.mp hsome
    obtain ⟨w', hw', _, htext⟩ := hviews vn w hg
    simp only [h1, h2, hc, hc', hg, hw', htext]

end

/-- every written view has a loaded view whose index holds exactly the new addresses of its members, and conversely -/
def ViewsMembers (H : Heap) (na : Int → Nat) (c c' : Cas) : Prop :=
  (∀ nv ∈ c.views, ∃ nv' ∈ c'.views, ((Index.all nv'.2.idx).map (·.oid)).Perm ((pviewOf H nv).members.map na)) ∧
  (∀ nv' ∈ c'.views, ∃ nv ∈ c.views, ((Index.all nv'.2.idx).map (·.oid)).Perm ((pviewOf H nv).members.map na))

theorem viewsMembers_of_rel {H : Heap} {na : Int → Nat} {c c' : Cas} (h : ViewsRel H na c c') :
    ViewsMembers H na c c' :=
  have m := h.all2.imp_mem fun _ _ _ hr => hr.2.2.2.2.2.2.2
  ⟨m.fwd, m.bwd⟩

theorem viewsSame_of_rel {H : Heap} {na : Int → Nat} {c c' : Cas} (h : ViewsRel H na c c') : ViewsSame c c' := by
  intro vn v hg
  obtain ⟨v', hv', hr⟩ := viewsRelL_get _ _ vn v h hg
  exact ⟨v', hv', hr.2.1, hr.2.2.2.2.1⟩

section
variable {H : Heap} {L : List (Int × Nat)} {na : Int → Nat} {c c' : Cas}
  (hids : ∀ q ∈ L, xidOf H q.2 = some q.1 ∧ q.1 ≠ 0) (hv : ViewsMembers H na c c')
include hids hv

theorem seed_iff_of (hmem : ∀ nv ∈ c.views, ∀ e ∈ Index.all nv.2.idx, ∃ x : Int, (x, e.oid) ∈ L)
    (hn : (L.map (·.1)).Nodup) (hinj : ∀ q ∈ L, ∀ q' ∈ L, na q.1 = na q'.1 → q.1 = q'.1) :
    ∀ q ∈ L, (q.2 ∈ defaultSeeds c ↔ na q.1 ∈ defaultSeeds c') := by
  intro q hq
  refine ⟨seeds_bwd_of hids hv.1 hq, fun h => ?_⟩
  obtain ⟨q', hq', e, hs⟩ := seeds_fwd_of hids hmem hv.2 h
  rw [Det.inj_of_nodup_map (·.1) L hn hq hq' (hinj q hq q' hq' e)]
  exact hs

end

theorem render_eq_renderFrom {K : Consts} {ts : TypeSystem} {cass : List Cas} {ci : Nat} {c : Cas} {hp : Heap} (o : Opts)
    (hsh : Nat → Int) {st : St} (hc : cass[ci]? = some c)
    (hfa : findAllFs K ts {} hp c.nextXid (defaultSeeds c) = .ok st) :
    (render K ts cass ci hp o hsh none).map (·.1)
      = renderFrom K ts cass st.heap o hsh (defaultSeeds c) (st.allFs.map (·.2)) := by
  unfold render
  simp only [hc, bind, Except.bind, pure, Except.pure, Option.getD_none, hfa]
  cases renderFrom K ts cass st.heap o hsh (defaultSeeds c) (st.allFs.map (·.2)) <;> rfl

theorem render_eq_of_isoR {K : Consts} {ts : TypeSystem} {cass cass' : List Cas} {ci ci' : Nat} {c c' : Cas}
    {hp hp' : Heap} {st st' : St} (o : Opts) (hsh hsh' : Nat → Int)
    (hc : cass[ci]? = some c) (hc' : cass'[ci']? = some c')
    (hfa : findAllFs K ts {} hp c.nextXid (defaultSeeds c) = .ok st)
    (hfa' : findAllFs K ts {} hp' c'.nextXid (defaultSeeds c') = .ok st') {φ : Nat → Nat}
    (hiso : IsoR K cass cass' st.heap st'.heap (defaultSeeds c) (defaultSeeds c') (st.allFs.map (·.2))
      (st'.allFs.map (·.2)) φ)
    (hd : Distinct st.heap (st.allFs.map (·.2))) :
    (render K ts cass' ci' hp' o hsh' none).map (·.1) = (render K ts cass ci hp o hsh none).map (·.1) := by
  rw [render_eq_renderFrom o hsh hc hfa, render_eq_renderFrom o hsh' hc' hfa']
  exact renderFrom_isoR K ts cass cass' st.heap st'.heap o hsh hsh' _ _ _ _ _ hiso hd

end Cassis.Comparable
