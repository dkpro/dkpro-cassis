/-
The flat fragment inside the whole format.  A flat structure is a general structure (`genFs_of_flatFs`) none of whose
slots holds a list value or an inlined collection (`FlatFs.slot_plain`).  On such slots the relations of the whole-format
proofs are the flat ones: `E3c = exp3` (`E3c_flat`, so `HeapRel … E3c` is `HeapRel … E3`), a `Target` is a plain reference
(`lokC_of_lok`), and equal deep content (`featContentC`) is equal flat content (`flatFs_content`).  Through these the
statements about the flat fragment follow from those about the whole format.
-/
import CassisModel.Proofs.RoundTripCollDefs

namespace Cassis.Xmi
open Cassis.TS Cassis.Traverse

/-- a slot of a flat structure holds no list value, and a reference in it is no inlined collection.  (For a value that
    is no reference `inlineSlot` may be true: `FlatFeat` does not say how `K` classifies the range of a primitive.) -/
theorem FlatFs.slot_plain {K : Consts} {ts : TypeSystem} {c : Cas} {ci : Nat} {H : Heap} {a : Nat} {o : Obj}
    (h : FlatFs K ts c ci H a) (ho : H[a]? = some o) {n : String} {v : Val} (hv : alistGet? o.slots n = some v) :
    isListV v = false ∧ ∀ b, v = .ref b → inlineSlot K ts o n = false := by
  obtain ⟨o', t, ho', ht, g⟩ := flatFs_iff.mp h
  cases ho.symm.trans ho'
  obtain ⟨f, hf, rfl⟩ := g.slot_feature hv
  have hp := (g.feat f hf).plain (K := K) hv
  exact ⟨hp.2, fun b e => (CF.inlineSlot_eq ht g.nodup hf).trans (hp.1 b e)⟩

theorem HeapRel.flat_of_coll {K : Consts} {ts : TypeSystem} {c : Cas} {ci : Nat} {H : Heap} {L : List (Int × Nat)}
    {na : Int → Nat} {ia : Int → String → Nat} {ci' : Nat} {hpX : Heap} (hflat : ∀ q ∈ L, FlatFs K ts c ci H q.2)
    (h : HeapRel H L na (E3c K ts H na ia ci') hpX) : HeapRel H L na (E3 H na ci') hpX := by
  intro q hq
  obtain ⟨o, o', ho, ho', hty, hx, hk, hs⟩ := h q hq
  refine ⟨o, o', ho, ho', hty, hx, hk, fun n v hv => ?_⟩
  rw [hs n v hv, E3c_flat ((hflat q hq).slot_plain ho hv)]
  rfl

/-- among the four kinds of `Target` only the plain reference occurs in a flat structure -/
theorem lokC_of_lok {K : Consts} {ts : TypeSystem} {c : Cas} {ci : Nat} {H : Heap} {L : List (Int × Nat)}
    (h : LOk K ts c ci H L) : LOkC K ts c ci H L where
  coll := fun q hq => .inl (genFs_of_flatFs (h.flat q hq))
  ids := h.ids
  nodup := h.nodup
  members := h.members
  closed := by
    intro q hq b ⟨o, t, ho, ht, htgt⟩
    have g := (h.flat q hq).at ho ht
    have hpl := fun {n v} => (h.flat q hq).slot_plain ho (n := n) (v := v)
    rcases htgt with ⟨f, _, _, hv⟩ | ⟨f, hf, hi, _, cc, _, hv, _⟩ | ⟨f, hf, hi, _, cc, _, hv, _⟩ | ⟨hty, _⟩
    · exact h.closed q hq o ho f.name b hv
    · rw [← CF.inlineSlot_eq ht g.nodup hf, (hpl hv).2 cc rfl] at hi; cases hi
    · rw [← CF.inlineSlot_eq ht g.nodup hf, (hpl hv).2 cc rfl] at hi; cases hi
    · exact absurd hty g.notFsArr

def CVal.toD : CVal → DVal
  | .none => .none
  | .int i => .int i
  | .str s => .str s
  | .bool b => .bool b
  | .float t => .float t
  | .ref x => .ref x
  | .sofa vn => .sofa vn
  | _ => .other

theorem dvalOf_eq_toD (hp : Heap) (v : Val) : dvalOf hp v = (cvalOf hp v).toD := by
  cases v <;> rfl

theorem featContent_of_featContentC {K : Consts} {hp hp' : Heap} {a a' : Nat} {f : Feature}
    (h : isInline K f = false ∨ ∀ b, (slot hp a f.name).getD .none ≠ .ref b)
    (hne : ∀ l, cvalOf hp ((slot hp a f.name).getD .none) ≠ .elems l)
    (e : featContentC K hp' a' f = featContentC K hp a f) :
    featContent hp' a' f.name = featContent hp a f.name := by
  rw [featContentC_eq_cvalOf h] at e
  unfold featContent
  rw [dvalOf_eq_toD, dvalOf_eq_toD, ← e]
  rcases CF.contentOf_cases K hp' f ((slot hp' a' f.name).getD .none) with h' | ⟨l, h'⟩
  · rw [CF.featContentC_eq, h']
  · exact absurd (h'.symm.trans e).symm (hne l)

theorem flatFs_content {K : Consts} {ts : TypeSystem} {c : Cas} {ci : Nat} {hp : Heap} {a : Nat}
    (h : FlatFs K ts c ci hp a) {o : Obj} {t : TypeRec} (ho : hp[a]? = some o) (ht : find? ts o.ty = some t)
    {f : Feature} (hf : f ∈ allFeatures t) {hp' : Heap} {a' : Nat}
    (e : featContentC K hp' a' f = featContentC K hp a f) :
    featContent hp' a' f.name = featContent hp a f.name := by
  have hff := (h.at ho ht).feat f hf
  obtain ⟨v, hv⟩ := hff.slot
  have hs : (slot hp a f.name).getD .none = v := by
    rw [slot_of ho, hv]; rfl
  have hc := hff.val_cases hv
  refine featContent_of_featContentC ?_ ?_ e <;> rw [hs]
  · rcases hc with rfl | ⟨_, rfl⟩ | ⟨_, rfl⟩ | ⟨_, rfl⟩ | ⟨_, rfl⟩ | ⟨_, rfl⟩ | ⟨_, rfl, _, _, ha, hl⟩
    rotate_right
    · exact .inl (isInline_of_range ha hl)
    all_goals exact .inr (fun _ h => nomatch h)
  · rcases hc with rfl | ⟨_, rfl⟩ | ⟨_, rfl⟩ | ⟨_, rfl⟩ | ⟨_, rfl⟩ | ⟨_, rfl⟩ | ⟨_, rfl, _⟩ <;> exact fun _ h => nomatch h

theorem dval_exp3 {K : Consts} {ts : TypeSystem} {c : Cas} {ci : Nat} {H : Heap} {isAnn : Bool} {o : Obj} {f : Feature}
    (hf : FlatFeat K ts c ci H isAnn o f) (v : Val) (hv : alistGet? o.slots f.name = some v)
    (na : Int → Nat) (ci' : Nat) (hpL : Heap)
    (href : ∀ b, v = .ref b → ∃ x, xidOf H b = some x ∧ xidOf hpL (na x) = some x) :
    dvalOf hpL (exp3 H na ci' v) = dvalOf H v := by
  rcases hf.val_cases hv with rfl | ⟨_, rfl⟩ | ⟨_, rfl⟩ | ⟨_, rfl⟩ | ⟨_, rfl⟩ | ⟨_, rfl⟩ | ⟨b, rfl, _⟩
  iterate 6 rfl
  obtain ⟨x, hx, hx'⟩ := href b rfl
  simp only [exp3, hx, dvalOf, hx']

theorem featContent_of_rel {K : Consts} {ts : TypeSystem} {c : Cas} {ci : Nat} {H : Heap} {L : List (Int × Nat)}
    {na : Int → Nat} {ci' : Nat} {hpL : Heap} (hL : LOk K ts c ci H L) (hrel : HeapRel H L na (E3 H na ci') hpL)
    {q : Int × Nat} (hq : q ∈ L) {o : Obj} (ho : H[q.2]? = some o) {t : TypeRec} (ht : find? ts o.ty = some t)
    {f : Feature} (hf : f ∈ allFeatures t) : featContent hpL (na q.1) f.name = featContent H q.2 f.name := by
  have hff := ((hL.flat q hq).at ho ht).feat f hf
  obtain ⟨v, hv⟩ := hff.slot
  have h1 : featContent H q.2 f.name = dvalOf H v := by
    unfold featContent
    rw [slot_of ho, hv]; rfl
  have h2 : featContent hpL (na q.1) f.name = dvalOf hpL (exp3 H na ci' v) := by
    unfold featContent slot
    rw [hrel.slot hq ho, hv]
    rfl
  rw [h1, h2]
  refine dval_exp3 hff v hv na ci' hpL (fun b hb => ?_)
  subst hb
  obtain ⟨x, hxb, hxl⟩ := hL.closed q hq o ho f.name b hv
  exact ⟨x, hxb, hrel.xid hxl⟩

end Cassis.Xmi
