/-
The successors of a structure, as the worklist traversal computes them (`nodeSuccs`, `featuresSuccs`, `featureSuccs`,
`walkList` of `Model/Traverse.lean`).

* `SameShape`: the heaps of one run differ in ids only; the successor computation reads slots and the visited test.
* What a visit pushes is the successor list computed against the empty visited map, filtered by "not yet collected"
  (`nodeSuccs_filter`); that list depends on the slots alone, so `succsOf` (`Spec/Reach.lean`) is the same in every heap
  of a run (`succsOf_shape`).
* The list walk along a spine (`Spine`, `walkList_spine`, `walkList_some`): the chain of `head`/`tail` nodes without the
  budget, shared with the writer's `Xmi.collectList`.
* The computation level by level (`nodeSuccs_array`, `nodeSuccs_of_not_array`, `featuresSuccs_cons`): what to cite
  instead of unfolding `nodeSuccs` and `featuresSuccs`.  `featureSuccs` comes in two forms: its decision tree with the leaves left open
  (`featureCase`, `featureCase_rel`), for what holds of every leaf or relates two runs (`featureSuccs_filter`,
  `featureSuccs_noFuel`); and evaluated, case by case (`featureSuccs_skip`, `featureSuccs_val`).
* Against the empty visited map the pushes are a relation on slots (`Src`, `mem_nodeSuccs_iff`): the edge relation of
  `Reach` (`Spec/Reach.lean`) stated without the traversal's own functions.
-/
import CassisModel.Spec.Traverse
import CassisModel.Spec.Reach
import CassisModel.Proofs.Basic
import CassisModel.Proofs.GetTypeExact
import CassisModel.Proofs.Heap

namespace Cassis.Traverse
open Cassis.TS

/-- `hp'` has the objects of `hp`, possibly with ids assigned where `hp` had none -/
def SameShape (hp hp' : Heap) : Prop :=
  hp'.length = hp.length ∧
  ∀ (a : Nat) (ob : Obj), hp[a]? = some ob → ∃ ob' : Obj, hp'[a]? = some ob' ∧ ob'.ty = ob.ty ∧ ob'.slots = ob.slots ∧
    (ob.xid ≠ none → ob'.xid = ob.xid)

theorem SameShape.refl (hp : Heap) : SameShape hp hp :=
  ⟨rfl, fun _ ob h => ⟨ob, h, rfl, rfl, fun _ => rfl⟩⟩

theorem SameShape.trans {h1 h2 h3 : Heap} (a12 : SameShape h1 h2) (a23 : SameShape h2 h3) :
    SameShape h1 h3 := by
  refine ⟨a23.1.trans a12.1, ?_⟩
  intro a ob h
  obtain ⟨ob2, e2, t2, s2, x2⟩ := a12.2 a ob h
  obtain ⟨ob3, e3, t3, s3, x3⟩ := a23.2 a ob2 e2
  refine ⟨ob3, e3, t3.trans t2, s3.trans s2, ?_⟩
  intro hx
  have := x2 hx
  rw [x3 (by rw [this]; exact hx), this]

theorem SameShape.set {hp : Heap} {a : Nat} {ob : Obj} (h : hp[a]? = some ob) (hx : ob.xid = none) (x : Int) :
    SameShape hp (hp.set a { ob with xid := some x }) := by
  refine ⟨List.length_set, ?_⟩
  intro b ob' hb
  by_cases hab : a = b
  · subst hab
    rw [h] at hb
    cases hb
    exact ⟨_, List.getElem?_set_self (List.getElem?_eq_some_iff.mp h).1, rfl, rfl, fun hne => absurd hx hne⟩
  · exact ⟨ob', by rw [List.getElem?_set_ne hab]; exact hb, rfl, rfl, fun _ => rfl⟩

theorem SameShape.get_back {hp hp' : Heap} (sh : SameShape hp hp') {a : Nat} {ob' : Obj}
    (h : hp'[a]? = some ob') : ∃ ob, hp[a]? = some ob ∧ ob'.ty = ob.ty ∧ ob'.slots = ob.slots := by
  have hlt : a < hp.length := sh.1 ▸ (List.getElem?_eq_some_iff.mp h).1
  obtain ⟨ob2, e2, t2, s2, _⟩ := sh.2 a _ (List.getElem?_eq_getElem hlt)
  rw [h] at e2
  cases e2
  exact ⟨_, List.getElem?_eq_getElem hlt, t2, s2⟩

theorem SameShape.slot {hp hp' : Heap} (sh : SameShape hp hp') (a : Nat) (n : String) :
    slot hp' a n = slot hp a n := by
  unfold Traverse.slot
  cases h : hp[a]? with
  | none => rw [List.getElem?_eq_none (sh.1 ▸ List.getElem?_eq_none_iff.mp h)]
  | some ob =>
    obtain ⟨ob', e, _, s, _⟩ := sh.2 a ob h
    rw [e, Option.bind_some, Option.bind_some, s]

theorem SameShape.xidOf {hp hp' : Heap} (sh : SameShape hp hp') {a : Nat} {x : Int}
    (h : xidOf hp a = some x) : xidOf hp' a = some x := by
  obtain ⟨ob, h0, h⟩ := xidOf_some h
  obtain ⟨ob', e, _, _, hx⟩ := sh.2 a ob h0
  rw [xidOf_eq e, hx (by rw [h]; exact fun e => nomatch e), h]

theorem seenId_nil (x : Option Int) (a : Nat) : seenId [] x a = false := by
  cases x <;> rfl

theorem seenId_mem {allFs : List (Int × Nat)} {x : Option Int} {b : Nat} (h : seenId allFs x b = true) :
    b ∈ allFs.map (·.2) := by
  unfold seenId at h
  split at h
  · cases h
  · split at h
    · rename_i p hf
      have hm := List.mem_of_find?_eq_some hf
      have : p.2 = b := by simpa using h
      exact List.mem_map.mpr ⟨p, hm, this⟩
    · cases h

/-- `b` is not yet collected -/
def keep (hp : Heap) (allFs : List (Int × Nat)) (b : Nat) : Bool := !seenId allFs (xidOf hp b) b

theorem keep_nil (hp : Heap) : keep hp [] = fun _ => true := by
  funext b
  unfold keep
  rw [seenId_nil]
  rfl

/-! ### the spine of a list

`walkList`, `spineLen` (`Spec/Traverse.lean`), `Xmi.collectList` and `Xmi.listVals` run along the same chain with a budget
of their own: from a reference to a node with a `head`, on to its `tail`.  `Spine hp v vs` is that chain without the
budget, `vs` the heads; each of the four is then an equation in `vs` (`walkList_spine`, `spineLen_some`;
`collectList_spine`/`collectList_ok` in `Proofs/XmiCodec.lean`, `listVals_spine` in `Proofs/RoundTripCollDefs.lean`), and
what is proved about lists is proved about `Spine`. -/

inductive Spine (hp : Heap) : Val → List Val → Prop
  | stop {v : Val} : (∀ a, v = .ref a → slot hp a "head" = none) → Spine hp v []
  | node {a : Nat} {hd : Val} {vs : List Val} : slot hp a "head" = some hd →
      Spine hp ((slot hp a "tail").getD .none) vs → Spine hp (.ref a) (hd :: vs)

theorem Spine.of_nonref (hp : Heap) {v : Val} (hv : ∀ b, v ≠ .ref b) : Spine hp v [] :=
  .stop fun a e => absurd e (hv a)

theorem Spine.nonref {hp : Heap} {v : Val} {vs : List Val} (h : Spine hp v vs) (hv : ∀ b, v ≠ .ref b) : vs = [] := by
  cases h with
  | stop _ => rfl
  | node _ _ => exact absurd rfl (hv _)

theorem Spine.congr {hp hp' : Heap} {v : Val} {vs : List Val} (h : Spine hp v vs)
    (hs : ∀ a n, slot hp' a n = slot hp a n) : Spine hp' v vs := by
  induction h with
  | stop h0 => exact .stop fun a e => (hs a _).trans (h0 a e)
  | node h1 _ ih => exact .node ((hs _ _).trans h1) (hs _ _ ▸ ih)

/-- every head stands in the `head` slot of a node that `P` reaches along `tail` slots -/
theorem Spine.heads {hp : Heap} {P : Nat → Prop} (htail : ∀ a, P a → ∀ b, slot hp a "tail" = some (.ref b) → P b)
    {v : Val} {vs : List Val} (h : Spine hp v vs) : (∀ a, v = .ref a → P a) →
    ∀ w ∈ vs, ∃ a', P a' ∧ slot hp a' "head" = some w := by
  induction h with
  | stop _ => exact fun _ _ hw => nomatch hw
  | @node a hd vs h1 _ ih =>
    intro ha w hw
    rcases List.mem_cons.mp hw with rfl | hw
    · exact ⟨a, ha a rfl, h1⟩
    · refine ih (fun b e => htail a (ha a rfl) b ?_) w hw
      cases ht : slot hp a "tail" with
      | none => rw [ht] at e; cases e
      | some vt => rw [ht] at e; exact congrArg some e

/-- the spine of a copy: where the nodes `P` reaches are copied by `φ` with their slots sent through `E`, and `E` makes
    references of exactly the `tail` references, the heads of the copy are the images of the heads -/
theorem Spine.map {hp hp' : Heap} {E : Val → Val} {P : Nat → Prop} {φ : Nat → Nat}
    (hslot : ∀ a, P a → ∀ n, slot hp' (φ a) n = (slot hp a n).map E)
    (href : ∀ a, P a → ∀ b, slot hp a "tail" = some (.ref b) → P b ∧ E (.ref b) = .ref (φ b))
    (hnr : ∀ v, (∀ b, v ≠ .ref b) → ∀ b, E v ≠ .ref b)
    {v : Val} {vs : List Val} (h : Spine hp v vs) : ∀ a, v = .ref a → P a → Spine hp' (.ref (φ a)) (vs.map E) := by
  induction h with
  | stop h0 =>
    intro a e ha
    exact .stop fun _ e' => by cases e'; rw [hslot a ha, h0 a e]; rfl
  | @node a hd vs h1 hsp ih =>
    intro _ e ha
    cases e
    refine .node (by rw [hslot a ha, h1]; rfl) ?_
    rw [hslot a ha]
    cases ht : slot hp a "tail" with
    | none =>
      rw [ht] at hsp
      cases hsp.nonref nofun
      exact .of_nonref hp' nofun
    | some vt =>
      rw [ht] at hsp ih
      by_cases hr : ∃ b, vt = .ref b
      · obtain ⟨b, rfl⟩ := hr
        obtain ⟨hb, eb⟩ := href a ha b ht
        simp only [Option.map_some, Option.getD_some, eb]
        exact ih b rfl hb
      · cases hsp.nonref fun b e => hr ⟨b, e⟩
        exact .of_nonref hp' (hnr vt fun b e => hr ⟨b, e⟩)

/-- what a head pushes against the empty visited map -/
def refHead : Val → List Nat
  | .ref t => [t]
  | _ => []

theorem mem_flatMap_refHead {vs : List Val} {b : Nat} : b ∈ vs.flatMap refHead ↔ Val.ref b ∈ vs := by
  rw [List.mem_flatMap]
  constructor
  · rintro ⟨h, hh, e⟩
    cases h with
    | ref t => rw [List.mem_singleton.mp e]; exact hh
    | _ => cases e
  · exact fun h => ⟨_, h, List.mem_singleton.mpr rfl⟩

/-- **`walkList` along a spine**: the heads that are references and not yet collected, and the number of nodes -/
theorem walkList_spine {hp : Heap} (allFs : List (Int × Nat)) {v : Val} {vs : List Val} (h : Spine hp v vs) :
    ∀ f, vs.length < f → walkList hp allFs f v = some ((vs.flatMap refHead).filter (keep hp allFs), vs.length) := by
  induction h with
  | @stop v h0 =>
    intro f hf
    obtain ⟨f, rfl⟩ : ∃ g, f = g + 1 := ⟨f - 1, by omega⟩
    cases v with
    | ref a => unfold walkList; rw [h0 a rfl]; rfl
    | _ => unfold walkList; rfl
  | @node a hd vs h1 _ ih =>
    intro f hf
    obtain ⟨f, rfl⟩ : ∃ g, f = g + 1 := ⟨f - 1, by omega⟩
    unfold walkList
    rw [h1]
    simp only [ih f (by simpa using hf), List.flatMap_cons, List.filter_append, List.length_cons]
    cases hd with
    | ref t => by_cases hs : seenId allFs (xidOf hp t) t = true <;> simp [hs, keep, refHead]
    | _ => rfl

theorem walkList_spine_nil {hp : Heap} {v : Val} {vs : List Val} (h : Spine hp v vs) {f : Nat} (hf : vs.length < f) :
    walkList hp [] f v = some (vs.flatMap refHead, vs.length) := by
  rw [walkList_spine [] h f hf, keep_nil, List.filter_eq_self.mpr fun _ _ => rfl]

theorem walkList_some {hp : Heap} {allFs : List (Int × Nat)} : ∀ {f : Nat} {v : Val} {r : List Nat × Nat},
    walkList hp allFs f v = some r → ∃ vs, Spine hp v vs ∧ vs.length < f
  | 0, _, _, h => by unfold walkList at h; cases h
  | f+1, v, r, h => by
    by_cases hv : ∃ a, v = .ref a
    · obtain ⟨a, rfl⟩ := hv
      unfold walkList at h
      cases hh : slot hp a "head" with
      | none => exact ⟨[], .stop fun _ e => by cases e; exact hh, Nat.succ_pos _⟩
      | some hd =>
        rw [hh] at h
        dsimp only at h
        cases hr : walkList hp allFs f ((slot hp a "tail").getD .none) with
        | none => rw [hr] at h; cases h
        | some r' =>
          obtain ⟨vs, hs, hl⟩ := walkList_some hr
          exact ⟨hd :: vs, .node hh hs, Nat.succ_lt_succ hl⟩
    · exact ⟨[], .of_nonref hp fun b e => hv ⟨b, e⟩, Nat.succ_pos _⟩

theorem spineLen_some {hp : Heap} : ∀ {f : Nat} {v : Val} {n : Nat},
    spineLen hp f v = some n → ∃ vs, Spine hp v vs ∧ vs.length < f
  | 0, _, _, h => by unfold spineLen at h; cases h
  | f+1, v, n, h => by
    by_cases hv : ∃ a, v = .ref a
    · obtain ⟨a, rfl⟩ := hv
      unfold spineLen at h
      cases hh : slot hp a "head" with
      | none => exact ⟨[], .stop fun _ e => by cases e; exact hh, Nat.succ_pos _⟩
      | some hd =>
        rw [hh] at h
        dsimp only at h
        cases hr : spineLen hp f ((slot hp a "tail").getD .none) with
        | none => rw [hr] at h; cases h
        | some m =>
          obtain ⟨vs, hs, hl⟩ := spineLen_some hr
          exact ⟨hd :: vs, .node hh hs, Nat.succ_lt_succ hl⟩
    · exact ⟨[], .of_nonref hp fun b e => hv ⟨b, e⟩, Nat.succ_pos _⟩

/-- what the elements of an array contribute -/
def elemsPush (hp : Heap) (allFs : List (Int × Nat)) (sv : Option Val) : List Nat :=
  match sv with
  | some (.refs l) => refsToPush hp allFs l
  | _ => []

section
variable {K : Consts} {ts : TypeSystem} {o : Opts} {hp : Heap} {allFs : List (Int × Nat)} {lf a : Nat}

theorem featuresSuccs_cons (f : Feature) (fs : List Feature) :
    featuresSuccs K ts o hp allFs lf a (f :: fs) =
      match featureSuccs K ts o hp allFs lf a f with
      | .error e => .error e
      | .ok r1 =>
        match featuresSuccs K ts o hp allFs lf a fs with
        | .error e => .error e
        | .ok r2 => .ok (r1.1 ++ r2.1, r1.2 + r2.2) := by
  rw [featuresSuccs]
  cases featureSuccs K ts o hp allFs lf a f with
  | error e => rfl
  | ok r1 => cases featuresSuccs K ts o hp allFs lf a fs <;> rfl

theorem featuresSuccs_ok_iff {fs : List Feature} :
    (∃ r, featuresSuccs K ts o hp allFs lf a fs = .ok r) ↔ ∀ f ∈ fs, ∃ r, featureSuccs K ts o hp allFs lf a f = .ok r := by
  induction fs with
  | nil => exact ⟨fun _ _ hf => (nomatch hf), fun _ => ⟨_, rfl⟩⟩
  | cons f fs ih =>
    rw [featuresSuccs_cons, List.forall_mem_cons, ← ih]
    cases featureSuccs K ts o hp allFs lf a f with
    | error e => exact ⟨fun ⟨_, h⟩ => (nomatch h), fun ⟨⟨_, h⟩, _⟩ => (nomatch h)⟩
    | ok r1 =>
      cases featuresSuccs K ts o hp allFs lf a fs with
      | error e => exact ⟨fun ⟨_, h⟩ => (nomatch h), fun ⟨_, _, h⟩ => (nomatch h)⟩
      | ok r2 => exact ⟨fun _ => ⟨⟨_, rfl⟩, _, rfl⟩, fun _ => ⟨_, rfl⟩⟩

theorem featuresSuccs_error {fs : List Feature} {e : Err} (h : featuresSuccs K ts o hp allFs lf a fs = .error e) :
    ∃ f ∈ fs, featureSuccs K ts o hp allFs lf a f = .error e := by
  induction fs with
  | nil => cases h
  | cons f fs ih =>
    rw [featuresSuccs_cons] at h
    cases h1 : featureSuccs K ts o hp allFs lf a f with
    | error e1 => rw [h1] at h; cases h; exact ⟨f, List.mem_cons_self, h1⟩
    | ok r1 =>
      rw [h1] at h
      cases h2 : featuresSuccs K ts o hp allFs lf a fs with
      | error e2 =>
        rw [h2] at h; cases h
        obtain ⟨g, hg, hge⟩ := ih h2
        exact ⟨g, List.mem_cons_of_mem _ hg, hge⟩
      | ok r2 => rw [h2] at h; cases h

theorem mem_featuresSuccs {fs : List Feature} {ps : List Nat} {n : Nat}
    (h : featuresSuccs K ts o hp allFs lf a fs = .ok (ps, n)) (b : Nat) :
    b ∈ ps ↔ ∃ f ∈ fs, ∃ r, featureSuccs K ts o hp allFs lf a f = .ok r ∧ b ∈ r.1 := by
  induction fs generalizing ps n with
  | nil => cases h; exact ⟨nofun, fun ⟨_, hf, _⟩ => by cases hf⟩
  | cons f fs ih =>
    rw [featuresSuccs_cons] at h
    cases h1 : featureSuccs K ts o hp allFs lf a f with
    | error e => rw [h1] at h; cases h
    | ok r1 =>
      cases h2 : featuresSuccs K ts o hp allFs lf a fs with
      | error e => rw [h1, h2] at h; cases h
      | ok r2 =>
        rw [h1, h2] at h; cases h
        simp only [List.mem_append, ih h2, List.mem_cons, exists_eq_or_imp, h1, Except.ok.injEq, exists_eq_left']

theorem featuresSuccs_ext {o' : Opts} {hp' : Heap} {allFs' : List (Int × Nat)} {lf' a' : Nat} {fs : List Feature}
    (h : ∀ f ∈ fs, featureSuccs K ts o hp allFs lf a f = featureSuccs K ts o' hp' allFs' lf' a' f) :
    featuresSuccs K ts o hp allFs lf a fs = featuresSuccs K ts o' hp' allFs' lf' a' fs := by
  induction fs with
  | nil => rfl
  | cons f fs ih =>
    rw [featuresSuccs_cons, featuresSuccs_cons, h f List.mem_cons_self,
      ih fun g hg => h g (List.mem_cons_of_mem _ hg)]

theorem nodeSuccs_of_not_array {t : TypeRec} (h : t.super ≠ some ARRAY_BASE) :
    nodeSuccs K ts o hp allFs lf a t = featuresSuccs K ts o hp allFs lf a (allFeatures t) := by
  unfold nodeSuccs
  rw [if_neg fun e => h (eq_of_beq e)]

theorem nodeSuccs_array {t : TypeRec} (h : t.super = some ARRAY_BASE) :
    nodeSuccs K ts o hp allFs lf a t =
      .ok (if t.name = FS_ARRAY then elemsPush hp allFs (slot hp a "elements") else [], 0) := by
  unfold nodeSuccs elemsPush
  rw [if_pos (by rw [h]; exact beq_self_eq_true _)]
  by_cases hfa : t.name = FS_ARRAY
  · rw [if_pos (by rw [hfa]; exact beq_self_eq_true _), if_pos hfa]
    cases slot hp a "elements" with
    | none => rfl
    | some w => cases w <;> rfl
  · rw [if_neg fun e => hfa (eq_of_beq e), if_neg hfa]

theorem nodeSuccs_ok_iff {t : TypeRec} : (∃ r, nodeSuccs K ts o hp allFs lf a t = .ok r) ↔
    (t.super = some ARRAY_BASE ∨ ∀ f ∈ allFeatures t, ∃ r, featureSuccs K ts o hp allFs lf a f = .ok r) := by
  by_cases h : t.super = some ARRAY_BASE
  · rw [nodeSuccs_array h]; exact ⟨fun _ => .inl h, fun _ => ⟨_, rfl⟩⟩
  · rw [nodeSuccs_of_not_array h, featuresSuccs_ok_iff]; exact ⟨.inr, fun hh => hh.resolve_left h⟩

end

/-- the pushes of a result filtered by `q`; a failure stays -/
def filt (q : Nat → Bool) : Except Err (List Nat × Nat) → Except Err (List Nat × Nat)
  | .ok r => .ok (r.1.filter q, r.2)
  | .error e => .error e

/-- `filt` on what `walkList` returns -/
def filtW (q : Nat → Bool) : Option (List Nat × Nat) → Option (List Nat × Nat)
  | some r => some (r.1.filter q, r.2)
  | none => none

theorem refsToPush_filter (hp hp0 : Heap) (allFs : List (Int × Nat)) (l : List (Option Nat)) :
    refsToPush hp allFs l = (refsToPush hp0 [] l).filter (keep hp allFs) := by
  induction l with
  | nil => rfl
  | cons r l ih =>
    unfold refsToPush at *
    cases r with
    | none => simpa only [List.filterMap_cons_none] using ih
    | some a =>
      simp only [List.filterMap_cons, seenId_nil, Bool.false_eq_true, if_false] at ih ⊢
      by_cases hs : seenId allFs (xidOf hp a) a = true
      · have hk : keep hp allFs a = false := by unfold keep; rw [hs]; rfl
        simp only [hs, if_true, List.filter_cons, hk, Bool.false_eq_true, if_false]
        exact ih
      · have hs' : seenId allFs (xidOf hp a) a = false := by simpa using hs
        have hk : keep hp allFs a = true := by unfold keep; rw [hs']; rfl
        simp only [hs', Bool.false_eq_true, if_false, List.filter_cons, hk, if_true]
        rw [ih]

theorem walkList_filter (hp hp0 : Heap) (hslot : ∀ a n, slot hp a n = slot hp0 a n)
    (allFs : List (Int × Nat)) (f : Nat) (v : Val) :
    walkList hp allFs f v = filtW (keep hp allFs) (walkList hp0 [] f v) := by
  cases h0 : walkList hp0 [] f v with
  | none =>
    cases h : walkList hp allFs f v with
    | none => rfl
    | some r =>
      obtain ⟨vs, hs, hl⟩ := walkList_some h
      rw [walkList_spine_nil (hs.congr fun a n => (hslot a n).symm) hl] at h0
      cases h0
  | some r =>
    obtain ⟨vs, hs, hl⟩ := walkList_some h0
    rw [walkList_spine_nil hs hl] at h0
    cases h0
    exact walkList_spine allFs (hs.congr hslot) f hl

/-- the decision tree of `featureSuccs`, with what stands at its leaves left open: the tree reads the slots
    only, the visited map enters at the leaves -/
def featureCase {ρ : Type} (K : Consts) (ts : TypeSystem) (o : Opts) (hp : Heap) (a : Nat) (f : Feature)
    (nil bad : ρ) (refs : List (Option Nat) → ρ) (spine : Val → ρ) (one : Nat → ρ) : ρ :=
  if f.name == "sofa" then nil
  else if isPrimitive K ts f.range then nil
  else
    match slot hp a f.name with
    | none => nil
    | some .none => nil
    | some v =>
      if !o.includeInlinable && !(f.multi.getD false) && (isArray K f.range || isList K f.range) then
        if f.range == FS_ARRAY then
          match v with
          | .ref arr =>
            match slot hp arr "elements" with
            | some (.refs l) => refs l
            | _ => nil
          | _ => bad
        else if f.range == FS_LIST then spine v
        else nil
      else
        match v with
        | .ref t => one t
        | _ => bad

theorem featureSuccs_eq_case (K : Consts) (ts : TypeSystem) (o : Opts) (hp : Heap) (allFs : List (Int × Nat))
    (lf a : Nat) (f : Feature) :
    featureSuccs K ts o hp allFs lf a f = featureCase K ts o hp a f (.ok ([], 0)) (.error .attributeError)
      (fun l => .ok (refsToPush hp allFs l, 0))
      (fun v => match walkList hp allFs lf v with | some r => .ok r | none => .error .outOfFuel)
      (fun t => if seenId allFs (xidOf hp t) t then .ok ([], 0) else .ok ([t], 0)) := rfl

/-- on heaps with the same slots, related leaves give related results -/
theorem featureCase_rel {ρ σ : Type} (R : ρ → σ → Prop) (K : Consts) (ts : TypeSystem) (o : Opts) {hp hp0 : Heap}
    (hslot : ∀ a n, slot hp a n = slot hp0 a n) (a : Nat) (f : Feature)
    {nil bad : ρ} {refs : List (Option Nat) → ρ} {spine : Val → ρ} {one : Nat → ρ}
    {nil' bad' : σ} {refs' : List (Option Nat) → σ} {spine' : Val → σ} {one' : Nat → σ}
    (hnil : R nil nil') (hbad : R bad bad') (hrefs : ∀ l, R (refs l) (refs' l))
    (hspine : ∀ v, R (spine v) (spine' v)) (hone : ∀ t, R (one t) (one' t)) :
    R (featureCase K ts o hp a f nil bad refs spine one)
      (featureCase K ts o hp0 a f nil' bad' refs' spine' one') := by
  unfold featureCase
  simp only [hslot]
  by_cases h1 : (f.name == "sofa") = true
  · rw [if_pos h1, if_pos h1]; exact hnil
  rw [if_neg h1, if_neg h1]
  by_cases h2 : isPrimitive K ts f.range = true
  · rw [if_pos h2, if_pos h2]; exact hnil
  rw [if_neg h2, if_neg h2]
  -- the conditions are settled before `v` is split into its thirteen cases, each of which then closes by
  -- reduction of the matches
  cases slot hp0 a f.name with
  | none => exact hnil
  | some v =>
    by_cases h3 : (!o.includeInlinable && !(f.multi.getD false) && (isArray K f.range || isList K f.range)) = true
    · by_cases h4 : (f.range == FS_ARRAY) = true
      · simp only [h3, h4, if_true]
        cases v with
        | none => exact hnil
        | ref arr =>
          show R (match slot hp0 arr "elements" with | some (.refs l) => refs l | _ => nil)
            (match slot hp0 arr "elements" with | some (.refs l) => refs' l | _ => nil')
          cases slot hp0 arr "elements" with
          | none => exact hnil
          | some w => cases w <;> first | exact hnil | exact hrefs _
        | _ => exact hbad
      · by_cases h5 : (f.range == FS_LIST) = true
        · simp only [h3, h4, h5, if_true, if_false, Bool.false_eq_true]
          cases v <;> first | exact hnil | exact hspine _
        · simp only [h3, h4, h5, if_true, if_false, Bool.false_eq_true]
          cases v <;> exact hnil
    · simp only [h3, if_false, Bool.false_eq_true]
      cases v <;> first | exact hnil | exact hbad | exact hone _

theorem featureCase_ind {ρ : Type} (P : ρ → Prop) (K : Consts) (ts : TypeSystem) (o : Opts) (hp : Heap) (a : Nat)
    (f : Feature) {nil bad : ρ} {refs : List (Option Nat) → ρ} {spine : Val → ρ} {one : Nat → ρ}
    (hnil : P nil) (hbad : P bad) (hrefs : ∀ l, P (refs l)) (hspine : ∀ v, P (spine v)) (hone : ∀ t, P (one t)) :
    P (featureCase K ts o hp a f nil bad refs spine one) :=
  featureCase_rel (fun r (_ : ρ) => P r) K ts o (fun _ _ => rfl) a f (nil' := nil) (bad' := bad) (refs' := refs)
    (spine' := spine) (one' := one) hnil hbad hrefs hspine hone

theorem featureSuccs_filter (K : Consts) (ts : TypeSystem) (o : Opts) (hp hp0 : Heap)
    (hslot : ∀ a n, slot hp a n = slot hp0 a n) (allFs : List (Int × Nat)) (lf a : Nat) (f : Feature) :
    featureSuccs K ts o hp allFs lf a f = filt (keep hp allFs) (featureSuccs K ts o hp0 [] lf a f) := by
  rw [featureSuccs_eq_case, featureSuccs_eq_case]
  refine featureCase_rel (fun r r0 => r = filt (keep hp allFs) r0) K ts o hslot a f rfl rfl ?_ ?_ ?_
  · intro l; rw [refsToPush_filter hp hp0]; rfl
  · intro v; rw [walkList_filter hp hp0 hslot]; cases walkList hp0 [] lf v <;> rfl
  · intro t
    simp only [seenId_nil, Bool.false_eq_true, if_false, filt, List.filter_cons, List.filter_nil, keep]
    by_cases hs : seenId allFs (xidOf hp t) t = true <;> simp [hs]

theorem featuresSuccs_filter (K : Consts) (ts : TypeSystem) (o : Opts) (hp hp0 : Heap)
    (hslot : ∀ a n, slot hp a n = slot hp0 a n) (allFs : List (Int × Nat)) (lf a : Nat) (fs : List Feature) :
    featuresSuccs K ts o hp allFs lf a fs = filt (keep hp allFs) (featuresSuccs K ts o hp0 [] lf a fs) := by
  induction fs with
  | nil => rfl
  | cons f fs ih =>
    rw [featuresSuccs_cons, featuresSuccs_cons, featureSuccs_filter K ts o hp hp0 hslot allFs lf a f, ih]
    cases featureSuccs K ts o hp0 [] lf a f with
    | error e => rfl
    | ok r1 =>
      cases featuresSuccs K ts o hp0 [] lf a fs with
      | error e => rfl
      | ok r2 =>
        show Except.ok (r1.1.filter _ ++ r2.1.filter _, r1.2 + r2.2) = Except.ok ((r1.1 ++ r2.1).filter _, r1.2 + r2.2)
        rw [List.filter_append]

theorem nodeSuccs_filter (K : Consts) (ts : TypeSystem) (o : Opts) (hp hp0 : Heap)
    (hslot : ∀ a n, slot hp a n = slot hp0 a n) (allFs : List (Int × Nat)) (lf a : Nat) (t : TypeRec) :
    nodeSuccs K ts o hp allFs lf a t = filt (keep hp allFs) (nodeSuccs K ts o hp0 [] lf a t) := by
  by_cases h : t.super = some ARRAY_BASE
  · rw [nodeSuccs_array h, nodeSuccs_array h, hslot]
    split
    · unfold elemsPush
      cases slot hp0 a "elements" with
      | none => rfl
      | some w =>
        cases w with
        | refs l => exact congrArg (fun p => Except.ok (p, 0)) (refsToPush_filter hp hp0 allFs l)
        | _ => rfl
    · rfl
  · rw [nodeSuccs_of_not_array h, nodeSuccs_of_not_array h, featuresSuccs_filter K ts o hp hp0 hslot allFs]

theorem push_le_outdeg (K : Consts) (ts : TypeSystem) (o : Opts) {hp0 hp : Heap} (sh : SameShape hp0 hp)
    {allFs : List (Int × Nat)} {lf a : Nat} {ob0 : Obj} {t : TypeRec} {ps : List Nat} {n : Nat}
    (h0 : hp0[a]? = some ob0) (ht : getType ts ob0.ty = .ok t)
    (hn : nodeSuccs K ts o hp allFs lf a t = .ok (ps, n)) :
    ps.length ≤ outdeg K ts o hp0 lf a := by
  rw [nodeSuccs_filter K ts o hp hp0 (fun a n => sh.slot a n)] at hn
  unfold outdeg
  rw [h0]
  simp only [ht]
  cases h : nodeSuccs K ts o hp0 [] lf a t with
  | error e => rw [h] at hn; cases hn
  | ok r => rw [h] at hn; cases hn; exact List.length_filter_le _ _

/-! ### `succsOf`: against the empty visited map the successors depend on the slots alone -/

theorem filt_true (r : Except Err (List Nat × Nat)) : filt (fun _ => true) r = r := by
  cases r with
  | error e => rfl
  | ok r =>
    obtain ⟨ps, n⟩ := r
    show Except.ok (ps.filter (fun _ => true), n) = Except.ok (ps, n)
    rw [List.filter_eq_self.mpr (fun _ _ => rfl)]

theorem nodeSuccs_nil_eq (K : Consts) (ts : TypeSystem) (o : Opts) (hp hp0 : Heap)
    (hslot : ∀ a n, slot hp a n = slot hp0 a n) (lf a : Nat) (t : TypeRec) :
    nodeSuccs K ts o hp [] lf a t = nodeSuccs K ts o hp0 [] lf a t := by
  rw [nodeSuccs_filter K ts o hp hp0 hslot [] lf a t, keep_nil, filt_true]

theorem succsOf_shape (K : Consts) (ts : TypeSystem) (o : Opts) {hp hp' : Heap} (sh : SameShape hp hp')
    (lf a : Nat) : succsOf K ts o hp' lf a = succsOf K ts o hp lf a := by
  unfold succsOf
  cases h : hp[a]? with
  | none => rw [List.getElem?_eq_none (sh.1 ▸ List.getElem?_eq_none_iff.mp h)]
  | some ob =>
    obtain ⟨ob', e, t, _, _⟩ := sh.2 a ob h
    rw [e]
    simp only [t]
    cases getType ts ob.ty with
    | error e => rfl
    | ok t =>
      simp only
      rw [nodeSuccs_nil_eq K ts o hp' hp (fun a n => sh.slot a n) lf a t]

theorem succsOf_eq (K : Consts) (ts : TypeSystem) (o : Opts) {hp : Heap} {lf a : Nat} {ob : Obj} {t : TypeRec}
    {ps : List Nat} {n : Nat} (h : hp[a]? = some ob) (ht : getType ts ob.ty = .ok t)
    (hn : nodeSuccs K ts o hp [] lf a t = .ok (ps, n)) : succsOf K ts o hp lf a = ps := by
  unfold succsOf
  rw [h]
  simp only [ht, hn]

theorem mem_succsOf {K : Consts} {ts : TypeSystem} {o : Opts} {hp : Heap} {lf a b : Nat}
    (hb : b ∈ succsOf K ts o hp lf a) :
    ∃ ob t ps n, hp[a]? = some ob ∧ getType ts ob.ty = .ok t ∧ nodeSuccs K ts o hp [] lf a t = .ok (ps, n) ∧ b ∈ ps := by
  unfold succsOf at hb
  cases ho : hp[a]? with
  | none => rw [ho] at hb; cases hb
  | some ob =>
    cases ht : getType ts ob.ty with
    | error e => simp only [ho, ht] at hb; cases hb
    | ok t =>
      cases hn : nodeSuccs K ts o hp [] lf a t with
      | error e => simp only [ho, ht, hn] at hb; cases hb
      | ok r => exact ⟨ob, t, r.1, r.2, rfl, ht, hn, by simpa only [ho, ht, hn] using hb⟩

/-! ### the pushes against the empty visited map, feature by feature: `Src`, `mem_nodeSuccs_iff` -/

/-- the traversal looks through the collection held by feature `f` (instead of pushing the collection object) -/
def looksThrough (K : Consts) (o : Opts) (f : Feature) : Bool :=
  !o.includeInlinable && !(f.multi.getD false) && (isArray K f.range || isList K f.range)

theorem mem_refsToPush_nil {hp : Heap} {l : List (Option Nat)} {b : Nat} : b ∈ refsToPush hp [] l ↔ some b ∈ l := by
  unfold refsToPush
  rw [List.mem_filterMap]
  constructor
  · rintro ⟨r, hr, hb⟩
    cases r with
    | none => cases hb
    | some a => simp only [seenId_nil, Bool.false_eq_true, if_false, Option.some.injEq] at hb; exact hb ▸ hr
  · exact fun h => ⟨some b, h, by simp only [seenId_nil, Bool.false_eq_true, if_false]⟩

theorem mem_elemsPush_nil {hp : Heap} {sv : Option Val} {b : Nat} :
    b ∈ elemsPush hp [] sv ↔ ∃ l, sv = some (.refs l) ∧ some b ∈ l := by
  unfold elemsPush
  split
  · rename_i l
    rw [mem_refsToPush_nil]
    exact ⟨fun h => ⟨l, rfl, h⟩, fun ⟨_, e, h⟩ => by cases e; exact h⟩
  · rename_i hne
    exact ⟨nofun, fun ⟨l, e, _⟩ => absurd e (hne l)⟩

section
variable {K : Consts} {ts : TypeSystem} {o : Opts} {hp : Heap} {allFs : List (Int × Nat)} {lf a : Nat} {f : Feature}

theorem featureSuccs_skip
    (h : f.name = "sofa" ∨ isPrimitive K ts f.range = true ∨ slot hp a f.name = none ∨ slot hp a f.name = some .none) :
    featureSuccs K ts o hp allFs lf a f = .ok ([], 0) := by
  unfold featureSuccs
  by_cases hn : (f.name == "sofa") = true
  · rw [if_pos hn]
  rw [if_neg hn]
  by_cases hp' : isPrimitive K ts f.range = true
  · rw [if_pos hp']
  rw [if_neg hp']
  rcases h with h | h | h | h
  · exact absurd (by rw [h]; rfl) hn
  · exact absurd h hp'
  · rw [h]
  · rw [h]

/-- `featureSuccs` on a slot that holds a value other than `None`: the dispatch on the kind of feature
    (stated with `v` alone in the context, so that the matches on `v` stay the plain ones of the definition) -/
theorem featureSuccs_val {v : Val} (hn : f.name ≠ "sofa") (hpr : isPrimitive K ts f.range = false) :
    slot hp a f.name = some v → v ≠ .none → featureSuccs K ts o hp allFs lf a f =
      if looksThrough K o f = true then
        if f.range = FS_ARRAY then
          match v with
          | .ref arr => .ok (elemsPush hp allFs (slot hp arr "elements"), 0)
          | _ => .error .attributeError
        else if f.range = FS_LIST then
          match walkList hp allFs lf v with
          | some r => .ok r
          | none => .error .outOfFuel
        else .ok ([], 0)
      else
        match v with
        | .ref t => if seenId allFs (xidOf hp t) t then .ok ([], 0) else .ok ([t], 0)
        | _ => .error .attributeError := by
  intro hs hv
  unfold featureSuccs looksThrough
  rw [beq_false_of_ne hn, hpr, hs]
  simp only [beq_iff_eq]
  cases v <;> first | rfl | exact absurd rfl hv | skip
  -- left: a reference; only the array leaf differs in form
  rename_i arr
  simp only [Bool.false_eq_true, if_false]
  split
  · split
    · unfold elemsPush
      cases slot hp arr "elements" with
      | none => rfl
      | some w => cases w <;> rfl
    · rfl
  · rfl

end

/-- where a push of feature `f` of the object `ob` comes from: the reference in the slot, an element of the
    looked-through FSArray, a head of the looked-through FSList -/
inductive Src (K : Consts) (ts : TypeSystem) (o : Opts) (hp : Heap) (lf : Nat) (ob : Obj) (f : Feature) (b : Nat) : Prop
  | ref : f.name ≠ "sofa" → isPrimitive K ts f.range = false → looksThrough K o f = false →
      alistGet? ob.slots f.name = some (.ref b) → Src K ts o hp lf ob f b
  | elem (c : Nat) (l : List (Option Nat)) : f.name ≠ "sofa" → isPrimitive K ts f.range = false →
      looksThrough K o f = true → f.range = FS_ARRAY → alistGet? ob.slots f.name = some (.ref c) →
      slot hp c "elements" = some (.refs l) → some b ∈ l → Src K ts o hp lf ob f b
  | head (c : Nat) (vs : List Val) : f.name ≠ "sofa" → isPrimitive K ts f.range = false →
      looksThrough K o f = true → f.range ≠ FS_ARRAY → f.range = FS_LIST → alistGet? ob.slots f.name = some (.ref c) →
      Spine hp (.ref c) vs → vs.length < lf → Val.ref b ∈ vs → Src K ts o hp lf ob f b

theorem Src.slot {K : Consts} {ts : TypeSystem} {o : Opts} {hp : Heap} {lf : Nat} {ob : Obj} {f : Feature} {b : Nat}
    (h : Src K ts o hp lf ob f b) :
    f.name ≠ "sofa" ∧ isPrimitive K ts f.range = false ∧ ∃ c, alistGet? ob.slots f.name = some (.ref c) := by
  cases h with
  | ref h1 h2 _ h3 => exact ⟨h1, h2, _, h3⟩
  | elem c _ h1 h2 _ _ h3 => exact ⟨h1, h2, c, h3⟩
  | head c _ h1 h2 _ _ _ h3 => exact ⟨h1, h2, c, h3⟩

section
variable {K : Consts} {ts : TypeSystem} {o : Opts} {hp : Heap} {lf a : Nat} {ob : Obj}

theorem mem_featureSuccs_iff {f : Feature} {ps : List Nat} {n : Nat} (hob : hp[a]? = some ob)
    (h : featureSuccs K ts o hp [] lf a f = .ok (ps, n)) (b : Nat) : b ∈ ps ↔ Src K ts o hp lf ob f b := by
  have nil : featureSuccs K ts o hp [] lf a f = .ok ([], 0) → (b ∈ ps ↔ False) := fun e => by
    rw [e] at h; cases h; exact ⟨nofun, nofun⟩
  -- the cases in which nothing is pushed and `Src` would need a slot that holds a reference
  by_cases hn : f.name = "sofa"
  · rw [nil (featureSuccs_skip (.inl hn))]; exact ⟨nofun, fun s => s.slot.1 hn⟩
  cases hpr : isPrimitive K ts f.range with
  | true => rw [nil (featureSuccs_skip (.inr (.inl hpr)))]; exact ⟨nofun, fun s => by rw [s.slot.2.1] at hpr; cases hpr⟩
  | false =>
  cases hv : alistGet? ob.slots f.name with
  | none =>
    rw [nil (featureSuccs_skip (.inr (.inr (.inl ((slot_eq hob _).trans hv)))))]
    exact ⟨nofun, fun s => by obtain ⟨_, _, c, hc⟩ := s.slot; rw [hv] at hc; cases hc⟩
  | some v =>
  by_cases hvn : v = .none
  · rw [nil (featureSuccs_skip (.inr (.inr (.inr ((slot_eq hob _).trans (hvn ▸ hv))))))]
    exact ⟨nofun, fun s => by obtain ⟨_, _, c, hc⟩ := s.slot; rw [hv, hvn] at hc; cases hc⟩
  rw [featureSuccs_val hn hpr ((slot_eq hob _).trans hv) hvn] at h
  constructor
  · intro hb
    split at h
    · rename_i hl
      split at h
      · rename_i h1
        cases v with
        | ref c =>
          cases h
          obtain ⟨l, he, hbl⟩ := mem_elemsPush_nil.mp hb
          exact .elem c l hn hpr hl h1 hv he hbl
        | _ => cases h
      · rename_i h1
        split at h
        · rename_i h2
          cases hw : walkList hp [] lf v with
          | none => rw [hw] at h; cases h
          | some r =>
            obtain ⟨vs, hs, hlt⟩ := walkList_some hw
            rw [walkList_spine_nil hs hlt] at h; cases h
            have hb := mem_flatMap_refHead.mp hb
            by_cases hr : ∃ c, v = .ref c
            · obtain ⟨c, rfl⟩ := hr; exact .head c vs hn hpr hl h1 h2 hv hs hlt hb
            · cases hs.nonref fun t e => hr ⟨t, e⟩; cases hb
        · cases h; cases hb
    · rename_i hl
      cases v with
      | ref t =>
        dsimp only at h; rw [seenId_nil] at h; cases h
        rw [List.mem_singleton.mp hb]
        exact .ref hn hpr (by simpa using hl) hv
      | _ => cases h
  · intro s
    cases s with
    | ref _ _ hl hb =>
      rw [hv] at hb; cases hb
      rw [if_neg (by rw [hl]; nofun)] at h; dsimp only at h; rw [seenId_nil] at h; cases h
      exact List.mem_singleton.mpr rfl
    | elem c l _ _ hl h1 hc he hb =>
      rw [hv] at hc; cases hc
      rw [if_pos hl, if_pos h1] at h; cases h
      exact mem_elemsPush_nil.mpr ⟨l, he, hb⟩
    | head c vs _ _ hl h1 h2 hc hs hlt hb =>
      rw [hv] at hc; cases hc
      rw [if_pos hl, if_neg h1, if_pos h2, walkList_spine_nil hs hlt] at h; cases h
      exact mem_flatMap_refHead.mpr hb

theorem mem_featuresSuccs_iff (hob : hp[a]? = some ob) {fs : List Feature} {ps : List Nat} {n : Nat}
    (h : featuresSuccs K ts o hp [] lf a fs = .ok (ps, n)) (b : Nat) :
    b ∈ ps ↔ ∃ f ∈ fs, Src K ts o hp lf ob f b := by
  rw [mem_featuresSuccs h]
  refine ⟨fun ⟨f, hf, r, hr, hb⟩ => ⟨f, hf, (mem_featureSuccs_iff hob hr b).mp hb⟩, fun ⟨f, hf, hs⟩ => ?_⟩
  obtain ⟨r, hr⟩ := featuresSuccs_ok_iff.mp ⟨_, h⟩ f hf
  exact ⟨f, hf, r, hr, (mem_featureSuccs_iff hob hr b).mpr hs⟩

/-- **the successors of a structure**, whenever they can be computed: the sources of its features, or the elements
    of the FSArray it is -/
theorem mem_nodeSuccs_iff {t : TypeRec} {ps : List Nat} {n : Nat} (hob : hp[a]? = some ob)
    (h : nodeSuccs K ts o hp [] lf a t = .ok (ps, n)) (b : Nat) :
    b ∈ ps ↔ (t.super ≠ some ARRAY_BASE ∧ ∃ f ∈ allFeatures t, Src K ts o hp lf ob f b) ∨
      (t.super = some ARRAY_BASE ∧ t.name = FS_ARRAY ∧
        ∃ l, alistGet? ob.slots "elements" = some (.refs l) ∧ some b ∈ l) := by
  by_cases hs : t.super = some ARRAY_BASE
  · rw [nodeSuccs_array hs] at h; cases h
    by_cases hfa : t.name = FS_ARRAY
    · rw [if_pos hfa, mem_elemsPush_nil, slot_eq hob]
      exact ⟨fun hh => .inr ⟨hs, hfa, hh⟩, fun hh => hh.elim (fun hh => absurd hs hh.1) (fun hh => hh.2.2)⟩
    · rw [if_neg hfa]
      exact ⟨nofun, fun hh => hh.elim (fun hh => absurd hs hh.1) (fun hh => absurd hh.2.1 hfa)⟩
  · rw [nodeSuccs_of_not_array hs] at h
    rw [mem_featuresSuccs_iff hob h]
    exact ⟨fun hh => .inl ⟨hs, hh⟩, fun hh => hh.elim (fun hh => hh.2) (fun hh => absurd hh.1 hs)⟩

theorem featureSuccs_ok_of {f : Feature} (hob : hp[a]? = some ob)
    (hv : ∀ v, alistGet? ob.slots f.name = some v → v = .none ∨ ∃ c, v = .ref c)
    (hw : ∀ c, alistGet? ob.slots f.name = some (.ref c) → looksThrough K o f = true → f.range = FS_LIST →
      ∃ vs, Spine hp (.ref c) vs ∧ vs.length < lf) :
    ∃ r, featureSuccs K ts o hp [] lf a f = .ok r := by
  by_cases hn : f.name = "sofa"
  · exact ⟨_, featureSuccs_skip (.inl hn)⟩
  cases hpr : isPrimitive K ts f.range with
  | true => exact ⟨_, featureSuccs_skip (.inr (.inl hpr))⟩
  | false =>
  cases hs : alistGet? ob.slots f.name with
  | none => exact ⟨_, featureSuccs_skip (.inr (.inr (.inl ((slot_eq hob _).trans hs))))⟩
  | some v =>
    rcases hv v hs with rfl | ⟨c, rfl⟩
    · exact ⟨_, featureSuccs_skip (.inr (.inr (.inr ((slot_eq hob _).trans hs))))⟩
    · rw [featureSuccs_val hn hpr ((slot_eq hob _).trans hs) nofun]
      split
      · split
        · exact ⟨_, rfl⟩
        · split
          · rename_i hl _ h2
            obtain ⟨vs, hsp, hlt⟩ := hw c hs hl h2
            rw [walkList_spine_nil hsp hlt]
            exact ⟨_, rfl⟩
          · exact ⟨_, rfl⟩
      · dsimp only; split <;> exact ⟨_, rfl⟩

end

/-! ### the successor computation runs out of fuel only on a cyclic list spine -/

theorem getType_noFuel (ts : TypeSystem) (n : String) : getType ts n ≠ .error .outOfFuel :=
  fun h => nomatch getType_err ts n _ h

theorem walkList_none_spine (hp hp0 : Heap) (hslot : ∀ a n, slot hp a n = slot hp0 a n)
    (allFs : List (Int × Nat)) (f : Nat) (v : Val) (h : walkList hp allFs f v = none) :
    spineLen hp0 f v = none := by
  cases hs : spineLen hp0 f v with
  | none => rfl
  | some n =>
    obtain ⟨vs, hsp, hl⟩ := spineLen_some hs
    rw [walkList_spine allFs (hsp.congr hslot) f hl] at h
    cases h

theorem featureSuccs_noFuel (K : Consts) (ts : TypeSystem) (o : Opts) (hp : Heap) (allFs : List (Int × Nat))
    (lf a : Nat) (f : Feature) (hw : ∀ v, walkList hp allFs lf v ≠ none) :
    featureSuccs K ts o hp allFs lf a f ≠ .error .outOfFuel := by
  rw [featureSuccs_eq_case]
  refine featureCase_ind (ρ := Except Err (List Nat × Nat)) (fun r => r ≠ .error .outOfFuel) K ts o hp a f
    nofun nofun (fun _ => nofun) ?_ ?_
  · intro v
    cases hv : walkList hp allFs lf v with
    | none => exact absurd hv (hw v)
    | some r => nofun
  · intro t
    show (if _ then _ else _) ≠ _
    split <;> nofun

theorem nodeSuccs_noFuel (K : Consts) (ts : TypeSystem) (o : Opts) (hp : Heap) (allFs : List (Int × Nat))
    (lf a : Nat) (t : TypeRec) (hw : ∀ v, walkList hp allFs lf v ≠ none) :
    nodeSuccs K ts o hp allFs lf a t ≠ .error .outOfFuel := by
  by_cases h : t.super = some ARRAY_BASE
  · rw [nodeSuccs_array h]; nofun
  · rw [nodeSuccs_of_not_array h]
    intro he
    obtain ⟨f, _, hf⟩ := featuresSuccs_error he
    exact featureSuccs_noFuel K ts o hp allFs lf a f hw hf

end Cassis.Traverse
