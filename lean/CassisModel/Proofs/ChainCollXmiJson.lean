/-
C16 with collections — composition of the two round trips on the whole format (`Properties/C16ChainColl.lean`):
XMI → CAS → JSON → CAS.

The first half is the proof of `xmi_roundtrip_coll` with its description of the loaded heap kept (`xmi_core_coll`,
`RoundTripCollLoaded.lean`), together with the *types* of the collection objects the reader makes for inlined collections
(`XLd.typed`).  From this description the loaded CAS is shown to lie in the JSON fragment (`XLd.sall_j`,
`ChainCollXmiLoadedSets.lean`, `ChainCollXmiLoadedFrag.lean`), to be traversed by the JSON writer (`XLd.traversal`: ids are
assigned to the inlined collection objects; `XLd.lokJ`), to contain the counterpart of every written structure
(`XLd.complete`; `ChainCollXmiLoadedTrav.lean`), to inherit the remaining hypotheses (`ChainCollXmiLoadedHyps.lean`) and to
be written (`Json.renderFs_collJ`); the second half is `json_roundtrip_of_xmi_loaded` (`ChainViewsWf.lean`: the JSON round trip of
the normalised CAS), and the content equalities compose (`XLd.content_keep`, `CF.content_eq`).

Two hypotheses go beyond those of the two round trips (both with evaluated counterexamples, `Spec/ChainCollCheck.lean`):
`harr` (array objects carry an element list) and `htys` (`CollTypesOk`, `Spec/ChainCollFrag.lean`).
-/
import CassisModel.Proofs.ChainCollXmiLoadedHyps
import CassisModel.Proofs.ChainViewsWf

namespace Cassis.ChainC
open Cassis.TS Cassis.Traverse Cassis.Xmi Cassis.Json

section
variable {K : Consts} {ts : TypeSystem} {c : Cas} {ci : Nat} {H : Heap} {L : List (Int × Nat)} {ci' : Nat}
  {na : Int → Nat} {ia : Int → String → Nat} {ld : Xmi.Loaded}

theorem XLd.member_xid (x : XLd K ts c ci H L ci' na ia ld) {st2 : St} (j : JTrav K ts L na ld st2)
    {nv' : String × View} (hnv' : nv' ∈ ld.cas.views) {e' : Index.Entry} (he' : e' ∈ Index.all nv'.2.idx) :
    xidOf st2.heap e'.oid = xidOf ld.heap e'.oid := by
  obtain ⟨_, _, _, e, _, i, hi, hei⟩ := x.ldViews.entry hnv' he'
  rw [hei]
  exact x.xid_keep j ⟨_, hi, rfl⟩

theorem XLd.viewContent_keep (x : XLd K ts c ci H L ci' na ia ld) {st2 : St} (j : JTrav K ts L na ld st2) :
    ld.cas.views.map (viewContent st2.heap) = ld.cas.views.map (viewContent ld.heap) := by
  apply List.map_congr_left
  intro nv' hnv'
  unfold viewContent
  congr 2
  exact Det.filterMap_congr _ (fun e he => x.member_xid j hnv' he)

theorem XLd.jviews_keep (x : XLd K ts c ci H L ci' na ia ld) {st2 : St} (j : JTrav K ts L na ld st2) :
    ld.cas.views.map (jviewOf ld.heap) = ld.cas.views.map (jviewOf st2.heap) := by
  apply List.map_congr_left
  intro nv' hnv'
  unfold jviewOf
  congr 2
  exact Det.filterMap_congr _ (fun e he => (x.member_xid j hnv' he).symm)

theorem XLd.sofaRange (x : XLd K ts c ci H L ci' na ia ld) {st2 : St} (j : JTrav K ts L na ld st2)
    (hsr : ∀ q ∈ L, ∀ o t, H[q.2]? = some o → find? ts o.ty = some t → ∀ f ∈ allFeatures t, SofaRangeOk K ts o f)
    {r : Int × Nat} (hr : SAll K ld.heap L na r.2) :
    ∀ o t, st2.heap[r.2]? = some o → find? ts o.ty = some t → ∀ f ∈ allFeatures t, SofaRangeOk K ts o f := by
  intro o2 t ho2 ht f hf hn hne
  obtain ⟨o1, ho1, hty, hsl⟩ := j.shape.get_back ho2
  rw [hsl] at hne
  rcases hr with ⟨q, hq, hqa⟩ | ⟨oa, ev, hoa, _, hsla, _⟩ | ⟨k, vs, hv, _⟩
  · obtain ⟨o, o', ho, ho', hor⟩ := x.rel q hq
    rw [hqa] at ho1
    rw [ho1] at ho'; cases ho'
    rw [hty, hor.1] at ht
    apply hsr q hq o t ho ht f hf hn
    rw [hn, x.slot_map hq ho ho1 "sofa"] at hne
    rw [hn]
    cases hv : alistGet? o.slots "sofa" with
    | none => rw [hv] at hne; exact absurd rfl hne
    | some v =>
      rw [hv] at hne
      intro e
      simp only [Option.getD_some] at e
      subst e
      exact hne rfl
  · rw [hoa] at ho1; cases ho1
    rw [hn, hsla] at hne
    exact absurd rfl hne
  · cases hv with
    | nil g1 _ _ g4 =>
      rw [g1] at ho1; cases ho1
      rw [hn, g4] at hne
      exact absurd rfl hne
    | cons g1 _ _ g4 _ =>
      rw [g1] at ho1; cases ho1
      rw [hn, g4] at hne
      exact absurd rfl hne

end

end Cassis.ChainC

namespace Cassis
open Cassis.TS Cassis.Traverse Cassis.Xmi Cassis.Chain Cassis.ChainC

/-- `chain_xmi_json_coll` (`Properties/C16ChainColl.lean`) with what its statement hides of the middle: the structures the
    JSON writer collects from the loaded CAS satisfy `LOkJ`.  The written document is loaded (`XLd`), the JSON writer's
    traversal of the loaded CAS stays in the JSON fragment (`JTrav`, `XLd.lokJ`) and the writer succeeds; the second half
    is the JSON round trip on the normalised CAS. -/
theorem chain_xmi_json_coll_lokJ (K : Consts) (ts : TypeSystem) (cass : List Cas) (ci : Nat) (c : Cas) (hp : Heap)
    (tsIdx : Nat) (doc : XDoc) (st : St)
    (hc : cass[ci]? = some c) (hwf : RTWf c hp) (hnull : NullOk ts)
    (hsave : saveXmi K ts cass ci hp = .ok (doc, st))
    (hcoll : ∀ q ∈ st.allFs, CollFs K ts c ci st.heap q.2)
    (hjson : ∀ q ∈ st.allFs, Json.JsonFs ts st.heap q.2)
    (hsr : ∀ q ∈ st.allFs, ∀ o t, st.heap[q.2]? = some o → find? ts o.ty = some t → ∀ f ∈ allFeatures t,
      Json.SofaRangeOk K ts o f)
    (hdis : ∀ q ∈ st.allFs, ∀ nv ∈ c.views, q.1 ≠ nv.2.sofa.xid)
    (hmem : ∀ nv ∈ c.views, ∀ e ∈ Index.all nv.2.idx, Xmi.slot st.heap e.oid "sofa" ≠ some .none)
    (hmok : MembersOk c st.heap)
    (harr : ∀ q ∈ st.allFs, Json.ArrElemsSome st.heap q.2)
    (htys : Json.CollTypesOk K ts) :
    ∃ (ld1 : Xmi.Loaded) (docj : Json.JDoc) (st2 : St) (ld2 : Json.Loaded) (fss2 : List (Int × Val)),
      loadXmi K ts tsIdx cass.length false st.heap doc = .ok ld1 ∧
      Json.saveJson K ts (cass ++ [ld1.cas]) cass.length ld1.heap .none = .ok (docj, st2) ∧
      Json.loadJson K ts tsIdx (cass.length + 1) false false st2.heap docj = .ok ld2 ∧
      ld2.cas.views.map (viewContent ld2.heap) = c.views.map (viewContent st.heap) ∧
      (∀ q ∈ st.allFs, ∃ (a2 : Nat) (o o2 : Obj), Json.lookup fss2 q.1 = some (.ref a2) ∧
          st.heap[q.2]? = some o ∧ ld2.heap[a2]? = some o2 ∧ o2.ty = o.ty ∧ o2.xid = some q.1 ∧
          ∀ t : TypeRec, find? ts o.ty = some t → ∀ f ∈ allFeatures t,
            featContentC K ld2.heap a2 f = featContentC K st.heap q.2 f) ∧
      Json.LOkJ K ts ld1.cas cass.length st2.heap (sortById st2.allFs) := by
  obtain ⟨na, ia, ld1, hload1, x⟩ :=
    xmi_core_coll K ts cass ci c hp tsIdx cass.length doc st hc hwf hnull hsave hcoll hmem hmok
  have hjsonL : ∀ q ∈ sortById st.allFs, Json.JsonFs ts st.heap q.2 := fun q hq => hjson q (mem_sortById.mp hq)
  have harrL : ∀ q ∈ sortById st.allFs, Json.ArrElemsSome st.heap q.2 := fun q hq => harr q (mem_sortById.mp hq)
  obtain ⟨st2, hfa2, hsh, hsub, hnz, hfresh⟩ := x.traversal htys hjsonL harrL
  have j : JTrav K ts (sortById st.allFs) na ld1 st2 := ⟨hfa2, hsh, hsub, hnz, hfresh⟩
  have hL2 := x.lokJ htys hjsonL harrL j
  have hc' : (cass ++ [ld1.cas])[cass.length]? = some ld1.cas := List.getElem?_concat_length
  have hrA := Json.renderAll_eq_map K ts (cass ++ [ld1.cas]) st2.heap (sortById st2.allFs) (fun r hr =>
    Json.renderFs_collJ hc' hL2 r hr
      (x.sofaRange j (fun q hq => hsr q (mem_sortById.mp hq)) (hsub r (mem_sortById.mp hr))))
  have hplain := loadXmi_plain hload1
  have hsave2 := Json.saveJson_of_parts (K := K) (ts := ts) hc' (fun nv hnv => (hplain nv hnv).1) hfa2 hrA
  have hcomp := x.complete hwf.next_pos (saveXmi_findAllFs hc hsave) j hL2
  have hSr : ∀ r ∈ sortById st2.allFs, SAll K ld1.heap (sortById st.allFs) na r.2 :=
    fun r hr => j.sub r (mem_sortById.mp hr)
  -- the other hypotheses of the JSON round trip, over the heap after the traversal
  have hdis2 : ∀ r ∈ sortById st2.allFs, ∀ nv ∈ ld1.cas.views, r.1 ≠ nv.2.sofa.xid := by
    intro r hr nv' hnv'
    obtain ⟨nv, hnv, hvr⟩ := x.views.all2.bwd nv' hnv'
    rw [hvr.2.2.1]
    rcases j.fresh r.2 (hSr r hr) r.1 (hL2.ids r hr).1 with hold | hnew
    · obtain ⟨q, hq, _, e⟩ := x.sall_xid (hSr r hr) hold
      rw [e]
      exact hdis q (mem_sortById.mp hq) nv hnv
    · have := x.sofas_below nv hnv
      omega
  have hmem2 : ∀ nv ∈ ld1.cas.views, ∀ e ∈ Index.all nv.2.idx, Xmi.slot st2.heap e.oid "sofa" ≠ some .none := by
    intro nv hnv e he
    have : Xmi.slot st2.heap e.oid "sofa" = Xmi.slot ld1.heap e.oid "sofa" := j.shape.slot _ _
    rw [this]
    exact x.ldViews.mem_sofa x.rel x.lok.coll (fun _ _ => nofun) hmem nv hnv e he
  have hmok2 : MembersOk ld1.cas st2.heap := membersOk_shape j.shape (x.ldViews.membersOk_rel x.rel (fun _ _ => ⟨fun _ => rfl, rfl⟩) hmok)
  obtain ⟨ld2, fss2, hload2, hfs2, hvc2⟩ :=
    json_roundtrip_of_xmi_loaded (cass := cass) hwf x.views hplain x.next_pos x.sofas_below ld1.heap st2.heap
      (sortById st2.allFs) tsIdx hL2 hdis2 hmem2 hmok2 (x.jviews_keep j)
  refine ⟨ld1, _, st2, ld2, fss2, hload1, hsave2, hload2, ?_, ?_, hL2⟩
  · rw [hvc2, x.viewContent_keep j, x.content]
  · intro q hq0
    have hq := mem_sortById.mpr hq0
    obtain ⟨o, o', ho, ho', hty, hx, hkeys, hslots⟩ := x.rel q hq
    obtain ⟨a2, o1, o2, hlk, ho1, ho2, hty2, hx2, hfc2⟩ := hfs2 _ (hcomp q hq)
    obtain ⟨o1', ho1', hty1, _⟩ := j.shape.get_back ho1
    have e1 : o1' = o' := by
      have : ld1.heap[na q.1]? = some o1' := ho1'
      rw [ho'] at this
      exact (Option.some.inj this).symm
    subst e1
    refine ⟨a2, o, o2, hlk, ho, ho2, hty2.trans (hty1.trans hty), hx2, ?_⟩
    intro t ht f hf
    rw [hfc2 t (by rw [hty1, hty]; exact ht) f hf]
    show featContentC K st2.heap (na q.1) f = _
    rw [x.content_keep j (fun q hq => harr q (mem_sortById.mp hq)) hq ho ht hf]
    exact CF.content_eq ⟨x.lok, fun q' hq' => x.rel.xid hq', x.colls, hq, ho, ho', hty, hkeys, hslots, ht⟩ hf

end Cassis
