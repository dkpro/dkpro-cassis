/-
Entry-order independence of the JSON reader (`Properties/C05PermJsonColl.lean`) and faithfulness of the writer
(`Properties/C04FaithfulJson.lean`): `json_read_perm` (`RoundTripJsonColl.lean`) in terms of the content.

`split_perm`: a permutation of the written `%FEATURE_STRUCTURES` is the sofas in some order and the other structures in
some order.  `load_perm_base`: what the id map of the reader holds and, under each id, type and deep content
(`content_collJ`), over any base heap at least as long as the written one (the content function unrolls a list with the
length of the heap as fuel).  `load_base`: the unpermuted document over another base heap — two CASes written to one
document are both related to the one result of reading it.
-/
import CassisModel.Proofs.RoundTripJsonColl
import CassisModel.Proofs.Lists
import CassisModel.Proofs.RoundTripJsonCollContent

namespace Cassis.Json.LPJ
open Cassis.TS Cassis.Xmi

theorem split_perm {α β} (rs : α → JFs) (el : β → JFs) (S : List α) (L : List β) (l' : List JFs)
    (hrs : ∀ a ∈ S, (rs a).ty = SOFA) (hel : ∀ b ∈ L, (el b).ty ≠ SOFA)
    (hperm : l'.Perm (S.map rs ++ L.map el)) :
    ∃ (σ : List α) (L' : List β), σ.Perm S ∧ L'.Perm L ∧
      l'.filter (fun j => j.ty == SOFA) = σ.map rs ∧ l'.filter (fun j => j.ty != SOFA) = L'.map el := by
  obtain ⟨e1, e2⟩ := filter_parts rs el S L hrs hel
  obtain ⟨σ, hσ, e1⟩ := Det.perm_map_inv rs _ S (e1 ▸ hperm.filter (fun j : JFs => j.ty == SOFA))
  obtain ⟨L', hL', e2⟩ := Det.perm_map_inv el _ L (e2 ▸ hperm.filter (fun j : JFs => j.ty != SOFA))
  exact ⟨σ, L', hσ, hL', e1, e2⟩

theorem load_perm_base {K : Consts} {ts : TypeSystem} {cass : List Cas} {c : Cas} {ci : Nat} {hp H : Heap}
    {L : List (Int × Nat)} (g : GCtxJ K ts cass c ci hp H L) (hb : Heap) (hlen : H.length ≤ hb.length)
    (hmem : ∀ nv ∈ c.views, ∀ e ∈ Index.all nv.2.idx, Xmi.slot H e.oid "sofa" ≠ some .none)
    (hmok : MembersOk c H) (tsIdx ci' : Nat)
    (pre post : List (String × View)) (iv : String × View) (hσ : (pre ++ iv :: post).Perm c.views)
    (hiv : iv.1 = Cas.INITIAL_VIEW) (L' : List (Int × Nat)) (hL' : L'.Perm L)
    (τ : List (String × View)) (hτ : τ.Perm c.views) (doc' : JDoc)
    (hsofas : doc'.fss.filter (fun j => j.ty == SOFA) = (pre ++ iv :: post).map (fun p => renderSofa hp p.2.sofa))
    (hfs : doc'.fss.filter (fun j => j.ty != SOFA) = L'.map (elemOfJ K ts cass H))
    (hviews : doc'.views = τ.map (jviewH H)) :
    ∃ (s1 s : RState) (ld : Loaded),
      sofaPass K ts tsIdx ci' doc'.fss doc'.fss { cas := Cas.empty, heap := hb } = .ok s1 ∧
      fsPass K ts tsIdx doc'.fss s1 = .ok s ∧
      loadJson K ts tsIdx ci' false false hb doc' = .ok ld ∧ ld.ts = ts ∧
      s.fss.map (·.1) = (pre ++ iv :: post).map (·.2.sofa.xid) ++ L'.map (·.1) ∧
      (∀ q ∈ L, ∃ (a' : Nat) (o o' : Obj), lookup s.fss q.1 = some (.ref a') ∧
          H[q.2]? = some o ∧ ld.heap[a']? = some o' ∧ o'.ty = o.ty ∧ o'.xid = some q.1 ∧
          ∀ t : TypeRec, find? ts o.ty = some t → ∀ f ∈ allFeatures t,
            featContentC K ld.heap a' f = featContentC K H q.2 f) ∧
      (∀ nv ∈ c.views, lookup s.fss nv.2.sofa.xid = some (.sofa ci' nv.1)) ∧
      ld.cas.views.map (viewContent ld.heap) = (iv :: pre ++ post).map (viewContent H) ∧
      (ld.cas.views.head?).map (·.1) = some Cas.INITIAL_VIEW ∧
      (∀ q ∈ L, q.1 < ld.cas.nextXid) ∧
      (∀ nv ∈ c.views, nv.2.sofa.xid < ld.cas.nextXid ∧ nv.2.sofa.sofaNum < ld.cas.nextSofaNum) := by
  obtain ⟨s1, s, ld, m, h1, h2, hload, hts, hfss, hrel, hvall, hvc, hnx, _, hmq, hms⟩ :=
    json_read_perm g hb hmem hmok tsIdx ci' pre post iv hσ hiv L' hL' τ hτ doc' hsofas hfs hviews
  have hwf := g.wf
  have hxσ : ((pre ++ iv :: post).map (·.2.sofa.xid)).Nodup := (hσ.map _).nodup_iff.mpr hwf.sofa_ids_nodup
  have hk : ∀ q ∈ L', q.1 ∉ (sofaEntries ci' (pre ++ iv :: post)).map (·.1) := by
    intro q hq hin
    rw [sofaEntries_keys] at hin
    obtain ⟨nv, hnv, e⟩ := List.mem_map.mp hin
    exact g.dis q (hL'.mem_iff.mp hq) nv (hσ.mem_iff.mp hnv) e.symm
  have hLok' : LOkJ K ts c ci H L' := lokJ_withViews (vs := c.views) g.lok (.refl _) hwf.names_nodup hL'
  refine ⟨s1, s, ld, h1, h2, hload, hts, ?_, ?_, ?_, hvc, ?_, ?_, ?_⟩
  · rw [hfss, List.map_append, sofaEntries_keys, fsEntries_keys]
  · intro q hq0
    have hq : q ∈ L' := hL'.mem_iff.mpr hq0
    obtain ⟨o, o', ho, ho', hty, hx, _, _⟩ := hrel q hq
    exact ⟨naOf hb L' q.1, o, o', by rw [hfss]; exact lookup_fsEntries _ _ hLok'.nodup hq (hk q hq), ho, ho', hty, hx,
      fun t ht f hf => content_collJ K ts c ci H L' ci' ld.heap hLok' hrel
        (by have := CC.len_lt hrel hq; omega) q hq o t ho ht f hf⟩
  · intro nv hnv
    rw [hfss, lookup_append, lookup_sofaEntries ci' hxσ (hσ.mem_iff.mpr hnv)]
  · cases hw : ld.cas.views with
    | nil => rw [hw] at hvall; exact hvall.elim
    | cons w ws =>
      rw [hw] at hvall
      show some w.1 = _
      rw [hvall.1.1, hiv]
  · intro q hq
    have := hmq q hq
    omega
  · intro nv hnv
    obtain ⟨b1, b2⟩ := hms nv hnv
    exact ⟨by omega, b2⟩

theorem load_base {K : Consts} {ts : TypeSystem} {cass : List Cas} {c : Cas} {ci : Nat} {hp H : Heap}
    {L : List (Int × Nat)} (g : GCtxJ K ts cass c ci hp H L) (doc : JDoc)
    (hdfss : doc.fss = c.views.map (fun p => renderSofa hp p.2.sofa) ++ L.map (elemOfJ K ts cass H))
    (hviews : doc.views = c.views.map (jviewH H)) (hb : Heap) (hlen : H.length ≤ hb.length)
    (hmem : ∀ nv ∈ c.views, ∀ e ∈ Index.all nv.2.idx, Xmi.slot H e.oid "sofa" ≠ some .none)
    (hmok : MembersOk c H) (tsIdx ci' : Nat) :
    ∃ (s1 s : RState) (ld : Loaded),
      sofaPass K ts tsIdx ci' doc.fss doc.fss { cas := Cas.empty, heap := hb } = .ok s1 ∧
      fsPass K ts tsIdx doc.fss s1 = .ok s ∧
      loadJson K ts tsIdx ci' false false hb doc = .ok ld ∧
      s.fss.map (·.1) = c.views.map (·.2.sofa.xid) ++ L.map (·.1) ∧
      (∀ q ∈ L, ∃ (a' : Nat) (o o' : Obj), lookup s.fss q.1 = some (.ref a') ∧
          H[q.2]? = some o ∧ ld.heap[a']? = some o' ∧ o'.ty = o.ty ∧
          ∀ t : TypeRec, find? ts o.ty = some t → ∀ f ∈ allFeatures t,
            featContentC K ld.heap a' f = featContentC K H q.2 f) ∧
      ld.cas.views.map (viewContent ld.heap) = c.views.map (viewContent H) := by
  obtain ⟨iv, rest, hcv, hiv⟩ := g.wf.views_cons
  obtain ⟨e1, e2⟩ := filter_parts (fun p : String × View => renderSofa hp p.2.sofa) (elemOfJ K ts cass H) c.views L
    (fun _ _ => rfl) (fun q hq => elemOfJ_notSofa g.lok q hq)
  obtain ⟨s1, s, ld, h1, h2, hload, _, hkeys, hcont, _, hvc, _⟩ :=
    load_perm_base g hb hlen hmem hmok tsIdx ci' [] rest iv (by rw [List.nil_append, hcv]) hiv L (.refl _)
      c.views (.refl _) doc (by rw [hdfss, e1, hcv]; rfl) (by rw [hdfss, e2]) hviews
  refine ⟨s1, s, ld, h1, h2, hload, by rw [hkeys, hcv]; rfl, fun q hq => ?_, by rw [hvc, hcv]; rfl⟩
  obtain ⟨a', o, o', hl, ho, ho', hty, _, hfc⟩ := hcont q hq
  exact ⟨a', o, o', hl, ho, ho', hty, hfc⟩

end Cassis.Json.LPJ
