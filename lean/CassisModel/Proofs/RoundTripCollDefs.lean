/-
Shared definitions of the proof of the XMI round trip with collections (`Properties/C01RoundTripColl.lean`; layer "defs"
of `RoundTripColl_NOTES.md`), on top of `Proofs/RoundTripDefs.lean`: notation `H`, `L`, `na` as there, `E2` and `exp3` are
its expectations for a flat value.

New objects the reader creates for *inlined* collections (array objects, list nodes) carry no id (`xid = none`); they are
appended to the heap during the first pass (child elements) or the second pass (attributes) and never change afterwards
(`Frz`).  `ArrAt` / `ListAt` describe them.  Per collected structure the relation between the old object and the new
one is `Obj1` after the first pass and `Obj2` after the second; `E2c`/`E3c` are the expectation *functions* of the
second and third phase once the addresses of the inlined collections are known (`ia`).

`Obj1` does not interpret what the first pass stored: a slot holds what the reader makes (`Read1`) of the attribute and
the child elements the writer emitted for the feature (`fAttr`, `fKids`).  What that is, kind by kind, is worked out where
it is needed, in the second pass, from the writer's equation for the feature (`Slot1.read`).
-/
import CassisModel.Spec.RoundTripCollFrag
import CassisModel.Proofs.RoundTripDefs
import CassisModel.Proofs.RoundTripWriter
import CassisModel.Proofs.Features
import CassisModel.Proofs.XmiBuilders

namespace Cassis.Xmi
open Cassis.TS Cassis.Traverse Cassis.Lex

/-- a raw element list (the `elements` slot of an array object) -/
def isListV : Val → Bool
  | .refs _ | .ints _ | .floats _ | .bools _ | .strs _ => true
  | _ => false

/-- is slot `n` of `o` the slot of an inlined collection feature? -/
def inlineSlot (K : Consts) (ts : TypeSystem) (o : Obj) (n : String) : Bool :=
  match find? ts o.ty with
  | some t =>
    match (allFeatures t).find? (fun f => f.name == n) with
    | some f => isInline K f
    | none => false
  | none => false

/-- the token the writer emits for a reference to the structure at `b` -/
def idTok (H : Heap) (b : Nat) : String :=
  match xidOf H b with
  | some x => showInt x
  | none => "None"

/-- the head the reader stores for a head of a string list written as a child element -/
def strHead : Val → Val
  | .str s => if s == "" then .none else .str s
  | v => v

/-- the new head for an old head (references resolved to new addresses) -/
def headExp (H : Heap) (na : Int → Nat) : Val → Val
  | .ref b => match xidOf H b with | some x => .ref (na x) | none => .none
  | v => strHead v

theorem headExp_strs (H : Heap) (na : Int → Nat) (hs : List Val)
    (h : ∀ v ∈ hs, v = .none ∨ ∃ s : String, v = .str s) : hs.map (headExp H na) = hs.map strHead := by
  refine List.map_congr_left fun v hv => ?_
  rcases h v hv with rfl | ⟨s, rfl⟩ <;> rfl

/-- the new `elements` for old `elements` -/
def elemsExp (H : Heap) (na : Int → Nat) : Val → Val
  | .refs l => .refs (l.map (fun r => r.bind (fun b => (xidOf H b).map na)))
  | .ints l => if l.isEmpty then .refs [] else .ints l
  | .bools l => if l.isEmpty then .refs [] else .bools l
  | .floats l => if l.isEmpty then .refs [] else .floats l
  | .strs l => if l.isEmpty then .refs [] else .strs (l.map normTxt)
  | _ => .none

namespace CIA

theorem elemsExp_refs_nil (H : Heap) (na : Int → Nat) : elemsExp H na (.refs []) = .refs [] := rfl

theorem elemsExp_strs_nil (H : Heap) (na : Int → Nat) : elemsExp H na (.strs []) = .refs [] := rfl

end CIA

theorem elemsExp_ints (H : Heap) (na : Int → Nat) {l : List Int} (h : l ≠ []) : elemsExp H na (.ints l) = .ints l := by
  cases l with
  | nil => exact absurd rfl h
  | cons _ _ => rfl

theorem elemsExp_bools (H : Heap) (na : Int → Nat) {l : List Bool} (h : l ≠ []) : elemsExp H na (.bools l) = .bools l := by
  cases l with
  | nil => exact absurd rfl h
  | cons _ _ => rfl

theorem elemsExp_floats (H : Heap) (na : Int → Nat) {l : List String} (h : l ≠ []) :
    elemsExp H na (.floats l) = .floats l := by
  cases l with
  | nil => exact absurd rfl h
  | cons _ _ => rfl

theorem elemsExp_strs (H : Heap) (na : Int → Nat) {l : List (Option String)} (h : l ≠ []) :
    elemsExp H na (.strs l) = .strs (l.map normTxt) := by
  cases l with
  | nil => exact absurd rfl h
  | cons _ _ => rfl

theorem CF.inlineSlot_eq {K : Consts} {ts : TypeSystem} {o : Obj} {t : TypeRec} {f : Feature}
    (ht : find? ts o.ty = some t) (hnd : (ctorFields t).Nodup) (hf : f ∈ allFeatures t) :
    inlineSlot K ts o f.name = isInline K f := by
  unfold inlineSlot
  simp only [ht, find_name_of_mem hnd hf]

theorem isInline_eq_true {K : Consts} {f : Feature} (hm : f.multi.getD false = false)
    (h : isArray K f.range = true ∨ isList K f.range = true) : isInline K f = true := by
  unfold isInline
  rw [hm]
  rcases h with h | h <;> rw [h] <;> simp only [Bool.not_false, Bool.true_and, Bool.true_or, Bool.or_true]

theorem isInline_of_range {K : Consts} {f : Feature} (ha : isArray K f.range = false) (hl : isList K f.range = false) :
    isInline K f = false := by
  simp only [isInline, ha, hl, Bool.or_self, Bool.and_false]

theorem CT.isInline_shared {K : Consts} {f : Feature} (hm : f.multi = some true) : isInline K f = false := by
  unfold isInline; rw [hm]; rfl

theorem InlineFeat.isInline {K : Consts} {ts : TypeSystem} {H : Heap} {o : Obj} {f : Feature}
    (h : InlineFeat K ts H o f) : isInline K f = true := by
  obtain ⟨hm, v, _, hc⟩ := h
  refine isInline_eq_true hm ?_
  rcases hc with ⟨_, rk, _⟩ | ⟨_, rk, _⟩ | ⟨_, rk, _⟩ | ⟨_, rk, _⟩ | ⟨_, rk, _⟩ | ⟨_, rk, _⟩ | ⟨_, rk, _⟩ <;>
    simp only [rk.arr, rk.list, true_or, or_true]

namespace CF

/-- `featContentC` as a function of the slot value (`featContentC_eq`) -/
def contentOf (K : Consts) (hp : Heap) (f : Feature) (v : Val) : CVal :=
  if isInline K f then
    match v with
    | .ref c =>
      if isArray K f.range then .elems (elemVals hp ((slot hp c "elements").getD .none))
      else .elems (listVals hp (f.range == STRING_LIST) (hp.length + 1) v)
    | w => cvalOf hp w
  else cvalOf hp v

theorem featContentC_eq (K : Consts) (hp : Heap) (a : Nat) (f : Feature) :
    featContentC K hp a f = contentOf K hp f ((slot hp a f.name).getD .none) := rfl

theorem featContentC_of {K : Consts} {hp : Heap} {a : Nat} {o : Obj} {f : Feature} {v : Val} (ho : hp[a]? = some o)
    (hv : alistGet? o.slots f.name = some v) : featContentC K hp a f = contentOf K hp f v := by
  rw [featContentC_eq, Xmi.slot_of ho f.name, hv]
  rfl

theorem contentOf_nonref (K : Consts) (hp : Heap) (f : Feature) (v : Val) (h : ∀ c, v ≠ .ref c) :
    contentOf K hp f v = cvalOf hp v := by
  unfold contentOf
  split
  · cases v <;> first | rfl | exact absurd rfl (h _)
  · rfl

theorem contentOf_notInline (K : Consts) (hp : Heap) (f : Feature) (v : Val) (h : isInline K f = false) :
    contentOf K hp f v = cvalOf hp v := by
  unfold contentOf
  rw [h]; rfl

theorem contentOf_arr (K : Consts) (hp : Heap) (f : Feature) (c : Nat) (h : isInline K f = true)
    (ha : isArray K f.range = true) :
    contentOf K hp f (.ref c) = .elems (elemVals hp ((slot hp c "elements").getD .none)) := by
  unfold contentOf
  rw [h]; simp only [if_true, ha]

theorem contentOf_list (K : Consts) (hp : Heap) (f : Feature) (c : Nat) (h : isInline K f = true)
    (ha : isArray K f.range = false) :
    contentOf K hp f (.ref c) = .elems (listVals hp (f.range == STRING_LIST) (hp.length + 1) (.ref c)) := by
  unfold contentOf
  rw [h]; simp only [if_true, ha, Bool.false_eq_true, if_false]

theorem contentOf_cases (K : Consts) (hp : Heap) (f : Feature) (v : Val) :
    contentOf K hp f v = cvalOf hp v ∨ ∃ l, contentOf K hp f v = .elems l := by
  cases hi : isInline K f with
  | false => exact .inl (contentOf_notInline K hp f v hi)
  | true =>
    by_cases hv : ∃ c, v = .ref c
    · obtain ⟨c, rfl⟩ := hv
      cases ha : isArray K f.range with
      | true => exact .inr ⟨_, contentOf_arr K hp f c hi ha⟩
      | false => exact .inr ⟨_, contentOf_list K hp f c hi ha⟩
    · exact .inl (contentOf_nonref K hp f v fun c e => hv ⟨c, e⟩)

end CF

theorem featContentC_eq_cvalOf {K : Consts} {hp : Heap} {a : Nat} {f : Feature}
    (h : isInline K f = false ∨ ∀ b, (slot hp a f.name).getD .none ≠ .ref b) :
    featContentC K hp a f = cvalOf hp ((slot hp a f.name).getD .none) :=
  h.elim (CF.contentOf_notInline K hp f _) (CF.contentOf_nonref K hp f _)

theorem FlatFeat.plain {K : Consts} {ts : TypeSystem} {c : Cas} {ci : Nat} {H : Heap} {isAnn : Bool} {o : Obj}
    {f : Feature} (hflat : FlatFeat K ts c ci H isAnn o f) {v : Val} (hv : alistGet? o.slots f.name = some v) :
    (∀ b, v = .ref b → isInline K f = false) ∧ isListV v = false := by
  rcases hflat.val_cases hv with rfl | ⟨_, rfl⟩ | ⟨_, rfl⟩ | ⟨_, rfl⟩ | ⟨_, rfl⟩ | ⟨_, rfl⟩ | ⟨_, rfl, _, _, ha, hl⟩
  rotate_right
  · exact ⟨fun _ _ => isInline_of_range ha hl, rfl⟩
  all_goals exact ⟨fun _ e => (nomatch e), rfl⟩

/-- the names of the primitive array types (StringArray apart) differ from the other type names the codec tests -/
theorem primArrTy_ne {r : String} (h : PrimArrTy r) {s : String}
    (hs : s ∈ [STRING_ARRAY, FS_ARRAY, INTEGER_LIST, FLOAT_LIST, STRING_LIST, FS_LIST, SOFA, VIEW_T]) : r ≠ s := by
  rintro rfl
  revert hs
  rcases h with (rfl | rfl | rfl) | rfl | rfl | (rfl | rfl) <;>
    simp [STRING_ARRAY, FS_ARRAY, INTEGER_LIST, FLOAT_LIST, STRING_LIST, FS_LIST, SOFA, VIEW_T]

/-! ### the heap: objects without id never change -/

/-- `hp'` is a later heap: not shorter, and every object without id is still there, unchanged -/
def Frz (hp hp' : Heap) : Prop :=
  hp.length ≤ hp'.length ∧ ∀ (a : Nat) (o : Obj), hp[a]? = some o → o.xid = none → hp'[a]? = some o

theorem Frz.refl (hp : Heap) : Frz hp hp := ⟨Nat.le_refl _, fun _ _ h _ => h⟩

theorem Frz.trans {h1 h2 h3 : Heap} (a : Frz h1 h2) (b : Frz h2 h3) : Frz h1 h3 :=
  ⟨Nat.le_trans a.1 b.1, fun i o h hx => b.2 i o (a.2 i o h hx) hx⟩

theorem Frz.append (hp t : Heap) : Frz hp (hp ++ t) :=
  ⟨by rw [List.length_append]; omega, fun a o h _ => by
    rw [List.getElem?_append_left (List.getElem?_eq_some_iff.mp h).1]; exact h⟩

theorem Frz.set {hp : Heap} {a : Nat} {o o' : Obj} (h : hp[a]? = some o) (hx : o.xid ≠ none) : Frz hp (hp.set a o') := by
  refine ⟨by rw [List.length_set]; exact Nat.le_refl _, fun b ob hb hbx => ?_⟩
  by_cases e : a = b
  · subst e; rw [h] at hb; cases hb; exact absurd hbx hx
  · rw [List.getElem?_set_ne e]; exact hb

theorem Frz.set_some {hp : Heap} {a : Nat} {o o' : Obj} {x : Int} (h : hp[a]? = some o) (hx : o.xid = some x) :
    Frz hp (hp.set a o') :=
  Frz.set h (by rw [hx]; exact fun e => by cases e)

/-- an array object the reader made: no id, `elements = ev` -/
def ArrAt (hp : Heap) (addr : Nat) (ev : Val) : Prop :=
  ∃ ob : Obj, hp[addr]? = some ob ∧ ob.xid = none ∧ alistGet? ob.slots "elements" = some ev

/-- a list the reader made: nodes without id, heads `vs`, ending in a node without `head` -/
inductive ListAt (hp : Heap) : Nat → List Val → Prop
  | nil {a : Nat} {o : Obj} : hp[a]? = some o → o.xid = none → alistGet? o.slots "head" = none → ListAt hp a []
  | cons {a : Nat} {o : Obj} {hd : Val} {a' : Nat} {rest : List Val} : hp[a]? = some o → o.xid = none →
      alistGet? o.slots "head" = some hd → alistGet? o.slots "tail" = some (.ref a') → ListAt hp a' rest →
      ListAt hp a (hd :: rest)

theorem ArrAt.frz {hp hp' : Heap} {addr : Nat} {ev : Val} (h : ArrAt hp addr ev) (f : Frz hp hp') : ArrAt hp' addr ev := by
  obtain ⟨ob, h1, h2, h3⟩ := h
  exact ⟨ob, f.2 _ _ h1 h2, h2, h3⟩

theorem slot_arrAt {hp : Heap} {addr : Nat} {ev : Val} (h : ArrAt hp addr ev) : slot hp addr "elements" = some ev := by
  obtain ⟨ob, h1, _, h3⟩ := h
  rw [Xmi.slot_of h1, h3]

theorem ListAt.frz {hp hp' : Heap} (f : Frz hp hp') : ∀ {a : Nat} {vs : List Val}, ListAt hp a vs → ListAt hp' a vs := by
  intro a vs h
  induction h with
  | nil h1 h2 h3 => exact .nil (f.2 _ _ h1 h2) h2 h3
  | cons h1 h2 h3 h4 _ ih => exact .cons (f.2 _ _ h1 h2) h2 h3 h4 ih

theorem ListAt.spine {hp : Heap} {a : Nat} {vs : List Val} (h : ListAt hp a vs) : Spine hp (.ref a) vs := by
  induction h with
  | nil h1 _ h3 => exact .stop fun _ e => by cases e; exact (slot_eq h1 _).trans h3
  | cons h1 _ h3 h4 _ ih =>
    refine .node ((slot_eq h1 _).trans h3) ?_
    rw [slot_eq h1, h4]
    exact ih

theorem listVals_spine {hp : Heap} (isStr : Bool) {v : Val} {vs : List Val} (h : Spine hp v vs) :
    ∀ f, vs.length < f → listVals hp isStr f v = vs.map (headVal hp isStr) := by
  induction h with
  | @stop v h0 =>
    intro f hf
    obtain ⟨f, rfl⟩ : ∃ g, f = g + 1 := ⟨f - 1, by omega⟩
    cases v with
    | ref a => unfold listVals; rw [show slot hp a "head" = none from h0 a rfl]; rfl
    | _ => rfl
  | @node a hd vs h1 _ ih =>
    intro f hf
    obtain ⟨f, rfl⟩ : ∃ g, f = g + 1 := ⟨f - 1, by omega⟩
    unfold listVals
    rw [show slot hp a "head" = some hd from h1]
    exact congrArg (_ :: ·) (ih f (by simpa using hf))

theorem _root_.Cassis.ChainC.VList.listAt {hp : Heap} {k : ChainC.LK} :
    ∀ {a : Nat} {vs : List Val}, ChainC.VList hp k a vs → ListAt hp a vs := by
  intro a vs h
  induction h with
  | nil h1 h2 _ h4 => exact .nil h1 h2 (by rw [h4]; rfl)
  | cons h1 h2 _ h4 _ ih => exact .cons h1 h2 (by rw [h4]; simp [alistGet?]) (by rw [h4]; simp [alistGet?]) ih

/-- slot value after `postAll`; `ia x n` is the address of the collection inlined in slot `n` of the structure with id `x` -/
def E2c (K : Consts) (ts : TypeSystem) (cass : List Cas) (H : Heap) (na : Int → Nat) (ia : Int → String → Nat) (ci' : Nat)
    (o : Obj) (n : String) (v : Val) : Val :=
  match v with
  | .ref _ => if inlineSlot K ts o n then .ref (ia (o.xid.getD 0) n) else E2 ts cass H na ci' o n v
  | .refs _ | .ints _ | .floats _ | .bools _ | .strs _ => elemsExp H na v
  | _ => E2 ts cass H na ci' o n v

/-- slot value after `buildCas` -/
def E3c (K : Consts) (ts : TypeSystem) (H : Heap) (na : Int → Nat) (ia : Int → String → Nat) (ci' : Nat)
    (o : Obj) (n : String) (v : Val) : Val :=
  match v with
  | .ref _ => if inlineSlot K ts o n then .ref (ia (o.xid.getD 0) n) else exp3 H na ci' v
  | .refs _ | .ints _ | .floats _ | .bools _ | .strs _ => elemsExp H na v
  | _ => exp3 H na ci' v

/-! The equations of `E3c`, by the shape of the written value, and the two of `E2c` that its users need (`E2c` differs from
`E3c` on the offsets of an annotation only: `RTCB.expOk_coll`). -/
section
variable {K : Consts} {ts : TypeSystem} {H : Heap} {na : Int → Nat} {ia : Int → String → Nat} {ci' : Nat} {o : Obj}
  {n : String}

theorem E3c_list {ev : Val} (h : isListV ev = true) : E3c K ts H na ia ci' o n ev = elemsExp H na ev := by
  cases ev <;> first | rfl | cases h

theorem E3c_inl {c : Nat} {x : Int} (hinl : inlineSlot K ts o n = true) (hox : o.xid = some x) :
    E3c K ts H na ia ci' o n (.ref c) = .ref (ia x n) := by
  simp only [E3c, hinl, if_true, hox, Option.getD_some]

/-- away from raw lists and inlined collections `E3c` is the flat expectation `exp3` -/
theorem E3c_flat {v : Val} (h : isListV v = false ∧ ∀ b, v = .ref b → inlineSlot K ts o n = false) :
    E3c K ts H na ia ci' o n v = exp3 H na ci' v := by
  cases v with
  | ref b => simp only [E3c, h.2 b rfl, Bool.false_eq_true, if_false]
  | refs l | ints l | floats l | bools l | strs l => exact nomatch h.1
  | _ => rfl

theorem E3c_ref {b : Nat} (hinl : inlineSlot K ts o n = false) :
    E3c K ts H na ia ci' o n (.ref b) = exp3 H na ci' (.ref b) :=
  E3c_flat ⟨rfl, fun _ _ => hinl⟩

theorem E2c_inl {cass : List Cas} {c : Nat} (hinl : inlineSlot K ts o n = true) :
    E2c K ts cass H na ia ci' o n (.ref c) = .ref (ia (o.xid.getD 0) n) := by
  simp only [E2c, hinl, if_true]

theorem E2c_flat {cass : List Cas} {v : Val} (h : isListV v = false ∧ ∀ b, v = .ref b → inlineSlot K ts o n = false) :
    E2c K ts cass H na ia ci' o n v = E2 ts cass H na ci' o n v := by
  cases v with
  | ref b => simp only [E2c, h.2 b rfl, Bool.false_eq_true, if_false]
  | refs l | ints l | floats l | bools l | strs l => exact nomatch h.1
  | _ => rfl

theorem elemsExp_noref (H : Heap) (na : Int → Nat) (ev : Val) (b : Nat) : elemsExp H na ev ≠ .ref b := by
  cases ev with
  | refs l => intro h; cases h
  | ints l => cases l <;> (intro h; cases h)
  | bools l => cases l <;> (intro h; cases h)
  | floats l => cases l <;> (intro h; cases h)
  | strs l => cases l <;> (intro h; cases h)
  | _ => intro h; cases h

theorem E3c_noref {ev : Val} (h : ∀ b, ev ≠ .ref b) (b : Nat) : E3c K ts H na ia ci' o n ev ≠ .ref b := by
  cases ev with
  | ref a => exact absurd rfl (h a)
  | refs l => exact elemsExp_noref H na (.refs l) b
  | ints l => exact elemsExp_noref H na (.ints l) b
  | bools l => exact elemsExp_noref H na (.bools l) b
  | floats l => exact elemsExp_noref H na (.floats l) b
  | strs l => exact elemsExp_noref H na (.strs l) b
  | _ => intro hh; cases hh

theorem E3c_refs {v : Val} {l' : List (Option Nat)} (e : E3c K ts H na ia ci' o n v = .refs l') :
    elemsExp H na v = .refs l' := by
  cases v with
  | ref a =>
    simp only [E3c] at e
    split at e
    · cases e
    · simp only [exp3] at e; split at e <;> cases e
  | refs l | ints l | bools l | floats l | strs l => exact e
  | _ => cases e

end

/-! ### after the first pass -/

/-- the canonical shape of the output of `renderFeature`: at most one attribute `av`, the child elements `ks` -/
def featOut (f : Feature) (av : Option String) (ks : List (Option String)) :
    List (String × String) × List (String × Option String) :=
  ((match av with | some s => [(xmlName f, s)] | none => []), ks.map (fun e => (xmlName f, e)))

/-- the attribute the writer emits for feature `f` of the structure at `a` -/
def fAttr (K : Consts) (ts : TypeSystem) (cass : List Cas) (H : Heap) (a : Nat) (isAnn : Bool) (f : Feature) :
    Option String :=
  match renderFeature K ts cass H a isAnn f with
  | .ok (as, _) => as.head?.map (·.2)
  | .error _ => none

/-- the texts of the child elements the writer emits for feature `f` of the structure at `a` -/
def fKids (K : Consts) (ts : TypeSystem) (cass : List Cas) (H : Heap) (a : Nat) (isAnn : Bool) (f : Feature) :
    List (Option String) :=
  match renderFeature K ts cass H a isAnn f with
  | .ok (_, ks) => ks.map (·.2)
  | .error _ => []

theorem fAttr_of {K : Consts} {ts : TypeSystem} {cass : List Cas} {H : Heap} {a : Nat} {isAnn : Bool} {f : Feature}
    {av : Option String} {ks : List (Option String)}
    (h : renderFeature K ts cass H a isAnn f = .ok (featOut f av ks)) : fAttr K ts cass H a isAnn f = av := by
  unfold fAttr; rw [h]; unfold featOut
  cases av <;> rfl

theorem fKids_of {K : Consts} {ts : TypeSystem} {cass : List Cas} {H : Heap} {a : Nat} {isAnn : Bool} {f : Feature}
    {av : Option String} {ks : List (Option String)}
    (h : renderFeature K ts cass H a isAnn f = .ok (featOut f av ks)) : fKids K ts cass H a isAnn f = ks := by
  unfold fKids; rw [h]; unfold featOut
  dsimp only
  rw [List.map_map]
  exact List.map_id _

/-- the slot value the first pass stores for the attribute `av` of the feature named `n`: the string, the `sofa`
    attribute as an integer -/
def attrVal (n : String) : Option String → Val
  | none => .none
  | some s => if n = "sofa" then (match Lex.parseInt s with | some i => .int i | none => .str s) else .str s

/-- the head `buildPrimList` stores for the text of a child element (string lists) -/
def txtHead : Option String → Val
  | some s => .str s
  | none => .none

/-- the collection the reader builds at once for the child elements `l` of feature `f` stands in `hp` as an object the
    reader made for the range of `f`, `w` refers to it; the length bound is the fuel `collectList` / `listVals` are run
    with (`hp.length + 1`), here and in `InlAt` -/
def KidAt (K : Consts) (hp : Heap) (f : Feature) (l : List (Option String)) (w : Val) : Prop :=
  ∃ addr : Nat, w = .ref addr ∧ ChainC.NewFor K hp f.range addr ∧
    ((isPrimitiveArray K f.range = true ∧ ArrAt hp addr (.strs l)) ∨
     (isPrimitiveArray K f.range = false ∧ ListAt hp addr (l.map txtHead) ∧ l.length < hp.length))

/-- what the first pass stores in the slot of a feature that contributed the attribute `av` and the child elements `ks` -/
def Read1 (K : Consts) (hpX : Heap) (f : Feature) (av : Option String) (ks : List (Option String)) (w : Val) : Prop :=
  (ks = [] → w = attrVal f.name av) ∧ (ks ≠ [] → KidAt K hpX f ks w)

/-- slot `n` of the new object holds what the first pass makes of what the writer wrote for the feature `n` of `o`
    (`AnnSofa` rides along: the writer's equations need it, and the second pass has no other place to take it from) -/
def Wrote1 (K : Consts) (ts : TypeSystem) (cass : List Cas) (H hpX : Heap) (o : Obj) (n : String) (w : Val) : Prop :=
  ∃ (a : Nat) (t : TypeRec) (f : Feature), H[a]? = some o ∧ find? ts o.ty = some t ∧ f ∈ allFeatures t ∧ f.name = n ∧
    AnnSofa cass (isInstanceOf ts o.ty ANNOTATION) o ∧
    Read1 K hpX f (fAttr K ts cass H a (isInstanceOf ts o.ty ANNOTATION) f)
      (fKids K ts cass H a (isInstanceOf ts o.ty ANNOTATION) f) w

/-- the value the first pass leaves in the `elements` slot of an array object of type `ty` -/
def Elems1 (H : Heap) (ty : String) (v w : Val) : Prop :=
  (ty = FS_ARRAY ∧ ∃ l : List Nat, v = .refs (l.map some) ∧ w = .str (joinSp (l.map (idTok H))))
  ∨ (ty = STRING_ARRAY ∧ (((v = .refs [] ∨ v = .strs []) ∧ w = .none) ∨
      ∃ l : List (Option String), v = .strs l ∧ l ≠ [] ∧ w = .strs (l.map normTxt)))
  ∨ (PrimArrTy ty ∧ ∃ s : String, showPrimArray ty v = .ok s ∧ w = .str s)

/-- slot `n` of the new object after the first pass when the old object `o` holds `v`: a raw list (the `elements` of an
    array object) as `Elems1` says, anything else as the writer wrote it -/
def Slot1 (K : Consts) (ts : TypeSystem) (cass : List Cas) (H hpX : Heap) (o : Obj) (n : String) (v w : Val) : Prop :=
  (isListV v = true → Elems1 H o.ty v w) ∧ (isListV v = false → Wrote1 K ts cass H hpX o n w)

def Obj1 (K : Consts) (ts : TypeSystem) (cass : List Cas) (H hpX : Heap) (o o1 : Obj) (x : Int) : Prop :=
  ObjRelS (Slot1 K ts cass H hpX o) o o1 x

/-! ### after the second pass -/

/-- the collection inlined in slot `n` of `o` (old address `c`) stands at `addr` -/
def InlAt (K : Consts) (ts : TypeSystem) (H : Heap) (na : Int → Nat) (hpX : Heap) (o : Obj) (n : String) (c addr : Nat) :
    Prop :=
  ∃ (t : TypeRec) (f : Feature), find? ts o.ty = some t ∧ f ∈ allFeatures t ∧ f.name = n ∧
    ((isArray K f.range = true ∧ ∃ ev : Val, slot H c "elements" = some ev ∧ ArrAt hpX addr (elemsExp H na ev)) ∨
     (isArray K f.range = false ∧ ∃ hs : List Val, collectList H (H.length + 1) (.ref c) = .ok hs ∧
        ListAt hpX addr (hs.map (headExp H na)) ∧ hs.length < hpX.length))

/-- slot `n` of the new object after the second pass: what `E2c` says, the collection inlined there standing at some
    address `addr`, as an object the reader made for the range of the feature -/
def Slot2 (K : Consts) (ts : TypeSystem) (cass : List Cas) (H : Heap) (na : Int → Nat) (ci' : Nat) (hpX : Heap)
    (o : Obj) (n : String) (v w : Val) : Prop :=
  ∃ addr : Nat, w = E2c K ts cass H na (fun _ _ => addr) ci' o n v ∧
    ∀ c, v = .ref c → inlineSlot K ts o n = true → InlAt K ts H na hpX o n c addr ∧
      ∀ (t : TypeRec) (f : Feature), find? ts o.ty = some t → f ∈ allFeatures t → f.name = n →
        ChainC.NewFor K hpX f.range addr

def Obj2 (K : Consts) (ts : TypeSystem) (cass : List Cas) (H : Heap) (na : Int → Nat) (ci' : Nat) (hpX : Heap)
    (o o2 : Obj) (x : Int) : Prop :=
  ObjRelS (Slot2 K ts cass H na ci' hpX o) o o2 x

/-- the inlined collections of all collected structures stand where `ia` says -/
def CollsAt (K : Consts) (ts : TypeSystem) (H : Heap) (L : List (Int × Nat)) (na : Int → Nat) (ia : Int → String → Nat)
    (hpX : Heap) : Prop :=
  ∀ q ∈ L, ∀ (o : Obj), H[q.2]? = some o → ∀ (n : String) (c : Nat), alistGet? o.slots n = some (.ref c) →
    inlineSlot K ts o n = true → InlAt K ts H na hpX o n c (ia q.1 n)

/-- every inlined collection is an object the reader made for the range of its feature (`ChainC.NewFor`) -/
def CollsNew (K : Consts) (ts : TypeSystem) (H : Heap) (L : List (Int × Nat)) (ia : Int → String → Nat) (hpX : Heap) :
    Prop :=
  ∀ q ∈ L, ∀ (o : Obj), H[q.2]? = some o → ∀ (n : String) (c : Nat), alistGet? o.slots n = some (.ref c) →
    inlineSlot K ts o n = true → ∀ (t : TypeRec) (f : Feature), find? ts o.ty = some t → f ∈ allFeatures t →
    f.name = n → ChainC.NewFor K hpX f.range (ia q.1 n)

/-- what one step of the second pass on the object at `a` does to the rest of the heap: the other old objects stay -/
def Ext (hpX hpY : Heap) (a : Nat) : Prop :=
  hpX.length ≤ hpY.length ∧ ∀ b, b < hpX.length → b ≠ a → hpY[b]? = hpX[b]?

/-- `b` is a structure the one at `a` refers to: through a reference slot, as an element of an inlined FSArray, as a
    head of an inlined FSList, or as an element of the FSArray object at `a` itself -/
def Target (K : Consts) (ts : TypeSystem) (H : Heap) (a b : Nat) : Prop :=
  ∃ (o : Obj) (t : TypeRec), H[a]? = some o ∧ find? ts o.ty = some t ∧
    ( (∃ f ∈ allFeatures t, isInline K f = false ∧ alistGet? o.slots f.name = some (.ref b))
    ∨ (∃ f ∈ allFeatures t, isInline K f = true ∧ f.range = FS_ARRAY ∧ ∃ (c : Nat) (l : List (Option Nat)),
        alistGet? o.slots f.name = some (.ref c) ∧ slot H c "elements" = some (.refs l) ∧ some b ∈ l)
    ∨ (∃ f ∈ allFeatures t, isInline K f = true ∧ f.range = FS_LIST ∧ ∃ (c : Nat) (hs : List Val),
        alistGet? o.slots f.name = some (.ref c) ∧ collectList H (H.length + 1) (.ref c) = .ok hs ∧ Val.ref b ∈ hs)
    ∨ (o.ty = FS_ARRAY ∧ ∃ l : List (Option Nat), alistGet? o.slots "elements" = some (.refs l) ∧ some b ∈ l) )

/-- what the proof needs to know about the collected structures (cf. `LOk`) -/
structure LOkC (K : Consts) (ts : TypeSystem) (c : Cas) (ci : Nat) (H : Heap) (L : List (Int × Nat)) : Prop where
  coll : ∀ q ∈ L, CollFs K ts c ci H q.2
  ids : ∀ q ∈ L, xidOf H q.2 = some q.1 ∧ q.1 ≠ 0
  nodup : (L.map (·.1)).Nodup
  /-- closure under references, inlined FSArrays and FSLists looked through -/
  closed : ∀ q ∈ L, ∀ b : Nat, Target K ts H q.2 b → ∃ x : Int, xidOf H b = some x ∧ (x, b) ∈ L
  /-- every indexed structure is collected -/
  members : ∀ nv ∈ c.views, ∀ e ∈ Index.all nv.2.idx, ∃ x : Int, (x, e.oid) ∈ L

/-- what the third pass asks of the collected structures, whatever the fragment; from `LOkC` by `lokW_of_lokC` -/
structure LOkW (ts : TypeSystem) (c : Cas) (ci : Nat) (H : Heap) (L : List (Int × Nat)) : Prop where
  ids : ∀ q ∈ L, xidOf H q.2 = some q.1 ∧ q.1 ≠ 0
  nodup : (L.map (·.1)).Nodup
  members : ∀ nv ∈ c.views, ∀ e ∈ Index.all nv.2.idx, ∃ x : Int, (x, e.oid) ∈ L
  /-- the type of a collected structure is registered -/
  reg : ∀ q ∈ L, ∀ o : Obj, H[q.2]? = some o → ∃ t : TypeRec, find? ts o.ty = some t
  /-- its `sofa` slot holds a sofa of the CAS or `None` -/
  sofa_shape : ∀ q ∈ L, ∀ o : Obj, H[q.2]? = some o → ∀ v : Val, alistGet? o.slots "sofa" = some v →
    v = .none ∨ ∃ vn, v = .sofa ci vn
  /-- an annotation has integer offsets inside the text of its sofa -/
  ann : ∀ q ∈ L, ∀ o : Obj, H[q.2]? = some o → isInstanceOf ts o.ty ANNOTATION = true →
    ∃ (vn : String) (v : View) (text : List Nat) (b e : Nat),
      alistGet? o.slots "sofa" = some (.sofa ci vn) ∧ Cas.getViewRec c vn = some v ∧ v.sofa.text = some text ∧
      alistGet? o.slots "begin" = some (.int b) ∧ alistGet? o.slots "end" = some (.int e) ∧
      b ≤ text.length ∧ e ≤ text.length

theorem lokW_of_lokC {K : Consts} {ts : TypeSystem} {c : Cas} {ci : Nat} {H : Heap} {L : List (Int × Nat)}
    (hL : LOkC K ts c ci H L) : LOkW ts c ci H L := by
  refine ⟨hL.ids, hL.nodup, hL.members, ?_, ?_, ?_⟩
  · intro q hq o ho
    exact (hL.coll q hq).type ho
  · exact fun q hq o ho v hv => ((hL.coll q hq).sofa_slot ho hv).symm.imp_right fun ⟨vn, e, _⟩ => ⟨vn, e⟩
  · intro q hq o ho hann
    rcases hL.coll q hq with hgen | harr
    · obtain ⟨o2, t, ho2, _, g⟩ := genFs_iff.mp hgen
      cases ho.symm.trans ho2
      exact g.ann hann
    · obtain ⟨t, f, ev, _, g⟩ := harr.at ho
      rw [g.notAnn] at hann; cases hann

/-- the state of the reader after the first pass, without the heap relation (cf. `P1Spec`) -/
structure P1W (c : Cas) (H : Heap) (L : List (Int × Nat)) (na : Int → Nat) (p : Pass1) : Prop where
  fss : p.fss = (0, H.length) :: L.map (fun q => (q.1, na q.1))
  sofas : p.sofas = c.views.map (fun nv => (nv.2.sofa.xid, psofaOf nv))
  views : p.views = c.views.map (fun nv => (nv.2.sofa.xid, pviewOf H nv))
  lenient : p.lenientIds = []
  null : ∃ o0 : Obj, p.heap[H.length]? = some o0 ∧ o0.ty = NULL_T ∧ o0.xid = some 0 ∧ o0.slots = []

end Cassis.Xmi
