/-
C16 with the JSON-EMBEDDED type system — the conversion chains where the JSON document carries its type system
(`type_system_mode = FULL` or `MINIMAL`) and is loaded WITHOUT supplying a type system.
`Properties/C16ChainColl.lean` proves the chains with the original type system supplied at every step.  Here:

1. XMI → CAS (original type system) → JSON written with mode FULL / MINIMAL → CAS loaded with no type system
   (`loadJson Gen.consts Gen.builtinTS … true …`).  Hypotheses: those of `chain_xmi_json_coll` about the CAS, those of
   `json_roundtrip_full_coll` about the type system (API-built, `Writable`, `NoPercentNames`).  Conclusion as
   `chain_xmi_json_coll`, plus: the loaded type system declares the same as the original (`SameTs`, FULL) resp. agrees
   with it on the type names of the document (`TypeAgree`, MINIMAL).

2. JSON (FULL) → CAS loaded with no type system (its type system `ts'` is REBUILT from the `%TYPES` section) → XMI
   written and read back under the rebuilt `ts'` → CAS.

   **The statement with the hypotheses of (1) is FALSE — on the model and on the implementation** (counterexample
   `RedefDemo`, `Spec/ChainEmbCheck.lean`, evaluated; hypotheses checked by the kernel in `Proofs/ChainEmbDemo.lean`):
   `create_type x.A < Annotation`, `create_type x.B < x.A`, `create_feature(x.B, "f", FSArray,
   multipleReferencesAllowed=True)`, then `create_feature(x.A, "f", FSArray)` — accepted, because `Feature.__eq__`
   compares `multipleReferencesAllowed` of `self` with itself.  In the original, `x.B` exposes its own `f` (own features
   first), so an FSArray under `f` is a structure of its own in XMI; the rebuilt type system (features created supertypes
   first, `x.B.f` then "already defined in the parent" and dropped) exposes the ancestor's `f` without the flag, so the
   FSArray is INLINED.  On a CAS with two indexed `x.B` sharing one FSArray every hypothesis of `chain_json_xmi_coll`
   holds, the history is `UserOnlyNoDoc`, the type system `Writable` and `NoPercentNames`; with the embedded type system
   the XMI document has 2 structures instead of 3 and the two `x.B` end with one array each (`chainDiffsJXEmb`).  The
   implementation (`load_cas_from_json(cas.to_json(type_system_mode=FULL))`, then `load_cas_from_xmi(c.to_xmi(),
   typesystem=c.typesystem)`) does the same: the array comes back without id and unshared, `cas_to_comparable_text`
   differs; likewise with MINIMAL.  This is a deviation of the implementation from C16 for the embedded type system.
   Chain (1) keeps the contents on this instance (the JSON format writes every collection object as a structure of its
   own whatever the flag), but `cas_to_comparable_text` of its result differs as well, because that function follows the
   (rebuilt) type system of the CAS it prints.

   What the proof needs beyond `SameTs` (delivered by `json_full_ts_same`, up to `Feature.__eq__`) is `MultiResAgree`
   (`Spec/ChainEmb.lean`): equally named effective features of equally named types agree on the reserved-name flag and —
   for array or list ranges, the only case in which the XMI codec looks at it — on `multipleReferencesAllowed`.  It holds
   for `FlagCoherent` originals (`json_full_ts_multi`; a decidable condition on the ORIGINAL type system only, which
   `RedefDemo` violates and the built-in and demo type systems satisfy); `chain_json_xmi_full_coll_partial` takes it as a
   hypothesis instead and so covers type systems that are not `FlagCoherent` but harmless (e.g. a user feature
   `tail : x.Token` without the flag next to the built-in `tail : FSList` with it).
   `FlagCoherent` compares equally named features of ALL types; the weakest natural condition compares an own feature only
   with the equally named feature the type inherits (`FlagCoherentChain`, `Spec/ChainEmbLocal.lean` — exactly what
   `RedefDemo` violates).  The chain is not proved under it; what is proved of it: `Properties/C16ChainEmbedded3.lean`.
   The converse redefinition (own definition without the flag, the ancestor's with it) violates `MultiResAgree` too but is
   harmless for the contents (`RedefDemo.ops'`, evaluated).
   The conclusion is that of `chain_json_xmi_coll`: it speaks about the structures the XMI writer collects from the CAS
   written first under the ORIGINAL type system (`stx`), and compares the deep contents of the features of the original.
   Idea of the proof (`chain_json_xmi_emb_core`): the CAS loaded under `ts'` is the CAS loaded under `ts` up to the order of
   the slots of each object; its objects have their slots in the order of `ts'`; the XMI fragment, the successor relation
   and the traversal carry over between type systems that answer the XMI codec alike on the types the CAS uses (`TsLe`);
   the second half is the XMI round trip under `ts'`.

3. The MINIMAL variant of (2): `Properties/C16ChainEmbedded2.lean`.
-/
import CassisModel.Properties.C16ChainColl
import CassisModel.Properties.C02RoundTripEmbedded
import CassisModel.Proofs.ChainEmbJsonXmiCore
import CassisModel.Proofs.ChainEmbRebuiltFlags
import CassisModel.Proofs.ChainEmbDemo

namespace Cassis
open Cassis.TS Cassis.Traverse Cassis.Xmi Cassis.Json Cassis.ChainE

/-- XMI → CAS → JSON (FULL) → CAS without a type system -/
theorem chain_xmi_json_full_coll (ops : List TsOp) (ts : TypeSystem)
    (hts : ts = ops.foldl (applyOp Gen.consts) Gen.builtinTS)
    (hu : UserOnlyNoDoc Gen.consts ops) (hw : Writable Gen.consts ts) (hpc : NoPercentNames ts)
    (cass : List Cas) (ci : Nat) (c : Cas) (hp : Heap) (tsIdx : Nat) (doc : XDoc) (st : St)
    (hc : cass[ci]? = some c) (hwf : RTWf c hp) (hnull : NullOk ts)
    (hsave : saveXmi Gen.consts ts cass ci hp = .ok (doc, st))
    (hcoll : ∀ q ∈ st.allFs, CollFs Gen.consts ts c ci st.heap q.2)
    (hjson : ∀ q ∈ st.allFs, Json.JsonFs ts st.heap q.2)
    (hsr : ∀ q ∈ st.allFs, ∀ o t, st.heap[q.2]? = some o → find? ts o.ty = some t → ∀ f ∈ allFeatures t,
      f.name = "sofa" → (alistGet? o.slots f.name).getD .none ≠ .none →
      f.range ≠ "uima.cas.Double" ∧ f.range ≠ "uima.cas.Float" ∧ isPrimitive Gen.consts ts f.range = false)
    (hdis : ∀ q ∈ st.allFs, ∀ nv ∈ c.views, q.1 ≠ nv.2.sofa.xid)
    (hmem : ∀ nv ∈ c.views, ∀ e ∈ Index.all nv.2.idx, Xmi.slot st.heap e.oid "sofa" ≠ some .none)
    (hmok : MembersOk c st.heap)
    (harr : ∀ q ∈ st.allFs, Json.ArrElemsSome st.heap q.2)
    (htys : Json.CollTypesOk Gen.consts ts) :
    ∃ (ld1 : Xmi.Loaded) (docj : Json.JDoc) (st2 : St) (ld2 : Json.Loaded) (fss2 : List (Int × Val)),
      loadXmi Gen.consts ts tsIdx cass.length false st.heap doc = .ok ld1 ∧
      Json.saveJson Gen.consts ts (cass ++ [ld1.cas]) cass.length ld1.heap .full = .ok (docj, st2) ∧
      Json.loadJson Gen.consts Gen.builtinTS tsIdx (cass.length + 1) false true st2.heap docj = .ok ld2 ∧
      SameTs ts ld2.ts ∧
      ld2.cas.views.map (viewContent ld2.heap) = c.views.map (viewContent st.heap) ∧
      (∀ q ∈ st.allFs, ∃ (a2 : Nat) (o o2 : Obj), Json.lookup fss2 q.1 = some (.ref a2) ∧
          st.heap[q.2]? = some o ∧ ld2.heap[a2]? = some o2 ∧ o2.ty = o.ty ∧ o2.xid = some q.1 ∧
          ∀ t : TypeRec, find? ts o.ty = some t → ∀ f ∈ allFeatures t,
            featContentC Gen.consts ld2.heap a2 f = featContentC Gen.consts st.heap q.2 f) := by
  obtain ⟨ld1, docj0, st2, ld20, fss2, h1, h2, h3, h4, h5⟩ :=
    chain_xmi_json_coll Gen.consts ts cass ci c hp tsIdx doc st hc hwf hnull hsave hcoll hjson hsr hdis hmem hmok
      harr htys
  obtain ⟨docj, hsF, hf, hv⟩ :=
    saveJson_mode_fss Gen.consts ts hpc (cass ++ [ld1.cas]) cass.length ld1.heap .none .full docj0 st2 h2
  obtain ⟨ld2, hl, hsame, hcas, hheap⟩ :=
    full_load_of_none_load ops ts hts hu hw hpc (cass ++ [ld1.cas]) cass.length ld1.heap tsIdx (cass.length + 1)
      docj docj0 st2 ld20 hsF hf.symm hv.symm h3
  exact ⟨ld1, docj, st2, ld2, fss2, h1, hsF, hl, hsame, (viewContents_sim hcas hheap).trans h4,
    structs_sim (featContentC_sim _) hheap h5⟩

/-- XMI → CAS → JSON (MINIMAL) → CAS without a type system -/
theorem chain_xmi_json_minimal_coll (ops : List TsOp) (ts : TypeSystem)
    (hts : ts = ops.foldl (applyOp Gen.consts) Gen.builtinTS)
    (hu : UserOnlyNoDoc Gen.consts ops) (hw : Writable Gen.consts ts) (hpc : NoPercentNames ts)
    (cass : List Cas) (ci : Nat) (c : Cas) (hp : Heap) (tsIdx : Nat) (doc : XDoc) (st : St)
    (hc : cass[ci]? = some c) (hwf : RTWf c hp) (hnull : NullOk ts)
    (hsave : saveXmi Gen.consts ts cass ci hp = .ok (doc, st))
    (hcoll : ∀ q ∈ st.allFs, CollFs Gen.consts ts c ci st.heap q.2)
    (hjson : ∀ q ∈ st.allFs, Json.JsonFs ts st.heap q.2)
    (hsr : ∀ q ∈ st.allFs, ∀ o t, st.heap[q.2]? = some o → find? ts o.ty = some t → ∀ f ∈ allFeatures t,
      f.name = "sofa" → (alistGet? o.slots f.name).getD .none ≠ .none →
      f.range ≠ "uima.cas.Double" ∧ f.range ≠ "uima.cas.Float" ∧ isPrimitive Gen.consts ts f.range = false)
    (hdis : ∀ q ∈ st.allFs, ∀ nv ∈ c.views, q.1 ≠ nv.2.sofa.xid)
    (hmem : ∀ nv ∈ c.views, ∀ e ∈ Index.all nv.2.idx, Xmi.slot st.heap e.oid "sofa" ≠ some .none)
    (hmok : MembersOk c st.heap)
    (harr : ∀ q ∈ st.allFs, Json.ArrElemsSome st.heap q.2)
    (htys : Json.CollTypesOk Gen.consts ts) :
    ∃ (ld1 : Xmi.Loaded) (docj : Json.JDoc) (st2 : St) (ld2 : Json.Loaded) (fss2 : List (Int × Val)),
      loadXmi Gen.consts ts tsIdx cass.length false st.heap doc = .ok ld1 ∧
      Json.saveJson Gen.consts ts (cass ++ [ld1.cas]) cass.length ld1.heap .minimal = .ok (docj, st2) ∧
      Json.loadJson Gen.consts Gen.builtinTS tsIdx (cass.length + 1) false true st2.heap docj = .ok ld2 ∧
      (∀ j ∈ docj.fss, TypeAgree ts ld2.ts (fsTypeName j)) ∧
      ld2.cas.views.map (viewContent ld2.heap) = c.views.map (viewContent st.heap) ∧
      (∀ q ∈ st.allFs, ∃ (a2 : Nat) (o o2 : Obj), Json.lookup fss2 q.1 = some (.ref a2) ∧
          st.heap[q.2]? = some o ∧ ld2.heap[a2]? = some o2 ∧ o2.ty = o.ty ∧ o2.xid = some q.1 ∧
          ∀ t : TypeRec, find? ts o.ty = some t → ∀ f ∈ allFeatures t,
            featContentC Gen.consts ld2.heap a2 f = featContentC Gen.consts st.heap q.2 f) := by
  -- every structure the JSON writer collects from the loaded CAS has a registered type not named `…[]` (`hL2`)
  obtain ⟨ld1, docj0, st2, ld20, fss2, h1, h2, h3, h4, h5, hL2⟩ :=
    chain_xmi_json_coll_lokJ Gen.consts ts cass ci c hp tsIdx doc st hc hwf hnull hsave hcoll hjson hsr hdis hmem hmok
      harr htys
  have hplain := Chain.loadXmi_plain h1
  obtain ⟨docj, hsM, hf, hv⟩ :=
    saveJson_mode_fss Gen.consts ts hpc (cass ++ [ld1.cas]) cass.length ld1.heap .none .minimal docj0 st2 h2
  have hc' : (cass ++ [ld1.cas])[cass.length]? = some ld1.cas := List.getElem?_concat_length
  subst hts
  obtain ⟨ts', hlts, _, hag⟩ := json_minimal_ts_agree ops hu hw hpc (cass ++ [ld1.cas]) cass.length ld1.cas
    ld1.heap docj st2 hc' (fun nv hnv => (hplain nv hnv).1) hsM
    (fun q hq => reg_of_jcollFs (hL2.coll q (mem_sortById.mpr hq)))
  obtain ⟨ld2, hl, hlt, hcas, hheap⟩ :=
    emb_load_of_none_load Gen.consts _ ts' Gen.builtinTS tsIdx (cass.length + 1) false st2.heap docj docj0 ld20
      hlts hag hf.symm hv.symm h3
  exact ⟨ld1, docj, st2, ld2, fss2, h1, hsM, hl, by rw [hlt]; exact hag, (viewContents_sim hcas hheap).trans h4,
    structs_sim (featContentC_sim _) hheap h5⟩

/-- **the composition step** (any mode, any supplied type system `tsArg`, any constants): if the type system `ts'` the
    reader rebuilds from the `%TYPES` section declares the same as the original (`SameTs`), both list each name once, and
    they agree on `multipleReferencesAllowed` and the reserved flag (`MultiResAgree`), the chain ends in the same CAS -/
theorem chain_json_xmi_embedded_coll_of_same (K : Consts) (ts ts' tsArg : TypeSystem) (mode : Json.Mode)
    (cass : List Cas) (ci : Nat) (c : Cas) (hp : Heap) (tsIdx : Nat) (docj : Json.JDoc) (st stx : St)
    (hc : cass[ci]? = some c) (hwf : RTWf c hp) (hnull : NullOk ts)
    (hsave : Json.saveJson K ts cass ci hp mode = .ok (docj, st))
    (hlts : Json.loadTs K tsArg true docj = .ok ts')
    (hsame : SameTs ts ts') (hcons : Consistent ts) (hcons' : Consistent ts') (hmr : MultiResAgree K ts ts')
    (hcoll : ∀ q ∈ st.allFs, CollFs K ts c ci st.heap q.2)
    (hjson : ∀ q ∈ st.allFs, Json.JsonFs ts st.heap q.2)
    (harr : ∀ q ∈ st.allFs, Json.ArrElemsSome st.heap q.2)
    (hids : ∀ nv ∈ c.views, ∀ e ∈ Index.all nv.2.idx, (xidOf hp e.oid).isSome = true)
    (hdis : ∀ q ∈ st.allFs, ∀ nv ∈ c.views, q.1 ≠ nv.2.sofa.xid)
    (hmem : ∀ nv ∈ c.views, ∀ e ∈ Index.all nv.2.idx, Xmi.slot st.heap e.oid "sofa" ≠ some .none)
    (hmok : MembersOk c st.heap)
    (hx : findAllFs K ts {} st.heap c.nextXid (defaultSeeds c) = .ok stx) :
    ∃ (ld1 : Json.Loaded) (docx : XDoc) (st2 : St) (p2 : Pass1) (ld2 : Xmi.Loaded),
      Json.loadJson K tsArg tsIdx cass.length false true st.heap docj = .ok ld1 ∧ ld1.ts = ts' ∧
      saveXmi K ts' (cass ++ [ld1.cas]) cass.length ld1.heap = .ok (docx, st2) ∧
      pass1 K ts' tsIdx false docx { heap := st2.heap } = .ok p2 ∧
      loadXmi K ts' tsIdx (cass.length + 1) false st2.heap docx = .ok ld2 ∧
      ld2.cas.views.map (viewContent ld2.heap) = c.views.map (viewContent st.heap) ∧
      (∀ q ∈ stx.allFs, ∃ (a2 : Nat) (o o2 : Obj), lookupFs p2.fss q.1 = .ok a2 ∧
          st.heap[q.2]? = some o ∧ ld2.heap[a2]? = some o2 ∧ o2.ty = o.ty ∧ o2.xid = some q.1 ∧
          ∀ t : TypeRec, find? ts o.ty = some t → ∀ f ∈ allFeatures t,
            featContentC K ld2.heap a2 f = featContentC K st.heap q.2 f) :=
  have hm := multiResAgree' hmr
  chain_json_xmi_emb_core K (fun _ => True) ts ts' tsArg mode cass ci c hp tsIdx docj st stx hc hwf hsave hlts
    (fun _ _ => typeAgree_of_sameTs hsame hcons hcons' _) (tsLe_of_same K hsame hcons hcons' hm)
    (tsLe_of_same K (sameTs_symm hsame) hcons' hcons hm.symm) (fun _ _ _ _ => trivial) (nullOk_of_same hsame hnull)
    hcons'.nodup hcoll hjson harr hids hdis hmem hmok hx

/-- **the type system rebuilt from a FULL document agrees with the original on `multipleReferencesAllowed` and the
    reserved flag** (what `json_full_ts_same` does not say), for `FlagCoherent` type systems -/
theorem json_full_ts_multi (ops : List TsOp) (hu : UserOnlyNoDoc Gen.consts ops)
    (hw : Writable Gen.consts (ops.foldl (applyOp Gen.consts) Gen.builtinTS))
    (hpc : NoPercentNames (ops.foldl (applyOp Gen.consts) Gen.builtinTS))
    (hfc : FlagCoherent Gen.consts (ops.foldl (applyOp Gen.consts) Gen.builtinTS))
    (cass : List Cas) (ci : Nat) (hp : Heap) (doc : Json.JDoc) (st : St)
    (hsave : Json.saveJson Gen.consts (ops.foldl (applyOp Gen.consts) Gen.builtinTS) cass ci hp .full = .ok (doc, st))
    (ts' : TypeSystem) (hl : Json.loadTs Gen.consts Gen.builtinTS true doc = .ok ts') :
    MultiResAgree Gen.consts (ops.foldl (applyOp Gen.consts) Gen.builtinTS) ts' := by
  have ho := userBuilt_of_history ops hu.1 hu.2
  exact multiRes_of_recs ho hw hpc hfc (recsOk_full ho) (saveJson_types hpc hsave rfl) hl

/-- JSON (FULL) → CAS without a type system → XMI written and read under the REBUILT type system (`ld1.ts`) → CAS.
    PARTIAL: instead of `FlagCoherent`, `hmr` — the rebuilt type system agrees with the original on
    `multipleReferencesAllowed` and the reserved flag — is a hypothesis about an intermediate result (weaker than
    `FlagCoherent`, by `json_full_ts_multi`).  Everything else as in `chain_json_xmi_full_coll`. -/
theorem chain_json_xmi_full_coll_partial (ops : List TsOp) (ts : TypeSystem)
    (hts : ts = ops.foldl (applyOp Gen.consts) Gen.builtinTS)
    (hu : UserOnlyNoDoc Gen.consts ops) (hw : Writable Gen.consts ts) (hpc : NoPercentNames ts)
    (cass : List Cas) (ci : Nat) (c : Cas) (hp : Heap) (tsIdx : Nat) (docj : Json.JDoc) (st stx : St)
    (hc : cass[ci]? = some c) (hwf : RTWf c hp) (hnull : NullOk ts)
    (hsave : Json.saveJson Gen.consts ts cass ci hp .full = .ok (docj, st))
    (hcoll : ∀ q ∈ st.allFs, CollFs Gen.consts ts c ci st.heap q.2)
    (hjson : ∀ q ∈ st.allFs, Json.JsonFs ts st.heap q.2)
    (harr : ∀ q ∈ st.allFs, Json.ArrElemsSome st.heap q.2)
    (hids : ∀ nv ∈ c.views, ∀ e ∈ Index.all nv.2.idx, (xidOf hp e.oid).isSome = true)
    (hdis : ∀ q ∈ st.allFs, ∀ nv ∈ c.views, q.1 ≠ nv.2.sofa.xid)
    (hmem : ∀ nv ∈ c.views, ∀ e ∈ Index.all nv.2.idx, Xmi.slot st.heap e.oid "sofa" ≠ some .none)
    (hmok : MembersOk c st.heap)
    (hx : findAllFs Gen.consts ts {} st.heap c.nextXid (defaultSeeds c) = .ok stx)
    (hmr : ∀ ts', Json.loadTs Gen.consts Gen.builtinTS true docj = .ok ts' → MultiResAgree Gen.consts ts ts') :
    ∃ (ld1 : Json.Loaded) (docx : XDoc) (st2 : St) (p2 : Pass1) (ld2 : Xmi.Loaded),
      Json.loadJson Gen.consts Gen.builtinTS tsIdx cass.length false true st.heap docj = .ok ld1 ∧ SameTs ts ld1.ts ∧
      saveXmi Gen.consts ld1.ts (cass ++ [ld1.cas]) cass.length ld1.heap = .ok (docx, st2) ∧
      pass1 Gen.consts ld1.ts tsIdx false docx { heap := st2.heap } = .ok p2 ∧
      loadXmi Gen.consts ld1.ts tsIdx (cass.length + 1) false st2.heap docx = .ok ld2 ∧
      ld2.cas.views.map (viewContent ld2.heap) = c.views.map (viewContent st.heap) ∧
      (∀ q ∈ stx.allFs, ∃ (a2 : Nat) (o o2 : Obj), lookupFs p2.fss q.1 = .ok a2 ∧
          st.heap[q.2]? = some o ∧ ld2.heap[a2]? = some o2 ∧ o2.ty = o.ty ∧ o2.xid = some q.1 ∧
          ∀ t : TypeRec, find? ts o.ty = some t → ∀ f ∈ allFeatures t,
            featContentC Gen.consts ld2.heap a2 f = featContentC Gen.consts st.heap q.2 f) := by
  subst hts
  -- the rebuilt type system exists and is `SameTs` (`json_full_ts_same`); `MultiResAgree` is `hmr`
  obtain ⟨ts', hlts, hsame, hcons, hcons'⟩ := json_full_ts_same_cons ops hu hw hpc cass ci hp docj st hsave
  obtain ⟨ld1, docx, st2, p2, ld2, h1, h2, h3, h4, h5, h6, h7⟩ :=
    chain_json_xmi_embedded_coll_of_same Gen.consts _ ts' Gen.builtinTS .full cass ci c hp tsIdx docj st stx hc hwf hnull
      hsave hlts hsame hcons hcons' (hmr ts' hlts) hcoll hjson harr hids hdis hmem hmok hx
  rw [← h2] at h3 h4 h5 hsame
  exact ⟨ld1, docx, st2, p2, ld2, h1, hsame, h3, h4, h5, h6, h7⟩

/-- **JSON (FULL) → CAS without a type system → XMI written and read under the REBUILT type system (`ld1.ts`) → CAS.**
    Hypotheses: those of `chain_json_xmi_coll` about the CAS (with `saveJson … .full`), those of `json_roundtrip_full_coll`
    about the type system (API-built, `Writable`, `NoPercentNames`), and `FlagCoherent` — without which the statement is
    false (`RedefDemo`, see the header).  Conclusion as `chain_json_xmi_coll`, plus `SameTs ts ld1.ts`. -/
theorem chain_json_xmi_full_coll (ops : List TsOp) (ts : TypeSystem)
    (hts : ts = ops.foldl (applyOp Gen.consts) Gen.builtinTS)
    (hu : UserOnlyNoDoc Gen.consts ops) (hw : Writable Gen.consts ts) (hpc : NoPercentNames ts)
    (hfc : FlagCoherent Gen.consts ts)
    (cass : List Cas) (ci : Nat) (c : Cas) (hp : Heap) (tsIdx : Nat) (docj : Json.JDoc) (st stx : St)
    (hc : cass[ci]? = some c) (hwf : RTWf c hp) (hnull : NullOk ts)
    (hsave : Json.saveJson Gen.consts ts cass ci hp .full = .ok (docj, st))
    (hcoll : ∀ q ∈ st.allFs, CollFs Gen.consts ts c ci st.heap q.2)
    (hjson : ∀ q ∈ st.allFs, Json.JsonFs ts st.heap q.2)
    (harr : ∀ q ∈ st.allFs, Json.ArrElemsSome st.heap q.2)
    (hids : ∀ nv ∈ c.views, ∀ e ∈ Index.all nv.2.idx, (xidOf hp e.oid).isSome = true)
    (hdis : ∀ q ∈ st.allFs, ∀ nv ∈ c.views, q.1 ≠ nv.2.sofa.xid)
    (hmem : ∀ nv ∈ c.views, ∀ e ∈ Index.all nv.2.idx, Xmi.slot st.heap e.oid "sofa" ≠ some .none)
    (hmok : MembersOk c st.heap)
    (hx : findAllFs Gen.consts ts {} st.heap c.nextXid (defaultSeeds c) = .ok stx) :
    ∃ (ld1 : Json.Loaded) (docx : XDoc) (st2 : St) (p2 : Pass1) (ld2 : Xmi.Loaded),
      Json.loadJson Gen.consts Gen.builtinTS tsIdx cass.length false true st.heap docj = .ok ld1 ∧ SameTs ts ld1.ts ∧
      saveXmi Gen.consts ld1.ts (cass ++ [ld1.cas]) cass.length ld1.heap = .ok (docx, st2) ∧
      pass1 Gen.consts ld1.ts tsIdx false docx { heap := st2.heap } = .ok p2 ∧
      loadXmi Gen.consts ld1.ts tsIdx (cass.length + 1) false st2.heap docx = .ok ld2 ∧
      ld2.cas.views.map (viewContent ld2.heap) = c.views.map (viewContent st.heap) ∧
      (∀ q ∈ stx.allFs, ∃ (a2 : Nat) (o o2 : Obj), lookupFs p2.fss q.1 = .ok a2 ∧
          st.heap[q.2]? = some o ∧ ld2.heap[a2]? = some o2 ∧ o2.ty = o.ty ∧ o2.xid = some q.1 ∧
          ∀ t : TypeRec, find? ts o.ty = some t → ∀ f ∈ allFeatures t,
            featContentC Gen.consts ld2.heap a2 f = featContentC Gen.consts st.heap q.2 f) :=
  chain_json_xmi_full_coll_partial ops ts hts hu hw hpc cass ci c hp tsIdx docj st stx hc hwf hnull hsave hcoll hjson
    harr hids hdis hmem hmok hx
    (fun ts' hl => by subst hts; exact json_full_ts_multi ops hu hw hpc hfc cass ci hp docj st hsave ts' hl)

/-! ### Non-vacuity

Instance `EmbDemo` with collections (`Proofs/InstancesEmb.lean`; its facts: `Proofs/RoundTripJsonEmbDemo.lean`, `Proofs/ChainEmbDemo.lean`): the history
`x.A < Annotation`, `x.B < x.A`, `x.C < x.B`, features declared bottom-up (so the rebuilt type system orders the
features of `x.C` differently), an inlined IntegerArray on `x.A` and a shared `FSArray<x.C>` on `x.B`; text `a😀b`; two
`x.C` that refer to each other (one indexed, one only referenced), an indexed `x.B`.  Every hypothesis is evaluated by the
kernel through sound Boolean tests (`EmbDemo.chainXJ_applies`), so the theorems apply. -/

/-- `chain_xmi_json_full_coll` applied to the instance -/
example : ∃ (doc : XDoc) (st : St) (ld1 : Xmi.Loaded) (docj : Json.JDoc) (st2 : St) (ld2 : Json.Loaded),
    saveXmi Gen.consts EmbDemo.embTsC [EmbDemo.cas] 0 EmbDemo.hpC = .ok (doc, st) ∧
    loadXmi Gen.consts EmbDemo.embTsC 0 1 false st.heap doc = .ok ld1 ∧
    Json.saveJson Gen.consts EmbDemo.embTsC ([EmbDemo.cas] ++ [ld1.cas]) 1 ld1.heap .full = .ok (docj, st2) ∧
    Json.loadJson Gen.consts Gen.builtinTS 0 2 false true st2.heap docj = .ok ld2 ∧
    ld2.cas.views.map (viewContent ld2.heap) = EmbDemo.cas.views.map (viewContent st.heap) := by
  obtain ⟨c, doc, st, hc, hs, hwf, hn, hf, hj, hsr, hd, hm, hmo, ha, ht⟩ :=
    Json.chainCollAppliesB_hyps _ _ _ _ _ EmbDemo.chainXJ_applies
  obtain rfl : EmbDemo.cas = c := Option.some.inj hc
  obtain ⟨ld1, docj, st2, ld2, _, h1, h2, h3, _, h4, _⟩ :=
    chain_xmi_json_full_coll EmbDemo.embOpsC EmbDemo.embTsC EmbDemo.embTsC_eq.symm
      EmbDemo.hist_coll EmbDemo.writable_coll EmbDemo.noPct_coll
      [EmbDemo.cas] 0 EmbDemo.cas EmbDemo.hpC 0 doc st hc hwf hn hs hf hj hsr hd hm hmo ha ht
  exact ⟨doc, st, ld1, docj, st2, ld2, hs, h1, h2, h3, h4⟩

/-- `chain_xmi_json_minimal_coll` applied to the instance -/
example : ∃ (doc : XDoc) (st : St) (ld1 : Xmi.Loaded) (docj : Json.JDoc) (st2 : St) (ld2 : Json.Loaded),
    saveXmi Gen.consts EmbDemo.embTsC [EmbDemo.cas] 0 EmbDemo.hpC = .ok (doc, st) ∧
    loadXmi Gen.consts EmbDemo.embTsC 0 1 false st.heap doc = .ok ld1 ∧
    Json.saveJson Gen.consts EmbDemo.embTsC ([EmbDemo.cas] ++ [ld1.cas]) 1 ld1.heap .minimal = .ok (docj, st2) ∧
    Json.loadJson Gen.consts Gen.builtinTS 0 2 false true st2.heap docj = .ok ld2 ∧
    ld2.cas.views.map (viewContent ld2.heap) = EmbDemo.cas.views.map (viewContent st.heap) := by
  obtain ⟨c, doc, st, hc, hs, hwf, hn, hf, hj, hsr, hd, hm, hmo, ha, ht⟩ :=
    Json.chainCollAppliesB_hyps _ _ _ _ _ EmbDemo.chainXJ_applies
  obtain rfl : EmbDemo.cas = c := Option.some.inj hc
  obtain ⟨ld1, docj, st2, ld2, _, h1, h2, h3, _, h4, _⟩ :=
    chain_xmi_json_minimal_coll EmbDemo.embOpsC EmbDemo.embTsC EmbDemo.embTsC_eq.symm
      EmbDemo.hist_coll EmbDemo.writable_coll EmbDemo.noPct_coll
      [EmbDemo.cas] 0 EmbDemo.cas EmbDemo.hpC 0 doc st hc hwf hn hs hf hj hsr hd hm hmo ha ht
  exact ⟨doc, st, ld1, docj, st2, ld2, hs, h1, h2, h3, h4⟩

/-- `chain_json_xmi_full_coll` applied to the instance: every hypothesis holds (`EmbDemo.chainJX_applies` for the CAS,
    `EmbDemo.flagCoherent` for the type system, both evaluated by the kernel), hence the chain with the rebuilt type
    system succeeds and ends with the same views -/
example : ∃ (docj : Json.JDoc) (st : St) (ld1 : Json.Loaded) (docx : XDoc) (st2 : St) (ld2 : Xmi.Loaded),
    Json.saveJson Gen.consts EmbDemo.embTsC [EmbDemo.cas] 0 EmbDemo.hpC .full = .ok (docj, st) ∧
    Json.loadJson Gen.consts Gen.builtinTS 0 1 false true st.heap docj = .ok ld1 ∧
    saveXmi Gen.consts ld1.ts ([EmbDemo.cas] ++ [ld1.cas]) 1 ld1.heap = .ok (docx, st2) ∧
    loadXmi Gen.consts ld1.ts 0 2 false st2.heap docx = .ok ld2 ∧
    ld2.cas.views.map (viewContent ld2.heap) = EmbDemo.cas.views.map (viewContent st.heap) := by
  obtain ⟨c, docj0, st, stx, hc, hs0, hx, hwf, hn, hf, hj, ha, hi, hd, hm, hmo⟩ :=
    Json.chainJXAppliesB_hyps _ _ _ _ _ EmbDemo.chainJX_applies
  obtain rfl : EmbDemo.cas = c := Option.some.inj hc
  obtain ⟨docj, hs, _, _⟩ :=
    Json.saveJson_mode_fss Gen.consts EmbDemo.embTsC EmbDemo.noPct_coll [EmbDemo.cas] 0 EmbDemo.hpC .none .full docj0 st hs0
  obtain ⟨ld1, docx, st2, _, ld2, h1, _, h2, _, h3, h4, _⟩ :=
    chain_json_xmi_full_coll EmbDemo.embOpsC EmbDemo.embTsC EmbDemo.embTsC_eq.symm
      EmbDemo.hist_coll EmbDemo.writable_coll EmbDemo.noPct_coll EmbDemo.flagCoherent
      [EmbDemo.cas] 0 EmbDemo.cas EmbDemo.hpC 0 docj st stx hc hwf hn hs hf hj ha hi hd hm hmo hx
  exact ⟨docj, st, ld1, docx, st2, ld2, hs, h1, h2, h3, h4⟩

/-- `chain_json_xmi_full_coll_partial` applied to the instance: every hypothesis holds (`EmbDemo.chainJX_applies`
    for the CAS, `EmbDemo.full_hmr` — kernel-evaluated — for `hmr`), hence the chain with the rebuilt type system
    succeeds and ends with the same views -/
example : ∃ (docj : Json.JDoc) (st : St) (ld1 : Json.Loaded) (docx : XDoc) (st2 : St) (ld2 : Xmi.Loaded),
    Json.saveJson Gen.consts EmbDemo.embTsC [EmbDemo.cas] 0 EmbDemo.hpC .full = .ok (docj, st) ∧
    Json.loadJson Gen.consts Gen.builtinTS 0 1 false true st.heap docj = .ok ld1 ∧
    saveXmi Gen.consts ld1.ts ([EmbDemo.cas] ++ [ld1.cas]) 1 ld1.heap = .ok (docx, st2) ∧
    loadXmi Gen.consts ld1.ts 0 2 false st2.heap docx = .ok ld2 ∧
    ld2.cas.views.map (viewContent ld2.heap) = EmbDemo.cas.views.map (viewContent st.heap) := by
  obtain ⟨c, docj0, st, stx, hc, hs0, hx, hwf, hn, hf, hj, ha, hi, hd, hm, hmo⟩ :=
    Json.chainJXAppliesB_hyps _ _ _ _ _ EmbDemo.chainJX_applies
  obtain rfl : EmbDemo.cas = c := Option.some.inj hc
  obtain ⟨docj, hs, _, _⟩ :=
    Json.saveJson_mode_fss Gen.consts EmbDemo.embTsC EmbDemo.noPct_coll [EmbDemo.cas] 0 EmbDemo.hpC .none .full docj0 st hs0
  obtain ⟨ld1, docx, st2, _, ld2, h1, _, h2, _, h3, h4, _⟩ :=
    chain_json_xmi_full_coll_partial EmbDemo.embOpsC EmbDemo.embTsC EmbDemo.embTsC_eq.symm
      EmbDemo.hist_coll EmbDemo.writable_coll EmbDemo.noPct_coll
      [EmbDemo.cas] 0 EmbDemo.cas EmbDemo.hpC 0 docj st stx hc hwf hn hs hf hj ha hi hd hm hmo hx
      (EmbDemo.full_hmr docj st hs)
  exact ⟨docj, st, ld1, docx, st2, ld2, hs, h1, h2, h3, h4⟩

/-- the counterexample `RedefDemo` satisfies every hypothesis of `chain_json_xmi_full_coll` except `FlagCoherent`
    (kernel-checked; that the chain ends in a different CAS is evaluated: `Spec/ChainEmbCheck.lean`) -/
example : UserOnlyNoDoc Gen.consts RedefDemo.ops ∧ Writable Gen.consts RedefDemo.ts ∧ NoPercentNames RedefDemo.ts ∧
    Json.chainJXAppliesB Gen.consts RedefDemo.ts [RedefDemo.cas] 0 RedefDemo.hp = true ∧
    ¬ FlagCoherent Gen.consts RedefDemo.ts := by
  rw [RedefDemo.ts_eq]
  exact ⟨⟨RedefDemo.userOnly, RedefDemo.noDoc⟩, RedefDemo.writable, RedefDemo.noPct, RedefDemo.chainJX_applies,
    RedefDemo.not_flagCoherent⟩

/-- the built-in type system is `FlagCoherent` -/
example : FlagCoherent Gen.consts Gen.builtinTS := TS.builtin_evals.flagCoherent

#print axioms chain_xmi_json_full_coll
#print axioms chain_xmi_json_minimal_coll
#print axioms chain_json_xmi_embedded_coll_of_same
#print axioms chain_json_xmi_full_coll_partial
#print axioms json_full_ts_multi
#print axioms chain_json_xmi_full_coll
#print axioms Json.EmbDemo.full_hmr

end Cassis
