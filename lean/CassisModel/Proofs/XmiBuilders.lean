/-
The XMI reader's list builders (`buildFsList`, `buildPrimList`) and one step of its second pass (`postFeature`), with the
*types* of what they build: the reader makes the objects of inlined collections by type name (`TArr`, `TList`;
`VList` adds the heads), and `postFeature` either leaves the heap alone or appends such objects and assigns the slot
of the feature (`PostShape`).  `ListAt` (`RoundTripCollDefs.lean`) is `VList` and `postFeature_x` (`XmiReader.lean`) is
`PostShape` with the types forgotten.  The namespace `ChainC` is that of the conversion chains over collections
(`ChainColl*.lean`).
-/
import CassisModel.Proofs.XmiCodec

namespace Cassis.ChainC
open Cassis.TS Cassis.Xmi

/-- the four kinds of built-in lists, with the names of their range (`range`) and of their two node types (`emptyT`, `neT`) -/
inductive LK where
  | fs | int | flt | str
deriving DecidableEq, Repr

def LK.range : LK → String
  | .fs => FS_LIST
  | .int => INTEGER_LIST
  | .flt => FLOAT_LIST
  | .str => STRING_LIST

def LK.emptyT : LK → String
  | .fs => "uima.cas.EmptyFSList"
  | .int => "uima.cas.EmptyIntegerList"
  | .flt => "uima.cas.EmptyFloatList"
  | .str => "uima.cas.EmptyStringList"

def LK.neT : LK → String
  | .fs => "uima.cas.NonEmptyFSList"
  | .int => "uima.cas.NonEmptyIntegerList"
  | .flt => "uima.cas.NonEmptyFloatList"
  | .str => "uima.cas.NonEmptyStringList"

/-- a list of kind `k` made by the reader: nodes without id, of the node types of the kind, with exactly the slots
    `head`, `tail` (none for the empty node) -/
inductive TList (hp : Heap) (k : LK) : Nat → Prop
  | nil {a : Nat} {o : Obj} : hp[a]? = some o → o.xid = none → o.ty = k.emptyT → o.slots = [] → TList hp k a
  | cons {a : Nat} {o : Obj} {v : Val} {a' : Nat} : hp[a]? = some o → o.xid = none → o.ty = k.neT →
      o.slots = [("head", v), ("tail", .ref a')] → TList hp k a' → TList hp k a

/-- `TList` with the `head` values, first node first -/
inductive VList (hp : Heap) (k : LK) : Nat → List Val → Prop
  | nil {a : Nat} {o : Obj} : hp[a]? = some o → o.xid = none → o.ty = k.emptyT → o.slots = [] → VList hp k a []
  | cons {a : Nat} {o : Obj} {v : Val} {a' : Nat} {vs : List Val} : hp[a]? = some o → o.xid = none → o.ty = k.neT →
      o.slots = [("head", v), ("tail", .ref a')] → VList hp k a' vs → VList hp k a (v :: vs)

/-- an array object made by the reader: no id, type `r`, the single slot `elements` -/
def TArr (hp : Heap) (r : String) (a : Nat) : Prop :=
  ∃ (o : Obj) (ev : Val), hp[a]? = some o ∧ o.xid = none ∧ o.ty = r ∧ o.slots = [("elements", ev)]

/-- the object at `a` is a collection object the reader made for a feature of range `r` -/
def NewFor (K : Consts) (hp : Heap) (r : String) (a : Nat) : Prop :=
  (TArr hp r a ∧ (isPrimitiveArray K r = true ∨ r = FS_ARRAY)) ∨ ∃ k : LK, r = k.range ∧ TList hp k a

theorem TList.mono {hp hp' : Heap} (f : ∀ (a : Nat) (o : Obj), hp[a]? = some o → o.xid = none → hp'[a]? = some o) {k : LK} :
    ∀ {a : Nat}, TList hp k a → TList hp' k a := by
  intro a h
  induction h with
  | nil h1 h2 h3 h4 => exact .nil (f _ _ h1 h2) h2 h3 h4
  | cons h1 h2 h3 h4 _ ih => exact .cons (f _ _ h1 h2) h2 h3 h4 ih

theorem TArr.mono {hp hp' : Heap} (f : ∀ (a : Nat) (o : Obj), hp[a]? = some o → o.xid = none → hp'[a]? = some o)
    {r : String} {a : Nat} (h : TArr hp r a) : TArr hp' r a := by
  obtain ⟨o, ev, h1, h2, h3, h4⟩ := h
  exact ⟨o, ev, f _ _ h1 h2, h2, h3, h4⟩

theorem NewFor.mono {K : Consts} {hp hp' : Heap}
    (f : ∀ (a : Nat) (o : Obj), hp[a]? = some o → o.xid = none → hp'[a]? = some o) {r : String} {a : Nat}
    (h : NewFor K hp r a) : NewFor K hp' r a := by
  rcases h with ⟨h, hr⟩ | ⟨k, hk, h⟩
  · exact .inl ⟨h.mono f, hr⟩
  · exact .inr ⟨k, hk, h.mono f⟩

theorem VList.tlist {hp : Heap} {k : LK} : ∀ {a : Nat} {vs : List Val}, VList hp k a vs → TList hp k a := by
  intro a vs h
  induction h with
  | nil h1 h2 h3 h4 => exact .nil h1 h2 h3 h4
  | cons h1 h2 h3 h4 _ ih => exact .cons h1 h2 h3 h4 ih

theorem VList.append {hp : Heap} {k : LK} (t : Heap) : ∀ {a : Nat} {vs : List Val}, VList hp k a vs →
    VList (hp ++ t) k a vs := by
  intro a vs h
  have old : ∀ {b : Nat} {o : Obj}, hp[b]? = some o → (hp ++ t)[b]? = some o := fun h => by
    rw [List.getElem?_append_left (List.getElem?_eq_some_iff.mp h).1]; exact h
  induction h with
  | nil h1 h2 h3 h4 => exact .nil (old h1) h2 h3 h4
  | cons h1 h2 h3 h4 _ ih => exact .cons (old h1) h2 h3 h4 ih

/-- the fold of the list builders: typed nodes without id are appended, the last value first -/
theorem listFold_vlist {α} (k : LK) (hd : α → Val) (g : Heap × Nat → α → Obj)
    (hg : ∀ acc v, (g acc v).xid = none ∧ (g acc v).ty = k.neT ∧
      (g acc v).slots = [("head", hd v), ("tail", .ref acc.2)]) (vals : List α) :
    ∀ (acc : Heap × Nat) (done : List Val), VList acc.1 k acc.2 done →
      ∃ nodes : List Obj,
        (vals.foldl (fun acc v => (acc.1 ++ [g acc v], acc.1.length)) acc).1 = acc.1 ++ nodes ∧
        (∀ o ∈ nodes, o.xid = none) ∧ nodes.length = vals.length ∧
        VList (vals.foldl (fun acc v => (acc.1 ++ [g acc v], acc.1.length)) acc).1 k
          (vals.foldl (fun acc v => (acc.1 ++ [g acc v], acc.1.length)) acc).2 (vals.reverse.map hd ++ done) := by
  induction vals with
  | nil =>
    intro acc done h
    exact ⟨[], (List.append_nil _).symm, nofun, rfl, h⟩
  | cons v vals ih =>
    intro acc done h
    rw [List.foldl_cons]
    obtain ⟨g1, g2, g3⟩ := hg acc v
    have hstep : VList (acc.1 ++ [g acc v]) k acc.1.length (hd v :: done) :=
      .cons List.getElem?_concat_length g1 g2 g3 (h.append _)
    obtain ⟨nodes, h1, h2, h3, h4⟩ := ih (acc.1 ++ [g acc v], acc.1.length) (hd v :: done) hstep
    refine ⟨g acc v :: nodes, ?_, ?_, ?_, ?_⟩
    · rw [h1]; simp only [List.append_assoc, List.singleton_append]
    · intro o ho
      rcases List.mem_cons.1 ho with rfl | ho
      · exact g1
      · exact h2 o ho
    · simp only [List.length_cons, h3]
    · rw [List.reverse_cons, List.map_append, List.append_assoc]
      exact h4

/-- the list the builders make: the empty node first, then one node per value, last to first -/
theorem listBuild_vlist {α} (k : LK) (hd : α → Val) (hp : Heap) (e0 : Obj) (he0 : e0.xid = none) (he0t : e0.ty = k.emptyT)
    (he0s : e0.slots = []) (g : Heap × Nat → α → Obj)
    (hg : ∀ acc v, (g acc v).xid = none ∧ (g acc v).ty = k.neT ∧
      (g acc v).slots = [("head", hd v), ("tail", .ref acc.2)]) (vals : List α) :
    ∃ (nodes : List Obj) (l : Nat),
      vals.reverse.foldl (fun acc v => (acc.1 ++ [g acc v], acc.1.length)) (hp ++ [e0], hp.length) = (hp ++ nodes, l) ∧
      (∀ o ∈ nodes, o.xid = none) ∧ nodes.length = vals.length + 1 ∧ VList (hp ++ nodes) k l (vals.map hd) := by
  have h0 : VList (hp ++ [e0], hp.length).1 k (hp ++ [e0], hp.length).2 [] :=
    .nil List.getElem?_concat_length he0 he0t he0s
  obtain ⟨nodes, h1, h2, h3, h4⟩ := listFold_vlist k hd g hg vals.reverse (hp ++ [e0], hp.length) [] h0
  refine ⟨e0 :: nodes, _, Prod.ext (h1.trans (by simp only [List.append_assoc, List.singleton_append])) rfl,
    ?_, ?_, ?_⟩
  · intro o ho
    rcases List.mem_cons.1 ho with rfl | ho
    · exact he0
    · exact h2 o ho
  · simp only [List.length_cons, h3, List.length_reverse]
  · rw [List.reverse_reverse, List.append_nil, h1] at h4
    simpa only [List.append_assoc, List.singleton_append] using h4

theorem buildFsList_vlist (hp : Heap) (tsIdx : Nat) (targets : List Nat) :
    ∃ (nodes : List Obj) (l : Nat), buildFsList hp tsIdx targets = (hp ++ nodes, l) ∧
      (∀ o ∈ nodes, o.xid = none) ∧ nodes.length = targets.length + 1 ∧
      VList (hp ++ nodes) .fs l (targets.map Val.ref) := by
  unfold buildFsList
  exact listBuild_vlist .fs Val.ref hp _ rfl rfl rfl (fun (acc : Heap × Nat) (t : Nat) =>
      ({ ty := "uima.cas.NonEmptyFSList", ts := tsIdx, xid := none,
         slots := [("head", Val.ref t), ("tail", Val.ref acc.2)] } : Obj))
    (fun _ _ => ⟨rfl, rfl, rfl⟩) targets

theorem buildPrimList_vlist {hp hp' : Heap} {tsIdx : Nat} {r : String} {elems : List (Option String)} {l : Nat}
    (h : buildPrimList hp tsIdx r elems = .ok (hp', l)) :
    ∃ (k : LK) (nodes : List Obj) (vals : List Val), r = k.range ∧ hp' = hp ++ nodes ∧ (∀ o ∈ nodes, o.xid = none) ∧
      nodes.length = vals.length + 1 ∧ VList hp' k l vals := by
  refine (?_ : OkP (fun x : Heap × Nat => ∃ (k : LK) (nodes : List Obj) (vals : List Val), r = k.range ∧
    x.1 = hp ++ nodes ∧ (∀ o ∈ nodes, o.xid = none) ∧ nodes.length = vals.length + 1 ∧ VList x.1 k x.2 vals) _) _ h
  -- the three list kinds share the tail of the function
  have body : ∀ (k : LK) (conv : Option String → Except Err Val), r = k.range →
      OkP (fun x : Heap × Nat => ∃ (k : LK) (nodes : List Obj) (vals : List Val), r = k.range ∧
        x.1 = hp ++ nodes ∧ (∀ o ∈ nodes, o.xid = none) ∧ nodes.length = vals.length + 1 ∧ VList x.1 k x.2 vals)
      (pure (k.emptyT, k.neT) >>= fun x => List.mapM conv elems >>= fun vals => pure (List.foldl
        (fun (acc : Heap × Nat) (v : Val) =>
          (acc.1 ++ [{ ty := x.2, ts := tsIdx, xid := none, slots := [("head", v), ("tail", Val.ref acc.2)] }],
            acc.1.length))
        (hp ++ [{ ty := x.1, ts := tsIdx, xid := none, slots := [] }], hp.length) vals.reverse)) := by
    intro k conv hk
    refine .bind fun x hx => ?_
    cases hx
    refine .bind fun vals _ => .pure ?_
    obtain ⟨nodes, l', e, g1, g2, g3⟩ := listBuild_vlist k id hp { ty := k.emptyT, ts := tsIdx, xid := none, slots := [] }
      rfl rfl rfl
      (fun (acc : Heap × Nat) (v : Val) =>
        ({ ty := k.neT, ts := tsIdx, xid := none, slots := [("head", v), ("tail", Val.ref acc.2)] } : Obj))
      (fun _ _ => ⟨rfl, rfl, rfl⟩) vals
    dsimp only
    rw [e]
    exact ⟨k, nodes, vals, hk, rfl, g1, g2, by rw [List.map_id] at g3; exact g3⟩
  unfold buildPrimList
  dsimp only
  exact .ite (fun h => body .int _ (eq_of_beq h)) fun _ => .ite (fun h => body .flt _ (eq_of_beq h)) fun _ =>
    .ite (fun h => body .str _ (eq_of_beq h)) fun _ => .bind fun x hx => by cases hx

theorem parsePrimValue_ref (ts : TypeSystem) : ∀ (fuel : Nat) (ty : String) (v : Val),
    OkP (fun v' => ∀ b, v' = .ref b → v = .ref b) (parsePrimValue ts fuel ty v)
  | 0, _, _ => .err _
  | fuel+1, ty, v => by
    unfold parsePrimValue
    split
    · exact .ok nofun
    refine .ite (fun _ => .ok fun _ h => h) fun _ => .ite (fun _ => ?_) fun _ => .ite (fun _ => ?_) fun _ =>
      .ite (fun _ => ?_) fun _ => ?_
    · split
      · exact .ok nofun
      · exact .ok nofun
      · exact .err _
    · split
      · exact .map fun _ => nofun
      · exact .ok nofun
      · exact .err _
    · split
      · split
        · exact .ok nofun
        · exact .err _
      · exact .err _
    · split
      · exact parsePrimValue_ref ts fuel _ v
      · exact .err _

theorem parsePrimArrayStr_noRef (ty s : String) : OkP (fun ev => ∀ b, ev ≠ .ref b) (parsePrimArrayStr ty s) := by
  unfold parsePrimArrayStr
  refine .ite (fun _ => .ok (by split <;> nofun)) fun _ => .ite (fun _ => .ite (fun _ => .ok nofun) fun _ => .map fun _ => nofun)
    fun _ => .ite (fun _ => .ite (fun _ => .ok nofun) fun _ => .err _) fun _ => .ite (fun _ => .ite (fun _ => .ok nofun) fun _ => ?_)
    fun _ => .ite (fun _ => .ite (fun _ => .ok nofun) fun _ => ?_) fun _ => .err _
  · split
    · exact .ok nofun
    · exact .err _
  · split
    · exact .ok nofun
    · exact .err _

/-- what one successful step of the second pass does: nothing, or it appends objects without id and assigns slot `f.name`;
    an assigned reference points to a structure of the id table, to a collection object made for the range of `f`,
    or is the old value -/
def PostShape (K : Consts) (fss : List (Int × Nat)) (hp : Heap) (a : Nat) (f : Feature) (hp' : Heap) : Prop :=
  hp' = hp ∨ ∃ (ext : List Obj) (w : Val), (∀ ob ∈ ext, ob.xid = none) ∧
    Heap.setSlot (hp ++ ext) a f.name w = .ok hp' ∧
    ∀ b, w = .ref b → (∃ i, lookupFs fss i = .ok b) ∨ NewFor K (hp ++ ext) f.range b ∨
      (Xmi.slot hp a f.name).getD .none = .ref b

variable {K : Consts}

theorem PostShape.set {fss : List (Int × Nat)} {hp : Heap} {a : Nat} {f : Feature} (ext : List Obj) {w : Val} {n : String}
    (hn : n = f.name) (hext : ∀ ob ∈ ext, ob.xid = none)
    (hw : ∀ b, w = .ref b → (∃ i, lookupFs fss i = .ok b) ∨ NewFor K (hp ++ ext) f.range b ∨
      (Xmi.slot hp a f.name).getD .none = .ref b) :
    OkP (PostShape K fss hp a f) (Heap.setSlot (hp ++ ext) a n w) :=
  fun _ h => .inr ⟨ext, w, hext, hn ▸ h, hw⟩

theorem PostShape.set0 {fss : List (Int × Nat)} {hp : Heap} {a : Nat} {f : Feature} {w : Val} {n : String}
    (hn : n = f.name)
    (hw : ∀ b, w = .ref b → (∃ i, lookupFs fss i = .ok b) ∨ NewFor K hp f.range b ∨
      (Xmi.slot hp a f.name).getD .none = .ref b) :
    OkP (PostShape K fss hp a f) (Heap.setSlot hp a n w) := by
  have := PostShape.set (K := K) (fss := fss) (hp := hp) (a := a) (f := f) [] (w := w) hn nofun
  rw [List.append_nil] at this
  exact this hw

theorem postFeature_shape {ts : TypeSystem} {tsIdx ci : Nat} {sofas : List (Int × PSofa)}
    {fss : List (Int × Nat)} {hp : Heap} {a : Nat} {tyName : String} {isStrArr : Bool} {f : Feature} :
    OkP (PostShape K fss hp a f) (postFeature K ts tsIdx ci sofas fss hp a tyName isStrArr f) := by
  unfold postFeature
  dsimp only
  refine .ite (fun h1 => ?_) fun _ => .ite (fun _ => ?_) fun _ => .ite (fun _ => ?_) fun _ => .ite (fun h4 => ?_) fun _ =>
    .ite (fun h5 => ?_) fun _ => .ite (fun _ => ?_) fun _ => ?_
  · -- `sofa`
    split
    · split
      · exact .set0 (eq_of_beq h1).symm nofun
      · exact .throw _
    · exact .pure (.inl rfl)
    · exact .throw _
  · -- a string array
    exact .ite (fun h => .set0 (eq_of_beq (Bool.and_eq_true _ _ ▸ h).1).symm nofun) fun _ => .pure (.inl rfl)
  · -- a primitive value
    exact .bind fun v' hv' => .set0 rfl fun b hb => .inr (.inr (parsePrimValue_ref ts _ _ _ v' hv' b hb))
  · -- `elements` of a primitive array object
    have hn : "elements" = f.name := (eq_of_beq (Bool.and_eq_true _ _ ▸ h4).2).symm
    split
    · exact .pure (.inl rfl)
    · exact .bind fun ev hev => .set0 hn fun b hb => absurd hb (parsePrimArrayStr_noRef _ _ ev hev b)
    · exact .pure (.inl rfl)
  · -- an inlined primitive array
    split
    · refine .bind fun ev _ => .set [_] rfl (fun ob hob => by rw [List.mem_singleton.mp hob]) fun b hb => ?_
      cases hb
      exact .inr (.inl (.inl ⟨⟨_, ev, List.getElem?_concat_length, rfl, rfl, rfl⟩, .inl (Bool.and_eq_true _ _ ▸ h5).1⟩))
    · exact .pure (.inl rfl)
  · -- an inlined primitive list
    split
    · refine .bind fun r hr => ?_
      obtain ⟨k, nodes, _, hk, he, hid, _, hvl⟩ := buildPrimList_vlist hr
      rw [he]
      exact .set nodes rfl hid fun b hb => by cases hb; exact .inr (.inl (.inr ⟨k, hk, he ▸ hvl.tlist⟩))
    · exact .pure (.inl rfl)
  split
  · exact .pure (.inl rfl)
  refine .ite (fun _ => ?_) fun _ => .ite (fun h9 => ?_) fun _ => ?_
  · split
    · refine .bind fun targets _ => .ite (fun h8 => ?_) fun _ => .set0 rfl nofun
      refine .set [_] rfl (fun ob hob => by rw [List.mem_singleton.mp hob]) fun b hb => ?_
      cases hb
      exact .inr (.inl (.inl ⟨⟨_, _, List.getElem?_concat_length, rfl, (eq_of_beq h8).symm, rfl⟩, .inr (eq_of_beq h8)⟩))
    · exact .throw _
  · have hr : f.range = FS_LIST := eq_of_beq (Bool.and_eq_true _ _ ▸ h9).1
    have key : ∀ targets, OkP (PostShape K fss hp a f)
        (Heap.setSlot (buildFsList hp tsIdx targets).1 a f.name (.ref (buildFsList hp tsIdx targets).2)) := by
      intro targets
      obtain ⟨nodes, l, e, hid, _, hvl⟩ := buildFsList_vlist hp tsIdx targets
      rw [e]
      exact .set nodes rfl hid fun b hb => by cases hb; exact .inr (.inl (.inr ⟨.fs, hr, hvl.tlist⟩))
    split
    · exact .bind fun targets _ => key targets
    · exact .bind fun targets _ => key targets
    · exact .pure (.inl rfl)
  · split
    · exact .bind fun i _ => .bind fun t ht => .set0 rfl fun b hb => by cases hb; exact .inl ⟨_, ht⟩
    · exact .bind fun t ht => .set0 rfl fun b hb => by cases hb; exact .inl ⟨_, ht⟩
    · exact .throw _

/-- `hp'` is a later heap of the reader: every object is still there with its type and id, unchanged if it has no id -/
def Later (hp hp' : Heap) : Prop :=
  ∀ (b : Nat) (o : Obj), hp[b]? = some o → ∃ o' : Obj, hp'[b]? = some o' ∧ o'.ty = o.ty ∧ o'.xid = o.xid ∧
    (o.xid = none → o' = o)

theorem Later.length {hp hp' : Heap} (l : Later hp hp') : hp.length ≤ hp'.length := by
  rcases Nat.lt_or_ge hp'.length hp.length with h | h
  · have hlt : hp'.length < hp.length := h
    obtain ⟨o', h1, _⟩ := l hp'.length (hp[hp'.length]) (List.getElem?_eq_getElem hlt)
    rw [List.getElem?_eq_none (Nat.le_refl _)] at h1
    cases h1
  · exact h

end Cassis.ChainC
