/-
What the last two passes of the JSON reader keep (`viewsPass_inv`, `viewsPass_heap`; `fixUps` through `fixUps_eq`), for
`Properties/C09DocJson.lean`: ids may be dropped, never invented (`IdDrop`); when no member of the document is `@xmiID`,
both passes keep the id of every structure (`fixUps_xsame`, `viewsPass_xsame`).  Type and slot names they keep always, so the
objects of a loaded heap have the slots of their types, in constructor order (`loadJson_kext`).
-/
import CassisModel.Proofs.JsonIdsPass

namespace Cassis.Json.Ids
open Cassis.TS Cassis.Xmi

/-! ### ids may be dropped (a dangling `@xmiID` member), never invented -/

def IdDrop (hp hp' : Heap) : Prop :=
  hp'.length = hp.length ∧
  ∀ (a : Nat) (o' : Obj), hp'[a]? = some o' → ∃ o, hp[a]? = some o ∧ (o'.xid = o.xid ∨ o'.xid = none)

theorem IdDrop.refl (hp : Heap) : IdDrop hp hp := ⟨rfl, fun _ o h => ⟨o, h, Or.inl rfl⟩⟩

theorem XSame.toDrop {hp hp' : Heap} (h : XSame hp hp') : IdDrop hp hp' := by
  refine ⟨HExt.length_eq h, ?_⟩
  intro a o' ho'
  obtain ⟨o, ho, hx⟩ := h.back ho'
  exact ⟨o, ho, Or.inl hx.symm⟩

theorem newB_drop {n : Nat} {hp hp' : Heap} {M : Int} (h : NewB n hp M) (d : IdDrop hp hp') : NewB n hp' M := by
  intro a o' x hl ho' hx
  obtain ⟨o, ho, hc⟩ := d.2 a o' ho'
  rcases hc with hc | hc
  · exact h a o x hl ho (hc ▸ hx)
  · rw [hc] at hx; cases hx

theorem setSlot_drop {hp hp' : Heap} {a : Nat} {n : String} {v : Val} (h : Heap.setSlot hp a n v = .ok hp')
    (hv : ∀ i : Int, v ≠ .int i) : IdDrop hp hp' := by
  unfold Heap.setSlot at h
  split at h
  · cases h
  · rename_i o ho
    split at h
    · cases h
      exact XSame.toDrop (set_xsame ho rfl)
    · split at h
      · split at h
        · rename_i i
          exact absurd rfl (hv i)
        · cases h
          have hlt : a < hp.length := (List.getElem?_eq_some_iff.mp ho).1
          refine ⟨List.length_set, ?_⟩
          intro b o' hb
          by_cases hab : a = b
          · subst hab
            rw [List.getElem?_set_self hlt] at hb
            cases hb
            exact ⟨o, ho, Or.inr rfl⟩
          · rw [List.getElem?_set_ne hab] at hb
            exact ⟨o', hb, Or.inl rfl⟩
        · cases h
      · cases h

theorem fixUps_newB (fss : List (Int × Val)) (hv : FssVals fss) (n : Nat) (M : Int) (ds : List Deferred)
    (heap heap' : Heap) (h : fixUps fss ds heap = .ok heap') (hn : NewB n heap M) : NewB n heap' M := by
  refine Det.foldlM_inv (fun _ x => NewB n x M) ds [] (fun d _ _ hp hp' hs hJ => newB_drop hJ (setSlot_drop hs ?_)) heap heap'
    (fixUps_eq fss ds heap ▸ h) hn
  intro i
  unfold fixVal
  split
  · intro hc; cases hc
  · cases hl : d.target.bind (lookup fss) with
    | none => intro hc; cases hc
    | some w =>
      obtain ⟨k, _, hk⟩ := Option.bind_eq_some_iff.mp hl
      rcases fssVals_lookup hv hk with ⟨t, rfl⟩ | ⟨cI, vn, rfl⟩ <;> (intro hc; cases hc)

/-- every object created by the load has an id below `X` (or none) -/
def NewLt (n : Nat) (hp : Heap) (X : Int) : Prop :=
  ∀ (a : Nat) (o : Obj) (x : Int), n ≤ a → hp[a]? = some o → o.xid = some x → x < X

/-- the view `nm` exists, its sofa id and sofaNum are below the generators -/
def VL (c : Cas) (nm : String) : Prop :=
  ∃ v : View, Cas.getViewRec c nm = some v ∧ v.sofa.xid < c.nextXid ∧ v.sofa.sofaNum < c.nextSofaNum

theorem newLt_same {n : Nat} {hp hp' : Heap} {X : Int} (h : NewLt n hp X) (d : XSame hp hp') : NewLt n hp' X := by
  intro a o' x hl ho' hx
  obtain ⟨o, ho, hc⟩ := d.back ho'
  exact h a o x hl ho (hc.trans hx)

theorem newLt_mono {n : Nat} {hp : Heap} {X Y : Int} (h : NewLt n hp X) (hxy : X ≤ Y) : NewLt n hp Y :=
  fun a o x hl ho hx => Int.lt_of_lt_of_le (h a o x hl ho hx) hxy

/-- what the views pass keeps: new objects have ids below `nextXid`, views stay below the generators, which only grow -/
def RV (n : Nat) (v v' : VState) : Prop :=
  (NewLt n v.heap v.cas.nextXid → NewLt n v'.heap v'.cas.nextXid) ∧ (∀ nm, VL v.cas nm → VL v'.cas nm) ∧
  v.cas.nextXid ≤ v'.cas.nextXid ∧ v.cas.nextSofaNum ≤ v'.cas.nextSofaNum

theorem RV.refl (n : Nat) (v : VState) : RV n v v := ⟨fun h => h, fun _ h => h, Int.le_refl _, Int.le_refl _⟩

theorem RV.trans {n : Nat} {a b c : VState} (x : RV n a b) (y : RV n b c) : RV n a c :=
  ⟨fun h => y.1 (x.1 h), fun nm h => y.2.1 nm (x.2.1 nm h), Int.le_trans x.2.2.1 y.2.2.1,
    Int.le_trans x.2.2.2 y.2.2.2⟩

/-- `Cas.add`: the member keeps its id or gets the next one; no sofa changes -/
theorem add_rv {ts : TypeSystem} {ci : Nat} {c c' : Cas} {hp hp' : Heap} {h : Handle} {a n : Nat}
    (hadd : Cas.add ts ci c hp h a true = .ok (c', hp')) :
    (NewLt n hp c.nextXid → NewLt n hp' c'.nextXid) ∧ (∀ nm, VL c nm → VL c' nm) ∧
    c.nextXid ≤ c'.nextXid ∧ c.nextSofaNum ≤ c'.nextSofaNum := by
  obtain ⟨o, v, x, nx', e, ho, _, hv, hcase, _, rfl, rfl⟩ := Cas.add_cases hadd
  have hlt : a < hp.length := (List.getElem?_eq_some_iff.mp ho).1
  have hnx : c.nextXid ≤ nx' := by rcases hcase with ⟨_, _, rfl⟩ | ⟨_, _, rfl⟩ <;> omega
  refine ⟨?_, ?_, hnx, Int.le_refl _⟩
  · intro hn b o' y hl hb hy
    show y < nx'
    by_cases hab : a = b
    · subst hab
      rw [List.getElem?_set_self hlt] at hb
      cases hb
      have hy' : some x = some y := hy
      cases hy'
      rcases hcase with ⟨_, hox, rfl⟩ | ⟨_, hx, rfl⟩
      · exact hn a o x hl ho hox
      · omega
    · rw [List.getElem?_set_ne hab] at hb
      exact Int.lt_of_lt_of_le (hn b o' y hl hb hy) hnx
  · intro nm hvl
    obtain ⟨w, hw, b1, b2⟩ := hvl
    -- views and `nextSofaNum` of `{ c with nextXid := nx' }` are those of `c`
    by_cases hnm : nm = h.view
    · subst hnm
      have e : w = v := Option.some.inj (hw.symm.trans hv)
      subst e
      exact ⟨_, Cas.getViewRec_set_same _ _ _, Int.lt_of_lt_of_le b1 hnx, b2⟩
    · exact ⟨w, (Cas.getViewRec_set_other _ _ _ _ hnm).trans hw, Int.lt_of_lt_of_le b1 hnx, b2⟩

theorem jWriteBack_xsame {own : Option Val} {heap' heap'' : Heap} {a : Nat}
    (h : jWriteBack own heap' a = .ok heap'') : XSame heap' heap'' := by
  rcases jWriteBack_ok h with rfl | ⟨w, hw⟩
  · exact XSame.refl _
  · exact setSlot_xsame_of_ne (by decide) hw

/-- the views pass keeps what the creation of a view that is only named in `%VIEWS` and every member keep -/
theorem viewsPass_inv {ts : TypeSystem} {ci : Nat} {lenient : Bool} {fss : List (Int × Val)} (J : VState → Prop)
    (hview : ∀ (v : VState) (h h' : Handle) (n : String) (c' : Cas), Cas.createView v.cas h n none none = .ok (c', h') →
      J v → J { v with cas := c' })
    (hmem : ∀ h m a v v', lookup fss m = some (.ref a) → addJMember1 ts ci h m a v = .ok v' → J v → J v')
    (l : List JView) (v v' : VState) (h : viewsPass ts ci lenient fss l v = .ok v') : J v → J v' := by
  refine Det.foldlM_inv (fun _ => J) l [] (fun jv _ _ a b hs hJ => ?_) v v' (viewsPass_eq ts ci lenient fss l v ▸ h)
  obtain ⟨c, hc, hm⟩ := Det.bind_ok hs
  refine Det.foldlM_inv (fun _ => J) jv.members [] (fun m _ _ x y hx hJx => ?_) _ b (addJMembers_eq .. ▸ hm) ?_
  · unfold memberStep at hx
    split at hx
    · exact hmem _ m _ x y ‹_› hx hJx
    · cases hx
    · cases hx
  · unfold viewEnsure at hc
    split at hc
    · split at hc
      · cases hc
      · cases hc; exact hview a _ _ _ _ ‹_› hJ
    · cases hc; exact hJ

theorem viewsPass_heap {ts : TypeSystem} {ci : Nat} {R : Heap → Heap → Prop} (hrefl : ∀ hp, R hp hp)
    (htrans : ∀ a b c, R a b → R b c → R a c)
    (hadd : ∀ c hp hd a r, Cas.add ts ci c hp hd a true = .ok r → R hp r.2)
    (hset : ∀ hp a w hp', Heap.setSlot hp a "sofa" w = .ok hp' → R hp hp')
    (lenient : Bool) (fss : List (Int × Val)) (l : List JView) (v v' : VState)
    (h : viewsPass ts ci lenient fss l v = .ok v') : R v.heap v'.heap := by
  refine viewsPass_inv (fun x => R v.heap x.heap) (fun _ _ _ _ _ _ hJ => hJ) ?_ l v v' h (hrefl _)
  intro h0 m a v1 v2 _ hm hJ
  obtain ⟨heap', hadd', hwb⟩ := addJMember1_ok hm
  refine htrans _ _ _ hJ (htrans _ _ _ (hadd _ _ _ _ _ hadd') ?_)
  rcases jWriteBack_ok hwb with e | ⟨w, hw⟩
  · rw [e]; exact hrefl _
  · exact hset _ _ _ _ hw

theorem createView_rv {c c' : Cas} {h h' : Handle} {name : String}
    (hc : Cas.createView c h name none none = .ok (c', h')) :
    (∀ nm, VL c nm → VL c' nm) ∧ c.nextXid ≤ c'.nextXid ∧ c.nextSofaNum ≤ c'.nextSofaNum := by
  unfold Cas.createView at hc
  split at hc
  · cases hc
  · rename_i hnone
    cases hc
    have e1 : (Cas.addView c name none none).nextXid = c.nextXid + 1 := rfl
    have e2 : (Cas.addView c name none none).nextSofaNum = c.nextSofaNum + 1 := rfl
    refine ⟨?_, by rw [e1]; omega, by rw [e2]; omega⟩
    intro nm hvl
    obtain ⟨w, hw, b1, b2⟩ := hvl
    have hnm : nm ≠ name := by
      intro e
      subst e
      rw [hw] at hnone
      exact hnone rfl
    refine ⟨w, ?_, by rw [e1]; omega, by rw [e2]; omega⟩
    unfold Cas.addView
    exact (Cas.getViewRec_set_other _ _ _ _ hnm).trans hw

theorem viewsPass_rv (ts : TypeSystem) (ci : Nat) (lenient : Bool) (fss : List (Int × Val)) (n : Nat)
    (l : List JView) (v v' : VState) (h : viewsPass ts ci lenient fss l v = .ok v') : RV n v v' := by
  refine viewsPass_inv (RV n v) ?_ ?_ l v v' h (RV.refl _ _)
  · intro v1 h0 h' nm c' hcv hJ
    obtain ⟨b1, b2, b3⟩ := createView_rv hcv
    exact hJ.trans ⟨fun hn => newLt_mono hn b2, b1, b2, b3⟩
  · intro h0 m a v1 v2 _ hm hJ
    obtain ⟨heap', hadd, hwb⟩ := addJMember1_ok hm
    obtain ⟨a1, a2, a3, a4⟩ := add_rv (n := n) hadd
    exact hJ.trans ⟨fun hn => newLt_same (a1 hn) (jWriteBack_xsame hwb), a2, a3, a4⟩

theorem empty_no_view (n : String) (hn : n ≠ Cas.INITIAL_VIEW) : Cas.getViewRec Cas.empty n = none := by
  show Cas.getViewRec (Cas.setViewRec { views := [], nextXid := 2, nextSofaNum := 2 } Cas.INITIAL_VIEW _) n = none
  rw [Cas.getViewRec_set_other _ _ _ _ hn]
  rfl

theorem key_xmiID (k : String) (h1 : k.startsWith "@" = true)
    (h2 : renameReserved (String.ofList (k.toList.drop 1)) = "xmiID") : k = "@xmiID" := by
  have h3 : String.ofList (k.toList.drop 1) = "xmiID" := by
    unfold renameReserved at h2
    split at h2
    · exact absurd h2 (by decide)
    · split at h2
      · exact absurd h2 (by decide)
      · exact h2
  have h4 : k.toList.drop 1 = "xmiID".toList := by rw [← h3, String.toList_ofList]
  simp at h1
  cases hk : k.toList with
  | nil => rw [hk] at h1; simp at h1
  | cons c r =>
    rw [hk] at h1 h4
    simp at h1 h4
    have : k.toList = "@xmiID".toList := by rw [hk, ← h1, h4]; rfl
    exact String.toList_inj.mp this

theorem resolveRefs_deferred (rename : String → String) (fss : List (Int × Val)) (addr : Nat)
    (l : List (String × JV)) : ∀ (heap : Heap) (d : List Deferred) (heap' : Heap) (d' : List Deferred),
      resolveRefs rename fss addr l (heap, d) = .ok (heap', d') →
      ∀ x ∈ d', x ∈ d ∨ ∃ p ∈ l, x.slot = rename (String.ofList (p.1.toList.drop 1)) := by
  induction l with
  | nil =>
    intro heap d heap' d' h x hx
    rw [resolveRefs] at h
    cases h
    exact Or.inl hx
  | cons p rest ih =>
    intro heap d heap' d' h x hx
    rw [resolveRefs] at h
    split at h
    · split at h
      · cases h
      · rcases ih _ _ _ _ h x hx with h1 | ⟨q, hq, e⟩
        · exact Or.inl h1
        · exact Or.inr ⟨q, List.mem_cons_of_mem _ hq, e⟩
    · rcases ih _ _ _ _ h x hx with h1 | ⟨q, hq, e⟩
      · rcases List.mem_append.mp h1 with h1 | h1
        · exact Or.inl h1
        · rw [List.mem_singleton.mp h1]
          exact Or.inr ⟨p, List.mem_cons_self, rfl⟩
      · exact Or.inr ⟨q, List.mem_cons_of_mem _ hq, e⟩

/-- no deferred reference targets the id -/
def NoXidDeferred (s : RState) : Prop := ∀ d ∈ s.deferred, d.slot ≠ "xmiID"

theorem parseFs_noXidDeferred (K : Consts) (ts : TypeSystem) (tsIdx : Nat) (s s' : RState) (j : JFs)
    (hj : ∀ p ∈ j.feats, p.1 ≠ "@xmiID") (hs : NoXidDeferred s) (h : parseFs K ts tsIdx s j = .ok s') : NoXidDeferred s' := by
  obtain ⟨t, fsId, nums, kwargs, d0, o, heap1, d, heap, _, _, _, h2, _, hres, _, rfl⟩ := parseFs_ok_iff.mp h
  have h0 : ∀ x ∈ d0, x.slot ≠ "xmiID" := by
    rcases elemArgs_deferred h2 with rfl | ⟨ids, rfl⟩
    · exact hs
    · intro x hx
      rcases List.mem_append.mp hx with hx | hx
      · exact hs x hx
      · rw [List.mem_singleton.mp hx]
        show "elements" ≠ "xmiID"
        decide
  intro x hx
  rcases resolveRefs_deferred renameReserved s.fss _ _ _ _ _ _ hres x hx with h1 | ⟨p, hp, e⟩
  · exact h0 x h1
  · intro hx'
    obtain ⟨hp1, hp2⟩ := List.mem_filter.mp hp
    exact hj p hp1 (key_xmiID p.1 hp2 (e ▸ hx'))

/-- kept by `parseFs` only on an element without a member `@xmiID`: the instance of `StepRelP` with a proper `P` -/
def RD (s r : RState) : Prop := NoXidDeferred s → NoXidDeferred r

theorem RD.stepRel (K : Consts) (ts : TypeSystem) (tsIdx ci : Nat) :
    StepRelP K ts tsIdx ci (fun j => ∀ p ∈ j.feats, p.1 ≠ "@xmiID") RD where
  refl := fun _ h => h
  trans := fun _ _ _ x y h => y (x h)
  sofa := by
    intro s s' j h hd
    obtain ⟨_, _, _, _, _, _, _, hdef, _⟩ := parseSofa_res ci s s' j h
    intro d hd'
    rw [hdef] at hd'
    exact hd d hd'
  fs := fun s s' j hj h hd => parseFs_noXidDeferred K ts tsIdx s s' j hj hd h

/-! ### deferred references and the views pass keep the ids -/

theorem fixUps_xsame (fss : List (Int × Val)) (ds : List Deferred) (hd : ∀ d ∈ ds, d.slot ≠ "xmiID")
    (heap heap' : Heap) (h : fixUps fss ds heap = .ok heap') : XSame heap heap' :=
  Det.foldlM_rel XSame.refl (fun _ _ _ => XSame.trans) ds (fun d hm _ _ hs => setSlot_xsame_of_ne (hd d hm) hs) heap heap'
    (fixUps_eq fss ds heap ▸ h)

theorem fssIds_same {fss : List (Int × Val)} {hp hp' : Heap} (h : FssIds fss hp) (t : XSame hp hp') :
    FssIds fss hp' := by
  intro q hq a hqa
  obtain ⟨o, ho, hx⟩ := h q hq a hqa
  obtain ⟨o', ho', e⟩ := t.old a o ho
  exact ⟨o', ho', e.trans hx⟩

theorem viewsPass_xsame (ts : TypeSystem) (ci : Nat) (lenient : Bool) (fss : List (Int × Val)) (l : List JView)
    (v v' : VState) (hf : FssIds fss v.heap) (h : viewsPass ts ci lenient fss l v = .ok v') : XSame v.heap v'.heap := by
  refine viewsPass_inv (fun x => XSame v.heap x.heap) (fun _ _ _ _ _ _ hJ => hJ) ?_ l v v' h (XSame.refl _)
  intro h0 m a v1 v2 hl hm hJ
  obtain ⟨heap', hadd, hwb⟩ := addJMember1_ok hm
  obtain ⟨o, ho, hox⟩ := fssIds_same hf hJ (m, .ref a) (lookup_mem hl) a rfl
  exact hJ.trans ((add_xsame ho hox hadd).1.trans (jWriteBack_xsame hwb))

/-! ### type and slot names through the load -/

theorem fixUps_ksame {fss : List (Int × Val)} {l : List Deferred} {hp hp1 : Heap} (h : fixUps fss l hp = .ok hp1) :
    KSame hp hp1 :=
  Det.foldlM_rel KSame.refl (fun _ _ _ => KSame.trans) l (fun _ _ _ _ => setSlot_ksame) hp hp1
    (fixUps_eq fss l hp ▸ h)

theorem jWriteBack_ksame {own : Option Val} {x z : Heap} {a : Nat} (h : jWriteBack own x a = .ok z) : KSame x z := by
  rcases jWriteBack_ok h with rfl | ⟨w, hw⟩
  · exact .refl _
  · exact setSlot_ksame hw

theorem loadJson_kext {K : Consts} {ts : TypeSystem} {tsIdx ci : Nat} {lenient : Bool} {hp : Heap} {doc : JDoc}
    {ld : Loaded} (h : loadJson K ts tsIdx ci lenient false hp doc = .ok ld) : KExt ts hp ld.heap := by
  obtain ⟨ts1, s1, s, heap, v, hts, h1, h2, h3, h4, rfl⟩ := loadJson_ok h
  obtain rfl : ts = ts1 := Except.ok.inj hts
  have hR := kext_stepRel K ts tsIdx ci
  exact (hR.trans _ _ _ (sofaPass_rel hR doc.fss doc.fss _ _ h1) (fsPass_rel hR doc.fss _ _ h2)).trans
    (.of_same ((fixUps_ksame h3).trans (viewsPass_heap KSame.refl (fun _ _ _ => KSame.trans)
      (fun _ _ _ _ _ => add_ksame) (fun _ _ _ _ => setSlot_ksame) lenient s.fss doc.views _ _ h4)))

end Cassis.Json.Ids
