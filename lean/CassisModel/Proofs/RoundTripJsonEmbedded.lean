/-
Proofs of `Properties/C02RoundTripEmbedded.lean`: the JSON round trip with an embedded type system is the round trip in
configuration NONE with the original type system supplied (`embedded_of_none`), by
* `saveJson_to_none_aux` (`Proofs/EmbeddedTsReplay.lean`): the type-system mode of the writer influences the `%TYPES` section only,
* `loadJson_congr_aux` (`Proofs/JsonReaderSimLoad.lean`): the reader cannot tell type systems apart that agree on
  the type names of the document, up to the order of the slots of the loaded objects (`emb_load_of_none_load`),
* the conclusion of the round-trip theorems (`RtOut`) does not see that order.
-/
import CassisModel.Proofs.JsonReaderSimLoad
import CassisModel.Proofs.TypeAgreeOfSameTs
import CassisModel.Proofs.RoundTripJsonColl
import CassisModel.Proofs.EmbeddedTs

namespace Cassis.Json
open Cassis.TS Cassis.Traverse Cassis.Xmi

theorem loadJson_merge_eq (K : Consts) (tsArg ts' : TypeSystem) (tsIdx ci : Nat) (lenient : Bool) (hp : Heap) (doc : JDoc)
    (h : loadTs K tsArg true doc = .ok ts') :
    loadJson K tsArg tsIdx ci lenient true hp doc = loadJson K ts' tsIdx ci lenient false hp doc := by
  rw [loadJson_eq, loadJson_eq, h, loadTs_false]

/-- without merging, the reader does not look at the `%TYPES` section -/
theorem loadJson_doc_congr (K : Consts) (ts : TypeSystem) (tsIdx ci : Nat) (lenient : Bool) (hp : Heap) (doc doc' : JDoc)
    (h1 : doc'.fss = doc.fss) (h2 : doc'.views = doc.views) :
    loadJson K ts tsIdx ci lenient false hp doc' = loadJson K ts tsIdx ci lenient false hp doc := by
  rw [loadJson_eq, loadJson_eq, loadTs_false, loadTs_false, h1, h2]

theorem loadJson_ts {K : Consts} {ts : TypeSystem} {tsIdx ci : Nat} {lenient : Bool} {hp : Heap} {doc : JDoc} {ld : Loaded}
    (h : loadJson K ts tsIdx ci lenient false hp doc = .ok ld) : ld.ts = ts := by
  obtain ⟨_, _, _, _, _, hts, _, _, _, _, rfl⟩ := loadJson_ok h
  exact (Except.ok.inj hts).symm

theorem dvalOf_sim {hp hp' : Heap} (h : HeapSim hp hp') (v : Val) : dvalOf hp' v = dvalOf hp v := by
  cases v <;> simp only [dvalOf]
  rw [h.xidOf]

theorem featContent_sim {hp hp' : Heap} (h : HeapSim hp hp') (a : Nat) (n : String) :
    featContent hp' a n = featContent hp a n := by
  unfold featContent Xmi.slot
  rw [h.slot, dvalOf_sim h]

theorem viewContent_sim {hp hp' : Heap} (h : HeapSim hp hp') (nv : String × View) :
    viewContent hp' nv = viewContent hp nv := by
  unfold viewContent
  have : (fun e : Index.Entry => xidOf hp' e.oid) = (fun e => xidOf hp e.oid) := by
    funext e; exact h.xidOf e.oid
  rw [this]

theorem elemVals_sim {hp hp' : Heap} (h : HeapSim hp hp') (v : Val) : elemVals hp' v = elemVals hp v := by
  cases v <;> simp only [elemVals]
  rename_i l
  apply List.map_congr_left
  intro r _
  cases r with
  | none => rfl
  | some b => simp only [h.xidOf]

theorem headVal_sim {hp hp' : Heap} (h : HeapSim hp hp') (isStr : Bool) (v : Val) :
    headVal hp' isStr v = headVal hp isStr v := by
  cases v <;> simp only [headVal]
  rw [h.xidOf]

theorem listVals_sim {hp hp' : Heap} (h : HeapSim hp hp') (isStr : Bool) :
    ∀ (fuel : Nat) (v : Val), listVals hp' isStr fuel v = listVals hp isStr fuel v := by
  intro fuel
  induction fuel with
  | zero => intro v; rfl
  | succ f ih =>
    intro v
    cases v with
    | ref a =>
      simp only [listVals, Xmi.slot]
      rw [h.slot a "head", h.slot a "tail"]
      cases Traverse.slot hp a "head" with
      | none => rfl
      | some hd => dsimp only; rw [headVal_sim h, ih]
    | _ => rfl

theorem cvalOf_sim {hp hp' : Heap} (h : HeapSim hp hp') (v : Val) : cvalOf hp' v = cvalOf hp v := by
  cases v <;> simp only [cvalOf, elemVals_sim h]
  rw [h.xidOf]

theorem featContentC_sim (K : Consts) {hp hp' : Heap} (h : HeapSim hp hp') (a : Nat) (f : Feature) :
    featContentC K hp' a f = featContentC K hp a f := by
  unfold featContentC Xmi.slot
  dsimp only
  rw [h.slot a f.name]
  split
  · cases hv : (Traverse.slot hp a f.name).getD .none with
    | ref c =>
      dsimp only
      rw [h.slot c "elements", elemVals_sim h, listVals_sim h, h.1]
    | _ => dsimp only; rw [cvalOf_sim h]
  · rw [cvalOf_sim h]

/-- what the round-trip theorems say about the loaded CAS `ld` and the id table `fss` of the reader, `cont` being the
    reading of the content of a feature: the written structures are there under the same ids, nothing else was created,
    the views are the same, the generators are reseeded -/
def RtOut {β : Type} (cont : Heap → Nat → Feature → β) (ts : TypeSystem) (c : Cas) (st : St) (ld : Loaded)
    (fss : List (Int × Val)) : Prop :=
  (∀ q ∈ st.allFs, ∃ (a' : Nat) (o o' : Obj), lookup fss q.1 = some (.ref a') ∧
      st.heap[q.2]? = some o ∧ ld.heap[a']? = some o' ∧ o'.ty = o.ty ∧ o'.xid = some q.1 ∧
      ∀ t : TypeRec, find? ts o.ty = some t → ∀ f ∈ allFeatures t, cont ld.heap a' f = cont st.heap q.2 f) ∧
  (∀ p ∈ fss, (∃ q ∈ st.allFs, q.1 = p.1) ∨ (∃ nv ∈ c.views, nv.2.sofa.xid = p.1)) ∧
  ld.cas.views.map (viewContent ld.heap) = c.views.map (viewContent st.heap) ∧
  (∀ q ∈ st.allFs, q.1 < ld.cas.nextXid) ∧
  (∀ nv ∈ c.views, nv.2.sofa.xid < ld.cas.nextXid ∧ nv.2.sofa.sofaNum < ld.cas.nextSofaNum)

/-- the first clause of `RtOut` over a heap that is the same up to the order of the slots -/
theorem structs_sim {β : Type} {cont : Heap → Nat → Feature → β}
    (hcont : ∀ {hp hp'}, HeapSim hp hp' → ∀ a f, cont hp' a f = cont hp a f)
    {ts : TypeSystem} {st : St} {hp hp' : Heap} {fss : List (Int × Val)} (hh : HeapSim hp hp')
    (H : ∀ q ∈ st.allFs, ∃ (a' : Nat) (o o' : Obj), lookup fss q.1 = some (.ref a') ∧
      st.heap[q.2]? = some o ∧ hp[a']? = some o' ∧ o'.ty = o.ty ∧ o'.xid = some q.1 ∧
      ∀ t : TypeRec, find? ts o.ty = some t → ∀ f ∈ allFeatures t, cont hp a' f = cont st.heap q.2 f) :
    ∀ q ∈ st.allFs, ∃ (a' : Nat) (o o' : Obj), lookup fss q.1 = some (.ref a') ∧
      st.heap[q.2]? = some o ∧ hp'[a']? = some o' ∧ o'.ty = o.ty ∧ o'.xid = some q.1 ∧
      ∀ t : TypeRec, find? ts o.ty = some t → ∀ f ∈ allFeatures t, cont hp' a' f = cont st.heap q.2 f := by
  intro q hq
  obtain ⟨a', o, o', h1, h2, h3, h4, h5, h6⟩ := H q hq
  obtain ⟨x', g2, gx⟩ := hh.get_some h3
  refine ⟨a', o, x', h1, h2, g2, by rw [gx.1]; exact h4, by rw [gx.2.2.1]; exact h5, ?_⟩
  intro t ht f hf
  rw [hcont hh]
  exact h6 t ht f hf

/-- the third clause of `RtOut` -/
theorem viewContents_sim {ld ld' : Loaded} (hcas : ld'.cas = ld.cas) (hh : HeapSim ld.heap ld'.heap) :
    ld'.cas.views.map (viewContent ld'.heap) = ld.cas.views.map (viewContent ld.heap) := by
  rw [hcas]
  exact List.map_congr_left (fun nv _ => viewContent_sim hh nv)

theorem RtOut.sim {β : Type} {cont : Heap → Nat → Feature → β}
    (hcont : ∀ {hp hp'}, HeapSim hp hp' → ∀ a f, cont hp' a f = cont hp a f)
    {ts : TypeSystem} {c : Cas} {st : St} {ld ld' : Loaded} {fss : List (Int × Val)}
    (hcas : ld'.cas = ld.cas) (hh : HeapSim ld.heap ld'.heap) : RtOut cont ts c st ld fss → RtOut cont ts c st ld' fss
  | ⟨H1, H2, H3, H4, H5⟩ =>
    ⟨structs_sim hcont hh H1, H2, (viewContents_sim hcas hh).trans H3, by rw [hcas]; exact H4, by rw [hcas]; exact H5⟩

/-- the composition step, for any embedded type system (FULL or MINIMAL): if the type system the reader builds from the
    `%TYPES` section agrees with the original on the type names of the document, loading without a type system
    yields what loading the NONE document with the original type system yields (up to slot order) -/
theorem emb_load_of_none_load (K : Consts) (ts ts' : TypeSystem) (tsArg : TypeSystem)
    (tsIdx ci' : Nat) (lenient : Bool) (hp : Heap) (doc doc0 : JDoc) (ld0 : Loaded)
    (hlts : loadTs K tsArg true doc = .ok ts')
    (hag : ∀ j ∈ doc.fss, TypeAgree ts ts' (fsTypeName j))
    (h1 : doc0.fss = doc.fss) (h2 : doc0.views = doc.views)
    (hload0 : loadJson K ts tsIdx ci' lenient false hp doc0 = .ok ld0) :
    ∃ ld : Loaded, loadJson K tsArg tsIdx ci' lenient true hp doc = .ok ld ∧
      ld.ts = ts' ∧ ld.cas = ld0.cas ∧ HeapSim ld0.heap ld.heap := by
  rw [loadJson_merge_eq _ _ ts' _ _ _ _ _ hlts]
  have hsim := loadJson_congr_aux K ts ts' tsIdx ci' lenient hp doc hag
  rw [← loadJson_doc_congr K _ tsIdx ci' lenient hp doc doc0 h1 h2, hload0] at hsim
  cases hl : loadJson K ts' tsIdx ci' lenient false hp doc with
  | error e => rw [hl] at hsim; exact hsim.elim
  | ok ld =>
    rw [hl] at hsim
    exact ⟨ld, rfl, loadJson_ts hl, hsim.1, hsim.2⟩

/-- `emb_load_of_none_load` for the FULL type system of an API-built, writable type system -/
theorem full_load_of_none_load (ops : List TsOp) (ts : TypeSystem)
    (hts : ts = ops.foldl (applyOp Gen.consts) Gen.builtinTS)
    (hu : UserOnlyNoDoc Gen.consts ops)
    (hw : Writable Gen.consts ts) (hpc : NoPercentNames ts)
    (cass : List Cas) (ci : Nat) (hp : Heap) (tsIdx ci' : Nat) (doc doc0 : JDoc) (st : St) (ld0 : Loaded)
    (hsave : saveJson Gen.consts ts cass ci hp .full = .ok (doc, st))
    (h1 : doc0.fss = doc.fss) (h2 : doc0.views = doc.views)
    (hload0 : loadJson Gen.consts ts tsIdx ci' false false st.heap doc0 = .ok ld0) :
    ∃ ld : Loaded, loadJson Gen.consts Gen.builtinTS tsIdx ci' false true st.heap doc = .ok ld ∧
      SameTs ts ld.ts ∧ ld.cas = ld0.cas ∧ HeapSim ld0.heap ld.heap := by
  subst hts
  obtain ⟨ts', hlts, hsame, hcons, hcons'⟩ := json_full_ts_same_cons ops hu hw hpc cass ci hp doc st hsave
  obtain ⟨ld, hl, hlt, hc, hh⟩ := emb_load_of_none_load Gen.consts _ ts' Gen.builtinTS tsIdx ci' false st.heap doc doc0 ld0
    hlts (fun _ _ => typeAgree_of_sameTs hsame hcons hcons' _) h1 h2 hload0
  exact ⟨ld, hl, by rw [hlt]; exact hsame, hc, hh⟩

/-- **the composition**: a round trip through the NONE document with the original type system supplied (`hnone`) is a
    round trip through the document of any mode with its embedded type system (any supplied type system `tsArg`), as
    soon as the type system rebuilt from the `%TYPES` section agrees with the original on the type names of the document -/
theorem embedded_of_none {β : Type} (cont : Heap → Nat → Feature → β)
    (hcont : ∀ {hp hp'}, HeapSim hp hp' → ∀ a f, cont hp' a f = cont hp a f)
    (K : Consts) (ts tsArg ts' : TypeSystem) (mode : Mode) (cass : List Cas) (ci : Nat) (c : Cas) (hp : Heap)
    (tsIdx ci' : Nat) (doc : JDoc) (st : St)
    (hsave : saveJson K ts cass ci hp mode = .ok (doc, st))
    (hlts : loadTs K tsArg true doc = .ok ts')
    (hag : ∀ j ∈ doc.fss, TypeAgree ts ts' (fsTypeName j))
    (hnone : ∀ doc0, saveJson K ts cass ci hp .none = .ok (doc0, st) →
      ∃ (ld0 : Loaded) (fss : List (Int × Val)),
        loadJson K ts tsIdx ci' false false st.heap doc0 = .ok ld0 ∧ ld0.ts = ts ∧ RtOut cont ts c st ld0 fss) :
    ∃ (ld : Loaded) (fss : List (Int × Val)),
      loadJson K tsArg tsIdx ci' false true st.heap doc = .ok ld ∧ ld.ts = ts' ∧ RtOut cont ts c st ld fss := by
  obtain ⟨doc0, hsave0, h1, h2⟩ := saveJson_to_none_aux K ts cass ci hp mode doc st hsave
  obtain ⟨ld0, fss, hload0, _, H⟩ := hnone doc0 hsave0
  obtain ⟨ld, hload, hlt, hcas, hheap⟩ :=
    emb_load_of_none_load K ts ts' tsArg tsIdx ci' false st.heap doc doc0 ld0 hlts hag h1 h2 hload0
  exact ⟨ld, fss, hload, hlt, H.sim hcont hcas hheap⟩

/-- a collected structure of the JSON fragment has a registered type not named `…[]` (the hypothesis of
    `json_minimal_ts_agree`) -/
theorem reg_of_jsonFs {ts : TypeSystem} {hp : Heap} {a : Nat} (hex : ∃ o t, hp[a]? = some o ∧ find? ts o.ty = some t)
    (hj : JsonFs ts hp a) (ob : Obj) (hob : hp[a]? = some ob) :
    (find? ts ob.ty).isSome = true ∧ ob.ty.endsWith "[]" = false := by
  obtain ⟨o, t, ho, ht⟩ := hex
  rw [hob] at ho; cases ho
  exact ⟨by rw [ht]; rfl, (hj ob t hob ht).1⟩

theorem reg_of_collFs {K : Consts} {ts : TypeSystem} {c : Cas} {ci : Nat} {hp : Heap} {a : Nat}
    (hk : CollFs K ts c ci hp a) (hj : JsonFs ts hp a) (ob : Obj) (hob : hp[a]? = some ob) :
    (find? ts ob.ty).isSome = true ∧ ob.ty.endsWith "[]" = false :=
  reg_of_jsonFs (let ⟨t, ht⟩ := hk.type hob; ⟨ob, t, hob, ht⟩) hj ob hob

theorem reg_of_jcollFs {K : Consts} {ts : TypeSystem} {c : Cas} {ci : Nat} {hp : Heap} {a : Nat}
    (h : JCollFs K ts c ci hp a) (ob : Obj) (hob : hp[a]? = some ob) :
    (find? ts ob.ty).isSome = true ∧ ob.ty.endsWith "[]" = false :=
  reg_of_jsonFs (let ⟨t, ht⟩ := jcoll_type h.1 hob; ⟨ob, t, hob, ht⟩) h.2 ob hob

end Cassis.Json
