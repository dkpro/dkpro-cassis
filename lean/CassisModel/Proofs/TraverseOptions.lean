/-
The traversal of `cas_to_comparable_text` (`_find_all_fs` with default options) and the traversal of the JSON writer
(`include_inlinable_arrays_and_lists=True`) are the same run when no collected structure has an array or list feature:
the option is consulted only for features whose range is an array or list type.
-/
import CassisModel.Proofs.Traverse

namespace Cassis.Traverse
open Cassis.TS

/-- the option `includeInlinable` makes no difference for structures of type `t` -/
def OptFree (K : Consts) (ts : TypeSystem) (t : TypeRec) : Prop :=
  ∀ (b b' : Bool) (hp : Heap) (allFs : List (Int × Nat)) (lf a : Nat),
    nodeSuccs K ts { includeInlinable := b } hp allFs lf a t = nodeSuccs K ts { includeInlinable := b' } hp allFs lf a t

/-- a feature for which the option is not consulted -/
def FeatOptFree (K : Consts) (ts : TypeSystem) (f : Feature) : Prop :=
  f.name = "sofa" ∨ isPrimitive K ts f.range = true ∨ (isArray K f.range = false ∧ isList K f.range = false)

theorem featureSuccs_opts {K : Consts} {ts : TypeSystem} {f : Feature} (h : FeatOptFree K ts f) (b b' : Bool)
    (hp : Heap) (allFs : List (Int × Nat)) (lf a : Nat) :
    featureSuccs K ts { includeInlinable := b } hp allFs lf a f
      = featureSuccs K ts { includeInlinable := b' } hp allFs lf a f := by
  unfold featureSuccs
  rcases h with h | h | ⟨h1, h2⟩
  · simp only [h, beq_self_eq_true, if_true]
  · simp only [h, if_true]
  · simp only [h1, h2, Bool.or_self, Bool.and_false, Bool.false_eq_true, if_false]

theorem optFree_of_feats {K : Consts} {ts : TypeSystem} {t : TypeRec} (h : ∀ f ∈ allFeatures t, FeatOptFree K ts f) :
    OptFree K ts t := by
  intro b b' hp allFs lf a
  by_cases hs : t.super = some ARRAY_BASE
  · rw [nodeSuccs_array hs, nodeSuccs_array hs]
  · rw [nodeSuccs_of_not_array hs, nodeSuccs_of_not_array hs]
    exact featuresSuccs_ext fun f hf => featureSuccs_opts (h f hf) b b' hp allFs lf a

theorem step_opts {K : Consts} {ts : TypeSystem} {b b' : Bool} {lf : Nat} {s : St} {a : Nat} {rest : List Nat} {s1 : St}
    (h : step K ts { includeInlinable := b } lf s a rest = .ok s1)
    (hfree : ∀ x, (x, a) ∈ s1.allFs → ∀ ob t, s.heap[a]? = some ob → getType ts ob.ty = .ok t → OptFree K ts t) :
    step K ts { includeInlinable := b' } lf s a rest = .ok s1 := by
  rw [step_eq] at h ⊢
  cases hob : s.heap[a]? with
  | none => rw [hob] at h; cases h
  | some ob =>
    rw [hob] at h
    dsimp only at h ⊢
    by_cases h0 : (ob.xid == some 0) = true
    · rw [if_pos h0] at h ⊢
      exact h
    · rw [if_neg h0] at h ⊢
      -- the id is settled alike (`generateIds` is `true` in both option records); the visit consults the option
      -- only in `nodeSuccs`, and only when the structure is newly collected
      obtain ⟨⟨x, s2⟩, ha, hv⟩ := Det.bind_ok h
      refine (congrArg (Except.bind · _) (ha : assignId { includeInlinable := b' } _ a ob = _)).trans ?_
      change visit _ _ _ _ _ _ _ _ = _ at hv ⊢
      unfold visit at hv ⊢
      cases hf : s2.allFs.find? (fun p => p.1 == x) with
      | some q => rw [hf] at hv; exact hv
      | none =>
        rw [hf] at hv
        obtain ⟨t, ht, hv⟩ := Det.bind_ok hv
        obtain ⟨⟨ps, n⟩, hn, hv⟩ := Det.bind_ok hv
        have hx : (x, a) ∈ s1.allFs := by cases hv; exact List.mem_append_right _ List.mem_cons_self
        dsimp only [bind, Except.bind] at hv ⊢
        rw [ht]
        dsimp only
        rw [hfree x hx ob t hob ht b' b, hn]
        exact hv

/-- **the two runs coincide** when the types of the collected structures are option-free -/
theorem Iter.opts {K : Consts} {ts : TypeSystem} {b b' : Bool} {lf : Nat} {s st : St}
    (h : Iter K ts { includeInlinable := b } lf s st)
    (hfree : ∀ q ∈ st.allFs, ∀ ob t, st.heap[q.2]? = some ob → getType ts ob.ty = .ok t → OptFree K ts t) :
    Iter K ts { includeInlinable := b' } lf s st := by
  induction h with
  | refl => exact .refl _
  | @head s s1 st a rest ho hs hi ih =>
    refine .head ho (step_opts hs fun x hx ob t hob ht => ?_) (ih hfree)
    obtain ⟨ob', hob', hty, _⟩ := ((Iter.head ho hs hi).fut.shape).2 a ob hob
    exact hfree (x, a) (hi.allFs_mono _ hx) ob' t hob' (by rw [hty]; exact ht)

theorem findAllFs_opts {K : Consts} {ts : TypeSystem} {b : Bool} (b' : Bool) {hp : Heap} {nx : Int} {seeds : List Nat}
    {st : St} (h : findAllFs K ts { includeInlinable := b } hp nx seeds = .ok st)
    (hfree : ∀ q ∈ st.allFs, ∀ ob t, st.heap[q.2]? = some ob → getType ts ob.ty = .ok t → OptFree K ts t) :
    findAllFs K ts { includeInlinable := b' } hp nx seeds = .ok st :=
  (findAllFs_ok_iff_iter ..).mpr ⟨((findAllFs_ok_iff_iter ..).mp h).1.opts hfree, ((findAllFs_ok_iff_iter ..).mp h).2⟩

end Cassis.Traverse
