/-
C16 — XMI ⇄ JSON conversion preserves the CAS, on the flat fragment.

Composition of the two end-to-end theorems (`C01RoundTrip`, `C02RoundTrip`): for a CAS in the flat fragment, the chain
XMI → CAS → JSON → CAS and the chain JSON → CAS → XMI → CAS (original type system supplied at every step) succeed, and
the CAS at the end has the same views, sofa data, member ids, feature structures, ids, types and feature contents as the
CAS that was written first.  What makes the composition go through is that a loaded CAS is again in the fragment and
well-formed (`FlatFs`, `JsonFs`, `MembersOk`, the view part of `RTWf`, … hold for what the loaders produce).

Hypotheses: the union of those of the two round-trip theorems, stated for the CAS that is written first.  Nothing is
assumed about intermediate or final loader outputs.  One hypothesis is added to `chain_xmi_json_flat`:
* `hsr` — a feature named `sofa` that holds a sofa has a range that is not primitive (nor `Float`/`Double`).  The flat
  fragment lets a feature named `sofa` of *any* non-collection range hold the sofa reference; the XMI codec treats the
  name specially, the JSON writer goes by the range and raises `TypeError` for a primitive one.  In
  `chain_json_xmi_flat` this follows from the success of the first `saveJson`; in `chain_xmi_json_flat` the first
  writer is the XMI one, so it has to be assumed.
  Counterexample without it (evaluated on the model): `Gen.builtinTS` plus the type `x.T` (child of `uima.cas.TOP`) with
  the feature `sofa : uima.cas.Integer`; `Cas.new (some [97]) none`; one `x.T` whose `sofa` slot is
  `.sofa 0 "_InitialView"`, indexed with `Cas.add`.  Every other hypothesis holds (`rtAppliesB … = true`,
  `jsonOkB` on the collected structure), `saveXmi` and `loadXmi` succeed, and `saveJson` on the
  loaded CAS returns `typeError`.

Two hypotheses of the round-trip theorems fail for a loaded CAS without affecting the conclusions; they are handled inside the proof
(`Proofs/ChainDefs.lean`): `RTWf.ids_below`/`ids_pos` do not hold for a loaded CAS together with the loader's heap (the
heap still contains the structures of the CAS written first — possibly with larger ids — and the `cas:NULL` object with
id 0 of the XMI reader), and `RTWf.conv` does not hold after the XMI reader for the empty text (no converter is
installed).  An evaluation of the chain on an instance with the empty text, an annotation at (0, 0) and an unreachable
structure with id 100 shows the conclusion to hold there.
-/
import CassisModel.Proofs.ChainViewsWf
import CassisModel.Proofs.RoundTripCollLoaded
import CassisModel.Proofs.ChainDemo
import CassisModel.Properties.C01RoundTrip
import CassisModel.Proofs.ChainLoaded

namespace Cassis
open Cassis.TS Cassis.Traverse Cassis.Xmi

/-- XMI → CAS → JSON → CAS -/
theorem chain_xmi_json_flat (K : Consts) (ts : TypeSystem) (cass : List Cas) (ci : Nat) (c : Cas) (hp : Heap)
    (tsIdx : Nat) (doc : XDoc) (st : St)
    (hc : cass[ci]? = some c) (hwf : RTWf c hp) (hnull : NullOk ts)
    (hsave : saveXmi K ts cass ci hp = .ok (doc, st))
    (hflat : ∀ q ∈ st.allFs, FlatFs K ts c ci st.heap q.2)
    (hjson : ∀ q ∈ st.allFs, Json.JsonFs ts st.heap q.2)
    (hsr : ∀ q ∈ st.allFs, ∀ (o : Obj) (t : TypeRec), st.heap[q.2]? = some o → find? ts o.ty = some t →
      ∀ f ∈ allFeatures t, f.name = "sofa" → (alistGet? o.slots f.name).getD .none ≠ .none →
        f.range ≠ "uima.cas.Double" ∧ f.range ≠ "uima.cas.Float" ∧ isPrimitive K ts f.range = false)
    (hdis : ∀ q ∈ st.allFs, ∀ nv ∈ c.views, q.1 ≠ nv.2.sofa.xid)
    (hmem : ∀ nv ∈ c.views, ∀ e ∈ Index.all nv.2.idx, Xmi.slot st.heap e.oid "sofa" ≠ some .none)
    (hmok : MembersOk c st.heap) :
    ∃ (ld1 : Xmi.Loaded) (docj : Json.JDoc) (st2 : St) (ld2 : Json.Loaded) (fss2 : List (Int × Val)),
      loadXmi K ts tsIdx cass.length false st.heap doc = .ok ld1 ∧
      Json.saveJson K ts (cass ++ [ld1.cas]) cass.length ld1.heap .none = .ok (docj, st2) ∧
      Json.loadJson K ts tsIdx (cass.length + 1) false false st2.heap docj = .ok ld2 ∧
      ld2.cas.views.map (viewContent ld2.heap) = c.views.map (viewContent st.heap) ∧
      (∀ q ∈ st.allFs, ∃ (a2 : Nat) (o o2 : Obj), Json.lookup fss2 q.1 = some (.ref a2) ∧
          st.heap[q.2]? = some o ∧ ld2.heap[a2]? = some o2 ∧ o2.ty = o.ty ∧ o2.xid = some q.1 ∧
          ∀ t : TypeRec, find? ts o.ty = some t → ∀ f ∈ allFeatures t,
            featContent ld2.heap a2 f.name = featContent st.heap q.2 f.name) := by
  open Cassis.Chain Cassis.ChainC in
  obtain ⟨na, _, ld1, _, hload1, hL, _, _, hrel, hvc1, hvrel, hreseed⟩ :=
    xmi_core_flat K ts cass ci c hp tsIdx cass.length doc st hc hwf hnull hsave hflat hmem hmok
  have hfa := saveXmi_findAllFs hc hsave
  have hc' : (cass ++ [ld1.cas])[cass.length]? = some ld1.cas := List.getElem?_concat_length
  have x : LdCtx K ts c ci st.heap (sortById st.allFs) na ld1.cas cass.length ld1.heap :=
    ⟨hL, hrel, .of_xmi hvrel, flatFs_new hL hrel (viewsRel_get_text hvrel)⟩
  have hnx' : 0 < ld1.cas.nextXid := loadXmi_nextXid_pos hload1
  -- the loaded CAS is traversed and written: it lies in the JSON fragment of the whole format
  obtain ⟨st2, hfa2, hheap2, hS⟩ := x.traversal { includeInlinable := true }
  obtain ⟨_, hsort⟩ := LdCtx.sorted hwf.next_pos hfa x hnx' hfa2 hheap2 hS
  have hLJ := Json.lokJ_of_lok x.lok' (x.json' (fun q hq => hjson q (mem_sortById.mp hq)))
  have hplain := loadXmi_plain hload1
  have harr' : ∀ nv ∈ ld1.cas.views, nv.2.sofa.arr = .none := fun nv hnv => (hplain nv hnv).1
  have hsave2 := Json.saveJson_of_parts (K := K) (ts := ts) hc' harr' hfa2
    (by rw [hheap2, hsort]; exact Json.renderAll_eq_map K ts _ ld1.heap _ (fun q hq => Json.renderFs_collJ hc' hLJ q hq
      (x.sofaRange' (fun q hq o t ho ht f hf => hsr q (mem_sortById.mp hq) o t ho ht f hf) q hq)))
  obtain ⟨ld2, fss2, hload2, hfs2, hvc2⟩ :=
    json_roundtrip_of_xmi_loaded (cass := cass) hwf hvrel hplain hnx' hreseed ld1.heap ld1.heap
      (newL na (sortById st.allFs)) tsIdx hLJ (x.dis' (fun q hq => hdis q (mem_sortById.mp hq))) (x.mem_sofa' hmem)
      (x.membersOk' hmok) rfl
  refine ⟨ld1, _, st2, ld2, fss2, hload1, hsave2, by rw [hheap2]; exact hload2, ?_, ?_⟩
  · rw [hvc2, hvc1]
  · intro q hq0
    have hq := mem_sortById.mpr hq0
    obtain ⟨o, o', ho, ho', hty, _, hfc⟩ := x.content q hq
    obtain ⟨a2, o1, o2, hlk, ho1, ho2, hty2, hx2, hfc2⟩ := hfs2 _ (List.mem_map.mpr ⟨q, hq, rfl⟩)
    cases (show ld1.heap[na q.1]? = some o1 from ho1).symm.trans ho'
    refine ⟨a2, o, o2, hlk, ho, ho2, hty2.trans hty, hx2, fun t ht f hf => ?_⟩
    have ht1 : find? ts o'.ty = some t := by rw [hty]; exact ht
    rw [flatFs_content (x.flat' q hq) ho' ht1 hf (hfc2 t ht1 f hf)]
    exact hfc t ht f hf

/-- JSON → CAS → XMI → CAS -/
theorem chain_json_xmi_flat (K : Consts) (ts : TypeSystem) (cass : List Cas) (ci : Nat) (c : Cas) (hp : Heap)
    (tsIdx : Nat) (docj : Json.JDoc) (st : St)
    (hc : cass[ci]? = some c) (hwf : RTWf c hp) (hnull : NullOk ts)
    (hsave : Json.saveJson K ts cass ci hp .none = .ok (docj, st))
    (hflat : ∀ q ∈ st.allFs, FlatFs K ts c ci st.heap q.2)
    (hjson : ∀ q ∈ st.allFs, Json.JsonFs ts st.heap q.2)
    (hids : ∀ nv ∈ c.views, ∀ e ∈ Index.all nv.2.idx, (xidOf hp e.oid).isSome = true)
    (hdis : ∀ q ∈ st.allFs, ∀ nv ∈ c.views, q.1 ≠ nv.2.sofa.xid)
    (hmem : ∀ nv ∈ c.views, ∀ e ∈ Index.all nv.2.idx, Xmi.slot st.heap e.oid "sofa" ≠ some .none)
    (hmok : MembersOk c st.heap) :
    ∃ (ld1 : Json.Loaded) (docx : XDoc) (st2 : St) (p2 : Pass1) (ld2 : Xmi.Loaded),
      Json.loadJson K ts tsIdx cass.length false false st.heap docj = .ok ld1 ∧
      saveXmi K ts (cass ++ [ld1.cas]) cass.length ld1.heap = .ok (docx, st2) ∧
      pass1 K ts tsIdx false docx { heap := st2.heap } = .ok p2 ∧
      loadXmi K ts tsIdx (cass.length + 1) false st2.heap docx = .ok ld2 ∧
      ld2.cas.views.map (viewContent ld2.heap) = c.views.map (viewContent st.heap) ∧
      (∀ q ∈ st.allFs, ∃ (a2 : Nat) (o o2 : Obj), lookupFs p2.fss q.1 = .ok a2 ∧
          st.heap[q.2]? = some o ∧ ld2.heap[a2]? = some o2 ∧ o2.ty = o.ty ∧ o2.xid = some q.1 ∧
          ∀ t : TypeRec, find? ts o.ty = some t → ∀ f ∈ allFeatures t,
            featContent ld2.heap a2 f.name = featContent st.heap q.2 f.name) := by
  open Cassis.Chain Cassis.ChainC in
  obtain ⟨ld1, m, hload1, _, g, _, _, _, _, hrel, hviewsJ, hvc1, hnx, hm0, _, hms⟩ :=
    Json.json_core K ts cass ci c hp tsIdx cass.length docj st hc hwf hsave hflat hjson hids hdis hmem hmok
  have hfa := (Json.saveJson_parts hc (fun nv hnv => (hwf.text_sofa nv hnv).1) hsave).1
  have hc' : (cass ++ [ld1.cas])[cass.length]? = some ld1.cas := List.getElem?_concat_length
  have x : LdCtx K ts c ci st.heap (sortById st.allFs) (Json.naOf st.heap (sortById st.allFs)) ld1.cas
      cass.length ld1.heap :=
    ⟨g, hrel, .of_json hviewsJ, Json.new_flatJ (ci' := cass.length) g hrel hviewsJ⟩
  have hnx' : 0 < ld1.cas.nextXid := by omega
  -- the loaded CAS is traversed and written: it lies in the XMI fragment of the whole format
  obtain ⟨st2, hfa2, hheap2, hS⟩ := x.traversal {}
  obtain ⟨_, hsort⟩ := LdCtx.sorted hwf.next_pos hfa x hnx' hfa2 hheap2 hS
  have hL2 : LOkC K ts ld1.cas cass.length ld1.heap (sortById st2.allFs) := hsort ▸ lokC_of_lok x.lok'
  obtain ⟨docx, hsave2⟩ := saveXmi_of_lokC tsIdx hc' hfa2 hheap2 hL2
  obtain ⟨p2, ld2, hp2, hload2, hfs2, hvc2⟩ :=
    xmi_roundtrip_coll_weak K ts (cass ++ [ld1.cas]) cass.length ld1.cas [] ld1.heap tsIdx (cass.length + 1) _ st2
      hc' (rtwf_of_json hwf hviewsJ hnx' (fun nv hnv => by have := (hms nv hnv).1; omega)) hnull hsave2
      (by rw [hheap2]; exact hL2) (by rw [hheap2]; exact x.mem_sofa' hmem)
      (by rw [hheap2]; exact x.membersOk' hmok)
  refine ⟨ld1, _, st2, p2, ld2, hload1, hsave2, hp2, hload2, ?_, ?_⟩
  · rw [hvc2, hheap2, hvc1]
  · intro q hq0
    have hq := mem_sortById.mpr hq0
    obtain ⟨o, o', ho, ho', hty, _, hfc⟩ := x.content q hq
    obtain ⟨a2, o1, o2, hlk, ho1, ho2, hty2, hx2, hfc2⟩ :=
      hfs2 _ (show (q.1, Json.naOf st.heap (sortById st.allFs) q.1) ∈ sortById st2.allFs by
        rw [hsort]; exact List.mem_map.mpr ⟨q, hq, rfl⟩)
    rw [hheap2] at ho1 hfc2
    cases (show ld1.heap[Json.naOf st.heap (sortById st.allFs) q.1]? = some o1 from ho1).symm.trans ho'
    refine ⟨a2, o, o2, hlk, ho, ho2, hty2.trans hty, hx2, fun t ht f hf => ?_⟩
    have ht1 : find? ts o'.ty = some t := by rw [hty]; exact ht
    rw [flatFs_content (x.flat' q hq) ho' ht1 hf (hfc2 t ht1 f hf)]
    exact hfc t ht f hf

/-! ### Non-vacuity

The instance `Demo` of `Proofs/InstancesFlat.lean` (type `x.Tok` with an Integer and a reference feature, text `a😀b`, two
structures referring to each other, one of them indexed): every hypothesis of both theorems holds
(`Chain.Demo.demo_hyps_chain`, `Json.Demo.demo_hypsJ` and `NullOk`), so both theorems apply. -/

example : ∃ (doc : XDoc) (st : St),
    saveXmi Demo.K Demo.demoTS [Demo.demo.1] 0 Demo.demo.2 = .ok (doc, st) ∧
    [Demo.demo.1][0]? = some Demo.demo.1 ∧ RTWf Demo.demo.1 Demo.demo.2 ∧ NullOk Demo.demoTS ∧
    (∀ q ∈ st.allFs, FlatFs Demo.K Demo.demoTS Demo.demo.1 0 st.heap q.2) ∧
    (∀ q ∈ st.allFs, Json.JsonFs Demo.demoTS st.heap q.2) ∧
    (∀ q ∈ st.allFs, ∀ (o : Obj) (t : TypeRec), st.heap[q.2]? = some o → find? Demo.demoTS o.ty = some t →
      ∀ f ∈ allFeatures t, f.name = "sofa" → (alistGet? o.slots f.name).getD .none ≠ .none →
        f.range ≠ "uima.cas.Double" ∧ f.range ≠ "uima.cas.Float" ∧ isPrimitive Demo.K Demo.demoTS f.range = false) ∧
    (∀ q ∈ st.allFs, ∀ nv ∈ Demo.demo.1.views, q.1 ≠ nv.2.sofa.xid) ∧
    (∀ nv ∈ Demo.demo.1.views, ∀ e ∈ Index.all nv.2.idx, Xmi.slot st.heap e.oid "sofa" ≠ some .none) ∧
    MembersOk Demo.demo.1 st.heap := Chain.Demo.demo_hyps_chain

/-- `chain_xmi_json_flat` applied to the instance -/
example : ∃ (doc : XDoc) (st : St) (ld1 : Xmi.Loaded) (docj : Json.JDoc) (st2 : St) (ld2 : Json.Loaded),
    saveXmi Demo.K Demo.demoTS [Demo.demo.1] 0 Demo.demo.2 = .ok (doc, st) ∧
    loadXmi Demo.K Demo.demoTS 0 1 false st.heap doc = .ok ld1 ∧
    Json.saveJson Demo.K Demo.demoTS ([Demo.demo.1] ++ [ld1.cas]) 1 ld1.heap .none = .ok (docj, st2) ∧
    Json.loadJson Demo.K Demo.demoTS 0 2 false false st2.heap docj = .ok ld2 ∧
    ld2.cas.views.map (viewContent ld2.heap) = Demo.demo.1.views.map (viewContent st.heap) := by
  obtain ⟨doc, st, hs, hc, hwf, hn, hf, hj, hsr, hd, hm, hmo⟩ := Chain.Demo.demo_hyps_chain
  obtain ⟨ld1, docj, st2, ld2, _, h1, h2, h3, h4, _⟩ :=
    chain_xmi_json_flat Demo.K Demo.demoTS [Demo.demo.1] 0 Demo.demo.1 Demo.demo.2 0 doc st
      hc hwf hn hs hf hj hsr hd hm hmo
  exact ⟨doc, st, ld1, docj, st2, ld2, hs, h1, h2, h3, h4⟩

/-- `chain_json_xmi_flat` applied to the instance -/
example : ∃ (docj : Json.JDoc) (st : St) (ld1 : Json.Loaded) (docx : XDoc) (st2 : St) (ld2 : Xmi.Loaded),
    Json.saveJson Demo.K Demo.demoTS [Demo.demo.1] 0 Demo.demo.2 .none = .ok (docj, st) ∧
    Json.loadJson Demo.K Demo.demoTS 0 1 false false st.heap docj = .ok ld1 ∧
    saveXmi Demo.K Demo.demoTS ([Demo.demo.1] ++ [ld1.cas]) 1 ld1.heap = .ok (docx, st2) ∧
    loadXmi Demo.K Demo.demoTS 0 2 false st2.heap docx = .ok ld2 ∧
    ld2.cas.views.map (viewContent ld2.heap) = Demo.demo.1.views.map (viewContent st.heap) := by
  obtain ⟨docj, st, hs, hc, hwf, hf, hj, hi, hd, hm, hmo⟩ := Json.Demo.demo_hypsJ
  obtain ⟨_, _, _, _, _, hn, _⟩ := Demo.demo_hyps
  obtain ⟨ld1, docx, st2, _, ld2, h1, h2, _, h3, h4, _⟩ :=
    chain_json_xmi_flat Demo.K Demo.demoTS [Demo.demo.1] 0 Demo.demo.1 Demo.demo.2 0 docj st
      hc hwf hn hs hf hj hi hd hm hmo
  exact ⟨docj, st, ld1, docx, st2, ld2, hs, h1, h2, h3, h4⟩

#print axioms chain_xmi_json_flat
#print axioms chain_json_xmi_flat

end Cassis
