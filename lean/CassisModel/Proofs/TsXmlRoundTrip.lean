/-
The descriptor round trip (`Properties/C12RoundTrip.lean`), for every declaration order, with or without redeclared
built-in types / DocumentAnnotation, in two steps.

`roundtrip_of_faithful`: ANY descriptor whose effective declarations are those of an API-built type system `ts` without
shadowed features (`Faithful`, `…Decl`) loads (`load_succeeds`, `…Load`: the loader replayed inside the target `trTs ts` of
`…Decl`) to a type system that makes the same declarations (`…Same`, first part), hence is `SameXml`
(`sameXml_of_decls`, a statement about two type systems).  Re-emission is then a consequence of `SameXml` alone
(`toDescriptor_of_same`, `…Emit`).
`tsxml_roundtrip_core`, for any such `ts`: every permutation of the writer's output, with redeclared entries mixed in, is such
a descriptor; this is where `StrippedNames` is needed (`…Norm`: the reader's stripping changes descriptions only).  The
statements of `Properties/C12RoundTrip.lean` are its instances for histories.  (Imports `Properties/C12.lean` for
`load_consistent` and `load_redeclared_reg`.)
-/
import CassisModel.Proofs.TsXmlRoundTripSame
import CassisModel.Proofs.TsXmlRoundTripEmit
import CassisModel.Properties.C12

namespace Cassis.TsXml
open Cassis.TS

theorem doc_rec {ts : TypeSystem} (hx : UserBuilt ts) :
    ∃ t, find? ts DOCUMENT_ANNOTATION = some t ∧ renderType t = docEntry := by
  have hb := builtin_evals.docAnnRecord
  cases htb : find? Gen.builtinTS DOCUMENT_ANNOTATION with
  | none => rw [htb] at hb; cases hb
  | some tb =>
    rw [htb] at hb
    simp only [Option.map_some, Option.some.injEq, Prod.mk.injEq] at hb
    obtain ⟨h1, h2, _, h3⟩ := hb
    obtain ⟨t, ht, hs, hd, _, _, ho⟩ := hx.grow _ tb htb
    refine ⟨t, ht, ?_⟩
    unfold renderType
    rw [find?_name ht, hs, hd, ho (by decide), h1, h2, h3]
    rfl

theorem render_predef {ts : TypeSystem} (hx : UserBuilt ts) {n : String} {pt t : TypeRec}
    (hp : Gen.consts.predefined.contains n = true) (hpt : find? Gen.builtinTSNoDoc n = some pt)
    (ht : find? ts n = some t) : trimT (renderType t) = renderType pt := by
  obtain ⟨t', ht', hs, hd, _, _, ho⟩ := hx.growBase n pt hpt
  rw [ht] at ht'; cases ht'
  have : renderType t = renderType pt := by
    unfold renderType
    rw [find?_name ht, find?_name hpt, hs, hd, ho hp]
  rw [this]
  exact (base_fixed (find?_mem hpt)).2.1

theorem roundtrip_of_faithful {ts : TypeSystem} (hx : UserBuilt ts) (hns : NoShadow ts) (d0 : Descriptor)
    (hF : Faithful ts (effective d0)) :
    ∃ ts', load Gen.consts d0 = .ok ts' ∧ SameXml ts ts' ∧
      ts'.redeclared =
        (if ((normalize d0).map (·.name)).contains DOCUMENT_ANNOTATION then [DOCUMENT_ANNOTATION] else []) ++
          ((effective d0).filter (fun t => Gen.consts.predefined.contains t.name)).map (·.name) := by
  obtain ⟨ts2, hload, hinv, hgrow⟩ := load_of_faithful ts hx d0 hF
  exact ⟨_, hload, sameXml_loaded ⟨hx, hns, hF, hload, hinv, hgrow⟩, rfl⟩

theorem tsxml_roundtrip_core {ts : TypeSystem} (hx : UserBuilt ts) (hns : NoShadow ts)
    (hsn : StrippedNames Gen.consts ts) (d d' pre : Descriptor) (hd : toDescriptor Gen.consts ts = .ok d)
    (hpre : ∀ e ∈ pre, (Gen.consts.predefined.contains e.name = true ∧ builtinEntry e.name = some e) ∨ e = docEntry)
    (hnt : ∀ e ∈ pre, e.name ≠ TOP) (hnd : pre.Nodup)
    (hp : d'.Perm (pre ++ d)) :
    ∃ ts' preOut, load Gen.consts d' = .ok ts' ∧ SameXml ts ts' ∧
      toDescriptor Gen.consts ts' = .ok (preOut ++ d.map trimT) ∧
      preOut.map (·.name) = sortStrs (pre.map (·.name)).eraseDups ∧
      ∀ e ∈ preOut, builtinEntry e.name = some e ∨ e = docEntry := by
  have hc := hx.hist.cons
  have hdeq := toDescriptor_noRedeclared hx.built.red d hd
  have hdmem : ∀ e, e ∈ d ↔ ∃ t ∈ Json.fullRecs Gen.consts ts, e = renderType t := by
    intro e
    rw [hdeq, List.mem_map]
    exact ⟨fun ⟨t, ht, h⟩ => ⟨t, ht, h.symm⟩, fun ⟨t, ht, h⟩ => ⟨t, ht, h.symm⟩⟩
  have hdn : (d.map (·.name)).Nodup := by
    rw [hdeq, List.map_map]
    exact fullRecs_names_nodup hc.nodup
  have hpre_cases : ∀ e ∈ pre, (Gen.consts.predefined.contains e.name = true ∧
      ∃ pt, find? Gen.builtinTSNoDoc e.name = some pt ∧ e = renderType pt) ∨ e = docEntry := by
    intro e he
    rcases hpre e he with ⟨h1, h2⟩ | h2
    · obtain ⟨pt, hpt, h3⟩ := Option.map_eq_some_iff.mp h2
      exact Or.inl ⟨h1, pt, hpt, h3.symm⟩
    · exact Or.inr h2
  have hpre_name : ∀ e1 ∈ pre, ∀ e2 ∈ pre, e1.name = e2.name → e1 = e2 := by
    intro e1 h1 e2 h2 e
    rcases hpre e1 h1 with ⟨p1, q1⟩ | q1 <;> rcases hpre e2 h2 with ⟨p2, q2⟩ | q2
    · rw [e] at q1
      rw [q1] at q2
      exact Option.some.inj q2
    · subst q2
      rw [e, docEntry_not_predef] at p1; cases p1
    · subst q1
      rw [← e, docEntry_not_predef] at p2; cases p2
    · rw [q1, q2]
  have hpn : (pre.map (·.name)).Nodup := by
    have hpw : pre.Pairwise (fun (a b : TDesc) => a.name ≠ b.name) :=
      List.Pairwise.imp_of_mem (fun ha hb hab e => hab (hpre_name _ ha _ hb e)) hnd
    exact List.Pairwise.map (fun (t : TDesc) => t.name) (fun a b hab => hab) hpw
  have hpre_nd : ∀ e ∈ pre, Gen.consts.predefined.contains e.name = true ∨ e.name = DOCUMENT_ANNOTATION := by
    intro e he
    rcases hpre e he with ⟨p1, _⟩ | q1
    · exact Or.inl p1
    · right; rw [q1]; rfl
  have hd_nd : ∀ u ∈ d, Gen.consts.predefined.contains u.name = false ∧ u.name ≠ DOCUMENT_ANNOTATION := by
    intro u hu
    obtain ⟨t, ht, rfl⟩ := (hdmem u).mp hu
    obtain ⟨_, h2, h3⟩ := (Json.mem_fullRecs _ _ _).mp ht
    exact ⟨h2, h3⟩
  have hdisj : ∀ e ∈ pre, ∀ u ∈ d, e.name ≠ u.name := by
    intro e he u hu heq
    obtain ⟨h2, h3⟩ := hd_nd u hu
    rcases hpre_nd e he with p | p
    · rw [heq, h2] at p; cases p
    · exact h3 (heq ▸ p)
  have hd'n : (d'.map (·.name)).Nodup := by
    refine (hp.map (·.name)).nodup_iff.mpr ?_
    rw [List.map_append, List.nodup_append]
    refine ⟨hpn, hdn, ?_⟩
    intro a ha b hb e
    obtain ⟨x, hx1, rfl⟩ := List.mem_map.mp ha
    obtain ⟨y, hy1, rfl⟩ := List.mem_map.mp hb
    exact hdisj x hx1 y hy1 e
  -- no name of the descriptor carries surrounding whitespace: the reader's stripping changes descriptions only
  have hd's : ∀ e ∈ d', NamesStrippedT e := by
    intro e he
    rcases List.mem_append.mp (hp.mem_iff.mp he) with hpe | hde
    · rcases hpre_cases e hpe with ⟨_, pt, hpt, rfl⟩ | rfl
      · exact base_stripped hpt
      · exact docEntry_stripped
    · obtain ⟨t, ht, rfl⟩ := (hdmem e).mp hde
      exact rendered_user_stripped hc hx.built.ownOK hsn ht
  have hdocin : DOCUMENT_ANNOTATION ∈ d'.map (·.name) ↔ docEntry ∈ pre := by
    constructor
    · intro hm
      obtain ⟨e0, he0, hn0⟩ := List.mem_map.mp hm
      rcases List.mem_append.mp (hp.mem_iff.mp he0) with hpe | hde
      · rcases hpre e0 hpe with ⟨p1, _⟩ | q1
        · rw [hn0, doc_not_predef] at p1; cases p1
        · rw [← q1]; exact hpe
      · exact absurd hn0 (hd_nd e0 hde).2
    · intro hm
      exact List.mem_map.mpr ⟨docEntry, hp.mem_iff.mpr (List.mem_append_left _ hm), rfl⟩
  have hnormB : ∀ e0 ∈ pre, normT e0 = e0 := by
    intro e0 he0
    rcases hpre_cases e0 he0 with ⟨_, pt, hpt, rfl⟩ | rfl
    · exact (base_fixed (find?_mem hpt)).1
    · exact normT_docEntry
  have hE := (effective_eq d' hd'n hd's).1
  have hmem : ∀ e, e ∈ effective d' ↔
      e ∈ pre ∨ (∃ t ∈ Json.fullRecs Gen.consts ts, e = normT (renderType t)) ∨ e = docEntry := by
    intro e
    rw [hE, List.mem_append, List.mem_map]
    constructor
    · rintro (⟨e0, he0, rfl⟩ | he)
      · rcases List.mem_append.mp (hp.mem_iff.mp he0) with hpe | hde
        · left; rw [hnormB e0 hpe]; exact hpe
        · obtain ⟨t, ht, rfl⟩ := (hdmem e0).mp hde
          exact Or.inr (Or.inl ⟨t, ht, rfl⟩)
      · split at he
        · cases he
        · exact Or.inr (Or.inr (List.mem_singleton.mp he))
    · rintro (hpe | ⟨t, ht, rfl⟩ | rfl)
      · exact Or.inl ⟨e, hp.mem_iff.mpr (List.mem_append_left _ hpe), hnormB e hpe⟩
      · exact Or.inl ⟨renderType t, hp.mem_iff.mpr (List.mem_append_right _ ((hdmem _).mpr ⟨t, ht, rfl⟩)), rfl⟩
      · by_cases hdoc : DOCUMENT_ANNOTATION ∈ d'.map (·.name)
        · exact Or.inl ⟨docEntry, hp.mem_iff.mpr (List.mem_append_left _ (hdocin.mp hdoc)), normT_docEntry⟩
        · right
          rw [if_neg (fun hc => hdoc (List.contains_iff_mem.mp hc))]
          exact List.mem_singleton.mpr rfl
  obtain ⟨tdoc, htdoc, hrdoc⟩ := doc_rec hx
  have hF : Faithful ts (effective d') := by
    refine ⟨?_, ?_, ?_⟩
    · intro t ht hu
      rw [hmem]
      by_cases hdn' : t.name = DOCUMENT_ANNOTATION
      · right; right
        have : find? ts t.name = some t := find?_of_mem hc.nodup ht
        rw [hdn', htdoc] at this
        cases this
        rw [hrdoc]; exact normT_docEntry
      · exact Or.inr (Or.inl ⟨t, (Json.mem_fullRecs _ _ _).mpr ⟨ht, hu, hdn'⟩, rfl⟩)
    · intro e he hu
      rcases (hmem e).mp he with hpe | ⟨t, ht, rfl⟩ | rfl
      · rcases hpre e hpe with ⟨p1, _⟩ | rfl
        · rw [hu] at p1; cases p1
        · exact ⟨tdoc, find?_mem htdoc, by rw [hrdoc]; exact normT_docEntry.symm⟩
      · exact ⟨t, ((Json.mem_fullRecs _ _ _).mp ht).1, rfl⟩
      · exact ⟨tdoc, find?_mem htdoc, by rw [hrdoc]; exact normT_docEntry.symm⟩
    · intro e he hpd
      rcases (hmem e).mp he with hpe | ⟨t, ht, rfl⟩ | rfl
      · rcases hpre_cases e hpe with ⟨_, pt, hpt, rfl⟩ | rfl
        · refine ⟨pt, hpt, ?_, rfl⟩
          cases hs : pt.super with
          | none =>
            have := built_builtins.2.cons.onlyRoot pt (find?_mem hpt) hs
            exact absurd this (hnt _ hpe)
          | some s =>
            show some s = some (pt.super.getD "")
            rw [hs]; rfl
        · rw [docEntry_not_predef] at hpd; cases hpd
      · have := ((Json.mem_fullRecs _ _ _).mp ht).2.1
        rw [normT_name] at hpd
        rw [show (renderType t).name = t.name from rfl, this] at hpd; cases hpd
      · rw [docEntry_not_predef] at hpd; cases hpd
  obtain ⟨ts', hload, hsame, hred⟩ := roundtrip_of_faithful hx hns d' hF
  have hRmem : ∀ x, x ∈ ts'.redeclared ↔ x ∈ pre.map (·.name) := by
    intro x
    rw [hred, List.mem_append, (effective_eq d' hd'n hd's).2]
    constructor
    · rintro (h1 | h1)
      · split at h1
        · rename_i hcd
          simp only [List.mem_singleton] at h1
          subst h1
          exact List.mem_map.mpr ⟨docEntry, hdocin.mp (List.contains_iff_mem.mp hcd), rfl⟩
        · cases h1
      · obtain ⟨e, he, rfl⟩ := List.mem_map.mp h1
        obtain ⟨he1, he2⟩ := List.mem_filter.mp he
        rcases (hmem e).mp he1 with hpe | ⟨t, ht, rfl⟩ | rfl
        · exact List.mem_map.mpr ⟨e, hpe, rfl⟩
        · have := ((Json.mem_fullRecs _ _ _).mp ht).2.1
          rw [show (normT (renderType t)).name = t.name from rfl, this] at he2; cases he2
        · rw [docEntry_not_predef] at he2; cases he2
    · intro hm
      obtain ⟨e0, he0, rfl⟩ := List.mem_map.mp hm
      rcases hpre e0 he0 with ⟨p1, _⟩ | rfl
      · right
        exact List.mem_map.mpr ⟨e0, List.mem_filter.mpr ⟨(hmem e0).mpr (Or.inl he0), p1⟩, rfl⟩
      · left
        rw [List.contains_iff_mem.mpr (hdocin.mpr he0)]
        exact List.mem_singleton.mpr rfl
  -- re-emission is a consequence of `SameXml` and the remembered names
  obtain ⟨preOut, hemit, hnames, hall⟩ := toDescriptor_of_same hc.nodup (load_consistent d' ts' hload).1.nodup hsame
    hx.built.red (load_redeclared_reg d' ts' hload) d hd
  refine ⟨ts', preOut, hload, hsame, hemit, ?_, ?_⟩
  · rw [hnames]
    apply sortStrs_perm_eq
    rw [List.perm_ext_iff_of_nodup (Det.nodup_eraseDups _) (Det.nodup_eraseDups _)]
    intro x
    rw [List.mem_eraseDups, List.mem_eraseDups]
    exact hRmem x
  · intro e he
    obtain ⟨t, ht, rfl⟩ := hall e he
    have hn' : (trimT (renderType t)).name ∈ ts'.redeclared := by
      have : (trimT (renderType t)).name ∈ preOut.map (·.name) := List.mem_map.mpr ⟨_, he, rfl⟩
      rw [hnames] at this
      exact List.mem_eraseDups.mp ((sortStrs_perm _).mem_iff.mp this)
    obtain ⟨e0, he0, hn0⟩ := List.mem_map.mp ((hRmem _).mp hn')
    rcases hpre_cases e0 he0 with ⟨p1, pt, hpt, rfl⟩ | rfl
    · left
      rw [← hn0] at ht ⊢
      rw [builtinEntry, hpt, render_predef hx p1 hpt ht]
      rfl
    · right
      rw [← hn0, show docEntry.name = DOCUMENT_ANNOTATION from rfl, htdoc] at ht
      cases ht
      rw [hrdoc]
      rfl

end Cassis.TsXml
