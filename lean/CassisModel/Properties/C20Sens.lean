/-
C20, sensitivity half — the comparable table is different whenever the content differs — and totality.

`Properties/C20.lean` and `C20Ids.lean` prove that `renderFrom` (everything `cas_to_comparable_text` does after the
traversal) ignores ids, creation order and the content hash.  Here the converse, at the level of the **complete table**:
two successful runs of `renderFrom` on inputs that differ in one point give different tables.  "Differ in one point" is
a point update: the second heap is the first after one `setattr` (`Heap.setSlot`), or the second indexed list differs in
the membership of one structure.  Beyond that point the second run may use any order of the collected list, any order
/ multiplicity of the indexed list and any content hash (the hash of a structure changes with its content): the side
condition `Distinct` makes these irrelevant (`renderFrom_perm_invariant`).

One theorem per clause of the property:

1. `renderFrom_prim_sensitive`            a primitive feature value (not an offset) of a collected structure;
2. `renderFrom_offset_sensitive`          `begin` or `end` of a collected annotation;
3. `renderFrom_ref_sensitive`             the target of a reference feature;
4. `renderFrom_fsarray_elem_sensitive`    an element of an FSArray shown in a feature column, `…_own`: of an FSArray that is
                                          itself collected; `renderFrom_primarray_sensitive`, `…_own`: the elements of a
                                          primitive array;
5. `renderFrom_view_sensitive`            the view (`sofa` slot);
6. `renderFrom_indexed_sensitive`         the indexed status (with `mark_indexed`).

Hypotheses that are not in the property text, each forced by an evaluated counterexample (`Spec/ComparableSensCheck.lean`):

* the type of the changed structure is not in `exclude_types`                         (all clauses; `cex_excluded`);
* `XidInj`: collected structures have pairwise different ids                          (2–6; holds for what `_find_all_fs`
  delivers: `xidInj_of_findAllFs`; `cex_xid`);
* `PrimDiffer`: `None` and the string `<NULL>` are written alike                      (1; documented; `cex_null`);
* clause 3/4: both targets are collected (`cex_uncollected`), are not arrays (a reference to an array is shown as the
  array's elements, not as its anchor: `cex_array_target`) and their anchor texts do not end in `)` (`AnchorPlain`;
  `cex_ref`, `cex_fsarray`);
* clause 5: neither sofaID ends in `)` (`NoParenEnd`; `cex_view`).

The last two are needed because the disambiguation counter `(n)` is appended to the anchor text without a separator:
with two types of the same short name, `a.T`@`V` second of its text gets the anchor `T[0-1]*@V(1)`, which is also the
anchor of a `T[0-1]` in a view called `V(1)`.  **The counterexamples `cex_view`, `cex_ref` (finding N1) and
`cex_array_target` (finding N2) are reachable through the public API on CASes that satisfy the side condition of C20 and
were replayed on the Python code: the property text fails there** (see the header of `Spec/ComparableSensCheck.lean` for
the Python snippets).

Totality: `renderFrom_total` — no exception when every collected structure has a registered type, a `sofa` slot that is
absent or points to an existing view, non-negative offsets where covered text is shown, and arrays have their `elements`
slot and are nested within the recursion budget of the model (`WellNested`, `RowOk`; the budget is `2 * |heap| + 2`,
two units per level of array nesting, which every acyclic nesting fits into; see `Spec/ComparableSensCheck.lean` §C).
-/
import CassisModel.Proofs.ComparableSens
import CassisModel.Proofs.ComparableSensTotal
import CassisModel.Proofs.Traverse
import CassisModel.Proofs.ComparableSensDemo
import CassisModel.Spec.ComparableSensCheck

namespace Cassis.Comparable
open Cassis.TS Cassis.Traverse Cassis.Lex

/-- **1. primitive feature value.**  `a` is a collected structure of a shown type that is not an array, `f` one of its
    feature columns other than the offsets, holding `p`; the second heap is the first after `a.f = p'`, where `p` and `p'`
    are two values the table can tell apart (`PrimDiffer`).  Then the two tables differ. -/
theorem renderFrom_prim_sensitive (K : Consts) (ts : TypeSystem) (cass : List Cas) (hp hp' : Heap) (o : Opts)
    (hsh hsh' : Nat → Int) (indexed indexed' addrs addrs' : List Nat)
    (hperm : addrs.Perm addrs') (hidx : ∀ x, x ∈ indexed ↔ x ∈ indexed') (hn : addrs.Nodup) (hd : Distinct hp addrs)
    (a : Nat) (f : String) (p p' : Val) (t : TypeRec)
    (ha : a ∈ addrs) (hex : o.exclude.contains (tyOf hp a) = false) (harr : isArrayFs K hp a = false)
    (ht : getType ts (tyOf hp a) = .ok t) (hf : f ∈ columns t) (hfb : f ≠ "begin") (hfe : f ≠ "end")
    (hs : slot hp a f = some p) (hset : Heap.setSlot hp a f p' = .ok hp') (hdiff : PrimDiffer p p')
    (secs secs' : List Section)
    (h : renderFrom K ts cass hp o hsh indexed addrs = .ok secs)
    (h' : renderFrom K ts cass hp' o hsh' indexed' addrs' = .ok secs') : secs ≠ secs' :=
  have u := setSlot_upd hs hset
  upd_sens u hfb hfe hperm hidx hd h h' ha hex (.col t f harr ht hf hs u.same) (fun _ _ _ _ => cellNe_prim hdiff)

/-- **2. offset.**  `a` is a collected annotation (it has integer `begin` and `end`) of a shown type; the second heap is
    the first after `a.begin = p'` or `a.end = p'` with `p' ≠ p`; both heaps satisfy the side condition.  Then the two
    tables differ (the row of `a` may also move). -/
theorem renderFrom_offset_sensitive (K : Consts) (ts : TypeSystem) (cass : List Cas) (hp hp' : Heap) (o : Opts)
    (hsh hsh' : Nat → Int) (indexed indexed' addrs addrs' : List Nat)
    (hperm : addrs.Perm addrs') (hidx : ∀ x, x ∈ indexed ↔ x ∈ indexed') (hn : addrs.Nodup)
    (hd : Distinct hp addrs) (hd' : Distinct hp' addrs) (hx : XidInj hp addrs)
    (a : Nat) (f : String) (p p' : Int)
    (ha : a ∈ addrs) (hex : o.exclude.contains (tyOf hp a) = false) (hann : isAnnot hp a = true)
    (hf : f = "begin" ∨ f = "end")
    (hs : slot hp a f = some (.int p)) (hset : Heap.setSlot hp a f (.int p') = .ok hp') (hne : p ≠ p')
    (secs secs' : List Section)
    (h : renderFrom K ts cass hp o hsh indexed addrs = .ok secs)
    (h' : renderFrom K ts cass hp' o hsh' indexed' addrs' = .ok secs') : secs ≠ secs' :=
  offset_sens (setSlot_upd hs hset) hf hs hne hperm hidx hd hd' hx ha hex hann h h'

/-- **3. reference target.**  The feature column `f` of the collected structure `a` refers to `x`; the second heap is
    the first after `a.f = y`.  `x ≠ y` are collected, not arrays, and their anchor texts do not end in `)`.  Then the
    two tables differ. -/
theorem renderFrom_ref_sensitive (K : Consts) (ts : TypeSystem) (cass : List Cas) (hp hp' : Heap) (o : Opts)
    (hsh hsh' : Nat → Int) (indexed indexed' addrs addrs' : List Nat)
    (hperm : addrs.Perm addrs') (hidx : ∀ x, x ∈ indexed ↔ x ∈ indexed') (hn : addrs.Nodup) (hd : Distinct hp addrs)
    (hx : XidInj hp addrs)
    (a : Nat) (f : String) (x y : Nat) (t : TypeRec)
    (ha : a ∈ addrs) (hex : o.exclude.contains (tyOf hp a) = false) (harr : isArrayFs K hp a = false)
    (ht : getType ts (tyOf hp a) = .ok t) (hf : f ∈ columns t) (hfb : f ≠ "begin") (hfe : f ≠ "end")
    (hs : slot hp a f = some (.ref x)) (hset : Heap.setSlot hp a f (.ref y) = .ok hp')
    (hxy : x ≠ y) (hxa : x ∈ addrs) (hya : y ∈ addrs)
    (hxarr : isArrayFs K hp x = false) (hyarr : isArrayFs K hp y = false)
    (px : AnchorPlain cass hp indexed o x) (py : AnchorPlain cass hp indexed o y)
    (secs secs' : List Section)
    (h : renderFrom K ts cass hp o hsh indexed addrs = .ok secs)
    (h' : renderFrom K ts cass hp' o hsh' indexed' addrs' = .ok secs') : secs ≠ secs' :=
  have u := setSlot_upd hs hset
  upd_sens u hfb hfe hperm hidx hd h h' ha hex (.col t f harr ht hf hs u.same)
    (refNe (u.agreeAnchor hfb hfe (columns_ne_sofa t f hf)) hx hxy hxa hya hxarr hyarr px py)

/-- **4a. FSArray element, array shown in a feature column.**  The feature column `f` of the collected structure `a`
    refers to the array object `arr` whose `elements` are `l`, with `x` at position `i`; the second heap is the first
    after `arr.elements[i] = y`.  `x ≠ y` as in clause 3.  Then the two tables differ. -/
theorem renderFrom_fsarray_elem_sensitive (K : Consts) (ts : TypeSystem) (cass : List Cas) (hp hp' : Heap) (o : Opts)
    (hsh hsh' : Nat → Int) (indexed indexed' addrs addrs' : List Nat)
    (hperm : addrs.Perm addrs') (hidx : ∀ x, x ∈ indexed ↔ x ∈ indexed') (hn : addrs.Nodup) (hd : Distinct hp addrs)
    (hx : XidInj hp addrs)
    (a : Nat) (f : String) (arr : Nat) (l : List (Option Nat)) (i x y : Nat) (t : TypeRec)
    (ha : a ∈ addrs) (hex : o.exclude.contains (tyOf hp a) = false) (harr : isArrayFs K hp a = false)
    (ht : getType ts (tyOf hp a) = .ok t) (hf : f ∈ columns t)
    (hs : slot hp a f = some (.ref arr)) (hisarr : isArrayFs K hp arr = true)
    (hel : slot hp arr "elements" = some (.refs l)) (hi : l[i]? = some (some x))
    (hset : Heap.setSlot hp arr "elements" (.refs (l.set i (some y))) = .ok hp')
    (hxy : x ≠ y) (hxa : x ∈ addrs) (hya : y ∈ addrs)
    (hxarr : isArrayFs K hp x = false) (hyarr : isArrayFs K hp y = false)
    (px : AnchorPlain cass hp indexed o x) (py : AnchorPlain cass hp indexed o y)
    (secs secs' : List Section)
    (h : renderFrom K ts cass hp o hsh indexed addrs = .ok secs)
    (h' : renderFrom K ts cass hp' o hsh' indexed' addrs' = .ok secs') : secs ≠ secs' :=
  have u := setSlot_upd hel hset
  have hane : a ≠ arr := fun e => by rw [e, hisarr] at harr; cases harr
  upd_sens u elements_ne.1 elements_ne.2.1 hperm hidx hd h h' ha hex
    (.col t f harr ht hf hs ((u.other a f (Or.inl hane)).trans hs))
    (fun st st' hg hg' =>
      cellNe_deref hisarr ((isArrayFs_congr u.ty K arr).trans hisarr) hel u.same nofun nofun
        (cellNe_refs hi (List.getElem?_set_self (List.getElem?_eq_some_iff.mp hi).1)
          (refNe (u.agreeAnchor elements_ne.1 elements_ne.2.1 elements_ne.2.2) hx hxy hxa hya hxarr hyarr px py
            st st' hg hg')))

/-- **4b. FSArray element, the array is itself collected** (an indexed array, or one reached through a feature that
    allows multiple references) and its type is shown. -/
theorem renderFrom_fsarray_elem_sensitive_own (K : Consts) (ts : TypeSystem) (cass : List Cas) (hp hp' : Heap)
    (o : Opts) (hsh hsh' : Nat → Int) (indexed indexed' addrs addrs' : List Nat)
    (hperm : addrs.Perm addrs') (hidx : ∀ x, x ∈ indexed ↔ x ∈ indexed') (hn : addrs.Nodup) (hd : Distinct hp addrs)
    (hx : XidInj hp addrs)
    (arr : Nat) (l : List (Option Nat)) (i x y : Nat)
    (ha : arr ∈ addrs) (hex : o.exclude.contains (tyOf hp arr) = false) (hisarr : isArrayFs K hp arr = true)
    (hel : slot hp arr "elements" = some (.refs l)) (hi : l[i]? = some (some x))
    (hset : Heap.setSlot hp arr "elements" (.refs (l.set i (some y))) = .ok hp')
    (hxy : x ≠ y) (hxa : x ∈ addrs) (hya : y ∈ addrs)
    (hxarr : isArrayFs K hp x = false) (hyarr : isArrayFs K hp y = false)
    (px : AnchorPlain cass hp indexed o x) (py : AnchorPlain cass hp indexed o y)
    (secs secs' : List Section)
    (h : renderFrom K ts cass hp o hsh indexed addrs = .ok secs)
    (h' : renderFrom K ts cass hp' o hsh' indexed' addrs' = .ok secs') : secs ≠ secs' :=
  have u := setSlot_upd hel hset
  upd_sens u elements_ne.1 elements_ne.2.1 hperm hidx hd h h' ha hex (.elems hisarr hel u.same)
    (fun st st' hg hg' =>
      cellNe_refs hi (List.getElem?_set_self (List.getElem?_eq_some_iff.mp hi).1)
        (refNe (u.agreeAnchor elements_ne.1 elements_ne.2.1 elements_ne.2.2) hx hxy hxa hya hxarr hyarr px py
          st st' hg hg'))

/-- **4c. primitive array, shown in a feature column.**  The `elements` of the array object `arr` referred to by the
    feature column `f` of `a` are replaced by a different list of the same element type (`PrimArrDiffer`: any change of
    any element, or of the length). -/
theorem renderFrom_primarray_sensitive (K : Consts) (ts : TypeSystem) (cass : List Cas) (hp hp' : Heap) (o : Opts)
    (hsh hsh' : Nat → Int) (indexed indexed' addrs addrs' : List Nat)
    (hperm : addrs.Perm addrs') (hidx : ∀ x, x ∈ indexed ↔ x ∈ indexed') (hn : addrs.Nodup) (hd : Distinct hp addrs)
    (a : Nat) (f : String) (arr : Nat) (v v' : Val) (t : TypeRec)
    (ha : a ∈ addrs) (hex : o.exclude.contains (tyOf hp a) = false) (harr : isArrayFs K hp a = false)
    (ht : getType ts (tyOf hp a) = .ok t) (hf : f ∈ columns t)
    (hs : slot hp a f = some (.ref arr)) (hisarr : isArrayFs K hp arr = true)
    (hel : slot hp arr "elements" = some v)
    (hset : Heap.setSlot hp arr "elements" v' = .ok hp') (hdiff : PrimArrDiffer v v')
    (secs secs' : List Section)
    (h : renderFrom K ts cass hp o hsh indexed addrs = .ok secs)
    (h' : renderFrom K ts cass hp' o hsh' indexed' addrs' = .ok secs') : secs ≠ secs' :=
  have u := setSlot_upd hel hset
  have hane : a ≠ arr := fun e => by rw [e, hisarr] at harr; cases harr
  upd_sens u elements_ne.1 elements_ne.2.1 hperm hidx hd h h' ha hex
    (.col t f harr ht hf hs ((u.other a f (Or.inl hane)).trans hs))
    (fun _ _ _ _ =>
      cellNe_deref hisarr ((isArrayFs_congr u.ty K arr).trans hisarr) hel u.same (primArrDiffer_ne_none hdiff).1
        (primArrDiffer_ne_none hdiff).2 (cellNe_primArr hdiff))

/-- **4d. primitive array, the array is itself collected** and its type is shown: the change of 4c in the row of the
    array. -/
theorem renderFrom_primarray_sensitive_own (K : Consts) (ts : TypeSystem) (cass : List Cas) (hp hp' : Heap)
    (o : Opts) (hsh hsh' : Nat → Int) (indexed indexed' addrs addrs' : List Nat)
    (hperm : addrs.Perm addrs') (hidx : ∀ x, x ∈ indexed ↔ x ∈ indexed') (hn : addrs.Nodup) (hd : Distinct hp addrs)
    (arr : Nat) (v v' : Val)
    (ha : arr ∈ addrs) (hex : o.exclude.contains (tyOf hp arr) = false) (hisarr : isArrayFs K hp arr = true)
    (hel : slot hp arr "elements" = some v)
    (hset : Heap.setSlot hp arr "elements" v' = .ok hp') (hdiff : PrimArrDiffer v v')
    (secs secs' : List Section)
    (h : renderFrom K ts cass hp o hsh indexed addrs = .ok secs)
    (h' : renderFrom K ts cass hp' o hsh' indexed' addrs' = .ok secs') : secs ≠ secs' :=
  have u := setSlot_upd hel hset
  upd_sens u elements_ne.1 elements_ne.2.1 hperm hidx hd h h' ha hex (.elems hisarr hel u.same)
    (fun _ _ _ _ => cellNe_primArr hdiff)

/-- **5. view.**  The `sofa` slot of the collected structure `a` (of a shown type) holds the sofa of view `vn` of CAS `ci`;
    the second heap is the first after `a.sofa = <sofa of view vn' of CAS ci'>`; the two views have different sofaIDs,
    neither of which ends in `)`.  Then the two tables differ. -/
theorem renderFrom_view_sensitive (K : Consts) (ts : TypeSystem) (cass : List Cas) (hp hp' : Heap) (o : Opts)
    (hsh hsh' : Nat → Int) (indexed indexed' addrs addrs' : List Nat)
    (hperm : addrs.Perm addrs') (hidx : ∀ x, x ∈ indexed ↔ x ∈ indexed') (hn : addrs.Nodup) (hd : Distinct hp addrs)
    (hx : XidInj hp addrs)
    (a ci ci' : Nat) (vn vn' : String) (c c' : Cas) (v v' : View)
    (ha : a ∈ addrs) (hex : o.exclude.contains (tyOf hp a) = false)
    (hs : slot hp a "sofa" = some (.sofa ci vn)) (hset : Heap.setSlot hp a "sofa" (.sofa ci' vn') = .ok hp')
    (hc : cass[ci]? = some c) (hv : Cas.getViewRec c vn = some v)
    (hc' : cass[ci']? = some c') (hv' : Cas.getViewRec c' vn' = some v')
    (hne : v.sofa.sofaID ≠ v'.sofa.sofaID) (hp1 : NoParenEnd v.sofa.sofaID) (hp2 : NoParenEnd v'.sofa.sofaID)
    (secs secs' : List Section)
    (h : renderFrom K ts cass hp o hsh indexed addrs = .ok secs)
    (h' : renderFrom K ts cass hp' o hsh' indexed' addrs' = .ok secs') : secs ≠ secs' :=
  by
  have u := setSlot_upd hs hset
  have ag := u.agreeSort sofa_ne.1 sofa_ne.2
  refine anchorText_sens ag hx (hx.congr u.xid) h (renderFrom_ok_of_perm hperm hidx (ag.distinct hd) h') a ha hex ?_
  intro view view' n n' hvw hvw' e
  rw [viewTag_sofa hs hc hv] at hvw
  rw [viewTag_sofa u.same hc' hv'] at hvw'
  cases hvw
  cases hvw'
  -- neither text ends in `)`: the counters can be split off, then the common prefix and the `@`
  have el := congrArg String.toList
    (withCount_inj _ _ n n' (noParenEnd_of_sofa _ _ hp1) (noParenEnd_of_sofa _ _ hp2) e).1
  simp only [String.toList_append] at el
  exact hne (String.toList_inj.1 (List.append_cancel_left (List.append_cancel_left el)))

/-- **6. indexed status.**  With `mark_indexed`, a collected structure `a` of a shown type that is indexed in one call
    and not in the other makes the tables differ — whatever else differs between the two indexed lists. -/
theorem renderFrom_indexed_sensitive (K : Consts) (ts : TypeSystem) (cass : List Cas) (hp : Heap) (o : Opts)
    (hsh hsh' : Nat → Int) (indexed indexed' addrs addrs' : List Nat)
    (hperm : addrs.Perm addrs') (hn : addrs.Nodup) (hd : Distinct hp addrs) (hx : XidInj hp addrs)
    (a : Nat) (ha : a ∈ addrs) (hex : o.exclude.contains (tyOf hp a) = false)
    (hmark : o.markIndexed = true) (hin : a ∈ indexed) (hnin : a ∉ indexed')
    (secs secs' : List Section)
    (h : renderFrom K ts cass hp o hsh indexed addrs = .ok secs)
    (h' : renderFrom K ts cass hp o hsh' indexed' addrs' = .ok secs') : secs ≠ secs' :=
  by
  have h'' := renderFrom_ok_of_perm (hsh := hsh) (indexed := indexed') hperm (fun _ => Iff.rfl) hd h'
  refine anchorText_sens (AgreeSort.refl hp) hx hx h h'' a ha hex ?_
  intro view view' n n' hvw hvw'
  cases hvw.symm.trans hvw'
  exact markPart_ne hmark hin hnin _ (viewTag_shape hvw) n n'

/-- **totality.**  `renderFrom` does not raise on well-formed input: arrays are nested without a cycle and within the
    recursion budget `2 * |heap| + 2` (`need` is the certificate, `WellNested`), and every collected structure has a registered type, a
    `sofa` slot that is absent or points to an existing view, a sofa and non-negative offsets where covered text is
    shown, and — if it is an array — an `elements` slot (`RowOk`). -/
theorem renderFrom_total (K : Consts) (ts : TypeSystem) (cass : List Cas) (hp : Heap) (o : Opts) (hsh : Nat → Int)
    (indexed addrs : List Nat) (need : Nat → Nat) (wn : WellNested K hp need)
    (hrow : ∀ a ∈ addrs, RowOk K ts cass hp o need a) :
    ∃ secs, renderFrom K ts cass hp o hsh indexed addrs = .ok secs :=
  renderFrom_total_aux K ts cass hp o hsh indexed addrs need wn hrow

/-- the side condition `XidInj` holds for the list `cas_to_comparable_text` passes on (`render` calls `renderFrom` with
    `st.heap` and `st.allFs.map (·.2)` of a successful `findAllFs`) -/
theorem xidInj_of_findAllFs (K : Consts) (ts : TypeSystem) (o : Traverse.Opts) (hp : Heap) (nx : Int)
    (seeds : List Nat) (st : St) (h : findAllFs K ts o hp nx seeds = .ok st) :
    XidInj st.heap (st.allFs.map (·.2)) := by
  have inv := (findAllFs_inv K ts o hp nx seeds st h).1
  intro a ha b hb e
  obtain ⟨⟨x, a'⟩, hxa, rfl⟩ := List.mem_map.1 ha
  obtain ⟨⟨y, b'⟩, hyb, rfl⟩ := List.mem_map.1 hb
  simp only [] at e ⊢
  rw [inv.link x a' hxa, inv.link y b' hyb] at e
  cases e
  exact congrArg Prod.snd (Det.inj_of_nodup_map (·.1) _ inv.nodupK hxa hyb rfl)

/-- a structure with a sofa whose id does not end in `)` has a plain anchor text (a decidable sufficient condition for
    `AnchorPlain`) -/
theorem anchorPlain_of_sofaID (cass : List Cas) (hp : Heap) (indexed : List Nat) (o : Opts) (a ci : Nat) (vn : String)
    (c : Cas) (v : View) (hs : slot hp a "sofa" = some (.sofa ci vn)) (hc : cass[ci]? = some c)
    (hv : Cas.getViewRec c vn = some v) (hp' : NoParenEnd v.sofa.sofaID) : AnchorPlain cass hp indexed o a :=
  anchorPlain_of_sofa hs hc hv hp'

/-! ### Non-vacuity

One instance for all theorems (`Proofs/ComparableSensDemo.lean`): the built-in type system plus `x.Tok` (an annotation
type with an Integer feature `n`, a reference feature `r`, an FSArray feature `arr` and an IntegerArray feature `ia`), a
CAS with the views `V` and `W`, four `x.Tok` annotations (three in `V`, one in `W`), an FSArray and an IntegerArray; all
six collected.  The hypotheses are checked by the kernel (Boolean checkers, `decide +kernel`); that both runs succeed
follows from `renderFrom_total` (the anchor computation itself does not evaluate in the kernel: `String.splitOn`). -/

section NonVacuity
open SensDemo

/-- 1: `n` of structure 0 changed from 7 to 8; second run with another order, indexed list and hash -/
example : ∃ secs secs', renderFrom K tsD [casD] hpD {} hshD idxD addrsD = .ok secs ∧
    renderFrom K tsD [casD] hpPrim {} hshD' idxD' addrsD' = .ok secs' ∧ secs ≠ secs' := by
  obtain ⟨secs, h⟩ := total_first hshD idxD
  obtain ⟨secs', h'⟩ := total_hpPrim hshD' idxD'
  exact ⟨secs, secs', h, h', renderFrom_prim_sensitive K tsD [casD] hpD hpPrim {} hshD hshD' idxD idxD' addrsD addrsD'
    perm_addrs idx_iff nodup_addrs distinct_hpD 0 "n" (.int 7) (.int 8) tokT mem0 (notExcl 0) notArr0 getType0 n_col
    (by decide) (by decide) slot_n set_prim (by decide) secs secs' h h'⟩

/-- 2: `end` of structure 1 changed from 2 to 3 -/
example : ∃ secs secs', renderFrom K tsD [casD] hpD {} hshD idxD addrsD = .ok secs ∧
    renderFrom K tsD [casD] hpOff {} hshD' idxD' addrsD' = .ok secs' ∧ secs ≠ secs' := by
  obtain ⟨secs, h⟩ := total_first hshD idxD
  obtain ⟨secs', h'⟩ := total_hpOff hshD' idxD'
  exact ⟨secs, secs', h, h', renderFrom_offset_sensitive K tsD [casD] hpD hpOff {} hshD hshD' idxD idxD' addrsD addrsD'
    perm_addrs idx_iff nodup_addrs distinct_hpD distinct_hpOff xidInj_hpD 1 "end" 2 3 mem1 (notExcl 1) annot1
    (Or.inr rfl) slot_end1 set_off (by decide) secs secs' h h'⟩

/-- 3: `r` of structure 0 redirected from 1 to 2 -/
example : ∃ secs secs', renderFrom K tsD [casD] hpD {} hshD idxD addrsD = .ok secs ∧
    renderFrom K tsD [casD] hpRef {} hshD' idxD' addrsD' = .ok secs' ∧ secs ≠ secs' := by
  obtain ⟨secs, h⟩ := total_first hshD idxD
  obtain ⟨secs', h'⟩ := total_hpRef hshD' idxD'
  exact ⟨secs, secs', h, h', renderFrom_ref_sensitive K tsD [casD] hpD hpRef {} hshD hshD' idxD idxD' addrsD addrsD'
    perm_addrs idx_iff nodup_addrs distinct_hpD xidInj_hpD 0 "r" 1 2 tokT mem0 (notExcl 0) notArr0 getType0 r_col
    (by decide) (by decide) slot_r set_ref (by decide) mem1 mem2 notArr1 notArr2 (plain1 idxD) (plain2 idxD)
    secs secs' h h'⟩

/-- 4a: element 0 of the FSArray 4 (shown in column `arr` of structure 0) replaced: 1 becomes 3 -/
example : ∃ secs secs', renderFrom K tsD [casD] hpD {} hshD idxD addrsD = .ok secs ∧
    renderFrom K tsD [casD] hpFsa {} hshD' idxD' addrsD' = .ok secs' ∧ secs ≠ secs' := by
  obtain ⟨secs, h⟩ := total_first hshD idxD
  obtain ⟨secs', h'⟩ := total_hpFsa hshD' idxD'
  exact ⟨secs, secs', h, h', renderFrom_fsarray_elem_sensitive K tsD [casD] hpD hpFsa {} hshD hshD' idxD idxD' addrsD
    addrsD' perm_addrs idx_iff nodup_addrs distinct_hpD xidInj_hpD 0 "arr" 4 [some 1, some 2] 0 1 3 tokT mem0
    (notExcl 0) notArr0 getType0 arr_col slot_arr isArr4 slot_el4 rfl set_fsa (by decide) mem1 mem3 notArr1 notArr3
    (plain1 idxD) (plain3 idxD) secs secs' h h'⟩

/-- 4b: the same change seen in the row of the (collected) FSArray itself -/
example : ∃ secs secs', renderFrom K tsD [casD] hpD {} hshD idxD addrsD = .ok secs ∧
    renderFrom K tsD [casD] hpFsa {} hshD' idxD' addrsD' = .ok secs' ∧ secs ≠ secs' := by
  obtain ⟨secs, h⟩ := total_first hshD idxD
  obtain ⟨secs', h'⟩ := total_hpFsa hshD' idxD'
  exact ⟨secs, secs', h, h', renderFrom_fsarray_elem_sensitive_own K tsD [casD] hpD hpFsa {} hshD hshD' idxD idxD'
    addrsD addrsD' perm_addrs idx_iff nodup_addrs distinct_hpD xidInj_hpD 4 [some 1, some 2] 0 1 3 mem4
    (notExcl 4) isArr4 slot_el4 rfl set_fsa (by decide) mem1 mem3 notArr1 notArr3
    (plain1 idxD) (plain3 idxD) secs secs' h h'⟩

/-- 4c: the IntegerArray 5 (shown in column `ia` of structure 0) changed from `[1, 2]` to `[1, 3]` -/
example : ∃ secs secs', renderFrom K tsD [casD] hpD {} hshD idxD addrsD = .ok secs ∧
    renderFrom K tsD [casD] hpIa {} hshD' idxD' addrsD' = .ok secs' ∧ secs ≠ secs' := by
  obtain ⟨secs, h⟩ := total_first hshD idxD
  obtain ⟨secs', h'⟩ := total_hpIa hshD' idxD'
  exact ⟨secs, secs', h, h', renderFrom_primarray_sensitive K tsD [casD] hpD hpIa {} hshD hshD' idxD idxD' addrsD
    addrsD' perm_addrs idx_iff nodup_addrs distinct_hpD 0 "ia" 5 (.ints [1, 2]) (.ints [1, 3]) tokT mem0
    (notExcl 0) notArr0 getType0 ia_col slot_ia isArr5 slot_el5 set_ia (by decide) secs secs' h h'⟩

/-- 4d: the same change seen in the row of the (collected) IntegerArray itself -/
example : ∃ secs secs', renderFrom K tsD [casD] hpD {} hshD idxD addrsD = .ok secs ∧
    renderFrom K tsD [casD] hpIa {} hshD' idxD' addrsD' = .ok secs' ∧ secs ≠ secs' := by
  obtain ⟨secs, h⟩ := total_first hshD idxD
  obtain ⟨secs', h'⟩ := total_hpIa hshD' idxD'
  exact ⟨secs, secs', h, h', renderFrom_primarray_sensitive_own K tsD [casD] hpD hpIa {} hshD hshD' idxD idxD' addrsD
    addrsD' perm_addrs idx_iff nodup_addrs distinct_hpD 5 (.ints [1, 2]) (.ints [1, 3]) mem5
    (notExcl 5) isArr5 slot_el5 set_ia (by decide) secs secs' h h'⟩

/-- 5: structure 2 moved from view `V` to view `W` -/
example : ∃ secs secs', renderFrom K tsD [casD] hpD {} hshD idxD addrsD = .ok secs ∧
    renderFrom K tsD [casD] hpView {} hshD' idxD' addrsD' = .ok secs' ∧ secs ≠ secs' := by
  obtain ⟨secs, h⟩ := total_first hshD idxD
  obtain ⟨secs', h'⟩ := total_hpView hshD' idxD'
  exact ⟨secs, secs', h, h', renderFrom_view_sensitive K tsD [casD] hpD hpView {} hshD hshD' idxD idxD' addrsD addrsD'
    perm_addrs idx_iff nodup_addrs distinct_hpD xidInj_hpD 2 0 0 "V" "W" casD casD _ _ mem2 (notExcl 2) slot_sofa2
    set_view cas0 viewV cas0 viewW sofaIDs_ne plainV plainW secs secs' h h'⟩

/-- 6: structure 1 indexed in the first call, not in the second -/
example : ∃ secs secs', renderFrom K tsD [casD] hpD {} hshD idxD addrsD = .ok secs ∧
    renderFrom K tsD [casD] hpD {} hshD' idxD1 addrsD' = .ok secs' ∧ secs ≠ secs' := by
  obtain ⟨secs, h⟩ := total_first hshD idxD
  obtain ⟨secs', h'⟩ := total_second hshD' idxD1
  exact ⟨secs, secs', h, h', renderFrom_indexed_sensitive K tsD [casD] hpD {} hshD hshD' idxD idxD1 addrsD addrsD'
    perm_addrs nodup_addrs distinct_hpD xidInj_hpD 1 mem1 (notExcl 1) rfl (by decide) (by decide) secs secs' h h'⟩

/-- totality: the hypotheses of `renderFrom_total` hold on the instance (this is how the runs above are known to
    succeed) -/
example : ∃ need, WellNested K hpD need ∧ ∀ a ∈ addrsD, RowOk K tsD [casD] hpD {} need a :=
  ⟨needD, wellNestedB_sound needD_pos isArray_empty wellNestedB_hpD,
    fun a ha => rowOkB_sound (List.all_eq_true.1 rowOkB_hpD a ha)⟩

end NonVacuity

end Cassis.Comparable

section Axioms
open Cassis.Comparable
#print axioms renderFrom_prim_sensitive
#print axioms renderFrom_offset_sensitive
#print axioms renderFrom_ref_sensitive
#print axioms renderFrom_fsarray_elem_sensitive
#print axioms renderFrom_fsarray_elem_sensitive_own
#print axioms renderFrom_primarray_sensitive
#print axioms renderFrom_primarray_sensitive_own
#print axioms renderFrom_view_sensitive
#print axioms renderFrom_indexed_sensitive
#print axioms renderFrom_total
#print axioms xidInj_of_findAllFs
#print axioms anchorPlain_of_sofaID
end Axioms
