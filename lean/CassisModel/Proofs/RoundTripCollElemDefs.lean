/-
Round trip with collections, layer G1 of `RoundTripColl_NOTES.md` (first pass on a general structure): shared definitions.

Per feature `f` of the structure the writer contributes at most one attribute (`ca f : Option String`) and a list of
child elements (`ck f : List (Option String)`), never both, all under the written name of `f`.  The element is
`gElem nm ty x ca ck fs = { ty, attrs := (ID, showInt x) :: gAttrs nm ca fs, kids := gKids nm ck fs }` for a naming
function `nm` (`xmlName` for the writer); the reader layer (`RoundTripCollElemReader`) is proved for arbitrary `ca`/`ck`
(per feature of the `Shape` the reader needs) and any `nm` that the reader's renaming turns into the stored names, the
writer layer (`RoundTripCollElemWriter`) shows the shape per kind of feature.
-/
import CassisModel.Proofs.RoundTripCollStmts

namespace Cassis.Xmi.CG1
open Cassis.TS Cassis.Lex

def gAttrs (nm : Feature → String) (ca : Feature → Option String) : List Feature → List (String × String)
  | [] => []
  | f :: fs => (match ca f with | some s => [(nm f, s)] | none => []) ++ gAttrs nm ca fs

def gKids (nm : Feature → String) (ck : Feature → List (Option String)) : List Feature → List (String × Option String)
  | [] => []
  | f :: fs => (ck f).map (fun e => (nm f, e)) ++ gKids nm ck fs

def gElem (nm : Feature → String) (ty : String) (x : Int) (ca : Feature → Option String)
    (ck : Feature → List (Option String)) (fs : List Feature) : XElem :=
  { ty := ty, attrs := (ID, showInt x) :: gAttrs nm ca fs, kids := gKids nm ck fs }

/-- the text of the child element the writer emits for a head of a string list -/
def kidTxt : Val → Option String
  | .str s => normTxt (some s)
  | _ => none

/-- what the reader needs to know about the contribution `av`/`ks` of the feature `f` before it turns to the child
    elements -/
structure Shape0 (f : Feature) (av : Option String) (ks : List (Option String)) : Prop where
  names : f.name ≠ ID ∧ f.name ≠ "self" ∧ f.name ≠ "type"
  /-- a feature writes an attribute or children, never both -/
  excl : ks ≠ [] → av = none
  kidSofa : ks ≠ [] → f.name ≠ "sofa"
  /-- the `sofa` attribute is an integer literal -/
  sofa : f.name = "sofa" → ∀ s, av = some s → (parseInt s).isSome = true

/-- `Shape0` and what the reader needs to build the collections for the child elements: children only for StringArray /
    StringList ranges; `res` makes the written name of `f` one that the reader's renaming turns into the stored name -/
structure Shape (K : Consts) (f : Feature) (av : Option String) (ks : List (Option String)) : Prop
    extends Shape0 f av ks where
  res : ResOk f
  kid : ks ≠ [] → (isPrimitiveArray K f.range = true ∨ (isPrimitiveList K f.range = true ∧ f.range = STRING_LIST))

end Cassis.Xmi.CG1
