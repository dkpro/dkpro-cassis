/-
C19 — typecheck reports exactly the FSArray element-type violations.

Per structure: `typecheck` returns one error carrying the owner's xmi:id for each non-null element of an
FSArray-valued feature whose type is not subsumed by the declared element type (absent = TOP), nothing
else, and does not raise on unset features, empty arrays, missing element lists or null elements.
Per CAS: the concatenation over everything `_find_all_fs` collects (indexed or merely reachable).
Under `Consistent` (C10) "not subsumed" is "not a descendant" of the declared element type.
-/
import CassisModel.Proofs.Typecheck
import CassisModel.Properties.C10

namespace Cassis.Traverse
open Cassis.TS

theorem typecheckFs_exact (ts : TypeSystem) (hp : Heap) (a : Nat) (errs : List (Option Int))
    (hw : WfArrays ts hp a) (h : typecheckFs ts hp a = .ok errs) :
    ∃ ob t, hp[a]? = some ob ∧ getType ts ob.ty = .ok t ∧ errs = expectedErrors ts hp a ob t := by
  obtain ⟨ob, t, ho, ht, _⟩ := hw.obj
  refine ⟨ob, t, ho, ht, ?_⟩
  rw [typecheckFs_eq ts hp a ob t hw ho ht] at h
  exact (Except.ok.inj h).symm

/-- totality: with well-formed FSArray features it never raises — in particular not on unset features,
    empty arrays, arrays without element list, or null elements -/
theorem typecheckFs_total (ts : TypeSystem) (hp : Heap) (a : Nat) (hw : WfArrays ts hp a) :
    ∃ errs, typecheckFs ts hp a = .ok errs := by
  obtain ⟨ob, t, ho, ht, _⟩ := hw.obj
  exact ⟨_, typecheckFs_eq ts hp a ob t hw ho ht⟩

/-- empty result iff there is no offending element -/
theorem typecheckFs_nil_iff (ts : TypeSystem) (hp : Heap) (a : Nat) (errs : List (Option Int))
    (hw : WfArrays ts hp a) (h : typecheckFs ts hp a = .ok errs) :
    errs = [] ↔ ∀ ob t, hp[a]? = some ob → getType ts ob.ty = .ok t →
      ∀ f ∈ fsArrayFeatures t, offending ts hp (f.elem.getD TOP) (elementsOf hp a f) = [] := by
  constructor
  · intro hn ob t ho ht f hf
    rw [typecheckFs_eq ts hp a ob t hw ho ht] at h
    have := (Except.ok.inj h)
    rw [hn, expectedErrors, List.flatMap_eq_nil_iff] at this
    exact List.map_eq_nil_iff.mp (this f hf)
  · intro hall
    obtain ⟨ob, t, ho, ht, _⟩ := hw.obj
    rw [typecheckFs_eq ts hp a ob t hw ho ht] at h
    rw [← Except.ok.inj h, expectedErrors, List.flatMap_eq_nil_iff]
    intro f hf
    rw [hall ob t ho ht f hf]; rfl

/-- every reported error carries the owner's id, and there are as many as offending elements -/
theorem typecheckFs_count (ts : TypeSystem) (hp : Heap) (a : Nat) (errs : List (Option Int)) (ob : Obj) (t : TypeRec)
    (hw : WfArrays ts hp a) (h : typecheckFs ts hp a = .ok errs) (ho : hp[a]? = some ob) (ht : getType ts ob.ty = .ok t) :
    (∀ e ∈ errs, e = ob.xid) ∧
    errs.length = ((fsArrayFeatures t).map (fun f => (offending ts hp (f.elem.getD TOP) (elementsOf hp a f)).length)).sum := by
  rw [typecheckFs_eq ts hp a ob t hw ho ht] at h
  rw [← Except.ok.inj h, expectedErrors]
  constructor
  · intro e he
    obtain ⟨f, _, hm⟩ := List.mem_flatMap.mp he
    obtain ⟨_, _, rfl⟩ := List.mem_map.mp hm
    rfl
  · rw [List.length_flatMap]
    simp only [List.length_map]

/-- an element offends iff its type is not the declared element type or a transitive subtype of it -/
theorem offending_iff_not_anc (ts : TypeSystem) (hc : Consistent ts) (hp : Heap) (elemTy : String)
    (l : List (Option Nat)) (ea : Nat) (eo : Obj) (he : hp[ea]? = some eo)
    (h1 : hasExact ts elemTy = true) (h2 : hasExact ts eo.ty = true) :
    ea ∈ offending ts hp elemTy l ↔ (some ea ∈ l ∧ ¬ Anc ts elemTy eo.ty) := by
  rw [← subsumes_iff_ancestor ts hc elemTy eo.ty h1 h2]
  induction l with
  | nil => simp [offending_nil]
  | cons r rest ih =>
    cases r with
    | none => rw [offending_none, ih]; simp
    | some eb =>
      by_cases hab : eb = ea
      · subst hab
        rw [offending_some ts hp elemTy rest eb eo he]
        cases hs : subsumes ts elemTy eo.ty
        · simp
        · simp only [if_true]; rw [ih]; simp [hs]
      · have hne : ¬ ea = eb := fun h => hab h.symm
        cases hb : hp[eb]? with
        | none =>
          have : offending ts hp elemTy (some eb :: rest) = offending ts hp elemTy rest := by
            simp [offending, hb]
          rw [this, ih]
          simp [hne]
        | some eo' =>
          rw [offending_some ts hp elemTy rest eb eo' hb]
          split
          · rw [ih]; simp [hne]
          · rw [List.mem_cons, ih]; simp [hne]

/-- the whole CAS: the errors of every collected structure, in collection order, nothing else -/
theorem typecheckCas_exact (K : Consts) (ts : TypeSystem) (c : Cas) (hp : Heap) (s : St)
    (errs : List (Option Int)) (h : typecheckCas K ts c hp = .ok (s, errs)) :
    findAllFs K ts {} hp c.nextXid (defaultSeeds c) = .ok s ∧
    ∃ per : List (List (Option Int)),
      per.length = s.allFs.length ∧ errs = per.flatten ∧
      ∀ i (hi : i < s.allFs.length) (hj : i < per.length), typecheckFs ts s.heap (s.allFs[i]).2 = .ok per[i] := by
  unfold typecheckCas at h
  cases h1 : findAllFs K ts {} hp c.nextXid (defaultSeeds c) with
  | error e => rw [h1] at h; cases h
  | ok s' =>
    rw [h1] at h
    simp only at h
    cases h2 : typecheckAll ts s'.heap (s'.allFs.map (·.2)) with
    | error e => rw [h2] at h; cases h
    | ok errs' =>
      rw [h2] at h
      simp only at h
      have hh := Except.ok.inj h
      have hs : s' = s := congrArg Prod.fst hh
      have he : errs' = errs := congrArg Prod.snd hh
      subst hs; subst he
      refine ⟨rfl, ?_⟩
      obtain ⟨per, hl, hfl, hall⟩ := typecheckAll_ok ts s'.heap _ _ h2
      rw [List.length_map] at hl
      refine ⟨per, hl, hfl, ?_⟩
      intro i hi hj
      have := hall i (by rw [List.length_map]; exact hi) hj
      rw [List.getElem_map] at this
      exact this

/-- it completes whenever the traversal completes and every collected structure has well-formed arrays -/
theorem typecheckCas_total (K : Consts) (ts : TypeSystem) (c : Cas) (hp : Heap) (s : St)
    (hf : findAllFs K ts {} hp c.nextXid (defaultSeeds c) = .ok s)
    (hw : ∀ p ∈ s.allFs, WfArrays ts s.heap p.2) :
    ∃ errs, typecheckCas K ts c hp = .ok (s, errs) := by
  obtain ⟨errs, he⟩ := typecheckAll_total ts s.heap (s.allFs.map (·.2)) (by
    intro a ha
    obtain ⟨p, hp', rfl⟩ := List.mem_map.mp ha
    exact typecheckFs_total ts s.heap p.2 (hw p hp'))
  exact ⟨errs, by simp only [typecheckCas, hf, he]⟩

/-! An evaluated instance: elements [Annotation instance, null, Sofa-typed instance] under declared element
    type Annotation -/
def demoHp : Heap :=
  [ { ty := "uima.tcas.Annotation", ts := 0, xid := some 5, slots := [] },
    { ty := "uima.cas.Sofa", ts := 0, xid := some 6, slots := [] } ]

/-- the two instances as one statement: the kernel decodes and compares the type names once per declaration
    (`rfl` on the second one would have the elaborator evaluate it) -/
theorem typecheck_evals :
    offending Gen.builtinTS demoHp "uima.tcas.Annotation" [some 0, none, some 1] = [1] ∧
    (elemErrors Gen.builtinTS demoHp "uima.tcas.Annotation" (some 9) [some 0, none, some 1]).toOption =
      some [some 9] := by
  decide +kernel

example : offending Gen.builtinTS demoHp "uima.tcas.Annotation" [some 0, none, some 1] = [1] := typecheck_evals.1
example : elemErrors Gen.builtinTS demoHp "uima.tcas.Annotation" (some 9) [some 0, none, some 1] = .ok [some 9] := by
  have h := typecheck_evals.2
  cases h' : elemErrors Gen.builtinTS demoHp "uima.tcas.Annotation" (some 9) [some 0, none, some 1] with
  | error e => rw [h'] at h; cases h
  | ok r => rw [h'] at h; rw [Option.some.inj h]

end Cassis.Traverse
