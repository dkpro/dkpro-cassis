/-
C05 — Loading depends on what a document says, not on how it is laid out.

Proved: both loaders resolve references through id-keyed maps, and looking an id up does not depend on
the order in which the entries were recorded (distinct ids); the sofa records the XMI reader collects are
the same map for every order of the elements (`pass1_sofas_perm`); embedded JSON types are created supertypes
first whatever the order of declaration (`toposort_sound`, C02).
Equality of the whole loaded CAS across layouts of the document is `xmi_load_perm_coll` (`C05PermColl.lean`; flat:
`C05Perm.lean`) and `json_load_perm_coll` (`C05PermJsonColl.lean`; flat: `C05PermJson.lean`).  Prefixes,
attribute order, whitespace, escaping, JSON member order are not part of the abstract documents.
-/
import CassisModel.Proofs.XmiLookups
import CassisModel.Model.Json

namespace Cassis.Xmi
open Cassis.TS

/-- looking a structure up by id does not depend on the order of the recorded pairs -/
theorem lookupFs_perm (fss fss' : List (Int × Nat)) (hp : fss.Perm fss') (hn : (fss.map (·.1)).Nodup) (i : Int) :
    lookupFs fss i = lookupFs fss' i := by
  unfold lookupFs
  rw [findKey_perm fss fss' hp hn i]

/-- nor does the resolution of a list of references -/
theorem resolveIds_perm (fss fss' : List (Int × Nat)) (hp : fss.Perm fss') (hn : (fss.map (·.1)).Nodup) (toks : List String) :
    resolveIds fss toks = resolveIds fss' toks := by
  induction toks with
  | nil => rfl
  | cons s ss ih =>
    simp only [resolveIds]
    rw [ih]
    simp only [lookupFs_perm fss fss' hp hn]

/-- sofa elements anywhere in the document: the recorded sofas, as a map from xmi:id, do not depend on the
    order of the elements (documents with pairwise distinct sofa ids) -/
theorem pass1_sofas_perm (K : Consts) (ts : TypeSystem) (tsIdx : Nat) (lenient : Bool) (doc doc' : XDoc)
    (hperm : doc.Perm doc') (s r r' : Pass1)
    (h : pass1 K ts tsIdx lenient doc s = .ok r) (h' : pass1 K ts tsIdx lenient doc' s = .ok r')
    (hs : s.sofas = []) (hn : (r.sofas.map (·.1)).Nodup) (hlen : r.sofas.length = (doc.filter (fun e => e.ty == SOFA)).length) :
    r.sofas.Perm r'.sofas := by
  obtain ⟨h1, h2⟩ := pass1_sofas K ts tsIdx lenient doc s r h
  obtain ⟨h1', _⟩ := pass1_sofas K ts tsIdx lenient doc' s r' h'
  rw [hs] at h1 h1'
  have hP : (doc.filterMap sofaEntry).Perm (doc'.filterMap sofaEntry) := hperm.filterMap _
  -- as many recorded sofas as sofa elements: the ids are distinct, and then the table is the list of entries
  have hnd : ((doc.filterMap sofaEntry).map (·.1)).Nodup := setAll_nil_nodup (by rw [← h1, hlen, h2])
  rw [h1, h1', setAll_nil hnd, setAll_nil ((hP.map (·.1)).nodup_iff.mp hnd)]
  exact hP

end Cassis.Xmi

namespace Cassis.Json

/-- the JSON loader's id-keyed map: lookup does not depend on the order of recording -/
theorem lookup_perm (fss fss' : List (Int × Val)) (hp : fss.Perm fss') (hn : (fss.map (·.1)).Nodup) (i : Int) :
    lookup fss i = lookup fss' i := by
  unfold lookup
  rw [Cassis.Xmi.findKey_perm fss fss' hp hn i]

end Cassis.Json
