/-
The two lookups.  `getType` (`match_exactly=False`) read off its definition (`getType_cases`: the exact name, the one
type with that short name, or `typeNotFound`).  `getTypeExact` (`TypeSystem.get_type(name, match_exactly=True)`, used by the
XMI and JSON loaders to resolve the type an element names) against it: they agree whenever the exact lookup succeeds, and
on every name with a dot; on a name without a dot that is not registered `getTypeExact` fails where `getType` may find a
type by short name (finding L1).
-/
import CassisModel.Model.TypeSystem
import CassisModel.Proofs.Lists

namespace Cassis.TS

theorem find?_perm (ts ts' : TypeSystem) (ht : ts.types.Perm ts'.types) (hn : (ts.types.map (·.name)).Nodup)
    (n : String) : find? ts n = find? ts' n := by
  unfold find?
  apply Det.find?_perm _ _ _ ht
  intro a b ha hb hpa hpb
  apply Det.inj_of_nodup_map (·.name) _ hn ha hb
  have h1 : a.name = n := by simpa using hpa
  have h2 : b.name = n := by simpa using hpb
  rw [h1, h2]

theorem getType_cases (ts : TypeSystem) (n : String) :
    (∃ t, find? ts n = some t ∧ getType ts n = .ok t) ∨
    (∃ t, find? ts n = none ∧ hasDot n = false ∧ ts.types.filter (fun t => shortName t.name == n) = [t] ∧
      getType ts n = .ok t) ∨
    (find? ts n = none ∧ getType ts n = .error .typeNotFound) := by
  unfold getType
  cases find? ts n with
  | some t => exact .inl ⟨t, rfl, rfl⟩
  | none =>
    right
    cases hd : hasDot n with
    | true => exact .inr ⟨rfl, rfl⟩
    | false =>
      rw [if_neg Bool.false_ne_true]
      match hfl : ts.types.filter (fun t => shortName t.name == n) with
      | [t] => exact .inl ⟨t, rfl, rfl, hfl, by simp only [hfl]⟩
      | [] | _ :: _ :: _ => exact .inr ⟨rfl, by simp only [hfl]⟩

theorem getType_of_find {ts : TypeSystem} {n : String} {t : TypeRec} (h : find? ts n = some t) :
    getType ts n = .ok t := by
  rcases getType_cases ts n with ⟨_, h1, h2⟩ | ⟨_, h1, _⟩ | ⟨h1, _⟩ <;> rw [h] at h1 <;> cases h1
  exact h2

theorem getType_err (ts : TypeSystem) (n : String) (e : Err) (h : getType ts n = .error e) : e = .typeNotFound := by
  rcases getType_cases ts n with ⟨_, _, h2⟩ | ⟨_, _, _, _, h2⟩ | ⟨_, h2⟩ <;> rw [h2] at h <;> cases h
  rfl

theorem getType_mem {ts : TypeSystem} {s : String} {sup : TypeRec} (h : getType ts s = .ok sup) : sup ∈ ts.types := by
  rcases getType_cases ts s with ⟨t, h1, h2⟩ | ⟨t, _, _, h1, h2⟩ | ⟨_, h2⟩ <;> rw [h2] at h <;> cases h
  · exact List.mem_of_find?_eq_some h1
  · exact (List.mem_filter.mp (h1 ▸ List.mem_singleton.mpr rfl : sup ∈ ts.types.filter _)).1

theorem getType_dotted {ts : TypeSystem} {n : String} {t : TypeRec} (hd : hasDot n = true)
    (h : getType ts n = .ok t) : t.name = n := by
  rcases getType_cases ts n with ⟨_, h1, h2⟩ | ⟨_, _, h1, _, _⟩ | ⟨_, h2⟩
  · rw [h2] at h; cases h; simpa using List.find?_some h1
  · rw [hd] at h1; cases h1
  · rw [h2] at h; cases h

theorem getTypeExact_ok_iff {ts : TypeSystem} {n : String} {t : TypeRec} :
    getTypeExact ts n = .ok t ↔ find? ts n = some t := by
  unfold getTypeExact
  cases h : find? ts n with
  | none => simp
  | some t' => simp

theorem getTypeExact_of_find {ts : TypeSystem} {n : String} {t : TypeRec} (h : find? ts n = some t) :
    getTypeExact ts n = .ok t :=
  getTypeExact_ok_iff.mpr h

theorem getTypeExact_of_find_none {ts : TypeSystem} {n : String} (h : find? ts n = none) :
    getTypeExact ts n = .error .typeNotFound := by
  unfold getTypeExact; rw [h]

theorem getTypeExact_eq_getType_of_find {ts : TypeSystem} {n : String} {t : TypeRec} (h : find? ts n = some t) :
    getTypeExact ts n = .ok t ∧ getType ts n = .ok t :=
  ⟨getTypeExact_of_find h, getType_of_find h⟩

theorem getTypeExact_error {ts : TypeSystem} {n : String} {e : Err} (h : getTypeExact ts n = .error e) :
    find? ts n = none ∧ e = .typeNotFound := by
  cases hf : find? ts n with
  | none => rw [getTypeExact_of_find_none hf] at h; cases h; exact ⟨rfl, rfl⟩
  | some t' => rw [getTypeExact_of_find hf] at h; cases h

theorem getTypeExact_isSome {ts : TypeSystem} {n : String} :
    (find? ts n).isSome = true ↔ ∃ t, getTypeExact ts n = .ok t := by
  cases h : find? ts n with
  | none => simp [getTypeExact_of_find_none h]
  | some t' => simp [getTypeExact_of_find h]

theorem getType_of_getTypeExact {ts : TypeSystem} {n : String} {t : TypeRec} (h : getTypeExact ts n = .ok t) :
    getType ts n = .ok t :=
  getType_of_find (getTypeExact_ok_iff.mp h)

theorem getTypeExact_eq_getType_of_hasDot {ts : TypeSystem} {n : String} (h : hasDot n = true) :
    getTypeExact ts n = getType ts n := by
  cases hf : find? ts n with
  | some t => rw [getTypeExact_of_find hf, getType_of_find hf]
  | none =>
    rw [getTypeExact_of_find_none hf]
    rcases getType_cases ts n with ⟨_, h1, _⟩ | ⟨_, _, h1, _⟩ | ⟨_, h2⟩
    · rw [hf] at h1; cases h1
    · rw [h] at h1; cases h1
    · exact h2.symm

theorem getTypeExact_of_getType {ts : TypeSystem} {n : String} {t : TypeRec} (h : getType ts n = .ok t)
    (hf : (find? ts n).isSome = true) : getTypeExact ts n = .ok t := by
  cases hfn : find? ts n with
  | none => rw [hfn] at hf; cases hf
  | some t' =>
    have := getType_of_find hfn
    rw [h] at this; cases this
    exact getTypeExact_of_find hfn

theorem getTypeExact_name {ts : TypeSystem} {n : String} {t : TypeRec} (h : getTypeExact ts n = .ok t) : t.name = n := by
  have := List.find?_some (getTypeExact_ok_iff.mp h)
  simpa using this

theorem getTypeExact_mem {ts : TypeSystem} {n : String} {t : TypeRec} (h : getTypeExact ts n = .ok t) : t ∈ ts.types :=
  List.mem_of_find?_eq_some (getTypeExact_ok_iff.mp h)

end Cassis.TS
