/-
JSON round trip: the sofa pass of the reader (the fold of `sofaStep`, `sofaPass_eq`) over the written sofas in any order.
-/
import CassisModel.Proofs.RoundTripJsonDefs
import CassisModel.Proofs.JsonReader

namespace Cassis.Json
open Cassis.TS Cassis.Xmi

/-- the four setters of `parseSofa` and the final read on a CAS whose view `n` was just written -/
theorem sofa_setters (c : Cas) (n : String) (l : Bool) (v : View) (text : Option (List Nat))
    (m u : Option String) (a : Val) {α} (k : Cas → View → Except Err α) :
    (do
      let c1 ← Cas.setSofaString (Cas.setViewRec c n v) { view := n, lenient := l } text
      let c2 ← Cas.setSofaMime c1 { view := n, lenient := l } m
      let c3 ← Cas.setSofaUri c2 { view := n, lenient := l } u
      let c4 ← Cas.setSofaArray c3 { view := n, lenient := l } a
      let w ← Cas.cur c4 { view := n, lenient := l }
      k c4 w) =
    (let w : View := { v with sofa :=
        { v.sofa with text := text, conv := Offsets.createMapping v.sofa.conv text, mime := m, uri := u, arr := a } }
     k (Cas.setViewRec c n w) w) := by
  unfold Cas.setSofaString Cas.setSofaMime Cas.setSofaUri Cas.setSofaArray
  simp only [updSofa_set, cur_set, bind, Except.bind]

theorem empty_eq : Cas.empty = Cas.setViewRec { views := [], nextXid := 2, nextSofaNum := 2 } Cas.INITIAL_VIEW
    { sofa := { sofaID := Cas.INITIAL_VIEW, sofaNum := 1, xid := 1 } } := rfl

theorem map_toNat_ofNat (t : List Nat) (hs : ∀ cp ∈ t, Offsets.IsScalar cp) :
    List.map (Char.toNat ∘ Char.ofNat) t = t := by
  induction t with
  | nil => rfl
  | cons c t ih =>
    rw [List.map_cons, ih (fun x hx => hs x (List.mem_cons_of_mem _ hx))]
    show (Char.ofNat c).toNat :: t = _
    rw [toNat_ofNat_scalar c (hs c List.mem_cons_self)]

theorem renderSofa_jget (hp : Heap) (s : Sofa) (harr : s.arr = .none) (huri : s.uri = none) :
    jget (renderSofa hp s) "sofaID" = some (.str s.sofaID) ∧ jget (renderSofa hp s) "sofaNum" = some (.int s.sofaNum) ∧
    jget (renderSofa hp s) "sofaString" = s.text.map (fun t => JV.str (String.ofList (t.map Char.ofNat))) ∧
    jget (renderSofa hp s) "mimeType" = s.mime.map JV.str ∧ jget (renderSofa hp s) "sofaURI" = none ∧
    jget (renderSofa hp s) "@sofaArray" = none := by
  obtain ⟨sid, num, xid, text, mime, uri, arr, conv⟩ := s
  simp only at harr huri
  subst harr huri
  cases mime <;> cases text <;> simp [jget, renderSofa, List.find?]

theorem parseSofa_written (hp : Heap) (ci : Nat) (s : Sofa) (st : RState) (harr : s.arr = .none) (huri : s.uri = none)
    (hsc : ∀ t, s.text = some t → ∀ cp ∈ t, Offsets.IsScalar cp) :
    parseSofa ci st (renderSofa hp s) =
      (viewFor st.cas s.sofaID s.xid (some s.sofaNum)).bind fun c1 =>
        sofaTail st ci s.sofaID c1 s.text s.mime none .none := by
  obtain ⟨g1, g2, g3, g4, g5, g6⟩ := renderSofa_jget hp s harr huri
  have g0 : sofaIdOf (renderSofa hp s) = some s.sofaID := by
    show (match jget (renderSofa hp s) "sofaID" with | some (.str n) => some n | _ => none) = _
    rw [g1]
  rw [parseSofa_eq, g0]
  unfold numOf
  rw [g2, g3, g4, g5, g6]
  cases ht : s.text with
  | none => cases s.mime <;> rfl
  | some t =>
    have hm : List.map (Char.toNat ∘ Char.ofNat) t = t := map_toNat_ofNat t (hsc t ht)
    cases s.mime <;> simp [hm] <;> rfl

theorem parseSofa_later (hp : Heap) (ci : Nat) (s : Sofa) (st : RState)
    (harr : s.arr = .none) (huri : s.uri = none) (hconv : s.conv = Offsets.createMapping none s.text)
    (hsc : ∀ t, s.text = some t → ∀ cp ∈ t, Offsets.IsScalar cp)
    (hni : s.sofaID ≠ Cas.INITIAL_VIEW) (hnew : Cas.getViewRec st.cas s.sofaID = none) :
    parseSofa ci st (renderSofa hp s) =
      .ok { st with cas := Cas.setViewRec st.cas s.sofaID { sofa := s, idx := [] },
                    fss := setFs st.fss s.xid (.sofa ci s.sofaID),
                    maxId := max st.maxId s.xid, maxNum := max st.maxNum s.sofaNum } := by
  have hv : viewFor st.cas s.sofaID s.xid (some s.sofaNum) =
      .ok (Cas.setViewRec st.cas s.sofaID { sofa := { sofaID := s.sofaID, sofaNum := s.sofaNum, xid := s.xid } }) := by
    unfold viewFor Cas.createView
    rw [if_neg (by simpa using hni), hnew]
    rfl
  rw [parseSofa_written hp ci s st harr huri hsc, hv]
  show sofaTail _ _ _ _ _ _ _ _ = _
  rw [sofaTail_eq (Cas.getViewRec_set_same _ _ _), setViewRec_setViewRec]
  obtain ⟨sid, num, xid, text, mime, uri, arr, conv⟩ := s
  simp only at harr huri hconv
  subst harr huri hconv
  rfl

theorem parseSofa_init (hp : Heap) (ci : Nat) (s : Sofa) (st : RState) (c0 : Cas)
    (harr : s.arr = .none) (huri : s.uri = none) (hconv : s.conv = Offsets.createMapping none s.text)
    (hsc : ∀ t, s.text = some t → ∀ cp ∈ t, Offsets.IsScalar cp)
    (hid : s.sofaID = Cas.INITIAL_VIEW)
    (hcas : st.cas = Cas.setViewRec c0 Cas.INITIAL_VIEW
      { sofa := { sofaID := Cas.INITIAL_VIEW, sofaNum := 1, xid := 1 } }) :
    parseSofa ci st (renderSofa hp s) =
      .ok { st with cas := Cas.setViewRec c0 Cas.INITIAL_VIEW { sofa := s, idx := [] },
                    fss := setFs st.fss s.xid (.sofa ci s.sofaID),
                    maxId := max st.maxId s.xid, maxNum := max st.maxNum s.sofaNum } := by
  have hv : viewFor st.cas s.sofaID s.xid (some s.sofaNum) =
      .ok (Cas.setViewRec c0 s.sofaID { sofa := { sofaID := Cas.INITIAL_VIEW, sofaNum := s.sofaNum, xid := s.xid } }) := by
    unfold viewFor
    rw [if_pos (by simpa using hid), hcas, hid, updSofa_set]
    rfl
  rw [parseSofa_written hp ci s st harr huri hsc, hv]
  show sofaTail _ _ _ _ _ _ _ _ = _
  rw [sofaTail_eq (Cas.getViewRec_set_same _ _ _), setViewRec_setViewRec]
  obtain ⟨sid, num, xid, text, mime, uri, arr, conv⟩ := s
  simp only at harr huri hconv hid
  subst harr huri hconv hid
  rfl
/-- a written text sofa refers to no array: its step is `parseSofa` -/
theorem sofaStep_written (K : Consts) (ts : TypeSystem) (tsIdx ci : Nat) (all : List JFs) (hp : Heap) (s : Sofa)
    (harr : s.arr = .none) (huri : s.uri = none) (st : RState) :
    sofaStep K ts tsIdx ci all st (renderSofa hp s) = parseSofa ci st (renderSofa hp s) := by
  unfold sofaStep sofaPre
  rw [(renderSofa_jget hp s harr huri).2.2.2.2.2]
  rfl

/-- what the sofa pass needs of one written view -/
structure SofaOk (nv : String × View) : Prop where
  name : nv.2.sofa.sofaID = nv.1
  arr : nv.2.sofa.arr = .none
  uri : nv.2.sofa.uri = none
  conv : nv.2.sofa.conv = Offsets.createMapping none nv.2.sofa.text
  scalar : ∀ t, nv.2.sofa.text = some t → ∀ cp ∈ t, Offsets.IsScalar cp

theorem sofaOk_of_wf {c : Cas} {hp : Heap} (hwf : RTWf c hp) : ∀ nv ∈ c.views, SofaOk nv := by
  intro nv hnv
  refine ⟨hwf.names nv hnv, (hwf.text_sofa nv hnv).1, (hwf.text_sofa nv hnv).2, ?_, hwf.scalar nv hnv⟩
  cases ht : nv.2.sofa.text with
  | none => exact hwf.conv_none nv hnv ht
  | some t => exact hwf.conv nv hnv t ht

/-- the reader state after the sofas of the views `done` -/
structure SofaInv (ci' : Nat) (H : Heap) (done : List (String × View)) (st : RState) : Prop where
  heap : st.heap = H
  fss : st.fss = sofaEntries ci' done
  deferred : st.deferred = []
  views : st.cas.views = bareViews done
  maxId : 0 ≤ st.maxId
  maxNum : 0 ≤ st.maxNum
  bound : ∀ nv ∈ done, nv.2.sofa.xid ≤ st.maxId ∧ nv.2.sofa.sofaNum ≤ st.maxNum

theorem bareViews_keys (l : List (String × View)) : (bareViews l).map (·.1) = l.map (·.1) := by
  unfold bareViews; rw [List.map_map]; rfl

theorem sofaEntries_keys (ci' : Nat) (l : List (String × View)) :
    (sofaEntries ci' l).map (·.1) = l.map (·.2.sofa.xid) := by
  unfold sofaEntries; rw [List.map_map]; rfl

theorem bare_get : ∀ (vs : List (String × View)) (n : String),
    alistGet? (bareViews vs) n = (alistGet? vs n).map (fun v => ({ sofa := v.sofa, idx := [] } : View))
  | [], _ => rfl
  | (k, v) :: vs, n => by
    unfold bareViews
    rw [List.map_cons]
    unfold alistGet?
    dsimp only
    by_cases hk : k = n
    · rw [if_pos hk, if_pos hk]; rfl
    · rw [if_neg hk, if_neg hk]; exact bare_get vs n

theorem lookup_sofaEntries (ci' : Nat) {views : List (String × View)} (hnd : (views.map (·.2.sofa.xid)).Nodup)
    {nv : String × View} (hnv : nv ∈ views) : lookup (sofaEntries ci' views) nv.2.sofa.xid = some (.sofa ci' nv.1) :=
  lookup_of_mem_nodup _ (by rw [sofaEntries_keys]; exact hnd) _ _ (List.mem_map.mpr ⟨nv, hnv, rfl⟩)

namespace SofaPass

theorem bareViews_append (a b : List (String × View)) : bareViews (a ++ b) = bareViews a ++ bareViews b := by
  unfold bareViews; rw [List.map_append]

theorem sofaEntries_append (ci' : Nat) (a b : List (String × View)) :
    sofaEntries ci' (a ++ b) = sofaEntries ci' a ++ sofaEntries ci' b := by
  unfold sofaEntries; rw [List.map_append]

theorem sofaPass_later (K : Consts) (ts : TypeSystem) (tsIdx ci' : Nat) (all : List JFs) (hp : Heap) :
    ∀ (todo : List (String × View)) (st : RState),
      (∀ nv ∈ todo, SofaOk nv) → (∀ nv ∈ todo, nv.1 ≠ Cas.INITIAL_VIEW) →
      (st.cas.views.map (·.1) ++ todo.map (·.1)).Nodup →
      (st.fss.map (·.1) ++ todo.map (·.2.sofa.xid)).Nodup →
      ∃ s1 : RState,
        (todo.map (fun p => renderSofa hp p.2.sofa)).foldlM (sofaStep K ts tsIdx ci' all) st = .ok s1 ∧
        s1.heap = st.heap ∧ s1.deferred = st.deferred ∧ s1.fss = st.fss ++ sofaEntries ci' todo ∧
        s1.cas.views = st.cas.views ++ bareViews todo ∧
        st.maxId ≤ s1.maxId ∧ st.maxNum ≤ s1.maxNum ∧
        (∀ nv ∈ todo, nv.2.sofa.xid ≤ s1.maxId ∧ nv.2.sofa.sofaNum ≤ s1.maxNum)
  | [], st, _, _, _, _ => by
    refine ⟨st, rfl, rfl, rfl, ?_, ?_, Int.le_refl _, Int.le_refl _, ?_⟩
    · show st.fss = st.fss ++ []
      rw [List.append_nil]
    · show st.cas.views = st.cas.views ++ []
      rw [List.append_nil]
    · intro nv hnv; cases hnv
  | nv :: todo, st, hok, hlater, hn, hx => by
    have ok := hok nv List.mem_cons_self
    rw [List.map_cons] at hn hx
    have hkey : nv.1 ∉ st.cas.views.map (·.1) := by
      intro hmem
      exact (List.nodup_append.mp hn).2.2 _ hmem _ List.mem_cons_self rfl
    have hxid : nv.2.sofa.xid ∉ st.fss.map (·.1) := by
      intro hmem
      exact (List.nodup_append.mp hx).2.2 _ hmem _ List.mem_cons_self rfl
    have hnew : Cas.getViewRec st.cas nv.2.sofa.sofaID = none := by
      rw [ok.name]
      unfold Cas.getViewRec
      rw [alistGet?_eq_none_iff]
      exact hkey
    have hstep := parseSofa_later hp ci' nv.2.sofa st ok.arr ok.uri ok.conv ok.scalar
      (by rw [ok.name]; exact hlater nv List.mem_cons_self) hnew
    have hviews' : (Cas.setViewRec st.cas nv.2.sofa.sofaID { sofa := nv.2.sofa, idx := [] }).views =
        st.cas.views ++ [(nv.1, ({ sofa := nv.2.sofa, idx := [] } : View))] := by
      unfold Cas.setViewRec
      show alistSet st.cas.views _ _ = _
      rw [ok.name, alistSet_of_not_mem _ _ _ hkey]
    have hfss' : setFs st.fss nv.2.sofa.xid (.sofa ci' nv.2.sofa.sofaID) =
        st.fss ++ [(nv.2.sofa.xid, Val.sofa ci' nv.1)] := by
      rw [setFs_new _ _ _ hxid, ok.name]
    obtain ⟨s1, h1, hh, hd, hf, hv, hmi, hmn, hb⟩ := sofaPass_later K ts tsIdx ci' all hp todo
      { st with cas := Cas.setViewRec st.cas nv.2.sofa.sofaID { sofa := nv.2.sofa, idx := [] },
                fss := setFs st.fss nv.2.sofa.xid (.sofa ci' nv.2.sofa.sofaID),
                maxId := max st.maxId nv.2.sofa.xid, maxNum := max st.maxNum nv.2.sofa.sofaNum }
      (fun x hx' => hok x (List.mem_cons_of_mem _ hx')) (fun x hx' => hlater x (List.mem_cons_of_mem _ hx'))
      (by
        show ((Cas.setViewRec st.cas _ _).views.map (·.1) ++ _).Nodup
        rw [hviews', List.map_append, List.append_assoc]
        exact hn)
      (by
        show ((setFs st.fss _ _).map (·.1) ++ _).Nodup
        rw [hfss', List.map_append, List.append_assoc]
        exact hx)
    refine ⟨s1, ?_, hh, hd, ?_, ?_, ?_, ?_, ?_⟩
    · rw [List.map_cons, List.foldlM_cons, sofaStep_written K ts tsIdx ci' all hp nv.2.sofa ok.arr ok.uri, hstep]
      exact h1
    · rw [hf]
      show setFs st.fss _ _ ++ _ = _
      rw [hfss', List.append_assoc]
      rfl
    · rw [hv]
      show (Cas.setViewRec st.cas _ _).views ++ _ = _
      rw [hviews', List.append_assoc]
      rfl
    · have : max st.maxId nv.2.sofa.xid ≤ s1.maxId := hmi
      omega
    · have : max st.maxNum nv.2.sofa.sofaNum ≤ s1.maxNum := hmn
      omega
    · intro x hx'
      rcases List.mem_cons.mp hx' with rfl | hx''
      · have h1' : max st.maxId x.2.sofa.xid ≤ s1.maxId := hmi
        have h2' : max st.maxNum x.2.sofa.sofaNum ≤ s1.maxNum := hmn
        omega
      · exact hb x hx''

/-- **the sofa pass over the sofas in any order** (`iv` is the initial view; `sofaPass_eq`): the views of the reader are
    `iv :: pre ++ post`, its id map holds the sofas in document order -/
theorem sofaPass_anyOrder (K : Consts) (ts : TypeSystem) (tsIdx ci' : Nat) (all : List JFs) (hp H : Heap)
    (pre post : List (String × View)) (iv : String × View)
    (hok : ∀ nv ∈ pre ++ iv :: post, SofaOk nv)
    (hn : ((pre ++ iv :: post).map (·.1)).Nodup) (hx : ((pre ++ iv :: post).map (·.2.sofa.xid)).Nodup)
    (hiv : iv.1 = Cas.INITIAL_VIEW) :
    ∃ s1 : RState,
      ((pre ++ iv :: post).map (fun p => renderSofa hp p.2.sofa)).foldlM (sofaStep K ts tsIdx ci' all)
        { cas := Cas.empty, heap := H } = .ok s1 ∧
      s1.heap = H ∧ s1.fss = sofaEntries ci' (pre ++ iv :: post) ∧ s1.deferred = [] ∧
      s1.cas.views = bareViews (iv :: pre ++ post) ∧
      0 ≤ s1.maxId ∧ 0 ≤ s1.maxNum ∧
      (∀ nv ∈ pre ++ iv :: post, nv.2.sofa.xid ≤ s1.maxId ∧ nv.2.sofa.sofaNum ≤ s1.maxNum) := by
  have hn' := hn
  have hx' := hx
  rw [List.map_append, List.map_cons] at hn' hx'
  have hnd := List.nodup_append.mp hn'
  have hxd := List.nodup_append.mp hx'
  have hpre_ne : ∀ nv ∈ pre, nv.1 ≠ Cas.INITIAL_VIEW := by
    intro nv hnv e
    exact hnd.2.2 _ (List.mem_map_of_mem hnv) _ List.mem_cons_self (by rw [e, hiv])
  have hpost_ne : ∀ nv ∈ post, nv.1 ≠ Cas.INITIAL_VIEW := by
    intro nv hnv e
    have := (List.nodup_cons.mp hnd.2.1).1
    exact this (by rw [hiv, ← e]; exact List.mem_map_of_mem hnv)
  have okiv := hok iv (List.mem_append_right _ List.mem_cons_self)
  obtain ⟨sa, ha, hah, had, haf, hav, hami, hamn, hab⟩ :=
    sofaPass_later K ts tsIdx ci' all hp pre
      { cas := Cas.empty, heap := H }
      (fun nv hnv => hok nv (List.mem_append_left _ hnv)) hpre_ne
      (by
        show ([Cas.INITIAL_VIEW] ++ pre.map (·.1)).Nodup
        rw [List.singleton_append, List.nodup_cons]
        refine ⟨?_, hnd.1⟩
        intro hmem
        obtain ⟨nv, hnv, e⟩ := List.mem_map.mp hmem
        exact hpre_ne nv hnv e)
      (by
        show (([] : List Int) ++ pre.map (·.2.sofa.xid)).Nodup
        rw [List.nil_append]
        exact hxd.1)
  have hav' : sa.cas.views = (Cas.INITIAL_VIEW, ({ sofa := { sofaID := Cas.INITIAL_VIEW, sofaNum := 1, xid := 1 } } : View))
      :: bareViews pre := hav
  have haf' : sa.fss = sofaEntries ci' pre := by rw [haf]; rfl
  have hcas : sa.cas = Cas.setViewRec sa.cas Cas.INITIAL_VIEW
      { sofa := { sofaID := Cas.INITIAL_VIEW, sofaNum := 1, xid := 1 } } := by
    unfold Cas.setViewRec
    rw [hav']
    simp only [alistSet, if_true]
    cases hsa : sa.cas with
    | mk views nx ns =>
      rw [hsa] at hav'
      simp only at hav'
      rw [hav']
  have hstep := parseSofa_init hp ci' iv.2.sofa sa sa.cas okiv.arr okiv.uri okiv.conv okiv.scalar
    (by rw [okiv.name]; exact hiv) hcas
  have hxiv : iv.2.sofa.xid ∉ sa.fss.map (·.1) := by
    rw [haf', sofaEntries_keys]
    intro hmem
    exact hxd.2.2 _ hmem _ List.mem_cons_self rfl
  have hbv : (Cas.setViewRec sa.cas Cas.INITIAL_VIEW { sofa := iv.2.sofa, idx := [] }).views =
      bareViews (iv :: pre) := by
    unfold Cas.setViewRec
    show alistSet sa.cas.views _ _ = _
    rw [hav']
    simp only [alistSet, if_true]
    rw [← hiv]; rfl
  have hbf : setFs sa.fss iv.2.sofa.xid (.sofa ci' iv.2.sofa.sofaID) = sofaEntries ci' (pre ++ [iv]) := by
    rw [setFs_new _ _ _ hxiv, haf', okiv.name, sofaEntries_append]
    rfl
  obtain ⟨sb, hb, hbh, hbd, hbf2, hbv2, hbmi, hbmn, hbb⟩ :=
    sofaPass_later K ts tsIdx ci' all hp post
      { sa with cas := Cas.setViewRec sa.cas Cas.INITIAL_VIEW { sofa := iv.2.sofa, idx := [] },
                fss := setFs sa.fss iv.2.sofa.xid (.sofa ci' iv.2.sofa.sofaID),
                maxId := max sa.maxId iv.2.sofa.xid, maxNum := max sa.maxNum iv.2.sofa.sofaNum }
      (fun nv hnv => hok nv (List.mem_append_right _ (List.mem_cons_of_mem _ hnv))) hpost_ne
      (by
        show ((Cas.setViewRec sa.cas _ _).views.map (·.1) ++ _).Nodup
        rw [hbv, bareViews_keys]
        have : ((iv :: pre ++ post).map (·.1)).Nodup :=
          ((List.perm_middle (l₁ := pre) (a := iv) (l₂ := post)).symm.map (·.1)).nodup_iff.mpr hn
        rw [← List.map_append]
        exact this)
      (by
        show ((setFs sa.fss _ _).map (·.1) ++ _).Nodup
        rw [hbf, sofaEntries_keys, ← List.map_append, List.append_assoc]
        exact hx)
  refine ⟨sb, ?_, ?_, ?_, ?_, ?_, ?_, ?_, ?_⟩
  · rw [List.map_append, List.foldlM_append, ha]
    show List.foldlM (sofaStep K ts tsIdx ci' all) sa ((iv :: post).map (fun p => renderSofa hp p.2.sofa)) = Except.ok sb
    rw [List.map_cons, List.foldlM_cons, sofaStep_written K ts tsIdx ci' all hp iv.2.sofa okiv.arr okiv.uri, hstep]
    exact hb
  · rw [hbh]; exact hah
  · rw [hbf2]
    show setFs sa.fss _ _ ++ _ = _
    rw [hbf, ← sofaEntries_append, List.append_assoc]
    rfl
  · rw [hbd]; exact had
  · rw [hbv2]
    show (Cas.setViewRec sa.cas _ _).views ++ _ = _
    rw [hbv, ← bareViews_append]
  · have h1 : (0 : Int) ≤ sa.maxId := hami
    have h2 : max sa.maxId iv.2.sofa.xid ≤ sb.maxId := hbmi
    omega
  · have h1 : (0 : Int) ≤ sa.maxNum := hamn
    have h2 : max sa.maxNum iv.2.sofa.sofaNum ≤ sb.maxNum := hbmn
    omega
  · intro nv hnv
    have h2 : max sa.maxId iv.2.sofa.xid ≤ sb.maxId := hbmi
    have h3 : max sa.maxNum iv.2.sofa.sofaNum ≤ sb.maxNum := hbmn
    rcases List.mem_append.mp hnv with h | h
    · have := hab nv h
      omega
    · rcases List.mem_cons.mp h with rfl | h'
      · omega
      · exact hbb nv h'

end SofaPass

end Cassis.Json
