/-
Order independence of `merge_typesystems`: what a *successful* run of the merge loop leaves behind.
`X` is the set of names that may move (those declared with competing supertypes, and the document annotation type
when it is declared elsewhere than the built-in table has it: `Movable`, `MergePermMain.lean`); every other name sits
below its one declared supertype; the supertype of *every* registered name is the one the base type system gives it or
one of its declared supertypes (`TreeInv.edge`); and after a declaration `d` has been processed `d.super` is an ancestor
of `d.name` (`Done`) — and remains one, also when a whole subtree is moved.
-/
import CassisModel.Proofs.MergeReplay
import CassisModel.Proofs.MergeFeatInv

namespace Cassis.TS

variable {X : String → Prop}

/-- `d` has been processed: its features are covered and its supertype is an ancestor -/
def Done (ts : TypeSystem) (d : Decl) : Prop := CovD ts d ∧ Anc ts d.super d.name

theorem Done.mono {a b : TypeSystem} {d : Decl} (h : Done a d) (hs : SubP b X a) : Done b d :=
  ⟨.of_covIn (hs.reg _ h.2.right_reg) fun f hf => (h.1.covIn f hf).mono hs, anc_subP hs h.2⟩

theorem addOwnFeatures_run (K : Consts) (n : String) (hn : K.predefined.contains n = false) :
    ∀ (fs : List Feature) (ts ts' : TypeSystem), Consistent ts → FeatInv ts → hasExact ts n = true →
      addOwnFeatures ts n fs = .ok ts' →
      Consistent ts' ∧ FeatInv ts' ∧ Grow K ts ts' ∧ ∀ f ∈ fs, CovIn ts' n f := by
  intro fs
  induction fs with
  | nil =>
    intro ts ts' hc hf hreg h
    simp only [addOwnFeatures] at h
    cases h
    exact ⟨hc, hf, Grow.refl K ts, fun f hf => by cases hf⟩
  | cons f fs ih =>
    intro ts ts' hc hf hreg h
    simp only [addOwnFeatures] at h
    cases h1 : addFeature ts n { f with domain := n } with
    | error e => rw [h1] at h; cases h
    | ok ts1 =>
      rw [h1] at h
      simp only at h
      have hc1 := consistent_addFeature ts ts1 n _ hc h1
      have hf1 := featInv_addFeature ts ts1 n _ hc hf h1
      have hg1 : Grow K ts ts1 := addFeature_grow K hn h1
      obtain ⟨hc2, hf2, hg2, hall⟩ := ih ts1 ts' hc1 hf1 (hg1.reg n hreg) h
      refine ⟨hc2, hf2, hg1.trans hg2, fun x hx => ?_⟩
      rcases List.mem_cons.mp hx with rfl | hx
      · exact (addFeature_covers hc hf h1).mono (SubP.of_grow (X := fun _ => False) hc1 hg2)
      · exact hall x hx

/-! ### Re-parenting a type with its subtree, record by record -/

theorem anc_relink (ts : TypeSystem) (n c x : String) (t : TypeRec) (hc : Consistent ts)
    (hf : find? ts n = some t) (hts : t.super = some c) (hcx : Anc ts c x) (hna : ¬ Anc ts n x) :
    ∀ a b, Anc ts a b → Anc (relink ts n c x) a b := by
  have hfind := fun y => find?_relink ts n c x y hc.nodup
  have hreg1 : ∀ y, hasExact ts y = true → hasExact (relink ts n c x) y = true := by
    intro y hy
    obtain ⟨r0, hr0⟩ := (hasExact_iff_find _ _).mp hy
    exact (hasExact_iff_find _ _).mpr ⟨_, by rw [hfind, hr0]; rfl⟩
  have hregn : hasExact ts n = true := (hasExact_iff_find _ _).mpr ⟨t, hf⟩
  -- chains that end outside the subtree of `n`
  have avoid : ∀ a b, Anc ts a b → ¬ Anc ts n b → Anc (relink ts n c x) a b := by
    intro a b h
    induction h with
    | refl ha => intro _; exact Anc.refl _ (hreg1 _ ha)
    | step b s tb hfb hsb _ ih =>
      intro hnb
      have hbn : b ≠ n := fun e => hnb (e ▸ Anc.refl n hregn)
      have hns : ¬ Anc ts n s := fun h' => hnb (Anc.step n b s tb hfb hsb h')
      refine Anc.step a b s (relinkRec n c x tb) (by rw [hfind, hfb]; rfl) ?_ (ih hns)
      rw [relinkRec_super, if_neg (by rw [find?_name hfb]; exact hbn)]
      exact hsb
  have hcx1 : Anc (relink ts n c x) c x := avoid c x hcx hna
  intro a b h
  induction h with
  | refl ha => exact Anc.refl _ (hreg1 _ ha)
  | step b s tb hfb hsb _ ih =>
    by_cases hbn : b = n
    · have etb : tb = t := by rw [hbn, hf] at hfb; exact (Option.some.inj hfb).symm
      have es : s = c := by rw [etb, hts] at hsb; exact (Option.some.inj hsb).symm
      rw [es] at ih
      rw [hbn]
      exact Anc.step a n x (relinkRec n c x t) (by rw [hfind, hf]; rfl)
        (relinkRec_super_self n c x t (find?_name hf)) (ih.trans hcx1)
    · refine Anc.step a b s (relinkRec n c x tb) (by rw [hfind, hfb]; rfl) ?_ ih
      rw [relinkRec_super, if_neg (by rw [find?_name hfb]; exact hbn)]
      exact hsb

theorem reparent_frame (ts ts' : TypeSystem) (name oldSup newSup : String) (ex : TypeRec)
    (hc : Consistent ts) (hex : find? ts name = some ex) (hsup : ex.super = some oldSup)
    (hanc : Anc ts oldSup newSup) (h : reparent ts name oldSup newSup = .ok ts') :
    (∀ y, hasExact ts' y = hasExact ts y) ∧
    (∀ y t, find? ts y = some t → ∃ t', find? ts' y = some t' ∧
        t'.super = (if y = name then some newSup else t.super) ∧ (∀ g ∈ t.own, g ∈ t'.own) ∧ (∀ g ∈ t.inh, g ∈ t'.inh)) ∧
    (∀ a b, Anc ts a b → Anc ts' a b) := by
  obtain ⟨_, _, _, hi⟩ := reparent_ok ts ts' name oldSup newSup h
  have hregn : hasExact ts name = true := (hasExact_iff_find _ _).mpr ⟨ex, hex⟩
  obtain ⟨hreg, hna⟩ := reparent_not_anc hc hregn h
  have hfind := fun y => find?_relink ts name oldSup newSup y hc.nodup
  have hn1 := nodup_relink ts name oldSup newSup hc.nodup
  have hsk := frame_skel.inheritFrom name _ _ ts' (fun _ _ => trivial) hi hn1
  refine ⟨?_, ?_, ?_⟩
  · intro y
    rw [hasExact_transfer hsk]
    unfold hasExact
    rw [hfind]
    cases find? ts y <;> rfl
  · intro y t hy
    have h1 : find? (relink ts name oldSup newSup) y = some (relinkRec name oldSup newSup t) := by
      rw [hfind, hy]; rfl
    obtain ⟨t', ht', s1, _, o1, i1, _⟩ :=
      (frame_grow ⟨[], [], [], [], [], [], []⟩).inheritFrom name _ _ ts' (fun _ _ => trivial) hi y _ h1
    exact ⟨t', ht', by rw [s1, relinkRec_super, find?_name hy], fun g hg => o1 g (by rwa [relinkRec_own]),
      fun g hg => i1 g (by rwa [relinkRec_inh])⟩
  · intro a b hab
    exact anc_of_skel hsk (anc_relink ts name oldSup newSup ex hc hex hsup hanc hna a b hab)

/-- what a run keeps true of the tree: every name outside `X` sits below its one declared, non-final supertype, and
    every supertype link is that of the base or a declared one -/
structure TreeInv (K : Consts) (base : TypeSystem) (decls : List Decl) (X : String → Prop) (ts : TypeSystem) :
    Prop where
  cons : Consistent ts
  feat : FeatInv ts
  sup : ∀ d ∈ decls, ¬ X d.name → ∀ t, find? ts d.name = some t →
    t.super = some d.super ∧ K.finalTypes.contains d.super = false
  edge : ∀ x t, find? ts x = some t → (∃ tb, find? base x = some tb ∧ t.super = tb.super) ∨
    (∃ d ∈ decls, d.name = x ∧ t.super = some d.super)

/-- `ts'` continues a run that has reached `ts`: `ts` is a part of it (the records grow, only names of `X` change their
    supertype, ancestors stay ancestors) -/
def Ext (K : Consts) (base : TypeSystem) (decls : List Decl) (X : String → Prop) (ts ts' : TypeSystem) : Prop :=
  TreeInv K base decls X ts' ∧ SubP ts' X ts

/-- outside the movable names `X` every name is declared with one supertype -/
def OneSuperOutside (decls : List Decl) (X : String → Prop) : Prop :=
  ∀ d ∈ decls, ∀ d' ∈ decls, d.name = d'.name → ¬ X d.name → d.super = d'.super

variable {K : Consts} {base : TypeSystem} {decls : List Decl} {ts ts' : TypeSystem}

theorem addOwn_ext (hi : TreeInv K base decls X ts) {d : Decl} (hn : K.predefined.contains d.name = false)
    (hreg : hasExact ts d.name = true) (h : addOwnFeatures ts d.name d.own = .ok ts') :
    Ext K base decls X ts ts' ∧ CovD ts' d := by
  obtain ⟨hc2, hf2, hg2, hcov⟩ := addOwnFeatures_run K d.name hn d.own ts ts' hi.cons hi.feat hreg h
  have hback : ∀ y t', find? ts' y = some t' → ∃ t, find? ts y = some t ∧ t'.super = t.super := by
    intro y t' hy
    have : hasExact ts y = true := by
      rw [hasExact_iff_names, ← frame_names.addOwnFeatures d.name d.own ts ts' (fun _ _ => trivial) h, ← hasExact_iff_names]
      exact (hasExact_iff_find _ _).mpr ⟨t', hy⟩
    obtain ⟨t, ht⟩ := (hasExact_iff_find _ _).mp this
    obtain ⟨t'', ht'', hs, _⟩ := hg2 y t ht
    rw [hy] at ht''; cases ht''
    exact ⟨t, ht, hs⟩
  refine ⟨⟨⟨hc2, hf2, ?_, ?_⟩, SubP.of_grow hi.cons hg2⟩, .of_covIn (hg2.reg _ hreg) hcov⟩
  · intro d hd hX t' ht'
    obtain ⟨t, ht, hs⟩ := hback _ t' ht'
    rw [hs]; exact hi.sup d hd hX t ht
  · intro x t' ht'
    obtain ⟨t, ht, hs⟩ := hback x t' ht'
    rw [hs]; exact hi.edge x t ht

theorem create_ext (X2 : OneSuperOutside decls X)
    (hi : TreeInv K base decls X ts) {d : Decl} (hd : d ∈ decls) (hx : hasExact ts d.name = false)
    (hsup : hasExact ts d.super = true) (h : createType K ts d.name d.super d.descr = .ok ts') :
    Ext K base decls X ts ts' ∧ hasExact ts' d.name = true ∧ Anc ts' d.super d.name := by
  obtain ⟨sup, hsupf⟩ := (hasExact_iff_find _ _).mp hsup
  obtain ⟨hnf, C⟩ := createType_created_at K ts ts' d.name d.super d.descr sup hi.cons hi.feat hx hsupf h
  have hg1 : Grow K ts ts' := Grow.of_createType hi.cons hi.feat hx h
  refine ⟨⟨⟨consistent_createType K ts ts' _ _ _ hi.cons hx h, featInv_createType K ts ts' _ _ _ hi.cons hi.feat hx h,
      ?_, ?_⟩, SubP.of_grow hi.cons hg1⟩,
    (hasExact_iff_find _ _).mpr ⟨_, C.new⟩, Anc.step _ _ _ _ C.new rfl (Anc.refl _ (hg1.reg _ hsup))⟩
  · intro d' hd' hX' t' ht'
    obtain ⟨hn, rfl⟩ | ⟨_, t0, ht0, rfl⟩ := C.cases ht'
    · rw [X2 d' hd' d hd hn hX']; exact ⟨rfl, hnf⟩
    · rw [upd_super]; exact hi.sup d' hd' hX' t0 ht0
  · intro x t' ht'
    obtain ⟨hn, rfl⟩ | ⟨_, t0, ht0, rfl⟩ := C.cases ht'
    · exact Or.inr ⟨d, hd, hn.symm, rfl⟩
    · rw [upd_super]; exact hi.edge x t0 ht0

theorem reparent_ext (hi : TreeInv K base decls X ts) {d : Decl} (hd : d ∈ decls) (hX : X d.name)
    {t : TypeRec} (he : find? ts d.name = some t) {c : String} (hts : t.super = some c)
    (hsup : hasExact ts d.super = true) (hne : d.super ≠ c) (hsub : subsumes ts c d.super = true)
    (hrep : reparent ts d.name c d.super = .ok ts') :
    Ext K base decls X ts ts' ∧ hasExact ts' d.name = true ∧ Anc ts' d.super d.name := by
  have hregn : hasExact ts d.name = true := (hasExact_iff_find _ _).mpr ⟨t, he⟩
  have hregc : hasExact ts c = true := hi.cons.superReg t (find?_mem he) c hts
  have hmax : Anc ts c d.super := (subsumes_iff_ancestor ts hi.cons _ _ hregc hsup).mp hsub
  obtain ⟨fr1, fr2, fr3⟩ := reparent_frame ts ts' d.name c d.super t hi.cons he hts hmax hrep
  have hgx : SubP ts' X ts := by
    refine SubP.intro hi.cons ?_ fr3
    intro y r hr
    obtain ⟨r', hr', hs', ho', hi'⟩ := fr2 y r hr
    refine ⟨r', hr', fun hXy => by rw [hs', if_neg (fun e : y = d.name => hXy (e ▸ hX))], ?_⟩
    intro g hg
    refine ⟨g, ?_, featureEq_refl g⟩
    rcases List.mem_append.mp hg with hg | hg
    · exact List.mem_append_left _ (ho' g hg)
    · exact List.mem_append_right _ (hi' g hg)
  have hback : ∀ y r', find? ts' y = some r' → ∃ r0, find? ts y = some r0 ∧
      r'.super = (if y = d.name then some d.super else r0.super) := by
    intro y r' hy
    have : hasExact ts y = true := by rw [← fr1 y]; exact (hasExact_iff_find _ _).mpr ⟨r', hy⟩
    obtain ⟨r0, hr0⟩ := (hasExact_iff_find _ _).mp this
    obtain ⟨r1, hr1, hs1, _, _⟩ := fr2 y r0 hr0
    rw [hy] at hr1; cases hr1
    exact ⟨r0, hr0, hs1⟩
  obtain ⟨t1, ht1, hs1, _, _⟩ := fr2 d.name t he
  refine ⟨⟨⟨consistent_reparent ts ts' d.name c d.super t hi.cons he (by rw [hts]; rfl) hne hrep,
      featInv_reparent ts ts' d.name c d.super t hi.cons hi.feat he hts hne hmax hrep, ?_, ?_⟩, hgx⟩,
    by rw [fr1]; exact hregn,
    Anc.step _ _ _ t1 ht1 (by rw [hs1, if_pos rfl]) (Anc.refl _ (hgx.reg _ hsup))⟩
  · intro d' hd' hX' r' hr'
    obtain ⟨r0, hr0, hs⟩ := hback d'.name r' hr'
    rw [hs, if_neg (fun e : d'.name = d.name => hX' (e ▸ hX))]
    exact hi.sup d' hd' hX' r0 hr0
  · intro x r' hr'
    obtain ⟨r0, hr0, hs⟩ := hback x r' hr'
    rw [hs]
    split
    · rename_i e
      exact Or.inr ⟨d, hd, e.symm, rfl⟩
    · exact hi.edge x r0 hr0

structure RunInv (K : Consts) (base : TypeSystem) (decls : List Decl) (X : String → Prop) (s : MState) : Prop where
  tree : TreeInv K base decls X s.ts
  reg : ∀ x, hasExact base x = true → hasExact s.ts x = true
  mer : ∀ x ∈ s.merged, hasExact s.ts x = true

/-- the start of a run over the built-in table: a declared name that the table registers (the document annotation
    type) has, outside `X`, its declared supertype there -/
theorem init_runInv (hu : ∀ d ∈ decls, Gen.consts.predefined.contains d.name = false)
    (hsup : ∀ d ∈ decls, ¬ X d.name → ∀ t, find? Gen.builtinTS d.name = some t → t.super = some d.super) :
    RunInv Gen.consts Gen.builtinTS decls X { ts := Gen.builtinTS, merged := [] } := by
  refine ⟨⟨consistent_builtins.1, featInv_builtins.1, ?_, fun x t ht => Or.inl ⟨t, ht, rfl⟩⟩,
    fun _ h => h, fun x hx => by cases hx⟩
  intro d hd hX t ht
  obtain ⟨s, hs, hnf⟩ := builtin_nofinal t (find?_mem ht) (by rw [find?_name ht]; exact hu d hd)
  have := hsup d hd hX t ht
  rw [hs] at this; cases this
  exact ⟨hs, hnf⟩

section
variable (hpre : ∀ p, K.predefined.contains p = true → hasExact base p = true)
  (htop : K.predefined.contains TOP = true)
  (X2 : OneSuperOutside decls X)
  (hu : ∀ d ∈ decls, K.predefined.contains d.name = false)
include hpre htop X2 hu

theorem processDecl_run {s s' : MState} {d : Decl} (hi : RunInv K base decls X s) (hd : d ∈ decls)
    (hready : (K.predefined.contains d.super || s.merged.contains d.super) = true)
    (h : processDecl K s d = .ok s') :
    RunInv K base decls X s' ∧ SubP s'.ts X s.ts ∧ Done s'.ts d := by
  have hsup : hasExact s.ts d.super = true := by
    rcases Bool.or_eq_true _ _ |>.mp hready with h | h
    · exact hi.reg _ (hpre _ h)
    · exact hi.mer _ (by simpa using h)
  obtain ⟨ts1, hds, hadd, _⟩ := processDecl_ok_iff.mp h
  have key : Ext K base decls X s.ts ts1 ∧ hasExact ts1 d.name = true ∧ Anc ts1 d.super d.name := by
    rcases declSuper_cases hds with ⟨hx, hct⟩ | ⟨t, he, hc⟩
    · exact create_ext X2 hi.tree hd hx hsup hct
    · have hx : hasExact s.ts d.name = true := (hasExact_iff_find _ _).mpr ⟨t, he⟩
      cases hts : t.super with
      | none =>
        exfalso
        have hn := hi.tree.cons.onlyRoot t (find?_mem he) hts
        rw [find?_name he] at hn
        have := hu d hd
        rw [hn, htop] at this; cases this
      | some c =>
        rw [hts] at hc
        simp only [Option.getD_some] at hc
        have hregc : hasExact s.ts c = true := hi.tree.cons.superReg t (find?_mem he) c hts
        have hedge : Anc s.ts c d.name := Anc.step _ _ _ t he hts (Anc.refl _ hregc)
        rcases hc with ⟨hsame, rfl⟩ | ⟨hne, hsub, hrep⟩ | ⟨_, _, hs2, rfl⟩
        · exact ⟨⟨hi.tree, SubP.refl hi.tree.cons⟩, hx, hsame ▸ hedge⟩
        · have hX : X d.name := Classical.byContradiction fun hX => hne (by
            have := (hi.tree.sup d hd hX t he).1
            rw [hts] at this
            exact (Option.some.inj this).symm)
          exact reparent_ext hi.tree hd hX he hts hsup hne hsub hrep
        · exact ⟨⟨hi.tree, SubP.refl hi.tree.cons⟩, hx,
            ((subsumes_iff_ancestor s.ts hi.tree.cons _ _ hsup hregc).mp hs2).trans hedge⟩
  obtain ⟨hext1, hreg1, hanc1⟩ := key
  obtain ⟨hext2, hcov⟩ := addOwn_ext hext1.1 (hu d hd) hreg1 hadd
  have hg := hext1.2.trans hext2.2
  refine ⟨⟨hext2.1, fun x hx => hg.reg x (hi.reg x hx), ?_⟩, hg, hcov, anc_subP hext2.2 hanc1⟩
  intro x hx'
  rcases (processDecl_mem_merged h x).mp hx' with h | rfl
  · exact hg.reg x (hi.mer x h)
  · exact hext2.2.reg _ hreg1

theorem mergeRound_run : ∀ (ds : List Decl) (s s' : MState) (n n' : Nat), (∀ d ∈ ds, d ∈ decls) →
    RunInv K base decls X s → mergeRound K ds s n = .ok (s', n') →
    RunInv K base decls X s' ∧ SubP s'.ts X s.ts ∧ n' ≤ n + ds.length ∧
      (n' = n + ds.length → ∀ d ∈ ds, Done s'.ts d) := by
  intro ds
  induction ds with
  | nil =>
    intro s s' n n' _ hi h
    simp only [mergeRound] at h
    cases h
    exact ⟨hi, SubP.refl hi.tree.cons, Nat.le_refl _, fun _ d hd => by cases hd⟩
  | cons d ds ih =>
    intro s s' n n' hsub hi h
    simp only [mergeRound] at h
    have hsub' : ∀ d' ∈ ds, d' ∈ decls := fun d' hd' => hsub d' (List.mem_cons_of_mem _ hd')
    split at h
    · rename_i hready
      split at h
      · cases h
      · rename_i s1 hp
        obtain ⟨hi1, hg1, hdone1⟩ :=
          processDecl_run hpre htop X2 hu hi (hsub d List.mem_cons_self) hready hp
        obtain ⟨hi2, hg2, hle, hall⟩ := ih s1 s' (n + 1) n' hsub' hi1 h
        refine ⟨hi2, hg1.trans hg2, by simp only [List.length_cons]; omega, ?_⟩
        intro hn x hx
        simp only [List.length_cons] at hn
        rcases List.mem_cons.mp hx with rfl | hx
        · exact Done.mono hdone1 hg2
        · exact hall (by omega) x hx
    · obtain ⟨hi2, hg2, hle, hall⟩ := ih s s' n n' hsub' hi h
      refine ⟨hi2, hg2, by simp only [List.length_cons]; omega, ?_⟩
      intro hn
      simp only [List.length_cons] at hn
      omega

theorem mergeLoop_run {l : List Decl} (hl : ∀ d ∈ l, d ∈ decls) : ∀ (fuel : Nat) (s s' : MState),
    RunInv K base decls X s → mergeLoop K l fuel s = .ok s' →
    RunInv K base decls X s' ∧ SubP s'.ts X s.ts ∧ ∀ d ∈ l, Done s'.ts d := by
  intro fuel
  induction fuel with
  | zero => intro s s' _ h; simp only [mergeLoop] at h; cases h
  | succ fuel ih =>
    intro s s' hi h
    simp only [mergeLoop] at h
    split at h
    · cases h
    · rename_i s1 n hr
      obtain ⟨hi1, hg1, _, hall⟩ := mergeRound_run hpre htop X2 hu l s s1 0 n hl hi hr
      split at h
      · rename_i hn
        cases h
        exact ⟨hi1, hg1, hall (by simpa using hn)⟩
      · obtain ⟨hi2, hg2, hall2⟩ := ih s1 s' hi1 h
        exact ⟨hi2, hg1.trans hg2, hall2⟩

end

end Cassis.TS
