/-
Non-vacuity and evaluated counterexamples for `Properties/C14Json.lean`.

Instance `casD`/`hpD` (`Proofs/InstancesFlat.lean`, as all instances here; type system `demoTS'`: built-ins plus the
annotation type `x.Tok`): one view whose sofa has a byte array (address 0, id 3), an indexed `x.Tok` (address 1, id 2) that
refers to a second `x.Tok` (address 2, no id yet: the traversal assigns 4).  All hypotheses of `saveJson_idempotent` hold.

Counterexamples for the statement without the two extra hypotheses:
* `casL`/`hp0`: the indexed `x.Tok` has no id; the first document lists no member, the second lists member 3;
* `casB`/`hpB`: the sofa byte array has no id and is also referred to by the indexed `x.Tok`; the first document has
  `id := none` / `@sofaArray := null`, the second `id := some 3` / `@sofaArray := 3`.
-/
import CassisModel.Proofs.DeterminismJson
import CassisModel.Proofs.InstancesFlat
import CassisModel.Proofs.XmiLookups

namespace Cassis.Json.DetDemo
open Cassis Cassis.Xmi Cassis.Traverse Cassis.Xmi.Demo

theorem idsBelowB_sound (hp : Heap) (nx : Int) (h : idsBelowB hp nx = true) : IdsBelow hp nx := by
  intro a ob x ha hx
  have := List.all_eq_true.mp h ob (List.mem_of_getElem? ha)
  rw [hx] at this
  exact of_decide_eq_true this

theorem refsHaveIdsB_sound (hp : Heap) (a : Nat) (h : refsHaveIdsB hp a = true) : RefsHaveIds hp a := by
  unfold refsHaveIdsB at h
  rw [Bool.and_eq_true] at h
  refine ⟨h.1, ?_⟩
  have h2 := h.2
  intro n
  cases ho : hp[a]? with
  | none =>
    have hs : ∀ v, Xmi.slot hp a n ≠ some v := by
      intro v hv
      unfold Xmi.slot Traverse.slot at hv
      rw [ho] at hv
      cases hv
    exact ⟨fun t ht => absurd ht (hs _), fun l t hl _ => absurd hl (hs _)⟩
  | some o =>
    rw [ho] at h2
    dsimp only at h2
    have hall := List.all_eq_true.mp h2
    have hs : ∀ v, Xmi.slot hp a n = some v → (n, v) ∈ o.slots := by
      intro v hv
      rw [Xmi.slot_of ho] at hv
      exact alistGet?_mem _ _ _ hv
    refine ⟨fun t ht => ?_, fun l t hl hm => ?_⟩
    · exact hall _ (hs _ ht)
    · have := hall _ (hs _ hl)
      dsimp only at this
      exact List.all_eq_true.mp this (some t) hm

theorem demoD_ids : ∀ nv ∈ casD.views, ∀ e ∈ Index.all nv.2.idx, (xidOf hpD e.oid).isSome = true := detDemo_evals.memberIds

theorem demoD_arr : ∀ nv ∈ casD.views, ∀ a, nv.2.sofa.arr = .ref a → RefsHaveIds hpD a := by
  intro nv hnv a ha
  simp only [casD, List.mem_singleton] at hnv
  subst hnv
  cases ha
  exact refsHaveIdsB_sound hpD 0 detDemo_evals.sofaArrayRefsHaveIds

theorem demoD_below : IdsBelow hpD casD.nextXid := idsBelowB_sound _ _ detDemo_evals.idsBelow

theorem demoD_save (mode : Mode) : (saveJson K demoTS' [casD] 0 hpD mode).toBool = true := by
  cases mode
  · exact detDemo_evals.savesFull
  · exact detDemo_evals.savesMinimal
  · exact detDemo_evals.savesNone

/-- **non-vacuity** of `saveJson_idempotent` (every mode): all hypotheses hold on the instance -/
theorem demoD_hyps (mode : Mode) : ∃ (doc : JDoc) (st : Traverse.St),
    [casD][0]? = some casD ∧ 0 < casD.nextXid ∧ IdsBelow hpD casD.nextXid ∧
    (∀ nv ∈ casD.views, ∀ e ∈ Index.all nv.2.idx, (xidOf hpD e.oid).isSome = true) ∧
    (∀ nv ∈ casD.views, ∀ a, nv.2.sofa.arr = .ref a → RefsHaveIds hpD a) ∧
    saveJson K demoTS' [casD] 0 hpD mode = .ok (doc, st) := by
  obtain ⟨r, hr⟩ := Det.ok_of_toBool (demoD_save mode)
  exact ⟨r.1, r.2, rfl, by decide, demoD_below, demoD_ids, demoD_arr, hr⟩

/-- the traversal of the instance does assign an id (the statement is not about a no-op) -/
theorem demoD_assigns : (saveJson K demoTS' [casD] 0 hpD .none).toOption.map (fun r => (r.2.nextXid, xidOf r.2.heap 2)) =
    some (5, some 4) := detDemo_evals.assignsFreshId

/-! ### counterexamples without the extra hypotheses (evaluated by the kernel) -/

/-- without `hids`: an indexed structure without id is missing from the members of the first document -/
theorem cx_members : (twice casL hp0).map (fun r => (r.1.views.map (·.members), r.2.views.map (·.members))) =
    some ([[]], [[3]]) := detDemo_evals.cxMembers

/-- without `harr`: a sofa byte array without id that an indexed structure refers to -/
theorem cx_sofaArray : (twice casB hpB).map (fun r => ((r.1.fss.map (·.id)), (r.2.fss.map (·.id)))) =
    some ([none, some 1, some 2, some 3], [some 3, some 1, some 2, some 3]) := detDemo_evals.cxSofaArray

end Cassis.Json.DetDemo
