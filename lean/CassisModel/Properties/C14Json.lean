/-
C14, JSON — serialising to JSON repeatedly; the JSON counterpart of `saveXmi_idempotent` / `saveXmi_heap_frame`
(`Properties/C14.lean`), for every `TypeSystemMode` (`Mode.none` / `.minimal` / `.full`).

The JSON writer renders the views (`%MEMBERS`: the ids of the members) and the sofas — with the sofa byte array, if a
sofa has one — *before* `_find_all_fs` assigns the ids that are missing (`json.py`, `serialize`), and the collected
structures after it.  Hence:

* `saveJson_idempotent`: the second serialisation, on the state the first one left, gives the *same document* and state,
  provided the parts rendered early already have the ids they show:
  `hids` — every indexed structure carries an id (`Cas.add` assigns one: true for every CAS built through the API), and
  `harr` — a sofa byte array carries an id, and so does everything it refers to (`RefsHaveIds`, `Spec/DeterminismJson.lean`;
  vacuous for a CAS whose sofas have no byte array).
* `saveJson_idempotent_second`: without these two hypotheses the second serialisation still succeeds, leaves the state
  as it is, and its document differs from the first one at most in the early parts (same `%TYPES`, same structures after
  the sofa part, sofa parts of equal length, same view names and sofa ids); the third serialisation gives the same
  document as the second ("from the second serialisation on the document is stable").
* `saveJson_heap_frame`: a serialisation leaves no trace in the heap except ids that were missing.

Both extra hypotheses of `saveJson_idempotent` are needed; evaluated counterexamples (`Proofs/DeterminismJsonDemo.lean`,
first and second `saveJson … .none`, the second on the state of the first):
* without `hids` (`cx_members`): `casL`/`hp0` of `Proofs/InstancesFlat.lean` (the indexed `x.Tok` has no id): members of the
  view in the first document `[]`, in the second `[3]`.  Not reachable through `Cas.add` (which assigns an id), only by
  resetting `fs.xmiID = None` afterwards; the real code then writes `"%MEMBERS": [null]` first and `[3]` second.
* without `harr` (`cx_sofaArray`): `casB`/`hpB` — the sofa byte array (address 0) has no id and the indexed `x.Tok` refers
  to it: ids of `%FEATURE_STRUCTURES` in the first document `[none, 1, 2, 3]` (and `"@sofaArray": null`), in the second
  `[3, 1, 2, 3]` (and `"@sofaArray": 3`).  **This one is reachable through the public API and the real code behaves the
  same** (`cas.sofa_array = ByteArray(elements=b"abc")`, a feature structure with a `uima.cas.ByteArray` feature pointing
  to that array, `cas.add(fs)`; then `cas.to_json() != cas.to_json()`, second and third calls agree): C14's "serialising
  the same CAS repeatedly produces byte-identical JSON" fails on that input (a consequence of J8: sofa arrays are
  serialised before ids are assigned).
-/
import CassisModel.Proofs.DeterminismJson
import CassisModel.Proofs.DeterminismJsonDemo

namespace Cassis.Json
open Cassis.TS Cassis.Traverse Cassis.Json.DetJ

/-- serialising again, on the state the first serialisation left, gives the same document and state -/
theorem saveJson_idempotent (K : Consts) (ts : TypeSystem) (cass : List Cas) (ci : Nat) (hp : Heap) (mode : Mode)
    (c : Cas) (doc : JDoc) (st : Traverse.St) (hc : cass[ci]? = some c) (hnx : 0 < c.nextXid)
    (hb : Traverse.IdsBelow hp c.nextXid)
    (hids : ∀ nv ∈ c.views, ∀ e ∈ Index.all nv.2.idx, (xidOf hp e.oid).isSome = true)
    (harr : ∀ nv ∈ c.views, ∀ a, nv.2.sofa.arr = .ref a → RefsHaveIds hp a)
    (h : saveJson K ts cass ci hp mode = .ok (doc, st)) :
    ∃ st' : Traverse.St,
      saveJson K ts (cass.set ci { c with nextXid := st.nextXid }) ci st.heap mode = .ok (doc, st') ∧
      st'.heap = st.heap ∧ st'.nextXid = st.nextXid ∧ st'.allFs = st.allFs := by
  obtain ⟨parts, fsElems, decls, hsf, hdoc, sh, hagain⟩ := saveJson_again K ts cass ci hp mode c doc st hc hnx hb h
  have hsf' : c.views.mapM (sofaPart K ts cass st.heap) = .ok parts :=
    (Det.mapM_congr (fun p hp' => sofaPart_shape_ids K ts cass hp st.heap sh p (harr p hp'))).trans hsf
  obtain ⟨st', h2, r⟩ := hagain parts hsf'
  refine ⟨st', ?_, r⟩
  rw [h2, hdoc]
  congr 3
  exact List.map_congr_left (fun p hp' => jviewOf_shape_ids hp st.heap sh p (hids p hp'))

/-- without `hids` / `harr`: the second serialisation succeeds and leaves the state as it is, its document differs from
    the first at most in the parts rendered before the traversal, and the third document equals the second -/
theorem saveJson_idempotent_second (K : Consts) (ts : TypeSystem) (cass : List Cas) (ci : Nat) (hp : Heap) (mode : Mode)
    (c : Cas) (doc : JDoc) (st : Traverse.St) (hc : cass[ci]? = some c) (hnx : 0 < c.nextXid)
    (hb : Traverse.IdsBelow hp c.nextXid) (h : saveJson K ts cass ci hp mode = .ok (doc, st)) :
    ∃ (doc' : JDoc) (st' : Traverse.St),
      saveJson K ts (cass.set ci { c with nextXid := st.nextXid }) ci st.heap mode = .ok (doc', st') ∧
      st'.heap = st.heap ∧ st'.nextXid = st.nextXid ∧ st'.allFs = st.allFs ∧
      doc'.types = doc.types ∧
      (∃ pre pre' elems : List JFs, doc.fss = pre ++ elems ∧ doc'.fss = pre' ++ elems ∧ pre'.length = pre.length) ∧
      doc'.views.map (fun v => (v.name, v.sofa)) = doc.views.map (fun v => (v.name, v.sofa)) ∧
      ∃ st'' : Traverse.St,
        saveJson K ts ((cass.set ci { c with nextXid := st.nextXid }).set ci
            { c with nextXid := st'.nextXid }) ci st'.heap mode = .ok (doc', st'') ∧
        st''.heap = st'.heap ∧ st''.nextXid = st'.nextXid ∧ st''.allFs = st'.allFs := by
  obtain ⟨parts, fsElems, decls, hsf, hdoc, sh, hagain⟩ := saveJson_again K ts cass ci hp mode c doc st hc hnx hb h
  obtain ⟨parts', hsf'⟩ := sofaParts_ok_shape K ts cass hp st.heap sh c.views hsf
  obtain ⟨st', h2, r1, r2, r3⟩ := hagain parts' hsf'
  refine ⟨_, st', h2, r1, r2, r3, ?_, ?_, ?_, ?_⟩
  · rw [hdoc]
  · refine ⟨parts.flatten, parts'.flatten, fsElems, by rw [hdoc], rfl, ?_⟩
    rw [sofaParts_length K ts cass hp c.views hsf, sofaParts_length K ts cass st.heap c.views hsf']
  · rw [hdoc]
    simp only [List.map_map]
    rfl
  · -- the second state is a fixed point: the third serialisation repeats the second
    refine ⟨st', ?_, rfl, rfl, rfl⟩
    rw [List.set_set, r1, r2]
    exact h2

/-- a serialisation leaves no trace in the heap except ids that were missing -/
theorem saveJson_heap_frame (K : Consts) (ts : TypeSystem) (cass : List Cas) (ci : Nat) (hp : Heap) (mode : Mode)
    (doc : JDoc) (st : Traverse.St) (h : saveJson K ts cass ci hp mode = .ok (doc, st)) :
    st.heap.length = hp.length ∧
    ∀ (a : Nat) (ob : Obj), hp[a]? = some ob → ∃ ob' : Obj, st.heap[a]? = some ob' ∧ ob'.ty = ob.ty ∧
      ob'.slots = ob.slots ∧ (ob.xid ≠ none → ob'.xid = ob.xid) := by
  obtain ⟨c, _, _, _, _, _, hst, _⟩ := saveJson_ok_iff.mp h
  exact findAllFs_heap_frame K ts _ hp c.nextXid (defaultSeeds c) st hst

/-! ### Non-vacuity

`casD`/`hpD` (`Proofs/InstancesFlat.lean`): a sofa with a byte array (id 3), an indexed `x.Tok` (id 2) referring to
an `x.Tok` without id (the traversal assigns 4).  Every hypothesis of `saveJson_idempotent` holds, for every mode. -/

example (mode : Mode) : ∃ (doc : JDoc) (st : Traverse.St),
    [DetDemo.casD][0]? = some DetDemo.casD ∧ 0 < DetDemo.casD.nextXid ∧ IdsBelow DetDemo.hpD DetDemo.casD.nextXid ∧
    (∀ nv ∈ DetDemo.casD.views, ∀ e ∈ Index.all nv.2.idx, (xidOf DetDemo.hpD e.oid).isSome = true) ∧
    (∀ nv ∈ DetDemo.casD.views, ∀ a, nv.2.sofa.arr = .ref a → RefsHaveIds DetDemo.hpD a) ∧
    saveJson Xmi.Demo.K Xmi.Demo.demoTS' [DetDemo.casD] 0 DetDemo.hpD mode = .ok (doc, st) := DetDemo.demoD_hyps mode

example (mode : Mode) : ∃ (doc : JDoc) (st st' : Traverse.St),
    saveJson Xmi.Demo.K Xmi.Demo.demoTS' [DetDemo.casD] 0 DetDemo.hpD mode = .ok (doc, st) ∧
    saveJson Xmi.Demo.K Xmi.Demo.demoTS' ([DetDemo.casD].set 0 { DetDemo.casD with nextXid := st.nextXid }) 0 st.heap mode =
      .ok (doc, st') := by
  obtain ⟨doc, st, hc, hnx, hb, hids, harr, h⟩ := DetDemo.demoD_hyps mode
  obtain ⟨st', h', _⟩ := saveJson_idempotent _ _ _ _ _ mode _ doc st hc hnx hb hids harr h
  exact ⟨doc, st, st', h, h'⟩

/-- the first serialisation of the instance does assign an id -/
example : (saveJson Xmi.Demo.K Xmi.Demo.demoTS' [DetDemo.casD] 0 DetDemo.hpD .none).toOption.map
    (fun r => (r.2.nextXid, xidOf r.2.heap 2)) = some (5, some 4) := DetDemo.demoD_assigns

/-- counterexamples for the stronger statement (no `hids` / no `harr`) -/
example : (DetDemo.twice Xmi.Demo.casL Xmi.Demo.hp0).map
    (fun r => (r.1.views.map (·.members), r.2.views.map (·.members))) = some ([[]], [[3]]) := DetDemo.cx_members
example : (DetDemo.twice DetDemo.casB DetDemo.hpB).map (fun r => ((r.1.fss.map (·.id)), (r.2.fss.map (·.id)))) =
    some ([none, some 1, some 2, some 3], [some 3, some 1, some 2, some 3]) := DetDemo.cx_sofaArray

#print axioms saveJson_idempotent
#print axioms saveJson_idempotent_second
#print axioms saveJson_heap_frame

end Cassis.Json
