/-
Root of the development.  Two conventions of the comments throughout:
* a property theorem is stated once, in `Properties/`, with the last step — often all — of its proof.  The property files
  of the lower layers are light: later proof modules import them and cite the property theorems, so such a property file
  is the interface of its layer.  Where a proof that stands before the property file in the import order needs the
  statement, the proof is a twin `foo_aux` in `Proofs/` and the property theorem reads `foo := foo_aux …`
  (the distinct names among `grep -rho "[A-Za-z0-9_']*_aux" lean/CassisModel/Properties`).  What each module holds is said
  in `DESIGN.md` §11.9;
* finding ids (X4, J2, J8, I3, I5, L1, M5, M6, T3, A2, X12, …) refer to `known_findings.json`, next to `DESIGN.md` (those
  that were repaired stand in its `fixed:` lines), and to `DESIGN.md` §7, §11.4 and §11.8.
The imports below are the model files and the statement files in the order of their layers (the statement files import
the model and `Proofs.Index` themselves), and `Proofs.Pass3Fragments`, the one proof module that no statement file
imports (the third pass in the terms of a single fragment, `DESIGN.md` §11.9).
-/
import CassisModel.Model.Basic
import CassisModel.Model.Offsets
import CassisModel.Model.TypeSystem
import CassisModel.Gen.Builtins
import CassisModel.Model.Index
import CassisModel.Proofs.Index
import CassisModel.Properties.C07
import CassisModel.Model.Heap
import CassisModel.Model.Cas
import CassisModel.Model.Traverse
import CassisModel.Properties.C03
import CassisModel.Properties.C06
import CassisModel.Properties.C10
import CassisModel.Properties.C18
import CassisModel.Properties.C11
import CassisModel.Properties.C15
import CassisModel.Properties.C19
import CassisModel.Properties.C08
import CassisModel.Properties.C09
import CassisModel.Properties.C13
import CassisModel.Properties.C01
import CassisModel.Properties.C04
import CassisModel.Properties.C02
import CassisModel.Properties.C05
import CassisModel.Properties.C17
import CassisModel.Properties.C20
import CassisModel.Properties.C12
import CassisModel.Properties.C14
import CassisModel.Properties.C03Doc
import CassisModel.Properties.C09Doc
import CassisModel.Properties.C02Closure
import CassisModel.Properties.C01RoundTrip
import CassisModel.Properties.C01Applies
import CassisModel.Properties.C20Ids
import CassisModel.Properties.C02RoundTrip
import CassisModel.Properties.C16Chain
import CassisModel.Properties.C01RoundTripColl
import CassisModel.Properties.C01FixpointColl
import CassisModel.Properties.C01AppliesColl
import CassisModel.Properties.C04Faithful
import CassisModel.Properties.C13Self
import CassisModel.Properties.C05Perm
import CassisModel.Properties.C02RoundTripColl
import CassisModel.Properties.C02AppliesColl
import CassisModel.Properties.C02EmbeddedTs
import CassisModel.Properties.C12RoundTrip
import CassisModel.Properties.C05PermJson
import CassisModel.Properties.C05PermJsonColl
import CassisModel.Properties.C04FaithfulColl
import CassisModel.Properties.C04FaithfulJson
import CassisModel.Properties.C20Sens
import CassisModel.Properties.C20Iso
import CassisModel.Properties.C09DocJson
import CassisModel.Properties.C14Json
import CassisModel.Properties.C16ChainColl
import CassisModel.Properties.C13Perm
import CassisModel.Properties.C05PermColl
import CassisModel.Proofs.Pass3Fragments
import CassisModel.Properties.C20IsoColl
import CassisModel.Properties.C13FeatInv
import CassisModel.Properties.C13PermSub
import CassisModel.Properties.C03DocJson
import CassisModel.Properties.C03DocWrite
import CassisModel.Properties.C02RoundTripEmbedded
import CassisModel.Properties.C09Write
import CassisModel.Properties.C20IsoJsonColl
import CassisModel.Properties.C16ChainEmbedded
import CassisModel.Properties.C16ChainEmbedded2
import CassisModel.Properties.C16ChainEmbedded3
