/-
C02, end to end for the *embedded* configuration — `load_cas_from_json(cas.to_json(type_system_mode=FULL))` without a
type system yields the same CAS.

Composition of
* `json_roundtrip_flat` / `json_roundtrip_coll` (`C02RoundTrip.lean`, `C02RoundTripColl.lean`): the round trip in
  configuration NONE with the original type system supplied,
* `json_full_ts_same` (`C02EmbeddedTs.lean`): the type system rebuilt from the `%TYPES` section of a FULL document is
  `SameTs` to the original (API-built, `Writable` type systems),
through two facts:
* `saveJson_to_none` / `saveJson_mode_fss`: the type-system mode of the writer influences the `%TYPES` section only — same
  `%FEATURE_STRUCTURES`, same `%VIEWS`, same traversal state (ids) in every mode (`saveJson_mode_iff`);
* `loadJson_congr` / `loadJson_congr_sameTs` (the key lemma): the reader consults the type system only through
  (i) `get_type(name)` for the `%TYPE` of every structure of the document, of whose answer it uses the *name* and the
  *set of feature names* (the constructor fields), (ii) `is_instance_of(type, uima.tcas.Annotation)` (offset conversion),
  (iii) `contains_type(type)` in `Cas.add`.  It never looks at ranges, element types, `multipleReferencesAllowed`,
  domains, descriptions, children: the document says through its key prefixes (`@`, `#`) what is a reference or a
  special float.  So `SameTs` (which forgets domain / `multi` / `reserved` and the order of features) is more than
  enough; what is needed is `TypeAgree` (`Spec/ReaderSim.lean`) on the type names of the document.

"The same CAS" for two type systems that are `SameTs` but not equal: the same `Cas` value (views, sofas, indexes with
their keys and addresses, generators) and the same heap *up to the order of the slots of each object* (`HeapSim`).
The order is a representation detail of the model (slots are kept in `all_features` order; Python instances are accessed
by name) but it cannot be dropped from the statement: with a chain `x.A > x.B > x.C` whose features are declared
bottom-up the original lists the features of `x.C` as `fc, begin, end, sofa, fb, fa, self_`, the rebuilt type system as
`fc, fb, fa, self_, begin, end, sofa` (instance `EmbDemo` of `Proofs/InstancesEmb.lean`; the original's order is
evaluated in `Proofs/RoundTripJsonEmbDemo.lean`; on the implementation: `all_features` of the reloaded `x.C` is
`['fc','fb','fa','self_','begin','end','sofa']`, contents equal, `cas_to_comparable_text` equal).  A visible consequence
on the implementation, not a defect w.r.t. C02: serialising the reloaded CAS again gives the same JSON *value* but not
the same *text* (member order inside a structure follows the feature order), so the fixpoint statement
`json_roundtrip_flat_fixpoint` does not carry over to the embedded configuration literally.

The composition step for any mode is `json_roundtrip_embedded_flat_of_agree` / `…_coll_of_agree`: it needs "the rebuilt
type system agrees with the original on the type names of the document".  For FULL that follows from `json_full_ts_same`;
for MINIMAL it is `json_minimal_ts_agree`: the rebuilt type system is a *part* of the original that agrees with it, feature
set and annotation-ness, on every declared or built-in name — not `SameTs`: the types outside the closure and the
corresponding children are missing.
-/
import CassisModel.Properties.C02RoundTrip
import CassisModel.Properties.C02RoundTripColl
import CassisModel.Properties.C02EmbeddedTs
import CassisModel.Proofs.RoundTripJsonEmbedded
import CassisModel.Proofs.ChainEmbMinimalTs
import CassisModel.Proofs.RoundTripJsonEmbDemo

namespace Cassis.Json
open Cassis.TS Cassis.Traverse Cassis.Xmi

/-- **the mode influences the `%TYPES` section only**: every successful `to_json` also succeeds in mode NONE, with the same
    traversal result (collected structures, assigned ids, heap) and the same feature structures and views -/
theorem saveJson_to_none (K : Consts) (ts : TypeSystem) (cass : List Cas) (ci : Nat) (hp : Heap) (m : Mode)
    (doc : JDoc) (st : Traverse.St) (h : saveJson K ts cass ci hp m = .ok (doc, st)) :
    ∃ doc', saveJson K ts cass ci hp .none = .ok (doc', st) ∧ doc'.fss = doc.fss ∧ doc'.views = doc.views :=
  saveJson_to_none_aux K ts cass ci hp m doc st h

/-- … and between any two modes when no feature name starts with `%`.  (Without the hypothesis the direction NONE → FULL
    fails: a feature named `%NAME` makes the `%TYPES` writer raise `TypeError` while mode NONE succeeds — finding of
    `C02EmbeddedTs.lean`, instance in `Proofs/EmbeddedTsPctDemo.lean`.) -/
theorem saveJson_mode_fss (K : Consts) (ts : TypeSystem) (hnp : NoPercentNames ts) (cass : List Cas) (ci : Nat)
    (hp : Heap) (m m' : Mode) (doc : JDoc) (st : Traverse.St) (h : saveJson K ts cass ci hp m = .ok (doc, st)) :
    ∃ doc', saveJson K ts cass ci hp m' = .ok (doc', st) ∧ doc'.fss = doc.fss ∧ doc'.views = doc.views :=
  saveJson_mode_fss_aux K ts hnp cass ci hp m m' doc st h

/-- **key lemma**: two type systems that agree (`TypeAgree`: `get_type` fails alike or finds types of the same name
    with the same feature names that are annotation types in both or neither) on the `%TYPE` names of a document
    load it alike — the same exception, or the same CAS and the same heap up to slot order (`LoadSim`).
    Any document (not only written ones), any start heap, lenient or not. -/
theorem loadJson_congr (K : Consts) (ts ts' : TypeSystem) (tsIdx ci : Nat) (lenient : Bool) (hp : Heap) (doc : JDoc)
    (hag : ∀ j ∈ doc.fss, TypeAgree ts ts' (fsTypeName j)) :
    LoadSim (loadJson K ts tsIdx ci lenient false hp doc) (loadJson K ts' tsIdx ci lenient false hp doc) :=
  loadJson_congr_aux K ts ts' tsIdx ci lenient hp doc hag

/-- `SameTs` type systems (each name registered once) agree under every name -/
theorem typeAgree_sameTs (ts ts' : TypeSystem) (h : SameTs ts ts') (hc : Consistent ts) (hc' : Consistent ts')
    (n : String) : TypeAgree ts ts' n :=
  typeAgree_of_sameTs h hc hc' n

/-- **the reader cannot tell `SameTs` type systems apart** -/
theorem loadJson_congr_sameTs (K : Consts) (ts ts' : TypeSystem) (tsIdx ci : Nat) (lenient : Bool) (hp : Heap)
    (doc : JDoc) (hs : SameTs ts ts') (hc : Consistent ts) (hc' : Consistent ts') :
    match loadJson K ts tsIdx ci lenient false hp doc, loadJson K ts' tsIdx ci lenient false hp doc with
    | .ok ld, .ok ld' => ld.ts = ts ∧ ld'.ts = ts' ∧ ld'.cas = ld.cas ∧ HeapSim ld.heap ld'.heap
    | .error e, .error e' => e' = e
    | _, _ => False := by
  have h := loadJson_congr K ts ts' tsIdx ci lenient hp doc (fun _ _ => typeAgree_sameTs ts ts' hs hc hc' _)
  unfold LoadSim at h
  cases h1 : loadJson K ts tsIdx ci lenient false hp doc with
  | error e =>
    cases h2 : loadJson K ts' tsIdx ci lenient false hp doc with
    | error e' => rw [h1, h2] at h; exact h
    | ok ld' => rw [h1, h2] at h; exact h
  | ok ld =>
    cases h2 : loadJson K ts' tsIdx ci lenient false hp doc with
    | error e' => rw [h1, h2] at h; exact h
    | ok ld' => rw [h1, h2] at h; exact ⟨loadJson_ts h1, loadJson_ts h2, h.1, h.2⟩

/-- loading with `merge_typesystem=True` is loading with the type system `loadTs` builds -/
theorem loadJson_merge (K : Consts) (tsArg ts' : TypeSystem) (tsIdx ci : Nat) (lenient : Bool) (hp : Heap) (doc : JDoc)
    (h : loadTs K tsArg true doc = .ok ts') :
    loadJson K tsArg tsIdx ci lenient true hp doc = loadJson K ts' tsIdx ci lenient false hp doc :=
  loadJson_merge_eq K tsArg ts' tsIdx ci lenient hp doc h

/-- **the embedded type system is sufficient as soon as the rebuilt type system agrees with the original on the type
    names of the document** (any mode, any supplied type system `tsArg`, any constants).  For FULL the hypothesis
    `hlts`/`hag` is `json_full_ts_same` + `typeAgree_sameTs`; for MINIMAL it is `json_minimal_ts_agree`. -/
theorem json_roundtrip_embedded_flat_of_agree (K : Consts) (ts tsArg ts' : TypeSystem) (mode : Mode)
    (cass : List Cas) (ci : Nat) (c : Cas) (hp : Heap) (tsIdx ci' : Nat) (doc : JDoc) (st : St)
    (hc : cass[ci]? = some c) (hwf : RTWf c hp)
    (hsave : saveJson K ts cass ci hp mode = .ok (doc, st))
    (hlts : loadTs K tsArg true doc = .ok ts')
    (hag : ∀ j ∈ doc.fss, TypeAgree ts ts' (fsTypeName j))
    (hflat : ∀ q ∈ st.allFs, FlatFs K ts c ci st.heap q.2)
    (hjson : ∀ q ∈ st.allFs, JsonFs ts st.heap q.2)
    (hids : ∀ nv ∈ c.views, ∀ e ∈ Index.all nv.2.idx, (xidOf hp e.oid).isSome = true)
    (hdis : ∀ q ∈ st.allFs, ∀ nv ∈ c.views, q.1 ≠ nv.2.sofa.xid)
    (hmem : ∀ nv ∈ c.views, ∀ e ∈ Index.all nv.2.idx, Xmi.slot st.heap e.oid "sofa" ≠ some .none)
    (hmok : MembersOk c st.heap) :
    ∃ (ld : Loaded) (fss : List (Int × Val)),
      loadJson K tsArg tsIdx ci' false true st.heap doc = .ok ld ∧ ld.ts = ts' ∧
      (∀ q ∈ st.allFs, ∃ (a' : Nat) (o o' : Obj), lookup fss q.1 = some (.ref a') ∧
          st.heap[q.2]? = some o ∧ ld.heap[a']? = some o' ∧ o'.ty = o.ty ∧ o'.xid = some q.1 ∧
          ∀ t : TypeRec, find? ts o.ty = some t → ∀ f ∈ allFeatures t,
            featContent ld.heap a' f.name = featContent st.heap q.2 f.name) ∧
      (∀ p ∈ fss, (∃ q ∈ st.allFs, q.1 = p.1) ∨ (∃ nv ∈ c.views, nv.2.sofa.xid = p.1)) ∧
      ld.cas.views.map (viewContent ld.heap) = c.views.map (viewContent st.heap) ∧
      (∀ q ∈ st.allFs, q.1 < ld.cas.nextXid) ∧
      (∀ nv ∈ c.views, nv.2.sofa.xid < ld.cas.nextXid ∧ nv.2.sofa.sofaNum < ld.cas.nextSofaNum) :=
  embedded_of_none (fun hp a f => featContent hp a f.name) (fun h a f => featContent_sim h a f.name) K ts tsArg ts' mode
    cass ci c hp tsIdx ci' doc st hsave hlts hag (fun doc0 h0 =>
      json_roundtrip_flat K ts cass ci c hp tsIdx ci' doc0 st hc hwf h0 hflat hjson hids hdis hmem hmok)

/-- the composition step, collections included -/
theorem json_roundtrip_embedded_coll_of_agree (K : Consts) (ts tsArg ts' : TypeSystem) (mode : Mode)
    (cass : List Cas) (ci : Nat) (c : Cas) (hp : Heap) (tsIdx ci' : Nat) (doc : JDoc) (st : St)
    (hc : cass[ci]? = some c) (hwf : RTWf c hp)
    (hsave : saveJson K ts cass ci hp mode = .ok (doc, st))
    (hlts : loadTs K tsArg true doc = .ok ts')
    (hag : ∀ j ∈ doc.fss, TypeAgree ts ts' (fsTypeName j))
    (hcoll : ∀ q ∈ st.allFs, JCollFs K ts c ci st.heap q.2)
    (hids : ∀ nv ∈ c.views, ∀ e ∈ Index.all nv.2.idx, (xidOf hp e.oid).isSome = true)
    (hdis : ∀ q ∈ st.allFs, ∀ nv ∈ c.views, q.1 ≠ nv.2.sofa.xid)
    (hmem : ∀ nv ∈ c.views, ∀ e ∈ Index.all nv.2.idx, Xmi.slot st.heap e.oid "sofa" ≠ some .none)
    (hmok : MembersOk c st.heap) :
    ∃ (ld : Loaded) (fss : List (Int × Val)),
      loadJson K tsArg tsIdx ci' false true st.heap doc = .ok ld ∧ ld.ts = ts' ∧
      (∀ q ∈ st.allFs, ∃ (a' : Nat) (o o' : Obj), lookup fss q.1 = some (.ref a') ∧
          st.heap[q.2]? = some o ∧ ld.heap[a']? = some o' ∧ o'.ty = o.ty ∧ o'.xid = some q.1 ∧
          ∀ t : TypeRec, find? ts o.ty = some t → ∀ f ∈ allFeatures t,
            featContentC K ld.heap a' f = featContentC K st.heap q.2 f) ∧
      (∀ p ∈ fss, (∃ q ∈ st.allFs, q.1 = p.1) ∨ (∃ nv ∈ c.views, nv.2.sofa.xid = p.1)) ∧
      ld.cas.views.map (viewContent ld.heap) = c.views.map (viewContent st.heap) ∧
      (∀ q ∈ st.allFs, q.1 < ld.cas.nextXid) ∧
      (∀ nv ∈ c.views, nv.2.sofa.xid < ld.cas.nextXid ∧ nv.2.sofa.sofaNum < ld.cas.nextSofaNum) :=
  embedded_of_none (featContentC K) (featContentC_sim K) K ts tsArg ts' mode
    cass ci c hp tsIdx ci' doc st hsave hlts hag (fun doc0 h0 =>
      json_roundtrip_coll K ts cass ci c hp tsIdx ci' doc0 st hc hwf h0 hcoll hids hdis hmem hmok)

/-- **JSON round trip, FULL type system embedded, no type system supplied — flat fragment.**
    Hypotheses: those of `json_full_ts_same` on the type system (API history on user types other than DocumentAnnotation,
    `Writable`, `NoPercentNames`) and those of `json_roundtrip_flat` on the CAS; `saveJson … .full` instead of `.none`.
    Conclusion: `loadJson` started from a fresh type system (`Gen.builtinTS`) with `merge_typesystem = true` succeeds, its
    type system declares the same as the original (`SameTs`), and the content is what `json_roundtrip_flat` states. -/
theorem json_roundtrip_full_flat (ops : List TsOp) (ts : TypeSystem)
    (hts : ts = ops.foldl (applyOp Gen.consts) Gen.builtinTS)
    (hu : UserOnlyNoDoc Gen.consts ops) (hw : Writable Gen.consts ts) (hpc : NoPercentNames ts)
    (cass : List Cas) (ci : Nat) (c : Cas) (hp : Heap) (tsIdx ci' : Nat) (doc : JDoc) (st : St)
    (hc : cass[ci]? = some c) (hwf : RTWf c hp)
    (hsave : saveJson Gen.consts ts cass ci hp .full = .ok (doc, st))
    (hflat : ∀ q ∈ st.allFs, FlatFs Gen.consts ts c ci st.heap q.2)
    (hjson : ∀ q ∈ st.allFs, JsonFs ts st.heap q.2)
    (hids : ∀ nv ∈ c.views, ∀ e ∈ Index.all nv.2.idx, (xidOf hp e.oid).isSome = true)
    (hdis : ∀ q ∈ st.allFs, ∀ nv ∈ c.views, q.1 ≠ nv.2.sofa.xid)
    (hmem : ∀ nv ∈ c.views, ∀ e ∈ Index.all nv.2.idx, Xmi.slot st.heap e.oid "sofa" ≠ some .none)
    (hmok : MembersOk c st.heap) :
    ∃ (ld : Loaded) (fss : List (Int × Val)),
      loadJson Gen.consts Gen.builtinTS tsIdx ci' false true st.heap doc = .ok ld ∧ SameTs ts ld.ts ∧
      -- the written structures, under the same ids
      (∀ q ∈ st.allFs, ∃ (a' : Nat) (o o' : Obj), lookup fss q.1 = some (.ref a') ∧
          st.heap[q.2]? = some o ∧ ld.heap[a']? = some o' ∧ o'.ty = o.ty ∧ o'.xid = some q.1 ∧
          ∀ t : TypeRec, find? ts o.ty = some t → ∀ f ∈ allFeatures t,
            featContent ld.heap a' f.name = featContent st.heap q.2 f.name) ∧
      -- nothing else was created
      (∀ p ∈ fss, (∃ q ∈ st.allFs, q.1 = p.1) ∨ (∃ nv ∈ c.views, nv.2.sofa.xid = p.1)) ∧
      -- the same views
      ld.cas.views.map (viewContent ld.heap) = c.views.map (viewContent st.heap) ∧
      -- generators reseeded
      (∀ q ∈ st.allFs, q.1 < ld.cas.nextXid) ∧
      (∀ nv ∈ c.views, nv.2.sofa.xid < ld.cas.nextXid ∧ nv.2.sofa.sofaNum < ld.cas.nextSofaNum) := by
  subst hts
  obtain ⟨ts', hlts, hsame, hcons, hcons'⟩ := json_full_ts_same_cons ops hu hw hpc cass ci hp doc st hsave
  obtain ⟨ld, fss, hl, hlt, H⟩ := json_roundtrip_embedded_flat_of_agree Gen.consts _ Gen.builtinTS ts' .full cass ci c hp
    tsIdx ci' doc st hc hwf hsave hlts (fun _ _ => typeAgree_sameTs _ _ hsame hcons hcons' _) hflat hjson hids hdis hmem hmok
  exact ⟨ld, fss, hl, hlt ▸ hsame, H⟩

/-- **JSON round trip, FULL type system embedded, no type system supplied — collections included**
    (the fragment of `json_roundtrip_coll`) -/
theorem json_roundtrip_full_coll (ops : List TsOp) (ts : TypeSystem)
    (hts : ts = ops.foldl (applyOp Gen.consts) Gen.builtinTS)
    (hu : UserOnlyNoDoc Gen.consts ops) (hw : Writable Gen.consts ts) (hpc : NoPercentNames ts)
    (cass : List Cas) (ci : Nat) (c : Cas) (hp : Heap) (tsIdx ci' : Nat) (doc : JDoc) (st : St)
    (hc : cass[ci]? = some c) (hwf : RTWf c hp)
    (hsave : saveJson Gen.consts ts cass ci hp .full = .ok (doc, st))
    (hcoll : ∀ q ∈ st.allFs, JCollFs Gen.consts ts c ci st.heap q.2)
    (hids : ∀ nv ∈ c.views, ∀ e ∈ Index.all nv.2.idx, (xidOf hp e.oid).isSome = true)
    (hdis : ∀ q ∈ st.allFs, ∀ nv ∈ c.views, q.1 ≠ nv.2.sofa.xid)
    (hmem : ∀ nv ∈ c.views, ∀ e ∈ Index.all nv.2.idx, Xmi.slot st.heap e.oid "sofa" ≠ some .none)
    (hmok : MembersOk c st.heap) :
    ∃ (ld : Loaded) (fss : List (Int × Val)),
      loadJson Gen.consts Gen.builtinTS tsIdx ci' false true st.heap doc = .ok ld ∧ SameTs ts ld.ts ∧
      (∀ q ∈ st.allFs, ∃ (a' : Nat) (o o' : Obj), lookup fss q.1 = some (.ref a') ∧
          st.heap[q.2]? = some o ∧ ld.heap[a']? = some o' ∧ o'.ty = o.ty ∧ o'.xid = some q.1 ∧
          ∀ t : TypeRec, find? ts o.ty = some t → ∀ f ∈ allFeatures t,
            featContentC Gen.consts ld.heap a' f = featContentC Gen.consts st.heap q.2 f) ∧
      (∀ p ∈ fss, (∃ q ∈ st.allFs, q.1 = p.1) ∨ (∃ nv ∈ c.views, nv.2.sofa.xid = p.1)) ∧
      ld.cas.views.map (viewContent ld.heap) = c.views.map (viewContent st.heap) ∧
      (∀ q ∈ st.allFs, q.1 < ld.cas.nextXid) ∧
      (∀ nv ∈ c.views, nv.2.sofa.xid < ld.cas.nextXid ∧ nv.2.sofa.sofaNum < ld.cas.nextSofaNum) := by
  subst hts
  obtain ⟨ts', hlts, hsame, hcons, hcons'⟩ := json_full_ts_same_cons ops hu hw hpc cass ci hp doc st hsave
  obtain ⟨ld, fss, hl, hlt, H⟩ := json_roundtrip_embedded_coll_of_agree Gen.consts _ Gen.builtinTS ts' .full cass ci c hp
    tsIdx ci' doc st hc hwf hsave hlts (fun _ _ => typeAgree_sameTs _ _ hsame hcons hcons' _) hcoll hids hdis hmem hmok
  exact ⟨ld, fss, hl, hlt ▸ hsame, H⟩

/-- **the MINIMAL type system a document carries is sufficient** (the counterpart of `json_full_ts_same`): for an
    API-built, `Writable` type system and a CAS with text sofas whose collected structures have registered types not
    named `…[]`, the type system `loadTs` builds from the `%TYPES` section of the MINIMAL document — the transitive
    closure of the used types, merged into a fresh type system — exists, is consistent, and agrees with the original
    (`TypeAgree`: found alike, same name, same feature names, annotation or not) on every `%TYPE` of the document -/
theorem json_minimal_ts_agree (ops : List TsOp) (hu : UserOnlyNoDoc Gen.consts ops)
    (hw : Writable Gen.consts (ops.foldl (applyOp Gen.consts) Gen.builtinTS))
    (hpc : NoPercentNames (ops.foldl (applyOp Gen.consts) Gen.builtinTS))
    (cass : List Cas) (ci : Nat) (c : Cas) (hp : Heap) (doc : JDoc) (st : Traverse.St)
    (hc : cass[ci]? = some c) (harr : ∀ nv ∈ c.views, nv.2.sofa.arr = .none)
    (hsave : saveJson Gen.consts (ops.foldl (applyOp Gen.consts) Gen.builtinTS) cass ci hp .minimal = .ok (doc, st))
    (hreg : ∀ q ∈ st.allFs, ∀ ob : Obj, st.heap[q.2]? = some ob →
      (find? (ops.foldl (applyOp Gen.consts) Gen.builtinTS) ob.ty).isSome = true ∧ ob.ty.endsWith "[]" = false) :
    ∃ ts', loadTs Gen.consts Gen.builtinTS true doc = .ok ts' ∧ Consistent ts' ∧
      ∀ j ∈ doc.fss, TypeAgree (ops.foldl (applyOp Gen.consts) Gen.builtinTS) ts' (fsTypeName j) := by
  obtain ⟨ts', _, hl, _, hc', hag, _⟩ :=
    ChainE.json_minimal_ts_part ops hu hw hpc cass ci c hp doc st hc harr hsave hreg
  exact ⟨ts', hl, hc', hag⟩

/-- **JSON round trip, MINIMAL type system embedded, no type system supplied — flat fragment.**
    Same hypotheses as `json_roundtrip_full_flat` with `saveJson … .minimal`; the loaded type system is a part of the
    original (it lacks the types the document does not need), so instead of `SameTs` the conclusion says that it agrees
    with the original on every `%TYPE` of the document. -/
theorem json_roundtrip_minimal_flat (ops : List TsOp) (ts : TypeSystem)
    (hts : ts = ops.foldl (applyOp Gen.consts) Gen.builtinTS)
    (hu : UserOnlyNoDoc Gen.consts ops) (hw : Writable Gen.consts ts) (hpc : NoPercentNames ts)
    (cass : List Cas) (ci : Nat) (c : Cas) (hp : Heap) (tsIdx ci' : Nat) (doc : JDoc) (st : St)
    (hc : cass[ci]? = some c) (hwf : RTWf c hp)
    (hsave : saveJson Gen.consts ts cass ci hp .minimal = .ok (doc, st))
    (hflat : ∀ q ∈ st.allFs, FlatFs Gen.consts ts c ci st.heap q.2)
    (hjson : ∀ q ∈ st.allFs, JsonFs ts st.heap q.2)
    (hids : ∀ nv ∈ c.views, ∀ e ∈ Index.all nv.2.idx, (xidOf hp e.oid).isSome = true)
    (hdis : ∀ q ∈ st.allFs, ∀ nv ∈ c.views, q.1 ≠ nv.2.sofa.xid)
    (hmem : ∀ nv ∈ c.views, ∀ e ∈ Index.all nv.2.idx, Xmi.slot st.heap e.oid "sofa" ≠ some .none)
    (hmok : MembersOk c st.heap) :
    ∃ (ld : Loaded) (fss : List (Int × Val)),
      loadJson Gen.consts Gen.builtinTS tsIdx ci' false true st.heap doc = .ok ld ∧
      (∀ j ∈ doc.fss, TypeAgree ts ld.ts (fsTypeName j)) ∧
      (∀ q ∈ st.allFs, ∃ (a' : Nat) (o o' : Obj), lookup fss q.1 = some (.ref a') ∧
          st.heap[q.2]? = some o ∧ ld.heap[a']? = some o' ∧ o'.ty = o.ty ∧ o'.xid = some q.1 ∧
          ∀ t : TypeRec, find? ts o.ty = some t → ∀ f ∈ allFeatures t,
            featContent ld.heap a' f.name = featContent st.heap q.2 f.name) ∧
      (∀ p ∈ fss, (∃ q ∈ st.allFs, q.1 = p.1) ∨ (∃ nv ∈ c.views, nv.2.sofa.xid = p.1)) ∧
      ld.cas.views.map (viewContent ld.heap) = c.views.map (viewContent st.heap) ∧
      (∀ q ∈ st.allFs, q.1 < ld.cas.nextXid) ∧
      (∀ nv ∈ c.views, nv.2.sofa.xid < ld.cas.nextXid ∧ nv.2.sofa.sofaNum < ld.cas.nextSofaNum) := by
  subst hts
  obtain ⟨ts', hlts, _, hag⟩ := json_minimal_ts_agree ops hu hw hpc cass ci c hp doc st hc
    (fun nv hnv => (hwf.text_sofa nv hnv).1) hsave (fun q hq => reg_of_jcollFs (jcollFs_of_flatFs _ _ c ci _ _ (hflat q hq) (hjson q hq)))
  obtain ⟨ld, fss, hl, hlt, H⟩ := json_roundtrip_embedded_flat_of_agree Gen.consts _ Gen.builtinTS ts' .minimal
    cass ci c hp tsIdx ci' doc st hc hwf hsave hlts hag hflat hjson hids hdis hmem hmok
  exact ⟨ld, fss, hl, hlt ▸ hag, H⟩

/-- **JSON round trip, MINIMAL type system embedded, no type system supplied — collections included** -/
theorem json_roundtrip_minimal_coll (ops : List TsOp) (ts : TypeSystem)
    (hts : ts = ops.foldl (applyOp Gen.consts) Gen.builtinTS)
    (hu : UserOnlyNoDoc Gen.consts ops) (hw : Writable Gen.consts ts) (hpc : NoPercentNames ts)
    (cass : List Cas) (ci : Nat) (c : Cas) (hp : Heap) (tsIdx ci' : Nat) (doc : JDoc) (st : St)
    (hc : cass[ci]? = some c) (hwf : RTWf c hp)
    (hsave : saveJson Gen.consts ts cass ci hp .minimal = .ok (doc, st))
    (hcoll : ∀ q ∈ st.allFs, JCollFs Gen.consts ts c ci st.heap q.2)
    (hids : ∀ nv ∈ c.views, ∀ e ∈ Index.all nv.2.idx, (xidOf hp e.oid).isSome = true)
    (hdis : ∀ q ∈ st.allFs, ∀ nv ∈ c.views, q.1 ≠ nv.2.sofa.xid)
    (hmem : ∀ nv ∈ c.views, ∀ e ∈ Index.all nv.2.idx, Xmi.slot st.heap e.oid "sofa" ≠ some .none)
    (hmok : MembersOk c st.heap) :
    ∃ (ld : Loaded) (fss : List (Int × Val)),
      loadJson Gen.consts Gen.builtinTS tsIdx ci' false true st.heap doc = .ok ld ∧
      (∀ j ∈ doc.fss, TypeAgree ts ld.ts (fsTypeName j)) ∧
      (∀ q ∈ st.allFs, ∃ (a' : Nat) (o o' : Obj), lookup fss q.1 = some (.ref a') ∧
          st.heap[q.2]? = some o ∧ ld.heap[a']? = some o' ∧ o'.ty = o.ty ∧ o'.xid = some q.1 ∧
          ∀ t : TypeRec, find? ts o.ty = some t → ∀ f ∈ allFeatures t,
            featContentC Gen.consts ld.heap a' f = featContentC Gen.consts st.heap q.2 f) ∧
      (∀ p ∈ fss, (∃ q ∈ st.allFs, q.1 = p.1) ∨ (∃ nv ∈ c.views, nv.2.sofa.xid = p.1)) ∧
      ld.cas.views.map (viewContent ld.heap) = c.views.map (viewContent st.heap) ∧
      (∀ q ∈ st.allFs, q.1 < ld.cas.nextXid) ∧
      (∀ nv ∈ c.views, nv.2.sofa.xid < ld.cas.nextXid ∧ nv.2.sofa.sofaNum < ld.cas.nextSofaNum) := by
  subst hts
  obtain ⟨ts', hlts, _, hag⟩ := json_minimal_ts_agree ops hu hw hpc cass ci c hp doc st hc
    (fun nv hnv => (hwf.text_sofa nv hnv).1) hsave (fun q hq => reg_of_jcollFs (hcoll q hq))
  obtain ⟨ld, fss, hl, hlt, H⟩ := json_roundtrip_embedded_coll_of_agree Gen.consts _ Gen.builtinTS ts' .minimal
    cass ci c hp tsIdx ci' doc st hc hwf hsave hlts hag hcoll hids hdis hmem hmok
  exact ⟨ld, fss, hl, hlt ▸ hag, H⟩

/-! ### Non-vacuity

Instance `EmbDemo` (`Proofs/InstancesEmb.lean`; its facts: `Proofs/RoundTripJsonEmbDemo.lean`): the history `x.A < Annotation`, `x.B < x.A` (with description),
`x.C < x.B`, then `fc : Integer` on `x.C`, `fb : String` on `x.B` (with description), `fa : x.C` and the reserved name
`self : Boolean` on `x.A` (for the collection theorem also `ia : IntegerArray` on `x.A` and a shared
`fsa : FSArray<x.C>` on `x.B`); text `a😀b`; two `x.C` that refer to each other (one indexed, one only referenced, without
id), an indexed `x.B`.  Every hypothesis is evaluated by the kernel through sound Boolean tests. -/

/-- the hypotheses of `json_roundtrip_full_flat` hold on the instance … -/
example : ∃ (doc : JDoc) (st : Traverse.St),
    UserOnlyNoDoc Gen.consts EmbDemo.embOps ∧ Writable Gen.consts EmbDemo.embTs ∧ NoPercentNames EmbDemo.embTs ∧
    [EmbDemo.cas][0]? = some EmbDemo.cas ∧ RTWf EmbDemo.cas EmbDemo.hpF ∧
    saveJson Gen.consts EmbDemo.embTs [EmbDemo.cas] 0 EmbDemo.hpF .full = .ok (doc, st) ∧
    (∀ q ∈ st.allFs, FlatFs Gen.consts EmbDemo.embTs EmbDemo.cas 0 st.heap q.2) ∧
    (∀ q ∈ st.allFs, JsonFs EmbDemo.embTs st.heap q.2) ∧
    (∀ nv ∈ EmbDemo.cas.views, ∀ e ∈ Index.all nv.2.idx, (xidOf EmbDemo.hpF e.oid).isSome = true) ∧
    (∀ q ∈ st.allFs, ∀ nv ∈ EmbDemo.cas.views, q.1 ≠ nv.2.sofa.xid) ∧
    (∀ nv ∈ EmbDemo.cas.views, ∀ e ∈ Index.all nv.2.idx, Xmi.slot st.heap e.oid "sofa" ≠ some .none) ∧
    MembersOk EmbDemo.cas st.heap := by
  obtain ⟨doc, st, hu, hn, hw, hpc, hc, hwf, hs, hf, hj, hi, hd, hm, hmo⟩ := EmbDemo.full_flat_hyps
  exact ⟨doc, st, ⟨hu, hn⟩, hw, hpc, hc, hwf, hs, hf, hj, hi, hd, hm, hmo⟩

/-- … hence its conclusion: the FULL document loads without a type system, the loaded type system declares the same as
    the original (written as the history here: a *used* hypothesis `SameTs <closed term> _` makes the elaborator
    evaluate the closed term), with the same views -/
example : ∃ (doc : JDoc) (st : Traverse.St) (ld : Loaded),
    saveJson Gen.consts EmbDemo.embTs [EmbDemo.cas] 0 EmbDemo.hpF .full = .ok (doc, st) ∧
    loadJson Gen.consts Gen.builtinTS 0 1 false true st.heap doc = .ok ld ∧
    SameTs (EmbDemo.embOps.foldl (applyOp Gen.consts) Gen.builtinTS) ld.ts ∧
    ld.cas.views.map (viewContent ld.heap) = EmbDemo.cas.views.map (viewContent st.heap) := by
  obtain ⟨doc, st, hu, hn, hw, hpc, hc, hwf, hs, hf, hj, hi, hd, hm, hmo⟩ := EmbDemo.full_flat_hyps
  obtain ⟨ld, _, hl, hsame, _, _, hv, _⟩ :=
    json_roundtrip_full_flat EmbDemo.embOps EmbDemo.embTs EmbDemo.embTs_eq.symm ⟨hu, hn⟩ hw hpc [EmbDemo.cas] 0 EmbDemo.cas
      EmbDemo.hpF 0 1 doc st hc hwf hs hf hj hi hd hm hmo
  rw [← EmbDemo.embTs_eq] at hsame
  -- `@hsame`: elaborated as a function to apply, `hsame` would have its type reduced until no binder is left, which
  -- runs the history
  exact ⟨doc, st, ld, hs, hl, @hsame, hv⟩

/-- the hypotheses of `json_roundtrip_full_coll` hold on the instance with an inlined and a shared array, hence … -/
example : ∃ (doc : JDoc) (st : Traverse.St) (ld : Loaded),
    saveJson Gen.consts EmbDemo.embTsC [EmbDemo.cas] 0 EmbDemo.hpC .full = .ok (doc, st) ∧
    loadJson Gen.consts Gen.builtinTS 0 1 false true st.heap doc = .ok ld ∧
    SameTs (EmbDemo.embOpsC.foldl (applyOp Gen.consts) Gen.builtinTS) ld.ts ∧
    ld.cas.views.map (viewContent ld.heap) = EmbDemo.cas.views.map (viewContent st.heap) := by
  obtain ⟨doc, st, hu, hn, hw, hpc, hc, hwf, hs, hf, hi, hd, hm, hmo⟩ := EmbDemo.full_coll_hyps
  obtain ⟨ld, _, hl, hsame, _, _, hv, _⟩ :=
    json_roundtrip_full_coll EmbDemo.embOpsC EmbDemo.embTsC EmbDemo.embTsC_eq.symm ⟨hu, hn⟩ hw hpc [EmbDemo.cas] 0 EmbDemo.cas
      EmbDemo.hpC 0 1 doc st hc hwf hs hf hi hd hm hmo
  rw [← EmbDemo.embTsC_eq] at hsame
  exact ⟨doc, st, ld, hs, hl, @hsame, hv⟩

/-- the hypotheses of `loadJson_congr_sameTs` hold for the original and the rebuilt type system of the instance (two
    different type systems: the feature orders of `x.C` differ, see the header) -/
example : ∃ (doc : JDoc) (st : Traverse.St) (ts' : TypeSystem),
    saveJson Gen.consts EmbDemo.embTs [EmbDemo.cas] 0 EmbDemo.hpF .full = .ok (doc, st) ∧
    loadTs Gen.consts Gen.builtinTS true doc = .ok ts' ∧
    SameTs EmbDemo.embTs ts' ∧ Consistent EmbDemo.embTs ∧ Consistent ts' := EmbDemo.congr_hyps

/-- the hypotheses of `json_roundtrip_minimal_flat` hold on the instance extended by a type `x.Z` the CAS does not use
    (the FULL document declares `x.A, x.B, x.C, x.Z`, the MINIMAL one `x.A, x.B, x.C`: `EmbDemo.typesZ`), hence its
    conclusion: the MINIMAL document loads without a type system, with the same views -/
example : ∃ (doc : JDoc) (st : Traverse.St) (ld : Loaded),
    saveJson Gen.consts EmbDemo.embTsZ [EmbDemo.cas] 0 EmbDemo.hpF .minimal = .ok (doc, st) ∧
    loadJson Gen.consts Gen.builtinTS 0 1 false true st.heap doc = .ok ld ∧
    ld.cas.views.map (viewContent ld.heap) = EmbDemo.cas.views.map (viewContent st.heap) := by
  obtain ⟨doc, st, hu, hn, hw, hpc, hc, hwf, hs, hf, hj, hi, hd, hm, hmo⟩ := EmbDemo.minZ_flat_hyps
  obtain ⟨ld, _, hl, _, _, _, hv, _⟩ :=
    json_roundtrip_minimal_flat EmbDemo.embOpsZ EmbDemo.embTsZ EmbDemo.embTsZ_eq.symm ⟨hu, hn⟩ hw hpc [EmbDemo.cas] 0
      EmbDemo.cas EmbDemo.hpF 0 1 doc st hc hwf hs hf hj hi hd hm hmo
  exact ⟨doc, st, ld, hs, hl, hv⟩

/-- … and those of `json_roundtrip_minimal_coll` on the instance with arrays -/
example : ∃ (doc : JDoc) (st : Traverse.St) (ld : Loaded),
    saveJson Gen.consts EmbDemo.embTsC [EmbDemo.cas] 0 EmbDemo.hpC .minimal = .ok (doc, st) ∧
    loadJson Gen.consts Gen.builtinTS 0 1 false true st.heap doc = .ok ld ∧
    ld.cas.views.map (viewContent ld.heap) = EmbDemo.cas.views.map (viewContent st.heap) := by
  obtain ⟨doc, st, hu, hn, hw, hpc, hc, hwf, hs, hf, hi, hd, hm, hmo⟩ := EmbDemo.min_coll_hyps
  obtain ⟨ld, _, hl, _, _, _, hv, _⟩ :=
    json_roundtrip_minimal_coll EmbDemo.embOpsC EmbDemo.embTsC EmbDemo.embTsC_eq.symm ⟨hu, hn⟩ hw hpc [EmbDemo.cas] 0 EmbDemo.cas
      EmbDemo.hpC 0 1 doc st hc hwf hs hf hi hd hm hmo
  exact ⟨doc, st, ld, hs, hl, hv⟩

/- Evaluation of the model on the instances `EmbDemo`, `demoOps` (`Proofs/InstancesEmb.lean`) and `Xmi.Demo`
   (`Proofs/InstancesFlat.lean`) (save FULL / MINIMAL, load with `Gen.builtinTS` and `mergeTs = true`, compare with the NONE
   round trip): the loaded CAS is the same in every case; the heaps are equal up to the order of the slots (the rebuilt
   `x.C` lists `fc, fb, fa, self_, begin, end, sofa`, the original `fc, begin, end, sofa, fb, fa, self_`), and equal
   outright where no type has inherited features declared before own ones.  With an unused type `x.Z`, FULL declares
   `x.A, x.B, x.C, x.Z`, MINIMAL `x.A, x.B, x.C`; with the type system of `EmbeddedTsDemo` and a `Plain` and an `x.D`
   indexed, MINIMAL declares `Plain, x.D` of the five user types.
   The implementation (`load_cas_from_json(cas.to_json(type_system_mode=FULL | MINIMAL))`, no type system) on the same
   instances: `%TYPES` keys as in the model, `cas_to_comparable_text`, feature-wise dump and `select_all` equal;
   `all_features` of the reloaded `x.C` in the rebuilt order; the re-serialised JSON equal as a value, not as text. -/

#print axioms saveJson_to_none
#print axioms saveJson_mode_fss
#print axioms loadJson_congr
#print axioms typeAgree_sameTs
#print axioms loadJson_congr_sameTs
#print axioms loadJson_merge
#print axioms json_roundtrip_full_flat
#print axioms json_roundtrip_full_coll
#print axioms json_roundtrip_embedded_flat_of_agree
#print axioms json_roundtrip_embedded_coll_of_agree
#print axioms json_minimal_ts_agree
#print axioms json_roundtrip_minimal_flat
#print axioms json_roundtrip_minimal_coll

end Cassis.Json
