/-
One-step lemmas about `renderVal` (`Model/Comparable.lean`): values that are not references, references to array objects
and to other structures, the element loop of an `FSArray`.
-/
import CassisModel.Spec.ComparableIso

namespace Cassis.Comparable
open Cassis.TS Cassis.Traverse

theorem renderVal_plain (K : Consts) (hp : Heap) (byId : List (Option Int × String)) (f : Nat) {v : Val} {c : Cell}
    (h : plainCell v = some c) : renderVal K hp byId f v = .ok c := by
  cases v <;> simp only [plainCell, Option.some.injEq, reduceCtorEq] at h <;> subst h <;> cases f <;> rfl

theorem renderVal_sameCell (K : Consts) (hp hp' : Heap) (byId byId' : List (Option Int × String)) (f f' : Nat)
    {v v' : Val} (h : SameCell v v') : renderVal K hp' byId' f' v' = renderVal K hp byId f v := by
  obtain ⟨c, h1, h2⟩ := h
  rw [renderVal_plain K hp byId f h1, renderVal_plain K hp' byId' f' h2]

theorem renderVal_emptyList (K : Consts) (hp : Heap) (byId : List (Option Int × String)) (f : Nat) {v : Val}
    (h : EmptyList v) : renderVal K hp byId (f + 1) v = .ok (.list []) := by
  rcases h with h | h | h | h | h <;> subst h <;> rfl

/-! ### references

The equations of `renderVal` on references (`renderVal_ref`, `renderVal_zero_ref`, `renderVal_refs`) hold by `rfl`;
everything else about references is derived from them, since `simp only [renderVal]` is slow: it generates the equation
lemmas of `renderVal` first. -/

theorem renderVal_ref (K : Consts) (hp : Heap) (byId : List (Option Int × String)) (f a : Nat) :
    renderVal K hp byId (f + 1) (.ref a) =
      if isArrayFs K hp a then
        match slot hp a "elements" with
        | some .none => .ok .none
        | some v => renderVal K hp byId f v
        | none => .error .attributeError
      else
        match getById byId (xidOf hp a) with
        | some s => .ok (.str s)
        | none => .ok .none := rfl

theorem renderVal_zero_ref (K : Consts) (hp : Heap) (byId : List (Option Int × String)) (a : Nat) :
    renderVal K hp byId 0 (.ref a) = .error .runtimeError := rfl

theorem renderVal_ref_arr (K : Consts) (hp : Heap) (byId : List (Option Int × String)) (f : Nat) {a : Nat} {v : Val}
    (h1 : isArrayFs K hp a = true) (h2 : slot hp a "elements" = some v) (h3 : v ≠ .none) :
    renderVal K hp byId (f + 1) (.ref a) = renderVal K hp byId f v := by
  rw [renderVal_ref, if_pos h1, h2]
  cases v <;> first | exact absurd rfl h3 | rfl

theorem renderVal_ref_arr_none (K : Consts) (hp : Heap) (byId : List (Option Int × String)) (f : Nat) {a : Nat}
    (h1 : isArrayFs K hp a = true) (h2 : slot hp a "elements" = some .none) :
    renderVal K hp byId (f + 1) (.ref a) = .ok .none := by
  rw [renderVal_ref, if_pos h1, h2]

theorem renderVal_ref_arr_noslot (K : Consts) (hp : Heap) (byId : List (Option Int × String)) (f : Nat) {a : Nat}
    (h1 : isArrayFs K hp a = true) (h2 : slot hp a "elements" = none) :
    renderVal K hp byId (f + 1) (.ref a) = .error .attributeError := by
  rw [renderVal_ref, if_pos h1, h2]

theorem renderVal_ref_fs (K : Consts) (hp : Heap) (byId : List (Option Int × String)) (f : Nat) {a : Nat}
    (h1 : isArrayFs K hp a = false) :
    renderVal K hp byId (f + 1) (.ref a) =
      (match getById byId (xidOf hp a) with | some s => .ok (.str s) | none => .ok .none) := by
  rw [renderVal_ref, h1]
  rfl

/-- one element of an `FSArray`; the loop over the elements is the `mapM` of `renderVal_refs` -/
def elemCell (K : Consts) (hp : Heap) (byId : List (Option Int × String)) (f : Nat) (r : Option Nat) : Except Err Cell :=
  match r with
  | none => .ok Cell.null
  | some a => renderVal K hp byId f (.ref a)

theorem renderVal_refs (K : Consts) (hp : Heap) (byId : List (Option Int × String)) (f : Nat) (l : List (Option Nat)) :
    renderVal K hp byId (f + 1) (.refs l) = (l.mapM (elemCell K hp byId f)).map Cell.list := rfl

end Cassis.Comparable
