/-
The anchor text taken apart: short type name, offsets, index mark, view.
-/
import CassisModel.Proofs.ComparableSensRows

namespace Cassis.Comparable
open Cassis.TS Cassis.Traverse Cassis.Lex

def offPart (hp : Heap) (a : Nat) : String :=
  if isAnnot hp a then "[" ++ Lex.showInt (beginOf hp a) ++ "-" ++ Lex.showInt (endOf hp a) ++ "]" else ""

def markPart (indexed : List Nat) (o : Opts) (a : Nat) : String :=
  if o.markIndexed && indexed.contains a then "*" else ""

theorem anchorOf_ok {cass : List Cas} {hp : Heap} {indexed : List Nat} {o : Opts} {a : Nat} {s : String}
    (h : anchorOf cass hp indexed o a = .ok s) :
    ∃ view, viewTag cass hp a = .ok view ∧
      s = shortName (tyOf hp a) ++ offPart hp a ++ markPart indexed o a ++ view := by
  rw [anchorOf_eq] at h
  obtain ⟨view, hv, h⟩ := Det.bind_ok h
  cases h
  exact ⟨view, hv, rfl⟩

theorem anchorCell_of_inv {cass : List Cas} {hp : Heap} {indexed : List Nat} {o : Opts} {addrs : List Nat}
    {st : AnchorSt} (inv : AInv cass hp indexed o addrs st) {a : Nat} (ha : a ∈ addrs) :
    ∃ view n, viewTag cass hp a = .ok view ∧ anchorCell hp st.byId a =
      .str (withCount (shortName (tyOf hp a) ++ offPart hp a ++ markPart indexed o a ++ view) n) := by
  obtain ⟨s, n, h1, h2, _⟩ := inv.has a ha
  obtain ⟨view, hv, rfl⟩ := anchorOf_ok h1
  exact ⟨view, n, hv, by unfold anchorCell; rw [h2]⟩

theorem viewTag_shape {cass : List Cas} {hp : Heap} {a : Nat} {view : String} (h : viewTag cass hp a = .ok view) :
    view = "" ∨ ∃ sid : String, view = "@" ++ sid := by
  unfold viewTag at h
  split at h
  · exact Or.inl (Except.ok.inj h).symm
  · split at h
    · split at h
      · exact Or.inr ⟨_, (Except.ok.inj h).symm⟩
      · cases h
    · cases h
  · cases h

/-- the index mark shows: after a common beginning one text goes on with `*`, the other with the view part (empty or
    `@…`) or the counter `(` -/
theorem markPart_ne {indexed indexed' : List Nat} {o : Opts} {a : Nat} (hmark : o.markIndexed = true) (hin : a ∈ indexed)
    (hnin : a ∉ indexed') (pre : String) {view : String} (hview : view = "" ∨ ∃ sid : String, view = "@" ++ sid)
    (n n' : Nat) :
    withCount (pre ++ markPart indexed o a ++ view) n ≠ withCount (pre ++ markPart indexed' o a ++ view) n' := by
  intro e
  have m1 : markPart indexed o a = "*" := by
    unfold markPart
    simp [hmark, hin]
  have m2 : markPart indexed' o a = "" := by
    unfold markPart
    simp [hnin]
  have el := congrArg String.toList e
  rw [withCount_toList, withCount_toList, m1, m2] at el
  simp only [String.toList_append, List.append_assoc] at el
  have el2 := List.append_cancel_left el
  have star : ("*" : String).toList = ['*'] := rfl
  have emp : ("" : String).toList = [] := rfl
  rw [star, emp] at el2
  simp only [List.cons_append, List.nil_append] at el2
  rcases hview with hv0 | ⟨sid, hv1⟩
  · subst hv0
    rw [emp] at el2
    simp only [List.nil_append] at el2
    rcases cntL_cases n' with h0 | ⟨r, h0⟩
    · rw [h0] at el2; cases el2
    · rw [h0] at el2
      simp only [List.cons.injEq] at el2
      exact absurd el2.1 (by decide)
  · subst hv1
    simp only [String.toList_append] at el2
    have at_ : ("@" : String).toList = ['@'] := rfl
    rw [at_] at el2
    simp only [List.cons_append, List.nil_append, List.cons.injEq] at el2
    exact absurd el2.1 (by decide)

theorem viewTag_sofa {cass : List Cas} {hp : Heap} {a ci : Nat} {vn : String} {c : Cas} {v : View}
    (hs : slot hp a "sofa" = some (.sofa ci vn)) (hc : cass[ci]? = some c) (hv : Cas.getViewRec c vn = some v) :
    viewTag cass hp a = .ok ("@" ++ v.sofa.sofaID) := by
  unfold viewTag
  simp only [hs, hc, hv]
  rfl

theorem offPart_annot {hp : Heap} {a : Nat} (h : isAnnot hp a = true) :
    (offPart hp a).toList = '[' :: (showIntL (beginOf hp a) ++ '-' :: (showIntL (endOf hp a) ++ [']'])) := by
  unfold offPart
  rw [if_pos h]
  simp only [String.toList_append, toList_showInt, List.append_assoc]
  rfl

theorem anchor_annot_toList {cass : List Cas} {hp : Heap} {indexed : List Nat} {o : Opts} {a : Nat} {s : String}
    (hann : isAnnot hp a = true) (h : anchorOf cass hp indexed o a = .ok s) :
    ∃ rest, s.toList = (shortName (tyOf hp a)).toList ++
      '[' :: (showIntL (beginOf hp a) ++ '-' :: (showIntL (endOf hp a) ++ ']' :: rest)) := by
  obtain ⟨view, _, hs⟩ := anchorOf_ok h
  refine ⟨(markPart indexed o a).toList ++ view.toList, ?_⟩
  rw [hs]
  simp only [String.toList_append, offPart_annot hann, List.append_assoc, List.cons_append, List.nil_append]

theorem offsets_of_anchorCell {cass : List Cas} {hp hp' : Heap} {indexed indexed' : List Nat} {o : Opts}
    {addrs addrs' : List Nat} {st st' : AnchorSt} (inv : AInv cass hp indexed o addrs st)
    (inv' : AInv cass hp' indexed' o addrs' st') {c a : Nat} (hc : c ∈ addrs) (ha : a ∈ addrs')
    (hty : tyOf hp' a = tyOf hp c) (hcann : isAnnot hp c = true) (hann : isAnnot hp' a = true)
    (e : anchorCell hp st.byId c = anchorCell hp' st'.byId a) :
    beginOf hp c = beginOf hp' a ∧ endOf hp c = endOf hp' a := by
  obtain ⟨s, n, h1, h2, _⟩ := inv.has c hc
  obtain ⟨s', n', h1', h2', _⟩ := inv'.has a ha
  unfold anchorCell at e
  rw [h2, h2'] at e
  obtain ⟨rest, hl⟩ := anchor_annot_toList hcann h1
  obtain ⟨rest', hl'⟩ := anchor_annot_toList hann h1'
  have el := congrArg String.toList (Cell.str.inj e)
  rw [withCount_toList, withCount_toList, hl, hl', hty] at el
  simp only [List.append_assoc, List.cons_append] at el
  exact offsets_split _ _ _ _ _ _ (List.append_cancel_left el)

theorem noParenEnd_of_sofa (pre sid : String) (h : NoParenEnd sid) : NoParenEnd (pre ++ ("@" ++ sid)) := by
  unfold NoParenEnd at h ⊢
  simp only [String.toList_append]
  change (pre.toList ++ ('@' :: sid.toList)).getLast? ≠ some ')'
  cases hs : sid.toList with
  | nil =>
    rw [show pre.toList ++ ['@'] = pre.toList ++ ['@'] from rfl, List.getLast?_concat]
    decide
  | cons c cs =>
    rw [hs] at h
    rw [List.getLast?_append]
    have : ('@' :: c :: cs).getLast? = (c :: cs).getLast? := by simp [List.getLast?_cons_cons]
    rw [this]
    cases hl : (c :: cs).getLast? with
    | none => simp at hl
    | some d =>
      rw [hl] at h
      simpa using h

theorem anchorPlain_of_sofa {cass : List Cas} {hp : Heap} {indexed : List Nat} {o : Opts} {a ci : Nat} {vn : String}
    {c : Cas} {v : View} (hs : slot hp a "sofa" = some (.sofa ci vn)) (hc : cass[ci]? = some c)
    (hv : Cas.getViewRec c vn = some v) (hp' : NoParenEnd v.sofa.sofaID) : AnchorPlain cass hp indexed o a := by
  intro s h
  obtain ⟨view, h1, h2⟩ := anchorOf_ok h
  rw [viewTag_sofa hs hc hv] at h1
  cases h1
  rw [h2]
  exact noParenEnd_of_sofa _ _ hp'

end Cassis.Comparable
