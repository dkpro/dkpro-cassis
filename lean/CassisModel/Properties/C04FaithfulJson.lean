/-
C04 — the written document is faithful: it determines the content of the CAS (JSON; the flat fragment and the whole
format).

The JSON counterparts of `saveXmi_faithful_flat` (`C04Faithful.lean`) and `saveXmi_faithful_coll` (`C04FaithfulColl.lean`),
for the configuration of the JSON round trip theorems (`TypeSystemMode.NONE`: no embedded type system).  The reader recovers
the content from the document alone, over whatever heap it builds the CAS (`json_read_perm`, `Proofs/RoundTripJsonColl.lean`;
`json_roundtrip_coll` is its instance over the written heap): the common document is read once, over a heap at least as
long as either written heap, and the result is related to both CASes.  If two CASes of the fragment — possibly in
different heaps, at different addresses, built in different orders, members of different lists of CASes at different
indices — are written to the *same* JSON document, then they have

* the same ids,
* under each id the same type and the same content of every feature — `featContent` (`Spec/RoundTrip.lean`) on the flat
  fragment; the deep content `featContentC` (`Spec/RoundTripColl.lean`) on the whole format: the function both round
  trip theorems with collections recover (an inlined array or list is its sequence of elements, references are compared
  by the id of their target; the collection objects themselves are structures of their own in JSON, compared under their
  ids like every structure),
* the same views (names, sofa ids and numbers, texts, mime types, member ids).

`featContentC` identifies a null element and `""` inside string arrays and lists (XMI cannot tell them apart).  JSON can:
two CASes that differ in this way are written to different documents (`CollDemoJ.docs_differ`); the theorem is an
implication, the content function is (for JSON) coarser than the document.

Hypotheses: those of the respective round trip theorem for each of the two CASes (see `C02RoundTrip.lean`,
`C02RoundTripColl.lean`); `jflatAppliesB` (defined in `Proofs/RoundTripJsonCollCheckSound.lean`, sound by
`jflatAppliesB_hyps` there) and `jcollAppliesB` (defined in `Spec/RoundTripJsonCollCheck.lean`, sound by
`jcollAppliesB_sound`, `C02AppliesColl.lean`) are computable tests for them.
-/
import CassisModel.Properties.C02RoundTripColl
import CassisModel.Proofs.RoundTripFlatOfColl
import CassisModel.Proofs.LoadPermJsonColl
import CassisModel.Proofs.FaithfulJsonDemo

namespace Cassis.Json
open Cassis.TS Cassis.Traverse Cassis.Xmi

/-- **faithfulness of the JSON writer, collections included** -/
theorem saveJson_faithful_coll (K : Consts) (ts : TypeSystem)
    (cass₁ cass₂ : List Cas) (ci₁ ci₂ : Nat) (c₁ c₂ : Cas) (hp₁ hp₂ : Heap) (doc : JDoc) (st₁ st₂ : St)
    (hc₁ : cass₁[ci₁]? = some c₁) (hwf₁ : RTWf c₁ hp₁) (hsave₁ : saveJson K ts cass₁ ci₁ hp₁ .none = .ok (doc, st₁))
    (hcoll₁ : ∀ q ∈ st₁.allFs, JCollFs K ts c₁ ci₁ st₁.heap q.2)
    (hids₁ : ∀ nv ∈ c₁.views, ∀ e ∈ Index.all nv.2.idx, (xidOf hp₁ e.oid).isSome = true)
    (hdis₁ : ∀ q ∈ st₁.allFs, ∀ nv ∈ c₁.views, q.1 ≠ nv.2.sofa.xid)
    (hmem₁ : ∀ nv ∈ c₁.views, ∀ e ∈ Index.all nv.2.idx, Xmi.slot st₁.heap e.oid "sofa" ≠ some .none)
    (hmok₁ : MembersOk c₁ st₁.heap)
    (hc₂ : cass₂[ci₂]? = some c₂) (hwf₂ : RTWf c₂ hp₂) (hsave₂ : saveJson K ts cass₂ ci₂ hp₂ .none = .ok (doc, st₂))
    (hcoll₂ : ∀ q ∈ st₂.allFs, JCollFs K ts c₂ ci₂ st₂.heap q.2)
    (hids₂ : ∀ nv ∈ c₂.views, ∀ e ∈ Index.all nv.2.idx, (xidOf hp₂ e.oid).isSome = true)
    (hdis₂ : ∀ q ∈ st₂.allFs, ∀ nv ∈ c₂.views, q.1 ≠ nv.2.sofa.xid)
    (hmem₂ : ∀ nv ∈ c₂.views, ∀ e ∈ Index.all nv.2.idx, Xmi.slot st₂.heap e.oid "sofa" ≠ some .none)
    (hmok₂ : MembersOk c₂ st₂.heap) :
    -- the same ids
    (sortById st₁.allFs).map (·.1) = (sortById st₂.allFs).map (·.1) ∧
    -- under each id the same type and the same deep content of every feature
    (∀ q₁ ∈ st₁.allFs, ∀ q₂ ∈ st₂.allFs, q₁.1 = q₂.1 →
      ∃ o₁ o₂ : Obj, st₁.heap[q₁.2]? = some o₁ ∧ st₂.heap[q₂.2]? = some o₂ ∧ o₁.ty = o₂.ty ∧
        ∀ t : TypeRec, find? ts o₁.ty = some t → ∀ f ∈ allFeatures t,
          featContentC K st₁.heap q₁.2 f = featContentC K st₂.heap q₂.2 f) ∧
    -- the same views
    c₁.views.map (viewContent st₁.heap) = c₂.views.map (viewContent st₂.heap) :=
  by
  obtain ⟨g₁, hdf₁, hdv₁⟩ := json_written_coll hc₁ hwf₁ hsave₁ hcoll₁ hids₁ hdis₁
  obtain ⟨g₂, hdf₂, hdv₂⟩ := json_written_coll hc₂ hwf₂ hsave₂ hcoll₂ hids₂ hdis₂
  -- the common document is read over one base heap, at least as long as either written heap: one computation, and
  -- what it yields is related to either CAS
  obtain ⟨s1, s, ld, hsp, hfp, hload, hk₁, hq₁, hv₁⟩ :=
    LPJ.load_base g₁ doc hdf₁ hdv₁ (st₁.heap ++ st₂.heap) (by rw [List.length_append]; omega) hmem₁ hmok₁ 0 0
  obtain ⟨s1', s', ld', hsp', hfp', hload', hk₂, hq₂, hv₂⟩ :=
    LPJ.load_base g₂ doc hdf₂ hdv₂ (st₁.heap ++ st₂.heap) (by rw [List.length_append]; omega) hmem₂ hmok₂ 0 0
  rw [hsp] at hsp'
  cases hsp'
  rw [hfp] at hfp'
  cases hfp'
  rw [hload] at hload'
  cases hload'
  have hv : c₁.views.map (viewContent st₁.heap) = c₂.views.map (viewContent st₂.heap) := hv₁.symm.trans hv₂
  refine ⟨?_, ?_, hv⟩
  · -- the id map of the reader lists the sofa ids, then the ids of the structures
    have hlen : (c₁.views.map (·.2.sofa.xid)).length = (c₂.views.map (·.2.sofa.xid)).length := by
      simpa using congrArg List.length hv
    exact (List.append_inj (hk₁.symm.trans hk₂) hlen).2
  · intro q₁ hm₁ q₂ hm₂ hid
    obtain ⟨a₁, o₁, o₁', hl₁, ho₁, ho₁', hty₁, hfc₁⟩ := hq₁ q₁ (mem_sortById.mpr hm₁)
    obtain ⟨a₂, o₂, o₂', hl₂, ho₂, ho₂', hty₂, hfc₂⟩ := hq₂ q₂ (mem_sortById.mpr hm₂)
    rw [hid, hl₂] at hl₁
    cases hl₁
    rw [ho₂'] at ho₁'
    cases ho₁'
    have hty : o₁.ty = o₂.ty := hty₁.symm.trans hty₂
    exact ⟨o₁, o₂, ho₁, ho₂, hty, fun t ht f hf =>
      (hfc₁ t ht f hf).symm.trans (hfc₂ t (by rw [← hty]; exact ht) f hf)⟩


/-- **faithfulness of the JSON writer on the flat fragment** -/
theorem saveJson_faithful_flat (K : Consts) (ts : TypeSystem)
    (cass₁ cass₂ : List Cas) (ci₁ ci₂ : Nat) (c₁ c₂ : Cas) (hp₁ hp₂ : Heap) (doc : JDoc) (st₁ st₂ : St)
    (hc₁ : cass₁[ci₁]? = some c₁) (hwf₁ : RTWf c₁ hp₁) (hsave₁ : saveJson K ts cass₁ ci₁ hp₁ .none = .ok (doc, st₁))
    (hflat₁ : ∀ q ∈ st₁.allFs, FlatFs K ts c₁ ci₁ st₁.heap q.2)
    (hjson₁ : ∀ q ∈ st₁.allFs, JsonFs ts st₁.heap q.2)
    (hids₁ : ∀ nv ∈ c₁.views, ∀ e ∈ Index.all nv.2.idx, (xidOf hp₁ e.oid).isSome = true)
    (hdis₁ : ∀ q ∈ st₁.allFs, ∀ nv ∈ c₁.views, q.1 ≠ nv.2.sofa.xid)
    (hmem₁ : ∀ nv ∈ c₁.views, ∀ e ∈ Index.all nv.2.idx, Xmi.slot st₁.heap e.oid "sofa" ≠ some .none)
    (hmok₁ : MembersOk c₁ st₁.heap)
    (hc₂ : cass₂[ci₂]? = some c₂) (hwf₂ : RTWf c₂ hp₂) (hsave₂ : saveJson K ts cass₂ ci₂ hp₂ .none = .ok (doc, st₂))
    (hflat₂ : ∀ q ∈ st₂.allFs, FlatFs K ts c₂ ci₂ st₂.heap q.2)
    (hjson₂ : ∀ q ∈ st₂.allFs, JsonFs ts st₂.heap q.2)
    (hids₂ : ∀ nv ∈ c₂.views, ∀ e ∈ Index.all nv.2.idx, (xidOf hp₂ e.oid).isSome = true)
    (hdis₂ : ∀ q ∈ st₂.allFs, ∀ nv ∈ c₂.views, q.1 ≠ nv.2.sofa.xid)
    (hmem₂ : ∀ nv ∈ c₂.views, ∀ e ∈ Index.all nv.2.idx, Xmi.slot st₂.heap e.oid "sofa" ≠ some .none)
    (hmok₂ : MembersOk c₂ st₂.heap) :
    -- the same ids
    (sortById st₁.allFs).map (·.1) = (sortById st₂.allFs).map (·.1) ∧
    -- under each id the same type and the same content of every feature
    (∀ q₁ ∈ st₁.allFs, ∀ q₂ ∈ st₂.allFs, q₁.1 = q₂.1 →
      ∃ o₁ o₂ : Obj, st₁.heap[q₁.2]? = some o₁ ∧ st₂.heap[q₂.2]? = some o₂ ∧ o₁.ty = o₂.ty ∧
        ∀ t : TypeRec, find? ts o₁.ty = some t → ∀ f ∈ allFeatures t,
          featContent st₁.heap q₁.2 f.name = featContent st₂.heap q₂.2 f.name) ∧
    -- the same views
    c₁.views.map (viewContent st₁.heap) = c₂.views.map (viewContent st₂.heap) :=
  by
  -- the flat fragment is part of the whole format; there the deep content of a feature determines the flat one
  obtain ⟨hids, hcont, hviews⟩ :=
    saveJson_faithful_coll K ts cass₁ cass₂ ci₁ ci₂ c₁ c₂ hp₁ hp₂ doc st₁ st₂
      hc₁ hwf₁ hsave₁ (fun q hq => jcollFs_of_flatFs K ts c₁ ci₁ st₁.heap q.2 (hflat₁ q hq) (hjson₁ q hq))
      hids₁ hdis₁ hmem₁ hmok₁
      hc₂ hwf₂ hsave₂ (fun q hq => jcollFs_of_flatFs K ts c₂ ci₂ st₂.heap q.2 (hflat₂ q hq) (hjson₂ q hq))
      hids₂ hdis₂ hmem₂ hmok₂
  refine ⟨hids, fun q₁ hq₁ q₂ hq₂ hid => ?_, hviews⟩
  obtain ⟨o₁, o₂, ho₁, ho₂, hty, hc⟩ := hcont q₁ hq₁ q₂ hq₂ hid
  exact ⟨o₁, o₂, ho₁, ho₂, hty, fun t ht f hf =>
    flatFs_content (hflat₂ q₂ hq₂) ho₂ (hty ▸ ht) hf (hc t ht f hf)⟩

/-! ### Non-vacuity (instances: `Proofs/InstancesFlat.lean`, `Proofs/InstancesColl.lean`; their facts: `Proofs/FaithfulJsonDemo.lean`)

Flat: the CAS `ResDemo.flatCas` over `ResDemo.flatHp` as CAS 0 of `[flatCas]`, and `FlatDemo.flatCas2` over
`FlatDemo.flatHp2` as CAS 1 of a list of two CASes — the same two annotations in the opposite order behind an unreachable
object, so heap, CAS (index entries), list of CASes, index and sofa references all differ.  Both satisfy every hypothesis
(Boolean checkers proved sound, evaluated by the kernel) and are written to the same document: the theorem applies. -/

example : ResDemo.flatHp ≠ FlatDemo.flatHp2 ∧ ResDemo.flatCas ≠ FlatDemo.flatCas2 :=
  ⟨FlatDemo.heaps_ne, FlatDemo.cas_ne⟩

example : ∃ (doc : JDoc) (st₁ st₂ : St),
    saveJson CollDemo.K ResDemo.flatTs [ResDemo.flatCas] 0 ResDemo.flatHp .none = .ok (doc, st₁) ∧
    saveJson CollDemo.K ResDemo.flatTs [CollDemo.cas, FlatDemo.flatCas2] 1 FlatDemo.flatHp2 .none = .ok (doc, st₂) ∧
    (sortById st₁.allFs).map (·.1) = (sortById st₂.allFs).map (·.1) ∧
    (∀ q₁ ∈ st₁.allFs, ∀ q₂ ∈ st₂.allFs, q₁.1 = q₂.1 →
      ∃ o₁ o₂ : Obj, st₁.heap[q₁.2]? = some o₁ ∧ st₂.heap[q₂.2]? = some o₂ ∧ o₁.ty = o₂.ty ∧
        ∀ t : TypeRec, find? ResDemo.flatTs o₁.ty = some t → ∀ f ∈ allFeatures t,
          featContent st₁.heap q₁.2 f.name = featContent st₂.heap q₂.2 f.name) ∧
    ResDemo.flatCas.views.map (viewContent st₁.heap) = FlatDemo.flatCas2.views.map (viewContent st₂.heap) := by
  obtain ⟨doc, st₁, st₂, hs₁, hs₂, hwf₁, hf₁, hj₁, hi₁, hd₁, hm₁, hmo₁, hwf₂, hf₂, hj₂, hi₂, hd₂, hm₂, hmo₂⟩ :=
    FlatDemo.two_layouts
  exact ⟨doc, st₁, st₂, hs₁, hs₂,
    saveJson_faithful_flat CollDemo.K ResDemo.flatTs [ResDemo.flatCas] [CollDemo.cas, FlatDemo.flatCas2] 0 1
      ResDemo.flatCas FlatDemo.flatCas2 ResDemo.flatHp FlatDemo.flatHp2 doc st₁ st₂
      rfl hwf₁ hs₁ hf₁ hj₁ hi₁ hd₁ hm₁ hmo₁ rfl hwf₂ hs₂ hf₂ hj₂ hi₂ hd₂ hm₂ hmo₂⟩

/-! With collections: `CollDemo.hp` (every collection kind, inlined and shared) and `CollDemoJ.hpJ` — two array objects
have changed places and the heap is longer by an unreachable object.  Both satisfy every hypothesis (`jcollAppliesB`,
evaluated by the kernel) and are written to the same document. -/

example : CollDemo.hp ≠ CollDemoJ.hpJ ∧ CollDemoJ.hpJ.length = CollDemo.hp.length + 1 :=
  ⟨CollDemoJ.hpJ_ne, CollDemoJ.hpJ_length⟩

example : ∃ (doc : JDoc) (st₁ st₂ : St),
    saveJson CollDemo.K CollDemo.ts [CollDemo.cas] 0 CollDemo.hp .none = .ok (doc, st₁) ∧
    saveJson CollDemo.K CollDemo.ts [CollDemo.cas] 0 CollDemoJ.hpJ .none = .ok (doc, st₂) ∧
    (sortById st₁.allFs).map (·.1) = (sortById st₂.allFs).map (·.1) ∧
    (∀ q₁ ∈ st₁.allFs, ∀ q₂ ∈ st₂.allFs, q₁.1 = q₂.1 →
      ∃ o₁ o₂ : Obj, st₁.heap[q₁.2]? = some o₁ ∧ st₂.heap[q₂.2]? = some o₂ ∧ o₁.ty = o₂.ty ∧
        ∀ t : TypeRec, find? CollDemo.ts o₁.ty = some t → ∀ f ∈ allFeatures t,
          featContentC CollDemo.K st₁.heap q₁.2 f = featContentC CollDemo.K st₂.heap q₂.2 f) ∧
    CollDemo.cas.views.map (viewContent st₁.heap) = CollDemo.cas.views.map (viewContent st₂.heap) := by
  obtain ⟨doc, st₁, st₂, hs₁, hs₂, hwf₁, hf₁, hi₁, hd₁, hm₁, hmo₁, hwf₂, hf₂, hi₂, hd₂, hm₂, hmo₂⟩ :=
    CollDemoJ.two_layouts
  exact ⟨doc, st₁, st₂, hs₁, hs₂,
    saveJson_faithful_coll CollDemo.K CollDemo.ts [CollDemo.cas] [CollDemo.cas] 0 0 CollDemo.cas CollDemo.cas
      CollDemo.hp CollDemoJ.hpJ doc st₁ st₂ rfl hwf₁ hs₁ hf₁ hi₁ hd₁ hm₁ hmo₁ rfl hwf₂ hs₂ hf₂ hi₂ hd₂ hm₂ hmo₂⟩

#print axioms saveJson_faithful_flat
#print axioms saveJson_faithful_coll
#print axioms FlatDemo.two_layouts
#print axioms CollDemoJ.two_layouts
#print axioms CollDemoJ.docs_differ

end Cassis.Json
