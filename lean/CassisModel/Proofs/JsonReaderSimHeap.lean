/-
For the reader congruence `loadJson_congr` (`Properties/C02RoundTripEmbedded.lean`): two outcomes that fail alike or are
related (`ESim`, with its case analysis and its rule for folds); objects and heaps up to slot order (`ObjSim`, `HeapSim` of
`Spec/ReaderSim.lean`) under reading a slot, `setSlot` and `construct`.
-/
import CassisModel.Spec.ReaderSim
import CassisModel.Proofs.Heap
import CassisModel.Proofs.Basic
import CassisModel.Proofs.Lists

namespace Cassis.Json
open Cassis.TS

/-- two outcomes related by `R`: the same exception or related values -/
def ESim {α β : Type} (R : α → β → Prop) : Except Err α → Except Err β → Prop
  | .ok a, .ok b => R a b
  | .error e, .error e' => e' = e
  | _, _ => False

/-- Case analysis on two related outcomes.  The motive is found by abstracting the two runs in the goal, so the lemma
    applies under whatever `match` of the model they stand in; in the successful case the two equations are at hand. -/
@[elab_as_elim]
theorem ESim.cases {α β : Type} {R : α → β → Prop} {motive : Except Err α → Except Err β → Prop}
    {x : Except Err α} {y : Except Err β} (h : ESim R x y) (err : ∀ e, motive (.error e) (.error e))
    (ok : ∀ a b, x = .ok a → y = .ok b → R a b → motive (.ok a) (.ok b)) : motive x y := by
  cases x with
  | error e =>
    cases y with
    | error e' => rw [show e' = e from h]; exact err e
    | ok b => exact absurd h (by simp [ESim])
  | ok a =>
    cases y with
    | error e' => exact absurd h (by simp [ESim])
    | ok b => exact ok a b rfl rfl h

theorem ESim.err {α β : Type} {R : α → β → Prop} (e : Err) : ESim R (.error e : Except Err α) (.error e : Except Err β) := rfl
theorem ESim.ok {α β : Type} {R : α → β → Prop} {a : α} {b : β} (h : R a b) : ESim R (.ok a) (.ok b) := h

theorem ESim.bind_same {α γ δ : Type} {S : γ → δ → Prop} (x : Except Err α) {f : α → Except Err γ}
    {g : α → Except Err δ} (hfg : ∀ a, ESim S (f a) (g a)) : ESim S (x >>= f) (x >>= g) := by
  cases x with
  | error e => exact ESim.err e
  | ok a => exact hfg a

theorem ESim.foldlM {σ σ' α : Type} {R : σ → σ' → Prop} {f : σ → α → Except Err σ} {g : σ' → α → Except Err σ'} :
    ∀ (l : List α), (∀ x ∈ l, ∀ s s', R s s' → ESim R (f s x) (g s' x)) → ∀ {s s'}, R s s' →
      ESim R (l.foldlM f s) (l.foldlM g s')
  | [], _, _, _, hr => ESim.ok hr
  | x :: l, hstep, s, s', hr => by
    rw [List.foldlM_cons, List.foldlM_cons]
    exact ESim.cases (hstep x List.mem_cons_self s s' hr) (fun e => ESim.err e)
      (fun _ _ _ _ h1 => ESim.foldlM l (fun y hy => hstep y (List.mem_cons_of_mem _ hy)) h1)

theorem alistSet_perm_of_some {β} [DecidableEq β] (l : List (String × β)) (k : String) (v v0 : β)
    (h : alistGet? l k = some v0) : (alistSet l k v).Perm ((k, v) :: l.erase (k, v0)) := by
  induction l with
  | nil => cases h
  | cons p rest ih =>
    obtain ⟨k', v'⟩ := p
    unfold alistGet? at h
    unfold alistSet
    split at h
    · rename_i hk
      cases h; subst hk
      rw [if_pos rfl, List.erase_cons_head]
    · rename_i hk
      rw [if_neg hk]
      have hne : ((k', v') == (k, v0)) = false := by
        simp only [beq_eq_false_iff_ne, ne_eq, Prod.mk.injEq, not_and]
        intro hk'; exact absurd hk' hk
      rw [List.erase_cons_tail (by simpa using hne)]
      exact ((ih h).cons (k', v')).trans (List.Perm.swap _ _ _)

theorem alistSet_sim {β} [DecidableEq β] {l l' : List (String × β)} (hp : l'.Perm l)
    (hg : ∀ n, alistGet? l' n = alistGet? l n) (k : String) (v : β) :
    (alistSet l' k v).Perm (alistSet l k v) ∧ ∀ n, alistGet? (alistSet l' k v) n = alistGet? (alistSet l k v) n := by
  refine ⟨?_, ?_⟩
  · cases h : alistGet? l k with
    | none =>
      rw [alistSet_of_none l k v h, alistSet_of_none l' k v (by rw [hg]; exact h)]
      exact hp.append_right _
    | some v0 =>
      have h' : alistGet? l' k = some v0 := by rw [hg]; exact h
      exact (alistSet_perm_of_some l' k v v0 h').trans
        (((hp.erase (k, v0)).cons (k, v)).trans (alistSet_perm_of_some l k v v0 h).symm)
  · intro n
    by_cases hn : n = k
    · subst hn; rw [alistGet?_set_same, alistGet?_set_same]
    · rw [alistGet?_set_other _ _ _ _ hn, alistGet?_set_other _ _ _ _ hn, hg]

theorem ObjSim.refl (o : Obj) : ObjSim o o := ⟨rfl, rfl, rfl, List.Perm.refl _, fun _ => rfl⟩

theorem HeapSim.refl (hp : Heap) : HeapSim hp hp := by
  refine ⟨rfl, ?_⟩
  intro a o o' h h'
  rw [h] at h'; cases h'
  exact ObjSim.refl o

theorem ObjSim.symm {o o' : Obj} (h : ObjSim o o') : ObjSim o' o :=
  ⟨h.1.symm, h.2.1.symm, h.2.2.1.symm, h.2.2.2.1.symm, fun n => (h.2.2.2.2 n).symm⟩

theorem HeapSim.symm {hp hp' : Heap} (h : HeapSim hp hp') : HeapSim hp' hp :=
  ⟨h.1.symm, fun a o' o ho' ho => (h.2 a o o' ho ho').symm⟩

theorem HeapSim.get {hp hp' : Heap} (h : HeapSim hp hp') (a : Nat) :
    (hp[a]? = none ∧ hp'[a]? = none) ∨ ∃ o o', hp[a]? = some o ∧ hp'[a]? = some o' ∧ ObjSim o o' := by
  by_cases ha : a < hp.length
  · right
    have ha' : a < hp'.length := by rw [h.1]; exact ha
    exact ⟨hp[a], hp'[a], List.getElem?_eq_getElem ha, List.getElem?_eq_getElem ha',
      h.2 a _ _ (List.getElem?_eq_getElem ha) (List.getElem?_eq_getElem ha')⟩
  · left
    exact ⟨List.getElem?_eq_none (by omega), List.getElem?_eq_none (by rw [h.1]; omega)⟩

theorem HeapSim.get_some {hp hp' : Heap} (h : HeapSim hp hp') {a : Nat} {o : Obj} (ho : hp[a]? = some o) :
    ∃ o', hp'[a]? = some o' ∧ ObjSim o o' := by
  rcases h.get a with ⟨g, _⟩ | ⟨x, x', g, g', gx⟩
  · rw [g] at ho; cases ho
  · rw [g] at ho; cases ho
    exact ⟨x', g', gx⟩

theorem HeapSim.set {hp hp' : Heap} (h : HeapSim hp hp') (a : Nat) {o o' : Obj} (ho : ObjSim o o') :
    HeapSim (hp.set a o) (hp'.set a o') := by
  refine ⟨by simp [h.1], ?_⟩
  intro b x x' hx hx'
  rw [List.getElem?_set] at hx hx'
  by_cases hab : a = b
  · subst hab
    rw [if_pos rfl] at hx hx'
    split at hx
    · split at hx'
      · cases hx; cases hx'; exact ho
      · cases hx'
    · cases hx
  · rw [if_neg hab] at hx hx'
    exact h.2 b x x' hx hx'

theorem HeapSim.push {hp hp' : Heap} (h : HeapSim hp hp') {o o' : Obj} (ho : ObjSim o o') :
    HeapSim (hp ++ [o]) (hp' ++ [o']) := by
  refine ⟨by simp [h.1], ?_⟩
  intro b x x' hx hx'
  by_cases hb : b < hp.length
  · rw [List.getElem?_append_left hb] at hx
    rw [List.getElem?_append_left (by rw [h.1]; exact hb)] at hx'
    exact h.2 b x x' hx hx'
  · rw [List.getElem?_append_right (by omega)] at hx
    rw [List.getElem?_append_right (by rw [h.1]; omega), h.1] at hx'
    cases hk : b - hp.length with
    | zero =>
      rw [hk] at hx hx'
      simp only [List.getElem?_cons_zero, Option.some.injEq] at hx hx'
      subst hx; subst hx'; exact ho
    | succ k => rw [hk] at hx; simp at hx

theorem HeapSim.slot {hp hp' : Heap} (h : HeapSim hp hp') (a : Nat) (n : String) :
    Traverse.slot hp' a n = Traverse.slot hp a n := by
  unfold Traverse.slot
  rcases h.get a with ⟨h1, h2⟩ | ⟨o, o', h1, h2, ho⟩
  · rw [h1, h2]
  · rw [h1, h2]; exact ho.2.2.2.2 n

theorem HeapSim.xidOf {hp hp' : Heap} (h : HeapSim hp hp') (a : Nat) : Traverse.xidOf hp' a = Traverse.xidOf hp a := by
  unfold Traverse.xidOf
  rcases h.get a with ⟨h1, h2⟩ | ⟨o, o', h1, h2, ho⟩
  · rw [h1, h2]
  · rw [h1, h2]; exact ho.2.2.1

theorem setSlot_sim {hp hp' : Heap} (h : HeapSim hp hp') (a : Nat) (n : String) (v : Val) :
    ESim HeapSim (Heap.setSlot hp a n v) (Heap.setSlot hp' a n v) := by
  unfold Heap.setSlot
  rcases h.get a with ⟨h1, h2⟩ | ⟨o, o', h1, h2, ho⟩
  · rw [h1, h2]; exact ESim.err _
  · rw [h1, h2]
    obtain ⟨hty, hts, hxid, hperm, hget⟩ := ho
    dsimp only
    rw [hget n]
    cases hs : alistGet? o.slots n with
    | some w =>
      dsimp only
      obtain ⟨p1, p2⟩ := alistSet_sim hperm hget n v
      exact ESim.ok (h.set a ⟨hty, hts, hxid, p1, p2⟩)
    | none =>
      dsimp only
      split
      · cases v with
        | int i => exact ESim.ok (h.set a ⟨hty, hts, rfl, hperm, hget⟩)
        | none => exact ESim.ok (h.set a ⟨hty, hts, rfl, hperm, hget⟩)
        | _ => exact ESim.err _
      · exact ESim.err _

theorem construct_sim {t t' : TypeRec} (hn : t'.name = t.name) (hf : ∀ x, x ∈ ctorFields t' ↔ x ∈ ctorFields t)
    (tsIdx : Nat) (xid : Option Int) (kwargs : List (String × Val)) :
    ESim ObjSim (construct t tsIdx xid kwargs) (construct t' tsIdx xid kwargs) := by
  have hmem : ∀ x, x ∈ (ctorFields t').eraseDups ↔ x ∈ (ctorFields t).eraseDups := by
    intro x; rw [List.mem_eraseDups, List.mem_eraseDups]; exact hf x
  rw [construct_eq, construct_eq]
  by_cases h : ∀ p ∈ kwargs, p.1 ∈ ctorFields t
  · rw [if_pos h, if_pos fun p hp => (hf _).mpr (h p hp)]
    have hperm : ((ctorFields t').eraseDups).Perm ((ctorFields t).eraseDups) :=
      (List.perm_ext_iff_of_nodup (Det.nodup_eraseDups _) (Det.nodup_eraseDups _)).mpr hmem
    refine ESim.ok ⟨hn, rfl, rfl, hperm.map _, ?_⟩
    intro n
    show alistGet? (List.map _ _) n = alistGet? (List.map _ _) n
    by_cases hx : n ∈ (ctorFields t).eraseDups
    · rw [alistGet?_map_self _ _ _ hx, alistGet?_map_self _ _ _ ((hmem n).mpr hx)]
    · have e : ∀ l : List String, n ∉ l →
          alistGet? (l.map fun n => (n, (alistGet? kwargs n).getD Val.none)) n = none :=
        fun l h => Option.not_isSome_iff_eq_none.mp (fun hs => h ((alistGet?_map_isSome _ l n).mp hs))
      rw [e _ hx, e _ (fun h => hx ((hmem n).mp h))]
  · rw [if_neg h, if_neg fun h' => h fun p hp => (hf _).mp (h' p hp)]
    exact ESim.err _

end Cassis.Json
