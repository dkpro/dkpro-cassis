/-
Non-vacuity of `merge_perm_one_super` (`Properties/C13Perm.lean`): the Boolean test `permHypsB` of its hypotheses,
proved sound, and the declaration lists of `Proofs/InstancesMerge.lean` on which the kernel evaluates the test and the
two merges.

`demoP`: `x.A` below `uima.tcas.Annotation` declared twice with different features and descriptions, `x.B` below `x.A`
declared twice (once repeating a feature of its ancestor identically), and `uima.tcas.DocumentAnnotation` declared below
`x.A` — which re-parents the document annotation type.  Both the list and its reverse merge successfully, so
`SameHier` holds of the two results (`demoP_sameHier`).  `demoQ` adds a conflicting definition of `f` on `x.B`: both orders fail.
-/
import CassisModel.Proofs.InstancesMerge
import CassisModel.Proofs.MergePermMain

namespace Cassis.TS

theorem closedUserB_sound (K : Consts) (rank : String → Nat) (decls : List Decl)
    (h : closedUserB K rank decls = true) :
    ClosedDecls K decls ∧ UserDecls K decls := by
  simp only [closedUserB, Bool.and_eq_true, List.all_eq_true] at h
  obtain ⟨⟨h1, h2⟩, h3⟩ := h
  refine ⟨⟨?_, rank, ?_⟩, ?_⟩
  · intro d hd
    have := h1 d hd
    simp only [Bool.or_eq_true, List.contains_eq_mem, decide_eq_true_eq] at this
    rcases this with h | h
    · exact Or.inl (by simpa using h)
    · exact Or.inr h
  · intro d hd hp
    have := h2 d hd
    rw [hp] at this
    simpa using this
  · intro d hd
    have := h3 d hd
    rw [String.contains_char_eq]
    simpa using this

/-- the conjunct of `competeHypsB` and `subHypsB` about the document annotation type -/
theorem baseAgree_of_all {decls : List Decl}
    (h : decls.all (fun d => d.name != DOCUMENT_ANNOTATION || d.super == ANNOTATION) = true) : BaseAgree decls := by
  intro d hd hn
  have := List.all_eq_true.mp h d hd
  simp only [Bool.or_eq_true, bne_iff_ne, ne_eq, beq_iff_eq] at this
  rcases this with h | h
  · exact absurd hn h
  · exact h

theorem permHypsB_sound (K : Consts) (rank : String → Nat) (decls : List Decl) (h : permHypsB K rank decls = true) :
    ClosedDecls K decls ∧ UserDecls K decls ∧ OneSuper decls := by
  unfold permHypsB at h
  rw [Bool.and_eq_true, List.all_eq_true] at h
  obtain ⟨hc, hu⟩ := closedUserB_sound K rank decls h.1
  refine ⟨hc, hu, ?_⟩
  intro d hd d' hd' hn
  have := List.all_eq_true.mp (h.2 d hd) d' hd'
  simp only [Bool.or_eq_true, bne_iff_ne, ne_eq, beq_iff_eq] at this
  rcases this with h | h
  · exact absurd hn h
  · exact h

theorem ok_of_isSome {a : Except Err TypeSystem} (h : a.toOption.isSome = true) : ∃ ts, a = .ok ts := by
  cases a with
  | error e => cases h
  | ok ts => exact ⟨ts, rfl⟩

theorem demoP_hyps : permHypsB Gen.consts demoRank demoP = true := mergePermDemo_evals.hypsP
theorem demoQ_hyps : permHypsB Gen.consts demoRank demoQ = true := mergePermDemo_evals.hypsQ

/-- the hypotheses hold on `demoP`, both orders succeed — hence, by `merge_perm_movable_ok` and `stable_of_oneSuper` (the
    two steps of `merge_perm_one_super`, which imports this file), with the same hierarchy -/
theorem demoP_sameHier : ∃ ts ts', mergeDecls Gen.consts Gen.builtinTS demoP = .ok ts ∧
    mergeDecls Gen.consts Gen.builtinTS demoP.reverse = .ok ts' ∧ SameHier ts ts' := by
  obtain ⟨hc, hu, h1⟩ := permHypsB_sound _ _ _ demoP_hyps
  obtain ⟨ts, h⟩ : ∃ ts, mergeDecls Gen.consts Gen.builtinTS demoP = .ok ts :=
    ok_of_isSome (by rw [mergeDecls_eq_S]; exact mergePermDemo_evals.mergeP)
  obtain ⟨ts', h'⟩ : ∃ ts, mergeDecls Gen.consts Gen.builtinTS demoP.reverse = .ok ts :=
    ok_of_isSome (by rw [mergeDecls_eq_S]; exact mergePermDemo_evals.mergePrev)
  exact ⟨ts, ts', h, h', merge_perm_movable_ok _ _ (List.reverse_perm demoP).symm hc hu (stable_of_oneSuper hc hu h1).1
    (stable_of_oneSuper hc hu h1).2 h h'⟩

/-- the merge does re-parent the document annotation type here -/
example : ((mergeDecls Gen.consts Gen.builtinTS demoP).toOption.bind
    (fun ts => find? ts DOCUMENT_ANNOTATION)).map (·.super) = some (some "x.A") := by
  rw [mergeDecls_eq_S]; exact mergePermDemo_evals.docAnnSuper

/-- with a conflicting definition both orders fail -/
example : (mergeDecls Gen.consts Gen.builtinTS demoQ).toOption.isSome = false ∧
    (mergeDecls Gen.consts Gen.builtinTS demoQ.reverse).toOption.isSome = false := by
  rw [mergeDecls_eq_S, mergeDecls_eq_S]; exact ⟨mergePermDemo_evals.failsQ, mergePermDemo_evals.failsQrev⟩

end Cassis.TS
