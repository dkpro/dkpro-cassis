/-
Evaluated tests and counterexamples for `Properties/C20IsoColl.lean`, and a computable test for its hypotheses.

* `inlOkB`, `nodeTysNotArrB`, `renderCollAppliesB`: Boolean versions of the hypotheses of `render_xmi_roundtrip_coll`
  (sound: `Proofs/ComparableIsoCollCheckSound.lean`);
* the candidate statement evaluated on the instance `CollDemo` (every collection kind, inlined and shared) without the
  empty string element (`good`): the XMI round trip keeps the comparable text;
* one counterexample per hypothesis beyond those of `xmi_roundtrip_coll` and `Distinct`: in each, every *other*
  hypothesis holds (`collAppliesB`, `Distinct` and the remaining tests answer `true`), save and load succeed, and the
  comparable text changes.  `xmiRun` is the experiment of `Spec/ComparableIsoCheck.lean`.

The evaluated results are quoted next to each `#eval` and fixed by `#guard`.
-/
import CassisModel.Spec.ComparableIsoColl
import CassisModel.Spec.ComparableIsoCheck

namespace Cassis.Comparable
open Cassis.TS Cassis.Traverse

/-! ### Boolean versions of the hypotheses -/

def noEmptyAt (H : Heap) (a : Nat) : Bool :=
  match Traverse.slot H a "elements" with
  | some ev => decide (NoEmptyStr ev)
  | none => true

/-- `InlOk K ts H addrs a` -/
def inlOkB (K : Consts) (ts : TypeSystem) (H : Heap) (addrs : List Nat) (a : Nat) : Bool :=
  noEmptyAt H a &&
  match H[a]? with
  | none => true
  | some o =>
    match find? ts o.ty with
    | none => true
    | some t =>
      (allFeatures t).all (fun f =>
        !(Xmi.isInline K f) ||
        match alistGet? o.slots f.name with
        | some (.ref cc) =>
          if isArray K f.range then isArrayFs K H cc && noEmptyAt H cc
          else !(isArrayFs K H cc) && addrs.all (fun b => decide (xidOf H b ≠ xidOf H cc))
        | _ => true)

def nodeTysNotArrB (K : Consts) : Bool := listNodeTypes.all (fun n => !(isArray K n))

/-- the hypotheses of `render_xmi_roundtrip_coll` beyond those of `xmi_roundtrip_coll`, on the heap after the writer's
    traversal -/
def renderCollExtraB (K : Consts) (ts : TypeSystem) (cass : List Cas) (ci : Nat) (hp : Heap) : Bool :=
  match Xmi.saveXmi K ts cass ci hp with
  | .error _ => false
  | .ok (_, st) =>
    distinctB st.heap (st.allFs.map (·.2)) && nodeTysNotArrB K &&
    st.allFs.all (fun q => inlOkB K ts st.heap (st.allFs.map (·.2)) q.2)

/-- every hypothesis of `render_xmi_roundtrip_coll` holds for the CAS `cass[ci]` over the heap `hp` -/
def renderCollAppliesB (K : Consts) (ts : TypeSystem) (cass : List Cas) (ci : Nat) (hp : Heap) : Bool :=
  Xmi.collAppliesB K ts cass ci hp && renderCollExtraB K ts cass ci hp

end Cassis.Comparable

/-! ## Evaluated instances and counterexamples -/

namespace Cassis.Comparable.IsoCollCheck
open Cassis.TS Cassis.Traverse Cassis.Xmi Cassis.Xmi.CollDemo

/-- the demo heap of `Spec/RoundTripCollCheck.lean` without the empty string element of the inlined StringArray `sa` -/
def good : Heap := hp.set 9 (arr "uima.cas.StringArray" (.strs [some "a b", none, some "c"]))

structure Outcome where
  collApplies : Bool        -- the hypotheses of `xmi_roundtrip_coll`
  distinct : Bool           -- `Distinct`
  nodes : Bool              -- `NodeTysNotArr`
  inlFails : List Int       -- ids of the collected structures for which `InlOk` fails
  same : Bool               -- the two comparable texts agree (same table or same exception)
  ok : Bool                 -- … and are tables
  diff : List String        -- the cells that differ (written / loaded)
deriving Repr, BEq

def outcome (K : Consts) (h : Heap) : Except Err Outcome := do
  let (doc, st) ← saveXmi K ts [cas] 0 h
  let ld ← loadXmi K ts 0 1 false st.heap doc
  let addrs := st.allFs.map (·.2)
  let r : Except Err (List Section) := (render K ts [cas] 0 h {} (fun _ => 0) none).map (·.1)
  let r' : Except Err (List Section) := (render K ts [cas, ld.cas] 1 ld.heap {} (fun a => a) none).map (·.1)
  pure { collApplies := collAppliesB K ts [cas] 0 h,
         distinct := distinctB st.heap addrs,
         nodes := nodeTysNotArrB K,
         inlFails := (st.allFs.filter (fun q => !inlOkB K ts st.heap addrs q.2)).map (·.1),
         same := exBeq secsBeq r r',
         ok := match r, r' with | .ok _, .ok _ => true | _, _ => false,
         diff := match r, r' with
           | .ok a, .ok b => diffSecs a b
           | .error e, .ok _ => ["written: " ++ reprStr e]
           | .ok _, .error e => ["loaded: " ++ reprStr e]
           | .error e, .error e' => if e == e' then [] else ["written: " ++ reprStr e ++ " / loaded: " ++ reprStr e'] }

def isOk (r : Except Err Outcome) (o : Outcome) : Bool := match r with | .ok x => x == o | .error _ => false

/-! ### the statement on the instance -/

/-- every collection kind, inlined and shared: all hypotheses hold, same text.  The inlined arrays and list nodes of
    the loaded CAS are new objects without ids (compared by content, resp. shown as `None` on both sides) -/
def ok_good := outcome K good
#eval ok_good
#guard isOk ok_good
  { collApplies := true, distinct := true, nodes := true, inlFails := [], same := true, ok := true, diff := [] }
#guard renderCollAppliesB K ts [cas] 0 good

/-- a cyclic nesting of arrays (the shared FSArray contains itself) is within the hypotheses: both sides exhaust the
    recursion budget (`RuntimeError`; Python: `RecursionError` on both sides) — the theorem covers it (equal exceptions) -/
def ok_cyclic := outcome K (good.set 23 (arr "uima.cas.FSArray" (.refs [some 0, some 23])))
#eval ok_cyclic
#guard isOk ok_cyclic
  { collApplies := true, distinct := true, nodes := true, inlFails := [], same := true, ok := false, diff := [] }

/-- an inlined array that is an object of *another* array type than the range of the feature: no restriction -/
def ok_other_array_type := outcome K (good.set 2 (arr "uima.cas.LongArray" (.ints [1, -2, 30])))
#guard isOk ok_other_array_type
  { collApplies := true, distinct := true, nodes := true, inlFails := [], same := true, ok := true, diff := [] }

/-! ### why the hypotheses are needed -/

/-- **`cx_strarray_empty`** (`InlOk.arr`, second part): `""` in an inlined StringArray comes back as null -/
def cx_strarray_empty := outcome K hp
#eval cx_strarray_empty
-- `x.Doc.sa`: `['a b', '', '<NULL>', 'c']` / `['a b', '<NULL>', '<NULL>', 'c']`

/-- **`cx_strarray_obj_empty`** (`InlOk.strs`): `""` in a StringArray *object* (shared, a structure of its own) too -/
def cx_strarray_obj_empty := outcome K (good.set 25 (arr "uima.cas.StringArray" (.strs [some "p", some ""])))
#eval cx_strarray_obj_empty

/-- **`cx_inl_not_array`** (`InlOk.arr`, first part): the object inlined in the IntegerArray feature `ia` is not of an
    array type (`CollFs` looks at its `elements` only).  Written side: a reference to a structure that is not collected,
    shown as `None`; loaded side: an IntegerArray, shown as `[1, -2, 30]` -/
def cx_inl_not_array := outcome K
  (good.set 2 { ty := "uima.cas.EmptyFSList", ts := 0, xid := none, slots := [("elements", .ints [1, -2, 30])] })
#eval cx_inl_not_array

/-- **`cx_list_shared`** (`InlOk.list`, second part): the first node of the inlined FloatList `fl` is also reachable as
    a structure of its own (through the shared feature `mil`), so it is collected and has an anchor; the reader makes a
    new node for `fl`.  Written side: `fl` is shown as `NonEmptyFloatList`, loaded side: as `None` -/
def cx_list_shared := outcome K (setSlot0 good "mil" (.ref 18))
#eval cx_list_shared

/-- **`cx_list_stale_id`** (`InlOk.list`, second part): the first node of the inlined FSList carries the id of a
    collected structure (it is not collected itself): shown as that structure's anchor on the written side -/
def cx_list_stale_id := outcome K
  (good.set 13 { (node "uima.cas.NonEmptyFSList" (.ref 1) (.ref 14)) with xid := some 2 })
#eval cx_list_stale_id

/-- **`cx_node_array`** (`NodeTysNotArr`, and `InlOk.list`, first part, holds): constants that classify
    `uima.cas.NonEmptyFloatList` as an array type, the written first node of `fl` being of another type.  Written side
    `None`; the loaded node is of the type the reader uses, an "array" without `elements`: `AttributeError`.
    (`K` is an arbitrary record in the theorem; not reachable in Python.) -/
def K' : Consts := { K with arrays := K.arrays ++ ["uima.cas.NonEmptyFloatList"] }
def cx_node_array := outcome K' (good.set 18 (node "uima.cas.NonEmptyIntegerList" (.float "0.25") (.ref 19)))
#eval cx_node_array

/-- **`cx_list_node_array`** (`InlOk.list`, first part): the first node of the inlined FloatList is an object of an array
    type (with `head`/`tail` slots; `CollFs` looks at the spine only): `AttributeError` on the written side (an array
    without `elements`), `None` on the loaded side -/
def cx_list_node_array := outcome K
  (good.set 18 { ty := "uima.cas.IntegerArray", ts := 0, xid := none, slots := [("head", .float "0.25"), ("tail", .ref 19)] })
#eval cx_list_node_array

def cxShape (r : Except Err Outcome) (nodes : Bool) (inl : List Int) : Bool :=
  match r with
  | .ok x => x.collApplies && x.distinct && x.nodes == nodes && x.inlFails == inl && !x.same
  | .error _ => false

#guard cxShape cx_strarray_empty true [2]
#guard cxShape cx_strarray_obj_empty true [6]
#guard cxShape cx_inl_not_array true [2]
#guard cxShape cx_list_shared true [2]
#guard cxShape cx_list_stale_id true [2]
#guard cxShape cx_list_node_array true [2]
#guard cxShape cx_node_array false []

end Cassis.Comparable.IsoCollCheck

/-! ### the JSON round trip on the same instances (evaluated)

`jsonRun` (`Spec/ComparableIsoCheck.lean`) on the instances above: the JSON round trip keeps the comparable text in every
case in which the XMI round trip does not — JSON keeps `""` apart from null, writes every collection object as a
structure of its own with its type, and both references to a list node that is inlined *and* shared lead to the same
loaded node.  Accordingly `render_json_roundtrip_coll` (`Properties/C20IsoJsonColl.lean`) has none of `InlOk` / `NodeTysNotArr`; what its
proof needs beyond the XMI one is a comparison of two traversals of the *written* side (`render` traverses `hp` with the
default options, the JSON writer with `include_inlinable_arrays_and_lists=True`, assigning other ids). -/

namespace Cassis.Comparable.IsoCollCheck
open Cassis.TS Cassis.Traverse Cassis.Xmi Cassis.Xmi.CollDemo Cassis.Comparable.IsoCheck

def jsonSame (K : Consts) (h : Heap) : Bool :=
  match jsonRun K ts cas h with
  | .ok r => r.distinct && r.same && r.ok
  | .error _ => false

#guard jsonSame K hp                                                                            -- `cx_strarray_empty`
#guard jsonSame K good
#guard jsonSame K (good.set 25 (arr "uima.cas.StringArray" (.strs [some "p", some ""])))        -- `cx_strarray_obj_empty`
#guard jsonSame K (good.set 2 { ty := "uima.cas.EmptyFSList", ts := 0, xid := none, slots := [("elements", .ints [1, -2, 30])] })
#guard jsonSame K (setSlot0 good "mil" (.ref 18))                                               -- `cx_list_shared`
#guard jsonSame K' (good.set 18 (node "uima.cas.NonEmptyIntegerList" (.float "0.25") (.ref 19))) -- `cx_node_array`

end Cassis.Comparable.IsoCollCheck
