/-
For `Properties/C09Doc.lean`: the XMI loader reseeds the id generators above every id of the document and every id
carried by an object it created.
-/
import CassisModel.Spec.XmiDoc
import CassisModel.Proofs.XmiReader

namespace Cassis.Xmi
open Cassis.TS

/-! ### the first pass keeps `maxId` / `maxNum` above everything it records -/

theorem step1_bounded (K : Consts) (ts : TypeSystem) (tsIdx : Nat) (b : Bool) (e : XElem) (s s' : Pass1)
    (h : step1 K ts tsIdx b e s = .ok s') (hs : P1Bounded s) :
    P1Bounded s' ∧ s.maxId ≤ s'.maxId ∧ s.maxNum ≤ s'.maxNum := by
  obtain ⟨hs1, hs2⟩ := hs
  rcases step1_ok h with ⟨_, p, _, rfl⟩ | ⟨_, ⟨_, v, _, rfl⟩ | ⟨_, ⟨hp', i, a, _, rfl⟩ | rfl⟩⟩
  · refine ⟨⟨?_, ?_⟩, Int.le_max_left _ _, Int.le_max_left _ _⟩
    · intro q hq
      show q.2.xid ≤ max s.maxId p.xid ∧ q.2.num ≤ max s.maxNum p.num
      rcases mem_alistSetI hq with hq | rfl
      · have := hs1 q hq
        exact ⟨Int.le_trans this.1 (Int.le_max_left _ _), Int.le_trans this.2 (Int.le_max_left _ _)⟩
      · exact ⟨Int.le_max_right _ _, Int.le_max_right _ _⟩
    · intro q hq
      exact Int.le_trans (hs2 q hq) (Int.le_max_left _ _)
  · exact ⟨⟨hs1, hs2⟩, Int.le_refl _, Int.le_refl _⟩
  · refine ⟨⟨?_, ?_⟩, Int.le_max_left _ _, Int.le_refl _⟩
    · intro q hq
      have := hs1 q hq
      exact ⟨Int.le_trans this.1 (Int.le_max_left _ _), this.2⟩
    · intro q hq
      show q.1 ≤ max s.maxId i
      rcases mem_alistSetI hq with hq | rfl
      · exact Int.le_trans (hs2 q hq) (Int.le_max_left _ _)
      · exact Int.le_max_right _ _
  · exact ⟨⟨hs1, hs2⟩, Int.le_refl _, Int.le_refl _⟩

/-- the first pass leaves the heap it was given alone, and the ids of the objects it makes are at most `maxId` -/
theorem step1_ext (K : Consts) (ts : TypeSystem) (tsIdx : Nat) (b : Bool) (hp0 : Heap) (e : XElem) (s s' : Pass1)
    (h : step1 K ts tsIdx b e s = .ok s') (hg : HExt Eq (IdLe s.maxId) hp0 s.heap) :
    HExt Eq (IdLe s'.maxId) hp0 s'.heap := by
  rcases step1_ok h with ⟨_, p, _, rfl⟩ | ⟨_, ⟨_, v, _, rfl⟩ | ⟨_, ⟨hp', i, a, hp, rfl⟩ | rfl⟩⟩
  · exact hg.mono (fun _ _ h => h) fun _ h x hx => Int.le_trans (h x hx) (Int.le_max_left _ _)
  · exact hg
  · obtain ⟨_, hX, _⟩ := parseFsElem_ok K ts tsIdx s.heap e _ hp
    refine hg.comp hX (fun _ _ _ => Eq.trans) (fun _ _ hb r x hx => Int.le_trans (hb x (r ▸ hx)) (Int.le_max_left _ _))
      fun _ hc x hx => ?_
    rcases hc with hc | hc <;> rw [hc] at hx <;> cases hx
    exact Int.le_max_right _ _
  · exact hg

/-! ### third pass: no object is created, no id changes -/

theorem addMember1_x {ts : TypeSystem} {ci : Nat} {h : Handle} {conv : Offsets.Conv} {sofas : List (Int × PSofa)}
    {fss : List (Int × Nat)} {m : Int} {b b' : Build} (hf : FssIds fss b.heap)
    (hb : addMember1 ts ci h conv sofas fss m b = .ok b') :
    XSame b.heap b'.heap ∧ SofaSame b.cas b'.cas := by
  obtain ⟨a, o0, hp1, hl, ho0, hc, hadd⟩ := addMember1_ok hb
  obtain ⟨q, hq, rfl⟩ := lookupFs_mem hl
  obtain ⟨o, ho, hox⟩ := hf q hq
  rcases hc with rfl | ⟨_, cv, hc⟩
  · exact add_xsame ho hox hadd
  · have hx1 := convertOffsets_xsame hc
    obtain ⟨o1, ho1, hox1⟩ := hx1.old q.2 o ho
    obtain ⟨hx2, hs2⟩ := add_xsame ho1 (hox1.trans hox) hadd
    exact ⟨hx1.trans hx2, hs2⟩

theorem addMembers_x {ts : TypeSystem} {ci : Nat} {h : Handle} {conv : Offsets.Conv} {sofas : List (Int × PSofa)}
    {L : List Int} {fss : List (Int × Nat)} {ms : List Int} {b b' : Build} (hf : FssIds fss b.heap)
    (hb : addMembers ts ci h conv sofas L fss ms b = .ok b') : XSame b.heap b'.heap ∧ SofaSame b.cas b'.cas :=
  addMembers_inv (fun x => XSame b.heap x.heap ∧ SofaSame b.cas x.cas)
    (fun _ _ _ h1 hJ => by
      obtain ⟨x1, s1⟩ := addMember1_x (hf.same hJ.1) h1
      exact ⟨hJ.1.trans x1, hJ.2.trans s1⟩)
    ms b b' hb ⟨XSame.refl _, SofaSame.refl _⟩

/-! ### the views created from the sofas of the document: id and number of their sofas within the bounds (`VB`) -/

theorem viewCas_x {s : PSofa} {c c2 : Cas} {M N : Int} (h : viewCas s c = .ok c2) (h1 : s.xid ≤ M) (h2 : s.num ≤ N) :
    VB M N c2 s.sofaID ∧ ∀ n, VB M N c n → VB M N c2 n := by
  obtain ⟨c1, hc1, hu⟩ := viewCas_ok h
  -- the state after the first step
  have key : ∃ v1 : View, (∀ n, n ≠ s.sofaID → Cas.getViewRec c1 n = Cas.getViewRec c n) ∧
      Cas.getViewRec c1 s.sofaID = some v1 ∧ v1.sofa.xid = s.xid ∧ v1.sofa.sofaNum = s.num := by
    rcases hc1 with ⟨hid, hu1⟩ | ⟨_, rfl⟩
    · obtain ⟨v, hv0, rfl⟩ := Cas.updSofa_ok hu1
      rw [hid]
      exact ⟨{ v with sofa := { v.sofa with xid := s.xid, sofaNum := s.num } },
        fun n hn => Cas.getViewRec_set_other _ _ _ _ hn, Cas.getViewRec_set_same _ _ _, rfl, rfl⟩
    · exact ⟨{ sofa := { sofaID := s.sofaID, sofaNum := s.num, xid := s.xid } },
        fun n hn => Cas.getViewRec_set_other c s.sofaID n _ hn, Cas.getViewRec_set_same c _ _, rfl, rfl⟩
  obtain ⟨v1, hoth, hv1, hx1, hn1⟩ := key
  obtain ⟨v, hv0, rfl⟩ := Cas.updSofa_ok hu
  have hv0' : Cas.getViewRec c1 s.sofaID = some v := hv0
  rw [hv1] at hv0'
  cases hv0'
  have hnew' : ∀ v' : View, v'.sofa.xid = s.xid → v'.sofa.sofaNum = s.num →
      VB M N (Cas.setViewRec c1 s.sofaID v') s.sofaID := by
    intro v' e1 e2
    exact ⟨v', Cas.getViewRec_set_same _ _ _, by rw [e1]; exact h1, by rw [e2]; exact h2⟩
  refine ⟨hnew' _ hx1 hn1, ?_⟩
  intro n hn
  by_cases hns : n = s.sofaID
  · rw [hns]; exact hnew' _ hx1 hn1
  · obtain ⟨v, hv, b1, b2⟩ := hn
    refine ⟨v, ?_, b1, b2⟩
    exact (Cas.getViewRec_set_other c1 s.sofaID n _ hns).trans ((hoth n hns).trans hv)

theorem buildView_x {ts : TypeSystem} {ci : Nat} {lenient : Bool} {p : Pass1} {s : PSofa} {b b' : Build} {M N : Int}
    (hf : FssIds p.fss b.heap) (h1 : s.xid ≤ M) (h2 : s.num ≤ N) (hb : buildView ts ci lenient p s b = .ok b') :
    XSame b.heap b'.heap ∧ VB M N b'.cas s.sofaID ∧ ∀ n, VB M N b.cas n → VB M N b'.cas n := by
  rw [buildView_eq] at hb
  cases hv : viewCas s b.cas with
  | error e => rw [hv] at hb; cases hb
  | ok c2 =>
    rw [hv] at hb
    obtain ⟨v1, v2⟩ := viewCas_x (M := M) (N := N) hv h1 h2
    obtain ⟨x1, s1⟩ := addMembers_x (b := { b with cas := c2 }) hf hb
    exact ⟨x1, v1.same s1, fun n hn => (v2 n hn).same s1⟩

theorem buildViews_x {ts : TypeSystem} {ci : Nat} {lenient : Bool} {p : Pass1} {M N : Int} {l : List (Int × PSofa)}
    {b b' : Build} (hf : FssIds p.fss b.heap) (hl : ∀ q ∈ l, q.2.xid ≤ M ∧ q.2.num ≤ N)
    (hb : buildViews ts ci lenient p l b = .ok b') :
    XSame b.heap b'.heap ∧ ∀ q ∈ l, VB M N b'.cas q.2.sofaID :=
  buildViews_inv (fun done x => XSame b.heap x.heap ∧ ∀ q ∈ done, VB M N x.cas q.2.sofaID)
    (fun done q b1 b2 hq h1 ⟨x, v⟩ => by
      obtain ⟨x1, v1, k1⟩ := buildView_x (M := M) (N := N) (hf.same x) (hl q hq).1 (hl q hq).2 h1
      refine ⟨x.trans x1, fun q' hq' => ?_⟩
      rcases List.mem_append.mp hq' with h | h
      · exact k1 _ (v q' h)
      · rw [List.mem_singleton.mp h]; exact v1)
    hb ⟨XSame.refl _, fun _ h => nomatch h⟩

end Cassis.Xmi
