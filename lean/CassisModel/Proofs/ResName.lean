/-
The reserved feature names `self` / `type` in the round-trip proofs.

`xmlName f` is the name the writers (XMI and JSON) use for the feature `f`: the stored name, without its last
character when the feature is reserved.  `renRes` is what the readers do to an attribute name / key / child tag.
Under `ResOk f` (and the stored name being neither `self` nor `type`) reading undoes writing:
`renRes (xmlName f) = f.name` (`renRes_xmlName`: the form the round trips use), hence `xmlName` is injective on such
features (`xmlName_inj`, stated for the record).  The XMI reader's own spellings of the renaming are `renRes`
(`renRes_eq_ite`, `renRes_map`).
-/
import CassisModel.Spec.RoundTrip

namespace Cassis.TS

/-- the name under which the writers emit the feature -/
def xmlName (f : Feature) : String := if f.reserved then String.ofList f.name.toList.dropLast else f.name

/-- what the readers do to a name: `self` ↦ `self_`, `type` ↦ `type_` -/
def renRes (n : String) : String := if n == "self" then "self_" else if n == "type" then "type_" else n

theorem xmlName_def (f : Feature) :
    (if f.reserved = true then String.ofList f.name.toList.dropLast else f.name) = xmlName f := rfl

theorem xmlName_of_not_reserved (f : Feature) (h : f.reserved = false) : xmlName f = f.name := by
  unfold xmlName; rw [h]; rfl

theorem renRes_of_ne (n : String) (h1 : n ≠ "self") (h2 : n ≠ "type") : renRes n = n := by
  unfold renRes; simp [h1, h2]

theorem renRes_self : renRes "self" = "self_" := by decide
theorem renRes_type : renRes "type" = "type_" := by decide

theorem renRes_sofa (k : String) : renRes k = "sofa" ↔ k = "sofa" := by
  unfold renRes
  by_cases h1 : k = "self"
  · subst h1; decide
  · by_cases h2 : k = "type"
    · subst h2; decide
    · simp [h1, h2]

/-- the XMI reader's spelling of the renaming on a child tag (`CG1.kidStep`) -/
theorem renRes_eq_ite (n : String) : (if n == "self" || n == "type" then n ++ "_" else n) = renRes n := by
  unfold renRes
  by_cases h1 : n = "self"
  · subst h1; rfl
  · by_cases h2 : n = "type"
    · subst h2; rfl
    · simp [h1, h2]

/-- the XMI reader's spelling on the keys of the merged attributes: `self` first, then `type` -/
theorem renRes_map {β} (M : List (String × β)) :
    (M.map fun p => if p.1 == "self" then ("self_", p.2) else p).map (fun p => if p.1 == "type" then ("type_", p.2) else p) =
      M.map fun p => (renRes p.1, p.2) := by
  rw [List.map_map]
  refine List.map_congr_left fun p _ => ?_
  obtain ⟨k, v⟩ := p
  unfold renRes
  by_cases h1 : k = "self"
  · subst h1; rfl
  · by_cases h2 : k = "type"
    · subst h2; simp
    · simp [h1, h2]

open Cassis.Xmi

theorem xmlName_cases (f : Feature) (h : ResOk f) :
    (f.reserved = false ∧ xmlName f = f.name) ∨
    (f.reserved = true ∧ f.name = "self_" ∧ xmlName f = "self") ∨
    (f.reserved = true ∧ f.name = "type_" ∧ xmlName f = "type") := by
  rcases h with h | ⟨h, hn | hn⟩
  · exact .inl ⟨h, xmlName_of_not_reserved f h⟩
  · refine .inr (.inl ⟨h, hn, ?_⟩)
    unfold xmlName; rw [h, hn]; decide
  · refine .inr (.inr ⟨h, hn, ?_⟩)
    unfold xmlName; rw [h, hn]; decide

theorem renRes_xmlName (f : Feature) (h : ResOk f) (h1 : f.name ≠ "self") (h2 : f.name ≠ "type") :
    renRes (xmlName f) = f.name := by
  rcases xmlName_cases f h with ⟨_, hx⟩ | ⟨_, hn, hx⟩ | ⟨_, hn, hx⟩
  · rw [hx, renRes_of_ne _ h1 h2]
  · rw [hx, hn]; decide
  · rw [hx, hn]; decide

theorem xmlName_inj (f g : Feature) (hf : ResOk f) (hg : ResOk g) (f1 : f.name ≠ "self") (f2 : f.name ≠ "type")
    (g1 : g.name ≠ "self") (g2 : g.name ≠ "type") (h : xmlName f = xmlName g) : f.name = g.name := by
  rw [← renRes_xmlName f hf f1 f2, ← renRes_xmlName g hg g1 g2, h]

/-- a written name is a special string exactly when the stored name is — for the strings `s` that are neither a
    reserved name nor the stored form of one -/
theorem xmlName_eq_iff (f : Feature) (h : ResOk f) (s : String) (s1 : s ≠ "self") (s2 : s ≠ "type")
    (s3 : s ≠ "self_") (s4 : s ≠ "type_") : xmlName f = s ↔ f.name = s := by
  rcases xmlName_cases f h with ⟨_, hx⟩ | ⟨_, hn, hx⟩ | ⟨_, hn, hx⟩
  · rw [hx]
  · rw [hx, hn]; exact ⟨fun e => absurd e.symm s1, fun e => absurd e.symm s3⟩
  · rw [hx, hn]; exact ⟨fun e => absurd e.symm s2, fun e => absurd e.symm s4⟩

theorem xmlName_beq (f : Feature) (h : ResOk f) (s : String) (s1 : s ≠ "self") (s2 : s ≠ "type")
    (s3 : s ≠ "self_") (s4 : s ≠ "type_") : (xmlName f == s) = (f.name == s) := by
  rw [Bool.eq_iff_iff, beq_iff_eq, beq_iff_eq]
  exact xmlName_eq_iff f h s s1 s2 s3 s4

theorem xmlName_begin (f : Feature) (h : ResOk f) : (xmlName f == "begin") = (f.name == "begin") :=
  xmlName_beq f h _ (by decide) (by decide) (by decide) (by decide)
theorem xmlName_end (f : Feature) (h : ResOk f) : (xmlName f == "end") = (f.name == "end") :=
  xmlName_beq f h _ (by decide) (by decide) (by decide) (by decide)
theorem xmlName_sofa (f : Feature) (h : ResOk f) : (xmlName f == "sofa") = (f.name == "sofa") :=
  xmlName_beq f h _ (by decide) (by decide) (by decide) (by decide)

end Cassis.TS
