/-
C20 across two heaps: corresponding structures give equal rows, the two sides equal sections and equal tables —
given anchor maps that answer alike for "the same key" (`renderFrom_rel`).  Its instances: the same heap under another
order of the lists (`renderFrom_perm`), the same addresses under other ids (`renderRow_agree`, used in
`Proofs/ComparableIds.lean`), two heaps related by `IsoR` (`renderFrom_isoR`).
-/
import CassisModel.Proofs.ComparableRelAnchors
import CassisModel.Proofs.ComparableRenderVal

namespace Cassis.Comparable
open Cassis.TS Cassis.Traverse

/-! ### sections from rows

All the loop needs of the two sides: the structures of `addrs` and their images are rendered as the same row. -/

section
variable {K : Consts} {cass cass' : List Cas} {hp hp' : Heap} {addrs : List Nat} {φ : Nat → Nat}
  {byId byId' : List (Option Int × String)}
  (hrow : ∀ (t : TypeRec) (annType : Bool), ∀ a ∈ addrs,
    renderRow K cass' hp' byId' t annType (φ a) = renderRow K cass hp byId t annType a)
include hrow

theorem renderRows_rel (t : TypeRec) (annType : Bool) : ∀ (l : List Nat), (∀ a ∈ l, a ∈ addrs) →
    renderRows K cass' hp' byId' t annType (l.map φ) = renderRows K cass hp byId t annType l
  | [], _ => rfl
  | a :: l, hl => by
    rw [List.map_cons, renderRows, renderRows, hrow t annType a (hl a List.mem_cons_self),
      renderRows_rel t annType l (fun b hb => hl b (List.mem_cons_of_mem _ hb))]

theorem renderSections_rel (ts : TypeSystem) (o : Opts) : ∀ (L : List (String × List Nat)),
    (∀ p ∈ L, ∀ a ∈ p.2, a ∈ addrs) →
    renderSections K ts cass' hp' o byId' (L.map (fun p => (p.1, p.2.map φ))) = renderSections K ts cass hp o byId L
  | [], _ => rfl
  | (tn, fss) :: L, hL => by
    have ih := renderSections_rel ts o L (fun p hp => hL p (List.mem_cons_of_mem _ hp))
    rw [List.map_cons, renderSections, renderSections, ih]
    simp only [renderRows_rel hrow _ _ fss (hL (tn, fss) List.mem_cons_self)]

end

/-- **two sides whose sorted lists, anchor texts, anchor keys and rows correspond through `φ` give the same table** -/
theorem renderFrom_rel (K : Consts) (ts : TypeSystem) {cass cass' : List Cas} {hp hp' : Heap} (o : Opts)
    (hsh hsh' : Nat → Int) {indexed indexed' addrs addrs' : List Nat} {φ : Nat → Nat}
    (hsort : sortedOf (ltFs hp' hsh') hp' addrs' = (sortedOf (ltFs hp hsh) hp addrs).map (fun p => (p.1, p.2.map φ)))
    (hanch : ∀ a ∈ addrs, anchorOf cass' hp' indexed' o (φ a) = anchorOf cass hp indexed o a)
    (hkey : ∀ a ∈ addrs, SameKey hp hp' addrs φ a (φ a))
    (hrow : ∀ byId byId', AnchRel hp hp' addrs φ byId byId' → ∀ (t : TypeRec) (annType : Bool), ∀ a ∈ addrs,
      renderRow K cass' hp' byId' t annType (φ a) = renderRow K cass hp byId t annType a) :
    renderFrom K ts cass' hp' o hsh' indexed' addrs' = renderFrom K ts cass hp o hsh indexed addrs := by
  have hmem : ∀ p ∈ sortedOf (ltFs hp hsh) hp addrs, ∀ a ∈ p.2, a ∈ addrs :=
    fun p hp' a ha => ((mem_sortedOf_pair _ hp addrs p hp').2 a ha).1
  rw [renderFrom_eq, renderFrom_eq, hsort]
  generalize sortedOf (ltFs hp hsh) hp addrs = S at hmem
  rcases (genAnchors_rel hanch hkey ts S (S.map (fun p => (p.1, p.2.map φ))) S hmem
    (StRel.init hp hp' addrs φ)).cases with ⟨e, h1, h2⟩ | ⟨s, s', h1, h2, hs⟩
  · rw [h1, h2]
    rfl
  · rw [h1, h2]
    exact renderSections_rel (hrow _ _ (AnchRel.of_keysRel hs.2)) ts o S hmem

/-! ### the same addresses on both sides

Two heaps that hold the same types and slots at every address (they may differ in the ids), and two anchor maps that
answer alike at every address: the same cells and rows.  With the heap itself this is what invariance under the order
of the lists needs, with the renumbered heap what invariance under ids needs. -/

section
variable {K : Consts} {hp hp' : Heap} {byId byId' : List (Option Int × String)}
  (hty : ∀ c, tyOf hp' c = tyOf hp c) (hs : ∀ c n, slot hp' c n = slot hp c n)
  (hA : ∀ c, getById byId' (xidOf hp' c) = getById byId (xidOf hp c))
include hty hs hA

theorem renderVal_agree (f : Nat) (v : Val) : renderVal K hp' byId' f v = renderVal K hp byId f v := by
  induction f generalizing v with
  | zero => cases v <;> rfl
  | succ f ih =>
    cases v with
    | refs l =>
      rw [renderVal_refs, renderVal_refs]
      congr 2
      funext r
      cases r with
      | none => rfl
      | some a => exact ih (.ref a)
    | ref a =>
      rw [renderVal_ref, renderVal_ref, isArrayFs_congr hty, hs, hA]
      split
      · split
        · rfl
        · exact ih _
        · rfl
      · rfl
    | _ => rfl

theorem renderRow_agree (hlen : hp'.length = hp.length) {cass : List Cas}
    (hcov : ∀ c, Cas.coveredText cass hp' c = Cas.coveredText cass hp c) (t : TypeRec) (annType : Bool) (a : Nat) :
    renderRow K cass hp' byId' t annType a = renderRow K cass hp byId t annType a := by
  rw [renderRow_eq, renderRow_eq]
  unfold covOf cellsOf anchorCell
  simp only [renderCols_eq_mapM, hA, hcov, isArrayFs_congr hty, hs, hlen, renderVal_agree hty hs hA,
    (AgreeSort.of_slots hty (fun c => hs c _) (fun c => hs c _)).ann]

end

theorem renderFrom_perm (K : Consts) (ts : TypeSystem) (cass : List Cas) (hp : Heap) (o : Opts) (hsh hsh' : Nat → Int)
    {indexed indexed' addrs addrs' : List Nat} (hperm : addrs.Perm addrs') (hidx : ∀ a, a ∈ indexed ↔ a ∈ indexed')
    (hd : Distinct hp addrs) :
    renderFrom K ts cass hp o hsh indexed addrs = renderFrom K ts cass hp o hsh' indexed' addrs' := by
  -- the two sides correspond through the identity on addresses
  refine (renderFrom_rel K ts o hsh hsh' (φ := id) ?_
    (fun a _ => anchorOf_congr o rfl rfl rfl rfl rfl (hidx a).symm) (fun _ _ _ _ => Iff.rfl)
    (fun _ _ hA t annType a _ => renderRow_agree (fun _ => rfl) (fun _ _ => rfl)
      (fun c => hA c c fun _ _ => Iff.rfl) rfl (fun _ => rfl) t annType a)).symm
  simp only [List.map_id, List.map_id']
  exact (sorted_perm hp hsh hsh' hperm hd).symm

section
variable {K : Consts} {cass cass' : List Cas} {hp hp' : Heap} {indexed indexed' addrs addrs' : List Nat} {φ : Nat → Nat}

theorem IsoR.renderCols (h : IsoR K cass cass' hp hp' indexed indexed' addrs addrs' φ)
    {byId byId' : List (Option Int × String)} (hA : AnchRel hp hp' addrs φ byId byId') {a : Nat} (ha : a ∈ addrs)
    (cols : List String) (hc : ∀ n ∈ cols, n ≠ "sofa") :
    Comparable.renderCols K hp' byId' (φ a) cols = Comparable.renderCols K hp byId a cols := by
  rw [renderCols_eq_mapM, renderCols_eq_mapM]
  exact Det.mapM_congr fun n hn => h.cells _ _ hA a ha n (hc n hn)

theorem IsoR.renderRow (h : IsoR K cass cass' hp hp' indexed indexed' addrs addrs' φ)
    {byId byId' : List (Option Int × String)} (hA : AnchRel hp hp' addrs φ byId byId') (t : TypeRec) (annType : Bool)
    {a : Nat} (ha : a ∈ addrs) :
    Comparable.renderRow K cass' hp' byId' t annType (φ a) = Comparable.renderRow K cass hp byId t annType a := by
  have e1 : anchorCell hp' byId' (φ a) = anchorCell hp byId a := by
    unfold anchorCell; rw [hA a (φ a) (h.key a ha)]
  have e2 : covOf cass' hp' annType (φ a) = covOf cass hp annType a := by
    unfold covOf
    rw [h.isAnnot ha]
    split
    · rename_i hc
      rw [h.covered a ha ((Bool.and_eq_true _ _).mp hc).2]
    · rfl
  have e3 : cellsOf K hp' byId' t (φ a) = cellsOf K hp byId t a := by
    unfold cellsOf
    rw [isArrayFs_of_tyOf (h.ty a ha) K,
      h.renderCols hA ha (columns t) (columns_ne_sofa t)]
    split
    · -- an array object: the `elements` slot is there on both sides or on neither, and rendered alike
      have hel := h.cells _ _ hA a ha "elements" (by decide)
      have hsome := h.elems a ha ‹_›
      cases h1 : slot hp a "elements" <;> cases h2 : slot hp' (φ a) "elements" <;> rw [h1, h2] at hsome hel <;>
        first | rfl | exact congrArg (Except.map ([·])) hel | cases hsome
    · rfl
  rw [renderRow_eq, renderRow_eq, e1, e2, e3]

theorem IsoR.renderSections (h : IsoR K cass cass' hp hp' indexed indexed' addrs addrs' φ) (ts : TypeSystem) (o : Opts)
    {byId byId' : List (Option Int × String)} (hA : AnchRel hp hp' addrs φ byId byId') :
    ∀ (L : List (String × List Nat)), (∀ p ∈ L, ∀ a ∈ p.2, a ∈ addrs) →
      Comparable.renderSections K ts cass' hp' o byId' (L.map (fun p => (p.1, p.2.map φ)))
        = Comparable.renderSections K ts cass hp o byId L :=
  renderSections_rel (fun t annType _ ha => h.renderRow hA t annType ha) ts o

/-- **invariance under isomorphism**, for the semantic notion: the order of the two collected lists, the order and
    multiplicity of the two indexed lists and the two content-hash functions are arbitrary -/
theorem renderFrom_isoR (K : Consts) (ts : TypeSystem) (cass cass' : List Cas) (hp hp' : Heap) (o : Opts)
    (hsh hsh' : Nat → Int) (indexed indexed' addrs addrs' : List Nat) (φ : Nat → Nat)
    (hiso : IsoR K cass cass' hp hp' indexed indexed' addrs addrs' φ) (hd : Distinct hp addrs) :
    renderFrom K ts cass' hp' o hsh' indexed' addrs' = renderFrom K ts cass hp o hsh indexed addrs :=
  renderFrom_rel K ts o hsh hsh'
    ((sorted_perm hp' hsh' hsh' hiso.bij (hiso.distinct_map hd)).symm.trans (hiso.sorted_map hd hsh hsh'))
    (fun _ ha => hiso.anchorOf o ha) hiso.key (fun _ _ hA t annType _ ha => hiso.renderRow hA t annType ha)

end

end Cassis.Comparable
