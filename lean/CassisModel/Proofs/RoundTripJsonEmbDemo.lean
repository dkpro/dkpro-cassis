/-
Non-vacuity of `Properties/C02RoundTripEmbedded.lean` on the instance `EmbDemo` (`Proofs/InstancesEmb.lean`: an
API-built type system with a chain `x.A > x.B > x.C` whose features are declared bottom-up, so that the type system
rebuilt from the `%TYPES` section orders the features of `x.C` differently; flat, with collections, and with a type the
CAS does not use).  Everything is checked by kernel evaluation, there, of the sound Boolean tests `jflatAppliesB`
(`Proofs/RoundTripJsonCollCheckSound.lean`) and `jcollAppliesB` (`Spec/RoundTripJsonCollCheck.lean`).
-/
import CassisModel.Proofs.RoundTripJsonEmbedded
import CassisModel.Proofs.EmbeddedTsDemo
import CassisModel.Proofs.RoundTripCheckSound

namespace Cassis.Json.EmbDemo
open Cassis.TS Cassis.Xmi Cassis.Traverse

theorem embTs_eq : embOps.foldl (applyOp Gen.consts) Gen.builtinTS = embTs := by unfold embTs; rw [applyOp_eq_S]
theorem embTsC_eq : embOpsC.foldl (applyOp Gen.consts) Gen.builtinTS = embTsC := by unfold embTsC; rw [applyOp_eq_S]

/-- the feature order of `x.C` in the original -/
example : ((find? embTs "x.C").map (fun t => (allFeatures t).map (·.name))) =
    some ["fc", "begin", "end", "sofa", "fb", "fa", "self_"] := embDemo_evals.featureOrder

theorem hist_base : UserOnlyNoDoc Gen.consts embOps := histOkB_sound _ _ embDemo_evals.histBase
theorem writable_base : Writable Gen.consts embTs := embDemo_evals.writableBase
theorem noPct_base : NoPercentNames embTs := embDemo_evals.noPctBase
theorem flat_applies : jflatAppliesB Gen.consts embTs [cas] 0 hpF = true := embDemo_evals.flatApplies

theorem hist_coll : UserOnlyNoDoc Gen.consts embOpsC := histOkB_sound _ _ embDemo_evals.histColl
theorem writable_coll : Writable Gen.consts embTsC := embDemo_evals.writableColl
theorem noPct_coll : NoPercentNames embTsC := embDemo_evals.noPctColl
theorem coll_applies : jcollAppliesB Gen.consts embTsC [cas] 0 hpC = true := embDemo_evals.collApplies

theorem hist_Z : UserOnlyNoDoc Gen.consts embOpsZ := histOkB_sound _ _ embDemo_evals.histZ
theorem writable_Z : Writable Gen.consts embTsZ := embDemo_evals.writableZ
theorem noPct_Z : NoPercentNames embTsZ := embDemo_evals.noPctZ
theorem flatZ_applies : jflatAppliesB Gen.consts embTsZ [cas] 0 hpF = true := embDemo_evals.flatZApplies

/-- **non-vacuity of `json_roundtrip_full_flat`**: all its hypotheses hold on the instance -/
theorem full_flat_hyps : ∃ (doc : JDoc) (st : Traverse.St),
    UserOnly Gen.consts embOps ∧ (∀ op ∈ embOps, match op with
      | .createFeature dom _ _ _ _ _ => dom ≠ DOCUMENT_ANNOTATION
      | .createType _ _ _ => True) ∧
    Writable Gen.consts embTs ∧ NoPercentNames embTs ∧ [cas][0]? = some cas ∧ RTWf cas hpF ∧
    saveJson Gen.consts embTs [cas] 0 hpF .full = .ok (doc, st) ∧
    (∀ q ∈ st.allFs, FlatFs Gen.consts embTs cas 0 st.heap q.2) ∧
    (∀ q ∈ st.allFs, JsonFs embTs st.heap q.2) ∧
    (∀ nv ∈ cas.views, ∀ e ∈ Index.all nv.2.idx, (xidOf hpF e.oid).isSome = true) ∧
    (∀ q ∈ st.allFs, ∀ nv ∈ cas.views, q.1 ≠ nv.2.sofa.xid) ∧
    (∀ nv ∈ cas.views, ∀ e ∈ Index.all nv.2.idx, Xmi.slot st.heap e.oid "sofa" ≠ some .none) ∧
    MembersOk cas st.heap := by
  obtain ⟨c, doc0, st, hc, hs, hwf, hf, hj, hi, hd, hm, hmo⟩ := jflatAppliesB_hyps _ _ _ _ _ flat_applies
  cases hc
  obtain ⟨doc, hsave, _, _⟩ := saveJson_mode_fss_aux Gen.consts embTs noPct_base [cas] 0 hpF .none .full doc0 st hs
  exact ⟨doc, st, hist_base.1, hist_base.2, writable_base, noPct_base, rfl, hwf, hsave, hf, hj, hi, hd, hm, hmo⟩

/-- **non-vacuity of `json_roundtrip_full_coll`** -/
theorem full_coll_hyps : ∃ (doc : JDoc) (st : Traverse.St),
    UserOnly Gen.consts embOpsC ∧ (∀ op ∈ embOpsC, match op with
      | .createFeature dom _ _ _ _ _ => dom ≠ DOCUMENT_ANNOTATION
      | .createType _ _ _ => True) ∧
    Writable Gen.consts embTsC ∧ NoPercentNames embTsC ∧ [cas][0]? = some cas ∧ RTWf cas hpC ∧
    saveJson Gen.consts embTsC [cas] 0 hpC .full = .ok (doc, st) ∧
    (∀ q ∈ st.allFs, JCollFs Gen.consts embTsC cas 0 st.heap q.2) ∧
    (∀ nv ∈ cas.views, ∀ e ∈ Index.all nv.2.idx, (xidOf hpC e.oid).isSome = true) ∧
    (∀ q ∈ st.allFs, ∀ nv ∈ cas.views, q.1 ≠ nv.2.sofa.xid) ∧
    (∀ nv ∈ cas.views, ∀ e ∈ Index.all nv.2.idx, Xmi.slot st.heap e.oid "sofa" ≠ some .none) ∧
    MembersOk cas st.heap := by
  obtain ⟨c, doc0, st, hc, hs, hwf, hf, hi, hd, hm, hmo⟩ := jcollAppliesB_hyps _ _ _ _ _ coll_applies
  cases hc
  obtain ⟨doc, hsave, _, _⟩ := saveJson_mode_fss_aux Gen.consts embTsC noPct_coll [cas] 0 hpC .none .full doc0 st hs
  exact ⟨doc, st, hist_coll.1, hist_coll.2, writable_coll, noPct_coll, rfl, hwf, hsave, hf, hi, hd, hm, hmo⟩

/-- **non-vacuity of `loadJson_congr_sameTs`**: the original and the type system rebuilt from the `%TYPES` section of
    its FULL document are `SameTs` and both consistent (they differ in the order of the features of `x.C`) -/
theorem congr_hyps : ∃ (doc : JDoc) (st : Traverse.St) (ts' : TypeSystem),
    saveJson Gen.consts embTs [cas] 0 hpF .full = .ok (doc, st) ∧
    loadTs Gen.consts Gen.builtinTS true doc = .ok ts' ∧
    SameTs embTs ts' ∧ Consistent embTs ∧ Consistent ts' := by
  obtain ⟨doc, st, hu, hn, hw, hpc, _, _, hsave, _⟩ := full_flat_hyps
  rw [← embTs_eq] at hw hpc hsave ⊢
  -- (the conjunction is passed on whole: elaborating a proof of `SameTs` against its expected type on its own makes
  -- the elaborator evaluate the closed type system)
  obtain ⟨ts', h⟩ := json_full_ts_same_cons embOps ⟨hu, hn⟩ hw hpc _ _ _ doc st hsave
  exact ⟨doc, st, ts', hsave, h⟩

/-- **non-vacuity of `json_roundtrip_minimal_flat`** -/
theorem min_flat_hyps : ∃ (doc : JDoc) (st : Traverse.St),
    UserOnly Gen.consts embOps ∧ (∀ op ∈ embOps, match op with
      | .createFeature dom _ _ _ _ _ => dom ≠ DOCUMENT_ANNOTATION
      | .createType _ _ _ => True) ∧
    Writable Gen.consts embTs ∧ NoPercentNames embTs ∧ [cas][0]? = some cas ∧ RTWf cas hpF ∧
    saveJson Gen.consts embTs [cas] 0 hpF .minimal = .ok (doc, st) ∧
    (∀ q ∈ st.allFs, FlatFs Gen.consts embTs cas 0 st.heap q.2) ∧
    (∀ q ∈ st.allFs, JsonFs embTs st.heap q.2) ∧
    (∀ nv ∈ cas.views, ∀ e ∈ Index.all nv.2.idx, (xidOf hpF e.oid).isSome = true) ∧
    (∀ q ∈ st.allFs, ∀ nv ∈ cas.views, q.1 ≠ nv.2.sofa.xid) ∧
    (∀ nv ∈ cas.views, ∀ e ∈ Index.all nv.2.idx, Xmi.slot st.heap e.oid "sofa" ≠ some .none) ∧
    MembersOk cas st.heap := by
  obtain ⟨c, doc0, st, hc, hs, hwf, hf, hj, hi, hd, hm, hmo⟩ := jflatAppliesB_hyps _ _ _ _ _ flat_applies
  cases hc
  obtain ⟨doc, hsave, _, _⟩ := saveJson_mode_fss_aux Gen.consts embTs noPct_base [cas] 0 hpF .none .minimal doc0 st hs
  exact ⟨doc, st, hist_base.1, hist_base.2, writable_base, noPct_base, rfl, hwf, hsave, hf, hj, hi, hd, hm, hmo⟩

/-- **non-vacuity of `json_roundtrip_minimal_coll`** -/
theorem min_coll_hyps : ∃ (doc : JDoc) (st : Traverse.St),
    UserOnly Gen.consts embOpsC ∧ (∀ op ∈ embOpsC, match op with
      | .createFeature dom _ _ _ _ _ => dom ≠ DOCUMENT_ANNOTATION
      | .createType _ _ _ => True) ∧
    Writable Gen.consts embTsC ∧ NoPercentNames embTsC ∧ [cas][0]? = some cas ∧ RTWf cas hpC ∧
    saveJson Gen.consts embTsC [cas] 0 hpC .minimal = .ok (doc, st) ∧
    (∀ q ∈ st.allFs, JCollFs Gen.consts embTsC cas 0 st.heap q.2) ∧
    (∀ nv ∈ cas.views, ∀ e ∈ Index.all nv.2.idx, (xidOf hpC e.oid).isSome = true) ∧
    (∀ q ∈ st.allFs, ∀ nv ∈ cas.views, q.1 ≠ nv.2.sofa.xid) ∧
    (∀ nv ∈ cas.views, ∀ e ∈ Index.all nv.2.idx, Xmi.slot st.heap e.oid "sofa" ≠ some .none) ∧
    MembersOk cas st.heap := by
  obtain ⟨c, doc0, st, hc, hs, hwf, hf, hi, hd, hm, hmo⟩ := jcollAppliesB_hyps _ _ _ _ _ coll_applies
  cases hc
  obtain ⟨doc, hsave, _, _⟩ := saveJson_mode_fss_aux Gen.consts embTsC noPct_coll [cas] 0 hpC .none .minimal doc0 st hs
  exact ⟨doc, st, hist_coll.1, hist_coll.2, writable_coll, noPct_coll, rfl, hwf, hsave, hf, hi, hd, hm, hmo⟩

/-! ### an instance on which MINIMAL drops a type -/

theorem embTsZ_eq : embOpsZ.foldl (applyOp Gen.consts) Gen.builtinTS = embTsZ := by unfold embTsZ; rw [applyOp_eq_S]

/-- the FULL document declares `x.Z`, the MINIMAL one does not -/
theorem typesZ :
    (saveJson Gen.consts embTsZ [cas] 0 hpF .full).toOption.map (fun r => (r.1.types.getD []).map (·.name)) =
      some ["x.A", "x.B", "x.C", "x.Z"] ∧
    (saveJson Gen.consts embTsZ [cas] 0 hpF .minimal).toOption.map (fun r => (r.1.types.getD []).map (·.name)) =
      some ["x.A", "x.B", "x.C"] :=
  ⟨embDemo_evals.typesFullZ, embDemo_evals.typesMinimalZ⟩

/-- **non-vacuity of `json_roundtrip_minimal_flat`** on an instance where the closure is a proper part of the type system -/
theorem minZ_flat_hyps : ∃ (doc : JDoc) (st : Traverse.St),
    UserOnly Gen.consts embOpsZ ∧ (∀ op ∈ embOpsZ, match op with
      | .createFeature dom _ _ _ _ _ => dom ≠ DOCUMENT_ANNOTATION
      | .createType _ _ _ => True) ∧
    Writable Gen.consts embTsZ ∧ NoPercentNames embTsZ ∧ [cas][0]? = some cas ∧ RTWf cas hpF ∧
    saveJson Gen.consts embTsZ [cas] 0 hpF .minimal = .ok (doc, st) ∧
    (∀ q ∈ st.allFs, FlatFs Gen.consts embTsZ cas 0 st.heap q.2) ∧
    (∀ q ∈ st.allFs, JsonFs embTsZ st.heap q.2) ∧
    (∀ nv ∈ cas.views, ∀ e ∈ Index.all nv.2.idx, (xidOf hpF e.oid).isSome = true) ∧
    (∀ q ∈ st.allFs, ∀ nv ∈ cas.views, q.1 ≠ nv.2.sofa.xid) ∧
    (∀ nv ∈ cas.views, ∀ e ∈ Index.all nv.2.idx, Xmi.slot st.heap e.oid "sofa" ≠ some .none) ∧
    MembersOk cas st.heap := by
  obtain ⟨c, doc0, st, hc, hs, hwf, hf, hj, hi, hd, hm, hmo⟩ := jflatAppliesB_hyps _ _ _ _ _ flatZ_applies
  cases hc
  obtain ⟨doc, hsave, _, _⟩ := saveJson_mode_fss_aux Gen.consts embTsZ noPct_Z [cas] 0 hpF .none .minimal doc0 st hs
  exact ⟨doc, st, hist_Z.1, hist_Z.2, writable_Z, noPct_Z, rfl, hwf, hsave, hf, hj, hi, hd, hm, hmo⟩

end Cassis.Json.EmbDemo
