/-
The CAS state shared by view handles (`Model/Cas.lean`) and the invariants of `Spec/Cas.lean` along arbitrary
histories (C08, C09).  A successful call is made of six elementary effects (`Eff`); what each
of them keeps holds after every call (`cstep_ind`) and along every history (`history_ind`).
-/
import CassisModel.Spec.Cas
import CassisModel.Proofs.TypeSystem
import CassisModel.Proofs.Traverse
import CassisModel.Proofs.Basic
import CassisModel.Properties.C10
import CassisModel.Proofs.Heap

namespace Cassis.Cas

theorem getViewRec_set_same (c : Cas) (n : String) (v : View) : getViewRec (setViewRec c n v) n = some v :=
  alistGet?_set_same _ _ _

theorem getViewRec_set_other (c : Cas) (n w : String) (v : View) (h : w ≠ n) :
    getViewRec (setViewRec c n v) w = getViewRec c w :=
  alistGet?_set_other _ _ _ _ h

theorem cur_ok {c : Cas} {h : Handle} {v : View} (hc : cur c h = .ok v) : getViewRec c h.view = some v := by
  unfold cur at hc
  split at hc
  · cases hc; assumption
  · cases hc

theorem cur_of_get {c : Cas} {h : Handle} {v : View} (hc : getViewRec c h.view = some v) : cur c h = .ok v := by
  unfold cur; rw [hc]

/-- the sofa identity of every view: what the invariants read off the views -/
def sig (c : Cas) : List (String × String × Int × Int) :=
  c.views.map (fun p => (p.1, p.2.sofa.sofaID, p.2.sofa.xid, p.2.sofa.sofaNum))

theorem keys_of_sig (c : Cas) : c.views.map (·.1) = (sig c).map (·.1) := by
  unfold sig; rw [List.map_map]; rfl

theorem sofaIds_of_sig (c : Cas) : sofaIds c = (sig c).map (·.2.2.1) := by
  unfold sig sofaIds; rw [List.map_map]; rfl

theorem sofaNums_of_sig (c : Cas) : sofaNums c = (sig c).map (·.2.2.2) := by
  unfold sig sofaNums; rw [List.map_map]; rfl

theorem sig_setViewRec (c : Cas) (n : String) (v v' : View) (h : getViewRec c n = some v)
    (h1 : v'.sofa.sofaID = v.sofa.sofaID) (h2 : v'.sofa.xid = v.sofa.xid)
    (h3 : v'.sofa.sofaNum = v.sofa.sofaNum) : sig (setViewRec c n v') = sig c := by
  unfold sig setViewRec
  exact alistSet_map_same _ _ _ v v' h (by simp only [h1, h2, h3])

theorem updSofa_ok {c c' : Cas} {h : Handle} {f : Sofa → Sofa} (hu : updSofa c h f = .ok c') :
    ∃ v, getViewRec c h.view = some v ∧ c' = setViewRec c h.view { v with sofa := f v.sofa } := by
  unfold updSofa at hu
  simp only [bind, Except.bind, pure, Except.pure] at hu
  split at hu
  · cases hu
  · rename_i v hv
    cases hu
    exact ⟨v, cur_ok hv, rfl⟩

theorem remove_ok {c c' : Cas} {hp : Heap} {h : Handle} {addr : Nat} (hr : remove c hp h addr = .ok c') :
    ∃ v idx', getViewRec c h.view = some v ∧ c' = setViewRec c h.view { v with idx := idx' } := by
  unfold remove at hr
  simp only [bind, Except.bind, pure, Except.pure, throw, throwThe, MonadExceptOf.throw] at hr
  cases ho : hp[addr]? with
  | none => simp only [ho] at hr; cases hr
  | some o =>
    simp only [ho] at hr
    cases hv : cur c h with
    | error e => simp only [hv] at hr; cases hr
    | ok v =>
      simp only [hv] at hr
      cases he : entryOf o addr with
      | error e => simp only [he] at hr; cases hr
      | ok e =>
        simp only [he] at hr
        cases hi : Index.rem v.idx o.ty e with
        | none => simp only [hi] at hr; cases hr
        | some idx' =>
          simp only [hi] at hr
          cases hr
          exact ⟨v, idx', cur_ok hv, rfl⟩

theorem entryOf_oid {o : Obj} {addr : Nat} {e : Index.Entry} (h : entryOf o addr = .ok e) : e.oid = addr := by
  unfold entryOf at h
  repeat' split at h
  all_goals first | (cases h; rfl) | cases h

theorem entryOf_congr {o o' : Obj} (hb : alistGet? o'.slots "begin" = alistGet? o.slots "begin")
    (he : alistGet? o'.slots "end" = alistGet? o.slots "end") (a : Nat) : entryOf o' a = entryOf o a := by
  unfold entryOf; rw [hb, he]

/-- the object `add` writes back -/
def addObj (cas : Nat) (h : Handle) (o : Obj) (x : Int) : Obj :=
  { o with xid := some x,
           slots := if (alistGet? o.slots "sofa").isSome then alistSet o.slots "sofa" (.sofa cas h.view) else o.slots }

/-- the id `add` gives the object, and the generator afterwards -/
def pickId (keepId : Bool) (c : Cas) (x : Option Int) : Int × Cas :=
  match keepId, x with
  | true, some x => (x, c)
  | _, _ => (c.nextXid, { c with nextXid := c.nextXid + 1 })

/-- `add` after the object lookup and the `contains_type` check -/
def addCore (cas : Nat) (c : Cas) (hp : Heap) (h : Handle) (addr : Nat) (keepId : Bool) (o : Obj) :
    Except Err (Cas × Heap) :=
  match cur c h with
  | .error e => .error e
  | .ok v =>
    match entryOf (addObj cas h o (pickId keepId c o.xid).1) addr with
    | .error e => .error e
    | .ok e =>
      if (Index.get v.idx o.ty).any (fun x => decide (x.b = Index.NONE_KEY) != decide (e.b = Index.NONE_KEY)) then
        .error .typeError
      else
        .ok (setViewRec (pickId keepId c o.xid).2 h.view { v with idx := Index.add v.idx o.ty e },
             hp.set addr (addObj cas h o (pickId keepId c o.xid).1))

/-- **`add` in normal form**, failing runs included; `add_cases` is the inversion of a successful one -/
theorem add_eq (ts : TS.TypeSystem) (cas : Nat) (c : Cas) (hp : Heap) (h : Handle) (addr : Nat) (keepId : Bool) :
    add ts cas c hp h addr keepId =
      match hp[addr]? with
      | none => .error .attributeError
      | some o =>
        if !h.lenient && !(TS.containsType ts o.ty) then .error .runtimeError
        else addCore cas c hp h addr keepId o := by
  unfold add
  cases hp[addr]? with
  | none => rfl
  | some o =>
    dsimp only [bind, Except.bind, pure, Except.pure, throw, throwThe, MonadExceptOf.throw]
    by_cases hc : (!h.lenient && !TS.containsType ts o.ty) = true
    · rw [if_pos hc, if_pos hc]
    · rw [if_neg hc, if_neg hc]
      unfold addCore addObj pickId
      cases cur c h with
      | error e => rfl
      | ok v =>
        -- with `keepId` and `o.xid` known the choice of the id reduces, on both sides to the same pair
        cases keepId <;> cases o.xid <;> dsimp only <;>
        · cases entryOf _ addr with
          | error e => rfl
          | ok e => rfl

theorem addCore_ok {cas : Nat} {c c' : Cas} {hp hp' : Heap} {h : Handle} {addr : Nat} {keep : Bool} {o : Obj}
    (hadd : addCore cas c hp h addr keep o = .ok (c', hp')) :
    ∃ v e, getViewRec c h.view = some v ∧ entryOf (addObj cas h o (pickId keep c o.xid).1) addr = .ok e ∧
      (Index.get v.idx o.ty).any (fun x => decide (x.b = Index.NONE_KEY) != decide (e.b = Index.NONE_KEY)) = false ∧
      c' = setViewRec (pickId keep c o.xid).2 h.view { v with idx := Index.add v.idx o.ty e } ∧
      hp' = hp.set addr (addObj cas h o (pickId keep c o.xid).1) := by
  unfold addCore at hadd
  cases hv : cur c h with
  | error e => rw [hv] at hadd; cases hadd
  | ok v =>
    rw [hv] at hadd; dsimp only at hadd
    cases he : entryOf (addObj cas h o (pickId keep c o.xid).1) addr with
    | error e => rw [he] at hadd; cases hadd
    | ok e =>
      rw [he] at hadd; dsimp only at hadd
      split at hadd
      · cases hadd
      · rename_i hk
        cases hadd
        exact ⟨v, e, cur_ok hv, rfl, by simpa using hk, rfl, rfl⟩

theorem add_cases {ts : TS.TypeSystem} {cas : Nat} {c c' : Cas} {hp hp' : Heap} {h : Handle} {addr : Nat}
    {keep : Bool} (hadd : add ts cas c hp h addr keep = .ok (c', hp')) :
    ∃ o v x nx' e, hp[addr]? = some o ∧ (h.lenient = true ∨ TS.containsType ts o.ty = true) ∧
      getViewRec c h.view = some v ∧
      ((keep = true ∧ o.xid = some x ∧ nx' = c.nextXid) ∨
       ((keep = false ∨ o.xid = none) ∧ x = c.nextXid ∧ nx' = c.nextXid + 1)) ∧
      entryOf (addObj cas h o x) addr = .ok e ∧
      c' = setViewRec { c with nextXid := nx' } h.view { v with idx := Index.add v.idx o.ty e } ∧
      hp' = hp.set addr (addObj cas h o x) := by
  rw [add_eq] at hadd
  cases ho : hp[addr]? with
  | none => rw [ho] at hadd; cases hadd
  | some o =>
    rw [ho] at hadd; dsimp only at hadd
    split at hadd
    · cases hadd
    rename_i hty
    obtain ⟨v, e, hv, he, _, rfl, rfl⟩ := addCore_ok hadd
    have hty' : h.lenient = true ∨ TS.containsType ts o.ty = true := by
      cases hl : h.lenient
      · simpa [hl] using hty
      · exact .inl rfl
    generalize hx : o.xid = ox at he ⊢
    cases keep
    · exact ⟨o, v, _, _, e, rfl, hty', hv, .inr ⟨.inl rfl, rfl, rfl⟩, he, rfl, rfl⟩
    · cases ox
      · exact ⟨o, v, _, _, e, rfl, hty', hv, .inr ⟨.inr hx, rfl, rfl⟩, he, rfl, rfl⟩
      · exact ⟨o, v, _, _, e, rfl, hty', hv, .inl ⟨rfl, hx, rfl⟩, he, rfl, rfl⟩

theorem keys_setViewRec (c : Cas) (n : String) (v v' : View) (h : getViewRec c n = some v) :
    (setViewRec c n v').views.map (·.1) = c.views.map (·.1) :=
  alistSet_map_same (·.1) _ _ v v' h rfl

theorem construct_ok {t : TS.TypeRec} {ti : Nat} {x : Option Int} {kw : List (String × Val)} {o : Obj}
    (h : construct t ti x kw = .ok o) : o.ty = t.name ∧ o.xid = x := by
  rw [(construct_eq_ok.mp h).2]
  exact ⟨rfl, rfl⟩

theorem docAnn_cases {ts : TS.TypeSystem} {ti cas : Nat} {c c' : Cas} {hp hp' : Heap} {h : Handle} {a : Nat}
    (hd : getDocumentAnnotation ts ti cas c hp h = .ok (c', hp', a)) :
    (∃ e rest, select ts c h TS.DOCUMENT_ANNOTATION = .ok (e :: rest) ∧ c' = c ∧ hp' = hp ∧ a = e.oid) ∨
    (select ts c h TS.DOCUMENT_ANNOTATION = .ok [] ∧ ∃ t o, TS.getType ts TS.DOCUMENT_ANNOTATION = .ok t ∧
      construct t ti none [] = .ok o ∧ add ts cas c (hp ++ [o]) h hp.length true = .ok (c', hp') ∧
      a = hp.length) := by
  unfold getDocumentAnnotation at hd
  simp only [bind, Except.bind, pure, Except.pure] at hd
  cases hsel : select ts c h TS.DOCUMENT_ANNOTATION with
  | error e => simp only [hsel] at hd; cases hd
  | ok sel =>
    simp only [hsel] at hd
    cases sel with
    | cons e rest =>
      simp only at hd
      cases hd
      exact Or.inl ⟨e, rest, rfl, rfl, rfl, rfl⟩
    | nil =>
      simp only at hd
      cases ht : TS.getType ts TS.DOCUMENT_ANNOTATION with
      | error e => simp only [ht] at hd; cases hd
      | ok t =>
        simp only [ht] at hd
        cases hc : construct t ti none [] with
        | error e => simp only [hc] at hd; cases hd
        | ok o =>
          simp only [hc] at hd
          cases hadd : add ts cas c (hp ++ [o]) h hp.length true with
          | error e => simp only [hadd] at hd; cases hd
          | ok r =>
            obtain ⟨c2, hp2⟩ := r
            simp only [hadd] at hd
            cases hd
            exact Or.inr ⟨rfl, t, o, rfl, hc, hadd, rfl⟩

theorem select_cases {ts : TS.TypeSystem} {c : Cas} {h : Handle} {n : String} {l : List Index.Entry}
    (hs : select ts c h n = .ok l) :
    ∃ t v, TS.getType ts n = .ok t ∧ getViewRec c h.view = some v ∧
      l = Index.selectNames v.idx (TS.descendantsOf ts t.name) := by
  unfold select at hs
  simp only [bind, Except.bind, pure, Except.pure] at hs
  cases ht : TS.getType ts n with
  | error e => simp only [ht] at hs; cases hs
  | ok t =>
    simp only [ht] at hs
    cases hv : cur c h with
    | error e => simp only [hv] at hs; cases hs
    | ok v =>
      simp only [hv] at hs
      cases hs
      exact ⟨t, v, rfl, cur_ok hv, rfl⟩

theorem select_of {ts : TS.TypeSystem} {c : Cas} {h : Handle} {n : String} {t : TS.TypeRec} {v : View}
    (ht : TS.getType ts n = .ok t) (hv : getViewRec c h.view = some v) :
    select ts c h n = .ok (Index.selectNames v.idx (TS.descendantsOf ts t.name)) := by
  unfold select
  simp only [bind, Except.bind, pure, Except.pure, ht, cur_of_get hv]

theorem flatMap_head_of_single {names : List String} {f : String → List Index.Entry} {ty : String}
    {e : Index.Entry} (hf : ∀ n ∈ names, f n = if n = ty then [e] else []) (hm : ty ∈ names) :
    ∃ r, names.flatMap f = e :: r := by
  induction names with
  | nil => cases hm
  | cons n rest ih =>
    rw [List.flatMap_cons, hf n List.mem_cons_self]
    by_cases hn : n = ty
    · simp only [hn, if_true]
      exact ⟨_, rfl⟩
    · simp only [hn, if_false, List.nil_append]
      have hm' : ty ∈ rest := by
        rcases List.mem_cons.mp hm with e | e
        · exact absurd e.symm hn
        · exact e
      exact ih (fun m hm2 => hf m (List.mem_cons_of_mem _ hm2)) hm'

theorem self_mem_descendantsOf {ts : TS.TypeSystem} (hcs : TS.Consistent ts) {n : String} {t : TS.TypeRec}
    (ht : TS.getType ts n = .ok t) : t.name ∈ TS.descendantsOf ts t.name := by
  have hm : t ∈ ts.types := TS.getType_mem ht
  have hx : TS.hasExact ts t.name = true :=
    (TS.hasExact_iff_mem ts t.name).mpr (List.mem_map.mpr ⟨t, hm, rfl⟩)
  exact (TS.descendants_eq_closure ts hcs t.name t.name hx).mpr (TS.Anc.refl _ hx)

/-! ### Ids: an index-based form of `Bounded ∧ UniqueIds` -/

theorem mem_fsIds {hp : Heap} {x : Int} : x ∈ fsIds hp ↔ ∃ (i : Nat) (o : Obj), hp[i]? = some o ∧ o.xid = some x := by
  unfold fsIds
  rw [List.mem_filterMap]
  constructor
  · rintro ⟨o, hm, hx⟩
    obtain ⟨i, hi⟩ := List.mem_iff_getElem?.mp hm
    exact ⟨i, o, hi, hx⟩
  · rintro ⟨i, o, hi, hx⟩
    exact ⟨o, List.mem_of_getElem? hi, hx⟩

def FsUniq (hp : Heap) : Prop :=
  ∀ (i j : Nat) (oi oj : Obj) (x : Int), i ≠ j → hp[i]? = some oi → hp[j]? = some oj → oi.xid = some x → oj.xid ≠ some x

theorem fsIds_nodup_iff (hp : Heap) : (fsIds hp).Nodup ↔ FsUniq hp := by
  unfold fsIds List.Nodup FsUniq
  rw [List.pairwise_filterMap, List.pairwise_iff_getElem]
  constructor
  · intro h i j oi oj x hij hi hj hxi hxj
    obtain ⟨hi', rfl⟩ := List.getElem?_eq_some_iff.mp hi
    obtain ⟨hj', rfl⟩ := List.getElem?_eq_some_iff.mp hj
    rcases Nat.lt_or_gt_of_ne hij with hlt | hlt
    · exact h i j hi' hj' hlt x hxi x hxj rfl
    · exact h j i hj' hi' hlt x hxj x hxi rfl
  · intro h i j hi hj hlt b hb b' hb' e
    subst e
    exact h i j _ _ b (Nat.ne_of_lt hlt) (List.getElem?_eq_getElem hi) (List.getElem?_eq_getElem hj) hb hb'

/-- sofa ids `S`, heap `hp` and generator value `nx` fit together -/
def IdsOk (S : List Int) (hp : Heap) (nx : Int) : Prop :=
  S.Nodup ∧ (∀ x ∈ S, x < nx) ∧
  (∀ (i : Nat) (o : Obj) (x : Int), hp[i]? = some o → o.xid = some x → x < nx ∧ x ∉ S) ∧
  FsUniq hp

def NumsOk (N : List Int) (nn : Int) : Prop := N.Nodup ∧ ∀ n ∈ N, n < nn

/-- the two id invariants of `Spec/Cas.lean` in the index-based form -/
theorem bounded_unique_iff (s : CState) : Bounded s ∧ UniqueIds s ↔
    IdsOk (sofaIds s.cas) s.heap s.cas.nextXid ∧ NumsOk (sofaNums s.cas) s.cas.nextSofaNum := by
  unfold Bounded UniqueIds IdsOk NumsOk
  rw [List.nodup_append, fsIds_nodup_iff]
  constructor
  · rintro ⟨⟨b1, b2, b3⟩, ⟨n1, n2, n3⟩, hn⟩
    refine ⟨⟨n1, b1, ?_, n2⟩, hn, b2⟩
    intro i o x hi hx
    have hm : x ∈ fsIds s.heap := mem_fsIds.mpr ⟨i, o, hi, hx⟩
    exact ⟨b3 x hm, fun hs => n3 x hs x hm rfl⟩
  · rintro ⟨⟨n1, b1, h3, n2⟩, hn, b2⟩
    refine ⟨⟨b1, b2, ?_⟩, ⟨n1, n2, ?_⟩, hn⟩
    · intro x hm
      obtain ⟨i, o, hi, hx⟩ := mem_fsIds.mp hm
      exact (h3 i o x hi hx).1
    · intro a ha b hb e
      subst e
      obtain ⟨i, o, hi, hx⟩ := mem_fsIds.mp hb
      exact (h3 i o a hi hx).2 ha

theorem IdsOk.of_xid_sub {S : List Int} {hp hp' : Heap} {nx : Int} (h : IdsOk S hp nx)
    (hsub : ∀ (i : Nat) (o' : Obj) (x : Int), hp'[i]? = some o' → o'.xid = some x →
      ∃ o : Obj, hp[i]? = some o ∧ o.xid = some x) :
    IdsOk S hp' nx := by
  obtain ⟨h1, h2, h3, h4⟩ := h
  refine ⟨h1, h2, ?_, ?_⟩
  · intro i o' x hi hx
    obtain ⟨o, hi0, hx0⟩ := hsub i o' x hi hx
    exact h3 i o x hi0 hx0
  · intro i j oi oj x hij hi hj hxi hxj
    obtain ⟨oi0, hi0, hxi0⟩ := hsub i oi x hi hxi
    obtain ⟨oj0, hj0, hxj0⟩ := hsub j oj x hj hxj
    exact h4 i j oi0 oj0 x hij hi0 hj0 hxi0 hxj0

theorem IdsOk.append_none {S : List Int} {hp : Heap} {nx : Int} (h : IdsOk S hp nx) {o : Obj}
    (ho : o.xid = none) : IdsOk S (hp ++ [o]) nx := by
  apply h.of_xid_sub
  intro i o' x hi hx
  rcases Det.getElem?_append_single hi with h1 | ⟨_, rfl⟩
  · exact ⟨o', h1, hx⟩
  · rw [ho] at hx; cases hx

theorem IdsOk.set_keep {S : List Int} {hp : Heap} {nx : Int} (h : IdsOk S hp nx) {a : Nat} {o o' : Obj}
    (hget : hp[a]? = some o) (hx : o'.xid = o.xid) : IdsOk S (hp.set a o') nx := by
  apply h.of_xid_sub
  intro i o2 x hi hx2
  rcases Det.getElem?_set_cases hi with ⟨rfl, rfl⟩ | ⟨_, h1⟩
  · exact ⟨o, hget, by rw [← hx]; exact hx2⟩
  · exact ⟨o2, h1, hx2⟩

theorem IdsOk.set_fresh {S : List Int} {hp : Heap} {nx : Int} (h : IdsOk S hp nx) {a : Nat} {o' : Obj}
    (hx : o'.xid = some nx) : IdsOk S (hp.set a o') (nx + 1) := by
  obtain ⟨h1, h2, h3, h4⟩ := h
  have hfresh : ∀ (i : Nat) (o : Obj), hp[i]? = some o → o.xid ≠ some nx := by
    intro i o hi hxo
    have := (h3 i o nx hi hxo).1
    omega
  refine ⟨h1, ?_, ?_, ?_⟩
  · intro x hm; have := h2 x hm; omega
  · intro i o2 x hi hx2
    rcases Det.getElem?_set_cases hi with ⟨rfl, rfl⟩ | ⟨_, hi0⟩
    · rw [hx] at hx2
      cases hx2
      exact ⟨by omega, fun hm => by have := h2 _ hm; omega⟩
    · have := h3 i o2 x hi0 hx2
      exact ⟨by omega, this.2⟩
  · intro i j oi oj x hij hi hj hxi hxj
    rcases Det.getElem?_set_cases hi with ⟨rfl, rfl⟩ | ⟨hia, hi0⟩
    · rcases Det.getElem?_set_cases hj with ⟨rfl, rfl⟩ | ⟨_, hj0⟩
      · exact hij rfl
      · rw [hx] at hxi; cases hxi
        exact hfresh j oj hj0 hxj
    · rcases Det.getElem?_set_cases hj with ⟨rfl, rfl⟩ | ⟨_, hj0⟩
      · rw [hx] at hxj; cases hxj
        exact hfresh i oi hi0 hxi
      · exact h4 i j oi oj x hij hi0 hj0 hxi hxj

theorem NumsOk.new {N : List Int} {nn : Int} (h : NumsOk N nn) : NumsOk (N ++ [nn]) (nn + 1) := by
  obtain ⟨h1, h2⟩ := h
  refine ⟨nodup_snoc h1 fun hm => by have := h2 _ hm; omega, ?_⟩
  · intro x hm
    rcases List.mem_append.mp hm with hm | hm
    · have := h2 x hm; omega
    · simp only [List.mem_singleton] at hm; omega

theorem IdsOk.new_sofa {S : List Int} {hp : Heap} {nx : Int} (h : IdsOk S hp nx) :
    IdsOk (S ++ [nx]) hp (nx + 1) := by
  obtain ⟨h1, h2, h3, h4⟩ := h
  obtain ⟨n1, n2⟩ := NumsOk.new ⟨h1, h2⟩
  refine ⟨n1, n2, ?_, h4⟩
  intro i o x hi hx
  have := h3 i o x hi hx
  refine ⟨by omega, fun hm => ?_⟩
  rcases List.mem_append.mp hm with hm | hm
  · exact this.2 hm
  · simp only [List.mem_singleton] at hm; omega

theorem getViewRec_isSome_iff (c : Cas) (n : String) :
    (getViewRec c n).isSome = true ↔ n ∈ c.views.map (·.1) := alistGet?_isSome_iff _ _

theorem viewsOk_iff_sig (s : CState) :
    ViewsOk s ↔ ((sig s.cas).map (·.1)).Nodup ∧ ∀ q ∈ sig s.cas, q.2.1 = q.1 := by
  unfold ViewsOk
  rw [keys_of_sig]
  constructor
  · rintro ⟨h1, h2⟩
    refine ⟨h1, ?_⟩
    intro q hq
    obtain ⟨p, hp, rfl⟩ := List.mem_map.mp hq
    exact h2 p hp
  · rintro ⟨h1, h2⟩
    refine ⟨h1, ?_⟩
    intro p hp
    exact h2 _ (List.mem_map.mpr ⟨p, hp, rfl⟩)

/-- the invariant carried along histories: `Bounded ∧ UniqueIds ∧ ViewsOk`, the first two in the index-based form -/
def Good (s : CState) : Prop :=
  IdsOk (sofaIds s.cas) s.heap s.cas.nextXid ∧ NumsOk (sofaNums s.cas) s.cas.nextSofaNum ∧ ViewsOk s

theorem good_iff (s : CState) : Good s ↔ Bounded s ∧ UniqueIds s ∧ ViewsOk s := by
  unfold Good
  constructor
  · rintro ⟨h1, h2, h3⟩
    have := (bounded_unique_iff s).mpr ⟨h1, h2⟩
    exact ⟨this.1, this.2, h3⟩
  · rintro ⟨h1, h2, h3⟩
    have := (bounded_unique_iff s).mp ⟨h1, h2⟩
    exact ⟨this.1, this.2, h3⟩

theorem good_update {s s' : CState} (hg : Good s) (hsig : sig s'.cas = sig s.cas)
    (hnum : s'.cas.nextSofaNum = s.cas.nextSofaNum)
    (hids : IdsOk (sofaIds s.cas) s'.heap s'.cas.nextXid) : Good s' := by
  obtain ⟨_, h2, h3⟩ := hg
  refine ⟨?_, ?_, ?_⟩
  · rw [sofaIds_of_sig, hsig, ← sofaIds_of_sig]; exact hids
  · rw [sofaNums_of_sig, hsig, ← sofaNums_of_sig, hnum]; exact h2
  · rw [viewsOk_iff_sig, hsig, ← viewsOk_iff_sig]; exact h3

theorem setView_good {s : CState} (hg : Good s) {n : String} {v v' : View}
    (hv : getViewRec s.cas n = some v)
    (h1 : v'.sofa.sofaID = v.sofa.sofaID) (h2 : v'.sofa.xid = v.sofa.xid)
    (h3 : v'.sofa.sofaNum = v.sofa.sofaNum) : Good { s with cas := setViewRec s.cas n v' } :=
  good_update hg (sig_setViewRec _ _ v v' hv h1 h2 h3) rfl hg.1

/-! ### A successful call as a sequence of elementary effects -/

def newView (c : Cas) (name : String) : View :=
  { sofa := { sofaID := name, sofaNum := c.nextSofaNum, xid := c.nextXid } }

theorem createView_ok {c c' : Cas} {h h' : Handle} {name : String}
    (hc : createView c h name = .ok (c', h')) :
    getViewRec c name = none ∧
    c' = { views := c.views ++ [(name, newView c name)], nextXid := c.nextXid + 1,
           nextSofaNum := c.nextSofaNum + 1 } ∧ h' = { h with view := name } := by
  unfold createView at hc
  split at hc
  · cases hc
  · rename_i hn
    have hnone : getViewRec c name = none := by
      cases hg : getViewRec c name with
      | none => rfl
      | some v => rw [hg] at hn; exact absurd rfl hn
    cases hc
    refine ⟨hnone, ?_, rfl⟩
    simp only [addView, setViewRec]
    rw [alistSet_of_none _ _ _ hnone]
    rfl

theorem getView_ok {c : Cas} {h h' : Handle} {name : String} (hc : getView c h name = .ok h') :
    (getViewRec c name).isSome = true ∧ h' = { h with view := name } := by
  unfold getView at hc
  split at hc
  · rename_i hn; cases hc; exact ⟨hn, rfl⟩
  · cases hc

/-- how a call can change the sofa of a view -/
inductive SofaStep : Sofa → Sofa → Prop
  | same (s : Sofa) : SofaStep s s
  | text (s : Sofa) (t : Option (List Nat)) : SofaStep s { s with text := t, conv := Offsets.createMapping s.conv t }
  | mime (s : Sofa) (m : Option String) : SofaStep s { s with mime := m }
  | uri (s : Sofa) (u : Option String) : SofaStep s { s with uri := u }
  | arr (s : Sofa) (a : Val) : SofaStep s { s with arr := a }

theorem SofaStep.sig {a b : Sofa} (h : SofaStep a b) : b.sofaID = a.sofaID ∧ b.xid = a.xid ∧ b.sofaNum = a.sofaNum := by
  cases h <;> exact ⟨rfl, rfl, rfl⟩

/-- the elementary effects a successful call is made of: `createView` is `view`, `getView` is `handle`, `T(…)` is
    `alloc`, `add` is `keep` or `fresh` followed by `setView`, `remove` and the sofa setters are `setView`,
    `get_document_annotation` is nothing or `alloc` and an `add`, the serialisers' id assignment is `fresh` repeated -/
inductive Eff : CState → CState → Prop
  | view (s : CState) (hd : Handle) (name : String) (hm : hd ∈ s.handles) (hn : getViewRec s.cas name = none) :
      Eff s { cas := { views := s.cas.views ++ [(name, newView s.cas name)], nextXid := s.cas.nextXid + 1,
                       nextSofaNum := s.cas.nextSofaNum + 1 },
              heap := s.heap, handles := s.handles ++ [{ hd with view := name }] }
  | handle (s : CState) (hd : Handle) (name : String) (hm : hd ∈ s.handles)
      (hn : (getViewRec s.cas name).isSome = true) : Eff s { s with handles := s.handles ++ [{ hd with view := name }] }
  | alloc (s : CState) (o : Obj) (ho : o.xid = none) : Eff s { s with heap := s.heap ++ [o] }
  | keep (s : CState) (a : Nat) (o o' : Obj) (ho : s.heap[a]? = some o) (hx : o'.xid = o.xid) :
      Eff s { s with heap := s.heap.set a o' }
  | fresh (s : CState) (a : Nat) (o' : Obj) (hx : o'.xid = some s.cas.nextXid) :
      Eff s { s with cas := { s.cas with nextXid := s.cas.nextXid + 1 }, heap := s.heap.set a o' }
  | setView (s : CState) (n : String) (v v' : View) (hv : getViewRec s.cas n = some v)
      (hs : SofaStep v.sofa v'.sofa) : Eff s { s with cas := setViewRec s.cas n v' }

section
variable {P : CState → Prop} (hP : ∀ s s', Eff s s' → P s → P s')
include hP

theorem add_ind {ts : TS.TypeSystem} {cas : Nat} {s : CState} {h : Handle} {addr : Nat} {keep : Bool}
    {c' : Cas} {hp' : Heap} (hadd : add ts cas s.cas s.heap h addr keep = .ok (c', hp')) (hs : P s) :
    P { s with cas := c', heap := hp' } := by
  obtain ⟨o, v, x, c1, e, ho, _, hv, hx, _, rfl, rfl⟩ := add_cases hadd
  rcases hx with ⟨_, hxo, rfl⟩ | ⟨_, rfl, rfl⟩
  -- the intermediate states are written out: left to unification they are taken from `hv`
  · exact hP _ _ (.setView { s with heap := s.heap.set addr (addObj cas h o x) } h.view v _ hv (.same _))
      (hP _ _ (.keep s addr o _ ho hxo.symm) hs)
  · exact hP _ _ (.setView { s with cas := { s.cas with nextXid := s.cas.nextXid + 1 },
                                    heap := s.heap.set addr (addObj cas h o s.cas.nextXid) } h.view v _ hv (.same _))
      (hP _ _ (.fresh s addr _ rfl) hs)

theorem updSofa_ind {s : CState} {h : Handle} {f : Sofa → Sofa} {c' : Cas} (hf : ∀ x, SofaStep x (f x))
    (hu : updSofa s.cas h f = .ok c') (hs : P s) : P { s with cas := c' } := by
  obtain ⟨v, hv, rfl⟩ := updSofa_ok hu
  exact hP _ _ (.setView s h.view v _ hv (hf _)) hs

/-- **what every elementary effect keeps, every call keeps**: a call that raises leaves the state alone, a successful
    one is inverted into its effects -/
theorem cstep_ind (K : TS.Consts) (ts : TS.TypeSystem) (s : CState) (op : COp) (hs : P s) : P (cstep K ts s op) := by
  cases op with
  | createView h name =>
    simp only [cstep]
    cases hh : s.handles[h]? with
    | none => exact hs
    | some hd =>
      simp only
      cases hc : createView s.cas hd name with
      | error e => exact hs
      | ok r =>
        obtain ⟨c', h'⟩ := r
        obtain ⟨hnone, rfl, rfl⟩ := createView_ok hc
        exact hP _ _ (.view s hd name (List.mem_of_getElem? hh) hnone) hs
  | getView h name =>
    simp only [cstep]
    cases hh : s.handles[h]? with
    | none => exact hs
    | some hd =>
      simp only
      cases hc : getView s.cas hd name with
      | error e => exact hs
      | ok h' =>
        obtain ⟨hsome, rfl⟩ := getView_ok hc
        exact hP _ _ (.handle s hd name (List.mem_of_getElem? hh) hsome) hs
  | newFs ty feats =>
    simp only [cstep]
    cases TS.getType ts ty with
    | error e => exact hs
    | ok t =>
      simp only
      cases hc : construct t 0 none feats with
      | error e => exact hs
      | ok o => exact hP _ _ (.alloc s o (construct_ok hc).2) hs
  | add h addr keep =>
    simp only [cstep]
    cases s.handles[h]? with
    | none => exact hs
    | some hd =>
      simp only
      cases hc : add ts 0 s.cas s.heap hd addr keep with
      | error e => exact hs
      | ok r => exact add_ind hP hc hs
  | remove h addr =>
    simp only [cstep]
    cases s.handles[h]? with
    | none => exact hs
    | some hd =>
      simp only
      cases hc : remove s.cas s.heap hd addr with
      | error e => exact hs
      | ok c' =>
        obtain ⟨v, idx', hv, rfl⟩ := remove_ok hc
        exact hP _ _ (.setView s hd.view v _ hv (.same _)) hs
  | setSofaString h t =>
    simp only [cstep]
    cases s.handles[h]? with
    | none => exact hs
    | some hd =>
      simp only
      cases hc : setSofaString s.cas hd t with
      | error e => exact hs
      | ok c' => exact updSofa_ind hP (fun x => .text x t) hc hs
  | setSofaMime h m =>
    simp only [cstep]
    cases s.handles[h]? with
    | none => exact hs
    | some hd =>
      simp only
      cases hc : setSofaMime s.cas hd m with
      | error e => exact hs
      | ok c' => exact updSofa_ind hP (fun x => .mime x m) hc hs
  | setSofaUri h u =>
    simp only [cstep]
    cases s.handles[h]? with
    | none => exact hs
    | some hd =>
      simp only
      cases hc : setSofaUri s.cas hd u with
      | error e => exact hs
      | ok c' => exact updSofa_ind hP (fun x => .uri x u) hc hs
  | setSofaArray h a =>
    simp only [cstep]
    cases s.handles[h]? with
    | none => exact hs
    | some hd =>
      simp only
      cases hc : setSofaArray s.cas hd a with
      | error e => exact hs
      | ok c' => exact updSofa_ind hP (fun x => .arr x a) hc hs
  | docAnn h =>
    simp only [cstep]
    cases s.handles[h]? with
    | none => exact hs
    | some hd =>
      simp only
      cases hc : getDocumentAnnotation ts 0 0 s.cas s.heap hd with
      | error e => exact hs
      | ok r =>
        obtain ⟨c', hp', a⟩ := r
        rcases docAnn_cases hc with ⟨_, _, _, rfl, rfl, _⟩ | ⟨_, t, o, _, hcon, hadd, _⟩
        · exact hs
        · exact add_ind hP (s := { s with heap := s.heap ++ [o] }) hadd (hP _ _ (.alloc s o (construct_ok hcon).2) hs)
  | assignIds h =>
    simp only [cstep]
    cases hc : Traverse.findAllFs K ts {} s.heap s.cas.nextXid (Traverse.defaultSeeds s.cas) with
    | error e => exact hs
    | ok st =>
      exact Traverse.findAllFs_pres (fun hp nx => P { s with cas := { s.cas with nextXid := nx }, heap := hp })
        (fun hp nx a ob h _ _ => hP _ _ (.fresh { s with cas := { s.cas with nextXid := nx }, heap := hp } a _ rfl) h)
        K ts {} s.heap s.cas.nextXid _ st hs hc

theorem history_ind (K : TS.Consts) (ts : TS.TypeSystem) (ops : List COp) (s : CState) (hs : P s) :
    P (ops.foldl (cstep K ts) s) :=
  List.foldlRecOn ops _ hs fun s hs op _ => cstep_ind hP K ts s op hs

end

/-! ### `Good` and `HandlesOk` along every history -/

theorem eff_good {s s' : CState} (e : Eff s s') (hg : Good s) : Good s' := by
  cases e with
  | view hd name hm hnone =>
    obtain ⟨g1, g2, g3⟩ := hg
    have hnk : name ∉ s.cas.views.map (·.1) := fun hm => by
      have := (getViewRec_isSome_iff s.cas name).mpr hm
      rw [hnone] at this
      cases this
    refine ⟨?_, ?_, ?_, ?_⟩
    · show IdsOk (sofaIds _) s.heap (s.cas.nextXid + 1)
      simp only [sofaIds, List.map_append, List.map_cons, List.map_nil, newView]
      exact g1.new_sofa
    · show NumsOk (sofaNums _) (s.cas.nextSofaNum + 1)
      simp only [sofaNums, List.map_append, List.map_cons, List.map_nil, newView]
      exact g2.new
    · show ((s.cas.views ++ [(name, newView s.cas name)]).map (·.1)).Nodup
      rw [List.map_append]
      exact nodup_snoc g3.1 hnk
    · show ∀ p ∈ s.cas.views ++ [(name, newView s.cas name)], p.2.sofa.sofaID = p.1
      intro p hp
      rcases List.mem_append.mp hp with hp | hp
      · exact g3.2 p hp
      · rw [List.mem_singleton.mp hp]; rfl
  | handle => exact hg
  | alloc o ho => exact good_update hg rfl rfl (hg.1.append_none ho)
  | keep a o o' ho hx => exact good_update hg rfl rfl (hg.1.set_keep ho hx)
  | fresh a o' hx => exact good_update hg rfl rfl (hg.1.set_fresh hx)
  | setView n v v' hv hs => exact setView_good hg hv hs.sig.1 hs.sig.2.1 hs.sig.2.2

theorem eff_handlesOk {lenient : Bool} {s s' : CState} (e : Eff s s') (hh : HandlesOk lenient s) :
    HandlesOk lenient s' := by
  have snoc : ∀ {c' : Cas} (hd : Handle) (name : String), hd ∈ s.handles →
      (∀ h0 ∈ s.handles, (getViewRec c' h0.view).isSome = true) → (getViewRec c' name).isSome = true →
      ∀ h' ∈ s.handles ++ [{ hd with view := name }], h'.lenient = lenient ∧ (getViewRec c' h'.view).isSome = true := by
    intro c' hd name hm hold hnew h' hm'
    rcases List.mem_append.mp hm' with hm' | hm'
    · exact ⟨(hh h' hm').1, hold h' hm'⟩
    · rw [List.mem_singleton.mp hm']
      exact ⟨(hh hd hm).1, hnew⟩
  cases e with
  | view hd name hm hn =>
    refine snoc hd name hm (fun h0 h0m => ?_) ?_
    · rw [getViewRec_isSome_iff]
      obtain ⟨p, hp, e⟩ := List.mem_map.mp ((getViewRec_isSome_iff _ _).mp (hh h0 h0m).2)
      exact List.mem_map.mpr ⟨p, List.mem_append_left _ hp, e⟩
    · rw [getViewRec_isSome_iff]
      exact List.mem_map.mpr ⟨_, List.mem_append_right _ (List.mem_singleton.mpr rfl), rfl⟩
  | handle hd name hm hn => exact snoc hd name hm (fun h0 h0m => (hh h0 h0m).2) hn
  | alloc | keep | fresh => exact hh
  | setView n v v' hv hs =>
    intro h0 h0m
    refine ⟨(hh h0 h0m).1, ?_⟩
    rw [getViewRec_isSome_iff, keys_setViewRec _ _ v v' hv, ← getViewRec_isSome_iff]
    exact (hh h0 h0m).2

theorem empty_eq : Cas.empty =
    { views := [(INITIAL_VIEW, { sofa := { sofaID := INITIAL_VIEW, sofaNum := 1, xid := 1 } })],
      nextXid := 2, nextSofaNum := 2 } := rfl

theorem good_init (lenient : Bool) : Good (init lenient) := by
  unfold Good init
  simp only [empty_eq]
  refine ⟨⟨?_, ?_, ?_, ?_⟩, ⟨?_, ?_⟩, ?_, ?_⟩
  · simp [sofaIds]
  · intro x hx
    simp only [sofaIds, List.map_cons, List.map_nil, List.mem_singleton] at hx
    omega
  · intro i o x hi
    simp at hi
  · intro i j oi oj x _ hi
    simp at hi
  · simp [sofaNums]
  · intro x hx
    simp only [sofaNums, List.map_cons, List.map_nil, List.mem_singleton] at hx
    omega
  · simp
  · intro p hp
    simp only [List.mem_singleton] at hp
    subst hp; rfl

theorem handlesOk_init (lenient : Bool) : HandlesOk lenient (init lenient) := by
  intro hd hm
  simp only [init, List.mem_singleton] at hm
  subst hm
  refine ⟨rfl, ?_⟩
  simp only [init, empty_eq, getViewRec, alistGet?, if_true, Option.isSome_some]

theorem good_handlesOk_history (K : TS.Consts) (ts : TS.TypeSystem) (lenient : Bool) (ops : List COp) (s : CState)
    (hg : Good s) (hh : HandlesOk lenient s) :
    Good (ops.foldl (cstep K ts) s) ∧ HandlesOk lenient (ops.foldl (cstep K ts) s) :=
  history_ind (P := fun s => Good s ∧ HandlesOk lenient s) (fun _ _ e h => ⟨eff_good e h.1, eff_handlesOk e h.2⟩)
    K ts ops s ⟨hg, hh⟩

/-! ### Kernel evaluation of concrete histories

`TS.hasDot` is `String.contains`, which the kernel does not unfold, so the type check of a non-lenient
`add` blocks `decide`.  When the type of the added structure is known to be registered the check passes,
and the call equals the one through a lenient copy of the handle, which evaluates. -/

theorem hasDot_eq (n : String) : TS.hasDot n = decide ('.' ∈ n.toList) := String.contains_char_eq

theorem containsType_of_hasExact {ts : TS.TypeSystem} {n : String} (hd : TS.hasDot n = true)
    (he : TS.hasExact ts n = true) : TS.containsType ts n = true := by
  unfold TS.containsType
  simp only [hd, he, Bool.true_or, if_true]

theorem add_lenient_eq {ts : TS.TypeSystem} {cas : Nat} {c : Cas} {hp : Heap} {h : Handle} {addr : Nat}
    {keep : Bool} (hc : ∀ o : Obj, hp[addr]? = some o → TS.containsType ts o.ty = true) :
    add ts cas c hp h addr keep = add ts cas c hp { h with lenient := true } addr keep := by
  unfold add
  cases ho : hp[addr]? with
  | none => rfl
  | some o =>
    have := hc o ho
    simp only [bind, Except.bind, pure, Except.pure, this, Bool.not_true, Bool.and_false, cur]

theorem docAnn_lenient_eq {ts : TS.TypeSystem} {ti cas : Nat} {c : Cas} {hp : Heap} {h : Handle}
    (hd : TS.hasDot TS.DOCUMENT_ANNOTATION = true)
    (hc : TS.containsType ts TS.DOCUMENT_ANNOTATION = true) :
    getDocumentAnnotation ts ti cas c hp h = getDocumentAnnotation ts ti cas c hp { h with lenient := true } := by
  unfold getDocumentAnnotation
  have hs : select ts c { h with lenient := true } TS.DOCUMENT_ANNOTATION =
      select ts c h TS.DOCUMENT_ANNOTATION := rfl
  rw [hs]
  simp only [bind, Except.bind, pure, Except.pure]
  cases select ts c h TS.DOCUMENT_ANNOTATION with
  | error e => rfl
  | ok sel =>
    cases sel with
    | cons e rest => rfl
    | nil =>
      simp only
      cases ht : TS.getType ts TS.DOCUMENT_ANNOTATION with
      | error e => rfl
      | ok t =>
        simp only
        cases hcon : construct t ti none [] with
        | error e => rfl
        | ok o =>
          simp only
          rw [add_lenient_eq]
          intro o' ho'
          rw [List.getElem?_concat_length] at ho'
          cases ho'
          rw [(construct_ok hcon).1, TS.getType_dotted hd ht]
          exact hc

/-- `cstep` with the leniency of the handle overridden in `add` -/
theorem cstep_add_strict (K : TS.Consts) (ts : TS.TypeSystem) (s : CState) (h addr : Nat) (keep : Bool)
    (L : List String) (hL : ∀ n ∈ L, TS.containsType ts n = true)
    (ho : (s.heap[addr]?).all (fun o => L.contains o.ty) = true) :
    cstep K ts s (.add h addr keep) =
      match s.handles[h]? with
      | none => s
      | some hd => match add ts 0 s.cas s.heap { hd with lenient := true } addr keep with
        | .ok (c', hp') => { s with cas := c', heap := hp' }
        | .error _ => s := by
  simp only [cstep]
  cases s.handles[h]? with
  | none => rfl
  | some hd =>
    simp only
    have hc : ∀ o : Obj, s.heap[addr]? = some o → TS.containsType ts o.ty = true := by
      intro o ho'
      rw [ho'] at ho
      simp only [Option.all_some, List.contains_iff_mem] at ho
      exact hL _ ho
    rw [add_lenient_eq hc]
    try rfl

theorem cstep_docAnn_strict (K : TS.Consts) (ts : TS.TypeSystem) (s : CState) (h : Nat)
    (hd : TS.hasDot TS.DOCUMENT_ANNOTATION = true)
    (hc : TS.containsType ts TS.DOCUMENT_ANNOTATION = true) :
    cstep K ts s (.docAnn h) =
      match s.handles[h]? with
      | none => s
      | some hd => match getDocumentAnnotation ts 0 0 s.cas s.heap { hd with lenient := true } with
        | .ok (c', hp', _) => { s with cas := c', heap := hp' }
        | .error _ => s := by
  simp only [cstep]
  cases s.handles[h]? with
  | none => rfl
  | some hd' =>
    simp only
    rw [docAnn_lenient_eq hd hc]
    try rfl

theorem hasDot_annotation : TS.hasDot TS.ANNOTATION = true := by rw [hasDot_eq]; decide +kernel
theorem hasDot_docAnn : TS.hasDot TS.DOCUMENT_ANNOTATION = true := by rw [hasDot_eq]; decide +kernel

end Cassis.Cas
