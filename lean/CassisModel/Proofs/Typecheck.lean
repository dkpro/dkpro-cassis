/-
`typecheckFs` reports exactly `expectedErrors` (`Spec/Typecheck.lean`), one error per offending element of each
FSArray-valued feature: `typecheckFs_eq`.  `typecheckAll` concatenates it over a list of structures.
The statements of C19 are in `Properties/C19.lean`.
-/
import CassisModel.Spec.Typecheck
import CassisModel.Proofs.TypeSystem

namespace Cassis.Traverse
open Cassis.TS

theorem offending_nil (ts : TypeSystem) (hp : Heap) (elemTy : String) :
    offending ts hp elemTy [] = [] := rfl

theorem offending_none (ts : TypeSystem) (hp : Heap) (elemTy : String) (l : List (Option Nat)) :
    offending ts hp elemTy (none :: l) = offending ts hp elemTy l := by
  simp only [offending, List.filterMap_cons]

theorem offending_some (ts : TypeSystem) (hp : Heap) (elemTy : String) (l : List (Option Nat))
    (ea : Nat) (eo : Obj) (he : hp[ea]? = some eo) :
    offending ts hp elemTy (some ea :: l) =
      if subsumes ts elemTy eo.ty then offending ts hp elemTy l else ea :: offending ts hp elemTy l := by
  simp only [offending, List.filterMap_cons, he]
  cases subsumes ts elemTy eo.ty <;> simp

theorem elemErrors_eq (ts : TypeSystem) (hp : Heap) (elemTy : String) (owner : Option Int) :
    ∀ l : List (Option Nat),
      (∀ ea, some ea ∈ l → ∃ eo et, hp[ea]? = some eo ∧ find? ts eo.ty = some et) →
      elemErrors ts hp elemTy owner l = .ok ((offending ts hp elemTy l).map (fun _ => owner)) := by
  intro l
  induction l with
  | nil => intro _; rfl
  | cons r rest ih =>
    intro h
    have ih' := ih (fun ea hm => h ea (List.mem_cons_of_mem _ hm))
    cases r with
    | none =>
      rw [offending_none]
      simp only [elemErrors]
      exact ih'
    | some ea =>
      obtain ⟨eo, et, he, hf⟩ := h ea List.mem_cons_self
      rw [offending_some ts hp elemTy rest ea eo he]
      simp only [elemErrors, he, getType_of_find hf, ih', find?_name hf]
      cases subsumes ts elemTy eo.ty <;> simp

theorem featErrors_eq (ts : TypeSystem) (hp : Heap) (a : Nat) (owner : Option Int) :
    ∀ fs : List Feature,
      (∀ f ∈ fs, (f.range == FS_ARRAY) = true →
        (slot hp a f.name = some .none ∨ ∃ arr, slot hp a f.name = some (.ref arr)) ∧
        ∀ ea, some ea ∈ elementsOf hp a f → ∃ eo et, hp[ea]? = some eo ∧ find? ts eo.ty = some et) →
      featErrors ts hp a owner fs =
        .ok ((fs.filter (fun f => f.range == FS_ARRAY)).flatMap
          (fun f => (offending ts hp (f.elem.getD TOP) (elementsOf hp a f)).map (fun _ => owner))) := by
  intro fs
  induction fs with
  | nil => intro _; rfl
  | cons f fs ih =>
    intro h
    have ih' := ih (fun g hg => h g (List.mem_cons_of_mem _ hg))
    cases hr : (f.range == FS_ARRAY) with
    | false =>
      rw [List.filter_cons_of_neg (by simp [hr])]
      simp only [featErrors, hr]
      exact ih'
    | true =>
      rw [List.filter_cons_of_pos (by simp [hr]), List.flatMap_cons]
      obtain ⟨hs, he⟩ := h f List.mem_cons_self hr
      rcases hs with hs | ⟨arr, hs⟩
      · have hel : elementsOf hp a f = [] := by simp [elementsOf, hs]
        rw [hel, offending_nil, List.map_nil, List.nil_append]
        simp only [featErrors, hr, hs]
        exact ih'
      · match hl : slot hp arr "elements" with
        | some (.refs l) =>
          have hel : elementsOf hp a f = l := by simp [elementsOf, hs, hl]
          rw [hel] at he ⊢
          have h1 := elemErrors_eq ts hp (f.elem.getD TOP) owner l he
          simp only [featErrors, hr, hs, hl, h1, ih']
          simp
        | none | some .none | some (.int _) | some (.str _) | some (.bool _) | some (.float _)
        | some (.ref _) | some (.sofa _ _) | some (.ints _) | some (.floats _) | some (.bools _)
        | some (.strs _) | some (.attr _) =>
          have hel : elementsOf hp a f = [] := by simp [elementsOf, hs, hl]
          rw [hel, offending_nil, List.map_nil, List.nil_append]
          simp only [featErrors, hr, hs, hl]
          exact ih'

theorem typecheckFs_eq (ts : TypeSystem) (hp : Heap) (a : Nat) (ob : Obj) (t : TypeRec)
    (hw : WfArrays ts hp a) (ho : hp[a]? = some ob) (ht : getType ts ob.ty = .ok t) :
    typecheckFs ts hp a = .ok (expectedErrors ts hp a ob t) := by
  obtain ⟨ob', t', ho', ht', hf⟩ := hw.obj
  have e1 : ob' = ob := by rw [ho] at ho'; exact (Option.some.inj ho').symm
  subst e1
  have e2 : t' = t := by rw [ht] at ht'; exact (Except.ok.inj ht').symm
  subst e2
  simp only [typecheckFs, ho, ht, expectedErrors, fsArrayFeatures]
  apply featErrors_eq
  intro f hm hr
  exact hf f (by simp only [fsArrayFeatures, List.mem_filter]; exact ⟨hm, hr⟩)

theorem typecheckAll_ok (ts : TypeSystem) (hp : Heap) : ∀ (as : List Nat) (errs : List (Option Int)),
    typecheckAll ts hp as = .ok errs →
    ∃ per : List (List (Option Int)), per.length = as.length ∧ errs = per.flatten ∧
      ∀ i (hi : i < as.length) (hj : i < per.length), typecheckFs ts hp as[i] = .ok per[i] := by
  intro as
  induction as with
  | nil =>
    intro errs h
    refine ⟨[], rfl, ?_, ?_⟩
    · simp only [typecheckAll] at h; exact (Except.ok.inj h).symm
    · intro i hi; exact absurd hi (Nat.not_lt_zero _)
  | cons a rest ih =>
    intro errs h
    simp only [typecheckAll] at h
    cases h1 : typecheckFs ts hp a with
    | error e => rw [h1] at h; cases h
    | ok r1 =>
      rw [h1] at h
      cases h2 : typecheckAll ts hp rest with
      | error e => rw [h2] at h; cases h
      | ok r2 =>
        rw [h2] at h
        obtain ⟨per, hl, hfl, hall⟩ := ih r2 h2
        refine ⟨r1 :: per, by simp [hl], ?_, ?_⟩
        · rw [List.flatten_cons, ← hfl]; exact (Except.ok.inj h).symm
        · intro i hi hj
          cases i with
          | zero => exact h1
          | succ j =>
            simp only [List.getElem_cons_succ]
            exact hall j (by simpa using hi) (by simpa using hj)

theorem typecheckAll_total (ts : TypeSystem) (hp : Heap) : ∀ (as : List Nat),
    (∀ a ∈ as, ∃ r, typecheckFs ts hp a = .ok r) → ∃ errs, typecheckAll ts hp as = .ok errs := by
  intro as
  induction as with
  | nil => intro _; exact ⟨[], rfl⟩
  | cons a rest ih =>
    intro h
    obtain ⟨r1, h1⟩ := h a List.mem_cons_self
    obtain ⟨r2, h2⟩ := ih (fun b hb => h b (List.mem_cons_of_mem _ hb))
    exact ⟨r1 ++ r2, by simp only [typecheckAll, h1, h2]⟩

end Cassis.Traverse
