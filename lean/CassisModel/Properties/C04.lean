/-
C04 — Written documents are complete, closed under reachability and faithful.

Proved here, about the traversal both serialisers are built on (`Model/Traverse.lean`): the collected
set is exactly the set of structures reachable from the indexed ones (through references, array elements,
list heads, inlined or not), each under its own id (and once: `findAllFs_nodup` of C15); everything a collected structure
refers to is collected as well (closure), so every reference written as an id resolves.
The faithfulness of the rendering itself (two CASes written to the same document have the same content) is
`saveXmi_faithful_coll` (`C04FaithfulColl.lean`) and `saveJson_faithful_coll` (`C04FaithfulJson.lean`); the written document's shape
(ascending distinct ids, sofas, views) is `saveXmi_shape` of C01.
-/
import CassisModel.Proofs.Reach

namespace Cassis.Traverse
open Cassis.TS

/-- closure: whatever a collected structure refers to is collected too (or is the NULL object) -/
theorem findAllFs_closed (K : Consts) (ts : TypeSystem) (o : Opts) (hp : Heap) (nx : Int) (seeds : List Nat)
    (st : St) (hnx : 0 < nx) (h : findAllFs K ts o hp nx seeds = .ok st) (x : Int) (a b : Nat)
    (ha : (x, a) ∈ st.allFs) (hb : b ∈ succsOf K ts o st.heap (hp.length + 1) a) (hnull : xidOf st.heap b ≠ some 0) :
    b ∈ st.allFs.map (·.2) := by
  have c := findAllFs_collected hnx h
  rw [succsOf_shape K ts o c.inv.shape] at hb
  rcases c.rinv.closed x a ha b hb with hc | hc | hc
  · exact hc
  · rw [c.openl] at hc; cases hc
  · exact absurd hc hnull

/-- completeness: every structure reachable from the seeds (here: the indexed structures) is collected -/
theorem findAllFs_complete (K : Consts) (ts : TypeSystem) (o : Opts) (hp : Heap) (nx : Int) (seeds : List Nat)
    (st : St) (hnx : 0 < nx) (h : findAllFs K ts o hp nx seeds = .ok st) (a : Nat)
    (hr : Reach K ts o st.heap (hp.length + 1) seeds a) (hnull : xidOf st.heap a ≠ some 0) :
    a ∈ st.allFs.map (·.2) :=
  let c := findAllFs_collected hnx h
  (c.mem_iff hnx a).mpr ⟨(c.reach_iff hnx _ a).mp hr, fun e => hnull (c.inv.shape.xidOf e)⟩

/-- soundness: nothing else is collected -/
theorem findAllFs_sound (K : Consts) (ts : TypeSystem) (o : Opts) (hp : Heap) (nx : Int) (seeds : List Nat)
    (st : St) (hnx : 0 < nx) (h : findAllFs K ts o hp nx seeds = .ok st) (a : Nat) (ha : a ∈ st.allFs.map (·.2)) :
    Reach K ts o st.heap (hp.length + 1) seeds a :=
  (findAllFs_collected hnx h).rinv.sound a (Or.inl ha)

/-- each collected structure carries the id it is listed under, and none is the NULL object -/
theorem findAllFs_ids (K : Consts) (ts : TypeSystem) (o : Opts) (hp : Heap) (nx : Int) (seeds : List Nat)
    (st : St) (hnx : 0 < nx) (h : findAllFs K ts o hp nx seeds = .ok st) (x : Int) (a : Nat) (ha : (x, a) ∈ st.allFs) :
    xidOf st.heap a = some x ∧ x ≠ 0 :=
  (findAllFs_collected hnx h).link ha

end Cassis.Traverse
