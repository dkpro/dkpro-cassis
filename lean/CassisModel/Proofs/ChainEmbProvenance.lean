/-
Embedded type systems, for C02 (the replay invariant of `EmbeddedTsReplay.lean`) as much as for C16 (the namespace is
`ChainE`, but nothing here is about chains): provenance of feature records.  Type-system construction (`create_type`,
`_add_feature` with its push to the subtypes, `merge_typesystems` with re-parenting) only ever COPIES feature records — into
the own list of the domain, into the inherited lists of its descendants, from the supertype into a new type.  Hence a predicate
`P` of feature records that holds of every record of a type system, own or inherited (`RecsP P`), and of every record
handed to a construction step, holds of every record of the result.  No other invariant of the type system is needed, so
the lemmas apply to the reader of the `%TYPES` section and to `merge_typesystems` alike.

Purpose (`Proofs/EmbeddedTsReplay.lean`, `Proofs/ChainEmbRebuiltFlags.lean`): with `P := LikeIn o`, "agrees in name,
`multipleReferencesAllowed` and reserved flag with an own feature of the original type system", every effective feature of
the rebuilt type system agrees in these three with some own feature of the original — which `SameTs` (stated up to
`Feature.__eq__`) does not say.

Provenance of inherited feature records WITH the ancestor relation: `InhAnc` — every inherited record of a type is an
own record of a strict ancestor.  It is what `InhSub` (an inherited record is an own or inherited record of the
SUPERTYPE) amounts to along the supertype chain, hence holds in every API-built type system; forgetting the ancestor
gives "is an own record of SOME type" (`InhAnc.ownIn`).  The Boolean test `inhAncB` is run, as evidence without a
soundness lemma, on type systems of which no history is known (`Proofs/ChainEmb3Check.lean`).
-/
import CassisModel.Proofs.Merge
import CassisModel.Proofs.Features
import CassisModel.Proofs.ApiHistory

namespace Cassis.ChainE
open Cassis.TS

def OwnIn (ts : TypeSystem) (g : Feature) : Prop := ∃ t ∈ ts.types, g ∈ t.own

/-- the record agrees in name, `multipleReferencesAllowed` and reserved flag with an own feature of `o` -/
def LikeIn (o : TypeSystem) (r : Feature) : Prop :=
  ∃ g, OwnIn o g ∧ r.name = g.name ∧ r.multi = g.multi ∧ r.reserved = g.reserved

theorem likeIn_of_own {o : TypeSystem} {g : Feature} (h : OwnIn o g) : LikeIn o g := ⟨g, h, rfl, rfl, rfl⟩

/-- every feature record of the type system, own or inherited, satisfies `P` -/
def RecsP (P : Feature → Prop) (ts : TypeSystem) : Prop := ∀ t ∈ ts.types, ∀ g ∈ t.own ++ t.inh, P g

variable {P : Feature → Prop}

theorem RecsP.all {ts : TypeSystem} (h : RecsP P ts) {t : TypeRec} (ht : t ∈ ts.types) {f : Feature}
    (hf : f ∈ allFeatures t) : P f := h t ht f (allFeatures_sub hf)

theorem recsP_setRec {ts : TypeSystem} (h : RecsP P ts) (r : TypeRec) (hr : ∀ g ∈ r.own ++ r.inh, P g) :
    RecsP P (setRec ts r) := by
  intro x hx
  unfold setRec at hx
  obtain ⟨y, hy, rfl⟩ := List.mem_map.mp hx
  split
  · exact hr
  · exact h y hy

theorem recsP_putRec {ts : TypeSystem} (h : RecsP P ts) (r : TypeRec) (hr : ∀ g ∈ r.own ++ r.inh, P g) :
    RecsP P (putRec ts r) := by
  unfold putRec
  split
  · exact recsP_setRec h r hr
  · intro x hx
    rcases List.mem_append.mp hx with hx | hx
    · exact h x hx
    · rw [List.mem_singleton.mp hx]; exact hr

/-- appending a record that satisfies `P` (`FeatFrame`, `Proofs/TypeSystem.lean`) -/
theorem frame_recsP (P : Feature → Prop) : FeatFrame P (fun a b => RecsP P a → RecsP P b) := by
  refine ⟨⟨fun _ h => h, fun h1 h2 h => h2 (h1 h), fun ts t f hf hft _ h => ?_⟩, fun ts t f hf hft _ h => ?_⟩
  · refine recsP_setRec h _ (fun g hg => ?_)
    rw [← List.append_assoc] at hg
    exact (List.mem_append.mp hg).elim (h t (find?_mem hft) g) (fun hg => List.mem_singleton.mp hg ▸ hf)
  · refine recsP_setRec h _ (fun g hg => ?_)
    rcases List.mem_append.mp hg with hg | hg
    · exact (List.mem_append.mp hg).elim (fun hg => h t (find?_mem hft) g (List.mem_append_left _ hg))
        (fun hg => List.mem_singleton.mp hg ▸ hf)
    · exact h t (find?_mem hft) g (List.mem_append_right _ hg)

theorem recsP_addFeature {ts ts' : TypeSystem} {dom : String} {f : Feature}
    (h : RecsP P ts) (hf : P f) (ha : addFeature ts dom f = .ok ts') : RecsP P ts' :=
  (frame_recsP P).addFeature hf ha h

theorem recsP_createType {K : Consts} {ts ts' : TypeSystem} {n s : String} {d : Option String}
    (h : RecsP P ts) (hc : createType K ts n s d = .ok ts') : RecsP P ts' := by
  obtain ⟨sup, new1, hsup, _, hinh, rfl⟩ := createType_inv K ts ts' n s d hc
  have hsm : sup ∈ ts.types := getType_mem hsup
  obtain ⟨gs, hgs, rfl⟩ := inheritAll_sub _ _ _ hinh
  refine recsP_putRec (recsP_setRec h _ ?_) _ (fun g hg => ?_)
  · split <;> exact h sup hsm
  · rcases List.mem_append.mp hg with hg | hg
    · cases hg
    · exact h.all hsm (hgs.subset (by simpa using hg))

theorem recsP_relink {ts : TypeSystem} (h : RecsP P ts) (name oldSup newSup : String) :
    RecsP P (relink ts name oldSup newSup) := by
  intro x hx
  obtain ⟨y, hy, rfl⟩ := List.mem_map.mp ((relink_perm ts name oldSup newSup).mem_iff.mp hx)
  obtain ⟨_, e⟩ := relinkRec_eq name oldSup newSup y
  rw [e]
  exact h y hy

theorem recsP_reparent {ts ts' : TypeSystem} {name oldSup newSup : String} (h : RecsP P ts)
    (hr : reparent ts name oldSup newSup = .ok ts') : RecsP P ts' := by
  obtain ⟨_, ns, hfind, hi⟩ := reparent_ok ts ts' name oldSup newSup hr
  exact (frame_recsP P).toPushFrame.inheritFrom name (allFeatures ns) _ ts' (fun f hf => h.all (find?_mem hfind) hf) hi
    (recsP_relink h name oldSup newSup)

theorem recsP_processDecl {K : Consts} {s s' : MState} {d : Decl} (h : RecsP P s.ts)
    (hd : ∀ f ∈ d.own, P { f with domain := d.name }) (hp : processDecl K s d = .ok s') : RecsP P s'.ts := by
  have fin : ∀ ts0 : TypeSystem, RecsP P ts0 → addOwnFeatures ts0 d.name d.own = .ok s'.ts → RecsP P s'.ts :=
    fun ts0 h0 ha => (frame_recsP P).addOwnFeatures d.name d.own ts0 _ hd ha h0
  obtain ⟨_, ⟨_, ts1, hc, ha⟩ | ⟨ex, _, ha | ⟨_, ts1, hr, ha⟩⟩⟩ := processDecl_ok K s s' d hp
  · exact fin ts1 (recsP_createType h hc) ha
  · exact fin s.ts h ha
  · exact fin ts1 (recsP_reparent h hr) ha

theorem recsP_mergeDecls {K : Consts} {base m : TypeSystem} {decls : List Decl} (h : RecsP P base)
    (hd : ∀ d ∈ decls, ∀ f ∈ d.own, P { f with domain := d.name }) (hm : mergeDecls K base decls = .ok m) : RecsP P m :=
  mergeDecls_inv (RecsP P) (fun d hdm _ _ h hp => recsP_processDecl h (hd d hdm) hp) h hm

end Cassis.ChainE

namespace Cassis.ChainE
open Cassis.TS

/-- every inherited record is an own record of a strict ancestor -/
def InhAnc (ts : TypeSystem) : Prop :=
  ∀ t ∈ ts.types, ∀ r ∈ t.inh, ∃ a ta, a ≠ t.name ∧ Anc ts a t.name ∧ find? ts a = some ta ∧ r ∈ ta.own

theorem InhAnc.ownIn {ts : TypeSystem} (h : InhAnc ts) : ∀ t ∈ ts.types, ∀ r ∈ t.inh, OwnIn ts r := by
  intro t ht r hr
  obtain ⟨a, ta, _, _, hfa, hra⟩ := h t ht r hr
  exact ⟨ta, find?_mem hfa, hra⟩

theorem InhAnc.ownIn_rec {ts : TypeSystem} (h : InhAnc ts) {t : TypeRec} (ht : t ∈ ts.types) {f : Feature}
    (hf : f ∈ t.own ++ t.inh) : OwnIn ts f :=
  (List.mem_append.mp hf).elim (fun h0 => ⟨t, ht, h0⟩) (h.ownIn t ht f)

theorem inhAnc_of_inhSub {ts : TypeSystem} (hc : Consistent ts) (hf : FeatInv ts) (hi : InhSub ts) : InhAnc ts := by
  -- parents first: a record inherited from the supertype is its own, or inherited there from a strict ancestor
  suffices h : ∀ b, hasExact ts b = true → ∀ t, find? ts b = some t → ∀ r ∈ t.inh,
      ∃ a ta, a ≠ b ∧ Anc ts a b ∧ find? ts a = some ta ∧ r ∈ ta.own by
    intro t ht r hr
    have hft := find?_of_mem hc.nodup ht
    exact h _ ((hasExact_iff_find ts _).mpr ⟨t, hft⟩) t hft r hr
  refine hc.rec_up fun b tb hfb ih t ht r hr => ?_
  rw [hfb] at ht; cases ht
  have htm := find?_mem hfb
  cases hs : tb.super with
  | none => rw [hf.rootInh _ htm hs] at hr; cases hr
  | some s =>
    obtain ⟨ps, hps⟩ := (hasExact_iff_find ts s).mp (hc.superReg tb htm s hs)
    have hsb : Anc ts s b := Anc.step _ _ s _ hfb hs (Anc.refl s ((hasExact_iff_find ts s).mpr ⟨_, hps⟩))
    have hne : ∀ {a}, Anc ts a s → a ≠ b := fun h e => not_anc_of_super hc hfb hs (e ▸ h)
    rcases List.mem_append.mp (hi _ htm s _ hs hps r hr) with h0 | h0
    · exact ⟨s, ps, hne (Anc.refl s hsb.left_reg), hsb, hps, h0⟩
    · obtain ⟨a, ta, _, hab, hfa, hra⟩ := ih s hs ps hps r h0
      exact ⟨a, ta, hne hab, hab.trans hsb, hfa, hra⟩

theorem inhAnc_history (ops : List TsOp) : InhAnc (ops.foldl (applyOp Gen.consts) Gen.builtinTS) :=
  have h := built_of_history ops
  inhAnc_of_inhSub h.cons h.feat h.inhSub

theorem inhAnc_builtin : InhAnc Gen.builtinTS := inhAnc_history []

theorem _root_.Cassis.TS.UserBuilt.inhAnc {ts : TypeSystem} (h : UserBuilt ts) : InhAnc ts :=
  inhAnc_of_inhSub h.built.cons h.built.feat h.built.inhSub

/-- `a` is `b` or a supertype of `b` within `k` steps -/
def ancB (ts : TypeSystem) (a : String) : Nat → String → Bool
  | 0, _ => false
  | k+1, b => (hasExact ts b && a == b) ||
      (match find? ts b with
       | some tb => (match tb.super with | some s => ancB ts a k s | none => false)
       | none => false)

def inhAncB (ts : TypeSystem) : Bool :=
  ts.types.all (fun t => t.inh.all (fun r => ts.types.any (fun ta =>
    ta.own.contains r && ta.name != t.name && ancB ts ta.name 64 t.name)))

end Cassis.ChainE
