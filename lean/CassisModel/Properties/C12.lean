/-
C12 — Type system XML round trip preserves every declaration, in any declaration order.

The model (`Model/TsXml.lean`) works on abstract descriptors: the list of `typeDescription` records.
Proved here, for every descriptor and every order of its entries:

* `load_consistent`: whatever loads is one tree with the feature invariant (C10/C11 invariants);
* `load_declares`: for every non-predefined entry `t` of the (normalised) descriptor the loaded type system
  has a type of that name with exactly the declared supertype and description, whose own features are, in
  declaration order, declared features of `t` with their range, element type, flag and description
  (`Sublist`: a declared feature that an ancestor already provides identically is not stored again), and
  every declared feature is visible on the type with the declared range / element type / description
  (`load_declares_exact`: when no ancestor provides a declared feature and the stored names are distinct, the own
  features are exactly the declared ones);
* `load_only_declared`: no other user types exist;
* `load_ok_predefined_match`: a redeclared built-in type has the built-in supertype and features, else the
  load is rejected (`checkPredefined_super_diff_error`: a different supertype is a value error); the redeclared names
  are remembered for re-emission, and each is registered (`load_redeclared_reg`);
* `creationOrder_sound`: whatever the order of the declarations, types are created supertypes first (`toposort_sound` of
  `Properties/C02.lean`, imported for it);
* `renderFeat_mk`, `renderType_fields`, `toDescriptor_user_sorted`: the writer emits, per type, exactly the
  stored name/supertype/description/own features, restoring the names `self`/`type`, with user types sorted
  by name.

The entries of the normalised descriptor (`effective d0`, `normalize`) are what the reader makes of the declarations:
EVERY text stripped of surrounding whitespace (type name, supertype name, feature name, range, element type,
descriptions — `_get_elem_as_str`; `strip` is `str.strip()`), then the declarations keyed by the stripped name (a later
declaration of a name replaces an earlier one, features accumulate).  The statements below quantify over these entries.

The round trip `toDescriptor (load (toDescriptor ts))` as one statement, for every order of the declarations (so
success of a load does not depend on the order), is `tsxml_roundtrip` (`C12RoundTrip.lean`).
-/
import CassisModel.Proofs.TsXml
import CassisModel.Proofs.Determinism
import CassisModel.Properties.C02

namespace Cassis.TsXml
open Cassis.TS

theorem load_consistent (d0 : Descriptor) (ts : TypeSystem) (h : load Gen.consts d0 = .ok ts) :
    Consistent ts ∧ FeatInv ts := by
  obtain ⟨R⟩ := loadRun_of_ok d0 ts h
  rw [R.result]
  exact inv_redeclared R.ts2 _ R.built.cons R.built.feat

-- NOTE: without the hypothesis `hs : t.super ≠ t.name` the statement below is FALSE (of the model and of the code alike;
-- conjunct `r.super = some t.super`).  A dot-less name that is declared as its own supertype passes `allResolvable`
-- (it is "declared"), is not yet registered when `createType` runs, and `getType` then resolves it by *short name*.
-- Counterexample (evaluated on the model):
--   `load Gen.consts [{ name := "TOP", super := "TOP" }]` succeeds and the record of `"TOP"` has
--   `super = some "uima.cas.TOP"`, not `some "TOP"` (likewise `{ name := "Annotation", super := "Annotation" }`).

/-- every entry that is not declared as its own supertype (such an entry cannot come out of `to_xml`: the API
    resolves the supertype name before the type exists) is declared by the loaded type system -/
theorem load_declares (d0 : Descriptor) (ts : TypeSystem) (h : load Gen.consts d0 = .ok ts)
    (t : TDesc) (ht : t ∈ effective d0) (hu : Gen.consts.predefined.contains t.name = false)
    (hs : t.super ≠ t.name) :
    ∃ r : TypeRec, find? ts t.name = some r ∧ r.super = some t.super ∧ r.descr = t.descr ∧
      List.Sublist (r.own.map renderFeat) (t.feats.map emitted) ∧
      ∀ f ∈ t.feats, ∃ g ∈ allFeatures r, g.name = storedName f.name ∧ g.range = f.range ∧
        g.elem.getD TOP = f.elem.getD TOP ∧ g.descr = f.descr := by
  obtain ⟨r, hr, hsup, hd, sel, hown, hsub, hvis, _⟩ := load_declares_core d0 ts h t ht hu
  refine ⟨r, hr, hsup hs, hd, ?_, ?_⟩
  · have : r.own = sel := by simpa using hown
    rw [this]
    have hm := hsub.map renderFeat
    rw [List.map_map] at hm
    have e : (renderFeat ∘ mkFeat t.name) = emitted := funext (fun fd => renderFeat_mkFeat t.name fd)
    rw [e] at hm
    exact hm
  · intro f hf
    obtain ⟨g, hg, hgf⟩ := hvis f hf
    obtain ⟨y, hy, hyg⟩ := allFeatures_cover hg
    have := (featureEq_iff _ _).mp (featureEq_trans hyg hgf)
    exact ⟨y, hy, this.1, this.2.2.1, this.2.2.2, this.2.1⟩

/-- when no declared feature is already provided by an ancestor and stored names are distinct, the own
    features are exactly the declared ones -/
theorem load_declares_exact (d0 : Descriptor) (ts : TypeSystem) (h : load Gen.consts d0 = .ok ts)
    (t : TDesc) (ht : t ∈ effective d0) (hu : Gen.consts.predefined.contains t.name = false)
    (r : TypeRec) (hr : find? ts t.name = some r)
    (hfresh : ∀ f ∈ t.feats, ∀ g ∈ r.inh, g.name ≠ storedName f.name)
    (hnd : (t.feats.map (fun f => storedName f.name)).Nodup) :
    r.own.map renderFeat = t.feats.map emitted := by
  obtain ⟨r', hr', _, _, sel, hown, _, _, hex⟩ := load_declares_core d0 ts h t ht hu
  rw [hr] at hr'; cases hr'
  have hsel := hex (fun f hf => ⟨by simp [fnames], fun hm => by
    obtain ⟨g, hg, hgn⟩ := mem_fnames.mp hm
    exact hfresh f hf g hg hgn⟩) hnd
  have : r.own = sel := by simpa using hown
  rw [this, hsel, List.map_map]
  exact List.map_congr_left (fun fd _ => renderFeat_mkFeat t.name fd)

theorem load_only_declared (d0 : Descriptor) (ts : TypeSystem) (h : load Gen.consts d0 = .ok ts)
    (r : TypeRec) (hr : r ∈ ts.types) (hu : Gen.consts.predefined.contains r.name = false) :
    ∃ t ∈ effective d0, t.name = r.name := by
  obtain ⟨R⟩ := loadRun_of_ok d0 ts h
  have hr2 : r ∈ R.ts2.types := by rw [R.result] at hr; exact hr
  have h2 : hasExact R.ts2 r.name = true := (hasExact_iff_mem R.ts2 r.name).mpr (List.mem_map.mpr ⟨r, hr2, rfl⟩)
  rw [hasExact_transfer R.sameSkel] at h2
  obtain ⟨t1, ht1⟩ := (hasExact_iff_find R.ts1 r.name).mp h2
  rcases R.types.back r.name t1 ht1 with hm | ⟨t0, ht0⟩
  · obtain ⟨t, htd⟩ := R.types.decl r.name hm
    exact ⟨t, (dfind_some htd).1, (dfind_some htd).2⟩
  · have := base_all_predef _ ((hasExact_iff_find _ _).mpr ⟨t0, ht0⟩)
    rw [hu] at this
    cases this

/-- a redeclared built-in is accepted only when it agrees with the built-in definition -/
theorem load_ok_predefined_match (d0 : Descriptor) (ts : TypeSystem) (h : load Gen.consts d0 = .ok ts)
    (t : TDesc) (ht : t ∈ effective d0) (hp : Gen.consts.predefined.contains t.name = true) :
    t.name ∈ ts.redeclared ∧
    ∃ pt : TypeRec, find? Gen.builtinTSNoDoc t.name = some pt ∧ pt.super = some t.super ∧
      (t.feats.map (fun f => featKey f.name f.descr f.range f.elem)).Perm
        (pt.own.map (fun f => featKey f.name f.descr f.range f.elem)) := by
  obtain ⟨R⟩ := loadRun_of_ok d0 ts h
  obtain ⟨h1, h2⟩ := checkPredefined_spec Gen.consts Gen.builtinTSNoDoc (effective d0) R.redecl R.checked
  refine ⟨?_, h2 t ht hp⟩
  rw [R.result, h1]
  exact List.mem_append_right _ (List.mem_map_of_mem (List.mem_filter.mpr ⟨ht, hp⟩))

/-- … and a different supertype is rejected with a value error as soon as the names resolve -/
theorem checkPredefined_super_diff_error (base : TypeSystem) (d : Descriptor) (t : TDesc) (pt : TypeRec)
    (ht : t ∈ d) (hp : Gen.consts.predefined.contains t.name = true)
    (hb : ∀ u ∈ d, Gen.consts.predefined.contains u.name = true → (find? base u.name).isSome)
    (hpt : find? base t.name = some pt) (hs : pt.super ≠ some t.super) :
    checkPredefined Gen.consts base d = .error .valueError := by
  rw [checkPredefined_eq]
  split
  · -- the first objection: every redeclared entry is found, so it is a value error
    rename_i e he
    obtain ⟨u, hu, hue⟩ := List.exists_of_findSome?_eq_some he
    obtain ⟨hu1, hu2⟩ := List.mem_filter.mp hu
    have hfound := hb u hu1 hu2
    unfold entryErr at hue
    cases hfu : find? base u.name with
    | none => rw [hfu] at hfound; cases hfound
    | some pu =>
      rw [hfu] at hue
      simp only [] at hue
      split at hue
      · cases hue; rfl
      · split at hue
        · cases hue; rfl
        · cases hue
  · -- there is one: the entry `t`
    rename_i hnone
    have := List.findSome?_eq_none_iff.mp hnone t (List.mem_filter.mpr ⟨ht, hp⟩)
    simp [entryErr, hpt, hs] at this

/-- supertypes first, whatever the order of the declarations -/
theorem creationOrder_sound (d : Descriptor) (order : List String) (h : creationOrder d = .ok order) :
    (∀ t ∈ d, t.name ∈ order) ∧
    ∀ t ∈ d, t.super ≠ t.name → ∀ i j : Nat, order[i]? = some t.name → order[j]? = some t.super → j < i := by
  obtain ⟨h1, h2⟩ := Json.toposort_sound _ _ h
  exact ⟨fun t ht => h1 { name := t.name, super := t.super } (List.mem_map.mpr ⟨t, ht, rfl⟩),
    fun t ht => h2 { name := t.name, super := t.super } (List.mem_map.mpr ⟨t, ht, rfl⟩)⟩

/-- the writer restores what `create_feature` stored -/
theorem renderFeat_mk (fd : FDesc) (dom : String) :
    renderFeat { name := storedName fd.name, domain := dom, range := fd.range, elem := fd.elem,
                 descr := fd.descr, multi := fd.multi, reserved := isReservedName fd.name } = emitted fd :=
  renderFeat_mkFeat dom fd

theorem renderType_fields (t : TypeRec) :
    (renderType t).name = t.name ∧ (renderType t).super = t.super.getD "" ∧
    (renderType t).descr = noEmpty t.descr ∧ (renderType t).feats = t.own.map renderFeat :=
  ⟨rfl, rfl, rfl, rfl⟩

-- NOTE: without the hypothesis `hreg` the statement below is FALSE (conjunct `pre.map (·.name) = sortStrs …`): the
-- writer looks the remembered names up with `getType`, which resolves a dot-less, unregistered name by *short name*.
-- Counterexample (evaluated on the model):
--   `toDescriptor Gen.consts { Gen.builtinTS with redeclared := ["TOP"] }` succeeds with a first entry named
--   `"uima.cas.TOP"`, whereas `sortStrs ["TOP"].eraseDups = ["TOP"]`.

/-- the emitted descriptor: redeclared built-ins, then the user types sorted by name, none of them predefined, the
    implicit DocumentAnnotation left out — whenever the remembered redeclared names are registered, which is the case
    for every loaded type system (`load_redeclared_reg`) -/
theorem toDescriptor_user_sorted (ts : TypeSystem) (d : Descriptor)
    (hreg : ∀ n ∈ ts.redeclared, hasExact ts n = true) (h : toDescriptor Gen.consts ts = .ok d) :
    ∃ pre user : Descriptor, d = pre ++ user ∧
      pre.map (·.name) = sortStrs ts.redeclared.eraseDups ∧
      user.Pairwise (fun a b => a.name ≤ b.name) ∧
      (∀ u ∈ user, Gen.consts.predefined.contains u.name = false ∧ u.name ≠ DOCUMENT_ANNOTATION) ∧
      (∀ r ∈ ts.types, Gen.consts.predefined.contains r.name = false → r.name ≠ DOCUMENT_ANNOTATION →
        renderType r ∈ user) := by
  rw [toDescriptor_eq] at h
  simp only [bind, Except.bind, pure, Except.pure] at h
  split at h
  · cases h
  · rename_i pre hpre
    cases h
    refine ⟨pre, _, rfl, ?_, List.Pairwise.map renderType (fun _ _ hab => hab) (fullRecs_sorted _ _), ?_, ?_⟩
    · obtain ⟨pre', hpre', hnames, _⟩ := mapM_render_ok ts (sortStrs ts.redeclared.eraseDups) (fun n hn =>
        hreg n (List.mem_eraseDups.mp ((sortStrs_perm _).mem_iff.mp hn)))
      cases (hpre'.symm.trans hpre : Except.ok pre' = Except.ok pre)
      exact hnames
    · intro u hu
      obtain ⟨r, hr, rfl⟩ := List.mem_map.mp hu
      exact ((Json.mem_fullRecs _ _ _).mp hr).2
    · intro r hr hp hne
      exact List.mem_map_of_mem ((Json.mem_fullRecs _ _ _).mpr ⟨hr, hp, hne⟩)

theorem load_redeclared_reg (d0 : Descriptor) (ts : TypeSystem) (h : load Gen.consts d0 = .ok ts) :
    ∀ n ∈ ts.redeclared, hasExact ts n = true := by
  obtain ⟨R⟩ := loadRun_of_ok d0 ts h
  have S := R.types
  have hreg1 : ∀ n, hasExact R.ts1 n = true → hasExact ts n = true := by
    intro n hn
    rw [R.result]
    exact hasExact_of_skel (ts := R.ts1) R.sameSkel hn
  intro n hn
  rw [R.result] at hn
  simp only [] at hn
  rcases List.mem_append.mp hn with hn | hn
  · split at hn
    · rename_i hc
      simp only [List.mem_singleton] at hn
      subst hn
      have hmem : DOCUMENT_ANNOTATION ∈ (effective d0).map (·.name) := by
        unfold effective
        simp only [hc, if_true]
        exact List.contains_iff_mem.mp hc
      obtain ⟨t, ht, htn⟩ := List.mem_map.mp hmem
      have hmc : DOCUMENT_ANNOTATION ∈ R.created :=
        htn ▸ R.all t ht (by rw [htn]; exact doc_not_predef)
      obtain ⟨u, hu⟩ := S.decl _ hmc
      obtain ⟨r, hr, _⟩ := S.made _ hmc u hu
      exact hreg1 _ ((hasExact_iff_find R.ts1 _).mpr ⟨r, hr⟩)
    · cases hn
  · obtain ⟨h1, h2⟩ := checkPredefined_spec _ _ _ _ R.checked
    rw [h1] at hn
    obtain ⟨t, ht, rfl⟩ := List.mem_map.mp hn
    obtain ⟨t0, ht0, _⟩ := h2 t (List.mem_filter.mp ht).1 (List.mem_filter.mp ht).2
    obtain ⟨t1, ht1, _⟩ := S.keep _ t0 ht0
    exact hreg1 _ ((hasExact_iff_find R.ts1 _).mpr ⟨t1, ht1⟩)

/-! Non-vacuity (tests of concrete instances) -/
example : (load Gen.consts [{ name := "x.B", super := "x.A", feats := [{ name := "self", range := "x.A" }] },
                            { name := "x.A", super := "uima.tcas.Annotation" }]).toOption.isSome = true :=
  -- the kernel does not unfold the well-founded recursions in `Array.qsort` (dependency order) and
  -- `pushInherited`: proved by rewriting
  load_example_aux
example : storedName "self" = "self_" := by decide

end Cassis.TsXml
