/-
What one step (`parseSofa`, `parseFs`) and then a whole pass (`sofaPass`, `fsPass`) of the JSON reader does to the id table,
the heap and the views: a relation that is reflexive, transitive and kept by both steps is kept by both passes (`StepRel`,
`sofaPass_rel`, `fsPass_rel`; `StepRelP`, `sofaPass_relP`, `fsPass_relP` when `parseFs` keeps it only on elements that satisfy
a predicate, as `RD` of `JsonIdsLoad.lean`); the instances here are the bounds (`RB`), the ids (`RH`) and type and slot names
(`KExt`: kept for the old objects, those of a registered type for the new ones).  Namespace `Ids`: the ids the reader
registers, assigns and keeps (C09 on documents).
-/
import CassisModel.Proofs.JsonReader
import CassisModel.Proofs.HeapStep

namespace Cassis.Json.Ids
open Cassis.TS Cassis.Xmi

theorem fssVals_setFs {l : List (Int × Val)} (h : FssVals l) (k : Int) (v : Val)
    (hv : (∃ a : Nat, v = .ref a) ∨ (∃ (cI : Nat) (vn : String), v = .sofa cI vn)) : FssVals (setFs l k v) := by
  intro q hq
  rcases mem_setFs hq with hq | rfl
  · exact h q hq
  · exact hv

theorem fssVals_lookup {l : List (Int × Val)} (h : FssVals l) {i : Int} {v : Val} (hl : lookup l i = some v) :
    (∃ a : Nat, v = .ref a) ∨ (∃ (cI : Nat) (vn : String), v = .sofa cI vn) := by
  exact h _ (lookup_mem hl)

theorem addView_some (c : Cas) (name : String) (x : Int) (num : Option Int) :
    ∃ v1 : View, Cas.getViewRec (Cas.addView c name (some x) num) name = some v1 ∧ v1.sofa.xid = x ∧
      ∀ n, n ≠ name → Cas.getViewRec (Cas.addView c name (some x) num) n = Cas.getViewRec c n := by
  unfold Cas.addView
  cases num
  all_goals exact ⟨_, Cas.getViewRec_set_same _ _ _, rfl, fun n hn => Cas.getViewRec_set_other _ _ _ _ hn⟩

theorem sofaTail_res {s s' : RState} {ci : Nat} {name : String} {c1 : Cas} {text : Option (List Nat)}
    {m u : Option String} {arr : Val} (h : sofaTail s ci name c1 text m u arr = .ok s')
    {v1 : View} (hv1 : Cas.getViewRec c1 name = some v1)
    (hoth1 : ∀ n, n ≠ name → Cas.getViewRec c1 n = Cas.getViewRec s.cas n) :
    ∃ w : View,
      s'.fss = setFs s.fss w.sofa.xid (.sofa ci name) ∧ s'.heap = s.heap ∧ s'.deferred = s.deferred ∧
      Cas.getViewRec s'.cas name = some w ∧ w.sofa.xid = v1.sofa.xid ∧ w.sofa.sofaNum = v1.sofa.sofaNum ∧
      (∀ n, n ≠ name → Cas.getViewRec s'.cas n = Cas.getViewRec s.cas n) ∧
      s'.maxId = max s.maxId w.sofa.xid ∧ s'.maxNum = max s.maxNum w.sofa.sofaNum := by
  rw [sofaTail_eq hv1] at h
  cases h
  exact ⟨tailView v1 text m u arr, rfl, rfl, rfl, Cas.getViewRec_set_same _ _ _, rfl, rfl,
    fun n hn => (Cas.getViewRec_set_other _ _ _ _ hn).trans (hoth1 n hn), rfl, rfl⟩

theorem viewFor_ok {c c1 : Cas} {name : String} {fsId : Int} {num : Option Int} (h : viewFor c name fsId num = .ok c1) :
    (∃ v1 : View, Cas.getViewRec c1 name = some v1 ∧
      (v1.sofa.xid = fsId ∨ (name ≠ Cas.INITIAL_VIEW ∧ Cas.getViewRec c name = some v1))) ∧
    ∀ n, n ≠ name → Cas.getViewRec c1 n = Cas.getViewRec c n := by
  unfold viewFor at h
  split at h
  · obtain ⟨v, hv, rfl⟩ := Cas.updSofa_ok h
    exact ⟨⟨_, Cas.getViewRec_set_same _ _ _, Or.inl rfl⟩, fun n hn => Cas.getViewRec_set_other _ _ _ _ hn⟩
  · rename_i hni
    split at h
    · rename_i hex
      cases h
      obtain ⟨v0, hv0⟩ := Option.isSome_iff_exists.mp hex
      exact ⟨⟨v0, hv0, Or.inr ⟨fun e => hni (by rw [e]; exact beq_self_eq_true _), hv0⟩⟩, fun _ _ => rfl⟩
    · split at h
      · cases h
      · rename_i hcv
        cases h
        unfold Cas.createView at hcv
        split at hcv
        · cases hcv
        · cases hcv
          obtain ⟨v1, hv1, hx1, ho1⟩ := addView_some c name fsId num
          exact ⟨⟨v1, hv1, Or.inl hx1⟩, ho1⟩

/-- what `parseSofa` does: the sofa of the view `name` is registered under the id it carries at the end, which is the
    id of the element — unless the view is not the initial one and existed already: then the view keeps its sofa id and
    sofaNum (`cas.get_view(name)` in `_get_or_create_view`) -/
theorem parseSofa_res (ci : Nat) (s s' : RState) (j : JFs) (h : parseSofa ci s j = .ok s') :
    ∃ (fsId : Int) (name : String) (w : View), j.id = some fsId ∧ sofaIdOf j = some name ∧
      s'.fss = setFs s.fss w.sofa.xid (.sofa ci name) ∧ s'.heap = s.heap ∧ s'.deferred = s.deferred ∧
      Cas.getViewRec s'.cas name = some w ∧
      (w.sofa.xid = fsId ∨ (name ≠ Cas.INITIAL_VIEW ∧ ∃ v0 : View, Cas.getViewRec s.cas name = some v0 ∧
        w.sofa.xid = v0.sofa.xid ∧ w.sofa.sofaNum = v0.sofa.sofaNum)) ∧
      (∀ n, n ≠ name → Cas.getViewRec s'.cas n = Cas.getViewRec s.cas n) ∧
      s'.maxId = max s.maxId w.sofa.xid ∧ s'.maxNum = max s.maxNum w.sofa.sofaNum := by
  rw [parseSofa_eq] at h
  split at h
  · rename_i fsId name hid hname
    obtain ⟨c1, hv, ht⟩ := Det.bind_ok h
    obtain ⟨⟨v1, hv1, hx⟩, hoth⟩ := viewFor_ok hv
    obtain ⟨w, r1, r2, r3, r4, r5, r6, r7, r8⟩ := sofaTail_res ht hv1 hoth
    refine ⟨fsId, name, w, hid, hname, r1, r2, r3, r4, ?_, r7, r8⟩
    rcases hx with hx | ⟨hni, hv0⟩
    · exact Or.inl (r5.trans hx)
    · exact Or.inr ⟨hni, v1, hv0, r5, r6⟩
  · cases h

theorem setSlot_xsame_ref {hp hp' : Heap} {a : Nat} {n : String} {v : Val} (h : Heap.setSlot hp a n v = .ok hp')
    (hv : (∃ t : Nat, v = .ref t) ∨ (∃ (cI : Nat) (vn : String), v = .sofa cI vn) ∨ (∃ l, v = .refs l)) :
    XSame hp hp' := by
  unfold Heap.setSlot at h
  split at h
  · cases h
  · rename_i o ho
    split at h
    · cases h
      exact set_xsame ho rfl
    · split at h
      · rcases hv with ⟨t, rfl⟩ | ⟨cI, vn, rfl⟩ | ⟨l, rfl⟩ <;> cases h
      · cases h

/-- the loop lemma of `resolveRefs`: a reflexive, transitive relation on heaps that `setSlot` at `addr` keeps for the
    registered values -/
theorem resolveRefs_heap {R : Heap → Heap → Prop} (hrefl : ∀ hp, R hp hp) (htrans : ∀ a b c, R a b → R b c → R a c)
    {rename : String → String} {fss : List (Int × Val)} {addr : Nat}
    (hset : ∀ hp n i v hp', lookup fss i = some v → Heap.setSlot hp addr n v = .ok hp' → R hp hp') :
    ∀ (l : List (String × JV)) {heap : Heap} {d : List Deferred} {r : Heap × List Deferred},
      resolveRefs rename fss addr l (heap, d) = .ok r → R heap r.1 := by
  intro l
  induction l with
  | nil => intro heap d r h; cases h; exact hrefl _
  | cons p rest ih =>
    intro heap d r h
    rw [resolveRefs] at h
    split at h
    · rename_i tv htv
      split at h
      · cases h
      · rename_i heap1 hs
        obtain ⟨i, _, hl⟩ := Option.bind_eq_some_iff.mp htv
        exact htrans _ _ _ (hset _ _ i tv _ hl hs) (ih h)
    · exact ih h

theorem resolveRefs_xsame (rename : String → String) (fss : List (Int × Val)) (hv : FssVals fss) (addr : Nat)
    (l : List (String × JV)) (heap : Heap) (d : List Deferred) (heap' : Heap) (d' : List Deferred)
    (h : resolveRefs rename fss addr l (heap, d) = .ok (heap', d')) : XSame heap heap' :=
  resolveRefs_heap XSame.refl (fun _ _ _ => XSame.trans) (fun _ _ _ _ _ hl hs => setSlot_xsame_ref hs (by
    rcases fssVals_lookup hv hl with ⟨a, rfl⟩ | ⟨cI, vn, rfl⟩
    · exact Or.inl ⟨a, rfl⟩
    · exact Or.inr (Or.inl ⟨cI, vn, rfl⟩))) l h

theorem parseFs_res (K : Consts) (ts : TypeSystem) (tsIdx : Nat) (s s' : RState) (j : JFs)
    (h : parseFs K ts tsIdx s j = .ok s') :
    ∃ fsId : Int, j.id = some fsId ∧
      s'.fss = setFs s.fss fsId (.ref s.heap.length) ∧ s'.cas = s.cas ∧
      s'.maxId = max s.maxId fsId ∧ s'.maxNum = s.maxNum ∧
      (FssVals s.fss → ∃ o : Obj, o.xid = some fsId ∧ XSame (s.heap ++ [o]) s'.heap) := by
  obtain ⟨t, fsId, nums, kwargs, d0, o, heap1, d, heap, _, hid, _, _, ho, hres, h5, rfl⟩ := parseFs_ok_iff.mp h
  refine ⟨fsId, hid, rfl, rfl, rfl, rfl, fun hv => ⟨o, (Cas.construct_ok ho).2, ?_⟩⟩
  refine (resolveRefs_xsame renameReserved s.fss hv _ _ _ _ _ _ hres).trans ?_
  have hconv := convStep_ok h5
  split at hconv
  · obtain ⟨_, _, _, _, _, hc⟩ := hconv
    exact convertOffsets_xsame hc
  · rw [hconv]
    exact XSame.refl _

/-! ### reflexive-transitive relations carried through the passes -/

/-- a reflexive, transitive relation on reader states that `parseSofa` keeps on every element and `parseFs` on the elements
    that satisfy `P`: both passes keep it on a document whose elements satisfy `P` (`sofaPass_relP`, `fsPass_relP`) -/
structure StepRelP (K : Consts) (ts : TypeSystem) (tsIdx ci : Nat) (P : JFs → Prop) (R : RState → RState → Prop) :
    Prop where
  refl : ∀ s, R s s
  trans : ∀ a b c, R a b → R b c → R a c
  sofa : ∀ s s' j, parseSofa ci s j = .ok s' → R s s'
  fs : ∀ s s' j, P j → parseFs K ts tsIdx s j = .ok s' → R s s'

/-- a relation every step keeps, whatever the element -/
structure StepRel (K : Consts) (ts : TypeSystem) (tsIdx ci : Nat) (R : RState → RState → Prop) : Prop where
  refl : ∀ s, R s s
  trans : ∀ a b c, R a b → R b c → R a c
  sofa : ∀ s s' j, parseSofa ci s j = .ok s' → R s s'
  fs : ∀ s s' j, parseFs K ts tsIdx s j = .ok s' → R s s'

theorem StepRel.toP {K : Consts} {ts : TypeSystem} {tsIdx ci : Nat} {R : RState → RState → Prop}
    (h : StepRel K ts tsIdx ci R) : StepRelP K ts tsIdx ci (fun _ => True) R :=
  ⟨h.refl, h.trans, h.sofa, fun s s' j _ hj => h.fs s s' j hj⟩

theorem parseById_relP {K : Consts} {ts : TypeSystem} {tsIdx ci : Nat} {P : JFs → Prop} {R : RState → RState → Prop}
    (hR : StepRelP K ts tsIdx ci P R) (i : Int) (l : List JFs) (hl : ∀ j ∈ l, P j)
    (s r : RState) (h : parseById K ts tsIdx i l s = .ok r) : R s r :=
  Det.foldlM_rel hR.refl hR.trans _ (fun j hj a b hf => hR.fs a b j (hl j (List.mem_filter.mp hj).1) hf) s r
    (parseById_eq K ts tsIdx i l s ▸ h)

theorem sofaStep_relP {K : Consts} {ts : TypeSystem} {tsIdx ci : Nat} {P : JFs → Prop} {R : RState → RState → Prop}
    (hR : StepRelP K ts tsIdx ci P R) (all : List JFs) (hall : ∀ j ∈ all, P j) (j : JFs)
    (s r : RState) (h : sofaStep K ts tsIdx ci all s j = .ok r) : R s r := by
  obtain ⟨s1, h1, h2⟩ := sofaStep_ok h
  refine hR.trans _ _ _ ?_ (hR.sofa _ _ _ h2)
  rcases h1 with rfl | ⟨i, h1⟩
  · exact hR.refl _
  · exact parseById_relP hR i all hall _ _ h1

theorem sofaPass_relP {K : Consts} {ts : TypeSystem} {tsIdx ci : Nat} {P : JFs → Prop} {R : RState → RState → Prop}
    (hR : StepRelP K ts tsIdx ci P R) (all : List JFs) (hall : ∀ j ∈ all, P j) (l : List JFs)
    (s r : RState) (h : sofaPass K ts tsIdx ci all l s = .ok r) : R s r :=
  Det.foldlM_rel hR.refl hR.trans _ (fun j _ => sofaStep_relP hR all hall j) s r (sofaPass_eq K ts tsIdx ci all l s ▸ h)

theorem sofaPass_rel {K : Consts} {ts : TypeSystem} {tsIdx ci : Nat} {R : RState → RState → Prop}
    (hR : StepRel K ts tsIdx ci R) (all : List JFs) (l : List JFs) :
    ∀ s r, sofaPass K ts tsIdx ci all l s = .ok r → R s r :=
  sofaPass_relP hR.toP all (fun _ _ => trivial) l

theorem fsPass_relP {K : Consts} {ts : TypeSystem} {tsIdx ci : Nat} {P : JFs → Prop} {R : RState → RState → Prop}
    (hR : StepRelP K ts tsIdx ci P R) (l : List JFs) (hl : ∀ j ∈ l, P j)
    (s r : RState) (h : fsPass K ts tsIdx l s = .ok r) : R s r :=
  Det.foldlM_rel hR.refl hR.trans _ (fun j hj a b hf => hR.fs a b j (hl j (List.mem_filter.mp hj).1) hf) s r
    (fsPass_eq K ts tsIdx l s ▸ h)

theorem fsPass_rel {K : Consts} {ts : TypeSystem} {tsIdx ci : Nat} {R : RState → RState → Prop}
    (hR : StepRel K ts tsIdx ci R) (l : List JFs) :
    ∀ s r, fsPass K ts tsIdx l s = .ok r → R s r :=
  fsPass_relP hR.toP l (fun _ _ => trivial)

/-- the bounds only grow: the two maxima, the registered ids, the bounded views and, with them, `JBounded` -/
structure RB (s r : RState) : Prop where
  maxId : s.maxId ≤ r.maxId
  maxNum : s.maxNum ≤ r.maxNum
  keys : ∀ i, i ∈ s.fss.map (·.1) → i ∈ r.fss.map (·.1)
  views : ∀ n, VB s.maxId s.maxNum s.cas n → VB r.maxId r.maxNum r.cas n
  bounded : JBounded s → JBounded r

theorem RB.of_setFs {s s' : RState} {k : Int} {v : Val} (hfss : s'.fss = setFs s.fss k v)
    (hmi : s'.maxId = max s.maxId k) (hmn : s.maxNum ≤ s'.maxNum)
    (hvb : ∀ n, VB s.maxId s.maxNum s.cas n → VB s'.maxId s'.maxNum s'.cas n)
    (hv : ∀ cI vn, v = .sofa cI vn → VB s'.maxId s'.maxNum s'.cas vn) : RB s s' := by
  refine ⟨by omega, hmn, fun i hi => hfss ▸ setFs_keys _ _ _ _ hi, hvb, fun hb => ⟨?_, ?_⟩⟩
  · intro q hq
    rcases mem_setFs (hfss ▸ hq) with hq | rfl
    · have := hb.1 q hq
      omega
    · show k ≤ s'.maxId
      omega
  · intro q hq cI vn hqv
    rcases mem_setFs (hfss ▸ hq) with hq | rfl
    · exact hvb vn (hb.2 q hq cI vn hqv)
    · exact hv cI vn hqv

theorem RB.stepRel (K : Consts) (ts : TypeSystem) (tsIdx ci : Nat) : StepRel K ts tsIdx ci RB where
  refl := fun _ => ⟨Int.le_refl _, Int.le_refl _, fun _ h => h, fun _ h => h, fun h => h⟩
  trans := fun _ _ _ x y => ⟨Int.le_trans x.maxId y.maxId, Int.le_trans x.maxNum y.maxNum,
    fun i h => y.keys i (x.keys i h), fun n h => y.views n (x.views n h), fun h => y.bounded (x.bounded h)⟩
  sofa := by
    intro s s' j h
    obtain ⟨fsId, name, w, _, _, hfss, _, _, hw, _, hoth, hmi, hmn⟩ := parseSofa_res ci s s' j h
    have hname : VB s'.maxId s'.maxNum s'.cas name := ⟨w, hw, by omega, by omega⟩
    refine RB.of_setFs hfss hmi (by omega) (fun n hn => ?_) (fun cI vn e => ?_)
    · by_cases hnn : n = name
      · exact hnn ▸ hname
      · obtain ⟨v, hv, b1, b2⟩ := hn
        exact ⟨v, (hoth n hnn).trans hv, by omega, by omega⟩
    · cases e
      exact hname
  fs := by
    intro s s' j h
    obtain ⟨fsId, _, hfss, hcas, hmi, hmn, _⟩ := parseFs_res K ts tsIdx s s' j h
    refine RB.of_setFs hfss hmi (by omega) (fun n hn => ?_) (fun cI vn e => by cases e)
    obtain ⟨v, hv, b1, b2⟩ := hn
    exact ⟨v, hcas ▸ hv, by omega, by omega⟩

/-- the ids: the table keeps holding structures and sofas only, registered structures stay in the heap under their ids,
    and the ids of the objects from address `n` on stay below `maxId` -/
def RH (n : Nat) (s r : RState) : Prop :=
  FssVals s.fss → (FssVals r.fss ∧ (FssIds s.fss s.heap → FssIds r.fss r.heap) ∧
    (NewB n s.heap s.maxId → NewB n r.heap r.maxId))

theorem RH.stepRel (K : Consts) (ts : TypeSystem) (tsIdx ci : Nat) (n : Nat) : StepRel K ts tsIdx ci (RH n) where
  refl := fun _ hv => ⟨hv, fun h => h, fun h => h⟩
  trans := by
    intro a b c x y hv
    obtain ⟨hv1, i1, n1⟩ := x hv
    obtain ⟨hv2, i2, n2⟩ := y hv1
    exact ⟨hv2, fun h => i2 (i1 h), fun h => n2 (n1 h)⟩
  sofa := by
    intro s s' j h hv
    obtain ⟨fsId, name, w, _, _, hfss, hheap, _, _, _, _, hmi, _⟩ := parseSofa_res ci s s' j h
    refine ⟨?_, ?_, ?_⟩
    · rw [hfss]; exact fssVals_setFs hv _ _ (Or.inr ⟨ci, name, rfl⟩)
    · intro hi q hq a hqa
      rw [hfss] at hq
      rw [hheap]
      rcases mem_setFs hq with hq | rfl
      · exact hi q hq a hqa
      · cases hqa
    · intro hn a o x hl ho hx
      rw [hheap] at ho
      rw [hmi]
      exact Int.le_trans (hn a o x hl ho hx) (Int.le_max_left _ _)
  fs := by
    intro s s' j h hv
    obtain ⟨fsId, _, hfss, _, hmi, _, hheap⟩ := parseFs_res K ts tsIdx s s' j h
    obtain ⟨o, hox, hX⟩ := hheap hv
    refine ⟨?_, ?_, ?_⟩
    · rw [hfss]; exact fssVals_setFs hv _ _ (Or.inl ⟨_, rfl⟩)
    · intro hi q hq a hqa
      rw [hfss] at hq
      rcases mem_setFs hq with hq | rfl
      · obtain ⟨o0, ho0, hx0⟩ := hi q hq a hqa
        obtain ⟨o', ho', hx'⟩ := hX.old a o0 (snoc_old ho0)
        exact ⟨o', ho', hx'.trans hx0⟩
      · cases hqa
        obtain ⟨o', ho', hx'⟩ := hX.old s.heap.length o List.getElem?_concat_length
        exact ⟨o', ho', hx'.trans hox⟩
    · intro hn a o' x hl ho' hx
      rw [hmi]
      obtain ⟨o2, ho2, hx2⟩ := hX.back ho'
      rw [hx] at hx2
      rcases Nat.lt_or_ge a s.heap.length with hlt | hge
      · rw [List.getElem?_append_left hlt] at ho2
        exact Int.le_trans (hn a o2 x hl ho2 hx2) (Int.le_max_left _ _)
      · have hlen : (s.heap ++ [o]).length = s.heap.length + 1 := by rw [List.length_append]; rfl
        have hlt := (List.getElem?_eq_some_iff.mp ho2).1
        have : a = s.heap.length := by omega
        subst this
        rw [List.getElem?_concat_length] at ho2
        cases ho2
        rw [hox] at hx2
        cases hx2
        exact Int.le_max_right _ _

theorem sofaPass_doc (K : Consts) (ts : TypeSystem) (tsIdx ci : Nat) (all l : List JFs) (s r : RState)
    (h : sofaPass K ts tsIdx ci all l s = .ok r) (j : JFs) (hj : j ∈ l) (hty : j.ty = SOFA) :
    ∃ (i : Int) (n : String), j.id = some i ∧ sofaIdOf j = some n ∧ Xmi.VB r.maxId r.maxNum r.cas n := by
  refine Det.foldlM_inv (fun done x => ∀ j ∈ done, ∃ (i : Int) (n : String), j.id = some i ∧ sofaIdOf j = some n ∧
      Xmi.VB x.maxId x.maxNum x.cas n) _ [] (fun x _ d a b hf hJ j hj => ?_) s r
    (sofaPass_eq K ts tsIdx ci all l s ▸ h) (fun _ hj => nomatch hj) j (List.mem_filter.mpr ⟨hj, by simpa using hty⟩)
  rcases List.mem_append.mp hj with hj | hj
  · obtain ⟨i, n, hi, hn, hk⟩ := hJ j hj
    exact ⟨i, n, hi, hn, (sofaStep_relP (RB.stepRel K ts tsIdx ci).toP all (fun _ _ => trivial) x a b hf).views n hk⟩
  · obtain ⟨s1, _, h2⟩ := sofaStep_ok hf
    obtain ⟨fsId, name, w, hid, hnm, _, _, _, hw, _, _, hmi, hmn⟩ := parseSofa_res ci s1 b x h2
    cases List.mem_singleton.mp hj
    exact ⟨fsId, name, hid, hnm, w, hw, by rw [hmi]; exact Int.le_max_right _ _, by rw [hmn]; exact Int.le_max_right _ _⟩

theorem parseById_cas {K : Consts} {ts : TypeSystem} {tsIdx : Nat} (i : Int) (l : List JFs) (s r : RState)
    (h : parseById K ts tsIdx i l s = .ok r) : r.cas = s.cas :=
  Det.foldlM_inv (fun _ x => x.cas = s.cas) _ [] (fun j _ _ a b hf hJ => by
    obtain ⟨_, _, _, hcas, _⟩ := parseFs_res K ts tsIdx a b j hf
    exact hcas.trans hJ) s r (parseById_eq K ts tsIdx i l s ▸ h) rfl

theorem sofaFold_distinct (K : Consts) (ts : TypeSystem) (tsIdx ci : Nat) (all : List JFs) (l : List JFs) : ∀ (s r : RState),
    l.foldlM (sofaStep K ts tsIdx ci all) s = .ok r → (∀ j ∈ l, j.ty = SOFA) → SofaNamesDistinct l →
      (∀ j ∈ l, ∀ n, sofaIdOf j = some n → n ≠ Cas.INITIAL_VIEW → Cas.getViewRec s.cas n = none) →
      ∀ j ∈ l, ∃ i : Int, j.id = some i ∧ i ∈ r.fss.map (·.1) := by
  induction l with
  | nil => intro _ _ _ _ _ _ j hj; cases hj
  | cons j0 rest ih =>
    intro s r h hty hd hnew j hj
    have hd' := List.pairwise_cons.mp hd
    obtain ⟨s2, h0, h3⟩ := Det.bind_ok (x := sofaStep K ts tsIdx ci all s j0) (f := fun s' => rest.foldlM _ s') h
    obtain ⟨s1, h1, h2⟩ := sofaStep_ok h0
    have hc1 : s1.cas = s.cas := by
      rcases h1 with rfl | ⟨i, h1⟩
      · rfl
      · exact parseById_cas i all _ _ h1
    obtain ⟨fsId, name, w, hid, hnm, hfss, _, _, hw, hwx, hoth, _, _⟩ := parseSofa_res ci s1 s2 j0 h2
    rcases List.mem_cons.mp hj with rfl | hj
    · have hR := (RB.stepRel K ts tsIdx ci).toP
      have hk := Det.foldlM_rel hR.refl hR.trans rest (fun x _ => sofaStep_relP hR all (fun _ _ => trivial) x) s2 r h3
      refine ⟨fsId, hid, hk.keys _ ?_⟩
      rcases hwx with hwx | ⟨hni, v0, hv0, _, _⟩
      · rw [hfss, hwx]; exact setFs_key_self _ _ _
      · rw [hc1, hnew j List.mem_cons_self name hnm hni] at hv0
        cases hv0
    · refine ih s2 r h3 (fun x hx => hty x (List.mem_cons_of_mem _ hx)) hd'.2 ?_ j hj
      intro j' hj' n hn' hni'
      have hne : n ≠ name := by
        intro e
        subst e
        exact hni' (hd'.1 j' hj' (hty j0 List.mem_cons_self) (hty j' (List.mem_cons_of_mem _ hj')) n hnm hn')
      rw [hoth n hne, hc1]
      exact hnew j' (List.mem_cons_of_mem _ hj') n hn' hni'

theorem sofaPass_doc_distinct (K : Consts) (ts : TypeSystem) (tsIdx ci : Nat) (all l : List JFs) (s r : RState)
    (h : sofaPass K ts tsIdx ci all l s = .ok r) (hd : SofaNamesDistinct l)
    (hnew : ∀ j ∈ l, j.ty = SOFA → ∀ n, sofaIdOf j = some n → n ≠ Cas.INITIAL_VIEW → Cas.getViewRec s.cas n = none)
    (j : JFs) (hj : j ∈ l) (hty : j.ty = SOFA) : ∃ i : Int, j.id = some i ∧ i ∈ r.fss.map (·.1) :=
  have hsofa : ∀ x ∈ l.filter (fun j => j.ty == SOFA), x.ty = SOFA := fun x hx => by simpa using (List.mem_filter.mp hx).2
  sofaFold_distinct K ts tsIdx ci all _ s r (sofaPass_eq K ts tsIdx ci all l s ▸ h) hsofa
    (hd.sublist List.filter_sublist)
    (fun x hx => hnew x (List.mem_filter.mp hx).1 (hsofa x hx)) j (List.mem_filter.mpr ⟨hj, by simpa using hty⟩)

theorem fsPass_doc (K : Consts) (ts : TypeSystem) (tsIdx ci : Nat) (l : List JFs) (s r : RState)
    (h : fsPass K ts tsIdx l s = .ok r) (j : JFs) (hj : j ∈ l) (hty : j.ty ≠ SOFA) :
    ∃ i : Int, j.id = some i ∧ i ∈ r.fss.map (·.1) := by
  refine Det.foldlM_inv (fun done x => ∀ j ∈ done, ∃ i : Int, j.id = some i ∧ i ∈ x.fss.map (·.1)) _ []
    (fun x _ d a b hf hJ j hj => ?_) s r (fsPass_eq K ts tsIdx l s ▸ h) (fun _ hj => nomatch hj) j
    (List.mem_filter.mpr ⟨hj, by simpa using hty⟩)
  rcases List.mem_append.mp hj with hj | hj
  · obtain ⟨i, hi, hk⟩ := hJ j hj
    exact ⟨i, hi, ((RB.stepRel K ts tsIdx ci).fs a b x hf).keys i hk⟩
  · obtain ⟨fsId, hid, hfss, _⟩ := parseFs_res K ts tsIdx a b x hf
    cases List.mem_singleton.mp hj
    exact ⟨fsId, hid, by rw [hfss]; exact setFs_key_self _ _ _⟩

/-! ### type and slot names: every step keeps them (`KSame`), a new object has those its constructor gave it -/

theorem resolveRefs_ksame {rn : String → String} {fss : List (Int × Val)} {addr : Nat} {l : List (String × JV)} {hp : Heap}
    {d : List Deferred} {r : Heap × List Deferred} (h : resolveRefs rn fss addr l (hp, d) = .ok r) : KSame hp r.1 :=
  resolveRefs_heap KSame.refl (fun _ _ _ => KSame.trans) (fun _ _ _ _ _ _ => setSlot_ksame) l h

/-- `o` has the name and, in constructor order, the slot names of a registered type -/
def CtorKeys (ts : TypeSystem) (o : Obj) : Prop :=
  ∃ t ∈ ts.types, o.ty = t.name ∧ o.slots.map (·.1) = (ctorFields t).eraseDups

/-- a later heap of the JSON reader: the objects keep type and slot names, the new ones are as `construct` made them -/
abbrev KExt (ts : TypeSystem) : Heap → Heap → Prop := HExt SameKeys (CtorKeys ts)

theorem KExt.trans {ts : TypeSystem} {a b c : Heap} (x : KExt ts a b) (y : KExt ts b c) : KExt ts a c :=
  HExt.trans x y (fun _ _ _ => SameKeys.trans) fun _ _ ⟨t, ht, e1, e2⟩ r => ⟨t, ht, r.1.trans e1, r.2.trans e2⟩

theorem KExt.of_same {ts : TypeSystem} {a b : Heap} (x : KSame a b) : KExt ts a b :=
  HExt.mono x (fun _ _ r => r) fun _ f => f.elim

theorem parseFs_kext {K : Consts} {ts : TypeSystem} {tsIdx : Nat} {s s' : RState} {j : JFs}
    (h : parseFs K ts tsIdx s j = .ok s') : KExt ts s.heap s'.heap := by
  obtain ⟨t, _, _, _, _, o, heap1, _, _, ht, _, _, _, hc, hres, h5, rfl⟩ := parseFs_ok_iff.mp h
  have hconv := convStep_ok h5
  cases (construct_eq_ok.mp hc).2
  refine KExt.trans (.append SameKeys.refl fun o ho => ?_) (.of_same ((resolveRefs_ksame hres).trans ?_))
  · cases List.mem_singleton.mp ho
    exact ⟨t, getType_mem (getType_of_getTypeExact ht), rfl, constructed_keys ..⟩
  · split at hconv
    · obtain ⟨_, _, _, _, _, hcv⟩ := hconv
      exact convertOffsets_ksame hcv
    · rw [hconv]; exact .refl _

/-- `parseSofa` leaves the heap alone -/
theorem kext_stepRel (K : Consts) (ts : TypeSystem) (tsIdx ci : Nat) :
    StepRel K ts tsIdx ci (fun s s' => KExt ts s.heap s'.heap) where
  refl := fun s => HExt.refl SameKeys.refl s.heap
  trans := fun _ _ _ => KExt.trans
  sofa := fun s s' j h => by
    obtain ⟨_, _, _, _, _, _, hh, _⟩ := parseSofa_res ci s s' j h
    rw [hh]; exact HExt.refl SameKeys.refl s.heap
  fs := fun _ _ _ h => parseFs_kext h

end Cassis.Json.Ids
