/-
Proofs for the JSON half of C14 (`Properties/C14Json.lean`).

`saveJson` renders the views (member ids) and the sofas (with the sofa byte arrays) *before* the traversal assigns the
missing ids, and the collected structures after it.  The second part is handled as for XMI (`findAllFs_idempotent`,
`Properties/C14.lean`); for the first part the writer is shown to read, of the heap, only slots, the type and id of the
rendered structure and the ids of the structures it refers to directly.
-/
import CassisModel.Spec.DeterminismJson
import CassisModel.Proofs.Determinism
import CassisModel.Proofs.JsonWriter
import CassisModel.Properties.C14

namespace Cassis.Json.DetJ
open Cassis.TS Cassis.Traverse Cassis.Xmi

/-! ### the writer reads the other CASes only to look up views by name -/

theorem renderFeature_cass (K : Consts) (ts : TypeSystem) (cass cass' : List Cas) (hv : SameViews cass cass')
    (hp : Heap) (a : Nat) (f : Feature) : renderFeature K ts cass hp a f = renderFeature K ts cass' hp a f := by
  unfold SameViews at hv
  unfold renderFeature
  simp only [hv]

theorem renderFeatures_cass (K : Consts) (ts : TypeSystem) (cass cass' : List Cas) (hv : SameViews cass cass')
    (hp : Heap) (a : Nat) (fs : List Feature) :
    renderFeatures K ts cass hp a fs = renderFeatures K ts cass' hp a fs := by
  rw [renderFeatures_eq, renderFeatures_eq, Det.mapM_congr fun f _ => renderFeature_cass K ts cass cass' hv hp a f]

theorem renderFs_cass (K : Consts) (ts : TypeSystem) (cass cass' : List Cas) (hv : SameViews cass cass')
    (hp : Heap) (a : Nat) : renderFs K ts cass hp a = renderFs K ts cass' hp a := by
  rw [renderFs_eq, renderFs_eq]
  simp only [renderFeatures_cass K ts cass cass' hv]

theorem renderAll_cass (K : Consts) (ts : TypeSystem) (cass cass' : List Cas) (hv : SameViews cass cass')
    (hp : Heap) (l : List (Int × Nat)) : renderAll K ts cass hp l = renderAll K ts cass' hp l := by
  simp only [renderAll_eq_mapM, renderFs_cass K ts cass cass' hv]

theorem sofaPart_cass (K : Consts) (ts : TypeSystem) (cass cass' : List Cas) (hv : SameViews cass cass')
    (hp : Heap) : sofaPart K ts cass hp = sofaPart K ts cass' hp := by
  funext p
  unfold sofaPart
  simp only [renderFs_cass K ts cass cass' hv]

/-! ### what the writer reads of the heap -/

theorem stage1_heap (cass : List Cas) (hp hp' : Heap) (a : Nat) (f : Feature) (name : String) (v : Val)
    (hs : ∀ n, Xmi.slot hp' a n = Xmi.slot hp a n) : stage1 cass hp' a f name v = stage1 cass hp a f name v := by
  unfold stage1
  rw [hs]

theorem stage1_ref (cass : List Cas) (hp : Heap) (a : Nat) (f : Feature) (name : String) (v w : Val)
    (h : stage1 cass hp a f name v = .ok w) (t : Nat) (hw : w = .ref t) : v = .ref t := by
  unfold stage1 at h
  simp only [pure, Except.pure, throw, throwThe, MonadExceptOf.throw] at h
  repeat' split at h
  all_goals first
    | (cases h; done)
    | (cases h; cases hw; done)
    | (cases h; exact hw)

theorem stage2_heap (K : Consts) (ts : TypeSystem) (cass : List Cas) (hp hp' : Heap) (f : Feature) (name : String)
    (v : Val) (hid : ∀ t, v = .ref t → idOf hp' t = idOf hp t) :
    stage2 K ts cass hp' f name v = stage2 K ts cass hp f name v := by
  cases v
  case ref t => unfold stage2; simp only [hid t rfl]
  all_goals rfl

theorem stage2_ok (K : Consts) (ts : TypeSystem) (cass : List Cas) (hp hp' : Heap) (f : Feature) (name : String)
    (v : Val) : (stage2 K ts cass hp' f name v).toBool = (stage2 K ts cass hp f name v).toBool := by
  cases v
  case ref t =>
    unfold stage2
    by_cases h1 : (f.range == "uima.cas.Double" || f.range == "uima.cas.Float") = true
    · rw [if_pos h1, if_pos h1]
    · rw [if_neg h1, if_neg h1]
      by_cases h2 : isPrimitive K ts f.range = true
      · rw [if_pos h2, if_pos h2]
      · rw [if_neg h2, if_neg h2]; rfl
  all_goals rfl

theorem getD_ref {x : Option Val} {t : Nat} (h : x.getD .none = .ref t) : x = some (.ref t) := by
  cases x with
  | none => cases h
  | some w => cases h; rfl

/-- `renderFeature` on two heaps that agree on the slots of `a`: the results are related as soon as the second
    stage's are (used with equality, given the ids, and with "both succeed or both fail") -/
theorem renderFeature_rel {K : Consts} {ts : TypeSystem} {cass : List Cas} {hp hp' : Heap} {a : Nat} {f : Feature}
    {R : Except Err (List (String × JV)) → Except Err (List (String × JV)) → Prop} (hR : ∀ x, R x x)
    (hs : ∀ n, Xmi.slot hp' a n = Xmi.slot hp a n)
    (h2 : ∀ name w, stage1 cass hp a f name ((Xmi.slot hp a f.name).getD .none) = .ok w →
      R (stage2 K ts cass hp' f name w) (stage2 K ts cass hp f name w)) :
    R (renderFeature K ts cass hp' a f) (renderFeature K ts cass hp a f) := by
  rw [renderFeature_eq, renderFeature_eq, hs f.name]
  by_cases h1 : (f.name == "xmiID" || f.name == "type") = true
  · rw [if_pos h1, if_pos h1]; exact hR _
  · rw [if_neg h1, if_neg h1]
    dsimp only
    by_cases h2' : ((Xmi.slot hp a f.name).getD Val.none == Val.none) = true
    · rw [if_pos h2', if_pos h2']; exact hR _
    · rw [if_neg h2', if_neg h2', stage1_heap cass hp hp' a f _ _ hs]
      cases h3 : stage1 cass hp a f (if f.reserved = true then String.ofList f.name.toList.dropLast else f.name)
          ((Xmi.slot hp a f.name).getD Val.none) with
      | error e => exact hR _
      | ok w => exact h2 _ w h3

theorem renderFeature_heap (K : Consts) (ts : TypeSystem) (cass : List Cas) (hp hp' : Heap) (a : Nat) (f : Feature)
    (hs : ∀ n, Xmi.slot hp' a n = Xmi.slot hp a n)
    (hid : ∀ t, Xmi.slot hp a f.name = some (.ref t) → idOf hp' t = idOf hp t) :
    renderFeature K ts cass hp' a f = renderFeature K ts cass hp a f :=
  renderFeature_rel (fun _ => rfl) hs (fun name w h3 =>
    stage2_heap K ts cass hp hp' f name w (fun t hw => hid t (getD_ref (stage1_ref cass hp a f _ _ w h3 t hw))))

theorem renderFeature_ok (K : Consts) (ts : TypeSystem) (cass : List Cas) (hp hp' : Heap) (a : Nat) (f : Feature)
    (hs : ∀ n, Xmi.slot hp' a n = Xmi.slot hp a n) :
    (renderFeature K ts cass hp' a f).toBool = (renderFeature K ts cass hp a f).toBool :=
  renderFeature_rel (R := fun x y => x.toBool = y.toBool) (fun _ => rfl) hs
    (fun name w _ => stage2_ok K ts cass hp hp' f name w)

theorem renderFeatures_heap (K : Consts) (ts : TypeSystem) (cass : List Cas) (hp hp' : Heap) (a : Nat)
    (hs : ∀ n, Xmi.slot hp' a n = Xmi.slot hp a n)
    (hid : ∀ n t, Xmi.slot hp a n = some (.ref t) → idOf hp' t = idOf hp t) (fs : List Feature) :
    renderFeatures K ts cass hp' a fs = renderFeatures K ts cass hp a fs := by
  rw [renderFeatures_eq, renderFeatures_eq,
    Det.mapM_congr fun f _ => renderFeature_heap K ts cass hp hp' a f hs (hid f.name)]

theorem renderFeatures_ok (K : Consts) (ts : TypeSystem) (cass : List Cas) (hp hp' : Heap) (a : Nat)
    (hs : ∀ n, Xmi.slot hp' a n = Xmi.slot hp a n) (fs : List Feature) :
    (renderFeatures K ts cass hp' a fs).toBool = (renderFeatures K ts cass hp a fs).toBool := by
  rw [renderFeatures_eq, renderFeatures_eq, Det.toBool_map, Det.toBool_map]
  exact Det.toBool_mapM fs fun f _ => renderFeature_ok K ts cass hp hp' a f hs

/-- `arrayElements` reads the heap only for the ids of the members of an `FSArray` -/
theorem arrayElements_rel {R : Except Err (Option JV) → Except Err (Option JV) → Prop} (hR : ∀ x, R x x)
    (hp hp' : Heap) (ty : String) (v : Option Val)
    (h : ∀ l, v = some (.refs l) →
      R (.ok (some (.refs (l.map (refOf hp'))))) (.ok (some (.refs (l.map (refOf hp)))))) :
    R (arrayElements hp' ty v) (arrayElements hp ty v) := by
  cases v with
  | none => exact hR _
  | some ev =>
    cases ev
    case refs l =>
      cases l with
      | nil => exact hR _
      | cons x xs =>
        unfold arrayElements
        dsimp only
        split
        · exact hR _
        · split
          · exact hR _
          · split
            · exact h _ rfl
            · exact hR _
    all_goals exact hR _

theorem arrayElements_heap (hp hp' : Heap) (ty : String) (v : Option Val)
    (hid : ∀ (l : List (Option Nat)) (t : Nat), v = some (.refs l) → some t ∈ l → idOf hp' t = idOf hp t) :
    arrayElements hp' ty v = arrayElements hp ty v := by
  refine arrayElements_rel (fun _ => rfl) hp hp' ty v (fun l hl => ?_)
  have hm : l.map (refOf hp') = l.map (refOf hp) := by
    apply List.map_congr_left
    intro r hr
    cases r with
    | none => rfl
    | some t => exact hid l t hl hr
  rw [hm]

theorem arrayElements_ok (hp hp' : Heap) (ty : String) (v : Option Val) :
    (arrayElements hp' ty v).toBool = (arrayElements hp ty v).toBool :=
  arrayElements_rel (R := fun x y => x.toBool = y.toBool) (fun _ => rfl) hp hp' ty v (fun _ _ => rfl)

theorem slot_of_obj {hp hp' : Heap} {a : Nat} {o o' : Obj} (ho : hp[a]? = some o) (ho' : hp'[a]? = some o')
    (hsl : o'.slots = o.slots) (n : String) : Xmi.slot hp' a n = Xmi.slot hp a n := by
  show Traverse.slot hp' a n = Traverse.slot hp a n
  rw [slot_eq ho, slot_eq ho', hsl]

theorem renderFs_heap (K : Consts) (ts : TypeSystem) (cass : List Cas) (hp hp' : Heap) (a : Nat) (o o' : Obj)
    (ho : hp[a]? = some o) (ho' : hp'[a]? = some o') (hty : o'.ty = o.ty) (hsl : o'.slots = o.slots)
    (hx : o'.xid = o.xid)
    (hid1 : ∀ n t, Xmi.slot hp a n = some (.ref t) → idOf hp' t = idOf hp t)
    (hid2 : ∀ n (l : List (Option Nat)) (t : Nat), Xmi.slot hp a n = some (.refs l) → some t ∈ l →
      idOf hp' t = idOf hp t) :
    renderFs K ts cass hp' a = renderFs K ts cass hp a := by
  rw [renderFs_eq, renderFs_eq, ho, ho']
  dsimp only
  rw [hty, hx, hsl, arrayElements_heap hp hp' o.ty (alistGet? o.slots "elements")
    (fun l t h => hid2 "elements" l t ((Traverse.slot_eq ho "elements").trans h))]
  simp only [renderFeatures_heap K ts cass hp hp' a (slot_of_obj ho ho' hsl) hid1]

theorem renderFs_ok (K : Consts) (ts : TypeSystem) (cass : List Cas) (hp hp' : Heap) (a : Nat) (o o' : Obj)
    (ho : hp[a]? = some o) (ho' : hp'[a]? = some o') (hty : o'.ty = o.ty) (hsl : o'.slots = o.slots) :
    (renderFs K ts cass hp' a).toBool = (renderFs K ts cass hp a).toBool := by
  rw [renderFs_eq, renderFs_eq, ho, ho']
  dsimp only
  rw [hty, hsl]
  split
  · rw [Det.toBool_map, Det.toBool_map]
    exact arrayElements_ok hp hp' o.ty _
  · cases getType ts o.ty with
    | error e => rfl
    | ok t =>
      show (Except.map _ _).toBool = (Except.map _ _).toBool
      rw [Det.toBool_map, Det.toBool_map]
      exact renderFeatures_ok K ts cass hp hp' a (slot_of_obj ho ho' hsl) (allFeatures t)

theorem renderFs_none (K : Consts) (ts : TypeSystem) (cass : List Cas) (hp : Heap) (a : Nat) (h : hp[a]? = none) :
    renderFs K ts cass hp a = .error .attributeError := by
  rw [renderFs_eq, h]

theorem renderFs_ok_shape (K : Consts) (ts : TypeSystem) (cass : List Cas) (hp hp' : Heap) (sh : SameShape hp hp')
    (a : Nat) : (renderFs K ts cass hp' a).toBool = (renderFs K ts cass hp a).toBool := by
  cases ho : hp[a]? with
  | none =>
    have : hp'[a]? = none := by
      apply List.getElem?_eq_none
      rw [sh.1]
      exact List.getElem?_eq_none_iff.mp ho
    rw [renderFs_none K ts cass hp a ho, renderFs_none K ts cass hp' a this]
  | some o =>
    obtain ⟨o', ho', hty, hsl, _⟩ := sh.2 a o ho
    exact renderFs_ok K ts cass hp hp' a o o' ho ho' hty hsl

theorem idOf_shape {hp hp' : Heap} (sh : SameShape hp hp') {t : Nat} (h : (xidOf hp t).isSome = true) :
    idOf hp' t = idOf hp t := by
  cases hx : xidOf hp t with
  | none => rw [hx] at h; cases h
  | some x =>
    have h1 : idOf hp t = some x := hx
    have h2 : idOf hp' t = some x := sh.xidOf hx
    rw [h1, h2]

theorem renderFs_shape_ids (K : Consts) (ts : TypeSystem) (cass : List Cas) (hp hp' : Heap) (sh : SameShape hp hp')
    (a : Nat) (hr : RefsHaveIds hp a) : renderFs K ts cass hp' a = renderFs K ts cass hp a := by
  obtain ⟨h0, hrest⟩ := hr
  cases ho : hp[a]? with
  | none =>
    obtain ⟨_, ho', _⟩ := xidOf_some (Option.eq_some_of_isSome h0)
    cases ho.symm.trans ho'
  | some o =>
    obtain ⟨o', ho', hty, hsl, hxid⟩ := sh.2 a o ho
    have hx : o'.xid = o.xid := by
      apply hxid
      rw [xidOf_eq ho] at h0
      intro hn
      rw [hn] at h0
      cases h0
    exact renderFs_heap K ts cass hp hp' a o o' ho ho' hty hsl hx
      (fun n t h => idOf_shape sh ((hrest n).1 t h))
      (fun n l t h hm => idOf_shape sh ((hrest n).2 l t h hm))

theorem renderSofa_shape_ids (hp hp' : Heap) (sh : SameShape hp hp') (s : Sofa)
    (hr : ∀ a, s.arr = .ref a → (xidOf hp a).isSome = true) : renderSofa hp' s = renderSofa hp s := by
  unfold renderSofa
  cases hs : s.arr
  case ref a => simp only [idOf_shape sh (hr a hs)]
  all_goals rfl

theorem sofaPart_shape_ids (K : Consts) (ts : TypeSystem) (cass : List Cas) (hp hp' : Heap) (sh : SameShape hp hp')
    (p : String × View) (hr : ∀ a, p.2.sofa.arr = .ref a → RefsHaveIds hp a) :
    sofaPart K ts cass hp' p = sofaPart K ts cass hp p := by
  unfold sofaPart
  rw [renderSofa_shape_ids hp hp' sh p.2.sofa (fun a h => (hr a h).1)]
  cases hs : p.2.sofa.arr
  case ref a => simp only [renderFs_shape_ids K ts cass hp hp' sh a (hr a hs)]
  all_goals rfl

theorem sofaParts_ok_shape (K : Consts) (ts : TypeSystem) (cass : List Cas) (hp hp' : Heap) (sh : SameShape hp hp')
    (l : List (String × View)) {parts : List (List JFs)} (h : l.mapM (sofaPart K ts cass hp) = .ok parts) :
    ∃ parts', l.mapM (sofaPart K ts cass hp') = .ok parts' := by
  refine Det.ok_of_toBool ((Det.toBool_mapM l fun p _ => ?_).trans (by rw [h]; rfl))
  unfold sofaPart
  split
  · rw [Det.toBool_map, Det.toBool_map]
    exact renderFs_ok_shape K ts cass hp hp' sh _
  · rfl

/-- the number of entries a view contributes to the sofa part of the document -/
def sofaCount (p : String × View) : Nat := match p.2.sofa.arr with | .ref _ => 2 | _ => 1

theorem sofaParts_length (K : Consts) (ts : TypeSystem) (cass : List Cas) (hp : Heap) (l : List (String × View))
    {parts : List (List JFs)} (h : l.mapM (sofaPart K ts cass hp) = .ok parts) :
    parts.flatten.length = (l.map sofaCount).sum := by
  rw [List.length_flatten, Det.mapM_ok_map h (k := sofaCount)]
  intro p _ part hpart
  unfold sofaPart at hpart
  unfold sofaCount
  split at hpart
  · rename_i a ha
    obtain ⟨e, _, rfl⟩ := Det.map_ok hpart
    rw [ha]
    rfl
  · rename_i hna
    cases hpart
    split
    · rename_i a ha; exact absurd ha (hna a)
    · rfl

/-- the common part: the state after a second serialisation, and the parts of the second document that are
    rendered after the traversal -/
theorem saveJson_again (K : Consts) (ts : TypeSystem) (cass : List Cas) (ci : Nat) (hp : Heap) (mode : Mode) (c : Cas)
    (doc : JDoc) (st : Traverse.St) (hc : cass[ci]? = some c) (hnx : 0 < c.nextXid)
    (hb : Traverse.IdsBelow hp c.nextXid) (h : saveJson K ts cass ci hp mode = .ok (doc, st)) :
    ∃ (parts : List (List JFs)) (fsElems : List JFs) (decls : Option (List JType)),
      c.views.mapM (sofaPart K ts cass hp) = .ok parts ∧
      doc = { types := decls, fss := parts.flatten ++ fsElems, views := c.views.map (jviewOf hp) } ∧
      SameShape hp st.heap ∧
      ∀ parts', c.views.mapM (sofaPart K ts cass st.heap) = .ok parts' →
        ∃ st' : Traverse.St,
          saveJson K ts (cass.set ci { c with nextXid := st.nextXid }) ci st.heap mode =
            .ok ({ types := decls, fss := parts'.flatten ++ fsElems, views := c.views.map (jviewOf st.heap) }, st') ∧
          st'.heap = st.heap ∧ st'.nextXid = st.nextXid ∧ st'.allFs = st.allFs := by
  obtain ⟨parts, fsElems, decls, hsf, hst, hr, hd, rfl⟩ := saveJson_ok_inv hc h
  refine ⟨parts, fsElems, decls, hsf, rfl, findAllFs_heap_frame K ts _ hp c.nextXid (defaultSeeds c) st hst, ?_⟩
  intro parts' hsf'
  obtain ⟨st', h2, ha, hh, hn⟩ :=
    Traverse.findAllFs_idempotent K ts _ hp c.nextXid (Traverse.defaultSeeds c) st hnx hb hst
  have hv := sameViews_set cass ci c hc st.nextXid
  refine ⟨st', saveJson_ok_iff.mpr ⟨_, parts', fsElems, decls,
    List.getElem?_set_self (List.getElem?_eq_some_iff.mp hc).1, ?_, h2, ?_, ?_, rfl⟩, hh, hn, ha⟩
  · rw [sofaPart_cass K ts _ cass hv]; exact hsf'
  · rw [hh, ha, renderAll_cass K ts _ cass hv]; exact hr
  · rw [modeRecs_congr K ts hh ha]; exact hd

theorem jviewOf_shape_ids (hp hp' : Heap) (sh : SameShape hp hp') (p : String × View)
    (hids : ∀ e ∈ Index.all p.2.idx, (xidOf hp e.oid).isSome = true) : jviewOf hp' p = jviewOf hp p := by
  unfold jviewOf
  congr 2
  apply Det.filterMap_congr
  intro e he
  exact idOf_shape sh (hids e he)

end Cassis.Json.DetJ
