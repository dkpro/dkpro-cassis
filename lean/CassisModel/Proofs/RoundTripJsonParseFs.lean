/-
JSON round trip, the reader on one element: what its three filters make of the members written for a feature (`KeyOk`,
`jmem_parts`), the object `construct` builds, `resolveRefs` and the pending references (`ObjPend`, `DefRef`, `PCtx`), and
`parseFs` on the element written for a general structure (`parseFs_gen`; `JGenFs`, flat structures included).  The id of
the target of a reference comes from the closure of the collected structures (`ClosedL`).
-/
import CassisModel.Proofs.RoundTripJsonWriter
import CassisModel.Proofs.RoundTripJsonSofaPass
import CassisModel.Proofs.JsonWriter
import CassisModel.Properties.C03

namespace Cassis.Json
open Cassis.TS Cassis.Traverse Cassis.Xmi Cassis.Xmi.RTB

/-- `w` is a key the format can carry for the feature stored as `n`: it has none of the three prefixes, the reader's
    renaming gives `n` back, and both names agree on being `begin` / `end` (`xmlName f` is such a key for `f.name`) -/
structure KeyOk (w n : String) : Prop where
  at_ : w.startsWith "@" = false
  hash : w.startsWith "#" = false
  pct : w.startsWith "%" = false
  ren : renameReserved w = n
  ext : ∀ (cass : List Cas) (isAnn : Bool) (o : Obj) (i : Int), extInt cass isAnn o w i = extInt cass isAnn o n i

theorem keyOk_xmlName (f : Feature) (h : ResOk f) (hs : f.name ≠ "self") (ht : f.name ≠ "type")
    (h1 : f.name.startsWith "@" = false) (h2 : f.name.startsWith "#" = false) (h3 : f.name.startsWith "%" = false) :
    KeyOk (xmlName f) f.name := by
  have hp : (xmlName f).startsWith "@" = false ∧ (xmlName f).startsWith "#" = false ∧
      (xmlName f).startsWith "%" = false := by
    rcases xmlName_cases f h with ⟨_, hx⟩ | ⟨_, _, hx⟩ | ⟨_, _, hx⟩
    · rw [hx]; exact ⟨h1, h2, h3⟩
    · rw [hx]; simp
    · rw [hx]; simp
  exact ⟨hp.1, hp.2.1, hp.2.2, renRes_xmlName f h hs ht, fun cass isAnn o i => extInt_xmlName cass isAnn o f h i⟩

theorem drop1_at (n : String) : String.ofList (("@" ++ n).toList.drop 1) = n := by simp
theorem drop1_hash (n : String) : String.ofList (("#" ++ n).toList.drop 1) = n := by simp

variable {w n : String}

theorem plainP_name (h : KeyOk w n) (j : JV) : plainP (w, j) = true := by
  unfold plainP; simp only [h.at_, h.hash, h.pct]; rfl
theorem plainP_at (j : JV) : plainP ("@" ++ w, j) = false := by simp [plainP]
theorem plainP_hash (j : JV) : plainP ("#" ++ w, j) = false := by simp [plainP]
theorem refP_name (h : KeyOk w n) (j : JV) : refP (w, j) = false := h.at_
theorem refP_at (j : JV) : refP ("@" ++ w, j) = true := by simp [refP]
theorem refP_hash (j : JV) : refP ("#" ++ w, j) = false := by simp [refP]
theorem numP_name (h : KeyOk w n) (j : JV) : numP (w, j) = false := h.hash
theorem numP_at (j : JV) : numP ("@" ++ w, j) = false := by simp [numP]
theorem numP_hash (j : JV) : numP ("#" ++ w, j) = true := by simp [numP]

/-- the keyword arguments the plain members of a feature with value `v` give -/
def plainArgs (cass : List Cas) (isAnn : Bool) (o : Obj) (n : String) (v : Val) : List (String × Val) :=
  match v with
  | .int i => [(n, .int (extInt cass isAnn o n i))]
  | .str s => [(n, .str s)]
  | .bool b => [(n, .bool b)]
  | .float t => if isSpecialFloat t then [] else [(n, .float t)]
  | _ => []

/-- the keyword argument its `#` member (a special float) gives -/
def numArgs (n : String) (v : Val) : List (String × Val) :=
  match v with
  | .float t => if isSpecialFloat t then [(n, .float t)] else []
  | _ => []

/-- the id a reference member names -/
def refTarget (cass : List Cas) (H : Heap) (v : Val) : Option Int :=
  match v with
  | .sofa ci vn => ((cass[ci]?).bind (fun c => Cas.getViewRec c vn)).map (·.sofa.xid)
  | .ref b => xidOf H b
  | _ => none

/-- the `@` members, under the written key -/
def refMems (cass : List Cas) (H : Heap) (w : String) (v : Val) : List (String × JV) :=
  match refTarget cass H v with
  | some y => [("@" ++ w, .int y)]
  | none => []

/-- what the reader's three filters make of the members written for one feature: the keyword arguments of the plain
    members (under the stored name), the `@` members, the floats of the `#` members -/
theorem jmem_parts (cass : List Cas) (H : Heap) (isAnn : Bool) (o : Obj) (v : Val) (h : KeyOk w n) :
    ((jmem cass H isAnn o w v).filter plainP).map kw = plainArgs cass isAnn o n v ∧
    (jmem cass H isAnn o w v).filter refP = refMems cass H w v ∧
    parseNums ((jmem cass H isAnn o w v).filter numP) = .ok (numArgs n v) := by
  have hkw : ∀ j, kw (w, j) = (n, valOfJV j) := fun j => by unfold kw; rw [h.ren]
  have hP : ∀ j, ([(w, j)].filter plainP).map kw = [(n, valOfJV j)] ∧ [(w, j)].filter refP = [] ∧
      [(w, j)].filter numP = [] := fun j => by
    simp only [List.filter_cons, plainP_name h, refP_name h, numP_name h, List.filter_nil, if_true, Bool.false_eq_true,
      if_false, List.map_cons, List.map_nil, hkw, and_self]
  have hR : ∀ j, [("@" ++ w, j)].filter plainP = [] ∧ [("@" ++ w, j)].filter refP = [("@" ++ w, j)] ∧
      [("@" ++ w, j)].filter numP = [] := fun j => by
    simp only [List.filter_cons, plainP_at, refP_at, numP_at, List.filter_nil, if_true, Bool.false_eq_true, if_false,
      and_self]
  cases v with
  | sofa ci vn =>
    unfold jmem plainArgs refMems refTarget numArgs
    dsimp only
    cases ((cass[ci]?).bind fun c => Cas.getViewRec c vn) with
    | none => exact ⟨rfl, rfl, rfl⟩
    | some view => obtain ⟨h1, h2, h3⟩ := hR (.int view.sofa.xid); exact ⟨congrArg (List.map kw) h1, h2, congrArg parseNums h3⟩
  | ref b =>
    unfold jmem plainArgs refMems refTarget numArgs
    dsimp only
    cases xidOf H b with
    | none => exact ⟨rfl, rfl, rfl⟩
    | some x => obtain ⟨h1, h2, h3⟩ := hR (.int x); exact ⟨congrArg (List.map kw) h1, h2, congrArg parseNums h3⟩
  | float t =>
    unfold jmem plainArgs refMems refTarget numArgs
    dsimp only
    cases ht : isSpecialFloat t with
    | true =>
      have hpf : parseFloatValue (.str t) = .ok (.float t) := by
        have := parseFloatValue_special_aux t ht
        unfold floatElem at this
        rw [ht] at this
        exact this
      simp only [if_true, List.filter_cons, plainP_hash, refP_hash, numP_hash, List.filter_nil, Bool.false_eq_true,
        if_false, List.map_nil, parseNums, hpf, drop1_hash, h.ren, and_self]
    | false => obtain ⟨h1, h2, h3⟩ := hP (.flt t); exact ⟨h1, h2, congrArg parseNums h3⟩
  | int i =>
    obtain ⟨h1, h2, h3⟩ := hP (.int (extInt cass isAnn o w i))
    exact ⟨h1.trans (by rw [h.ext]; rfl), h2, congrArg parseNums h3⟩
  | str x => obtain ⟨h1, h2, h3⟩ := hP (.str x); exact ⟨h1, h2, congrArg parseNums h3⟩
  | bool x => obtain ⟨h1, h2, h3⟩ := hP (.bool x); exact ⟨h1, h2, congrArg parseNums h3⟩
  | _ => exact ⟨rfl, rfl, rfl⟩

theorem parseNums_append : ∀ (A B : List (String × JV)) (a b : List (String × Val)),
    parseNums A = .ok a → parseNums B = .ok b → parseNums (A ++ B) = .ok (a ++ b)
  | [], B, a, b, ha, hb => by
    cases ha; exact hb
  | p :: A, B, a, b, ha, hb => by
    rw [List.cons_append]
    unfold parseNums at ha ⊢
    cases h1 : parseFloatValue p.2 with
    | error e => rw [h1] at ha; cases ha
    | ok v =>
      rw [h1] at ha
      dsimp only at ha ⊢
      cases h2 : parseNums A with
      | error e => rw [h2] at ha; cases ha
      | ok vs =>
        rw [h2] at ha
        dsimp only at ha
        cases ha
        rw [parseNums_append A B vs b h2 hb]
        rfl

theorem parseNums_flatMap {α} (G : α → List (String × JV)) (P : α → List (String × Val)) :
    ∀ (fs : List α), (∀ f ∈ fs, parseNums (G f) = .ok (P f)) → parseNums (fs.flatMap G) = .ok (fs.flatMap P)
  | [], _ => rfl
  | f :: fs, h => by
    rw [List.flatMap_cons, List.flatMap_cons]
    exact parseNums_append _ _ _ _ (h f List.mem_cons_self)
      (parseNums_flatMap G P fs (fun g hg => h g (List.mem_cons_of_mem _ hg)))

theorem aget_flatMap_none {β} (P : Feature → List (String × β)) (hk : ∀ f, ∀ p ∈ P f, p.1 = f.name) (n : String) :
    ∀ (fs : List Feature), n ∉ fs.map (·.name) → alistGet? (fs.flatMap P) n = none := by
  intro fs hn
  rw [alistGet?_eq_none_iff]
  intro hin
  obtain ⟨p, hp, hpn⟩ := List.mem_map.mp hin
  obtain ⟨f, hf, hpf⟩ := List.mem_flatMap.mp hp
  apply hn
  rw [← hpn, hk f p hpf]
  exact List.mem_map_of_mem hf

theorem aget_flatMap_piece {β} (P : Feature → List (String × β)) (hk : ∀ f, ∀ p ∈ P f, p.1 = f.name) :
    ∀ (fs : List Feature), (fs.map (·.name)).Nodup → ∀ f ∈ fs, alistGet? (fs.flatMap P) f.name = alistGet? (P f) f.name
  | [], _, f, hf => by cases hf
  | g :: fs, hnd, f, hf => by
    rw [List.map_cons, List.nodup_cons] at hnd
    rw [List.flatMap_cons, alistGet?_append]
    rcases List.mem_cons.mp hf with rfl | hf'
    · cases h : alistGet? (P f) f.name with
      | some v => rfl
      | none => exact aget_flatMap_none P hk f.name fs hnd.1
    · have hne : alistGet? (P g) f.name = none := by
        rw [alistGet?_eq_none_iff]
        intro hin
        obtain ⟨p, hp, hpn⟩ := List.mem_map.mp hin
        rw [hk g p hp] at hpn
        apply hnd.1
        rw [hpn]
        exact List.mem_map_of_mem hf'
      rw [hne]
      exact aget_flatMap_piece P hk fs hnd.2 f hf'

def setObj (oc : Obj) (k : String) (v : Val) : Obj := { oc with slots := alistSet oc.slots k v }

theorem set_last {α} (pre : List α) (x y : α) : (pre ++ [x]).set pre.length y = pre ++ [y] := by simp

theorem setSlot_last (pre : Heap) (oc : Obj) (k : String) (v w : Val) (h : alistGet? oc.slots k = some w) :
    Heap.setSlot (pre ++ [oc]) pre.length k v = .ok (pre ++ [setObj oc k v]) := by
  rw [Heap.setSlot_existing v List.getElem?_concat_length h, set_last]
  rfl

/-- the object after the references of the features `fs` have been looked up -/
def resObj (fss : List (Int × Val)) (tgt : Feature → Option Int) : List Feature → Obj → Obj
  | [], oc => oc
  | f :: fs, oc =>
    resObj fss tgt fs (match (tgt f).bind (lookup fss) with
      | some tv => setObj oc f.name tv
      | none => oc)

/-- the references of the features `fs` whose targets are not yet known -/
def resDef (fss : List (Int × Val)) (tgt : Feature → Option Int) (addr : Nat) : List Feature → List Deferred
  | [] => []
  | f :: fs =>
    (match tgt f with
     | some y =>
       match lookup fss y with
       | some _ => []
       | none => [{ addr := addr, slot := f.name, target := some y, elems := none }]
     | none => []) ++ resDef fss tgt addr fs

/-- the `@` member of the feature `f` -/
def refMem (tgt : Feature → Option Int) (f : Feature) : List (String × JV) :=
  match tgt f with
  | some y => [("@" ++ xmlName f, .int y)]
  | none => []

theorem setObj_keys (oc : Obj) (k : String) (v : Val) (h : k ∈ oc.slots.map (·.1)) :
    (setObj oc k v).slots.map (·.1) = oc.slots.map (·.1) := alistSet_keys_of_mem _ _ _ h

theorem resolveRefs_refMem (fss : List (Int × Val)) (tgt : Feature → Option Int) (pre : Heap) :
    ∀ (fs : List Feature) (oc : Obj) (ds : List Deferred),
      (∀ f ∈ fs, renameReserved (xmlName f) = f.name ∧ f.name ∈ oc.slots.map (·.1)) →
      resolveRefs renameReserved fss pre.length (fs.flatMap (refMem tgt)) (pre ++ [oc], ds) =
        .ok (pre ++ [resObj fss tgt fs oc], ds ++ resDef fss tgt pre.length fs)
  | [], oc, ds, _ => by
    simp [resolveRefs, resObj, resDef]
  | f :: fs, oc, ds, h => by
    obtain ⟨h1, h3⟩ := h f List.mem_cons_self
    have hrest : ∀ oc' : Obj, oc'.slots.map (·.1) = oc.slots.map (·.1) →
        ∀ g ∈ fs, renameReserved (xmlName g) = g.name ∧ g.name ∈ oc'.slots.map (·.1) := by
      intro oc' hk g hg
      obtain ⟨g1, g3⟩ := h g (List.mem_cons_of_mem _ hg)
      exact ⟨g1, by rw [hk]; exact g3⟩
    rw [List.flatMap_cons]
    unfold refMem resObj resDef
    cases ht : tgt f with
    | none =>
      dsimp only
      rw [List.nil_append, List.nil_append]
      have := resolveRefs_refMem fss tgt pre fs oc ds (hrest oc rfl)
      unfold refMem at this
      rw [this]
      rfl
    | some y =>
      dsimp only
      rw [List.cons_append, List.nil_append]
      unfold resolveRefs
      dsimp only
      rw [drop1_at, h1]
      cases hl : lookup fss y with
      | some tv =>
        dsimp only [Option.bind_some]
        rw [hl]
        dsimp only
        obtain ⟨w, hw⟩ := Option.isSome_iff_exists.mp ((alistGet?_isSome_iff oc.slots f.name).mpr h3)
        rw [setSlot_last pre oc f.name tv w hw]
        dsimp only
        have := resolveRefs_refMem fss tgt pre fs (setObj oc f.name tv) ds (hrest _ (setObj_keys oc f.name tv h3))
        unfold refMem at this
        rw [this, List.nil_append]
      | none =>
        dsimp only [Option.bind_some]
        rw [hl]
        dsimp only
        have := resolveRefs_refMem fss tgt pre fs oc (ds ++ [{ addr := pre.length, slot := f.name, target := some y, elems := none }]) (hrest oc rfl)
        unfold refMem at this
        rw [this, List.append_assoc]

section
variable (fss : List (Int × Val)) (tgt : Feature → Option Int)

theorem resObj_fields : ∀ (fs : List Feature) (oc : Obj),
    (resObj fss tgt fs oc).ty = oc.ty ∧ (resObj fss tgt fs oc).xid = oc.xid ∧ (resObj fss tgt fs oc).ts = oc.ts
  | [], _ => ⟨rfl, rfl, rfl⟩
  | f :: fs, oc => by
    unfold resObj
    cases (tgt f).bind (lookup fss) with
    | none => exact resObj_fields fs oc
    | some tv => exact resObj_fields fs (setObj oc f.name tv)

theorem resObj_keys : ∀ (fs : List Feature) (oc : Obj), (∀ f ∈ fs, f.name ∈ oc.slots.map (·.1)) →
    (resObj fss tgt fs oc).slots.map (·.1) = oc.slots.map (·.1)
  | [], _, _ => rfl
  | f :: fs, oc, h => by
    unfold resObj
    cases (tgt f).bind (lookup fss) with
    | none => exact resObj_keys fs oc (fun g hg => h g (List.mem_cons_of_mem _ hg))
    | some tv =>
      dsimp only
      have hk := setObj_keys oc f.name tv (h f List.mem_cons_self)
      rw [resObj_keys fs (setObj oc f.name tv) (fun g hg => by rw [hk]; exact h g (List.mem_cons_of_mem _ hg)), hk]

theorem resObj_other (n : String) : ∀ (fs : List Feature) (oc : Obj), n ∉ fs.map (·.name) →
    alistGet? (resObj fss tgt fs oc).slots n = alistGet? oc.slots n
  | [], _, _ => rfl
  | f :: fs, oc, h => by
    rw [List.map_cons, List.mem_cons, not_or] at h
    unfold resObj
    cases (tgt f).bind (lookup fss) with
    | none => exact resObj_other n fs oc h.2
    | some tv =>
      dsimp only
      rw [resObj_other n fs _ h.2]
      exact alistGet?_set_other _ _ _ _ h.1

theorem resObj_at : ∀ (fs : List Feature) (oc : Obj), (fs.map (·.name)).Nodup → ∀ f ∈ fs,
    alistGet? (resObj fss tgt fs oc).slots f.name =
      match (tgt f).bind (lookup fss) with
      | some tv => some tv
      | none => alistGet? oc.slots f.name
  | [], _, _, f, hf => by cases hf
  | g :: fs, oc, hnd, f, hf => by
    rw [List.map_cons, List.nodup_cons] at hnd
    rcases List.mem_cons.mp hf with rfl | hf'
    · unfold resObj
      rw [resObj_other fss tgt f.name fs _ hnd.1]
      cases (tgt f).bind (lookup fss) with
      | none => rfl
      | some tv => exact alistGet?_set_same _ _ _
    · have hne : f.name ≠ g.name := by
        intro e
        apply hnd.1
        rw [← e]
        exact List.mem_map_of_mem hf'
      unfold resObj
      rw [resObj_at fs _ hnd.2 f hf']
      cases (tgt f).bind (lookup fss) with
      | some tv => rfl
      | none =>
        dsimp only
        cases (tgt g).bind (lookup fss) with
        | none => rfl
        | some tv' => exact alistGet?_set_other _ _ _ _ hne

theorem resDef_mem (addr : Nat) : ∀ (fs : List Feature), ∀ f ∈ fs, ∀ y, tgt f = some y → lookup fss y = none →
    ({ addr := addr, slot := f.name, target := some y, elems := none } : Deferred) ∈ resDef fss tgt addr fs
  | [], f, hf, _, _, _ => by cases hf
  | g :: fs, f, hf, y, ht, hl => by
    unfold resDef
    rcases List.mem_cons.mp hf with rfl | hf'
    · rw [ht]
      dsimp only
      rw [hl]
      exact List.mem_append_left _ List.mem_cons_self
    · exact List.mem_append_right _ (resDef_mem addr fs f hf' y ht hl)

theorem resDef_sound (addr : Nat) : ∀ (fs : List Feature), ∀ d ∈ resDef fss tgt addr fs,
    ∃ f ∈ fs, ∃ y, tgt f = some y ∧ lookup fss y = none ∧
      d = { addr := addr, slot := f.name, target := some y, elems := none }
  | [], d, hd => by cases hd
  | g :: fs, d, hd => by
    unfold resDef at hd
    rcases List.mem_append.mp hd with hd | hd
    · cases ht : tgt g with
      | none => rw [ht] at hd; cases hd
      | some y =>
        rw [ht] at hd
        dsimp only at hd
        cases hl : lookup fss y with
        | some tv => rw [hl] at hd; cases hd
        | none =>
          rw [hl] at hd
          rw [List.mem_singleton] at hd
          exact ⟨g, List.mem_cons_self, y, ht, hl, hd⟩
    · obtain ⟨f, hf, y, h1, h2, h3⟩ := resDef_sound addr fs d hd
      exact ⟨f, List.mem_cons_of_mem _ hf, y, h1, h2, h3⟩

end

def valF (o : Obj) (f : Feature) : Val := (alistGet? o.slots f.name).getD .none

/-- the value `construct` puts into the slot -/
def baseJ (cass : List Cas) (isAnn : Bool) (o : Obj) (n : String) (v : Val) : Val :=
  match v with
  | .int i => .int (extInt cass isAnn o n i)
  | .str s => .str s
  | .bool b => .bool b
  | .float t => .float t
  | _ => .none

section
variable (cass : List Cas) (H : Heap) (isAnn : Bool) (o : Obj)

def featPlainArgs (f : Feature) : List (String × Val) := plainArgs cass isAnn o f.name (valF o f)
def featNumArgs (o : Obj) (f : Feature) : List (String × Val) := numArgs f.name (valF o f)
def featTarget (f : Feature) : Option Int := refTarget cass H (valF o f)

theorem featPlainArgs_keys (f : Feature) : ∀ p ∈ featPlainArgs cass isAnn o f, p.1 = f.name := by
  intro p hp
  unfold featPlainArgs plainArgs at hp
  cases hv : valF o f <;> rw [hv] at hp <;> dsimp only at hp <;>
    first
    | (cases hp; done)
    | (rw [List.mem_singleton] at hp; rw [hp])
    | skip
  rename_i t
  split at hp
  · cases hp
  · rw [List.mem_singleton] at hp; rw [hp]

theorem featNumArgs_keys (f : Feature) : ∀ p ∈ featNumArgs o f, p.1 = f.name := by
  intro p hp
  unfold featNumArgs numArgs at hp
  cases hv : valF o f <;> rw [hv] at hp <;> dsimp only at hp <;>
    first
    | (cases hp; done)
    | skip
  rename_i t
  split at hp
  · rw [List.mem_singleton] at hp; rw [hp]
  · cases hp

theorem feats_parts (F : List Feature) (hn : ∀ f ∈ F, KeyOk (xmlName f) f.name) :
    ((F.flatMap (jmemF cass H isAnn o)).filter plainP).map kw = F.flatMap (featPlainArgs cass isAnn o) ∧
    (F.flatMap (jmemF cass H isAnn o)).filter refP = F.flatMap (refMem (featTarget cass H o)) ∧
    parseNums ((F.flatMap (jmemF cass H isAnn o)).filter numP) = .ok (F.flatMap (featNumArgs o)) := by
  refine ⟨?_, ?_, ?_⟩
  · rw [List.filter_flatMap, List.map_flatMap]
    exact Det.flatMap_congr F (fun f hf => (jmem_parts cass H isAnn o _ (hn f hf)).1)
  · rw [List.filter_flatMap]
    exact Det.flatMap_congr F (fun f hf => (jmem_parts cass H isAnn o _ (hn f hf)).2.1)
  · rw [List.filter_flatMap]
    exact parseNums_flatMap _ _ F (fun f hf => (jmem_parts cass H isAnn o _ (hn f hf)).2.2)

theorem kwargs_get (F : List Feature) (hnd : (F.map (·.name)).Nodup) (f : Feature) (hf : f ∈ F) :
    (alistGet? (F.flatMap (featPlainArgs cass isAnn o) ++ F.flatMap (featNumArgs o)) f.name).getD .none =
      baseJ cass isAnn o f.name (valF o f) := by
  rw [alistGet?_append, aget_flatMap_piece _ (featPlainArgs_keys cass isAnn o) F hnd f hf,
    aget_flatMap_piece _ (featNumArgs_keys o) F hnd f hf]
  unfold featPlainArgs featNumArgs plainArgs numArgs baseJ
  cases hv : valF o f <;> dsimp only <;> try (simp [alistGet?]; done)
  rename_i t
  cases isSpecialFloat t <;> simp [alistGet?]

end

/-- the slot `n` (old value `v`) waits for a deferred reference -/
def Pend (H : Heap) (addr : Nat) (ds : List Deferred) (n : String) (v : Val) : Prop :=
  ∃ b y, v = .ref b ∧ xidOf H b = some y ∧
    ({ addr := addr, slot := n, target := some y, elems := none } : Deferred) ∈ ds

/-- the new object `o'` at `addr` stands for `o`: every slot holds its final value (`E` of the old one) or waits (`P`)
    for one of the deferred entries `ds` -/
def ObjPendG (E : Val → Val) (P : Nat → List Deferred → String → Val → Prop) (addr : Nat) (ds : List Deferred)
    (o o' : Obj) (x : Int) : Prop :=
  o'.ty = o.ty ∧ o'.xid = some x ∧ o'.slots.map (·.1) = o.slots.map (·.1) ∧
  ∀ n v, alistGet? o.slots n = some v → alistGet? o'.slots n = some (E v) ∨ P addr ds n v

/-- `ObjPendG` of a general structure: the final value is `exp3`, only references are deferred -/
def ObjPend (H : Heap) (na : Int → Nat) (ci' : Nat) (addr : Nat) (ds : List Deferred) (o o' : Obj) (x : Int) : Prop :=
  ObjPendG (exp3 H na ci') (Pend H) addr ds o o' x

/-- a deferred reference of the object at `addr` that stands for `o` -/
def DefRef (H : Heap) (addr : Nat) (o : Obj) (d : Deferred) : Prop :=
  ∃ n b y, d = { addr := addr, slot := n, target := some y, elems := none } ∧
    alistGet? o.slots n = some (.ref b) ∧ xidOf H b = some y

/-- what `parseFs` needs to know about the state of the reader and the written CAS -/
structure PCtx (cass : List Cas) (c : Cas) (ci : Nat) (H : Heap) (L : List (Int × Nat)) (na : Int → Nat) (ci' : Nat)
    (fss : List (Int × Val)) (cas' : Cas) : Prop where
  hc : cass[ci]? = some c
  closed : ClosedL H L
  fss_sofa : ∀ nv ∈ c.views, lookup fss nv.2.sofa.xid = some (.sofa ci' nv.1)
  fss_ref : ∀ q ∈ L, ∀ tv, lookup fss q.1 = some tv → tv = .ref (na q.1)
  views : cas'.views = bareViews c.views
  conv : ∀ nv ∈ c.views, ∀ t, nv.2.sofa.text = some t → nv.2.sofa.conv = some (Offsets.table t)

theorem cvI_table (t : List Nat) (i : Nat) (hi : i ≤ t.length) :
    cvI (some (Offsets.table t)) ((Offsets.pythonToExternal (some (Offsets.table t)) i : Nat) : Int) = i := by
  rw [cvI_nat]
  have := Offsets.e2p_p2e t i hi
  exact congrArg Int.ofNat this

theorem resolved_slot {K : Consts} {ts : TypeSystem} {cass : List Cas} {c : Cas} {ci : Nat} {H : Heap}
    {L : List (Int × Nat)} {na : Int → Nat} {ci' : Nat} {fss : List (Int × Val)} {cas' : Cas}
    (ctx : PCtx cass c ci H L na ci' fss cas') (q : Int × Nat) (hq : q ∈ L) (o : Obj) (ho : H[q.2]? = some o)
    (isAnn : Bool) (F : List Feature) (hnd : (F.map (·.name)).Nodup) (addr : Nat) (oc : Obj)
    (hoc : ∀ f ∈ F, alistGet? oc.slots f.name = some (baseJ cass isAnn o f.name (valF o f)))
    (f : Feature) (hf : f ∈ F) (v : Val) (hv : alistGet? o.slots f.name = some v)
    (hff : JFeatOk K ts c ci H isAnn o f) :
    alistGet? (resObj fss (featTarget cass H o) F oc).slots f.name = some (exp2 cass H na ci' isAnn o f.name v) ∨
      Pend H addr (resDef fss (featTarget cass H o) addr F) f.name v := by
  have hval : valF o f = v := by unfold valF; rw [hv]; rfl
  rw [resObj_at fss _ F oc hnd f hf, hoc f hf, hval]
  obtain ⟨_, _, _, _, _, v', hv', hcase⟩ := hff
  rw [hv] at hv'; cases hv'
  have htg : featTarget cass H o f = refTarget cass H v := by unfold featTarget; rw [hval]
  rcases hcase with ⟨_, hs⟩ | ⟨_, _, h3⟩ | ⟨_, _, _, _, _, hr⟩
  · rcases hs with ⟨vn, rfl, hsome⟩ | ⟨rfl, _⟩
    · obtain ⟨view, hview⟩ := Option.isSome_iff_exists.mp hsome
      have hmem : (vn, view) ∈ c.views := alistGet?_mem _ _ _ hview
      have ht : refTarget cass H (.sofa ci vn) = some view.sofa.xid := by
        unfold refTarget
        dsimp only
        rw [ctx.hc]
        show (Cas.getViewRec c vn).map _ = _
        rw [hview]; rfl
      rw [htg, ht]
      dsimp only [Option.bind_some]
      rw [ctx.fss_sofa _ hmem]
      exact Or.inl rfl
    · rw [htg]; exact Or.inl rfl
  · rw [htg]
    rcases h3 with rfl | ⟨_, i, rfl⟩ | ⟨_, x, rfl⟩ | ⟨_, x, rfl⟩ | ⟨_, x, rfl⟩ <;> exact Or.inl rfl
  · rcases hr with rfl | ⟨b, rfl, _⟩
    · rw [htg]; exact Or.inl rfl
    · obtain ⟨y, hy, hyL⟩ := ctx.closed q hq o ho f.name b hv
      have ht : refTarget cass H (.ref b) = some y := hy
      rw [htg, ht]
      dsimp only [Option.bind_some]
      cases hl : lookup fss y with
      | some tv =>
        left
        dsimp only
        rw [ctx.fss_ref _ hyL tv hl]
        unfold exp2
        dsimp only
        rw [hy]
      | none =>
        right
        exact ⟨b, y, rfl, hy, resDef_mem fss _ addr F f hf y (by rw [htg, ht]) hl⟩

theorem deferred_is_ref {K : Consts} {ts : TypeSystem} {cass : List Cas} {c : Cas} {ci : Nat} {H : Heap}
    {L : List (Int × Nat)} {na : Int → Nat} {ci' : Nat} {fss : List (Int × Val)} {cas' : Cas}
    (ctx : PCtx cass c ci H L na ci' fss cas') (o : Obj) (isAnn : Bool) (f : Feature)
    (hff : JFeatOk K ts c ci H isAnn o f) (y : Int) (ht : featTarget cass H o f = some y) (hl : lookup fss y = none) :
    ∃ b, alistGet? o.slots f.name = some (.ref b) ∧ xidOf H b = some y := by
  obtain ⟨_, _, _, _, _, v, hv, hcase⟩ := hff
  have hval : valF o f = v := by unfold valF; rw [hv]; rfl
  unfold featTarget at ht
  rw [hval] at ht
  rcases hcase with ⟨_, hs⟩ | ⟨_, _, h3⟩ | ⟨_, _, _, _, _, hr⟩
  · rcases hs with ⟨vn, rfl, hsome⟩ | ⟨rfl, _⟩
    · obtain ⟨view, hview⟩ := Option.isSome_iff_exists.mp hsome
      have hmem : (vn, view) ∈ c.views := alistGet?_mem _ _ _ hview
      have ht' : refTarget cass H (.sofa ci vn) = some view.sofa.xid := by
        unfold refTarget
        dsimp only
        rw [ctx.hc]
        show (Cas.getViewRec c vn).map _ = _
        rw [hview]; rfl
      rw [ht'] at ht
      cases ht
      rw [ctx.fss_sofa _ hmem] at hl
      cases hl
    · cases ht
  · rcases h3 with rfl | ⟨_, i, rfl⟩ | ⟨_, x, rfl⟩ | ⟨_, x, rfl⟩ | ⟨_, x, rfl⟩ <;> cases ht
  · rcases hr with rfl | ⟨b, rfl, _⟩
    · cases ht
    · exact ⟨b, hv, ht⟩

/-- everything but the conversion of the offsets -/
theorem parse_pre {K : Consts} {ts : TypeSystem} {cass : List Cas} {c : Cas} {ci : Nat} {H : Heap}
    {L : List (Int × Nat)} {na : Int → Nat} {ci' : Nat} {fss : List (Int × Val)} {cas' : Cas} (tsIdx : Nat)
    (ctx : PCtx cass c ci H L na ci' fss cas') (s : RState) (hsf : s.fss = fss)
    (q : Int × Nat) (hq : q ∈ L) (o : Obj) (t : TypeRec) (ho : H[q.2]? = some o) (ht : find? ts o.ty = some t)
    (hfl : JGenFs K ts c ci H q.2) (hj : JsonFs ts H q.2) :
    ∃ (o1 : Obj) (ds : List Deferred),
      (∀ heapF, convStep (isInstanceOf ts t.name ANNOTATION) s.cas (s.heap ++ [o1]) s.heap.length = .ok heapF →
        parseFs K ts tsIdx s (genJFs ts cass H q.1 o t) =
          .ok { s with heap := heapF, fss := setFs s.fss q.1 (.ref s.heap.length),
                       deferred := s.deferred ++ ds, maxId := max s.maxId q.1 }) ∧
      o1.ty = o.ty ∧ o1.xid = some q.1 ∧ o1.slots.map (·.1) = o.slots.map (·.1) ∧
      (∀ f ∈ allFeatures t, ∀ v, alistGet? o.slots f.name = some v →
        alistGet? o1.slots f.name = some (exp2 cass H na ci' (isInstanceOf ts o.ty ANNOTATION) o f.name v) ∨
          Pend H s.heap.length ds f.name v) ∧
      (∀ d ∈ ds, DefRef H s.heap.length o d) := by
  have G := hfl.at ho ht
  obtain ⟨hend, hjf⟩ := hj o t ho ht
  have hnames : ∀ f ∈ allFeatures t, KeyOk (xmlName f) f.name := by
    intro f hf
    obtain ⟨h1, h2, h3, _⟩ := hjf f hf
    obtain ⟨hr, _, h5, h6, _⟩ := G.feat f hf
    exact keyOk_xmlName f hr h6 h5 h1 h2 h3
  have hndF : ((allFeatures t).map (·.name)).Nodup := G.nodup
  obtain ⟨hA, hR, hN⟩ := feats_parts cass H (isInstanceOf ts o.ty ANNOTATION) o (allFeatures t) hnames
  have hfield : ∀ f ∈ allFeatures t, f.name ∈ (ctorFields t).eraseDups := by
    intro f hf
    rw [List.mem_eraseDups]
    exact List.mem_map_of_mem hf
  have hk : ∀ p ∈ (allFeatures t).flatMap (featPlainArgs cass (isInstanceOf ts o.ty ANNOTATION) o) ++ (allFeatures t).flatMap (featNumArgs o),
      p.1 ∈ (ctorFields t).eraseDups := by
    intro p hp
    rcases List.mem_append.mp hp with hp | hp
    · obtain ⟨f, hf, hpf⟩ := List.mem_flatMap.mp hp
      rw [featPlainArgs_keys _ _ _ f p hpf]; exact hfield f hf
    · obtain ⟨f, hf, hpf⟩ := List.mem_flatMap.mp hp
      rw [featNumArgs_keys _ f p hpf]; exact hfield f hf
  have hcons := (construct_eq_ok (tsIdx := tsIdx) (xid := some q.1)).mpr ⟨fun p hp => List.mem_eraseDups.mp (hk p hp), rfl⟩
  have hkeys0 := constructed_keys t tsIdx (some q.1)
    ((allFeatures t).flatMap (featPlainArgs cass (isInstanceOf ts o.ty ANNOTATION) o) ++ (allFeatures t).flatMap (featNumArgs o))
  have hoc : ∀ f ∈ allFeatures t, alistGet? (constructed t tsIdx (some q.1)
      ((allFeatures t).flatMap (featPlainArgs cass (isInstanceOf ts o.ty ANNOTATION) o) ++ (allFeatures t).flatMap (featNumArgs o))).slots f.name =
        some (baseJ cass (isInstanceOf ts o.ty ANNOTATION) o f.name (valF o f)) := by
    intro f hf
    rw [show alistGet? (constructed _ _ _ _).slots f.name = _ from alistGet?_map_self _ _ _ (hfield f hf),
      kwargs_get cass (isInstanceOf ts o.ty ANNOTATION) o _ hndF f hf]
  generalize hO0 : constructed t tsIdx (some q.1)
    ((allFeatures t).flatMap (featPlainArgs cass (isInstanceOf ts o.ty ANNOTATION) o) ++ (allFeatures t).flatMap (featNumArgs o)) = o0 at hcons hkeys0 hoc
  have hres := resolveRefs_refMem s.fss (featTarget cass H o) s.heap (allFeatures t) o0 s.deferred (by
    intro f hf
    exact ⟨(hnames f hf).ren, by rw [hkeys0]; exact hfield f hf⟩)
  have hk1 := resObj_keys s.fss (featTarget cass H o) (allFeatures t) o0 (by
    intro f hf; rw [hkeys0]; exact hfield f hf)
  obtain ⟨hty1, hxid1, _⟩ := resObj_fields s.fss (featTarget cass H o) (allFeatures t) o0
  refine ⟨resObj s.fss (featTarget cass H o) (allFeatures t) o0, resDef s.fss (featTarget cass H o) s.heap.length (allFeatures t),
    ?_, ?_, ?_, ?_, ?_, ?_⟩
  · intro heapF hconv
    refine parseFs_of_stages (t := t) (d0 := s.deferred) ?_ rfl hN ?_ hcons ?_ hconv
    · unfold fsTypeName
      rw [show (genJFs ts cass H q.1 o t).ty = o.ty from rfl, hend]
      exact getTypeExact_of_find ht
    · unfold elemArgs
      rw [G.name, G.notPrimArr, beq_false_of_ne G.notFsArr]
      exact congrArg (fun k => Except.ok (k ++ _, s.deferred)) hA
    · show resolveRefs renameReserved s.fss s.heap.length (List.filter refP ((allFeatures t).flatMap _)) _ = _
      rw [hR]; exact hres
  · rw [hty1, ← hO0]; exact G.name
  · rw [hxid1, ← hO0]; rfl
  · rw [hk1, hkeys0, G.keys]
  · intro f hf v hv
    rw [← hsf] at ctx
    exact resolved_slot ctx q hq o ho _ (allFeatures t) hndF s.heap.length o0 hoc f hf v hv (G.feat f hf)
  · intro d hd
    obtain ⟨f, hf, y, h1, h2, h3⟩ := resDef_sound s.fss _ s.heap.length _ d hd
    rw [← hsf] at ctx
    obtain ⟨b, hb1, hb2⟩ := deferred_is_ref ctx o _ f (G.feat f hf) y h1 h2
    exact ⟨f.name, b, y, h3, hb1, hb2⟩

theorem parseFs_gen {K : Consts} {ts : TypeSystem} {cass : List Cas} {c : Cas} {ci : Nat} {H : Heap}
    {L : List (Int × Nat)} {na : Int → Nat} {ci' : Nat} {fss : List (Int × Val)} {cas' : Cas} (tsIdx : Nat)
    (ctx : PCtx cass c ci H L na ci' fss cas') (s : RState) (hsf : s.fss = fss) (hsc : s.cas = cas')
    (q : Int × Nat) (hq : q ∈ L) (o : Obj) (t : TypeRec) (ho : H[q.2]? = some o) (ht : find? ts o.ty = some t)
    (hfl : JGenFs K ts c ci H q.2) (hj : JsonFs ts H q.2) :
    ∃ (o' : Obj) (ds : List Deferred),
      parseFs K ts tsIdx s (genJFs ts cass H q.1 o t) =
        .ok { s with heap := s.heap ++ [o'], fss := setFs s.fss q.1 (.ref s.heap.length),
                     deferred := s.deferred ++ ds, maxId := max s.maxId q.1 } ∧
      ObjPend H na ci' s.heap.length ds o o' q.1 ∧ (∀ d ∈ ds, DefRef H s.heap.length o d) := by
  obtain ⟨o1, ds, hparse, hty1, hxid1, hk1, hsl1, hdef⟩ := parse_pre tsIdx ctx s hsf q hq o t ho ht hfl hj
  have G := hfl.at ho ht
  cases hA : isInstanceOf ts o.ty ANNOTATION with
  | false =>
    refine ⟨o1, ds, hparse _ ?_, ⟨hty1, hxid1, hk1, ?_⟩, hdef⟩
    · rw [G.name, hA, convStep_false]
    · intro n v hv
      obtain ⟨f, hf, rfl⟩ := G.slot_feature hv
      rcases hsl1 f hf v hv with h | h
      · left
        rw [h, hA, exp2_eq_exp3 cass H na ci' false o f.name v rfl]
      · exact Or.inr h
  | true =>
    obtain ⟨vn, view, text, b, e, hs, hview, htext, hb, he, hbl, hel⟩ := G.ann hA
    have hmem : (vn, view) ∈ c.views := alistGet?_mem _ _ _ hview
    have hconv : view.sofa.conv = some (Offsets.table text) := ctx.conv _ hmem text htext
    obtain ⟨fs_, hfs, hfsn⟩ := G.slot_feature hs
    obtain ⟨fb, hfb, hfbn⟩ := G.slot_feature hb
    obtain ⟨fe, hfe, hfen⟩ := G.slot_feature he
    have hs1 : alistGet? o1.slots "sofa" = some (.sofa ci' vn) := by
      rcases hsl1 fs_ hfs _ (by rw [hfsn]; exact hs) with h | ⟨b', y, h', _⟩
      · rw [hfsn] at h; exact h
      · cases h'
    have hb1 : alistGet? o1.slots "begin" = some (.int ((Offsets.pythonToExternal (some (Offsets.table text)) b : Nat) : Int)) := by
      rcases hsl1 fb hfb _ (by rw [hfbn]; exact hb) with h | ⟨b', y, h', _⟩
      · rw [hfbn, hA] at h
        rw [h]
        unfold exp2
        dsimp only
        rw [extInt_ann cass ctx.hc hs hview "begin" (Or.inl rfl) b, hconv]
      · cases h'
    have he1 : alistGet? o1.slots "end" = some (.int ((Offsets.pythonToExternal (some (Offsets.table text)) e : Nat) : Int)) := by
      rcases hsl1 fe hfe _ (by rw [hfen]; exact he) with h | ⟨b', y, h', _⟩
      · rw [hfen, hA] at h
        rw [h]
        unfold exp2
        dsimp only
        rw [extInt_ann cass ctx.hc hs hview "end" (Or.inr rfl) e, hconv]
      · cases h'
    have hget : (s.heap ++ [o1])[s.heap.length]? = some o1 := List.getElem?_concat_length
    have hcv := convertOffsets_int (some (Offsets.table text)) hget hb1 he1
    rw [cvI_table text b hbl, cvI_table text e hel, set_last] at hcv
    have hgv : Cas.getViewRec s.cas vn = some { sofa := view.sofa, idx := [] } := by
      unfold Cas.getViewRec
      rw [hsc, ctx.views, bare_get]
      have : alistGet? c.views vn = some view := hview
      rw [this]; rfl
    refine ⟨{ o1 with slots := alistSet (alistSet o1.slots "begin" (Val.int b)) "end" (Val.int e) }, ds,
      hparse _ ?_, ⟨hty1, hxid1, ?_, ?_⟩, hdef⟩
    · rw [G.name, hA, convStep_of_view ((Xmi.slot_of hget _).trans hs1) hgv]
      dsimp only
      rw [hconv]
      exact hcv
    · dsimp only
      have k1 : "begin" ∈ o1.slots.map (·.1) := (alistGet?_isSome_iff _ _).mp (by rw [hb1]; rfl)
      have k2 : "end" ∈ (alistSet o1.slots "begin" (Val.int b)).map (·.1) := by
        rw [alistSet_keys_of_mem _ _ _ k1]; exact (alistGet?_isSome_iff _ _).mp (by rw [he1]; rfl)
      rw [alistSet_keys_of_mem _ _ _ k2, alistSet_keys_of_mem _ _ _ k1, hk1]
    · intro n v hv
      dsimp only
      by_cases hne : n = "end"
      · subst hne
        left
        rw [alistGet?_set_same, he] at *
        cases hv
        rfl
      · rw [alistGet?_set_other _ _ _ _ hne]
        by_cases hnb : n = "begin"
        · subst hnb
          left
          rw [alistGet?_set_same]
          rw [hb] at hv
          cases hv
          rfl
        · rw [alistGet?_set_other _ _ _ _ hnb]
          obtain ⟨f, hf, rfl⟩ := G.slot_feature hv
          rcases hsl1 f hf v hv with h | h
          · left
            rw [h]
            congr 1
            apply exp2_eq_exp3
            have : (f.name == "begin" || f.name == "end") = false := by simp [hne, hnb]
            rw [this]; simp
          · exact Or.inr h

end Cassis.Json
