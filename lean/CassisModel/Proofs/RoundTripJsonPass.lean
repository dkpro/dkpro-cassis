/-
JSON round trip: the second pass (`fsPass`) over the written elements, read over a base heap `B`, from what `parseFs`
does on one element (`fsPass_of` over `FInvG`), and one deferred entry of `fixUps` (`fix_step_of` over `PRelG`).
-/
import CassisModel.Proofs.RoundTripJsonParseFs

namespace Cassis.Json
open Cassis.TS Cassis.Xmi

/-- the entries of the structures that are already parsed -/
def fsEntries (na : Int → Nat) (L1 : List (Int × Nat)) : List (Int × Val) := L1.map (fun q => (q.1, Val.ref (na q.1)))

theorem fsEntries_keys (na : Int → Nat) (L1 : List (Int × Nat)) : (fsEntries na L1).map (·.1) = L1.map (·.1) := by
  unfold fsEntries; rw [List.map_map]; rfl

theorem fsEntries_val (na : Int → Nat) (L1 : List (Int × Nat)) (i : Int) (v : Val) (h : (i, v) ∈ fsEntries na L1) :
    v = .ref (na i) := by
  unfold fsEntries at h
  obtain ⟨q, _, e⟩ := List.mem_map.mp h
  cases e; rfl

theorem lookup_fsEntries (F0 : List (Int × Val)) (na : Int → Nat) {L : List (Int × Nat)}
    (hnd : (L.map (·.1)).Nodup) {q : Int × Nat} (hq : q ∈ L) (hk : q.1 ∉ F0.map (·.1)) :
    lookup (F0 ++ fsEntries na L) q.1 = some (.ref (na q.1)) := by
  rw [lookup_append, lookup_none_of_not_mem F0 q.1 hk]
  exact lookup_of_mem_nodup _ (by rw [fsEntries_keys]; exact hnd) _ _ (List.mem_map.mpr ⟨q, hq, rfl⟩)

theorem lookup_entries (ci' : Nat) (views : List (String × View)) (na : Int → Nat) {L : List (Int × Nat)}
    (hnd : (L.map (·.1)).Nodup) {q : Int × Nat} (hq : q ∈ L) (h : ∀ nv ∈ views, q.1 ≠ nv.2.sofa.xid) :
    lookup (sofaEntries ci' views ++ fsEntries na L) q.1 = some (.ref (na q.1)) :=
  lookup_fsEntries _ na hnd hq (by
    rw [sofaEntries_keys]
    intro hin
    obtain ⟨nv, hnv, e⟩ := List.mem_map.mp hin
    exact h nv hnv e.symm)

theorem posOf_append_self (q : Int × Nat) (L2 : List (Int × Nat)) : ∀ (L1 : List (Int × Nat)), q.1 ∉ L1.map (·.1) →
    posOf q.1 (L1 ++ q :: L2) = L1.length
  | [], _ => by simp [posOf]
  | p :: L1, h => by
    simp only [List.map_cons, List.mem_cons, not_or] at h
    rw [List.cons_append]
    unfold posOf
    rw [if_neg (fun e => h.1 e.symm), posOf_append_self q L2 L1 h.2]
    rfl

theorem posOf_lt : ∀ (L : List (Int × Nat)) (x : Int), x ∈ L.map (·.1) → posOf x L < L.length
  | [], _, h => by cases h
  | p :: L, x, h => by
    unfold posOf
    by_cases e : p.1 = x
    · rw [if_pos e]; simp
    · rw [if_neg e]
      simp only [List.map_cons, List.mem_cons] at h
      have := posOf_lt L x (h.resolve_left (fun e' => e e'.symm))
      simp only [List.length_cons]
      omega

theorem naOf_inj (H : Heap) (L : List (Int × Nat)) : ∀ q ∈ L, ∀ q' ∈ L, naOf H L q.1 = naOf H L q'.1 → q.1 = q'.1 := by
  intro q hq q' hq' h
  unfold naOf at h
  exact posOf_inj L q.1 q'.1 (List.mem_map_of_mem hq) (List.mem_map_of_mem hq') (by omega)

/-- the context of `parseFs` during the second pass; `F0`: the entries of the id map before the pass (the sofas) -/
theorem PCtx.of_entries {cass : List Cas} {c : Cas} {ci : Nat} {H : Heap} {L : List (Int × Nat)} {ci' : Nat}
    {F0 : List (Int × Val)} (hc : cass[ci]? = some c) (hcl : ClosedL H L)
    (hconv : ∀ nv ∈ c.views, ∀ t, nv.2.sofa.text = some t → nv.2.sofa.conv = some (Offsets.table t))
    (hs : ∀ nv ∈ c.views, lookup F0 nv.2.sofa.xid = some (.sofa ci' nv.1)) (hk : ∀ q ∈ L, q.1 ∉ F0.map (·.1))
    (na : Int → Nat) (cas1 : Cas) (hv : cas1.views = bareViews c.views) (L1 : List (Int × Nat)) :
    PCtx cass c ci H L na ci' (F0 ++ fsEntries na L1) cas1 where
  hc := hc
  closed := hcl
  fss_sofa := fun nv hnv => by rw [lookup_append, hs nv hnv]
  fss_ref := by
    intro q hq tv h
    rw [lookup_append, lookup_none_of_not_mem F0 q.1 (hk q hq)] at h
    exact fsEntries_val _ _ _ _ (lookup_mem h)
  views := hv
  conv := hconv

/-- the state of the second pass after the structures `L1`.  `F0`: the entries of the id map before the pass; `OP`:
    how a new object stands for an old one while entries are deferred; `DO`: what a deferred entry of an object is -/
structure FInvG (F0 : List (Int × Val)) (B H : Heap) (L : List (Int × Nat))
    (OP : Nat → List Deferred → Obj → Obj → Int → Prop) (DO : Nat → Obj → Deferred → Prop)
    (cas1 : Cas) (m0 m1 : Int) (L1 : List (Int × Nat)) (s : RState) : Prop where
  cas : s.cas = cas1
  num : s.maxNum = m0
  len : s.heap.length = B.length + L1.length
  fss : s.fss = F0 ++ fsEntries (naOf B L) L1
  maxId : m1 ≤ s.maxId ∧ ∀ q ∈ L1, q.1 ≤ s.maxId
  rel : ∀ q ∈ L1, ∃ o o', H[q.2]? = some o ∧ s.heap[naOf B L q.1]? = some o' ∧
    OP (naOf B L q.1) s.deferred o o' q.1
  defs : ∀ d ∈ s.deferred, ∃ q ∈ L1, ∃ o, H[q.2]? = some o ∧ DO (naOf B L q.1) o d

/-- the second pass (the fold of `parseFs`, `fsPass_eq`), from what `parseFs` does on the element `el q` of one collected
    structure (`hstep`) -/
theorem fsPass_of {K : Consts} {ts : TypeSystem} {B H : Heap} {L : List (Int × Nat)} {F0 : List (Int × Val)}
    {OP : Nat → List Deferred → Obj → Obj → Int → Prop} {DO : Nat → Obj → Deferred → Prop} {el : Int × Nat → JFs}
    (tsIdx : Nat) (cas1 : Cas) (hnd : (L.map (·.1)).Nodup) (hk : ∀ q ∈ L, q.1 ∉ F0.map (·.1))
    (hmono : ∀ (a : Nat) (ds ds' : List Deferred) (o o' : Obj) (x : Int),
      OP a ds o o' x → (∀ d ∈ ds, d ∈ ds') → OP a ds' o o' x)
    (hstep : ∀ (L1 : List (Int × Nat)) (s : RState), s.fss = F0 ++ fsEntries (naOf B L) L1 → s.cas = cas1 → ∀ q ∈ L,
      ∃ (o o' : Obj) (ds : List Deferred), H[q.2]? = some o ∧
        parseFs K ts tsIdx s (el q) =
          .ok { s with heap := s.heap ++ [o'], fss := setFs s.fss q.1 (.ref s.heap.length),
                       deferred := s.deferred ++ ds, maxId := max s.maxId q.1 } ∧
        OP s.heap.length ds o o' q.1 ∧ ∀ d ∈ ds, DO s.heap.length o d)
    (m0 m1 : Int) :
    ∀ (L2 L1 : List (Int × Nat)) (s : RState), L = L1 ++ L2 → FInvG F0 B H L OP DO cas1 m0 m1 L1 s →
      ∃ s', (L2.map el).foldlM (parseFs K ts tsIdx) s = .ok s' ∧ FInvG F0 B H L OP DO cas1 m0 m1 L s'
  | [], L1, s, hL, inv => by
    rw [List.append_nil] at hL
    subst hL
    exact ⟨s, rfl, inv⟩
  | q :: L2, L1, s, hL, inv => by
    have hq : q ∈ L := by rw [hL]; exact List.mem_append_right _ List.mem_cons_self
    obtain ⟨o, o', ds, ho, hparse, hpend, hdef⟩ := hstep L1 s inv.fss inv.cas q hq
    have hq1 : q.1 ∉ L1.map (·.1) := by
      rw [hL, List.map_append, List.map_cons] at hnd
      intro hin
      exact (List.nodup_append.mp hnd).2.2 _ hin _ List.mem_cons_self rfl
    -- the new object sits where `naOf` says
    have hna : naOf B L q.1 = s.heap.length := by
      unfold naOf
      rw [inv.len, hL, posOf_append_self q L2 L1 hq1]
    have hfsnew : setFs s.fss q.1 (.ref s.heap.length) = F0 ++ fsEntries (naOf B L) (L1 ++ [q]) := by
      rw [setFs_new]
      · rw [inv.fss, List.append_assoc]
        congr 1
        unfold fsEntries
        rw [List.map_append, List.map_cons, List.map_nil, hna]
      · rw [inv.fss, List.map_append, fsEntries_keys]
        intro hin
        rcases List.mem_append.mp hin with hin | hin
        · exact hk q hq hin
        · exact hq1 hin
    have inv' : FInvG F0 B H L OP DO cas1 m0 m1 (L1 ++ [q])
        { s with heap := s.heap ++ [o'], fss := setFs s.fss q.1 (.ref s.heap.length),
                 deferred := s.deferred ++ ds, maxId := max s.maxId q.1 } := by
      refine ⟨inv.cas, inv.num, ?_, hfsnew, ⟨?_, ?_⟩, ?_, ?_⟩
      · show (s.heap ++ [o']).length = _
        rw [List.length_append, List.length_append, inv.len]
        simp only [List.length_cons, List.length_nil]
        omega
      · show m1 ≤ max s.maxId q.1
        have := inv.maxId.1
        omega
      · intro q' hq'
        show q'.1 ≤ max s.maxId q.1
        rcases List.mem_append.mp hq' with h | h
        · have := inv.maxId.2 q' h
          omega
        · rw [List.mem_singleton] at h
          subst h
          omega
      · intro q' hq'
        rcases List.mem_append.mp hq' with h | h
        · obtain ⟨o1, o1', h1, h2, h3⟩ := inv.rel q' h
          refine ⟨o1, o1', h1, ?_, hmono _ _ _ _ _ _ h3 (fun d hd => List.mem_append_left _ hd)⟩
          show (s.heap ++ [o'])[naOf B L q'.1]? = some o1'
          have hlt : naOf B L q'.1 < s.heap.length := (List.getElem?_eq_some_iff.mp h2).1
          rw [List.getElem?_append_left hlt]
          exact h2
        · rw [List.mem_singleton] at h
          subst h
          refine ⟨o, o', ho, ?_, ?_⟩
          · show (s.heap ++ [o'])[naOf B L q'.1]? = some o'
            rw [hna]; exact List.getElem?_concat_length
          · rw [hna]
            exact hmono _ _ _ _ _ _ hpend (fun d hd => List.mem_append_right _ hd)
      · intro d hd
        rcases List.mem_append.mp hd with h | h
        · obtain ⟨q', hq', o1, h1, h2⟩ := inv.defs d h
          exact ⟨q', List.mem_append_left _ hq', o1, h1, h2⟩
        · exact ⟨q, List.mem_append_right _ List.mem_cons_self, o, ho, by rw [hna]; exact hdef d h⟩
    obtain ⟨s', hs', inv''⟩ := fsPass_of tsIdx cas1 hnd hk hmono hstep m0 m1 L2 (L1 ++ [q]) _
      (by rw [hL, List.append_assoc]; rfl) inv'
    refine ⟨s', ?_, inv''⟩
    rw [List.map_cons, List.foldlM_cons, hparse]
    exact hs'

section
variable {K : Consts} {ts : TypeSystem} {cass : List Cas} {c : Cas} {ci : Nat} {hp H : Heap} {L : List (Int × Nat)}

/-- every structure has its counterpart, whose slots are final or wait for one of the deferred entries `ds` -/
def PRelG (E : Val → Val) (P : Nat → List Deferred → String → Val → Prop) (B H : Heap) (L : List (Int × Nat))
    (heap : Heap) (ds : List Deferred) : Prop :=
  ∀ q ∈ L, ∃ o o', H[q.2]? = some o ∧ heap[naOf B L q.1]? = some o' ∧ ObjPendG E P (naOf B L q.1) ds o o' q.1

theorem Pend.tail {H : Heap} {addr : Nat} {d : Deferred} {ds : List Deferred} {n : String} {v : Val}
    (h : Pend H addr (d :: ds) n v) (hne : d.addr ≠ addr ∨ d.slot ≠ n) : Pend H addr ds n v := by
  obtain ⟨b, y, e1, e2, hm⟩ := h
  refine ⟨b, y, e1, e2, ?_⟩
  rcases List.mem_cons.mp hm with e | hm'
  · rcases hne with h | h <;> exact absurd (by rw [← e]) h
  · exact hm'

/-- one deferred entry: the slot `n` of the counterpart of `q` gets its final value, the other slots wait on -/
theorem fix_step_of {B H : Heap} {L : List (Int × Nat)} {E : Val → Val} {P : Nat → List Deferred → String → Val → Prop}
    (htail : ∀ (addr : Nat) (d : Deferred) (ds : List Deferred) (n : String) (v : Val),
      P addr (d :: ds) n v → d.addr ≠ addr ∨ d.slot ≠ n → P addr ds n v)
    (hnd : (L.map (·.1)).Nodup) (d : Deferred) (ds : List Deferred) (heap : Heap)
    (q : Int × Nat) (hq : q ∈ L) (o : Obj) (ho : H[q.2]? = some o) (n : String) (v0 : Val)
    (hda : d.addr = naOf B L q.1) (hds : d.slot = n) (hsl : alistGet? o.slots n = some v0)
    (hrel : PRelG E P B H L heap (d :: ds)) :
    ∃ heap1, Heap.setSlot heap d.addr d.slot (E v0) = .ok heap1 ∧ PRelG E P B H L heap1 ds := by
  obtain ⟨o_, o', ho_, ho', hty, hxid, hkeys, hslots⟩ := hrel q hq
  rw [ho] at ho_; cases ho_
  obtain ⟨w, hw⟩ : ∃ w, alistGet? o'.slots n = some w := by
    apply Option.isSome_iff_exists.mp
    rw [alistGet?_isSome_iff, hkeys, ← alistGet?_isSome_iff, hsl]; rfl
  refine ⟨heap.set (naOf B L q.1) (setObj o' n (E v0)), ?_, ?_⟩
  · rw [hda, hds]
    exact Heap.setSlot_existing _ ho' hw
  · intro q2 hq2
    by_cases hsame : naOf B L q2.1 = naOf B L q.1
    · have hid := naOf_inj B L q2 hq2 q hq hsame
      have hq2' : q2 = q := by
        obtain ⟨x2, a2⟩ := q2
        obtain ⟨x, a⟩ := q
        simp only at hid
        subst hid
        rw [Det.inj_of_nodup_map (·.1) _ hnd hq2 hq rfl]
      subst hq2'
      refine ⟨o, setObj o' n (E v0), ho, Det.set_get_self ho', hty, hxid, ?_, ?_⟩
      · rw [setObj_keys _ _ _ ((alistGet?_isSome_iff _ _).mp (by rw [hw]; rfl)), hkeys]
      · intro n2 v2 hv2
        show alistGet? (alistSet o'.slots n _) n2 = _ ∨ _
        by_cases hn2 : n2 = n
        · subst hn2
          left
          rw [alistGet?_set_same]
          rw [hsl] at hv2
          cases hv2
          rfl
        · rw [alistGet?_set_other _ _ _ _ hn2]
          rcases hslots n2 v2 hv2 with h | h
          · exact Or.inl h
          · exact Or.inr (htail _ _ _ _ _ h (Or.inr (by rw [hds]; exact fun e => hn2 e.symm)))
    · obtain ⟨o2, o2', h1, h2, t1, t2, t3, t4⟩ := hrel q2 hq2
      refine ⟨o2, o2', h1, ?_, t1, t2, t3, ?_⟩
      · rw [List.getElem?_set_ne (Ne.symm hsame)]; exact h2
      · intro n2 v2 hv2
        rcases t4 n2 v2 hv2 with h | h
        · exact Or.inl h
        · exact Or.inr (htail _ _ _ _ _ h (Or.inl (by rw [hda]; exact fun e => hsame e.symm)))

end

end Cassis.Json
