/-
What the worklist traversal `findAllFs` collects (C04), what it leaves behind, when it fails and when it succeeds.

The successors of a structure are the same in every heap of the run (`succsOf_shape` of `Proofs/TraverseSuccs.lean`), and
assigned ids are positive, so reachability is the same in every heap of the run (`Reach.mono`, `Reach.back`).  The loop
invariants: `RInv` accounts for every seed and every successor of a collected structure (collected, still open, or the
NULL object) and keeps every collected or open address reachable; `CInv`: the successors of a collected structure
compute, a structure that is not collected keeps its id; `OInv`: a registered id was there from the start or was
generated.  `findAllFs_collected` gives all of them, with `Inv`, when the traversal returns (`Collected`:
e.g. `mem_iff`, collected = reachable in the heap handed over, the NULL object aside).  A failing run fails in an
iteration (`findAllFs_error_iter`); on an expandable structure (`Expandable`, `Spec/IdsWrite.lean`, as is
`ReachableDuplicate`) that is a `ValueError` about ids (`step_fails`), hence `findAllFs_ok_of`: when the traversal
succeeds.  Its instances: `findAllFs_ok_of_ids` (every reachable structure carries an id: any generator, heap untouched);
the two over a set closed under successors (`Closed`) in place of `Reach`, `findAllFs_ok_of_closed_gen` (ids generated)
and `findAllFs_ok_of_closed_ids`; and with its converse `findAllFs_ok_iff_reachable`.  Before the invariants: a step
keeps the ids below the generator (`step_idsBelow`, for C09 and C14).
Everything is in `namespace Cassis.Traverse` (so `Reach.mono` is `Cassis.Traverse.Reach.mono`).
-/
import CassisModel.Spec.Determinism
import CassisModel.Spec.IdsWrite
import CassisModel.Proofs.Traverse

namespace Cassis.Traverse
open Cassis.TS

/-- ids that are assigned are positive, so no structure turns into the NULL object and nothing reachable is lost -/
theorem Reach.mono {K : Consts} {ts : TypeSystem} {o : Opts} {hp hp' : Heap} {nx nx' : Int} {lf : Nat}
    {seeds : List Nat} (fut : Fut hp nx hp' nx') (hnx : 0 < nx) {a : Nat} (h : Reach K ts o hp lf seeds a) :
    Reach K ts o hp' lf seeds a := by
  induction h with
  | seed a hs => exact .seed a hs
  | step a b _ hx hb ih =>
    exact .step a b ih (fun e => hx (fut.noNewNull hnx a e)) (by rw [succsOf_shape K ts o fut.shape]; exact hb)

theorem Reach.back {K : Consts} {ts : TypeSystem} {o : Opts} {hp hp' : Heap} {lf : Nat} {seeds : List Nat}
    (sh : SameShape hp hp') {a : Nat} (h : Reach K ts o hp' lf seeds a) : Reach K ts o hp lf seeds a := by
  induction h with
  | seed a hs => exact .seed a hs
  | step a b _ hx hb ih =>
    exact .step a b ih (fun e => hx (sh.xidOf e)) (by rw [← succsOf_shape K ts o sh]; exact hb)

theorem Reach.sub {K : Consts} {ts : TypeSystem} {o : Opts} {hp : Heap} {lf : Nat} {seeds : List Nat} {S : Nat → Prop}
    (hseeds : ∀ a ∈ seeds, S a) (hS : ∀ a, S a → xidOf hp a ≠ some 0 → ∀ b ∈ succsOf K ts o hp lf a, S b) {a : Nat}
    (h : Reach K ts o hp lf seeds a) : S a := by
  induction h with
  | seed a hs => exact hseeds a hs
  | step a b _ hx hb ih => exact hS a ih hx b hb

theorem idsBelow_iff (hp : Heap) (nx : Int) : IdsBelow hp nx ↔ ∀ a x, xidOf hp a = some x → x < nx := by
  constructor
  · intro h a x hx
    obtain ⟨ob, hob, hx⟩ := xidOf_some hx
    exact h a ob x hob hx
  · exact fun h a ob x hob hx => h a x ((xidOf_eq hob).trans hx)

theorem IdsBelow.set {hp : Heap} {a : Nat} {ob : Obj} {nx : Int} (hb : IdsBelow hp nx) (h : hp[a]? = some ob) :
    IdsBelow (hp.set a { ob with xid := some nx }) (nx + 1) := by
  rw [idsBelow_iff] at hb ⊢
  intro b y hy
  by_cases hab : a = b
  · subst hab
    rw [xidOf_set_self h] at hy
    cases hy
    omega
  · rw [xidOf_set_ne _ hab] at hy
    have := hb b y hy
    omega

theorem step_idsBelow {K : Consts} {ts : TypeSystem} {o : Opts} {lf : Nat} {s s' : St} {a : Nat} {rest : List Nat}
    (hb : IdsBelow s.heap s.nextXid) (h : step K ts o lf s a rest = .ok s') : IdsBelow s'.heap s'.nextXid :=
  step_pres IdsBelow (fun _ _ _ _ hP hob _ => hP.set hob) K ts o lf s a rest s' hb h

/-- `b` is accounted for: collected, still on the open list, or the NULL object -/
def Acc (s : St) (b : Nat) : Prop :=
  b ∈ s.allFs.map (·.2) ∨ b ∈ s.openl ∨ xidOf s.heap b = some 0

structure RInv (K : Consts) (ts : TypeSystem) (o : Opts) (hp0 : Heap) (lf : Nat) (seeds : List Nat) (s : St) :
    Prop where
  pos : 0 < s.nextXid
  ids : ∀ x a, (x, a) ∈ s.allFs → x ≠ 0
  seedsAcc : ∀ a, a ∈ seeds → Acc s a
  closed : ∀ x a, (x, a) ∈ s.allFs → ∀ b, b ∈ succsOf K ts o hp0 lf a → Acc s b
  sound : ∀ a, (a ∈ s.allFs.map (·.2) ∨ a ∈ s.openl) → Reach K ts o s.heap lf seeds a

theorem rinv_init (K : Consts) (ts : TypeSystem) (o : Opts) (hp : Heap) (lf : Nat) (nx : Int) (seeds : List Nat)
    (hnx : 0 < nx) : RInv K ts o hp lf seeds { heap := hp, nextXid := nx, openl := seeds } := by
  refine ⟨hnx, ?_, ?_, ?_, ?_⟩
  · intro x a h; cases h
  · intro a ha; exact Or.inr (Or.inl ha)
  · intro x a h; cases h
  · intro a ha
    rcases ha with ha | ha
    · cases ha
    · exact .seed a ha

theorem rinv_step (K : Consts) (ts : TypeSystem) (o : Opts) (hp0 : Heap) (lf n0 : Nat) (seeds : List Nat)
    (s : St) (a : Nat) (rest : List Nat) (s' : St) (ho : s.openl = a :: rest)
    (inv : Inv K ts o hp0 lf n0 s) (r : RInv K ts o hp0 lf seeds s)
    (h : step K ts o lf s a rest = .ok s') : RInv K ts o hp0 lf seeds s' := by
  obtain ⟨ob, x, hob, hstep, hpops, hcase⟩ := step_cases K ts o lf s a rest s' h
  obtain ⟨fut', hxid⟩ := hstep.fut hob
  have sh' := fut'.shape
  have hpos' : 0 < s'.nextXid := Int.lt_of_lt_of_le r.pos fut'.le
  have mono : ∀ b, Reach K ts o s.heap lf seeds b → Reach K ts o s'.heap lf seeds b :=
    fun b hb => Reach.mono fut' r.pos hb
  have ha_open : a ∈ s.openl := by rw [ho]; exact List.mem_cons_self
  rcases hcase with ⟨hall, hopen, _, hwhy⟩ | ⟨t, ps, n, hfind, ht, hn, hall, hopen, _⟩
  · have acc : ∀ b, Acc s b → Acc s' b := by
      intro b hb
      unfold Acc at hb ⊢
      rw [hall, hopen]
      rcases hb with hb | hb | hb
      · exact Or.inl hb
      · rw [ho] at hb
        rcases List.mem_cons.mp hb with hb | hb
        · subst hb
          rcases hwhy with h0 | ⟨y, hy, _⟩
          · rw [h0] at hxid; exact Or.inr (Or.inr hxid)
          · exact Or.inl (List.mem_map.mpr ⟨(y, b), hy, rfl⟩)
        · exact Or.inr (Or.inl hb)
      · exact Or.inr (Or.inr (sh'.xidOf hb))
    refine ⟨hpos', ?_, ?_, ?_, ?_⟩
    · intro y b hm; rw [hall] at hm; exact r.ids y b hm
    · intro b hb; exact acc b (r.seedsAcc b hb)
    · intro y c hm b hb; rw [hall] at hm; exact acc b (r.closed y c hm b hb)
    · intro b hb
      rw [hall, hopen] at hb
      apply mono
      apply r.sound
      rcases hb with hb | hb
      · exact Or.inl hb
      · rw [ho]; exact Or.inr (List.mem_cons_of_mem _ hb)
  · have hx0 : x ≠ 0 := by
      intro hx0
      rcases hstep with ⟨hx, _⟩ | ⟨_, hx, _⟩
      · rw [hx0] at hx
        have := step_null K ts o lf s a rest s' ob hob hx h
        rw [hall] at this
        have := congrArg List.length this
        simp only [List.length_append, List.length_cons, List.length_nil] at this
        omega
      · have := r.pos; omega
    have sh0 := inv.shape.trans sh'
    obtain ⟨ob0, h0, hty, _⟩ := inv.shape.get_back hob
    have ht0 : getType ts ob0.ty = .ok t := by rw [← hty]; exact ht
    rw [nodeSuccs_filter K ts o s'.heap hp0 (fun a n => sh0.slot a n) s'.allFs lf a t] at hn
    cases hn0 : nodeSuccs K ts o hp0 [] lf a t with
    | error e => rw [hn0] at hn; cases hn
    | ok r0 =>
      obtain ⟨ps0, n0'⟩ := r0
      rw [hn0] at hn
      have hps : ps = ps0.filter (keep s'.heap s'.allFs) := by
        simp only [filt, Except.ok.injEq, Prod.mk.injEq] at hn
        exact hn.1.symm
      have hsucc : succsOf K ts o hp0 lf a = ps0 := succsOf_eq K ts o h0 ht0 hn0
      have ha_new : a ∈ s'.allFs.map (·.2) := by
        rw [hall]; exact List.mem_map.mpr ⟨(x, a), List.mem_append_right _ (List.mem_singleton.mpr rfl), rfl⟩
      have acc : ∀ b, Acc s b → Acc s' b := by
        intro b hb
        unfold Acc at hb ⊢
        rcases hb with hb | hb | hb
        · left
          rw [hall, List.map_append]
          exact List.mem_append_left _ hb
        · rw [ho] at hb
          rcases List.mem_cons.mp hb with hb | hb
          · subst hb; exact Or.inl ha_new
          · rw [hopen]; exact Or.inr (Or.inl (List.mem_append_left _ hb))
        · exact Or.inr (Or.inr (sh'.xidOf hb))
      have hreach_a : Reach K ts o s'.heap lf seeds a := mono a (r.sound a (Or.inr ha_open))
      refine ⟨hpos', ?_, ?_, ?_, ?_⟩
      · intro y b hm
        rw [hall] at hm
        rcases List.mem_append.mp hm with hm | hm
        · exact r.ids y b hm
        · simp only [List.mem_singleton, Prod.mk.injEq] at hm
          rw [hm.1]; exact hx0
      · intro b hb; exact acc b (r.seedsAcc b hb)
      · intro y c hm b hb
        rw [hall] at hm
        rcases List.mem_append.mp hm with hm | hm
        · exact acc b (r.closed y c hm b hb)
        · simp only [List.mem_singleton, Prod.mk.injEq] at hm
          rw [hm.2, hsucc] at hb
          unfold Acc
          cases hk : keep s'.heap s'.allFs b with
          | true =>
            right; left
            rw [hopen, hps]
            exact List.mem_append_right _ (List.mem_filter.mpr ⟨hb, hk⟩)
          | false =>
            left
            unfold keep at hk
            have : seenId s'.allFs (xidOf s'.heap b) b = true := by
              cases hs : seenId s'.allFs (xidOf s'.heap b) b with
              | true => rfl
              | false => rw [hs] at hk; cases hk
            exact seenId_mem this
      · intro b hb
        rcases hb with hb | hb
        · rw [hall, List.map_append] at hb
          rcases List.mem_append.mp hb with hb | hb
          · exact mono b (r.sound b (Or.inl hb))
          · simp only [List.map_cons, List.map_nil, List.mem_singleton] at hb
            rw [hb]; exact hreach_a
        · rw [hopen] at hb
          rcases List.mem_append.mp hb with hb | hb
          · exact mono b (r.sound b (Or.inr (by rw [ho]; exact List.mem_cons_of_mem _ hb)))
          · rw [hps] at hb
            have hb0 := (List.mem_filter.mp hb).1
            refine .step a b hreach_a ?_ ?_
            · rw [hxid]; intro e; cases e; exact hx0 rfl
            · rw [succsOf_shape K ts o sh0, hsucc]; exact hb0

/-- the successors of collected structures compute; structures that are not collected keep their id -/
structure CInv (K : Consts) (ts : TypeSystem) (o : Opts) (hp0 : Heap) (lf : Nat) (s : St) : Prop where
  pos : 0 < s.nextXid
  succ : ∀ x a, (x, a) ∈ s.allFs → ∃ (ob : Obj) (t : TypeRec) (r : List Nat × Nat),
    hp0[a]? = some ob ∧ getType ts ob.ty = .ok t ∧ nodeSuccs K ts o hp0 [] lf a t = .ok r
  untouched : ∀ a, a ∉ s.allFs.map (·.2) → xidOf s.heap a = xidOf hp0 a

theorem cinv_init (K : Consts) (ts : TypeSystem) (o : Opts) (hp : Heap) (lf : Nat) (nx : Int) (seeds : List Nat)
    (hnx : 0 < nx) : CInv K ts o hp lf { heap := hp, nextXid := nx, openl := seeds } :=
  ⟨hnx, fun x a h => (by cases h), fun _ _ => rfl⟩

theorem cinv_step (K : Consts) (ts : TypeSystem) (o : Opts) (hp0 : Heap) (lf n0 : Nat)
    (s : St) (a : Nat) (rest : List Nat) (s' : St)
    (inv : Inv K ts o hp0 lf n0 s) (r : CInv K ts o hp0 lf s)
    (h : step K ts o lf s a rest = .ok s') : CInv K ts o hp0 lf s' := by
  obtain ⟨ob, x, hob, hstep, _, hcase⟩ := step_cases K ts o lf s a rest s' h
  obtain ⟨fut', hxid⟩ := hstep.fut hob
  have sh' := fut'.shape
  have hpos' : 0 < s'.nextXid := Int.lt_of_lt_of_le r.pos fut'.le
  have hne : ∀ b, b ≠ a → xidOf s'.heap b = xidOf s.heap b := by
    intro b hb
    rcases hstep with ⟨_, e, _⟩ | ⟨_, _, e, _⟩
    · rw [e]
    · rw [e, xidOf_set_ne _ (fun e' => hb e'.symm)]
  rcases hcase with ⟨hall, _, _, hwhy⟩ | ⟨t, ps, n, hfind, ht, hn, hall, _, _⟩
  · refine ⟨hpos', ?_, ?_⟩
    · intro y b hm; rw [hall] at hm; exact r.succ y b hm
    · intro b hb
      rw [hall] at hb
      by_cases hba : b = a
      · subst hba
        rcases hstep with ⟨_, e, _⟩ | ⟨_, hx, _⟩
        · rw [e]; exact r.untouched b hb
        · exfalso
          rcases hwhy with h0 | ⟨y, hy, _⟩
          · have := r.pos; omega
          · exact hb (List.mem_map.mpr ⟨(y, b), hy, rfl⟩)
      · rw [hne b hba]; exact r.untouched b hb
  · refine ⟨hpos', ?_, ?_⟩
    · intro y b hm
      rw [hall] at hm
      rcases List.mem_append.mp hm with hm | hm
      · exact r.succ y b hm
      · simp only [List.mem_singleton, Prod.mk.injEq] at hm
        obtain ⟨_, rfl⟩ := hm
        have sh0 := inv.shape.trans sh'
        obtain ⟨ob0, h0, hty, _⟩ := inv.shape.get_back hob
        have ht0 : getType ts ob0.ty = .ok t := by rw [← hty]; exact ht
        rw [nodeSuccs_filter K ts o s'.heap hp0 (fun a n => sh0.slot a n) s'.allFs lf b t] at hn
        cases hn0 : nodeSuccs K ts o hp0 [] lf b t with
        | error e => rw [hn0] at hn; cases hn
        | ok r0 => exact ⟨ob0, t, r0, h0, ht0, hn0⟩
    · intro b hb
      rw [hall, List.map_append] at hb
      have hb1 : b ∉ s.allFs.map (·.2) := fun h' => hb (List.mem_append_left _ h')
      have hba : b ≠ a := by
        intro e
        apply hb
        rw [e]
        exact List.mem_append_right _ (by simp)
      rw [hne b hba]
      exact r.untouched b hb1

/-- where the registered ids come from: kept from the initial heap, or generated during the run -/
structure OInv (hp : Heap) (nx : Int) (s : St) : Prop where
  le : nx ≤ s.nextXid
  origin : ∀ x a, (x, a) ∈ s.allFs → xidOf hp a = some x ∨ (xidOf hp a = none ∧ nx ≤ x ∧ x < s.nextXid)

theorem oinv_step (K : Consts) (ts : TypeSystem) (o : Opts) (hp0 : Heap) (nx : Int) (lf n0 : Nat)
    (s : St) (a : Nat) (rest : List Nat) (s' : St) (ho : s.openl = a :: rest)
    (inv : Inv K ts o hp0 lf n0 s) (c : CInv K ts o hp0 lf s) (oi : OInv hp0 nx s)
    (h : step K ts o lf s a rest = .ok s') : OInv hp0 nx s' := by
  have inv' := (inv_step K ts o hp0 lf n0 s a rest s' ho inv h).1
  obtain ⟨ob, x, hob, hstep, _, hcase⟩ := step_cases K ts o lf s a rest s' h
  have hle : s.nextXid ≤ s'.nextXid := (hstep.fut hob).1.le
  refine ⟨Int.le_trans oi.le hle, ?_⟩
  have old : ∀ y b, (y, b) ∈ s.allFs → xidOf hp0 b = some y ∨ (xidOf hp0 b = none ∧ nx ≤ y ∧ y < s'.nextXid) := by
    intro y b hm
    rcases oi.origin y b hm with h1 | ⟨h1, h2, h3⟩
    · exact .inl h1
    · exact .inr ⟨h1, h2, by omega⟩
  rcases hcase with ⟨hall, _⟩ | ⟨_, _, _, _, _, _, hall, _⟩
  · intro y b hm; rw [hall] at hm; exact old y b hm
  · intro y b hm
    rw [hall] at hm
    rcases List.mem_append.mp hm with hm | hm
    · exact old y b hm
    · simp only [List.mem_singleton, Prod.mk.injEq] at hm
      obtain ⟨rfl, rfl⟩ := hm
      have hnew : b ∉ s.allFs.map (·.2) := by
        have := inv'.nodupA
        rw [hall, List.map_append, List.nodup_append] at this
        exact fun hm => this.2.2 b hm b (by simp) rfl
      have hu := c.untouched b hnew
      have hxb : xidOf s.heap b = ob.xid := xidOf_eq hob
      -- kept, or generated: then the generator has advanced past it
      rcases hstep with ⟨hx, _⟩ | ⟨hx, rfl, _, e⟩
      · exact .inl (by rw [← hu, hxb, hx])
      · exact .inr ⟨by rw [← hu, hxb, hx], oi.le, by omega⟩

theorem start_invs {K : Consts} {ts : TypeSystem} {o : Opts} {hp : Heap} {nx : Int} {seeds : List Nat} {s : St}
    (hnx : 0 < nx) (hi : Iter K ts o (hp.length + 1) (start hp nx seeds) s) :
    Inv K ts o hp (hp.length + 1) seeds.length s ∧ RInv K ts o hp (hp.length + 1) seeds s ∧
      CInv K ts o hp (hp.length + 1) s ∧ OInv hp nx s :=
  hi.pres
    (I := fun s => Inv K ts o hp _ seeds.length s ∧ RInv K ts o hp _ seeds s ∧ CInv K ts o hp _ s ∧ OInv hp nx s)
    (fun s a rest s1 hI ho hs => ⟨(inv_step K ts o hp _ _ s a rest s1 ho hI.1 hs).1,
      rinv_step K ts o hp _ _ seeds s a rest s1 ho hI.1 hI.2.1 hs,
      cinv_step K ts o hp _ _ s a rest s1 hI.1 hI.2.2.1 hs,
      oinv_step K ts o hp nx _ _ s a rest s1 ho hI.1 hI.2.2.1 hI.2.2.2 hs⟩)
    ⟨inv_init K ts o hp _ nx seeds, rinv_init K ts o hp _ nx seeds hnx, cinv_init K ts o hp _ nx seeds hnx,
      Int.le_refl _, fun _ _ hm => by cases hm⟩

/-! ### what a successful traversal returns, in terms of its input -/

/-- everything the loop invariants say when `findAllFs` returns -/
structure Collected (K : Consts) (ts : TypeSystem) (o : Opts) (hp : Heap) (nx : Int) (seeds : List Nat) (st : St) :
    Prop where
  inv : Inv K ts o hp (hp.length + 1) seeds.length st
  rinv : RInv K ts o hp (hp.length + 1) seeds st
  cinv : CInv K ts o hp (hp.length + 1) st
  oinv : OInv hp nx st
  openl : st.openl = []
  /-- ids are kept; an id the final heap has in addition was generated -/
  fut : Fut hp nx st.heap st.nextXid
  /-- the objects are those of the initial heap, ids aside -/
  same : ∀ (a : Nat) (ob : Obj), hp[a]? = some ob → st.heap[a]? = some { ob with xid := xidOf st.heap a }

theorem findAllFs_collected {K : Consts} {ts : TypeSystem} {o : Opts} {hp : Heap} {nx : Int} {seeds : List Nat}
    {st : St} (hnx : 0 < nx) (h : findAllFs K ts o hp nx seeds = .ok st) : Collected K ts o hp nx seeds st := by
  obtain ⟨hi, ho⟩ := run_ok h
  obtain ⟨inv, r, c, oi⟩ := start_invs hnx hi
  refine ⟨inv, r, c, oi, ho, hi.fut, ?_⟩
  have := findAllFs_pres (fun hp' _ => ∀ (a : Nat) (ob : Obj), hp[a]? = some ob → hp'[a]? = some { ob with xid := xidOf hp' a })
    (fun hp' nx' b ob' hP hob' _ a ob hob => by
      by_cases hab : b = a
      · subst hab
        have h1 := hP b ob hob
        rw [hob'] at h1
        rw [xidOf_set_self hob', List.getElem?_set_self (List.getElem?_eq_some_iff.mp hob').1, Option.some.inj h1]
      · rw [xidOf_set_ne _ hab, List.getElem?_set_ne hab]; exact hP a ob hob)
    K ts o hp nx seeds st (fun a ob hob => by rw [hob, xidOf_eq hob]) h
  exact this

section
variable {K : Consts} {ts : TypeSystem} {o : Opts} {hp : Heap} {nx : Int} {seeds : List Nat} {st : St}

theorem Collected.link (c : Collected K ts o hp nx seeds st) {x : Int} {a : Nat} (h : (x, a) ∈ st.allFs) :
    xidOf st.heap a = some x ∧ x ≠ 0 := ⟨c.inv.link x a h, c.rinv.ids x a h⟩

theorem Collected.reach_iff (c : Collected K ts o hp nx seeds st) (hnx : 0 < nx) (lf a : Nat) :
    Reach K ts o st.heap lf seeds a ↔ Reach K ts o hp lf seeds a :=
  ⟨Reach.back c.inv.shape, Reach.mono c.fut hnx⟩

/-- **what is collected**: exactly the structures reachable in the heap handed over, the NULL object aside -/
theorem Collected.mem_iff (c : Collected K ts o hp nx seeds st) (hnx : 0 < nx) (a : Nat) :
    a ∈ st.allFs.map (·.2) ↔ Reach K ts o hp (hp.length + 1) seeds a ∧ xidOf hp a ≠ some 0 := by
  constructor
  · intro ha
    refine ⟨(c.reach_iff hnx _ a).mp (c.rinv.sound a (.inl ha)), fun h0 => ?_⟩
    obtain ⟨⟨x, a'⟩, hm, rfl⟩ := List.mem_map.mp ha
    have := c.link hm
    rw [c.inv.shape.xidOf h0] at this
    exact this.2 (Option.some.inj this.1).symm
  · rintro ⟨hr, h0⟩
    have h0' : xidOf st.heap a ≠ some 0 := fun e => h0 (c.fut.noNewNull hnx a e)
    induction hr with
    | seed a hs =>
      rcases c.rinv.seedsAcc a hs with hc | hc | hc
      · exact hc
      · rw [c.openl] at hc; cases hc
      · exact absurd hc h0'
    | step a b _ hx hb ih =>
      obtain ⟨⟨y, a'⟩, hm, rfl⟩ := List.mem_map.mp (ih hx (fun e => hx (c.fut.noNewNull hnx _ e)))
      rcases c.rinv.closed y a' hm b hb with hc | hc | hc
      · exact hc
      · rw [c.openl] at hc; cases hc
      · exact absurd hc h0'

theorem Collected.heap_eq (c : Collected K ts o hp nx seeds st) (hnx : 0 < nx)
    (hall : ∀ a, Reach K ts o hp (hp.length + 1) seeds a → xidOf hp a ≠ none) : st.heap = hp := by
  have hx : ∀ a, xidOf st.heap a = xidOf hp a := by
    intro a
    by_cases ha : a ∈ st.allFs.map (·.2)
    · cases h0 : xidOf hp a with
      | none => exact absurd h0 (hall a ((c.mem_iff hnx a).mp ha).1)
      | some y => exact c.inv.shape.xidOf h0
    · exact c.cinv.untouched a ha
  apply List.ext_getElem? fun a => ?_
  cases h : hp[a]? with
  | none => exact List.getElem?_eq_none (c.inv.shape.1 ▸ List.getElem?_eq_none_iff.mp h)
  | some ob =>
    rw [c.same a ob h, hx a, xidOf_eq h]

theorem Collected.kept (c : Collected K ts o hp nx seeds st) (hnx : 0 < nx) {a : Nat} {x : Int} (hx : x ≠ 0)
    (hr : Reach K ts o hp (hp.length + 1) seeds a) (hxa : xidOf hp a = some x) : (x, a) ∈ st.allFs := by
  obtain ⟨⟨y, a'⟩, hm, rfl⟩ := List.mem_map.mp
    ((c.mem_iff hnx a).mpr ⟨hr, by rw [hxa]; exact fun e => hx (Option.some.inj e)⟩)
  have := (c.link hm).1
  rw [c.inv.shape.xidOf hxa] at this; cases this
  exact hm

end

/-! ### when the traversal fails, and when it succeeds -/

/-- a failing iteration on an expandable structure: `ValueError`, because the structure has no id and id generation is
    off, or because its id (kept or about to be generated) is registered for another structure -/
theorem step_fails (K : Consts) (ts : TypeSystem) (o : Opts) (hp0 : Heap) (lf : Nat) (s : St) (a : Nat)
    (rest : List Nat) (sh : SameShape hp0 s.heap) (hpos : 0 < s.nextXid) (hexp : Expandable K ts o hp0 lf a)
    (e : Err) (h : step K ts o lf s a rest = .error e) :
    e = .valueError ∧ ((xidOf s.heap a = none ∧ o.generateIds = false) ∨
      ∃ x b, x ≠ 0 ∧ (x, b) ∈ s.allFs ∧ b ≠ a ∧
        (xidOf s.heap a = some x ∨ (xidOf s.heap a = none ∧ x = s.nextXid))) := by
  obtain ⟨ob0, hob0, hcase⟩ := hexp
  obtain ⟨ob, hob, hty, _, hxid⟩ := sh.2 a ob0 hob0
  have hslot : ∀ b n, slot s.heap b n = slot hp0 b n := fun b n => sh.slot b n
  have hxa : xidOf s.heap a = ob.xid := xidOf_eq hob
  have hnull : ob0.xid = some 0 → ob.xid = some 0 := fun h0 => by
    rw [hxid (by rw [h0]; exact fun e => nomatch e), h0]
  cases hx : ob.xid with
  | some x =>
    rw [step_some K ts o lf s a rest ob x hob hx] at h
    rcases hcase with h0 | ⟨t, r, ht, hn⟩
    · rw [hnull h0] at hx; cases hx; cases h
    · obtain ⟨he, hx0, b, hm, hba⟩ :=
        stepCore_error K ts o hp0 lf s a rest ob x hslot t r (by rw [hty]; exact ht) hn e h
      exact ⟨he, .inr ⟨x, b, hx0, hm, hba, Or.inl (hxa.trans hx)⟩⟩
  | none =>
    rw [step_none K ts o lf s a rest ob hob hx (by omega)] at h
    split at h
    · rcases hcase with h0 | ⟨t, r, ht, hn⟩
      · rw [hnull h0] at hx; cases hx
      · obtain ⟨he, hx0, b, hm, hba⟩ := stepCore_error K ts o hp0 lf
          { s with nextXid := s.nextXid + 1, heap := s.heap.set a { ob with xid := some s.nextXid } }
          a rest ob s.nextXid (fun b n => (slot_set_xid hob _ b n).trans (hslot b n)) t r
          (by rw [hty]; exact ht) hn e h
        exact ⟨he, .inr ⟨s.nextXid, b, hx0, hm, hba, Or.inr ⟨hxa.trans hx, rfl⟩⟩⟩
    · rename_i hgen
      cases h
      exact ⟨rfl, .inl ⟨hxa.trans hx, by simpa using hgen⟩⟩

/-- **when the traversal succeeds**: every reachable structure can be expanded, no two different reachable
    structures share an id, and either ids are generated and the ids of the reachable structures are below the
    generator, or every reachable structure carries an id -/
theorem findAllFs_ok_of (K : Consts) (ts : TypeSystem) (o : Opts) (hp : Heap) (nx : Int) (seeds : List Nat)
    (hnx : 0 < nx)
    (hexp : ∀ a, Reach K ts o hp (hp.length + 1) seeds a → Expandable K ts o hp (hp.length + 1) a)
    (hnd : ¬ ReachableDuplicate K ts o hp seeds)
    (hid : (o.generateIds = true ∧ ∀ a x, Reach K ts o hp (hp.length + 1) seeds a → xidOf hp a = some x → x < nx) ∨
      ∀ a, Reach K ts o hp (hp.length + 1) seeds a → xidOf hp a ≠ none) :
    ∃ st, findAllFs K ts o hp nx seeds = .ok st := by
  cases h : findAllFs K ts o hp nx seeds with
  | ok st => exact ⟨st, rfl⟩
  | error e =>
    exfalso
    obtain ⟨s, a, rest, hi, ho, hs⟩ := findAllFs_error_iter h
    obtain ⟨inv, r, c, oi⟩ := start_invs hnx hi
    have hra := Reach.back inv.shape (r.sound a (Or.inr (by rw [ho]; exact List.mem_cons_self)))
    have kept : ∀ b y, xidOf hp b = some y → xidOf s.heap b = some y := fun b y hb => inv.shape.xidOf hb
    rcases (step_fails K ts o hp _ s a rest inv.shape r.pos (hexp a hra) e hs).2 with ⟨hxa, hgen⟩ |
      ⟨x, b, hx0, hm, hba, hxa⟩
    · rcases hid with ⟨hg, _⟩ | hall
      · rw [hg] at hgen; cases hgen
      · cases h0 : xidOf hp a with
        | none => exact hall a hra h0
        | some y => rw [kept a y h0] at hxa; cases hxa
    · have hxb : xidOf s.heap b = some x := inv.link x b hm
      have hrb := Reach.back inv.shape (r.sound b (Or.inl (List.mem_map.mpr ⟨(x, b), hm, rfl⟩)))
      have assigned : ∀ c y, xidOf hp c = none → xidOf s.heap c = some y → (y, c) ∈ s.allFs := by
        intro c' y h0 h1
        have hc : c' ∈ s.allFs.map (·.2) := by
          refine Classical.byContradiction fun hn => ?_
          rw [c.untouched c' hn, h0] at h1; cases h1
        obtain ⟨⟨z, c''⟩, hz, rfl⟩ := List.mem_map.mp hc
        have := inv.link z c'' hz
        rw [h1] at this; cases this
        exact hz
      rcases hxa with hxa | ⟨hxa, rfl⟩
      · cases ha0 : xidOf hp a with
        | none => exact hba (congrArg Prod.snd (Det.inj_of_nodup_map (·.1) _ inv.nodupK hm (assigned a x ha0 hxa) rfl))
        | some ya =>
          have e1 := kept a ya ha0
          rw [hxa] at e1; cases e1
          rcases oi.origin x b hm with hb0 | ⟨hb0, hge, _⟩
          · exact hnd ⟨a, b, x, fun e => hba e.symm, hx0, hra, hrb, ha0, hb0⟩
          · rcases hid with ⟨_, hbelow⟩ | hall
            · have := hbelow a x hra ha0; omega
            · exact hall b hrb hb0
      · rcases oi.origin _ b hm with hb0 | ⟨_, _, hlt⟩
        · rcases hid with ⟨_, hbelow⟩ | hall
          · have := hbelow b _ hrb hb0; have := oi.le; omega
          · cases h0 : xidOf hp a with
            | none => exact hall a hra h0
            | some y => rw [kept a y h0] at hxa; cases hxa
        · omega

/-- when every reachable structure carries an id the generator is not consulted: the traversal succeeds for any
    value of it, leaves the heap as it is and collects reachable structures only -/
theorem findAllFs_ok_of_ids (K : Consts) (ts : TypeSystem) (o : Opts) (hp : Heap) (nx : Int) (seeds : List Nat)
    (hexp : ∀ a, Reach K ts o hp (hp.length + 1) seeds a → Expandable K ts o hp (hp.length + 1) a)
    (hnd : ¬ ReachableDuplicate K ts o hp seeds)
    (hall : ∀ a, Reach K ts o hp (hp.length + 1) seeds a → xidOf hp a ≠ none) :
    ∃ st, findAllFs K ts o hp nx seeds = .ok st ∧ st.heap = hp ∧
      ∀ q ∈ st.allFs, Reach K ts o hp (hp.length + 1) seeds q.2 := by
  obtain ⟨st1, h1⟩ := findAllFs_ok_of K ts o hp 1 seeds Int.one_pos hexp hnd (.inr hall)
  have c := findAllFs_collected Int.one_pos h1
  obtain ⟨hi, ho⟩ := run_ok h1
  refine ⟨{ st1 with nextXid := nx }, (findAllFs_ok_iff_iter ..).mpr ⟨hi.nextXid nx fun s a rest hs hop => ?_, ho⟩,
    c.heap_eq Int.one_pos hall, fun q hq => ((c.mem_iff Int.one_pos q.2).mp (List.mem_map.mpr ⟨q, hq, rfl⟩)).1⟩
  -- a popped structure is reachable, so it carries an id
  obtain ⟨inv, r, _, _⟩ := start_invs Int.one_pos hs
  have hra := Reach.back inv.shape (r.sound a (Or.inr (by rw [hop]; exact List.mem_cons_self)))
  cases h0 : xidOf hp a with
  | none => exact absurd h0 (hall a hra)
  | some x =>
    obtain ⟨ob, hob, hx⟩ := xidOf_some (inv.shape.xidOf h0)
    exact ⟨ob, x, hob, hx⟩

/-- every member of `S` has a registered type, and its successors — against the empty visited map — compute and lie
    in `S`: with the seeds in `S`, what the hypotheses of `findAllFs_ok_of` ask of the reachable structures can be
    checked on `S` -/
def Closed (K : Consts) (ts : TypeSystem) (o : Opts) (hp : Heap) (S : Nat → Prop) : Prop :=
  ∀ a, S a → ∃ (ob : Obj) (t : TypeRec) (ps : List Nat) (n : Nat), hp[a]? = some ob ∧
    getType ts ob.ty = .ok t ∧ nodeSuccs K ts o hp [] (hp.length + 1) a t = .ok (ps, n) ∧ ∀ b ∈ ps, S b

section
variable {K : Consts} {ts : TypeSystem} {o : Opts} {hp : Heap} {S : Nat → Prop} {seeds : List Nat}

theorem Closed.expandable (hS : Closed K ts o hp S) {a : Nat} (ha : S a) : Expandable K ts o hp (hp.length + 1) a :=
  let ⟨ob, t, _, _, hob, ht, hn, _⟩ := hS a ha
  ⟨ob, hob, .inr ⟨t, _, ht, hn⟩⟩

theorem Closed.reach (hS : Closed K ts o hp S) (hseeds : ∀ a ∈ seeds, S a) {a : Nat}
    (h : Reach K ts o hp (hp.length + 1) seeds a) : S a :=
  Reach.sub hseeds (fun a ha _ b hb => by
    obtain ⟨ob, t, ps, n, hob, ht, hn, hps⟩ := hS a ha
    rw [succsOf_eq K ts o hob ht hn] at hb
    exact hps b hb) h

theorem Closed.noDup (hS : Closed K ts o hp S) (hseeds : ∀ a ∈ seeds, S a)
    (hinj : ∀ a b, S a → S b → ∀ x, xidOf hp a = some x → xidOf hp b = some x → a = b) :
    ¬ ReachableDuplicate K ts o hp seeds :=
  fun ⟨a, b, x, hab, _, ha, hb, hxa, hxb⟩ => hab (hinj a b (hS.reach hseeds ha) (hS.reach hseeds hb) x hxa hxb)

end

/-- `findAllFs_ok_of`, ids generated, over a `Closed` set that contains the seeds: the traversal succeeds when the ids
    present in `S` are pairwise different and below the generator; everything collected lies in `S` -/
theorem findAllFs_ok_of_closed_gen (K : Consts) (ts : TypeSystem) (o : Opts) (hgen : o.generateIds = true) (hp : Heap)
    (nx : Int) (seeds : List Nat) (S : Nat → Prop) (hseeds : ∀ a ∈ seeds, S a) (hS : Closed K ts o hp S)
    (hbelow : ∀ a, S a → ∀ x, xidOf hp a = some x → x < nx)
    (hinj : ∀ a b, S a → S b → ∀ x, xidOf hp a = some x → xidOf hp b = some x → a = b)
    (hnx : 0 < nx) (hnz : ∀ a, S a → xidOf hp a ≠ some 0) :
    ∃ st : St, findAllFs K ts o hp nx seeds = .ok st ∧ (∀ q ∈ st.allFs, S q.2) ∧
      (∀ a, S a → xidOf st.heap a ≠ some 0) ∧
      ∀ a, S a → ∀ x, xidOf st.heap a = some x → xidOf hp a = some x ∨ nx ≤ x := by
  obtain ⟨st, hfa⟩ := findAllFs_ok_of K ts o hp nx seeds hnx (fun a ha => hS.expandable (hS.reach hseeds ha))
    (hS.noDup hseeds hinj) (.inl ⟨hgen, fun a x ha hx => hbelow a (hS.reach hseeds ha) x hx⟩)
  have c := findAllFs_collected hnx hfa
  refine ⟨st, hfa, fun q hq => hS.reach hseeds ((c.mem_iff hnx q.2).mp (List.mem_map.mpr ⟨q, hq, rfl⟩)).1,
    fun a ha h0 => hnz a ha (c.fut.noNewNull hnx a h0), fun a _ x hx => ?_⟩
  cases h0 : xidOf hp a with
  | none => exact .inr (c.fut.fresh a x h0 hx)
  | some y => rw [c.inv.shape.xidOf h0] at hx; exact .inl hx

/-- `findAllFs_ok_of_ids` over a `Closed` set that contains the seeds, whose members carry pairwise different ids -/
theorem findAllFs_ok_of_closed_ids (K : Consts) (ts : TypeSystem) (o : Opts) (hp : Heap) (nx : Int) (seeds : List Nat)
    (S : Nat → Prop) (hseeds : ∀ a ∈ seeds, S a) (hS : Closed K ts o hp S) (hall : ∀ a, S a → xidOf hp a ≠ none)
    (hinj : ∀ a b, S a → S b → xidOf hp a = xidOf hp b → a = b) :
    ∃ st : St, findAllFs K ts o hp nx seeds = .ok st ∧ st.heap = hp ∧ ∀ q ∈ st.allFs, S q.2 := by
  obtain ⟨st, hfa, hheap, hr⟩ := findAllFs_ok_of_ids K ts o hp nx seeds
    (fun a ha => hS.expandable (hS.reach hseeds ha))
    (hS.noDup hseeds fun a b ha hb _ hxa hxb => hinj a b ha hb (hxa.trans hxb.symm))
    (fun a ha => hall a (hS.reach hseeds ha))
  exact ⟨st, hfa, hheap, fun q hq => hS.reach hseeds (hr q hq)⟩

/-- **the report is exact**, for the reachable part of the heap: the traversal succeeds iff no two different reachable
    structures share an id -/
theorem findAllFs_ok_iff_reachable (K : Consts) (ts : TypeSystem) (o : Opts) (hp : Heap) (nx : Int) (seeds : List Nat)
    (hnx : 0 < nx)
    (hid : (o.generateIds = true ∧ ∀ a x, Reach K ts o hp (hp.length + 1) seeds a → xidOf hp a = some x → x < nx) ∨
      ∀ a, Reach K ts o hp (hp.length + 1) seeds a → xidOf hp a ≠ none)
    (hsafe : ∀ c, Reach K ts o hp (hp.length + 1) seeds c → Expandable K ts o hp (hp.length + 1) c) :
    (∃ st, findAllFs K ts o hp nx seeds = .ok st) ↔ ¬ ReachableDuplicate K ts o hp seeds := by
  refine ⟨fun ⟨st, h⟩ ⟨a, b, x, hab, hx, ha, hb, hxa, hxb⟩ => ?_, fun hnd => findAllFs_ok_of K ts o hp nx seeds hnx hsafe hnd hid⟩
  have c := findAllFs_collected hnx h
  exact hab (congrArg Prod.snd (Det.inj_of_nodup_map (·.1) _ c.inv.nodupK (c.kept hnx hx ha hxa) (c.kept hnx hx hb hxb) rfl))

end Cassis.Traverse
