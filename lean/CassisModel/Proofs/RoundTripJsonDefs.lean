/-
Shared definitions of the proof of the JSON round trip (`Properties/C02RoundTrip*.lean`).

Notation as in `RoundTripDefs.lean`: `H` the heap that is written (`st.heap`), `L` the collected structures
`(id, address in H)` in document order (`sortById st.allFs`), `na` the new address of the structure with a given id,
`ci'` the index of the CAS that is being loaded.  The JSON reader has no `cas:NULL` object: read over a base heap `B`, the
`k`-th structure of the document sits at `B.length + k` (`naOf B L`; the round trip starts the reader on `H` itself).
What the traversal guarantees about the collected structures (`LOk`) is in `RoundTripCollected.lean`, for arbitrary
traversal options (the JSON writer includes inlinable structures).
-/
import CassisModel.Spec.RoundTripJson
import CassisModel.Proofs.RoundTripCollected
import CassisModel.Proofs.Pass3Member
import CassisModel.Proofs.Pass3BuildCas
import CassisModel.Proofs.JsonWriter

namespace Cassis.Json
open Cassis.TS Cassis.Traverse Cassis.Xmi

/-- the new address of the structure with id `x` -/
def naOf (H : Heap) (L : List (Int × Nat)) (x : Int) : Nat := H.length + posOf x L

/-- the entries of the reader's id map after the sofa pass -/
def sofaEntries (ci' : Nat) (views : List (String × View)) : List (Int × Val) :=
  views.map (fun nv => (nv.2.sofa.xid, Val.sofa ci' nv.1))

/-- the views after the sofa pass: the sofas are back, the indexes are empty -/
def bareViews (views : List (String × View)) : List (String × View) :=
  views.map (fun nv => (nv.1, ({ sofa := nv.2.sofa, idx := [] } : View)))

/-- the view record of the document, members named by the ids of the heap that was written -/
def jviewH (H : Heap) (nv : String × View) : JView :=
  { name := nv.2.sofa.sofaID, sofa := some nv.2.sofa.xid, members := (pviewOf H nv).members }

/-- a loaded view against the view that was written: same key, same sofa, the index holds exactly the members, at
    their new addresses -/
def ViewRelJ (H : Heap) (na : Int → Nat) (nv nv' : String × View) : Prop :=
  nv'.1 = nv.1 ∧ nv'.2.sofa = nv.2.sofa ∧
  ((Index.all nv'.2.idx).map (·.oid)).Perm ((pviewOf H nv).members.map na)

def ViewsRelJ (H : Heap) (na : Int → Nat) : List (String × View) → List (String × View) → Prop
  | [], [] => True
  | nv :: r, nv' :: r' => ViewRelJ H na nv nv' ∧ ViewsRelJ H na r r'
  | _, _ => False

/-- the listwise relation of the views is `All2` of the relation of single views -/
theorem ViewsRelJ.all2 {H : Heap} {na : Int → Nat} : ∀ {l l' : List (String × View)},
    ViewsRelJ H na l l' → RTB.All2 (ViewRelJ H na) l l'
  | [], [], _ => trivial
  | _ :: _, _ :: _, ⟨h1, h2⟩ => ⟨h1, ViewsRelJ.all2 h2⟩
  | [], _ :: _, h => h.elim
  | _ :: _, [], h => h.elim

theorem ViewsRelJ.of_all2 {H : Heap} {na : Int → Nat} : ∀ {l l' : List (String × View)},
    RTB.All2 (ViewRelJ H na) l l' → ViewsRelJ H na l l'
  | [], [], _ => trivial
  | _ :: _, _ :: _, ⟨h1, h2⟩ => ⟨h1, ViewsRelJ.of_all2 h2⟩
  | [], _ :: _, h => h.elim
  | _ :: _, [], h => h.elim

end Cassis.Json
