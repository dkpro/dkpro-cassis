/-
Soundness of the Boolean test `renderCollAppliesB` (`Spec/ComparableIsoCollCheck.lean`) for the hypotheses of
`render_xmi_roundtrip_coll`.
-/
import CassisModel.Spec.ComparableIsoCollCheck
import CassisModel.Proofs.RoundTripCollCheckSound

namespace Cassis.Comparable
open Cassis.TS Cassis.Traverse Cassis.Xmi

theorem noEmptyAt_sound {H : Heap} {a : Nat} (h : noEmptyAt H a = true) {ev : Val}
    (hev : Traverse.slot H a "elements" = some ev) : NoEmptyStr ev := by
  unfold noEmptyAt at h
  rw [hev] at h
  exact of_decide_eq_true h

theorem inlOkB_sound {K : Consts} {ts : TypeSystem} {H : Heap} {addrs : List Nat} {a : Nat}
    (h : inlOkB K ts H addrs a = true) : InlOk K ts H addrs a := by
  unfold inlOkB at h
  rw [Bool.and_eq_true] at h
  obtain ⟨h1, h2⟩ := h
  have hfeat : ∀ (o : Obj) (t : TypeRec) (f : Feature) (cc : Nat), H[a]? = some o → find? ts o.ty = some t →
      f ∈ allFeatures t → Xmi.isInline K f = true → alistGet? o.slots f.name = some (.ref cc) →
      (if isArray K f.range then isArrayFs K H cc && noEmptyAt H cc
        else !(isArrayFs K H cc) && addrs.all (fun b => decide (xidOf H b ≠ xidOf H cc))) = true := by
    intro o t f cc ho ht hf hi hv
    rw [ho] at h2
    simp only [ht] at h2
    have := List.all_eq_true.mp h2 f hf
    simp only [hi, Bool.not_true, Bool.false_or, hv] at this
    exact this
  refine ⟨fun ev hev => noEmptyAt_sound h1 hev, ?_, ?_⟩
  · intro o t f cc ho ht hf hi harr hv
    have := hfeat o t f cc ho ht hf hi hv
    rw [if_pos harr, Bool.and_eq_true] at this
    exact ⟨this.1, fun ev hev => noEmptyAt_sound this.2 hev⟩
  · intro o t f cc ho ht hf hi harr hv
    have := hfeat o t f cc ho ht hf hi hv
    rw [if_neg (by rw [harr]; exact Bool.false_ne_true), Bool.and_eq_true] at this
    refine ⟨by simpa using this.1, fun b hb => ?_⟩
    exact of_decide_eq_true (List.all_eq_true.mp this.2 b hb)

theorem nodeTysNotArrB_sound {K : Consts} (h : nodeTysNotArrB K = true) : NodeTysNotArr K := by
  intro n hn
  have := List.all_eq_true.mp h n hn
  simpa using this

theorem distinctB_sound {hp : Heap} {addrs : List Nat} (h : distinctB hp addrs = true) : Distinct hp addrs := by
  intro a ha b hb hne hty
  have := List.all_eq_true.mp (List.all_eq_true.mp h a ha) b hb
  simp only [Bool.or_eq_true, beq_iff_eq, bne_iff_ne, ne_eq, Bool.and_eq_true] at this
  rcases this with (h1 | h1) | ⟨⟨h1, h2⟩, h3⟩
  · exact absurd h1 hne
  · exact absurd hty h1
  · exact ⟨h1, h2, h3⟩

theorem renderCollAppliesB_hyps (K : Consts) (ts : TypeSystem) (cass : List Cas) (ci : Nat) (hp : Heap)
    (h : renderCollAppliesB K ts cass ci hp = true) :
    ∃ (c : Cas) (doc : XDoc) (st : Traverse.St), cass[ci]? = some c ∧ saveXmi K ts cass ci hp = .ok (doc, st) ∧
      RTWf c hp ∧ NullOk ts ∧ (∀ q ∈ st.allFs, CollFs K ts c ci st.heap q.2) ∧
      (∀ nv ∈ c.views, ∀ e ∈ Index.all nv.2.idx, Xmi.slot st.heap e.oid "sofa" ≠ some .none) ∧
      MembersOk c st.heap ∧
      Distinct st.heap (st.allFs.map (·.2)) ∧ NodeTysNotArr K ∧
      (∀ q ∈ st.allFs, InlOk K ts st.heap (st.allFs.map (·.2)) q.2) := by
  unfold renderCollAppliesB at h
  rw [Bool.and_eq_true] at h
  obtain ⟨h1, h2⟩ := h
  obtain ⟨c, doc, st, hc, hs, hwf, hn, hf, _, hm, hmo⟩ := collAppliesB_hyps K ts cass ci hp h1
  unfold renderCollExtraB at h2
  rw [hs] at h2
  simp only [Bool.and_eq_true] at h2
  obtain ⟨⟨h3, h4⟩, h5⟩ := h2
  exact ⟨c, doc, st, hc, hs, hwf, hn, hf, hm, hmo, distinctB_sound h3, nodeTysNotArrB_sound h4,
    fun q hq => inlOkB_sound (List.all_eq_true.mp h5 q hq)⟩

end Cassis.Comparable
