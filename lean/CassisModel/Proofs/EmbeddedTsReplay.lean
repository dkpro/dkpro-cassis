/-
The two passes of the `%TYPES` reader replayed inside the original type system (`Properties/C02EmbeddedTs.lean`).  First
the `%TYPES` section of a document (the type-system mode of the writer decides which records are declared and influences
nothing else), then the first pass (types, supertypes first) and the second pass (features) as a simulation inside the
original, for any list of written records that is closed (`RecsOk`) — all of them (FULL) or the closure of the used ones
(MINIMAL).
-/
import CassisModel.Proofs.ApiHistory
import CassisModel.Proofs.EmbeddedTsPlainDecls
import CassisModel.Proofs.ChainEmbProvenance
import CassisModel.Properties.C02
import CassisModel.Properties.C10
import CassisModel.Properties.C11
import CassisModel.Proofs.MergeReplay

namespace Cassis.Json
open Cassis.TS

theorem modeRecs_mem {K : Consts} {ts : TypeSystem} {st : Traverse.St} {m : Mode} {l : List TypeRec}
    (h : modeRecs K ts st m = some l) : ∀ t ∈ l, t ∈ ts.types := by
  intro t ht
  cases m with
  | none => cases h
  | full => cases h; exact ((mem_fullRecs K ts t).mp ht).1
  | minimal =>
    cases h
    obtain ⟨_, n, _, hn⟩ := mem_minRecs.mp ht
    exact find?_mem hn

/-- **the mode influences the `%TYPES` section only** -/
theorem saveJson_mode_iff {K : Consts} {ts : TypeSystem} {cass : List Cas} {ci : Nat} {hp : Heap} {m : Mode} {doc : JDoc}
    {st : Traverse.St} :
    saveJson K ts cass ci hp m = .ok (doc, st) ↔
      ∃ d decls, saveJson K ts cass ci hp .none = .ok (d, st) ∧
        renderTypes K (modeRecs K ts st m) = .ok decls ∧ doc = { d with types := decls } := by
  constructor
  · intro h
    obtain ⟨c, parts, es, decls, hc, h1, h2, h3, h4, rfl⟩ := saveJson_ok_iff.mp h
    exact ⟨_, decls, saveJson_ok_iff.mpr ⟨c, parts, es, none, hc, h1, h2, h3, rfl, rfl⟩, h4, rfl⟩
  · rintro ⟨d, decls, h0, hr, rfl⟩
    obtain ⟨c, parts, es, _, hc, h1, h2, h3, _, rfl⟩ := saveJson_ok_iff.mp h0
    exact saveJson_ok_iff.mpr ⟨c, parts, es, decls, hc, h1, h2, h3, hr, rfl⟩

theorem renderTypes_some {K : Consts} {l : List TypeRec} {ds : Option (List JType)}
    (h : renderTypes K (some l) = .ok ds) : ∃ decls, renderTypeDecls K l = .ok decls ∧ ds = some decls := by
  simp only [renderTypes] at h
  cases hd : renderTypeDecls K l with
  | error e => rw [hd] at h; cases h
  | ok decls => rw [hd] at h; cases h; exact ⟨decls, rfl, rfl⟩

theorem saveJson_to_none_aux (K : Consts) (ts : TypeSystem) (cass : List Cas) (ci : Nat) (hp : Heap) (m : Mode)
    (doc : JDoc) (st : Traverse.St) (h : saveJson K ts cass ci hp m = .ok (doc, st)) :
    ∃ doc', saveJson K ts cass ci hp .none = .ok (doc', st) ∧ doc'.fss = doc.fss ∧ doc'.views = doc.views := by
  obtain ⟨d, _, h0, _, rfl⟩ := saveJson_mode_iff.mp h
  exact ⟨d, h0, rfl, rfl⟩

/-- needs `hnp`: a feature named `%NAME` makes the `%TYPES` writer raise -/
theorem saveJson_mode_fss_aux (K : Consts) (ts : TypeSystem) (hnp : NoPercentNames ts) (cass : List Cas) (ci : Nat)
    (hp : Heap) (m m' : Mode) (doc : JDoc) (st : Traverse.St) (h : saveJson K ts cass ci hp m = .ok (doc, st)) :
    ∃ doc', saveJson K ts cass ci hp m' = .ok (doc', st) ∧ doc'.fss = doc.fss ∧ doc'.views = doc.views := by
  obtain ⟨d, _, h0, _, rfl⟩ := saveJson_mode_iff.mp h
  obtain ⟨ds, hr⟩ : ∃ ds, renderTypes K (modeRecs K ts st m') = .ok ds := by
    cases hm : modeRecs K ts st m' with
    | none => exact ⟨none, rfl⟩
    | some l =>
      simp only [renderTypes]
      rw [renderTypeDecls_noPct K l (fun t ht => hnp t (modeRecs_mem hm t ht))]
      exact ⟨_, rfl⟩
  exact ⟨_, saveJson_mode_iff.mpr ⟨d, ds, h0, hr, rfl⟩, rfl, rfl⟩

theorem saveJson_full_types (K : Consts) (ts : TypeSystem) (cass : List Cas) (ci : Nat) (hp : Heap)
    (doc : JDoc) (st : Traverse.St) (h : saveJson K ts cass ci hp .full = .ok (doc, st)) :
    ∃ decls, renderTypeDecls K (fullRecs K ts) = .ok decls ∧ doc.types = some decls := by
  obtain ⟨d, ds, _, hr, rfl⟩ := saveJson_mode_iff.mp h
  exact renderTypes_some hr

theorem saveJson_types {K : Consts} {ts : TypeSystem} {cass : List Cas} {ci : Nat} {hp : Heap} {m : Mode} {doc : JDoc}
    {st : Traverse.St} (hnp : NoPercentNames ts) (h : saveJson K ts cass ci hp m = .ok (doc, st)) {R : List TypeRec}
    (hm : modeRecs K ts st m = some R) : doc.types = some (R.map (renderTypeDecl0 K)) := by
  obtain ⟨d, ds, _, hr, rfl⟩ := saveJson_mode_iff.mp h
  rw [hm] at hr
  obtain ⟨decls, hd, rfl⟩ := renderTypes_some hr
  rw [renderTypeDecls_noPct K R (fun t ht => hnp t (modeRecs_mem hm t ht))] at hd
  cases hd
  rfl

/-- one step of the first pass -/
def typeStep (K : Consts) (types : List JType) (ts : TypeSystem) (n : String) : Except Err TypeSystem :=
  if K.predefined.contains n || hasExact ts n then pure ts
  else match types.find? (fun t => t.name == n) with
    | some jt => createType K ts n jt.super jt.descr
    | none => throw Err.keyError

/-- one feature of the second pass -/
def featStep (K : Consts) (dom : String) (ts : TypeSystem) (jf : JFeat) : Except Err TypeSystem :=
  let isArr := jf.range.endsWith "[]"
  let elemT := if isArr then some (String.ofList (jf.range.toList.dropLast.dropLast)) else jf.elem
  let rangeT := if isArr then arrayTypeNameFor ((elemT.getD "")) else jf.range
  let elemT := if isArr && isPrimitiveArray K rangeT then none else elemT
  createFeature ts dom jf.name rangeT elemT jf.descr jf.multi

/-- one declaration of the second pass -/
def featsStep (K : Consts) (ts : TypeSystem) (jt : JType) : Except Err TypeSystem := do
  let t ← getType ts jt.name
  jt.feats.foldlM (featStep K t.name) ts

/-- on declarations without feature names starting with `%` (nothing is shadowed, nothing is skipped) -/
theorem loadEmbeddedTs_eq (K : Consts) (types : List JType)
    (hdoc : types.any (fun t => t.name == "DocumentAnnotation") = false)
    (hnp : ∀ jt ∈ types, ∀ jf ∈ jt.feats, jf.name.startsWith "%" = false) :
    loadEmbeddedTs K types = (do
      let order ← toposort types
      let ts1 ← order.foldlM (typeStep K types) Gen.builtinTS
      types.foldlM (featsStep K) ts1) := by
  have hsup : types.any (fun t => t.feats.any (fun f => f.name == "%SUPER_TYPE")) = false := by
    rw [List.any_eq_false]
    intro t ht hc
    rw [any_name_eq_false _ "%SUPER_TYPE" (by simp) (hnp t ht)] at hc
    cases hc
  have key : ∀ (F : TypeSystem → String → Except Err TypeSystem) (G : TypeSystem → JType → Except Err TypeSystem),
      F = typeStep K types → (∀ ts1, types.foldlM G ts1 = types.foldlM (featsStep K) ts1) →
      (do
        let order ← toposort types
        let ts1 ← order.foldlM F Gen.builtinTS
        types.foldlM G ts1) = (do
        let order ← toposort types
        let ts1 ← order.foldlM (typeStep K types) Gen.builtinTS
        types.foldlM (featsStep K) ts1) := by
    intro F G hF hG
    subst hF
    simp only [bind, Except.bind]
    cases toposort types with
    | error e => rfl
    | ok order =>
      simp only
      cases List.foldlM (typeStep K types) Gen.builtinTS order with
      | error e => rfl
      | ok ts1 => exact hG ts1
  unfold loadEmbeddedTs
  simp only [hdoc, hsup, Bool.false_eq_true, if_false]
  refine key _ _ ?_ ?_
  · funext ts n
    unfold typeStep
    split
    · rfl
    · cases hf : types.find? (fun t => t.name == n) with
      | none => rfl
      | some jt =>
        have hjt : jt ∈ types := List.mem_of_find?_eq_some hf
        simp only [any_name_eq_false _ "%DESCRIPTION" (by simp) (hnp jt hjt), Bool.false_eq_true, if_false]
  · intro ts1
    apply Det.foldlM_congr
    intro acc jt hjt
    unfold featsStep
    rw [filter_noPct _ (hnp jt hjt)]
    rfl

theorem descr_norm (d : Option String) :
    d ≠ some "" → (match d with | some "" => none | d => d) = d := by
  intro h
  split
  · exact absurd rfl h
  · rfl

/-- the invariant of the simulation: the embedded type system under construction is a consistent part of `o`
    that extends the built-in table; every feature record in it has the name and the flags of an own feature of `o`
    (`Sub` compares up to `Feature.__eq__`, which does not see the flags) -/
structure EInv (o ts : TypeSystem) : Prop where
  cons : Consistent ts
  feat : FeatInv ts
  sub : Sub o ts
  grow : Grow Gen.consts Gen.builtinTS ts
  like : ChainE.RecsP (ChainE.LikeIn o) ts

/-- the name is registered in a fresh type system or declared by a record of `R` -/
def RegName (R : List TypeRec) (x : String) : Prop :=
  hasExact Gen.builtinTS x = true ∨ ∃ t ∈ R, t.name = x

/-- a closed list of written records: every record is one of the FULL records, and the supertype of a record and the
    range and element type of each of its own features are registered in a fresh type system or declared by a record -/
structure RecsOk (o : TypeSystem) (R : List TypeRec) : Prop where
  sub : ∀ t ∈ R, t ∈ fullRecs Gen.consts o
  supClosed : ∀ t ∈ R, ∀ s, t.super = some s → RegName R s
  featClosed : ∀ t ∈ R, ∀ f ∈ t.own, RegName R f.range ∧ ∀ e, f.elem = some e → RegName R e

theorem RecsOk.mem {o : TypeSystem} {R : List TypeRec} (hR : RecsOk o R) {t : TypeRec} (ht : t ∈ R) :
    t ∈ o.types ∧ Gen.consts.predefined.contains t.name = false ∧ t.name ≠ DOCUMENT_ANNOTATION :=
  (mem_fullRecs _ _ _).mp (hR.sub t ht)

theorem types_facts {o : TypeSystem} (ho : Hist o) (hw : Writable Gen.consts o) {R : List TypeRec} (hR : RecsOk o R)
    (jt : JType) (hjt : jt ∈ R.map (renderTypeDecl0 Gen.consts)) :
    ∃ t s, find? o jt.name = some t ∧ t ∈ R ∧ jt = renderTypeDecl0 Gen.consts t ∧
      t.super = some s ∧ jt.super = s ∧ Gen.consts.finalTypes.contains s = false ∧ jt.descr = t.descr := by
  obtain ⟨t, ht, rfl⟩ := List.mem_map.mp hjt
  obtain ⟨hto, hp, hnd⟩ := hR.mem ht
  obtain ⟨s, hs, hnf⟩ := ho.nofinal t hto hp
  refine ⟨t, s, find?_of_mem ho.cons.nodup hto, ht, rfl, hs, ?_, hnf, ?_⟩
  · simp [renderTypeDecl0, hs]
  · exact descr_norm _ (hw.2 t hto hp hnd).1

theorem no_dockey {o : TypeSystem} (hw : Writable Gen.consts o) {L : List TypeRec} (hL : ∀ t ∈ L, t ∈ o.types) :
    (L.map (renderTypeDecl0 Gen.consts)).any (fun t => t.name == "DocumentAnnotation") = false := by
  rw [List.any_eq_false]
  intro jt hjt hn
  obtain ⟨t, ht, rfl⟩ := List.mem_map.mp hjt
  have : hasExact o "DocumentAnnotation" = true :=
    (hasExact_iff_mem o _).mpr (List.mem_map.mpr ⟨t, hL t ht, by simpa [renderTypeDecl0] using hn⟩)
  rw [hw.1] at this; cases this

theorem typesPass {o : TypeSystem} (ho : Hist o) (hw : Writable Gen.consts o) {R : List TypeRec} (hR : RecsOk o R) :
    ∀ (post : List String) (ts : TypeSystem), EInv o ts →
      post.Pairwise (fun a b => ∀ t ∈ R.map (renderTypeDecl0 Gen.consts), t.name = a → t.super = b → b = a) →
      (∀ x ∈ post, (∃ t ∈ R.map (renderTypeDecl0 Gen.consts), t.name = x) ∨
        (∃ t ∈ R.map (renderTypeDecl0 Gen.consts), t.super = x)) →
      (∀ t ∈ R.map (renderTypeDecl0 Gen.consts),
        (t.name ∉ post → hasExact ts t.name = true) ∧ (t.super ∉ post → hasExact ts t.super = true)) →
      ∃ ts', post.foldlM (typeStep Gen.consts (R.map (renderTypeDecl0 Gen.consts))) ts = .ok ts' ∧
        EInv o ts' ∧ ∀ t ∈ R.map (renderTypeDecl0 Gen.consts), hasExact ts' t.name = true := by
  intro post
  induction post with
  | nil =>
    intro ts hi _ _ hreg
    exact ⟨ts, rfl, hi, fun t ht => (hreg t ht).1 List.not_mem_nil⟩
  | cons n post ih =>
    intro ts hi hpw hsrc hreg
    rw [List.pairwise_cons] at hpw
    obtain ⟨hhead, hpw'⟩ := hpw
    have hsrc' := fun x hx => hsrc x (List.mem_cons_of_mem _ hx)
    -- what is registered after the step, given that the step registers `n` and keeps what was registered
    have hreg' : ∀ ts1 : TypeSystem, hasExact ts1 n = true → RegLe ts ts1 →
        ∀ t ∈ R.map (renderTypeDecl0 Gen.consts),
          (t.name ∉ post → hasExact ts1 t.name = true) ∧ (t.super ∉ post → hasExact ts1 t.super = true) := by
      intro ts1 hn hle t ht
      obtain ⟨h1, h2⟩ := hreg t ht
      constructor
      · intro hnp
        by_cases e : t.name = n
        · rw [e]; exact hn
        · exact hle _ (h1 (by simp only [List.mem_cons, not_or]; exact ⟨e, hnp⟩))
      · intro hnp
        by_cases e : t.super = n
        · rw [e]; exact hn
        · exact hle _ (h2 (by simp only [List.mem_cons, not_or]; exact ⟨e, hnp⟩))
    simp only [List.foldlM_cons, bind, Except.bind]
    cases hskip : (Gen.consts.predefined.contains n || hasExact ts n) with
    | true =>
      have hn : hasExact ts n = true := by
        rcases Bool.or_eq_true_iff.mp hskip with h | h
        · exact hi.grow.reg n (builtin_pre n h)
        · exact h
      have hstep : typeStep Gen.consts (R.map (renderTypeDecl0 Gen.consts)) ts n = .ok ts := by
        unfold typeStep; rw [hskip]; rfl
      rw [hstep]
      exact ih ts hi hpw' hsrc' (hreg' ts hn (fun _ h => h))
    | false =>
      obtain ⟨hpre, hnew⟩ := Bool.or_eq_false_iff.mp hskip
      have hdecl : ∃ jt ∈ R.map (renderTypeDecl0 Gen.consts), jt.name = n := by
        rcases hsrc n List.mem_cons_self with h | ⟨jt', hjt', hs'⟩
        · exact h
        · obtain ⟨t', s', _, ht', _, hts', hjs', _, _⟩ := types_facts ho hw hR jt' hjt'
          have hs : s' = n := by rw [← hjs', hs']
          subst hs
          rcases hR.supClosed t' ht' s' hts' with hb | ⟨tn, htn, htnn⟩
          · have : hasExact ts s' = true := hi.grow.reg _ hb
            rw [hnew] at this; cases this
          · exact ⟨renderTypeDecl0 Gen.consts tn, List.mem_map.mpr ⟨tn, htn, rfl⟩, htnn⟩
      obtain ⟨jt1, hjt1, hjn1⟩ := hdecl
      cases hfind : (R.map (renderTypeDecl0 Gen.consts)).find? (fun t => t.name == n) with
      | none =>
        exfalso
        have := List.find?_eq_none.mp hfind jt1 hjt1
        simp [hjn1] at this
      | some jt =>
        have hjt : jt ∈ R.map (renderTypeDecl0 Gen.consts) := List.mem_of_find?_eq_some hfind
        have hjn : jt.name = n := by simpa using List.find?_some hfind
        obtain ⟨t, s, hto, ht, _, hts, hjs, hnf, hjd⟩ := types_facts ho hw hR jt hjt
        rw [hjn] at hto
        have hsn : s ≠ n := by
          intro e
          have := rank_lt ho.cons (hR.mem ht).1 hts
          rw [find?_name hto, e] at this
          exact Nat.lt_irrefl _ this
        -- the supertype comes earlier in the order, or is registered from the start
        have hsreg : hasExact ts s = true := by
          rw [← hjs]
          apply (hreg jt hjt).2
          simp only [List.mem_cons, not_or]
          refine ⟨by rw [hjs]; exact hsn, ?_⟩
          intro hmem
          have := hhead jt.super hmem jt hjt hjn rfl
          rw [hjs] at this
          exact hsn this
        obtain ⟨sup, hsup⟩ := (hasExact_iff_find _ _).mp hsreg
        obtain ⟨ts1, h1, hc1, hf1, hs1, hg1, hreg1⟩ :=
          createType_sub Gen.consts o ho.feat ts n s t sup hi.cons hi.feat hi.sub hnew hsup hnf hto hts
        have hstep : typeStep Gen.consts (R.map (renderTypeDecl0 Gen.consts)) ts n = .ok ts1 := by
          unfold typeStep
          rw [hskip, hfind]
          simp only [Bool.false_eq_true, if_false]
          rw [hjs, hjd]; exact h1
        rw [hstep]
        exact ih ts1 ⟨hc1, hf1, hs1, hi.grow.trans hg1, ChainE.recsP_createType hi.like h1⟩ hpw' hsrc' (hreg' ts1 hreg1 hg1.reg)

/-! ### The second pass (the features)

A writable feature declaration is decoded to a `create_feature` call that re-creates the feature up to `Feature.__eq__`;
the call succeeds inside the simulation as soon as the domain, the range and the element type are registered, which the
closure conditions of `RecsOk` provide after the first pass. -/

theorem arrayTypeNameFor_nonprim (e : String) (h : Gen.consts.primitive.contains e = false) :
    arrayTypeNameFor e = FS_ARRAY := by
  have hall := array_evals.1
  unfold arrayTypeNameFor
  cases hf : Gen.arrayTypeNameTable.find? (fun p => p.1 == e) with
  | none => rfl
  | some p =>
    have hm := List.mem_of_find?_eq_some hf
    have hpe : p.1 = e := by simpa using List.find?_some hf
    have := List.all_eq_true.mp hall p hm
    rw [hpe, h] at this
    simp only [Bool.false_or, beq_iff_eq] at this
    simp only [Option.map_some, Option.getD_some]
    exact this

theorem isArray_cases (r : String) (h : isArray Gen.consts r = true) :
    isPrimitiveArray Gen.consts r = true ∨ r = FS_ARRAY := by
  unfold isArray at h
  unfold isPrimitiveArray
  rw [Bool.and_eq_true] at h
  have := List.all_eq_true.mp array_evals.2.1 r (List.contains_iff_mem.mp h.2)
  rw [h.1, Bool.true_and]
  simpa using this

theorem isPrimitiveArray_isArray (r : String) (h : isPrimitiveArray Gen.consts r = true) :
    isArray Gen.consts r = true := by
  unfold isPrimitiveArray at h
  unfold isArray
  rw [Bool.and_eq_true] at h
  rw [h.1, Bool.true_and]
  exact List.all_eq_true.mp array_evals.2.2.1 r (List.contains_iff_mem.mp h.2)

/-- the name a feature is written under leads back to its name and to its reserved flag -/
theorem name_roundtrip (f : Feature)
    (h : (if f.reserved then f.name == "self_" || f.name == "type_" else f.name != "self" && f.name != "type") = true) :
    (if ((renderFeatDecl Gen.consts f).name == "self" || (renderFeatDecl Gen.consts f).name == "type") = true
      then (renderFeatDecl Gen.consts f).name ++ "_" else (renderFeatDecl Gen.consts f).name) = f.name ∧
    ((renderFeatDecl Gen.consts f).name == "self" || (renderFeatDecl Gen.consts f).name == "type") = f.reserved := by
  have hn : (renderFeatDecl Gen.consts f).name =
      if f.reserved then String.ofList f.name.toList.dropLast else f.name := rfl
  rw [hn]
  cases hres : f.reserved with
  | true =>
    rw [hres] at h
    simp only [if_true, Bool.or_eq_true, beq_iff_eq] at h ⊢
    rcases h with h | h <;> rw [h] <;> decide
  | false =>
    rw [hres] at h
    simp only [Bool.false_eq_true, if_false, Bool.and_eq_true, bne_iff_ne, ne_eq] at h ⊢
    have e1 : (f.name == "self") = false := beq_false_of_ne h.1
    have e2 : (f.name == "type") = false := beq_false_of_ne h.2
    simp only [e1, e2, Bool.or_false, Bool.false_eq_true, if_false, and_self]

/-- decoding a writable declaration: the range comes back, the element type up to "absent = TOP" -/
theorem decode_feat (ts : TypeSystem) (dom : String) (f : Feature) (hfw : FeatWritable Gen.consts f) :
    ∃ e', featStep Gen.consts dom ts (renderFeatDecl Gen.consts f) =
        createFeature ts dom (renderFeatDecl Gen.consts f).name f.range e' f.descr f.multi ∧
      e'.getD TOP = f.elem.getD TOP ∧ (e' = f.elem ∨ e' = none ∨ e' = some (f.elem.getD TOP)) := by
  obtain ⟨hdescr, hnoarr, hprim, hfs⟩ := hfw
  have hd : (renderFeatDecl Gen.consts f).descr = f.descr := descr_norm f.descr hdescr
  have hm : (renderFeatDecl Gen.consts f).multi = f.multi := rfl
  cases harr : isArray Gen.consts f.range with
  | false =>
    obtain ⟨h1, h2⟩ := range_roundtrip_other f harr
    refine ⟨f.elem, ?_, rfl, Or.inl rfl⟩
    unfold featStep
    simp only [h1, h2, hd, hm, hnoarr harr, Bool.false_eq_true, if_false, Bool.false_and]
  | true =>
    rcases isArray_cases f.range harr with hpa | hfsa
    · obtain ⟨h1, h2, h3⟩ := range_roundtrip_primArray f hpa
      refine ⟨none, ?_, ?_, Or.inr (Or.inl rfl)⟩
      · unfold featStep
        simp only [h1, h2, hd, hm, if_true, Option.getD_some, hpa, Bool.and_self]
      · rw [hprim hpa]; rfl
    · obtain ⟨h1, h2⟩ := range_roundtrip_fsArray f hfsa
      have hnp := hfs hfsa
      refine ⟨some (f.elem.getD TOP), ?_, rfl, Or.inr (Or.inr rfl)⟩
      unfold featStep
      have hpfs := array_evals.2.2.2.1
      simp only [h1, brackets_endsWith, brackets_dropLast2, hd, hm, if_true, Option.getD_some,
        arrayTypeNameFor_nonprim _ hnp, hpfs, Bool.and_false, Bool.false_eq_true, if_false, hfsa]

theorem featStep_ok {o : TypeSystem} (ho : Hist o) (t : TypeRec) (hto : find? o t.name = some t)
    (hp : Gen.consts.predefined.contains t.name = false) (f : Feature) (hf : f ∈ t.own)
    (hfw : FeatWritable Gen.consts f)
    (hnm : (if f.reserved then f.name == "self_" || f.name == "type_" else f.name != "self" && f.name != "type") = true)
    (ts : TypeSystem) (hi : EInv o ts)
    (hdreg : hasExact ts t.name = true) (hrreg : hasExact ts f.range = true)
    (hfe : f.elem.all (hasExact ts) = true) :
    ∃ ts', featStep Gen.consts t.name ts (renderFeatDecl Gen.consts f) = .ok ts' ∧ EInv o ts' ∧
      Grow Gen.consts ts ts' ∧ ∃ t', find? ts' t.name = some t' ∧ ∃ g ∈ eff t', featureEq g f = true := by
  obtain ⟨e', hdec, hget, hcases⟩ := decode_feat ts t.name f hfw
  have hereg : e'.all (hasExact ts) = true := by
    rcases hcases with rfl | rfl | rfl
    · exact hfe
    · rfl
    · simp only [Option.all_some]
      cases hfe' : f.elem with
      | none =>
        simp only [Option.getD_none]
        exact hi.grow.reg _ builtin_top
      | some x =>
        rw [hfe'] at hfe
        simpa using hfe
  rw [createFeature_resolved ts t.name _ f.range e' f.descr f.multi hdreg hrreg hereg, (name_roundtrip f hnm).1] at hdec
  obtain ⟨f', hdec', heq, hlike⟩ : ∃ f' : Feature,
      featStep Gen.consts t.name ts (renderFeatDecl Gen.consts f) = addFeature ts t.name f' ∧
      featureEq f f' = true ∧ ChainE.LikeIn o f' :=
    ⟨_, hdec, by rw [featureEq_iff]; exact ⟨rfl, rfl, rfl, hget.symm⟩,
      f, ⟨t, find?_mem hto, hf⟩, rfl, rfl, (name_roundtrip f hnm).2⟩
  have hcov : CovIn o t.name f' := ⟨t, hto, f, List.mem_append_left _ hf, heq⟩
  obtain ⟨ts', hadd, hs'⟩ := addFeature_sub o ho.feat ts t.name f' hi.cons hi.sub hdreg hcov
  have hg : Grow Gen.consts ts ts' := addFeature_grow Gen.consts hp hadd
  obtain ⟨t', ht', g, hg', hgf⟩ := addFeature_covers hi.cons hi.feat hadd
  refine ⟨ts', by rw [hdec']; exact hadd,
    ⟨consistent_addFeature ts ts' t.name f' hi.cons hadd,
     featInv_addFeature ts ts' t.name f' hi.cons hi.feat hadd, hs', hi.grow.trans hg,
     ChainE.recsP_addFeature hi.like hlike hadd⟩,
    hg, t', ht', g, hg', featureEq_trans hgf (featureEq_symm heq)⟩

/-- everything `R` mentions is registered -/
def RegAll (R : List TypeRec) (ts : TypeSystem) : Prop := ∀ x, RegName R x → hasExact ts x = true

theorem regAll_grow {R : List TypeRec} {a b : TypeSystem} (h : RegAll R a) (hg : Grow Gen.consts a b) : RegAll R b :=
  fun x hx => hg.reg x (h x hx)

theorem featsInner {o : TypeSystem} (ho : Hist o) {R : List TypeRec} (t : TypeRec) (hto : find? o t.name = some t)
    (hp : Gen.consts.predefined.contains t.name = false)
    (hall : ∀ f ∈ t.own, FeatWritable Gen.consts f ∧
      (if f.reserved then f.name == "self_" || f.name == "type_" else f.name != "self" && f.name != "type") = true)
    (hdom : RegName R t.name)
    (hcl : ∀ f ∈ t.own, RegName R f.range ∧ ∀ e, f.elem = some e → RegName R e) :
    ∀ (fs : List Feature) (ts : TypeSystem), (∀ f ∈ fs, f ∈ t.own) → EInv o ts → RegAll R ts →
      ∃ ts', (fs.map (renderFeatDecl Gen.consts)).foldlM (featStep Gen.consts t.name) ts = .ok ts' ∧ EInv o ts' ∧
        Grow Gen.consts ts ts' ∧ ∃ t', find? ts' t.name = some t' ∧ ∀ f ∈ fs, ∃ g ∈ eff t', featureEq g f = true := by
  intro fs
  induction fs with
  | nil =>
    intro ts _ hi hreg
    obtain ⟨t', ht'⟩ := (hasExact_iff_find _ _).mp (hreg _ hdom)
    exact ⟨ts, rfl, hi, Grow.refl _ _, t', ht', fun f hf => by cases hf⟩
  | cons f fs ih =>
    intro ts hsub hi hreg
    have hfm := hsub f List.mem_cons_self
    have hfe : f.elem.all (hasExact ts) = true := by
      cases he : f.elem with
      | none => rfl
      | some e => simp only [Option.all_some]; exact hreg _ ((hcl f hfm).2 e he)
    obtain ⟨ts1, h1, hi1, hg1, t1, ht1, g, hg, hgf⟩ :=
      featStep_ok ho t hto hp f hfm (hall f hfm).1 (hall f hfm).2 ts hi (hreg _ hdom) (hreg _ (hcl f hfm).1) hfe
    obtain ⟨ts', h2, hi2, hg2, t', ht', hcov⟩ :=
      ih ts1 (fun x hx => hsub x (List.mem_cons_of_mem _ hx)) hi1 (regAll_grow hreg hg1)
    refine ⟨ts', ?_, hi2, hg1.trans hg2, t', ht', ?_⟩
    · simp only [List.map_cons, List.foldlM_cons, bind, Except.bind, h1]
      exact h2
    · intro x hx
      rcases List.mem_cons.mp hx with rfl | hx
      · obtain ⟨t'', ht'', hsub'⟩ := grow_cov hg2 ht1
        rw [ht'] at ht''; cases ht''
        exact ⟨g, hsub' g hg, hgf⟩
      · exact hcov x hx

theorem featsOuter {o : TypeSystem} (ho : UserBuilt o) (hw : Writable Gen.consts o) {R : List TypeRec}
    (hR : RecsOk o R) :
    ∀ (L : List TypeRec) (ts : TypeSystem), (∀ t ∈ L, t ∈ R) → EInv o ts → RegAll R ts →
      ∃ ts', (L.map (renderTypeDecl0 Gen.consts)).foldlM (featsStep Gen.consts) ts = .ok ts' ∧ EInv o ts' ∧
        Grow Gen.consts ts ts' ∧
        ∀ t ∈ L, ∃ t', find? ts' t.name = some t' ∧ ∀ f ∈ t.own, ∃ g ∈ eff t', featureEq g f = true := by
  intro L
  induction L with
  | nil =>
    intro ts _ hi _
    exact ⟨ts, rfl, hi, Grow.refl _ _, fun t ht => by cases ht⟩
  | cons t L ih =>
    intro ts hsub hi hreg
    have htR := hsub t List.mem_cons_self
    obtain ⟨htm, hp, hnd⟩ := hR.mem htR
    have hto : find? o t.name = some t := find?_of_mem ho.built.cons.nodup htm
    have hall : ∀ f ∈ t.own, FeatWritable Gen.consts f ∧
        (if f.reserved then f.name == "self_" || f.name == "type_" else f.name != "self" && f.name != "type") = true :=
      fun f hf => ⟨(hw.2 t htm hp hnd).2 f hf, (ho.built.ownOK t htm f hf).2.2⟩
    have hdom : RegName R t.name := Or.inr ⟨t, htR, rfl⟩
    obtain ⟨ts1, h1, hi1, hg1, t1, ht1, hcov1⟩ :=
      featsInner ho.hist t hto hp hall hdom (hR.featClosed t htR) t.own ts (fun _ h => h) hi hreg
    obtain ⟨ts', h2, hi2, hg2, hcov2⟩ :=
      ih ts1 (fun x hx => hsub x (List.mem_cons_of_mem _ hx)) hi1 (regAll_grow hreg hg1)
    obtain ⟨t0, ht0⟩ := (hasExact_iff_find _ _).mp (hreg _ hdom)
    have hstep : featsStep Gen.consts ts (renderTypeDecl0 Gen.consts t) = .ok ts1 := by
      unfold featsStep
      have hn : (renderTypeDecl0 Gen.consts t).name = t.name := rfl
      have hfs : (renderTypeDecl0 Gen.consts t).feats = t.own.map (renderFeatDecl Gen.consts) := rfl
      simp only [hn, hfs, getType_of_find ht0, find?_name ht0, bind, Except.bind]
      exact h1
    refine ⟨ts', ?_, hi2, hg1.trans hg2, ?_⟩
    · simp only [List.map_cons, List.foldlM_cons, bind, Except.bind, hstep]
      exact h2
    · intro x hx
      rcases List.mem_cons.mp hx with rfl | hx
      · obtain ⟨t'', ht'', hsub'⟩ := grow_cov hg2 ht1
        refine ⟨t'', ht'', ?_⟩
        intro f hf
        obtain ⟨g, hg, hgf⟩ := hcov1 f hf
        exact ⟨g, hsub' g hg, hgf⟩
      · exact hcov2 x hx

end Cassis.Json
