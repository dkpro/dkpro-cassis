/-
Round trip with collections, layer IL of `RoundTripColl_NOTES.md`: the second pass of the reader (`postFeature`) on one
inlined LIST feature of a general structure, and both layers IA / IL together (`postInline`).

IntegerList / FloatList: the first pass left the blank-separated tokens; the second pass builds the list
(`buildPrimList`) and stores its address.  StringList: the first pass built the list already; nothing changes.
FSList: the first pass left the ids; the second pass resolves them and builds the list (`buildFsList`).
-/
import CassisModel.Proofs.RoundTripCollPostArr

namespace Cassis.Xmi.CIL
open Cassis.TS Cassis.Lex

theorem buildPrimList_int_at (tsIdx : Nat) (is : List Int) (hp : Heap) :
    ∃ (nodes : List Obj) (l : Nat),
      buildPrimList hp tsIdx INTEGER_LIST ((is.map showInt).map some) = .ok (hp ++ nodes, l) ∧
      (∀ o ∈ nodes, o.xid = none) ∧ nodes.length = is.length + 1 ∧ ChainC.VList (hp ++ nodes) .int l (is.map Val.int) := by
  unfold buildPrimList
  simp only [beq_self_eq_true, if_true]
  rw [Det.mapM_ok_of_forall _ (fun e => Val.int ((e.bind parseInt).getD 0)),
    show ((is.map showInt).map some).map (fun e => Val.int ((e.bind parseInt).getD 0)) = is.map Val.int by
      rw [List.map_map, List.map_map]
      exact List.map_congr_left fun i _ => by
        show Val.int ((parseInt (showInt i)).getD 0) = _
        rw [parseInt_showInt]; rfl]
  case hl =>
    intro x hx
    obtain ⟨s, hs, rfl⟩ := List.mem_map.1 hx
    obtain ⟨i, _, rfl⟩ := List.mem_map.1 hs
    simp only [parseIntE, parseInt_showInt, Option.bind_some, Option.getD_some]
    rfl
  obtain ⟨nodes, l, h1, h2, h3, h4⟩ := ChainC.listBuild_vlist .int id hp
    { ty := "uima.cas.EmptyIntegerList", ts := tsIdx, xid := none, slots := [] } rfl rfl rfl
    (fun (acc : Heap × Nat) (v : Val) =>
      ({ ty := "uima.cas.NonEmptyIntegerList", ts := tsIdx, xid := none,
         slots := [("head", v), ("tail", Val.ref acc.2)] } : Obj))
    (fun _ _ => ⟨rfl, rfl, rfl⟩) (is.map Val.int)
  rw [List.map_id, List.length_map] at *
  exact ⟨nodes, l, congrArg Except.ok h1, h2, h3, h4⟩

theorem buildPrimList_float_at (tsIdx : Nat) (tl : List String) (hp : Heap) :
    ∃ (nodes : List Obj) (l : Nat),
      buildPrimList hp tsIdx FLOAT_LIST (tl.map some) = .ok (hp ++ nodes, l) ∧
      (∀ o ∈ nodes, o.xid = none) ∧ nodes.length = tl.length + 1 ∧ ChainC.VList (hp ++ nodes) .flt l (tl.map Val.float) := by
  unfold buildPrimList
  have hne : (FLOAT_LIST == INTEGER_LIST) = false := by simp [FLOAT_LIST, INTEGER_LIST]
  simp only [hne, beq_self_eq_true, if_true, Bool.false_eq_true, if_false]
  rw [Det.mapM_ok_of_forall _ (fun e => Val.float (e.getD "")),
    show (tl.map some).map (fun e => Val.float (e.getD "")) = tl.map Val.float by
      rw [List.map_map]; rfl]
  case hl =>
    intro x hx
    obtain ⟨s, hs, rfl⟩ := List.mem_map.1 hx
    rfl
  obtain ⟨nodes, l, h1, h2, h3, h4⟩ := ChainC.listBuild_vlist .flt id hp
    { ty := "uima.cas.EmptyFloatList", ts := tsIdx, xid := none, slots := [] } rfl rfl rfl
    (fun (acc : Heap × Nat) (v : Val) =>
      ({ ty := "uima.cas.NonEmptyFloatList", ts := tsIdx, xid := none,
         slots := [("head", v), ("tail", Val.ref acc.2)] } : Obj))
    (fun _ _ => ⟨rfl, rfl, rfl⟩) (tl.map Val.float)
  rw [List.map_id, List.length_map] at *
  exact ⟨nodes, l, congrArg Except.ok h1, h2, h3, h4⟩

section
variable (K : Consts) (ts : TypeSystem) (cass : List Cas) (H : Heap) (na : Int → Nat)
  (tsIdx ci' : Nat) (sofas : List (Int × PSofa)) (fss : List (Int × Nat))

theorem postFeature_primList_str (hpX : Heap) (a : Nat) (ty : String) (f : Feature) (o1 : Obj) (s : String)
    (hp' : Heap) (l : Nat)
    (hname : f.name ≠ "sofa") (hprim : isPrimitive K ts f.range = false)
    (hty : isPrimitiveArray K ty = false) (hr1 : isPrimitiveArray K f.range = false)
    (hr2 : isPrimitiveList K f.range = true) (hm : f.multi.getD false = false)
    (h1 : hpX[a]? = some o1) (h2 : alistGet? o1.slots f.name = some (.str s))
    (hb : buildPrimList hpX tsIdx f.range ((splitWs s).map some) = .ok (hp', l)) :
    postFeature K ts tsIdx ci' sofas fss hpX a ty false f = Heap.setSlot hp' a f.name (.ref l) := by
  unfold postFeature
  simp only [slot_getD_eq h1 h2, beq_eq_false_iff_ne.2 hname, Bool.false_eq_true, if_false, hprim, hty, hr1, hr2, hm,
    Bool.false_and, Bool.not_false, Bool.and_self, if_true, hb]
  rfl

theorem postFeature_fsList_str (hpX : Heap) (a : Nat) (ty : String) (f : Feature) (o1 : Obj) (s : String)
    (targets : List Nat)
    (hname : f.name ≠ "sofa") (hprim : isPrimitive K ts f.range = false)
    (hty : isPrimitiveArray K ty = false) (hr1 : isPrimitiveArray K f.range = false)
    (hr2 : isPrimitiveList K f.range = false) (hty2 : ty ≠ FS_ARRAY) (hr : f.range = FS_LIST)
    (hm : f.multi.getD false = false)
    (h1 : hpX[a]? = some o1) (h2 : alistGet? o1.slots f.name = some (.str s))
    (hres : resolveIds fss (splitWs s) = .ok targets) :
    postFeature K ts tsIdx ci' sofas fss hpX a ty false f =
      Heap.setSlot (buildFsList hpX tsIdx targets).1 a f.name (.ref (buildFsList hpX tsIdx targets).2) := by
  have hne : (FS_LIST == FS_ARRAY) = false := by simp [FS_LIST, FS_ARRAY]
  rw [hr] at hprim hr1 hr2
  unfold postFeature
  simp only [slot_getD_eq h1 h2, beq_eq_false_iff_ne.2 hname, Bool.false_eq_true, if_false, hprim, hty, hr1, hr2, hm,
    Bool.false_and, beq_eq_false_iff_ne.2 hty2, hr, hne, Bool.or_self, Bool.not_false, Bool.and_self, Bool.and_true,
    beq_self_eq_true, if_true, hres]
  rfl

variable {o : Obj} {t : TypeRec} {f : Feature} (ht : find? ts o.ty = some t) (hf : f ∈ allFeatures t)
  (hnd : (ctorFields t).Nodup) (hi : isInline K f = true) (harr : isArray K f.range = false)
  {hpX : Heap} {a' : Nat} {o' : Obj} {w : Val}
include ht hf hnd hi harr

theorem done_list {c : Nat} (m : Meets K ts cass H hpX o f a' o' (.ref c) w) {hs : List Val} {nodes : List Obj} {l : Nat}
    {k : ChainC.LK} (hk : f.range = k.range) (hc : collectList H (H.length + 1) (.ref c) = .ok hs)
    (hn : ∀ ob ∈ nodes, ob.xid = none) (hlen : nodes.length = hs.length + 1)
    (hl : ChainC.VList (hpX ++ nodes) k l (hs.map (headExp H na)))
    (hpf : postFeature K ts tsIdx ci' sofas fss hpX a' o.ty false f = Heap.setSlot (hpX ++ nodes) a' f.name (.ref l)) :
    PostDone K ts cass H na tsIdx ci' sofas fss false hpX a' o f (.ref c) :=
  m.build hpf hn fun hpY hfrz =>
    .inl ht hf hnd hi (.inr ⟨harr, hs, hc, ListAt.frz hfrz hl.listAt, by
      have := hfrz.1
      rw [List.length_append, hlen] at this
      omega⟩) (.inr ⟨k, hk, hl.tlist.mono hfrz.2⟩)

variable {v : Val} (m : Meets K ts cass H hpX o f a' o' v w) (hname : NameOk f) (hm : f.multi.getD false = false)
  (hpa : isPrimitiveArray K o.ty = false)
include m hname hm hpa

/-- IntegerList / FloatList: the heads are `xs.map val`, written as the tokens `xs.map tok`, which `buildPrimList`
    turns back into `xs.map val` -/
theorem post_primList {α : Type} (tok : α → String) (val : α → Val) {k : ChainC.LK} (hkr : f.range = k.range)
    (hshow : ∀ x, showPrim (val x) = .ok (tok x)) (hexp : ∀ x, headExp H na (val x) = val x)
    (hbuild : ∀ (xs : List α) (hp : Heap), ∃ (nodes : List Obj) (l : Nat),
      buildPrimList hp tsIdx f.range ((xs.map tok).map some) = .ok (hp ++ nodes, l) ∧
      (∀ o ∈ nodes, o.xid = none) ∧ nodes.length = xs.length + 1 ∧ ChainC.VList (hp ++ nodes) k l (xs.map val))
    (hk : RangeKind K ts f.range false true false true false false)
    {P : List Val → Prop} (hP : ∀ hs, P hs → ∃ xs : List α, hs = xs.map val ∧ ∀ x ∈ xs, IsTok (tok x))
    (hil : InlList H P v) : PostDone K ts cass H na tsIdx ci' sofas fss false hpX a' o f v := by
  have hsofa : f.name ≠ "sofa" := hname.2.2.2.2.2
  rcases hil with e | ⟨c, hs, rfl, hc, hPs⟩
  · exact CIA.post_none K ts cass H na tsIdx ci' sofas fss ht hf hnd m hname hk.prim e
  · obtain ⟨xs, rfl, htok⟩ := hP _ hPs
    have hmap : (xs.map val).mapM showPrim = .ok (xs.map tok) := by
      rw [Det.mapM_ok_of_forall showPrim (fun v => (showPrim v).toOption.getD "") _ (fun v hv => by
        obtain ⟨x, _, rfl⟩ := List.mem_map.1 hv
        rw [hshow x]; rfl), List.map_map]
      exact congrArg Except.ok (List.map_congr_left fun x _ => by simp only [Function.comp, hshow x]; rfl)
    have hw := m.slot
    rw [(m.s1.read rfl ht hf hnd (av := some (joinSp (xs.map tok))) (ks := []) fun a ho hann =>
      CG1.render_primlist K ts cass H a _ f o c _ _ ho hname hm m.old hk.strArr hk.strList hk.primArr hk.primList hc hmap
        hann).attr hsofa] at hw
    obtain ⟨nodes, l, hb, hn, hlen, hl⟩ := hbuild xs hpX
    have hsp : splitWs (joinSp (xs.map tok)) = xs.map tok :=
      splitWs_joinSp _ (fun t ht => by obtain ⟨x, hx, rfl⟩ := List.mem_map.1 ht; exact htok x hx)
    refine done_list K ts cass H na tsIdx ci' sofas fss ht hf hnd hi harr m hkr hc hn
      (by rw [hlen, List.length_map]) ?_
      (postFeature_primList_str K ts tsIdx ci' sofas fss hpX a' o.ty f o' _ _ l hsofa hk.prim hpa hk.primArr
        hk.primList hm m.new hw (by rw [hsp]; exact hb))
    rw [List.map_map]
    exact (List.map_congr_left fun x _ => hexp x : xs.map (headExp H na ∘ val) = xs.map val) ▸ hl

theorem post_strList (hk : RangeKind K ts f.range false true false true false true)
    (hil : InlList H (fun hs => hs ≠ [] ∧ ∀ h ∈ hs, h = .none ∨ ∃ s : String, h = .str s) v) :
    PostDone K ts cass H na tsIdx ci' sofas fss false hpX a' o f v := by
  have hsofa : f.name ≠ "sofa" := hname.2.2.2.2.2
  rcases hil with e | ⟨c, hs, rfl, hc, hne, hP⟩
  · exact CIA.post_none K ts cass H na tsIdx ci' sofas fss ht hf hnd m hname hk.prim e
  · -- written as child elements: the list was built in the first pass
    obtain ⟨addr, rfl, hty, hat⟩ := (m.s1.read rfl ht hf hnd (av := .none) (ks := hs.map CG1.kidTxt) fun a ho hann => by
      rw [CG1.render_strlist K ts cass H a _ f o c hs ho hname hm m.old hk.strArr hk.strList hc hP hann]
      unfold featOut; rw [List.map_map]; rfl).2 (fun h => hne (List.map_eq_nil_iff.mp h))
    rcases hat with ⟨h, _⟩ | ⟨_, hl, hlen⟩
    · rw [hk.primArr] at h; cases h
    · have hth : (hs.map CG1.kidTxt).map txtHead = hs.map (headExp H na) := by
        rw [List.map_map, headExp_strs H na hs hP]
        exact List.map_congr_left (fun h hh => CG1.txtHead_kidTxt h (hP h hh))
      rw [hth] at hl
      rw [List.length_map] at hlen
      exact m.same (postFeature_built K ts tsIdx ci' sofas fss hpX a' o.ty f o' addr hsofa hk.prim hpa
          (by rw [hk.primList]; exact Bool.or_true _) hm m.new m.slot)
        (.inl ht hf hnd hi (.inr ⟨harr, hs, hc, hl, hlen⟩) hty)

theorem post_fsList {a : Nat} (ho : H[a]? = some o) (hr : f.range = FS_LIST)
    (hk : RangeKind K ts f.range false false false true false false) (hfa : o.ty ≠ FS_ARRAY)
    (htg : ∀ b, Target K ts H a b → Resolves H fss na b)
    (hil : InlList H (fun hs => ∀ h ∈ hs, ∃ b : Nat, h = .ref b ∧ RefOk H b) v) :
    PostDone K ts cass H na tsIdx ci' sofas fss false hpX a' o f v := by
  have hsofa : f.name ≠ "sofa" := hname.2.2.2.2.2
  rcases hil with e | ⟨c, hs, rfl, hc, hP⟩
  · exact CIA.post_none K ts cass H na tsIdx ci' sofas fss ht hf hnd m hname hk.prim e
  · obtain ⟨bs, rfl, _⟩ := Det.exists_eq_map hP
    have htok : (bs.map Val.ref).map (CG1.refTok H) = bs.map (idTok H) := List.map_map
    have hw := m.slot
    rw [(m.s1.read rfl ht hf hnd (av := some (joinSp (bs.map (idTok H)))) (ks := []) fun a ho hann => by
      rw [← htok]
      exact CG1.render_fslist K ts cass H a _ f o c _ ho hname hm m.old hk.strArr hk.strList hk.primArr hk.primList hr hc
        hP hann).attr hsofa] at hw
    have hres : ∀ b ∈ bs, Resolves H fss na b := fun b hb =>
      htg b ⟨o, t, ho, ht, .inr (.inr (.inl ⟨f, hf, hi, hr, c, _, m.old, hc, List.mem_map.2 ⟨b, hb, rfl⟩⟩))⟩
    obtain ⟨nodes, l, hb, hn, hlen, hl⟩ := ChainC.buildFsList_vlist hpX tsIdx (bs.map (fun b => na (CAR.idOf H b)))
    refine done_list K ts cass H na tsIdx ci' sofas fss ht hf hnd hi harr m (k := .fs) hr hc hn
      (by rw [hlen, List.length_map, List.length_map]) (by rw [fs_headExp H fss na bs hres]; exact hl) ?_
    rw [postFeature_fsList_str K ts tsIdx ci' sofas fss hpX a' o.ty f o' _ _ hsofa hk.prim hpa hk.primArr
      hk.primList hfa hr hm m.new hw (fs_resolve H fss na bs hres), hb]

end

end Cassis.Xmi.CIL

namespace Cassis.Xmi
open Cassis.TS Cassis.Lex

theorem postInline (K : Consts) (ts : TypeSystem) (cass : List Cas) (H : Heap) (na : Int → Nat)
    (tsIdx ci' : Nat) (sofas : List (Int × PSofa)) (fss : List (Int × Nat)) :
    PostInlineStmt K ts cass H na tsIdx ci' sofas fss (fun _ => True) := by
  intro a o t f ho ht hf hnd hname hinl _ hpa hfa htg hpX a' o' ho' hx v w hv hw hs1
  have m : Meets K ts cass H hpX o f a' o' v w := ⟨ho', hx, hv, hw, hs1⟩
  have hi := hinl.isInline
  obtain ⟨hm, v0, hv0, hcases⟩ := hinl
  cases hv.symm.trans hv0
  rcases hcases with ⟨hr, hk, hia⟩ | ⟨hr, hk, hia⟩ | ⟨hr, hk, hia⟩ | ⟨hr, hk, hil⟩ | ⟨hr, hk, hil⟩ | ⟨hr, hk, hil⟩ |
    ⟨hr, hk, hil⟩
  · exact CIA.post_prim K ts cass H na tsIdx ci' sofas fss ht hf hnd hi hk.arr m hname hm hpa hr hk hia
  · exact CIA.post_str K ts cass H na tsIdx ci' sofas fss ht hf hnd hi hk.arr m hname hm hpa hr hk hia
  · exact CIA.post_fs K ts cass H na tsIdx ci' sofas fss ht hf hnd hi hk.arr m hname hm hpa ho hr hk htg hia
  · exact CIL.post_primList K ts cass H na tsIdx ci' sofas fss ht hf hnd hi hk.arr m hname hm hpa
      showInt Val.int (k := .int) hr (fun _ => rfl) (fun _ => rfl) (by rw [hr]; exact CIL.buildPrimList_int_at tsIdx) hk
      (fun hs hP => Det.exists_eq_map fun v hv => (hP v hv).imp fun i e => ⟨e, showInt_isTok i⟩) hil
  · exact CIL.post_primList K ts cass H na tsIdx ci' sofas fss ht hf hnd hi hk.arr m hname hm hpa
      id Val.float (k := .flt) hr (fun _ => rfl) (fun _ => rfl) (by rw [hr]; intro xs hp; rw [List.map_id]; exact CIL.buildPrimList_float_at tsIdx xs hp) hk
      (fun hs hP => Det.exists_eq_map hP) hil
  · exact CIL.post_strList K ts cass H na tsIdx ci' sofas fss ht hf hnd hi hk.arr m hname hm hpa hk hil
  · exact CIL.post_fsList K ts cass H na tsIdx ci' sofas fss ht hf hnd hi hk.arr m hname hm hpa ho hr hk hfa htg hil

end Cassis.Xmi
