/-
C20 — `cas_to_comparable_text` is invariant under the XMI round trip, on the whole format (arrays and lists included).

`render_xmi_roundtrip_coll` extends `render_xmi_roundtrip_flat` (`Properties/C20Iso.lean`) from the flat fragment to the
fragment `CollFs` of `xmi_roundtrip_coll` (`Properties/C01RoundTripColl.lean`): structures with array and list features,
inlined or shared, and the collection objects written as structures of their own.  For such a CAS whose collected
structures satisfy `Distinct`,

    cas_to_comparable_text(load_cas_from_xmi(cas.to_xmi())) = cas_to_comparable_text(cas)

— `render` of the loaded CAS (its own traversal of the loaded heap included) and `render` of the original give the same
table, or fail with the same exception.

Hypotheses beyond those of `xmi_roundtrip_coll` (without `hdis`) and `Distinct` (`Spec/ComparableIsoColl.lean`); each is
forced by a counterexample evaluated on the model (`Spec/ComparableIsoCollCheck.lean`) in which every other hypothesis
holds, save and load succeed, and the comparable text changes:

* `InlOk.strs` / `InlOk.arr` (second part) — no string array (inlined, or a StringArray object written as a structure of
  its own) has the element `""`: XMI reads `<sa></sa>` and `<sa/>` alike, the element comes back as null and is shown
  as `<NULL>` (`cx_strarray_empty`, `cx_strarray_obj_empty`; both replayed on `/repo`: the text changes from
  `['p', '']` to `['p', '<NULL>']`).  `xmi_roundtrip_coll` states this equivalence (`featContentC`); the comparable text
  tells the two apart.
* `InlOk.arr` (first part) — the object inlined in an array feature is of an array type.  `_render_feature_value` shows a
  reference to an array object by its elements and any other reference by the anchor of its target; `CollFs` looks at
  the `elements` of the inlined object only, and the reader makes an object of the range type of the feature
  (`cx_inl_not_array`).  True on every well-typed CAS.
* `InlOk.list` — the first node of an inlined list is not of an array type (`cx_list_node_array`) and does not carry the
  id of a collected structure.  An inlined list is shown by the anchor of its first node, which is not collected and
  has no anchor (`None`) — unless it is *also* reachable as a structure of its own (through a feature with
  `multipleReferencesAllowed`), in which case it is collected and shown as `NonEmpty…List`; the reader makes a new node
  for the inlined feature, shown as `None` (`cx_list_shared`; replayed on `/repo`: the cell changes from
  `NonEmptyFloatList` to empty).  Likewise for a node with a stale id (`cx_list_stale_id`).
* `NodeTysNotArr K` — the constants do not classify a list-node type as an array type (`cx_node_array`).  `K` is an
  arbitrary record in the theorem; true for the generated constants, not reachable in Python.

A cyclic nesting of arrays (an FSArray that contains itself) is inside the hypotheses: both sides exhaust their
recursion budgets and fail alike (`RuntimeError`; Python: `RecursionError`) — `ok_cyclic`.  The two budgets differ (the
loaded heap is larger), so this needs `renderVal_saturated`: the budget `2 * |heap| + 2` of the model is as good as any
larger one.

`renderCollAppliesB` is a sound computable test for all hypotheses (`renderCollAppliesB_sound`).
-/
import CassisModel.Proofs.ComparableIsoCollIso
import CassisModel.Proofs.ComparableIsoCollCheckSound
import CassisModel.Proofs.ComparableIsoCollDemo

namespace Cassis.Comparable
open Cassis.TS Cassis.Traverse Cassis.Xmi

/-- **C20 across the XMI round trip (whole format)**: the comparable text of the loaded CAS is that of the original.
    The conclusion reads as in `render_xmi_roundtrip_flat` (`Properties/C20Iso.lean`). -/
theorem render_xmi_roundtrip_coll (K : Consts) (ts : TypeSystem) (cass : List Cas) (ci : Nat) (c : Cas) (hp : Heap)
    (tsIdx : Nat) (doc : XDoc) (st : St) (o : Opts) (hsh hsh' : Nat → Int)
    (hc : cass[ci]? = some c) (hwf : RTWf c hp) (hnull : NullOk ts)
    (hsave : saveXmi K ts cass ci hp = .ok (doc, st))
    (hcoll : ∀ q ∈ st.allFs, CollFs K ts c ci st.heap q.2)
    (hmem : ∀ nv ∈ c.views, ∀ e ∈ Index.all nv.2.idx, Xmi.slot st.heap e.oid "sofa" ≠ some .none)
    (hmok : MembersOk c st.heap)
    (hd : Distinct st.heap (st.allFs.map (·.2)))
    (hnodes : NodeTysNotArr K)
    (hinl : ∀ q ∈ st.allFs, InlOk K ts st.heap (st.allFs.map (·.2)) q.2) :
    ∃ ld : Loaded,
      loadXmi K ts tsIdx cass.length false st.heap doc = .ok ld ∧
      (render K ts (cass ++ [ld.cas]) cass.length ld.heap o hsh' none).map (·.1)
        = (render K ts cass ci hp o hsh none).map (·.1) := by
  obtain ⟨ld, φ, st', hload, hfa', hheap, hiso⟩ :=
    xmi_roundtrip_coll_isoR K ts cass ci c hp tsIdx doc st hc hwf hnull hsave hcoll hmem hmok hnodes hinl
  exact ⟨ld, hload, render_eq_of_isoR o hsh hsh' hc List.getElem?_concat_length (saveXmi_findAllFs hc hsave) hfa'
    (hheap ▸ hiso) hd⟩

/-- **the recursion budget of the model is as good as no budget**: `renderCols` / `renderRow` call `renderVal` with
    `2 * |heap| + 2` levels; every larger budget gives the same result (a cell, or an exception — `RuntimeError` exactly
    when the nesting of arrays is cyclic, where Python raises `RecursionError`) -/
theorem renderVal_budget_saturated (K : Consts) (hp : Heap) (byId : List (Option Int × String)) (F : Nat)
    (hF : 2 * hp.length + 2 ≤ F) (v : Val) :
    renderVal K hp byId F v = renderVal K hp byId (2 * hp.length + 2) v :=
  renderVal_saturated K hp byId F hF v

/-- whenever the Boolean test says so, the comparable text survives the XMI round trip -/
theorem renderCollAppliesB_sound (K : Consts) (ts : TypeSystem) (cass : List Cas) (ci : Nat) (hp : Heap) (tsIdx : Nat)
    (o : Opts) (hsh hsh' : Nat → Int) (h : renderCollAppliesB K ts cass ci hp = true) :
    ∃ (doc : XDoc) (st : St) (ld : Loaded),
      saveXmi K ts cass ci hp = .ok (doc, st) ∧
      loadXmi K ts tsIdx cass.length false st.heap doc = .ok ld ∧
      (render K ts (cass ++ [ld.cas]) cass.length ld.heap o hsh' none).map (·.1)
        = (render K ts cass ci hp o hsh none).map (·.1) := by
  obtain ⟨c, doc, st, hc, hs, hwf, hn, hf, hm, hmo, hd, hk, hi⟩ := renderCollAppliesB_hyps K ts cass ci hp h
  obtain ⟨ld, hl, hr⟩ := render_xmi_roundtrip_coll K ts cass ci c hp tsIdx doc st o hsh hsh' hc hwf hn hs hf hm hmo hd hk hi
  exact ⟨doc, st, ld, hs, hl, hr⟩

/-! ### Non-vacuity

`IsoCollCheck.good` (`Spec/ComparableIsoCollCheck.lean`): the instance `CollDemo` (type `x.Doc` with one feature per
collection kind — seven primitive array types, StringArray, FSArray, FSList, IntegerList, FloatList, StringList inlined;
FSArray, IntegerArray, StringArray, FSList, IntegerList, StringList shared —, text `a😀b`, two structures referring to each
other, one of them indexed, eleven collected structures) without the empty string element.  Every hypothesis holds
(`collGood_applies`, checked by the kernel), so the theorem applies; the evaluated table of the instance (both sides) is
`ok_good` in the check file. -/

/-- all hypotheses of `render_xmi_roundtrip_coll` hold on the instance -/
example : ∃ (doc : XDoc) (st : St),
    saveXmi CollDemo.K CollDemo.ts [CollDemo.cas] 0 IsoCollCheck.good = .ok (doc, st) ∧
    RTWf CollDemo.cas IsoCollCheck.good ∧ NullOk CollDemo.ts ∧
    (∀ q ∈ st.allFs, CollFs CollDemo.K CollDemo.ts CollDemo.cas 0 st.heap q.2) ∧
    (∀ nv ∈ CollDemo.cas.views, ∀ e ∈ Index.all nv.2.idx, Xmi.slot st.heap e.oid "sofa" ≠ some .none) ∧
    MembersOk CollDemo.cas st.heap ∧ Distinct st.heap (st.allFs.map (·.2)) ∧ NodeTysNotArr CollDemo.K ∧
    (∀ q ∈ st.allFs, InlOk CollDemo.K CollDemo.ts st.heap (st.allFs.map (·.2)) q.2) := by
  obtain ⟨c, doc, st, hc, hs, hwf, hn, hf, hm, hmo, hd, hk, hi⟩ := collGood_hyps
  obtain rfl : CollDemo.cas = c := Option.some.inj hc
  exact ⟨doc, st, hs, hwf, hn, hf, hm, hmo, hd, hk, hi⟩

/-- the theorem applied to the instance -/
example : ∃ (doc : XDoc) (st : St) (ld : Loaded),
    saveXmi CollDemo.K CollDemo.ts [CollDemo.cas] 0 IsoCollCheck.good = .ok (doc, st) ∧
    loadXmi CollDemo.K CollDemo.ts 0 1 false st.heap doc = .ok ld ∧
    (render CollDemo.K CollDemo.ts ([CollDemo.cas] ++ [ld.cas]) 1 ld.heap {} (fun a => a) none).map (·.1)
      = (render CollDemo.K CollDemo.ts [CollDemo.cas] 0 IsoCollCheck.good {} (fun _ => 0) none).map (·.1) :=
  renderCollAppliesB_sound CollDemo.K CollDemo.ts [CollDemo.cas] 0 IsoCollCheck.good 0 {} (fun _ => 0) (fun a => a)
    collGood_applies

/-- the test is not constantly true: the instance with the element `""` (`cx_strarray_empty`) is rejected -/
example : renderCollAppliesB CollDemo.K CollDemo.ts [CollDemo.cas] 0 CollDemo.hp = false := collDemo_rejected

#print axioms render_xmi_roundtrip_coll
#print axioms renderVal_budget_saturated
#print axioms renderCollAppliesB_sound
#print axioms collGood_applies

end Cassis.Comparable
