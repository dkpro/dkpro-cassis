/-
C04 — the written document is faithful: it determines the content of the CAS (XMI, flat fragment).

If two CASes of the flat fragment (possibly in different heaps, at different addresses, built in different orders) are
written to the *same* document, then they have the same content: the same ids, under each id the same type and the same
content of every feature, and the same views.  In other words nothing the properties speak about is lost or blurred by the
writer: the document says what is in the CAS.  (The reader recovers the content from the document alone, over whatever
heap it builds the CAS; the flat fragment is part of the whole format, `C04FaithfulColl.lean`.)
-/
import CassisModel.Properties.C04FaithfulColl
import CassisModel.Properties.C01RoundTripColl
import CassisModel.Proofs.RoundTripFlatOfColl
import CassisModel.Proofs.RoundTripDemo

namespace Cassis.Xmi
open Cassis.TS Cassis.Traverse

/-- **faithfulness of the XMI writer on the flat fragment** -/
theorem saveXmi_faithful_flat (K : Consts) (ts : TypeSystem)
    (cass₁ cass₂ : List Cas) (ci₁ ci₂ : Nat) (c₁ c₂ : Cas) (hp₁ hp₂ : Heap) (doc : XDoc) (st₁ st₂ : St)
    (hnull : NullOk ts)
    (hc₁ : cass₁[ci₁]? = some c₁) (hwf₁ : RTWf c₁ hp₁) (hsave₁ : saveXmi K ts cass₁ ci₁ hp₁ = .ok (doc, st₁))
    (hflat₁ : ∀ q ∈ st₁.allFs, FlatFs K ts c₁ ci₁ st₁.heap q.2)
    (hdis₁ : ∀ q ∈ st₁.allFs, ∀ nv ∈ c₁.views, q.1 ≠ nv.2.sofa.xid)
    (hmem₁ : ∀ nv ∈ c₁.views, ∀ e ∈ Index.all nv.2.idx, slot st₁.heap e.oid "sofa" ≠ some .none)
    (hmok₁ : MembersOk c₁ st₁.heap)
    (hc₂ : cass₂[ci₂]? = some c₂) (hwf₂ : RTWf c₂ hp₂) (hsave₂ : saveXmi K ts cass₂ ci₂ hp₂ = .ok (doc, st₂))
    (hflat₂ : ∀ q ∈ st₂.allFs, FlatFs K ts c₂ ci₂ st₂.heap q.2)
    (hdis₂ : ∀ q ∈ st₂.allFs, ∀ nv ∈ c₂.views, q.1 ≠ nv.2.sofa.xid)
    (hmem₂ : ∀ nv ∈ c₂.views, ∀ e ∈ Index.all nv.2.idx, slot st₂.heap e.oid "sofa" ≠ some .none)
    (hmok₂ : MembersOk c₂ st₂.heap) :
    -- the same ids
    (sortById st₁.allFs).map (·.1) = (sortById st₂.allFs).map (·.1) ∧
    -- under each id the same type and the same content of every feature
    (∀ q₁ ∈ st₁.allFs, ∀ q₂ ∈ st₂.allFs, q₁.1 = q₂.1 →
      ∃ o₁ o₂ : Obj, st₁.heap[q₁.2]? = some o₁ ∧ st₂.heap[q₂.2]? = some o₂ ∧ o₁.ty = o₂.ty ∧
        ∀ t : TypeRec, find? ts o₁.ty = some t → ∀ f ∈ allFeatures t,
          featContent st₁.heap q₁.2 f.name = featContent st₂.heap q₂.2 f.name) ∧
    -- the same views
    c₁.views.map (viewContent st₁.heap) = c₂.views.map (viewContent st₂.heap) :=
  by
  -- the flat fragment is part of the whole format; there the deep content of a feature determines the flat one
  obtain ⟨hids, hcont, hviews⟩ :=
    saveXmi_faithful_coll K ts cass₁ cass₂ ci₁ ci₂ c₁ c₂ hp₁ hp₂ doc st₁ st₂ hnull
      hc₁ hwf₁ hsave₁ (fun q hq => collFs_of_flatFs K ts c₁ ci₁ st₁.heap q.2 (hflat₁ q hq)) hdis₁ hmem₁ hmok₁
      hc₂ hwf₂ hsave₂ (fun q hq => collFs_of_flatFs K ts c₂ ci₂ st₂.heap q.2 (hflat₂ q hq)) hdis₂ hmem₂ hmok₂
  refine ⟨hids, fun q₁ hq₁ q₂ hq₂ hid => ?_, hviews⟩
  obtain ⟨o₁, o₂, ho₁, ho₂, hty, hc⟩ := hcont q₁ hq₁ q₂ hq₂ hid
  exact ⟨o₁, o₂, ho₁, ho₂, hty, fun t ht f hf =>
    (flatFs_content (hflat₂ q₂ hq₂) ho₂ (hty ▸ ht) hf (hc t ht f hf))⟩

/-! ### Non-vacuity: the instance `Demo` of `Proofs/InstancesFlat.lean` against itself -/

example : ∃ (doc : XDoc) (st : St),
    saveXmi Demo.K Demo.demoTS [Demo.demo.1] 0 Demo.demo.2 = .ok (doc, st) ∧
    (sortById st.allFs).map (·.1) = (sortById st.allFs).map (·.1) ∧
    Demo.demo.1.views.map (viewContent st.heap) = Demo.demo.1.views.map (viewContent st.heap) := by
  obtain ⟨doc, st, hs, hc, hwf, hn, hf, hd, hm, hmo⟩ := Demo.demo_hyps
  obtain ⟨h1, _, h3⟩ := saveXmi_faithful_flat Demo.K Demo.demoTS [Demo.demo.1] [Demo.demo.1] 0 0 Demo.demo.1 Demo.demo.1
    Demo.demo.2 Demo.demo.2 doc st st hn hc hwf hs hf hd hm hmo hc hwf hs hf hd hm hmo
  exact ⟨doc, st, hs, h1, h3⟩

end Cassis.Xmi
