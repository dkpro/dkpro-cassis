/-
Specification-side definitions for the sensitivity half of C20 and for the totality of `renderFrom`
(`Properties/C20Sens.lean`).

"Two CASes differ only in X" is formalised as a *point update*: the second heap is the first one after one
`setattr` (`Heap.setSlot`, the model of `fs.f = v`), or the second indexed list differs from the first in the
membership of one structure; everything else (type system, views, collected set up to order, content hash) is the
same or irrelevant.
-/
import CassisModel.Spec.Comparable

namespace Cassis.Comparable
open Cassis.TS Cassis.Traverse

/-- the string does not end in `)`.  The disambiguation counter `(n)` is appended to an anchor text without any
    separator, so a text that itself ends in `)` (a view called `V(1)`, a type called `x.T(1)`) can be read as a
    shorter text plus a counter. -/
def NoParenEnd (s : String) : Prop := s.toList.getLast? ≠ some ')'

instance (s : String) : Decidable (NoParenEnd s) := by unfold NoParenEnd; exact inferInstance

/-- the anchor text `_generate_anchor` computes for the structure (type short name, offsets, index mark, view) does
    not end in `)` -/
def AnchorPlain (cass : List Cas) (hp : Heap) (indexed : List Nat) (o : Opts) (a : Nat) : Prop :=
  ∀ s, anchorOf cass hp indexed o a = .ok s → NoParenEnd s

/-- the collected structures carry pairwise different xmi:ids (`_find_all_fs` guarantees it: it collects into a
    dictionary keyed by id and raises on a duplicate — `xidInj_of_findAllFs`) -/
def XidInj (hp : Heap) (addrs : List Nat) : Prop :=
  ∀ a ∈ addrs, ∀ b ∈ addrs, xidOf hp a = xidOf hp b → a = b

/-- two primitive feature values the table tells apart: two different values of one Python type, or `None` against a
    value that is not the string `<NULL>` (`None` is written as `<NULL>`).  Values of different Python types are left
    out on purpose: the model's cells differ, but `csv.writer` writes `1` for both `1` and `"1"`. -/
def PrimDiffer : Val → Val → Prop
  | .int i, .int j => i ≠ j
  | .str s, .str t => s ≠ t
  | .bool b, .bool c => b ≠ c
  | .float s, .float t => s ≠ t
  | .none, .int _ => True
  | .int _, .none => True
  | .none, .bool _ => True
  | .bool _, .none => True
  | .none, .float _ => True
  | .float _, .none => True
  | .none, .str s => s ≠ NULL_VALUE
  | .str s, .none => s ≠ NULL_VALUE
  | _, _ => False

instance (p p' : Val) : Decidable (PrimDiffer p p') := by
  unfold PrimDiffer; split <;> exact inferInstance

/-- two `elements` values of a primitive array the table tells apart: lists of one element type that differ (for
    string arrays: after `None` has been replaced by `<NULL>`) -/
def PrimArrDiffer : Val → Val → Prop
  | .ints l, .ints l' => l ≠ l'
  | .floats l, .floats l' => l ≠ l'
  | .bools l, .bools l' => l ≠ l'
  | .strs l, .strs l' => l.map (fun s => s.getD NULL_VALUE) ≠ l'.map (fun s => s.getD NULL_VALUE)
  | _, _ => False

instance (v v' : Val) : Decidable (PrimArrDiffer v v') := by
  unfold PrimArrDiffer; split <;> exact inferInstance

/-! ### well-formedness for totality -/

/-- `F` levels of recursion of `_render_feature_value` are enough for the value, when `need x` levels are enough for a
    reference to `x` -/
def FuelOk (need : Nat → Nat) (v : Val) (F : Nat) : Prop :=
  match v with
  | .ref x => need x ≤ F
  | .refs l => 1 ≤ F ∧ ∀ e, some e ∈ l → need e + 1 ≤ F
  | _ => True

/-- `need` is a certificate that arrays are nested in arrays without a cycle (and every array object has its
    `elements` slot): a reference needs at least one level, a reference to an array one more than its `elements` value -/
def WellNested (K : Consts) (hp : Heap) (need : Nat → Nat) : Prop :=
  ∀ x, 1 ≤ need x ∧
    (isArrayFs K hp x = true → ∃ v, slot hp x "elements" = some v ∧ FuelOk need v (need x - 1))

/-- the `sofa` slot of the structure, if it has one, holds the sofa of an existing view -/
def SofaOk (cass : List Cas) (hp : Heap) (a : Nat) : Prop :=
  match slot hp a "sofa" with
  | none => True
  | some (.sofa ci vn) => ∃ c v, cass[ci]? = some c ∧ Cas.getViewRec c vn = some v
  | some _ => False

/-- what `renderFrom` needs of one collected structure in order not to raise -/
structure RowOk (K : Consts) (ts : TypeSystem) (cass : List Cas) (hp : Heap) (o : Opts) (need : Nat → Nat) (a : Nat) :
    Prop where
  /-- its type is registered -/
  ty : ∃ t, getType ts (tyOf hp a) = .ok t
  /-- its `sofa` slot is absent or points to an existing view -/
  sofa : SofaOk cass hp a
  /-- where `get_covered_text()` is called (the section shows covered text and the structure has offsets) the structure
      has a sofa and its offsets are not negative (negative slice indices are outside the model) -/
  cov : ∀ t, getType ts (tyOf hp a) = .ok t → (o.coveredText && subsumes ts ANNOTATION t.name) = true →
    isAnnot hp a = true →
    (∃ ci vn, slot hp a "sofa" = some (.sofa ci vn)) ∧ 0 ≤ beginOf hp a ∧ 0 ≤ endOf hp a
  /-- an array object has its `elements` slot, and the recursion budget of the model suffices for it -/
  arr : isArrayFs K hp a = true → ∃ v, slot hp a "elements" = some v ∧ FuelOk need v (2 * hp.length + 2)
  /-- the recursion budget of the model suffices for every feature value -/
  cols : isArrayFs K hp a = false → ∀ n, FuelOk need ((slot hp a n).getD .none) (2 * hp.length + 2)

/-! ### Boolean checkers for the well-formedness predicates (sound: `Proofs/ComparableSensCheckSound.lean`) -/

def fuelOkB (need : Nat → Nat) (v : Val) (F : Nat) : Bool :=
  match v with
  | .ref x => decide (need x ≤ F)
  | .refs l => decide (1 ≤ F) && l.all (fun e => match e with | some e => decide (need e + 1 ≤ F) | none => true)
  | _ => true

/-- `WellNested` on the addresses of the heap (outside the heap nothing is an array) -/
def wellNestedB (K : Consts) (hp : Heap) (need : Nat → Nat) : Bool :=
  (List.range hp.length).all (fun x =>
    !(isArrayFs K hp x) ||
      match slot hp x "elements" with
      | some v => fuelOkB need v (need x - 1)
      | none => false)

def sofaOkB (cass : List Cas) (hp : Heap) (a : Nat) : Bool :=
  match slot hp a "sofa" with
  | none => true
  | some (.sofa ci vn) =>
    match cass[ci]? with
    | some c => (Cas.getViewRec c vn).isSome
    | none => false
  | some _ => false

def rowOkB (K : Consts) (ts : TypeSystem) (cass : List Cas) (hp : Heap) (o : Opts) (need : Nat → Nat) (a : Nat) : Bool :=
  match getType ts (tyOf hp a) with
  | .error _ => false
  | .ok t =>
    sofaOkB cass hp a &&
    (!((o.coveredText && subsumes ts ANNOTATION t.name) && isAnnot hp a) ||
      ((match slot hp a "sofa" with | some (.sofa _ _) => true | _ => false) &&
        decide (0 ≤ beginOf hp a) && decide (0 ≤ endOf hp a))) &&
    (if isArrayFs K hp a then
        match slot hp a "elements" with
        | some v => fuelOkB need v (2 * hp.length + 2)
        | none => false
      else
        match hp[a]? with
        | some ob => ob.slots.all (fun p => fuelOkB need p.2 (2 * hp.length + 2))
        | none => true)

end Cassis.Comparable
