/-
Round trip with collections, layer GM of `RoundTripColl_NOTES.md`: the second pass of the reader (`postFeatures`) on one
collected structure.  The loop over the features is stated once for a step given as a hypothesis (`post_features`: a step
takes `Meets` to `PostDone`); the steps are the flat feature (`flat_feature`), the shared one and the inlined ones
(`postInline`) of a general structure (`gen_feature`), and the one feature `elements` of an array object (`CAR.arr_*`).
Together: the second pass on any structure of the fragment (`coll_post_of_lookup`).
-/
import CassisModel.Proofs.RoundTripCollLemmas
import CassisModel.Proofs.RoundTripCollPostList
import CassisModel.Proofs.RoundTripCollArr
import CassisModel.Proofs.Pass3Lists

namespace Cassis.Xmi
open Cassis.TS Cassis.Lex

section
variable {K : Consts} {ts : TypeSystem} {cass : List Cas} {H : Heap} {na : Int → Nat} {tsIdx ci' : Nat}
  {sofas : List (Int × PSofa)} {fss : List (Int × Nat)} {isStr : Bool} {o : Obj} {a' : Nat} {x : Int}

/-- the loop over the features of one structure: slots of features still to come are in the state after the first
    pass (`Slot1`), the others in the state after the second (`Slot2`) -/
theorem post_features {all : List Feature}
    (step : ∀ f ∈ all, ∀ hpX o' v w, Meets K ts cass H hpX o f a' o' v w →
      PostDone K ts cass H na tsIdx ci' sofas fss isStr hpX a' o f v) :
    ∀ (fs : List Feature), (fs.map (·.name)).Nodup → (∀ f ∈ fs, f ∈ all ∧ ∃ v, alistGet? o.slots f.name = some v) →
    ∀ (hpX : Heap) (o' : Obj), hpX[a']? = some o' →
      ObjRelS (fun n v w => (n ∈ fs.map (·.name) → Slot1 K ts cass H hpX o n v w) ∧
        (n ∉ fs.map (·.name) → Slot2 K ts cass H na ci' hpX o n v w)) o o' x →
    ∃ hpY, postFeatures K ts tsIdx ci' sofas fss a' o.ty isStr fs hpX = .ok hpY ∧ Ext hpX hpY a' ∧
      ∃ o'' : Obj, hpY[a']? = some o'' ∧ Obj2 K ts cass H na ci' hpY o o'' x := by
  intro fs
  induction fs with
  | nil =>
    exact fun _ _ hpX o' h1 hrel => ⟨hpX, rfl, Ext.refl _ _, o', h1, hrel.mono fun _ _ _ _ h => h.2 (by simp)⟩
  | cons f fs ih =>
    intro hnd' hval hpX o' h1 hrel
    rw [List.map_cons, List.nodup_cons] at hnd'
    have hxn : o'.xid ≠ none := by rw [hrel.2.1]; exact fun h => by cases h
    have halt : a' < hpX.length := (List.getElem?_eq_some_iff.mp h1).1
    obtain ⟨hfa, v, hv⟩ := hval f List.mem_cons_self
    obtain ⟨w, hw, hs1, _⟩ := hrel.2.2.2 f.name v hv
    obtain ⟨hp1, w', hpf, hstepx, hs2⟩ := step f hfa hpX o' v w ⟨h1, hxn, hv, hw, hs1 (by simp)⟩
    have hfrz : Frz hpX hp1 := hstepx.toFrz h1 hxn
    have hext : Ext hpX hp1 a' := hstepx.ext
    obtain ⟨t0, _, _, _, o1, o2, ho1, ho2, hset⟩ := hstepx
    rw [List.getElem?_append_left halt, h1] at ho1; cases ho1
    -- the slot just written is done; every other slot keeps its state, on the later heap
    obtain ⟨hpY, hpfs, hextY, hres'⟩ := ih hnd'.2 (fun g hg => hval g (List.mem_cons_of_mem _ hg)) hp1 o2 ho2
      (hrel.step hv hset ⟨fun hm => absurd hm hnd'.1, fun _ => hs2⟩ fun n _ _ hn g =>
        ⟨fun hm => (g.1 (List.mem_cons_of_mem _ hm)).frz hfrz,
         fun hm => (g.2 fun hm' => (List.mem_cons.1 hm').elim hn hm).frz hfrz⟩)
    refine ⟨hpY, ?_, hext.trans hextY, hres'⟩
    show (postFeature K ts tsIdx ci' sofas fss hpX a' o.ty isStr f >>= fun hp' =>
      postFeatures K ts tsIdx ci' sofas fss a' o.ty isStr fs hp') = _
    rw [hpf]
    exact hpfs

theorem post2_of_step {t : TypeRec} {o1 : Obj} {hpX : Heap} (hfind : find? ts o.ty = some t)
    (hnd : ((allFeatures t).map (·.name)).Nodup)
    (hkeys : ∀ n v, alistGet? o.slots n = some v → n ∈ (allFeatures t).map (·.name))
    (hval : ∀ f ∈ allFeatures t, ∃ v, alistGet? o.slots f.name = some v)
    (hisStr : isInstanceOf ts o.ty STRING_ARRAY = isStr)
    (step : ∀ f ∈ allFeatures t, ∀ hpX o' v w, Meets K ts cass H hpX o f a' o' v w →
      PostDone K ts cass H na tsIdx ci' sofas fss isStr hpX a' o f v)
    (ho1 : hpX[a']? = some o1) (hrel : Obj1 K ts cass H hpX o o1 x) :
    ∃ (t : TypeRec) (hpY : Heap), getType ts o1.ty = .ok t ∧
      postFeatures K ts tsIdx ci' sofas fss a' o1.ty (isInstanceOf ts o1.ty STRING_ARRAY) (allFeatures t) hpX = .ok hpY ∧
      Ext hpX hpY a' ∧ ∃ o2 : Obj, hpY[a']? = some o2 ∧ Obj2 K ts cass H na ci' hpY o o2 x := by
  have hty := hrel.1
  obtain ⟨hpY, hpf, hrest⟩ := post_features step (allFeatures t) hnd (fun f hf => ⟨hf, hval f hf⟩) hpX o1 ho1
    (hrel.mono fun n v _ hv h => ⟨fun _ => h, fun hn => absurd (hkeys n v hv) hn⟩)
  exact ⟨t, hpY, by rw [hty]; exact getType_of_find hfind, by rw [hty, hisStr]; exact hpf, hrest⟩

end

namespace CGM

theorem postFeature_shared_str (K : Consts) (ts : TypeSystem) (tsIdx ci' : Nat) (sofas : List (Int × PSofa))
    (fss : List (Int × Nat)) (hpX : Heap) (a : Nat) (ty : String) (f : Feature) (o1 : Obj) (s : String) (x : Int)
    (t : Nat)
    (hname : f.name ≠ "sofa") (hprim : isPrimitive K ts f.range = false)
    (hty : isPrimitiveArray K ty = false) (hm : f.multi = some true) (hty2 : ty ≠ FS_ARRAY)
    (h1 : hpX[a]? = some o1) (h2 : alistGet? o1.slots f.name = some (.str s))
    (hparse : parseIntE s = .ok x) (hlook : lookupFs fss x = .ok t) :
    postFeature K ts tsIdx ci' sofas fss hpX a ty false f = Heap.setSlot hpX a f.name (.ref t) := by
  unfold postFeature
  simp only [slot_getD_eq h1 h2, beq_eq_false_iff_ne.2 hname, Bool.false_eq_true, if_false, hprim, hty, hm, Option.getD_some,
    Bool.not_true, Bool.and_false, Bool.false_and, beq_eq_false_iff_ne.2 hty2, Bool.or_self, hparse]
  show (lookupFs fss x >>= fun t => Heap.setSlot hpX a f.name (.ref t)) = _
  rw [hlook]
  rfl

theorem collFeat_slot (K : Consts) (ts : TypeSystem) (c : Cas) (ci : Nat) (H : Heap) (isAnn : Bool) (o : Obj)
    (f : Feature) (h : CollFeat K ts c ci H isAnn o f) : ∃ v, alistGet? o.slots f.name = some v := by
  rcases h with h | ⟨_, h | h⟩
  · exact h.slot
  · obtain ⟨_, _, _, _, _, _, v, hv, _⟩ := h
    exact ⟨v, hv⟩
  · obtain ⟨_, v, hv, _⟩ := h
    exact ⟨v, hv⟩

section
variable {K : Consts} {ts : TypeSystem} {cass : List Cas} {H : Heap} {na : Int → Nat} {tsIdx ci' : Nat}
  {sofas : List (Int × PSofa)} {fss : List (Int × Nat)} {ci : Nat} {c : Cas} {a : Nat} {o : Obj} {t : TypeRec}
  {f : Feature} {hpX : Heap} {a' : Nat} {o' : Obj} {v w : Val}
  (hc : cass[ci]? = some c) (hnames : ∀ nv ∈ c.views, nv.2.sofa.sofaID = nv.1)
  (hnd : (c.views.map (·.2.sofa.xid)).Nodup) (hsofas : sofas = c.views.map (fun nv => (nv.2.sofa.xid, psofaOf nv)))
  (hfind : find? ts o.ty = some t) (hf : f ∈ allFeatures t) (hnodup : (ctorFields t).Nodup)
  (hty1 : isPrimitiveArray K o.ty = false) (hty2 : o.ty ≠ FS_ARRAY)
include hc hnames hnd hsofas hfind hf hnodup hty1 hty2

/-- a flat feature: what the first pass stored is `exp1`, what the second leaves is `exp2` -/
theorem flat_feature (href : ∀ b, v = .ref b → Resolves H fss na b)
    (hflat : FlatFeat K ts c ci H (isInstanceOf ts o.ty ANNOTATION) o f) (m : Meets K ts cass H hpX o f a' o' v w) :
    PostDone K ts cass H na tsIdx ci' sofas fss false hpX a' o f v := by
  obtain ⟨hni, hnl⟩ := hflat.plain m.old
  have hplain : ∀ hpY, Slot2 K ts cass H na ci' hpY o f.name v (E2 ts cass H na ci' o f.name v) := fun _ =>
    .plain (fun b hb => (CF.inlineSlot_eq hfind hnodup hf).trans (hni b hb)) hnl
  have hw : w = exp1 cass H (isInstanceOf ts o.ty ANNOTATION) o f.name v := by
    rw [(m.s1.read hnl hfind hf hnodup (av := flatTok cass H (isInstanceOf ts o.ty ANNOTATION) o f.name v) (ks := [])
      fun a ho hann => by rw [renderFeature_flat K ts cass c ci H a _ f o hc ho hflat hann, m.old]; rfl).1 rfl]
    exact flatTok_read hc hflat m.old
  have hslot := m.slot
  rw [hw] at hslot
  obtain ⟨_, _, _, _, _, hr1, hr2, hr3, hr4, _, _, v', hv, hcases⟩ := hflat
  cases m.old.symm.trans hv
  rcases hcases with ⟨hname, hs⟩ | ⟨hname, hprim, hp⟩ | ⟨hname, hprim, _, _, _, _, _, hr⟩
  · -- the sofa
    rcases hs with ⟨vn, rfl, hsome⟩ | ⟨rfl, _⟩
    · obtain ⟨view, hview⟩ := Option.isSome_iff_exists.1 hsome
      have he1 : exp1 cass H (isInstanceOf ts o.ty ANNOTATION) o f.name (.sofa ci vn) = .int view.sofa.xid := by
        simp [exp1, hc, hview]
      rw [he1] at hslot
      have hmem : (vn, view) ∈ c.views := alistGet?_mem _ _ _ hview
      have hfind' := Det.find?_map_key (·.2.sofa.xid) psofaOf c.views (vn, view) hmem hnd
      rw [← hsofas] at hfind'
      refine m.set (w' := .sofa ci' vn) ?_ hplain
      rw [postFeature_sofa_int K ts tsIdx ci' sofas fss hpX a' o.ty false f o' _ _ hname m.new hslot hfind', hname,
        show (psofaOf (vn, view)).sofaID = vn from hnames _ hmem]
    · exact m.same (postFeature_sofa_none K ts tsIdx ci' sofas fss hpX a' o.ty false f o' hname m.new hslot) (hw ▸ hplain _)
  · -- primitives
    have key : ∀ w', parsePrimValue ts (ts.types.length + 1) f.range (exp1 cass H (isInstanceOf ts o.ty ANNOTATION) o f.name v)
        = .ok w' → w' = E2 ts cass H na ci' o f.name v → PostDone K ts cass H na tsIdx ci' sofas fss false hpX a' o f v :=
      fun w' hparse e => m.set (postFeature_prim K ts tsIdx ci' sofas fss hpX a' o.ty f o' _ w' hname hprim m.new hslot hparse)
        (e ▸ hplain)
    rcases hp with rfl | ⟨hint, i, rfl⟩ | ⟨hrange, s, rfl⟩ | ⟨hrange, b, rfl⟩ | ⟨hrange, t, rfl⟩
    · exact key .none (primValue_roundtrip_none _ _ _) rfl
    · exact key _ (primValue_roundtrip_int ts _ f.range (isIntRange_mem hint) _) rfl
    · exact key _ (by rw [hrange]; exact primValue_roundtrip_str _ _ _) rfl
    · exact key _ (by rw [hrange]; exact primValue_roundtrip_bool _ _ _) rfl
    · exact key _ (primValue_roundtrip_float _ _ _ _ hrange) rfl
  · -- references
    rcases hr with rfl | ⟨b, rfl, _, _⟩
    · exact m.same (postFeature_none K ts tsIdx ci' sofas fss hpX a' o.ty f o' hname hprim m.new hslot) (hw ▸ hplain _)
    · obtain ⟨x, hx, hlook⟩ := href _ rfl
      have he1 : exp1 cass H (isInstanceOf ts o.ty ANNOTATION) o f.name (.ref b) = .str (showInt x) := by simp [exp1, hx]
      have he2 : E2 ts cass H na ci' o f.name (.ref b) = .ref (na x) := by simp [E2, exp2, hx]
      rw [he1] at hslot
      exact m.set (postFeature_ref_str K ts tsIdx ci' sofas fss hpX a' o.ty f o' _ x _ hname hprim hty1 hr1 hr2 hty2
        hr3 hr4 m.new hslot (parseIntE_showInt x) hlook) (he2 ▸ hplain)

/-- one feature of a general structure: flat, shared (like a plain reference) or inlined -/
theorem gen_feature (ho : H[a]? = some o) (hres : ∀ b, Target K ts H a b → Resolves H fss na b)
    (hcf : CollFeat K ts c ci H (isInstanceOf ts o.ty ANNOTATION) o f) (m : Meets K ts cass H hpX o f a' o' v w) :
    PostDone K ts cass H na tsIdx ci' sofas fss false hpX a' o f v := by
  have hinl : inlineSlot K ts o f.name = isInline K f := CF.inlineSlot_eq hfind hnodup hf
  have href : isInline K f = false → ∀ b, v = .ref b → Resolves H fss na b :=
    fun hin b hb => hres b ⟨o, t, ho, hfind, .inl ⟨f, hf, hin, hb ▸ m.old⟩⟩
  rcases hcf with hflat | ⟨hnok, hsh | hin⟩
  · exact flat_feature hc hnames hnd hsofas hfind hf hnodup hty1 hty2 (fun b hb => href ((hflat.plain m.old).1 b hb) b hb)
      hflat m
  · obtain ⟨hm, _, hprim, hb1, hb2, hb3, v', hv', hval⟩ := hsh
    cases m.old.symm.trans hv'
    have hname : f.name ≠ "sofa" := hnok.2.2.2.2.2
    have hin : isInline K f = false := CT.isInline_shared hm
    rcases hval with e | ⟨b, rfl, hx'⟩
    · exact m.none hfind hf hnodup hnok.2.1 hnok.2.2.1 hname hprim e
    · obtain ⟨x, hxid, hlook⟩ := href hin b rfl
      have hw := m.slot
      rw [(m.s1.read rfl hfind hf hnodup (av := some (idTok H b)) (ks := []) fun a ho hann =>
        CG1.render_shared_ref K ts cass H a _ f o b ho hnok hm m.old hx' hprim ⟨hb1, hb2, hb3⟩ hann).attr hname] at hw
      simp only [idTok, hxid] at hw
      have he2 : E2 ts cass H na ci' o f.name (.ref b) = .ref (na x) := by simp [E2, exp2, hxid]
      exact m.set (postFeature_shared_str K ts tsIdx ci' sofas fss hpX a' o.ty f o' _ x _ hname hprim hty1 hm hty2 m.new
        hw (parseIntE_showInt x) hlook) fun hpY => he2 ▸ .plain (fun _ _ => hinl.trans hin) rfl
  · exact postInline K ts cass H na tsIdx ci' sofas fss a o t f ho hfind hf hnodup hnok hin trivial hty1 hty2 hres hpX a'
      o' m.new m.xid v w m.old m.slot m.s1

end

end CGM

theorem gen_post_of_lookup (K : Consts) (ts : TypeSystem) (cass : List Cas) (ci : Nat) (c : Cas) (hp H : Heap)
    (L : List (Int × Nat)) (na : Int → Nat) (tsIdx ci' : Nat) (sofas : List (Int × PSofa)) (fss : List (Int × Nat))
    (hc : cass[ci]? = some c) (hwf : RTWf c hp) (hL : LOkC K ts c ci H L)
    (hsofas : sofas = c.views.map (fun nv => (nv.2.sofa.xid, psofaOf nv)))
    (hfss : ∀ q ∈ L, lookupFs fss q.1 = .ok (na q.1)) :
    Post2Stmt K ts cass H L na tsIdx ci' sofas fss (GenFs K ts c ci H) := by
  intro q hq hgen hpX o o1 ho ho1 hrel
  obtain ⟨o_, t, ho_, hfind, g⟩ := genFs_iff.mp hgen
  cases ho.symm.trans ho_
  have hres : ∀ b, Target K ts H q.2 b → Resolves H fss na b := fun b hb =>
    (hL.closed q hq b hb).imp fun x h => ⟨h.1, hfss _ h.2⟩
  exact post2_of_step hfind g.nodup
    (fun n v hv => List.mem_eraseDups.1 (g.keys ▸ alistGet?_mem_keys _ _ _ hv))
    (fun f hf => CGM.collFeat_slot K ts c ci H _ o f (g.feat f hf)) g.notStrArr
    (fun f hf _ _ _ _ m => CGM.gen_feature hc hwf.names hwf.sofa_ids_nodup hsofas hfind hf g.nodup g.notPrimArr g.notFsArr ho hres
      (g.feat f hf) m) ho1 hrel

namespace CAR

theorem fs_resolves (K : Consts) (ts : TypeSystem) (c : Cas) (ci : Nat) (H : Heap) (L : List (Int × Nat)) (na : Int → Nat)
    (fss : List (Int × Nat)) (hfss : ∀ q ∈ L, lookupFs fss q.1 = .ok (na q.1))
    (hL : LOkC K ts c ci H L) (q : Int × Nat) (hq : q ∈ L) (o : Obj) (t : TypeRec) (l : List Nat)
    (hH : H[q.2]? = some o) (hfind : find? ts o.ty = some t) (hty : o.ty = FS_ARRAY)
    (hs : o.slots = [("elements", .refs (l.map some))]) :
    ∀ b ∈ l, Resolves H fss na b := by
  intro b hb
  have htg : Target K ts H q.2 b :=
    ⟨o, t, hH, hfind, Or.inr (Or.inr (Or.inr ⟨hty, l.map some, by rw [hs]; exact get_elems _,
      List.mem_map_of_mem hb⟩))⟩
  obtain ⟨x, hx, hmem⟩ := hL.closed q hq b htg
  exact ⟨x, hx, hfss _ hmem⟩

theorem top_prim (K : Consts) (ts : TypeSystem) : isPrimitive K ts TOP = false := by
  simp [isPrimitive, isPrimitiveAux]

theorem top_primArr (K : Consts) : isPrimitiveArray K TOP = false := by
  simp [isPrimitiveArray]

theorem top_primList (K : Consts) : isPrimitiveList K TOP = false := by
  simp [isPrimitiveList]

theorem top_ne_fsArray : (TOP == FS_ARRAY) = false := by simp [TOP, FS_ARRAY]

theorem elements_ne_sofa : ("elements" == "sofa") = false := by simp

theorem post_strArr_none (K : Consts) (ts : TypeSystem) (tsIdx ci' : Nat) (sofas : List (Int × PSofa))
    (fss : List (Int × Nat)) (hpX : Heap) (a : Nat) (ty : String) (f : Feature) (o1 : Obj)
    (hname : f.name = "elements") (h1 : hpX[a]? = some o1) (h2 : alistGet? o1.slots f.name = some .none) :
    postFeature K ts tsIdx ci' sofas fss hpX a ty true f = Heap.setSlot hpX a "elements" (.refs []) := by
  unfold postFeature
  extract_lets v multi
  have hv : v = .none := slot_getD_eq h1 h2
  rw [hname, if_neg (by rw [elements_ne_sofa]; exact Bool.false_ne_true), if_pos rfl, if_pos (by rw [hv]; rfl)]

theorem post_strArr_keep (K : Consts) (ts : TypeSystem) (tsIdx ci' : Nat) (sofas : List (Int × PSofa))
    (fss : List (Int × Nat)) (hpX : Heap) (a : Nat) (ty : String) (f : Feature) (o1 : Obj) (w : Val)
    (hname : f.name = "elements") (h1 : hpX[a]? = some o1) (h2 : alistGet? o1.slots f.name = some w)
    (hw : w ≠ .none) :
    postFeature K ts tsIdx ci' sofas fss hpX a ty true f = .ok hpX := by
  unfold postFeature
  extract_lets v multi
  have hv : v = w := slot_getD_eq h1 h2
  rw [hname, if_neg (by rw [elements_ne_sofa]; exact Bool.false_ne_true), if_pos rfl,
    if_neg (by rw [hv, beq_eq_false_iff_ne.2 hw, Bool.and_false]; exact Bool.false_ne_true)]
  rfl

theorem post_none (K : Consts) (ts : TypeSystem) (tsIdx ci' : Nat) (sofas : List (Int × PSofa))
    (fss : List (Int × Nat)) (hpX : Heap) (a : Nat) (ty : String) (f : Feature) (o1 : Obj)
    (hname : f.name = "elements") (hr : f.range = TOP)
    (h1 : hpX[a]? = some o1) (h2 : alistGet? o1.slots f.name = some .none) :
    postFeature K ts tsIdx ci' sofas fss hpX a ty false f = .ok hpX :=
  postFeature_none K ts tsIdx ci' sofas fss hpX a ty f o1 (by simp [hname]) (by rw [hr]; exact top_prim K ts)
    h1 h2

theorem post_prim_str (K : Consts) (ts : TypeSystem) (tsIdx ci' : Nat) (sofas : List (Int × PSofa))
    (fss : List (Int × Nat)) (hpX : Heap) (a : Nat) (ty : String) (f : Feature) (o1 : Obj) (s : String) (ev' : Val)
    (hname : f.name = "elements") (hr : f.range = TOP) (hty : isPrimitiveArray K ty = true)
    (h1 : hpX[a]? = some o1) (h2 : alistGet? o1.slots f.name = some (.str s))
    (hparse : parsePrimArrayStr ty s = .ok ev') :
    postFeature K ts tsIdx ci' sofas fss hpX a ty false f = Heap.setSlot hpX a "elements" ev' := by
  unfold postFeature
  extract_lets v multi
  have hv : v = .str s := slot_getD_eq h1 h2
  rw [hname, hr, if_neg (by rw [elements_ne_sofa]; exact Bool.false_ne_true), if_neg Bool.false_ne_true,
    if_neg (by rw [top_prim]; exact Bool.false_ne_true), if_pos (by rw [hty]; rfl), hv]
  dsimp only
  rw [hparse]
  rfl

theorem post_fs_str (K : Consts) (ts : TypeSystem) (tsIdx ci' : Nat) (sofas : List (Int × PSofa))
    (fss : List (Int × Nat)) (hpX : Heap) (a : Nat) (f : Feature) (o1 : Obj) (s : String) (targets : List Nat)
    (hname : f.name = "elements") (hr : f.range = TOP) (hty : isPrimitiveArray K FS_ARRAY = false)
    (h1 : hpX[a]? = some o1) (h2 : alistGet? o1.slots f.name = some (.str s))
    (hres : resolveIds fss (splitWs s) = .ok targets) :
    postFeature K ts tsIdx ci' sofas fss hpX a FS_ARRAY false f =
      Heap.setSlot hpX a "elements" (.refs (targets.map some)) := by
  unfold postFeature
  extract_lets v multi
  have hv : v = .str s := slot_getD_eq h1 h2
  rw [hname, hr, if_neg (by rw [elements_ne_sofa]; exact Bool.false_ne_true), if_neg Bool.false_ne_true,
    if_neg (by rw [top_prim]; exact Bool.false_ne_true), if_neg (by rw [hty]; exact Bool.false_ne_true),
    if_neg (by rw [top_primArr]; exact Bool.false_ne_true), if_neg (by rw [top_primList]; exact Bool.false_ne_true), hv]
  dsimp only
  rw [if_pos (by rw [beq_self_eq_true]; rfl), hres]
  have hne : ¬ (TOP == FS_ARRAY) = true := by rw [top_ne_fsArray]; exact Bool.false_ne_true
  simp only [bind, Except.bind, if_neg hne]

section
variable {K : Consts} {ts : TypeSystem} {cass : List Cas} {tsIdx ci' : Nat} {sofas : List (Int × PSofa)}
  {fss : List (Int × Nat)} {H : Heap} {na : Int → Nat} {hpX : Heap} {a' : Nat} {f : Feature} {o o1 : Obj} {ev w : Val}
  (hname : f.name = "elements") (m : Meets K ts cass H hpX o f a' o1 ev w)
include hname m

theorem arr_prim (hr : f.range = TOP) (hty : PrimArrTy o.ty) (hpa : isPrimitiveArray K o.ty = true)
    (hev : ev = .none ∨ PrimElems o.ty ev) (hnone : ev = .none → w = .none) :
    PostDone K ts cass H na tsIdx ci' sofas fss false hpX a' o f ev := by
  rcases hev with rfl | hev
  · cases hnone rfl
    exact m.same (post_none K ts tsIdx ci' sofas fss hpX a' _ f o1 hname hr m.new m.slot) (Slot2.none _)
  · rcases m.s1.1 (primElems_list hev) with ⟨hty', _⟩ | ⟨hty', _⟩ | ⟨_, s, hshow, rfl⟩
    · exact absurd hty' (primArrTy_ne hty (by simp))
    · exact absurd hty' (primArrTy_ne hty (by simp))
    · exact m.set (hname ▸ post_prim_str K ts tsIdx ci' sofas fss hpX a' _ f o1 s _ hname hr hpa m.new m.slot
        (prim_inverse H na hty hev hshow)) fun _ => Slot2.list (primElems_list hev)

/-- a StringArray: the child elements were read in the first pass; the empty array comes back as `[]` -/
theorem arr_str (hty : o.ty = STRING_ARRAY) (hev : StrElems ev) :
    PostDone K ts cass H na tsIdx ci' sofas fss true hpX a' o f ev := by
  have hl : isListV ev = true := by rcases hev with rfl | ⟨l, rfl⟩ <;> rfl
  rcases m.s1.1 hl with ⟨hty', _⟩ | ⟨_, hE⟩ | ⟨hty', _⟩
  · simp [hty, STRING_ARRAY, FS_ARRAY] at hty'
  · rcases hE with ⟨hnil, rfl⟩ | ⟨l, rfl, hne, rfl⟩
    · refine m.set (w' := .refs []) (hname ▸ post_strArr_none K ts tsIdx ci' sofas fss hpX a' _ f o1 hname m.new m.slot)
        fun _ => ?_
      rcases hnil with rfl | rfl <;> exact Slot2.list rfl
    · refine m.same (post_strArr_keep K ts tsIdx ci' sofas fss hpX a' _ f o1 _ hname m.new m.slot Val.noConfusion) ?_
      rw [← elemsExp_strs H na hne]
      exact Slot2.list rfl
  · rw [hty] at hty'; exact absurd rfl (primArrTy_ne hty' (by simp))

theorem arr_fs (hr : f.range = TOP) (hty : o.ty = FS_ARRAY) (hpa : isPrimitiveArray K FS_ARRAY = false)
    (hev : ev = .none ∨ ∃ l : List Nat, ev = .refs (l.map some) ∧ ∀ b ∈ l, Resolves H fss na b)
    (hnone : ev = .none → w = .none) : PostDone K ts cass H na tsIdx ci' sofas fss false hpX a' o f ev := by
  rcases hev with rfl | ⟨l, rfl, hl⟩
  · cases hnone rfl
    exact m.same (post_none K ts tsIdx ci' sofas fss hpX a' _ f o1 hname hr m.new m.slot) (Slot2.none _)
  · rcases m.s1.1 rfl with ⟨_, l', hl', rfl⟩ | ⟨hty', _⟩ | ⟨hty', _⟩
    · cases (List.map_inj_right fun _ _ => Option.some.inj).1 (Val.refs.inj hl')
      refine m.set (hty ▸ hname ▸ post_fs_str K ts tsIdx ci' sofas fss hpX a' f o1 _ _ hname hr hpa m.new m.slot
        (fs_resolve H fss na l hl)) fun _ => ?_
      rw [fs_elemsExp H fss na l hl]
      exact Slot2.list rfl
    · simp [hty, STRING_ARRAY, FS_ARRAY] at hty'
    · rw [hty] at hty'; exact absurd rfl (primArrTy_ne hty' (by simp))

end

end CAR

open CAR in
theorem arr_post_of_lookup (K : Consts) (ts : TypeSystem) (cass : List Cas) (ci : Nat) (c : Cas) (H : Heap)
    (L : List (Int × Nat)) (na : Int → Nat) (tsIdx ci' : Nat) (sofas : List (Int × PSofa)) (fss : List (Int × Nat))
    (hL : LOkC K ts c ci H L) (hfss : ∀ q ∈ L, lookupFs fss q.1 = .ok (na q.1)) :
    Post2Stmt K ts cass H L na tsIdx ci' sofas fss (ArrFs K ts H) := by
  intro q hq hP hpX o o1 hH h1 hobj1
  obtain ⟨t, f, ev, hfind, ar⟩ := hP.at hH
  have hmem : f ∈ allFeatures t := by rw [ar.feats]; exact List.mem_singleton.mpr rfl
  have hget : alistGet? o.slots f.name = some ev := by rw [ar.slots, ar.fname]; exact get_elems ev
  have step : ∀ isStr, isInstanceOf ts o.ty STRING_ARRAY = isStr → ∀ hpX o' v w, Meets K ts cass H hpX o f (na q.1) o' v w →
      PostDone K ts cass H na tsIdx ci' sofas fss isStr hpX (na q.1) o f v := by
    intro isStr hisStr hpX o' v w m
    cases hget.symm.trans m.old
    have hnone : ev = .none → w = .none := by
      rintro rfl
      exact m.s1.none hfind hmem (by rw [ctor_elems ar.feats ar.fname]; simp) (by simp [ar.fname]) (by simp [ar.fname]) hget
    subst hisStr
    rcases ar.kind with ⟨hty, hpa, hsa, hev⟩ | ⟨hty, hpa, hev⟩ | ⟨hty, hpa, hsa, hev⟩
    · rw [hty, hsa]
      refine arr_fs ar.fname m ar.frange hty hpa (hev.imp_right ?_) hnone
      rintro ⟨l, rfl, _⟩
      exact ⟨l, rfl, fs_resolves K ts c ci H L na fss hfss hL q hq o t l hH hfind hty ar.slots⟩
    · rw [hty, strArr_self]
      exact arr_str ar.fname m hty hev
    · rw [hsa]
      exact arr_prim ar.fname m ar.frange hty hpa hev hnone
  refine post2_of_step hfind (by rw [ar.feats]; simp) (fun n v hv => ?_) (fun g hg => ?_) rfl
    (fun g hg => by rw [ar.feats, List.mem_singleton] at hg; subst hg; exact step _ rfl) h1 hobj1
  · rw [ar.slots] at hv
    rw [ar.feats, (get_elems_inv _ _ _ hv).1, ← ar.fname]; exact List.mem_singleton.mpr rfl
  · rw [ar.feats, List.mem_singleton] at hg; subst hg; exact ⟨ev, hget⟩

/-- second pass on one collected structure of the fragment; of the reader's tables only what the lookups give is used -/
theorem coll_post_of_lookup (K : Consts) (ts : TypeSystem) (cass : List Cas) (ci : Nat) (c : Cas) (hp H : Heap)
    (L : List (Int × Nat)) (na : Int → Nat) (tsIdx ci' : Nat) (sofas : List (Int × PSofa)) (fss : List (Int × Nat))
    (hc : cass[ci]? = some c) (hwf : RTWf c hp) (hL : LOkC K ts c ci H L)
    (hsofas : sofas = c.views.map (fun nv => (nv.2.sofa.xid, psofaOf nv)))
    (hfss : ∀ q ∈ L, lookupFs fss q.1 = .ok (na q.1)) :
    Post2Stmt K ts cass H L na tsIdx ci' sofas fss (CollFs K ts c ci H) := fun q hq hP =>
  hP.elim
    (gen_post_of_lookup K ts cass ci c hp H L na tsIdx ci' sofas fss hc hwf hL hsofas hfss q hq)
    (arr_post_of_lookup K ts cass ci c H L na tsIdx ci' sofas fss hL hfss q hq)

end Cassis.Xmi
