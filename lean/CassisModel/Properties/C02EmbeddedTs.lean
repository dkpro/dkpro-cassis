/-
C02 — the type system a JSON document carries is sufficient: loading a document written with `TypeSystemMode.FULL`
*without* supplying a type system reconstructs the original type system.

For every type system built through the API (any history of `create_type` / `create_feature` that declares features on
user types other than DocumentAnnotation) that the `%TYPES` format can carry (`Writable`, `Spec/EmbeddedTs.lean`: no
empty descriptions, no element type on primitive-array features, no primitive element type on FSArray features, no
non-array range named `…[]`, no type named `DocumentAnnotation` without namespace), the type system the loader builds
from the `%TYPES` section of a FULL document — the embedded declarations are created supertypes first, then their
features, and the result is merged into a fresh type system — declares the same under every name: same supertype,
description, children and effective features (`SameTs`, `Spec/MergeSelf.lean`).  The MINIMAL counterpart is
`json_minimal_ts_agree` (`C02RoundTripEmbedded.lean`); that the declared subset is closed is `closure_sufficient`
(`C02Closure.lean`).

The statement without the hypothesis `hw` is false:
`json_full_ts_same_needs_writable` below (kernel-checked; the instance is evaluated in `Proofs/EmbeddedTsRefute.lean`); every clause of `Writable`
is forced by an evaluated counterexample (`Proofs/EmbeddedTsCounter.lean`), each reproduced on the implementation.
The hypothesis `hpc : NoPercentNames` (no feature name starts with `%`) is needed as well: a `%TYPES` entry is ONE JSON
object holding the reserved members `%NAME`, `%SUPER_TYPE`, `%DESCRIPTION` and one member per feature, and the reader skips
every member whose key starts with `%` when it creates the features.  A feature `%foo` is lost on load, a feature
`%DESCRIPTION` / `%SUPER_TYPE` replaces the description / the supertype name in the document (the reader then takes the
declaration for the description — the model stops there with `NotImplementedError`: it has no `dict` descriptions — or
raises `TypeError`), a feature `%NAME` makes `to_json` raise `TypeError`.  The model follows the code there
(`renderTypeDecl`, `renderTypeDecls`, `loadEmbeddedTs`); the instances are evaluated in `Proofs/EmbeddedTsPctDemo.lean`
(each satisfies `UserOnlyNoDoc` and `Writable`) and were reproduced on the implementation, modes FULL and MINIMAL.
-/
import CassisModel.Proofs.EmbeddedTs
import CassisModel.Proofs.EmbeddedTsDemo
import CassisModel.Proofs.EmbeddedTsRefute
import CassisModel.Proofs.EmbeddedTsCounter
import CassisModel.Proofs.EmbeddedTsPctDemo

namespace Cassis.Json
open Cassis.TS

/-- **the embedded FULL type system reproduces the original** (for type systems the `%TYPES` format can carry) -/
theorem json_full_ts_same (ops : List TsOp) (h : UserOnlyNoDoc Gen.consts ops)
    (hw : Writable Gen.consts (ops.foldl (applyOp Gen.consts) Gen.builtinTS))
    (hpc : NoPercentNames (ops.foldl (applyOp Gen.consts) Gen.builtinTS))
    (cass : List Cas) (ci : Nat) (hp : Heap) (doc : JDoc) (st : Traverse.St)
    (hsave : saveJson Gen.consts (ops.foldl (applyOp Gen.consts) Gen.builtinTS) cass ci hp .full = .ok (doc, st)) :
    ∃ ts', loadTs Gen.consts Gen.builtinTS true doc = .ok ts' ∧
      SameTs (ops.foldl (applyOp Gen.consts) Gen.builtinTS) ts' :=
  let ⟨ts', hl, hs, _⟩ := json_full_ts_same_cons ops h hw hpc cass ci hp doc st hsave
  ⟨ts', hl, hs⟩

/-- without `Writable` the statement is false (`create_type("x.A", "uima.cas.TOP", description="")`: the empty
    description is not written) -/
theorem json_full_ts_same_needs_writable :
    ¬ (∀ (ops : List TsOp), UserOnlyNoDoc Gen.consts ops →
        ∀ (cass : List Cas) (ci : Nat) (hp : Heap) (doc : JDoc) (st : Traverse.St),
          saveJson Gen.consts (ops.foldl (applyOp Gen.consts) Gen.builtinTS) cass ci hp .full = .ok (doc, st) →
          ∃ ts', loadTs Gen.consts Gen.builtinTS true doc = .ok ts' ∧
            SameTs (ops.foldl (applyOp Gen.consts) Gen.builtinTS) ts') := by
  intro H
  have hsaveB := cex_evals.saves
  cases hs : saveJson Gen.consts cexTs [Cas.empty] 0 [] .full with
  | error e => rw [hs] at hsaveB; cases hsaveB
  | ok p =>
    obtain ⟨doc, st⟩ := p
    have hdoc : doc.types = some cexTypes := by
      obtain ⟨decls, hdecls, htypes⟩ := saveJson_full_types _ _ _ _ _ _ _ hs
      unfold renderTypeDecls at hdecls
      rw [cex_evals.noFeatNamedPctNAME] at hdecls
      simp only [Bool.false_eq_true, if_false] at hdecls
      -- (`cases hdecls` would make the unifier evaluate the closed `%TYPES` section)
      rw [htypes, ← Except.ok.inj hdecls, cex_evals.typesSection]
    obtain ⟨ts', hl, hsame⟩ := H cexOps ⟨trivial, fun op hop => by
      simp only [cexOps, List.mem_singleton] at hop; subst hop; trivial⟩ [Cas.empty] 0 [] doc st hs
    have hd := cex_load doc hdoc ts' hl
    have ho := cex_evals.origDescr
    -- (`sameTs_find`, a lemma about variables: applying `hsame` to the name directly makes the elaborator evaluate
    -- the closed type system)
    have hsame : SameTs cexTs ts' := hsame
    rcases sameTs_find hsame "x.A" with ⟨h1, _⟩ | ⟨t, t', h1, h2, hx⟩
    · rw [h1] at ho; cases ho
    · rw [h1] at ho; rw [h2] at hd
      simp only [Option.bind_some] at ho hd
      have := hx.2.2.1
      rw [ho, hd] at this
      cases this

/-! Non-vacuity: the hypotheses hold on a history with a chain, a type without namespace, a user subtype of
`uima.cas.String`, a subtype of DocumentAnnotation, a feature redefined identically on a subtype, the reserved feature
name `self`, array ranges with and without element type, `multipleReferencesAllowed` (`Proofs/EmbeddedTsDemo.lean`);
`Writable` and `NoPercentNames` are decidable and evaluated by the kernel. -/
example : UserOnlyNoDoc Gen.consts demoOps ∧
    Writable Gen.consts (demoOps.foldl (applyOp Gen.consts) Gen.builtinTS) ∧
    NoPercentNames (demoOps.foldl (applyOp Gen.consts) Gen.builtinTS) ∧
    ∃ doc st, saveJson Gen.consts (demoOps.foldl (applyOp Gen.consts) Gen.builtinTS) [Cas.empty] 0 [] .full = .ok (doc, st) := by
  rw [demo_eq]
  exact ⟨demo_hist, demo_writable, demo_noPct, demo_save⟩

example : ∃ doc st ts', saveJson Gen.consts demoTs [Cas.empty] 0 [] .full = .ok (doc, st) ∧
    loadTs Gen.consts Gen.builtinTS true doc = .ok ts' ∧ SameTs demoTs ts' := demo_full_ts_same

end Cassis.Json

#print axioms Cassis.Json.json_full_ts_same
#print axioms Cassis.Json.json_full_ts_same_needs_writable
