/-
C18 — Feature paths read and write exactly what step-by-step attribute access does.

Theorems about `Model/Heap.lean` (`getPath`, `setPath` over the already split path), for every heap
(cycles included), every reserved-attribute list `RA` and every behaviour `ext` of non-FS values that
answers `None` on `None`.
-/
import CassisModel.Proofs.Heap

namespace Cassis.Heap

/-- `get(path)` = plain step-by-step access; the early exit on `None` is unobservable -/
theorem get_eq_stepwise (RA : List String) (ext : Val → String → Val) (hext : ∀ p, ext .none p = .none)
    (h : Heap) (a : Nat) (parts : List String) :
    getPath RA ext h a parts = follow RA ext h (.ref a) parts :=
  go_eq_follow RA ext hext h parts (.ref a)

/-- `None` as soon as a step is `None` … -/
theorem get_none_of_prefix_none (RA : List String) (ext : Val → String → Val) (h : Heap) (a : Nat)
    (pre post : List String) (hne : pre ≠ []) (hp : getPath RA ext h a pre = .none) :
    getPath RA ext h a (pre ++ post) = .none :=
  go_append_of_none RA ext h pre post (.ref a) hne hp

/-- … or names no feature (nor reserved attribute) of the structure reached so far -/
theorem get_none_of_unknown (RA : List String) (ext : Val → String → Val) (h : Heap) (a t : Nat)
    (pre : List String) (p : String) (post : List String)
    (hp : getPath RA ext h a pre = .ref t) (hu : getattr RA h t p = none) :
    getPath RA ext h a (pre ++ p :: post) = .none := by
  unfold getPath at hp ⊢
  rw [go_append_of_ne RA ext h pre (p :: post) (.ref a) (.ref t) hp (by intro hc; cases hc)]
  apply go_cons_of_none
  simp only [stepGet, hu, Option.getD_none]

/-- one more segment = one more `getattr` -/
theorem get_snoc (RA : List String) (ext : Val → String → Val) (hext : ∀ p, ext .none p = .none)
    (h : Heap) (a : Nat) (pre : List String) (p : String) :
    getPath RA ext h a (pre ++ [p]) = stepGet RA ext h (getPath RA ext h a pre) p :=
  go_snoc RA ext hext h pre p (.ref a)

/-- `set(path, v)` assigns the last feature on the structure reached by the prefix -/
theorem set_spec (RA : List String) (ext : Val → String → Val) (h h' : Heap) (a : Nat)
    (pre : List String) (last : String) (v : Val)
    (hs : setPath RA ext h a (pre ++ [last]) v = .ok h') :
    ∃ t, (if pre = [] then t = a else getPath RA ext h a pre = .ref t) ∧ setSlot h t last v = .ok h' := by
  by_cases hpre : pre = []
  · subst hpre
    rw [List.nil_append, setPath_singleton] at hs
    exact ⟨a, by simp, hs⟩
  · rw [setPath_snoc RA ext h a pre last v hpre] at hs
    cases hg : getPath RA ext h a pre with
    | ref t =>
      rw [hg] at hs
      exact ⟨t, by simp [hpre], hs⟩
    | _ => rw [hg] at hs; cases hs

/-- after a successful `setSlot`, reading that slot gives `v` … -/
theorem setSlot_get (RA : List String) (h h' : Heap) (t : Nat) (name : String) (v : Val)
    (hn : name ≠ "xmiID") (hs : setSlot h t name v = .ok h') : getattr RA h' t name = some v := by
  obtain ⟨o, ho, hc⟩ := setSlot_ok_cases h h' t name v hs
  rcases hc with ⟨w, _, hh⟩ | ⟨_, hx, _⟩
  · subst hh
    unfold getattr
    rw [List.getElem?_set_self (lt_length_of_getElem?_eq_some ho)]
    simp only [alistGet?_set_same]
  · exact absurd hx hn

/-- … and no other slot of any object changes (frame) -/
theorem setSlot_frame (RA : List String) (h h' : Heap) (t : Nat) (name : String) (v : Val)
    (hs : setSlot h t name v = .ok h') (b : Nat) (n : String) (hne : b ≠ t ∨ n ≠ name) :
    getattr RA h' b n = getattr RA h b n ∧ h'.length = h.length := by
  obtain ⟨o, ho, hc⟩ := setSlot_ok_cases h h' t name v hs
  have hlt := lt_length_of_getElem?_eq_some ho
  rcases hc with ⟨w, _, hh⟩ | ⟨hnone, hx, x, hh⟩
  · subst hh
    refine ⟨?_, List.length_set⟩
    by_cases hb : b = t
    · subst hb
      have hn : n ≠ name := by
        rcases hne with h1 | h1
        · exact absurd rfl h1
        · exact h1
      unfold getattr
      rw [List.getElem?_set_self hlt, ho]
      simp only [alistGet?_set_other _ _ _ _ hn]
    · unfold getattr
      rw [List.getElem?_set_ne (Ne.symm hb)]
  · subst hh
    refine ⟨?_, List.length_set⟩
    by_cases hb : b = t
    · subst hb
      have hn : n ≠ "xmiID" := by
        rcases hne with h1 | h1
        · exact absurd rfl h1
        · rw [hx] at h1; exact h1
      have hbn : (n == "xmiID") = false := by simpa using hn
      unfold getattr
      rw [List.getElem?_set_self hlt, ho]
      simp only [hbn]
      rfl
    · unfold getattr
      rw [List.getElem?_set_ne (Ne.symm hb)]

/-- `set` then `get` returns `v`, provided the prefix still leads to the same structure after the
    assignment (always the case when the assigned slot is not on the prefix walk; with a cyclic alias such
    as `a.next = a; a.set("next.next", b)` the real code, too, returns `b.next` — recorded finding A2) -/
theorem set_then_get (RA : List String) (ext : Val → String → Val) (hext : ∀ p, ext .none p = .none)
    (h h' : Heap) (a : Nat) (pre : List String) (last : String) (v : Val) (hn : last ≠ "xmiID")
    (hs : setPath RA ext h a (pre ++ [last]) v = .ok h')
    (hstable : getPath RA ext h' a pre = getPath RA ext h a pre) :
    getPath RA ext h' a (pre ++ [last]) = v := by
  obtain ⟨t, ht, hset⟩ := set_spec RA ext h h' a pre last v hs
  have hget := setSlot_get RA h h' t last v hn hset
  rw [get_snoc RA ext hext h' a pre last]
  by_cases hpre : pre = []
  · subst hpre
    simp only [if_true] at ht
    subst ht
    simp only [getPath, go_nil, stepGet, hget, Option.getD_some]
  · simp only [hpre, if_false] at ht
    rw [hstable, ht]
    simp only [stepGet, hget, Option.getD_some]

/-- raising leaves the heap untouched is built into the `Except` model; *when* it raises: the prefix
    leads to `None` (or to a non-structure) … -/
theorem set_error_of_prefix (RA : List String) (ext : Val → String → Val) (h : Heap) (a : Nat)
    (pre : List String) (last : String) (v : Val) (hne : pre ≠ [])
    (hp : ∀ t, getPath RA ext h a pre ≠ .ref t) :
    setPath RA ext h a (pre ++ [last]) v = .error .attributeError := by
  rw [setPath_snoc RA ext h a pre last v hne]
  cases hg : getPath RA ext h a pre with
  | ref t => exact absurd hg (hp t)
  | _ => rfl

/-- … or the last name is not a slot of the structure reached -/
theorem set_error_of_unknown_last (RA : List String) (ext : Val → String → Val) (h : Heap) (a t : Nat)
    (pre : List String) (last : String) (v : Val) (hl : last ≠ "xmiID")
    (ht : if pre = [] then t = a else getPath RA ext h a pre = .ref t)
    (hslot : ∀ o, h[t]? = some o → alistGet? o.slots last = none) :
    setPath RA ext h a (pre ++ [last]) v = .error .attributeError := by
  by_cases hpre : pre = []
  · subst hpre
    simp only [if_true] at ht
    subst ht
    rw [List.nil_append, setPath_singleton]
    exact setSlot_error_of_unknown h t last v hl hslot
  · simp only [hpre, if_false] at ht
    rw [setPath_snoc RA ext h a pre last v hpre, ht]
    exact setSlot_error_of_unknown h t last v hl hslot

/-! Non-vacuity: a two-node cycle (tests of concrete instances) -/
def demoHeap : Heap :=
  [ { ty := "x.N", ts := 0, xid := none, slots := [("next", .ref 1), ("val", .int 7)] },
    { ty := "x.N", ts := 0, xid := none, slots := [("next", .ref 0), ("val", .none)] } ]

example : getPath [] (fun _ _ => .none) demoHeap 0 ["next", "next", "val"] = .int 7 := by decide
example : getPath [] (fun _ _ => .none) demoHeap 0 ["next", "val", "val"] = .none := by decide
example : getPath [] (fun _ _ => .none) demoHeap 0 ["nope", "val"] = .none := by decide
example : (setPath [] (fun _ _ => .none) demoHeap 0 ["next", "val"] (.int 3)).toOption.map
    (fun h => getPath [] (fun _ _ => .none) h 0 ["next", "val"]) = some (.int 3) := by decide
example : setPath [] (fun _ _ => .none) demoHeap 0 ["next", "val", "x"] (.int 3) = .error .attributeError := by rfl

end Cassis.Heap
