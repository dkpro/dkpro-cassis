/-
Histories of type-system operations, in a form the kernel evaluates: `applyOp` through the structurally recursive copy
`createFeatureS` of `create_feature` (the kernel does not unfold the well-founded recursion of `pushInherited`), and a
Boolean test for the hypothesis `UserOnlyNoDoc` (features are declared on user types other than DocumentAnnotation) of the
theorems about embedded type systems.
-/
import CassisModel.Spec.MergeSelf
import CassisModel.Proofs.TypeSystem

namespace Cassis.Json
open Cassis.TS

/-- histories that also leave DocumentAnnotation alone (its features are not written: the type is implicit) -/
def UserOnlyNoDoc (K : Consts) (ops : List TsOp) : Prop :=
  UserOnly K ops ∧ ∀ op ∈ ops, match op with
    | .createFeature dom _ _ _ _ _ => dom ≠ DOCUMENT_ANNOTATION
    | .createType _ _ _ => True

def applyOpS (K : Consts) (ts : TypeSystem) : TsOp → TypeSystem
  | .createType n s d =>
    if hasExact ts n then ts
    else match createType K ts n s d with
      | .ok ts' => ts'
      | .error _ => ts
  | .createFeature dom n r e d m =>
    match createFeatureS ts dom n r e d m with
    | .ok ts' => ts'
    | .error _ => ts

theorem applyOp_eq_S (K : Consts) : applyOp K = applyOpS K := by
  funext ts op
  cases op with
  | createType n s d => rfl
  | createFeature dom n r e d m =>
    simp only [applyOp, applyOpS, createFeature_eq_S]
    rfl

theorem contains_dot (s : String) (h : '.' ∈ s.toList) : s.contains '.' = true := by
  rw [String.contains_eq_contains_toSlice, String.Slice.contains_char_eq]
  simpa using h

/-- `UserOnlyNoDoc` as a test the kernel can run (`String.contains` does not
    reduce there: the dot is looked for in `toList`) -/
def histOkB (K : Consts) : List TsOp → Bool
  | [] => true
  | .createType _ _ _ :: rest => histOkB K rest
  | .createFeature dom _ _ _ _ _ :: rest =>
    !K.predefined.contains dom && dom.toList.contains '.' && dom != DOCUMENT_ANNOTATION && histOkB K rest

theorem histOkB_sound (K : Consts) (ops : List TsOp) (h : histOkB K ops = true) :
    UserOnlyNoDoc K ops := by
  induction ops with
  | nil => exact ⟨trivial, fun _ h => nomatch h⟩
  | cons op rest ih =>
    cases op with
    | createType n s d =>
      obtain ⟨hu, hn⟩ := ih h
      exact ⟨hu, fun op hop => by
        rcases List.mem_cons.mp hop with rfl | h'
        · trivial
        · exact hn op h'⟩
    | createFeature dom n r e d m =>
      simp only [histOkB, Bool.and_eq_true, Bool.not_eq_true', List.contains_iff_mem, bne_iff_ne] at h
      obtain ⟨⟨⟨hp, hdot⟩, hdoc⟩, hr⟩ := h
      obtain ⟨hu, hn⟩ := ih hr
      exact ⟨⟨hp, contains_dot _ hdot, hu⟩, fun op hop => by
        rcases List.mem_cons.mp hop with rfl | h'
        · exact hdoc
        · exact hn op h'⟩

end Cassis.Json
