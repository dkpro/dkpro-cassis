/-
C20 across the JSON round trip, whole format: the hypothesis "the default traversal of the original succeeds" of
`render_json_roundtrip_coll` follows from the other hypotheses whenever the constants do not classify `uima.cas.FSList`
as an array type (`default_traversal_succeeds_of_jw`).

Why the proviso: the fragment `JCollFs` asks that the spine of an inlined list ends (J2) only where the content function
unrolls it (`isArray K f.range = false`); the default traversal walks the spine of an inlined `FSList` feature whatever
`K` says.  True for the generated constants; `K` is an arbitrary record in the theorems.
-/
import CassisModel.Proofs.ComparableIsoJsonCollTrav

namespace Cassis.Comparable
open Cassis.TS Cassis.Traverse Cassis.Xmi Cassis.Json

section
variable {K : Consts} {ts : TypeSystem} {c : Cas} {ci : Nat} {H : Heap} {L : List (Int × Nat)} {ci' : Nat} {HF : Heap}

theorem dfeature_ok (hK : isArray K FS_LIST = false) {a : Nat} {o : Obj} (ho : H[a]? = some o) {isAnn : Bool}
    {f : Feature} (hf : JFeatOk K ts c ci H isAnn o f) :
    ∃ r, featureSuccs K ts {} H [] (H.length + 1) a f = .ok r := by
  obtain ⟨_, _, _, _, _, v, hv, hcase⟩ := hf
  rcases hcase with ⟨hn, _⟩ | ⟨_, hprim, _⟩ | ⟨_, _, _, _, _, hval⟩
  · exact ⟨_, Traverse.featureSuccs_skip (.inl hn)⟩
  · exact ⟨_, Traverse.featureSuccs_skip (.inr (.inl hprim))⟩
  · refine Traverse.featureSuccs_ok_of ho (fun w hw => ?_) (fun b hb hl hfl => ?_)
    · rw [hv] at hw; cases hw
      exact hval.imp id fun ⟨b, e, _⟩ => ⟨b, e⟩
    · -- the only case that may fail: the walk along the spine of an inlined `FSList`; it ends by (J2)
      rw [hv] at hb; cases hb
      obtain ⟨_, e, hsp⟩ := hval.resolve_left nofun
      cases e
      obtain ⟨hs, hcs⟩ := hsp (by simpa [looksThrough, Xmi.isInline] using hl) (hfl ▸ hK)
      exact ⟨hs, collectList_ok hcs⟩

theorem dnode_ok (hK : isArray K FS_LIST = false) {a : Nat} (hcoll : JCollFs K ts c ci H a) :
    ∃ (o : Obj) (t : TypeRec) (r : List Nat × Nat), H[a]? = some o ∧ getType ts o.ty = .ok t ∧
      nodeSuccs K ts {} H [] (H.length + 1) a t = .ok r := by
  rcases hcoll.1 with hg | ha
  · obtain ⟨o, t, ho, ht, g⟩ := jgenFs_iff.mp hg
    obtain ⟨r, hr⟩ := featuresSuccs_ok_iff.mpr fun f hf => dfeature_ok hK ho (g.feat f hf)
    exact ⟨o, t, r, ho, getType_of_find ht, by rw [nodeSuccs_of_not_array g.notArrBase]; exact hr⟩
  · obtain ⟨o, t, f, ev, ho, ht, g⟩ := ha.obj
    exact ⟨o, t, _, ho, getType_of_find ht, nodeSuccs_array g.arrBase⟩

theorem default_traversal_succeeds_of_jw (hK : isArray K FS_LIST = false) {hp : Heap}
    (x : JW K ts c ci H L ci' HF) (hwf : RTWf c hp) (sh : SameShape hp H) :
    ∃ std : St, findAllFs K ts {} hp c.nextXid (defaultSeeds c) = .ok std := by
  have hbelow := (idsBelow_iff hp c.nextXid).mp hwf.ids_below
  obtain ⟨std, hfa, _⟩ := findAllFs_ok_of_closed_gen K ts {} rfl hp c.nextXid (defaultSeeds c) (InL H L)
    (by
      intro a ha
      obtain ⟨nv, hnv, ha⟩ := List.mem_flatMap.mp ha
      obtain ⟨e, he, rfl⟩ := List.mem_map.mp ha
      obtain ⟨y, hy⟩ := x.lok.members nv hnv e he
      exact ⟨y, (x.lok.ids _ hy).1, hy⟩)
    (by
      intro a ha
      obtain ⟨q, hq, rfl, _⟩ := inL_pair ha
      obtain ⟨o, t, r, ho, ht, hn⟩ := dnode_ok hK (x.lok.coll q hq)
      obtain ⟨ob, hob, hty, _⟩ := sh.get_back ho
      refine ⟨ob, t, r.1, r.2, hob, by rw [← hty]; exact ht, ?_, ?_⟩
      · rw [nodeSuccs_nil_eq K ts {} hp H (fun a n => (sh.slot a n).symm), ← sh.1]
        exact hn
      · intro b hb
        obtain ⟨_, _, hfwd, _⟩ := x.sim_node hq (Nat.le_refl _) (ps := r.1) (n := r.2) hn
        obtain ⟨q', hq', rfl, _⟩ := hfwd b hb
        exact x.inL hq')
    (fun a _ y hy => hbelow a y hy)
    (by
      intro a b ha hb y hya hyb
      obtain ⟨qa, hqa, rfl, hxa⟩ := inL_pair ha
      obtain ⟨qb, hqb, rfl, hxb⟩ := inL_pair hb
      rw [sh.xidOf hya] at hxa
      rw [sh.xidOf hyb] at hxb
      have e : qa.1 = qb.1 := by rw [← Option.some.inj hxa, ← Option.some.inj hxb]
      rw [Det.inj_of_nodup_map (·.1) L x.lok.nodup hqa hqb e])
    hwf.next_pos
    (by
      intro a _ h0
      obtain ⟨ob, hob, h0⟩ := xidOf_some h0
      have := hwf.ids_pos a ob 0 hob h0
      omega)
  exact ⟨std, hfa⟩

end

end Cassis.Comparable
