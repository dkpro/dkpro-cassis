/-
Sensitivity of the complete table (`Properties/C20Sens.lean`): the statements the clauses are instances of.  A point update
of a slot other than `begin`/`end` leaves the sort order alone, so the second run can be brought to the order, hash and
indexed list of the first (`renderFrom_ok_of_perm`) and every row keeps its place (`upd_sens`; `anchorText_sens` where the anchor
text itself changes).  An update of `begin`/`end` does move the row: there the anchor of the updated structure is looked
up among the rows of its type (`offset_sens`).
-/
import CassisModel.Proofs.ComparableSensAnchorParts

namespace Cassis.Comparable
open Cassis.TS Cassis.Traverse Cassis.Lex

theorem elements_ne : ("elements" : String) ≠ "begin" ∧ ("elements" : String) ≠ "end" ∧ ("elements" : String) ≠ "sofa" := by
  decide

theorem sofa_ne : ("sofa" : String) ≠ "begin" ∧ ("sofa" : String) ≠ "end" := by decide

theorem upd_sens {K : Consts} {ts : TypeSystem} {cass : List Cas} {hp hp' : Heap} {o : Opts} {hsh hsh' : Nat → Int}
    {indexed indexed' addrs addrs' : List Nat} {secs secs' : List Section} {b : Nat} {g : String} {w : Val}
    (u : HeapUpd hp hp' b g w) (hgb : g ≠ "begin") (hge : g ≠ "end")
    (hperm : addrs.Perm addrs') (hidx : ∀ x, x ∈ indexed ↔ x ∈ indexed') (hd : Distinct hp addrs)
    (h : renderFrom K ts cass hp o hsh indexed addrs = .ok secs)
    (h' : renderFrom K ts cass hp' o hsh' indexed' addrs' = .ok secs')
    {a : Nat} (ha : a ∈ addrs) (hex : o.exclude.contains (tyOf hp a) = false) {v v' : Val}
    (sh : Shown K ts hp hp' a v v')
    (hne : ∀ st st', AnchorsOf ts cass hp o hsh indexed addrs st → AnchorsOf ts cass hp' o hsh indexed addrs st' →
      CellNe K hp hp' st.byId st'.byId v v') :
    secs ≠ secs' :=
  have ag := u.agreeSort hgb hge
  shown_sens ag h (renderFrom_ok_of_perm hperm hidx (ag.distinct hd) h') a ha hex sh hne

theorem refNe {K : Consts} {ts : TypeSystem} {cass : List Cas} {hp hp' : Heap} {o : Opts} {hsh : Nat → Int}
    {indexed addrs : List Nat} (agA : AgreeAnchor hp hp') (hx : XidInj hp addrs) {x y : Nat}
    (hxy : x ≠ y) (hxa : x ∈ addrs) (hya : y ∈ addrs)
    (hxarr : isArrayFs K hp x = false) (hyarr : isArrayFs K hp y = false)
    (px : AnchorPlain cass hp indexed o x) (py : AnchorPlain cass hp indexed o y) (st st' : AnchorSt)
    (hg : AnchorsOf ts cass hp o hsh indexed addrs st) (hg' : AnchorsOf ts cass hp' o hsh indexed addrs st') :
    CellNe K hp hp' st.byId st'.byId (.ref x) (.ref y) := by
  cases anchors_same agA hg hg'
  refine cellNe_ref hxarr (by rw [isArrayFs_congr agA.ty]; exact hyarr) ?_
  obtain ⟨s, s', h1, h2, h3⟩ := anchors_distinct (genAnchors_spec (ltFs hp hsh) hx _ hg) x y hxa hya hxy px py
  exact ⟨s, s', h1, by rw [agA.xid]; exact h2, h3⟩

theorem anchorText_sens {K : Consts} {ts : TypeSystem} {cass : List Cas} {hp hp' : Heap} {o : Opts} {hsh : Nat → Int}
    {indexed indexed' addrs : List Nat} {secs secs' : List Section} (ag : AgreeSort hp hp')
    (hx : XidInj hp addrs) (hx' : XidInj hp' addrs)
    (h : renderFrom K ts cass hp o hsh indexed addrs = .ok secs)
    (h' : renderFrom K ts cass hp' o hsh indexed' addrs = .ok secs')
    (a : Nat) (ha : a ∈ addrs) (hex : o.exclude.contains (tyOf hp a) = false)
    (hne : ∀ view view' n n', viewTag cass hp a = .ok view → viewTag cass hp' a = .ok view' →
      withCount (shortName (tyOf hp a) ++ offPart hp a ++ markPart indexed o a ++ view) n ≠
      withCount (shortName (tyOf hp a) ++ offPart hp a ++ markPart indexed' o a ++ view') n') :
    secs ≠ secs' := by
  refine anchor_sens ag h h' a ha hex (fun st st' hg hg' => ?_)
  obtain ⟨view, n, hv, e⟩ := anchorCell_of_inv (genAnchors_spec (ltFs hp hsh) hx st hg) ha
  obtain ⟨view', n', hv', e'⟩ := anchorCell_of_inv (genAnchors_spec (ltFs hp' hsh) hx' st' hg') ha
  have hpre : shortName (tyOf hp' a) ++ offPart hp' a = shortName (tyOf hp a) ++ offPart hp a := by
    rw [ag.ty]
    unfold offPart
    rw [ag.ann, ag.beg, ag.en]
  rw [e, e', hpre]
  exact fun he => hne view view' n n' hv hv' (Cell.str.inj he)

theorem isAnnot_upd_int {hp hp' : Heap} {a : Nat} {f : String} {p p' : Int} (u : HeapUpd hp hp' a f (.int p'))
    (hs : slot hp a f = some (.int p)) (c : Nat) : isAnnot hp' c = isAnnot hp c := by
  have key : ∀ n, (∃ i j, slot hp' c n = some (.int i) ∧ slot hp c n = some (.int j)) ∨
      slot hp' c n = slot hp c n := by
    intro n
    by_cases hcn : c = a ∧ n = f
    · obtain ⟨rfl, rfl⟩ := hcn
      exact Or.inl ⟨p', p, u.same, hs⟩
    · refine Or.inr (u.other c n ?_)
      by_cases hc : c = a
      · exact Or.inr (fun hn => hcn ⟨hc, hn⟩)
      · exact Or.inl hc
  unfold isAnnot
  rcases key "begin" with ⟨i, j, h1, h2⟩ | h1 <;> rcases key "end" with ⟨i', j', h3, h4⟩ | h3
  · rw [h1, h2, h3, h4]
  · rw [h1, h2, h3]
    cases slot hp c "end" with
    | none => rfl
    | some w => cases w <;> rfl
  · rw [h1, h3, h4]
    cases slot hp c "begin" with
    | none => rfl
    | some w => cases w <;> rfl
  · rw [h1, h3]

/-- an update of `begin` or `end` of an annotation `a`: its row may move, but it stays among the rows of its type, and its
    anchor shows the new offsets — which are those of no structure of the type in the first heap: not of `a` (the value
    has changed), not of another one (the side condition on the second heap) -/
theorem offset_sens {K : Consts} {ts : TypeSystem} {cass : List Cas} {hp hp' : Heap} {o : Opts} {hsh hsh' : Nat → Int}
    {indexed indexed' addrs addrs' : List Nat} {secs secs' : List Section} {a : Nat} {f : String} {p p' : Int}
    (u : HeapUpd hp hp' a f (.int p')) (hf : f = "begin" ∨ f = "end") (hs : slot hp a f = some (.int p)) (hne : p ≠ p')
    (hperm : addrs.Perm addrs') (hidx : ∀ x, x ∈ indexed ↔ x ∈ indexed')
    (hd : Distinct hp addrs) (hd' : Distinct hp' addrs) (hx : XidInj hp addrs)
    (ha : a ∈ addrs) (hex : o.exclude.contains (tyOf hp a) = false) (hann : isAnnot hp a = true)
    (h : renderFrom K ts cass hp o hsh indexed addrs = .ok secs)
    (h' : renderFrom K ts cass hp' o hsh' indexed' addrs' = .ok secs') : secs ≠ secs' := by
  have h'' := renderFrom_ok_of_perm (hsh := hsh) hperm hidx hd' h'
  intro heq
  subst heq
  -- the row of `a` in the second table is the row of some `c` of the same type in the first
  obtain ⟨st, st', t, rows, hg, hg', _, hrs, hrs'⟩ := rows_eq u.ty h h'' a ha hex
  obtain ⟨r, hr1, hr'⟩ := (Det.mapM_ok_mem hrs').1 a ((mem_sortFs_group _ hp addrs a _).2 ⟨ha, rfl⟩)
  obtain ⟨c, hc1, hr⟩ := (Det.mapM_ok_mem hrs).2 r hr1
  obtain ⟨hc, hcty⟩ := (mem_sortFs_group _ hp addrs c _).1 hc1
  have e2 := renderRow_head hr'
  rw [renderRow_head hr] at e2
  -- both anchors show offsets, so `c` and `a` have the same offsets
  have hcann : isAnnot hp c = true := by
    by_cases hca : c = a
    · subst hca; exact hann
    · exact (hd c hc a ha hca hcty).1
  obtain ⟨hb, he⟩ := offsets_of_anchorCell (genAnchors_spec (ltFs hp hsh) hx st hg)
    (genAnchors_spec (ltFs hp' hsh) (hx.congr u.xid) st' hg') hc ha (by rw [u.ty, hcty])
    hcann (by rw [isAnnot_upd_int u hs]; exact hann) (Option.some.inj e2)
  by_cases hca : c = a
  · -- the same structure: its offset has changed
    subst hca
    rcases hf with rfl | rfl
    · have b1 : beginOf hp c = p := by unfold beginOf; rw [hs]
      have b2 : beginOf hp' c = p' := by unfold beginOf; rw [u.same]
      rw [b1, b2] at hb
      exact hne hb
    · have b1 : endOf hp c = p := by unfold endOf; rw [hs]
      have b2 : endOf hp' c = p' := by unfold endOf; rw [u.same]
      rw [b1, b2] at he
      exact hne he
  · -- another structure of the type with the offsets `a` has now: excluded by the side condition on the second heap
    have hb' : beginOf hp' c = beginOf hp c := by
      unfold beginOf; rw [u.other c _ (Or.inl hca)]
    have he' : endOf hp' c = endOf hp c := by
      unfold endOf; rw [u.other c _ (Or.inl hca)]
    have := (hd' c hc a ha hca (by rw [u.ty, u.ty]; exact hcty)).2.2
    rw [hb', he', hb, he] at this
    rcases this with h | h <;> exact h rfl

end Cassis.Comparable
