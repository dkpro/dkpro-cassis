/-
The recursion budget of `renderVal` (`Model/Comparable.lean`) is as good as no budget: with `2 * |heap| + 2` levels (what
`renderCols` / `renderRow` pass) the result is the same as with any larger number (`renderVal_saturated`).  A run that
exhausts `2 * |heap| + 2` levels exhausts every budget (the nesting of arrays is cyclic: Python raises `RecursionError`).

Proof: `renderVal (f+1)` is a function of `renderVal f` (`renderVal_congr`); more fuel changes a result only from
"exhausted" to something else (`renderVal_le`); whenever `renderVal (f+1) ≠ renderVal (f+2)` some object of the
heap is rendered for the first time at level `f+1` or `f+2` (`newConv_of_ne`); there are only `|heap|` objects.
-/
import CassisModel.Proofs.ComparableIsoRel
import CassisModel.Proofs.ComparableRenderVal
import CassisModel.Proofs.Lists

namespace Cassis.Comparable
open Cassis.TS Cassis.Traverse

/-- the budget was exhausted (the only source of `RuntimeError` in `renderVal`) -/
def isBot : Except Err Cell → Bool
  | .error .runtimeError => true
  | _ => false

theorem isBot_iff {r : Except Err Cell} : isBot r = true ↔ r = .error .runtimeError := by
  unfold isBot
  split
  · simp
  · rename_i h
    constructor
    · intro h'; cases h'
    · intro h'; exact absurd h' h

/-- the order of approximation: more levels turn "exhausted" into a result and change nothing else (`renderVal_le`) -/
def Le {α : Type} (r r' : Except Err α) : Prop := r = .error .runtimeError ∨ r = r'

theorem Le.antisymm {α : Type} {r r' : Except Err α} (h1 : Le r r') (h2 : Le r' r) : r = r' := by
  rcases h1 with h1 | h1
  · rcases h2 with h2 | h2
    · rw [h1, h2]
    · exact h2.symm
  · exact h1

theorem Le.map {α β : Type} (g : α → β) {r r' : Except Err α} (h : Le r r') : Le (r.map g) (r'.map g) := by
  rcases h with h | h
  · left; rw [h]; rfl
  · right; rw [h]

theorem Le.bind {α β : Type} {x x' : Except Err α} {g g' : α → Except Err β} (h : Le x x')
    (hg : ∀ a, Le (g a) (g' a)) : Le (x >>= g) (x' >>= g') := by
  rcases h with h | h
  · left; rw [h]; rfl
  · rw [h]
    cases x' with
    | error e => right; rfl
    | ok a => exact hg a

theorem Le.eq_of_not_bot {r r' : Except Err Cell} (h : Le r r') (hb : isBot r = false) : r' = r := by
  rcases h with h | h
  · rw [isBot_iff.mpr h] at hb; cases hb
  · exact h.symm

theorem mapM_elemCell_le (K : Consts) (hp hp' : Heap) (byId byId' : List (Option Int × String)) (f f' : Nat)
    (R : Nat → Nat → Prop)
    (hR : ∀ a a', R a a' → Le (renderVal K hp byId f (.ref a)) (renderVal K hp' byId' f' (.ref a')))
    (l l' : List (Option Nat)) (h : RefsRel R l l') :
    Le (l.mapM (elemCell K hp byId f)) (l'.mapM (elemCell K hp' byId' f')) := by
  induction l generalizing l' with
  | nil =>
    cases l' with
    | nil => exact Or.inr rfl
    | cons _ _ => exact h.elim
  | cons r l ih =>
    cases l' with
    | nil => cases r <;> exact h.elim
    | cons r' l' =>
      have ⟨h1, h2⟩ : Le (elemCell K hp byId f r) (elemCell K hp' byId' f' r') ∧ RefsRel R l l' := by
        cases r <;> cases r'
        · exact ⟨Or.inr rfl, h⟩
        · exact h.elim
        · exact h.elim
        · exact ⟨hR _ _ h.1, h.2⟩
      rw [List.mapM_cons, List.mapM_cons]
      exact h1.bind fun _ => (ih l' h2).bind fun _ => Or.inr rfl

section
variable (K : Consts) (hp : Heap) (byId : List (Option Int × String))

theorem renderVal_congr {f f' : Nat} (h : ∀ v, renderVal K hp byId f v = renderVal K hp byId f' v) (v : Val) :
    renderVal K hp byId (f + 1) v = renderVal K hp byId (f' + 1) v := by
  cases v with
  | ref a =>
    by_cases harr : isArrayFs K hp a = true
    · cases hs : slot hp a "elements" with
      | none => rw [renderVal_ref_arr_noslot K hp byId f harr hs, renderVal_ref_arr_noslot K hp byId f' harr hs]
      | some w =>
        by_cases hw : w = .none
        · subst hw
          rw [renderVal_ref_arr_none K hp byId f harr hs, renderVal_ref_arr_none K hp byId f' harr hs]
        · rw [renderVal_ref_arr K hp byId f harr hs hw, renderVal_ref_arr K hp byId f' harr hs hw, h w]
    · have harr' : isArrayFs K hp a = false := by simpa using harr
      rw [renderVal_ref_fs K hp byId f harr', renderVal_ref_fs K hp byId f' harr']
  | refs l =>
    rw [renderVal_refs, renderVal_refs, Det.mapM_congr (l := l) (g := elemCell K hp byId f')]
    intro r _
    cases r with
    | none => rfl
    | some a => exact h (.ref a)
  | _ => rfl

theorem renderVal_le : ∀ (f : Nat) (v : Val), Le (renderVal K hp byId f v) (renderVal K hp byId (f + 1) v)
  | 0, v => by cases v <;> first | exact Or.inr rfl | exact Or.inl rfl
  | f+1, v => by
    cases v with
    | ref a =>
      by_cases harr : isArrayFs K hp a = true
      · cases hs : slot hp a "elements" with
        | none =>
          right; rw [renderVal_ref_arr_noslot K hp byId _ harr hs, renderVal_ref_arr_noslot K hp byId _ harr hs]
        | some w =>
          by_cases hw : w = .none
          · subst hw
            right; rw [renderVal_ref_arr_none K hp byId _ harr hs, renderVal_ref_arr_none K hp byId _ harr hs]
          · rw [renderVal_ref_arr K hp byId _ harr hs hw, renderVal_ref_arr K hp byId _ harr hs hw]
            exact renderVal_le f w
      · have harr' : isArrayFs K hp a = false := by simpa using harr
        right; rw [renderVal_ref_fs K hp byId _ harr', renderVal_ref_fs K hp byId _ harr']
    | refs l =>
      rw [renderVal_refs, renderVal_refs]
      exact (mapM_elemCell_le K hp hp byId byId f (f + 1) Eq (fun a _ e => e ▸ renderVal_le f (.ref a)) l l
        (refsRel_refl l fun _ _ => rfl)).map Cell.list
    | _ => exact Or.inr rfl

theorem renderVal_mono (f : Nat) (v : Val) (h : isBot (renderVal K hp byId f v) = false) :
    renderVal K hp byId (f + 1) v = renderVal K hp byId f v :=
  (renderVal_le K hp byId f v).eq_of_not_bot h

/-! ### counting the objects that have been rendered -/

/-- the reference to `x` is rendered (to a cell or an exception other than "exhausted") with `f` levels -/
def conv (f x : Nat) : Bool := !isBot (renderVal K hp byId f (.ref x))

theorem conv_mono {f x : Nat} (h : conv K hp byId f x = true) : conv K hp byId (f + 1) x = true := by
  unfold conv at h ⊢
  rw [renderVal_mono K hp byId f _ (by simpa using h)]
  exact h

theorem renderVal_plain_notBot (f : Nat) (v : Val) (h1 : ∀ a, v ≠ .ref a) (h2 : ∀ l, v ≠ .refs l) :
    isBot (renderVal K hp byId f v) = false := by
  cases v with
  | ref a => exact absurd rfl (h1 a)
  | refs l => exact absurd rfl (h2 l)
  | _ => cases f <;> rfl

theorem conv_outside {f x : Nat} (hx : hp.length ≤ x) : conv K hp byId (f + 1) x = true := by
  unfold conv
  have hnone : hp[x]? = none := List.getElem?_eq_none hx
  by_cases harr : isArrayFs K hp x = true
  · have hs : slot hp x "elements" = none := by unfold slot; rw [hnone]; rfl
    rw [renderVal_ref_arr_noslot K hp byId f harr hs]
    rfl
  · have harr' : isArrayFs K hp x = false := by simpa using harr
    rw [renderVal_ref_fs K hp byId f harr']
    split <;> rfl

theorem eq_of_conv_imp {f x : Nat} (h : conv K hp byId f x = false → conv K hp byId (f + 1) x = false) :
    renderVal K hp byId (f + 1) (.ref x) = renderVal K hp byId f (.ref x) := by
  by_cases hc : conv K hp byId f x = true
  · exact renderVal_mono K hp byId f _ (by unfold conv at hc; simpa using hc)
  · have hc' : conv K hp byId f x = false := by simpa using hc
    have h1 := h hc'
    unfold conv at hc' h1
    have e1 : renderVal K hp byId f (.ref x) = .error .runtimeError := isBot_iff.mp (by simpa using hc')
    have e2 : renderVal K hp byId (f + 1) (.ref x) = .error .runtimeError := isBot_iff.mp (by simpa using h1)
    rw [e1, e2]

theorem newConv_of_ne {f : Nat} {v : Val}
    (h : renderVal K hp byId (f + 2) v ≠ renderVal K hp byId (f + 3) v) :
    ∃ x, x < hp.length ∧
      ((conv K hp byId (f + 1) x = false ∧ conv K hp byId (f + 2) x = true) ∨
       (conv K hp byId (f + 2) x = false ∧ conv K hp byId (f + 3) x = true)) := by
  have hbot : isBot (renderVal K hp byId (f + 2) v) = true := by
    cases hb : isBot (renderVal K hp byId (f + 2) v) with
    | true => rfl
    | false => exact absurd (renderVal_mono K hp byId (f + 2) v hb).symm h
  cases v with
  | ref x =>
    have h2 : conv K hp byId (f + 2) x = false := by unfold conv; rw [hbot]; rfl
    have h3 : conv K hp byId (f + 3) x = true := by
      cases hc : conv K hp byId (f + 3) x with
      | true => rfl
      | false =>
        exfalso
        exact h (eq_of_conv_imp K hp byId (fun _ => hc)).symm
    refine ⟨x, ?_, Or.inr ⟨h2, h3⟩⟩
    rcases Nat.lt_or_ge x hp.length with hx | hx
    · exact hx
    · rw [conv_outside K hp byId hx] at h2; cases h2
  | refs l =>
    -- some element is rendered for the first time at level `f + 2`
    have hex : ∃ e, some e ∈ l ∧ conv K hp byId (f + 1) e = false ∧ conv K hp byId (f + 2) e = true := by
      apply Classical.byContradiction
      intro hno
      apply h
      rw [renderVal_refs, renderVal_refs, Det.mapM_congr (l := l) (g := elemCell K hp byId (f + 2))]
      intro r he
      cases r with
      | none => rfl
      | some e =>
        symm
        apply eq_of_conv_imp
        intro hc
        cases hc2 : conv K hp byId (f + 1 + 1) e with
        | false => rfl
        | true => exact absurd ⟨e, he, hc, hc2⟩ hno
    obtain ⟨e, _, h1, h2⟩ := hex
    refine ⟨e, ?_, Or.inl ⟨h1, h2⟩⟩
    rcases Nat.lt_or_ge e hp.length with hx | hx
    · exact hx
    · rw [conv_outside K hp byId hx] at h1; cases h1
  | _ =>
    rw [renderVal_plain_notBot K hp byId (f + 2) _ (by intro a h; cases h) (by intro l h; cases h)] at hbot
    cases hbot

theorem countP_lt_of_imp {p q : Nat → Bool} : ∀ (l : List Nat), (∀ x ∈ l, p x = true → q x = true) →
    (∃ x ∈ l, p x = false ∧ q x = true) → l.countP p < l.countP q
  | [], _, ⟨x, hx, _⟩ => by cases hx
  | y :: l, h, ⟨x, hx, hpx, hqx⟩ => by
    have hl : ∀ z ∈ l, p z = true → q z = true := fun z hz => h z (List.mem_cons_of_mem _ hz)
    rw [List.countP_cons, List.countP_cons]
    rcases List.mem_cons.mp hx with rfl | hx'
    · rw [hpx, hqx]
      exact Nat.lt_succ_of_le (List.countP_mono_left hl)
    · have ih := countP_lt_of_imp l hl ⟨x, hx', hpx, hqx⟩
      have hy : (if p y = true then 1 else 0) ≤ (if q y = true then 1 else 0) := by
        cases hp : p y
        · exact Nat.zero_le _
        · rw [h y List.mem_cons_self hp]
          exact Nat.le_refl _
      omega

/-- the number of objects of the heap rendered with `f` levels -/
def convCnt (f : Nat) : Nat := (List.range hp.length).countP (conv K hp byId f)

theorem convCnt_le (f : Nat) : convCnt K hp byId f ≤ hp.length := by
  unfold convCnt
  have := List.countP_le_length (p := conv K hp byId f) (l := List.range hp.length)
  rw [List.length_range] at this
  exact this

theorem convCnt_mono (f : Nat) : convCnt K hp byId f ≤ convCnt K hp byId (f + 1) :=
  List.countP_mono_left (fun _ _ h => conv_mono K hp byId h)

/-- one more level changes no result; then none does (`Stable.succ`).  This is what `sim_le` uses of the budget. -/
def Stable (f : Nat) : Prop := ∀ v, renderVal K hp byId f v = renderVal K hp byId (f + 1) v

theorem Stable.succ {f : Nat} (h : Stable K hp byId f) : Stable K hp byId (f + 1) :=
  fun v => renderVal_congr K hp byId h v

theorem convCnt_lt_of_not_stable {f : Nat} (h : ¬ Stable K hp byId (f + 2)) : convCnt K hp byId (f + 1) < convCnt K hp byId (f + 3) := by
  have : ∃ v, renderVal K hp byId (f + 2) v ≠ renderVal K hp byId (f + 3) v := by
    apply Classical.byContradiction
    intro hno
    apply h
    intro v
    apply Classical.byContradiction
    intro hne
    exact hno ⟨v, hne⟩
  obtain ⟨v, hv⟩ := this
  obtain ⟨x, hx, hc⟩ := newConv_of_ne K hp byId hv
  have hxm : x ∈ List.range hp.length := List.mem_range.mpr hx
  rcases hc with ⟨h1, h2⟩ | ⟨h1, h2⟩
  · exact Nat.lt_of_lt_of_le
      (countP_lt_of_imp _ (fun _ _ h => conv_mono K hp byId h) ⟨x, hxm, h1, h2⟩) (convCnt_mono K hp byId (f + 2))
  · exact Nat.lt_of_le_of_lt (convCnt_mono K hp byId (f + 1))
      (countP_lt_of_imp _ (fun _ _ h => conv_mono K hp byId h) ⟨x, hxm, h1, h2⟩)

theorem lt_convCnt_of_not_stable : ∀ (k : Nat), ¬ Stable K hp byId (2 * k + 2) → k < convCnt K hp byId (2 * k + 3)
  | 0, h => Nat.lt_of_le_of_lt (Nat.zero_le _) (convCnt_lt_of_not_stable K hp byId (f := 0) h)
  | k+1, h => by
    have ih := lt_convCnt_of_not_stable k fun hs => h (Stable.succ K hp byId (Stable.succ K hp byId hs))
    have : convCnt K hp byId (2 * k + 3) < convCnt K hp byId (2 * (k + 1) + 3) :=
      convCnt_lt_of_not_stable K hp byId (f := 2 * k + 2) h
    omega

theorem stable_budget : Stable K hp byId (2 * hp.length + 2) := by
  apply Classical.byContradiction
  intro h
  have h1 := lt_convCnt_of_not_stable K hp byId hp.length h
  have h2 := convCnt_le K hp byId (2 * hp.length + 3)
  omega

theorem stable_ge : ∀ (d : Nat), Stable K hp byId (2 * hp.length + 2 + d)
  | 0 => stable_budget K hp byId
  | d+1 => Stable.succ K hp byId (stable_ge d)

theorem renderVal_saturated (F : Nat) (hF : 2 * hp.length + 2 ≤ F) (v : Val) :
    renderVal K hp byId F v = renderVal K hp byId (2 * hp.length + 2) v := by
  obtain ⟨d, rfl⟩ : ∃ d, F = 2 * hp.length + 2 + d := ⟨F - (2 * hp.length + 2), by omega⟩
  clear hF
  induction d with
  | zero => rfl
  | succ d ih => rw [← ih]; exact (stable_ge K hp byId d v).symm

end

end Cassis.Comparable
