/-
The third pass of the reader (`buildCas`): the loops over the members of a view and over the views.

The sofas come in any order: the sofa of the initial view updates the first view of the CAS in place, every other sofa
appends a view.  So the new CAS has the initial view first and behind it the other views in the order of their sofas.
-/
import CassisModel.Proofs.Pass3Member

namespace Cassis.Xmi.Pass3
open Cassis.TS Cassis.Xmi.RTB Cassis.Xmi.LPC

/-! ### the views before their members are added -/

def newSofa (s : PSofa) : Sofa :=
  { sofaID := s.sofaID, sofaNum := s.num, xid := s.xid, text := s.text.map (fun t => t.toList.map Char.toNat),
    conv := convOfText s.text, mime := s.mime }

/-- the initial view of `Cas.empty`, before its sofa has been read -/
def initView0 : View := { sofa := { sofaID := Cas.INITIAL_VIEW, sofaNum := 1, xid := 1 } }

theorem empty_views : Cas.empty.views = [(Cas.INITIAL_VIEW, initView0)] := rfl

/-- the sofa of the initial view, read when other views may already exist: the first view is updated in place -/
theorem viewCas_init (s : PSofa) (cas : Cas) (post : List (String × View)) (hs : s.sofaID = Cas.INITIAL_VIEW)
    (hv : cas.views = (Cas.INITIAL_VIEW, initView0) :: post) :
    ∃ c2, viewCas s cas = .ok c2 ∧ c2.views = [] ++ (s.sofaID, { sofa := newSofa s, idx := [] }) :: post := by
  unfold viewCas
  rw [hs]
  simp only [beq_self_eq_true, if_true]
  unfold Cas.updSofa Cas.cur
  have h1 : Cas.getViewRec cas Cas.INITIAL_VIEW = some initView0 := by
    unfold Cas.getViewRec
    rw [hv]
    exact alistGet?_append_mid [] _ _ _ (by simp)
  simp only [h1, bind, Except.bind, pure, Except.pure]
  rw [Cas.getViewRec_set_same]
  dsimp only
  refine ⟨_, rfl, ?_⟩
  unfold Cas.setViewRec
  dsimp only
  rw [hv]
  have e1 := alistSet_append_mid ([] : List (String × View)) Cas.INITIAL_VIEW initView0
    ({ sofa := { initView0.sofa with xid := s.xid, sofaNum := s.num }, idx := initView0.idx } : View) post (by simp)
  rw [List.nil_append] at e1
  rw [e1]
  have e2 := alistSet_append_mid ([] : List (String × View)) Cas.INITIAL_VIEW
    ({ sofa := { initView0.sofa with xid := s.xid, sofaNum := s.num }, idx := initView0.idx } : View)
    ({ sofa := newSofa s, idx := [] } : View) post (by simp)
  rw [List.nil_append] at e2
  rw [List.nil_append, ← e2]
  unfold newSofa initView0
  rw [hs]

/-- the sofa of another view: a new view at the end -/
theorem viewCas_later (s : PSofa) (cas : Cas) (hs : s.sofaID ≠ Cas.INITIAL_VIEW) (hnew : s.sofaID ∉ cas.views.map (·.1)) :
    ∃ c2, viewCas s cas = .ok c2 ∧ c2.views = cas.views ++ [(s.sofaID, { sofa := newSofa s, idx := [] })] := by
  unfold viewCas
  have h1 : (s.sofaID == Cas.INITIAL_VIEW) = false := by simpa using hs
  simp only [h1]
  have h2 : Cas.getViewRec cas s.sofaID = none := (alistGet?_eq_none_iff _ _).mpr hnew
  unfold Cas.createView
  rw [h2]
  simp only [Option.isSome_none, Bool.false_eq_true, if_false]
  unfold Cas.addView
  dsimp only
  unfold Cas.updSofa Cas.cur
  simp only [bind, Except.bind, pure, Except.pure]
  rw [Cas.getViewRec_set_same]
  dsimp only
  refine ⟨_, rfl, ?_⟩
  unfold Cas.setViewRec
  dsimp only
  rw [alistSet_of_not_mem _ _ _ hnew, alistSet_append_mid _ _ _ _ [] hnew]
  rfl

section
variable {K : Consts} {ts : TypeSystem} {cass : List Cas} {ci : Nat} {c : Cas} {hp H : Heap}
  {L : List (Int × Nat)} {na : Int → Nat} {n0 : Nat} {p : Pass1} {E2 E3 : Obj → String → Val → Val} {ci' : Nat}
  {o0 : Obj} {hp0 : Heap}

theorem members_loop (ctx : CtxC K ts cass ci c hp H L na n0 p) (hE : ExpOk ts cass ci' E2 E3)
    {nv : String × View} (hnv : nv ∈ c.views)
    {pre post : List (String × View)} (hpre : nv.1 ∉ pre.map (·.1)) (conv : Offsets.Conv) :
    ∀ (ms : List Int), (∀ m ∈ ms, m ∈ (pviewOf H nv).members) → ∀ (b : Build) (cur : View),
      Inv E2 E3 ci' H L na n0 o0 hp0 b → b.cas.views = pre ++ (nv.1, cur) :: post → IdxFrom H nv cur.idx →
      ∃ (b' : Build) (cur' : View),
        addMembers ts ci' { view := nv.1, lenient := false } conv p.sofas p.lenientIds p.fss ms b = .ok b' ∧
        Inv E2 E3 ci' H L na n0 o0 hp0 b' ∧ b'.cas.views = pre ++ (nv.1, cur') :: post ∧ cur'.sofa = cur.sofa ∧
        ((Index.all cur'.idx).map (·.oid)).Perm (ms.map na ++ (Index.all cur.idx).map (·.oid)) := by
  intro ms
  induction ms with
  | nil =>
    intro _ b cur hb hv _
    exact ⟨b, cur, addMembers_nil .., hb, hv, rfl, List.Perm.refl _⟩
  | cons m ms ih =>
    intro hms b cur hb hv hidx
    obtain ⟨b1, cur1, h1, hb1, hv1, hs1, hp1, hidx1⟩ :=
      member_step ctx hE hnv (hms m List.mem_cons_self) hb hv hpre hidx conv
    obtain ⟨b2, cur2, h2, hb2, hv2, hs2, hp2⟩ :=
      ih (fun m' hm' => hms m' (List.mem_cons_of_mem _ hm')) b1 cur1 hb1 hv1 hidx1
    refine ⟨b2, cur2, ?_, hb2, hv2, hs2.trans hs1, ?_⟩
    · rw [ctx.p1.lenient] at h2 ⊢
      rw [addMembers_cons]
      have : ([] : List Int).contains m = false := rfl
      rw [this, h1, if_neg (by decide)]
      exact h2
    · refine hp2.trans ?_
      rw [List.map_cons, List.cons_append]
      exact (List.Perm.append_left _ hp1).trans List.perm_middle

theorem text_back (hwf : RTWf c hp) {nv : String × View} (hnv : nv ∈ c.views) :
    (newSofa (psofaOf nv)).text = nv.2.sofa.text := by
  unfold newSofa psofaOf
  dsimp only
  cases ht : nv.2.sofa.text with
  | none => rfl
  | some t =>
    show some ((docText t).toList.map Char.toNat) = some t
    rw [docText_toList t (hwf.scalar nv hnv t ht)]

theorem view_step (ctx : CtxC K ts cass ci c hp H L na n0 p) (hE : ExpOk ts cass ci' E2 E3)
    {nv : String × View} (hnv : nv ∈ c.views)
    {b : Build} (hb : Inv E2 E3 ci' H L na n0 o0 hp0 b) {pre post : List (String × View)}
    (hc2 : ∃ c2, viewCas (psofaOf nv) b.cas = .ok c2 ∧
      c2.views = pre ++ ((psofaOf nv).sofaID, { sofa := newSofa (psofaOf nv), idx := [] }) :: post)
    (hpre : nv.1 ∉ pre.map (·.1)) :
    ∃ (b' : Build) (cur' : View), buildView ts ci' false p (psofaOf nv) b = .ok b' ∧
      Inv E2 E3 ci' H L na n0 o0 hp0 b' ∧ b'.cas.views = pre ++ (nv.1, cur') :: post ∧ ViewRel H na nv (nv.1, cur') := by
  obtain ⟨c2, hc2, hv2⟩ := hc2
  have hid : (psofaOf nv).sofaID = nv.1 := ctx.wf.names nv hnv
  rw [hid] at hv2
  have hb2 : Inv E2 E3 ci' H L na n0 o0 hp0 { b with cas := c2 } := ⟨hb.heap, hb.ms, hb.cv, hb.null, hb.frz⟩
  have hidx0 : IdxFrom H nv ([] : Index.Idx) := by
    intro ty x hx
    cases hx
  obtain ⟨b', cur', h1, hb', hv', hs', hp'⟩ :=
    members_loop ctx hE hnv hpre (convOfText (psofaOf nv).text) (pviewOf H nv).members (fun _ h => h)
      { b with cas := c2 } _ hb2 hv2 hidx0
  refine ⟨b', cur', ?_, hb', hv', rfl, ?_⟩
  · rw [buildView_eq, hc2]
    dsimp only
    rw [hid, ctx.members_of hnv]
    exact h1
  · show cur'.sofa.sofaID = _ ∧ cur'.sofa.xid = _ ∧ cur'.sofa.sofaNum = _ ∧ cur'.sofa.text = _ ∧ cur'.sofa.mime = _ ∧
      cur'.sofa.conv = _ ∧ ((Index.all cur'.idx).map (·.oid)).Perm _
    rw [hs']
    refine ⟨rfl, rfl, rfl, text_back ctx.wf hnv, rfl, rfl, ?_⟩
    have : (Index.all ([] : Index.Idx)).map (·.oid) = [] := rfl
    rw [this, List.append_nil] at hp'
    exact hp'

/-- the state of the loop over the sofas: the initial view comes first, untouched or finished; behind it the views of
    the other sofas read so far, in reading order -/
def ViewsInv (H : Heap) (na : Int → Nat) (done : List (String × View)) (b : Build) : Prop :=
  ∃ (vI : View) (tl : List (String × View)),
    b.cas.views = (Cas.INITIAL_VIEW, vI) :: tl ∧
    All2 (ViewRel H na) (done.filter (fun nv => nv.1 != Cas.INITIAL_VIEW)) tl ∧
    ((vI = initView0 ∧ Cas.INITIAL_VIEW ∉ done.map (·.1)) ∨
     (∃ nvI ∈ done, nvI.1 = Cas.INITIAL_VIEW ∧ ViewRel H na nvI (Cas.INITIAL_VIEW, vI)))

theorem views_loop (ctx : CtxC K ts cass ci c hp H L na n0 p) (hE : ExpOk ts cass ci' E2 E3)
    {vs0 : List (String × View)} (hvs0 : vs0.Perm c.views) :
    ∀ (todo done : List (String × View)), vs0 = done ++ todo → ∀ (b : Build),
      Inv E2 E3 ci' H L na n0 o0 hp0 b → ViewsInv H na done b →
      ∃ b', buildViews ts ci' false p (todo.map (fun nv => (nv.2.sofa.xid, psofaOf nv))) b = .ok b' ∧
        Inv E2 E3 ci' H L na n0 o0 hp0 b' ∧ ViewsInv H na vs0 b' := by
  intro todo
  induction todo with
  | nil =>
    intro done hsplit b hb hall
    rw [List.append_nil] at hsplit
    refine ⟨b, ?_, hb, hsplit ▸ hall⟩
    rw [List.map_nil, buildViews]
  | cons nv todo ih =>
    intro done hsplit b hb hall
    have hnv : nv ∈ c.views := hvs0.mem_iff.mp (by rw [hsplit]; simp)
    have hnd : (vs0.map (·.1)).Nodup := ((hvs0.map (·.1)).nodup_iff).mpr ctx.wf.names_nodup
    rw [hsplit, List.map_append, List.map_cons] at hnd
    have hnew : nv.1 ∉ done.map (·.1) := by
      intro hin
      exact (List.nodup_append.mp hnd).2.2 _ hin _ List.mem_cons_self rfl
    have hid : (psofaOf nv).sofaID = nv.1 := ctx.wf.names nv hnv
    obtain ⟨vI, tl, hviews, hrel, hcase⟩ := hall
    have hsplit' : vs0 = (done ++ [nv]) ++ todo := by rw [hsplit, List.append_assoc]; rfl
    have hfin : ∀ b1, buildView ts ci' false p (psofaOf nv) b = .ok b1 → Inv E2 E3 ci' H L na n0 o0 hp0 b1 →
        ViewsInv H na (done ++ [nv]) b1 →
        ∃ b', buildViews ts ci' false p ((nv :: todo).map (fun nv => (nv.2.sofa.xid, psofaOf nv))) b = .ok b' ∧
          Inv E2 E3 ci' H L na n0 o0 hp0 b' ∧ ViewsInv H na vs0 b' := by
      intro b1 h1 hb1 hinv1
      obtain ⟨b2, h2, hb2, hall2⟩ := ih (done ++ [nv]) hsplit' b1 hb1 hinv1
      refine ⟨b2, ?_, hb2, hall2⟩
      rw [List.map_cons, buildViews, h1]
      exact h2
    by_cases hni : nv.1 = Cas.INITIAL_VIEW
    · -- the sofa of the initial view
      have hfil : (done ++ [nv]).filter (fun nv => nv.1 != Cas.INITIAL_VIEW) =
          done.filter (fun nv => nv.1 != Cas.INITIAL_VIEW) := by
        rw [List.filter_append]; simp [hni]
      rcases hcase with ⟨hvI, _⟩ | ⟨nvI, hmem, hnvI, _⟩
      · subst hvI
        obtain ⟨b1, cur1, h1, hb1, hv1, hr1⟩ :=
          view_step ctx hE hnv hb (pre := []) (post := tl)
            (viewCas_init (psofaOf nv) b.cas tl (hid.trans hni) hviews) (by simp)
        refine hfin b1 h1 hb1 ⟨cur1, tl, by rw [hv1, hni]; rfl, hfil ▸ hrel, Or.inr ⟨nv, by simp, hni, hni ▸ hr1⟩⟩
      · exact absurd (hni ▸ hnvI ▸ List.mem_map_of_mem hmem) hnew
    · -- another sofa: a new view at the end
      have hfil : (done ++ [nv]).filter (fun nv => nv.1 != Cas.INITIAL_VIEW) =
          done.filter (fun nv => nv.1 != Cas.INITIAL_VIEW) ++ [nv] := by
        rw [List.filter_append]; simp [hni]
      have hpre : nv.1 ∉ b.cas.views.map (·.1) := by
        rw [hviews, List.map_cons, All2.map_eq hrel (fun _ _ _ h => h.1)]
        intro hin
        rcases List.mem_cons.mp hin with e | hin
        · exact hni e
        · obtain ⟨x, hx, e⟩ := List.mem_map.mp hin
          exact hnew (e ▸ List.mem_map_of_mem (List.mem_filter.mp hx).1)
      obtain ⟨b1, cur1, h1, hb1, hv1, hr1⟩ :=
        view_step ctx hE hnv hb (pre := b.cas.views) (post := [])
          (viewCas_later (psofaOf nv) b.cas (hid ▸ hni) (hid ▸ hpre)) hpre
      refine hfin b1 h1 hb1 ⟨vI, tl ++ [(nv.1, cur1)], by rw [hv1, hviews]; rfl, hfil ▸ All2.snoc hrel hr1, ?_⟩
      rcases hcase with ⟨hvI, hno⟩ | ⟨nvI, hmem, hnvI, hrI⟩
      · refine Or.inl ⟨hvI, ?_⟩
        rw [List.map_append, List.mem_append]
        rintro (h | h)
        · exact hno h
        · simp only [List.map_cons, List.map_nil, List.mem_singleton] at h
          exact hni h.symm
      · exact Or.inr ⟨nvI, List.mem_append_left _ hmem, hnvI, hrI⟩

/-- all views, for the sofas in the order `vs0`: the new CAS has the initial view first, then the other views in the
    order of their sofas -/
theorem views_all (ctx : CtxC K ts cass ci c hp H L na n0 p) (hE : ExpOk ts cass ci' E2 E3)
    {vs0 : List (String × View)} (hvs0 : vs0.Perm c.views)
    (hsofas : p.sofas = vs0.map (fun nv => (nv.2.sofa.xid, psofaOf nv))) {hp2 : Heap}
    (hb0 : Inv E2 E3 ci' H L na n0 o0 hp0 { cas := Cas.empty, heap := hp2 }) :
    ∃ (b' : Build) (nvI : String × View),
      buildViews ts ci' false p p.sofas { cas := Cas.empty, heap := hp2 } = .ok b' ∧
      Inv E2 E3 ci' H L na n0 o0 hp0 b' ∧ nvI ∈ vs0 ∧ nvI.1 = Cas.INITIAL_VIEW ∧
      All2 (ViewRel H na) (nvI :: vs0.filter (fun nv => nv.1 != Cas.INITIAL_VIEW)) b'.cas.views := by
  have hinv0 : ViewsInv H na [] ({ cas := Cas.empty, heap := hp2 } : Build) :=
    ⟨initView0, [], empty_views, trivial, Or.inl ⟨rfl, by simp⟩⟩
  obtain ⟨b', h1, hb', vI, tl, hviews, hrel, hcase⟩ :=
    views_loop ctx hE hvs0 vs0 [] (by simp) _ hb0 hinv0
  rcases hcase with ⟨_, hno⟩ | ⟨nvI, hmem, hnvI, hrI⟩
  · -- the sofa of the initial view is among the sofas
    exfalso
    apply hno
    obtain ⟨iv, rest, hcv, hiv⟩ := ctx.wf.views_cons
    rw [← hiv]
    exact List.mem_map_of_mem (hvs0.mem_iff.mpr (by rw [hcv]; exact List.mem_cons_self))
  · refine ⟨b', nvI, hsofas ▸ h1, hb', hmem, hnvI, ?_⟩
    rw [hviews]
    exact ⟨hrI, hrel⟩

end

end Cassis.Xmi.Pass3
