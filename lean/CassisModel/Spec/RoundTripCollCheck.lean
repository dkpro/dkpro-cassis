/-
A computable test "the XMI round-trip theorem with collections (`Properties/C01RoundTripColl.lean`,
`xmi_roundtrip_coll`) applies to this CAS": Boolean checkers for the fragment `CollFs`
(`Spec/RoundTripCollFrag.lean`) and the conjunction `collAppliesB` of the checkers of all hypotheses (the others are those
of `Spec/RoundTripCheck.lean`).  Soundness: `Proofs/RoundTripCollCheckSound.lean`; `Properties/C01AppliesColl.lean` derives
the conclusion of the theorem from `collAppliesB … = true`.

The second half of the file holds a hand-built instance with every collection kind (`CollDemo`), the evaluated round
trip on it, and the evaluated counterexamples for the side conditions (S1)–(S7) of the fragment.

This file imports specification files and `Gen/Builtins` only (the compiled driver imports it).
-/
import CassisModel.Spec.RoundTripCollFrag
import CassisModel.Spec.RoundTripCheck
import CassisModel.Gen.Builtins

namespace Cassis.Xmi
open Cassis.TS Cassis.Traverse

/-! ### Checkers for the parts of `CollFeat` -/

def tokOkB (t : String) : Bool := !t.toList.isEmpty && t.toList.all (fun c => !Lex.isWs c)

def rangeKindB (K : Consts) (ts : TypeSystem) (r : String) (pa pl ar li sa sl : Bool) : Bool :=
  (isPrimitiveArray K r == pa) && (isPrimitiveList K r == pl) && (isArray K r == ar) && (isList K r == li) &&
  (isInstanceOf ts r STRING_ARRAY == sa) && (isInstanceOf ts r STRING_LIST == sl) && !isPrimitive K ts r

def intArrTyB (r : String) : Bool :=
  decide (r = "uima.cas.IntegerArray") || decide (r = "uima.cas.ShortArray") || decide (r = "uima.cas.LongArray")
def floatArrTyB (r : String) : Bool := decide (r = "uima.cas.FloatArray") || decide (r = "uima.cas.DoubleArray")
def primArrTyB (r : String) : Bool :=
  intArrTyB r || decide (r = "uima.cas.ByteArray") || decide (r = "uima.cas.BooleanArray") || floatArrTyB r

def primElemsB (r : String) : Val → Bool
  | .refs l => l.isEmpty
  | .ints l => intArrTyB r || (decide (r = "uima.cas.ByteArray") && l.all (fun b => decide (0 ≤ b) && decide (b < 256)))
  | .bools _ => decide (r = "uima.cas.BooleanArray")
  | .floats l => floatArrTyB r && l.all tokOkB
  | _ => false

def strElemsB : Val → Bool
  | .refs l => l.isEmpty
  | .strs _ => true
  | _ => false

def refOkB' (hp : Heap) (b : Nat) : Bool := (xidOf hp b).isSome && decide (xidOf hp b ≠ some 0)

def fsElemsB (hp : Heap) : Val → Bool
  | .refs l => l.all (fun r => match r with
      | some b => refOkB' hp b
      | none => false)
  | _ => false

def sharedFeatB (K : Consts) (ts : TypeSystem) (hp : Heap) (o : Obj) (f : Feature) : Bool :=
  decide (f.multi = some true) && (isArray K f.range || isList K f.range) && !isPrimitive K ts f.range &&
  decide (f.range ≠ "uima.cas.Boolean") && decide (f.range ≠ "uima.cas.Double") && decide (f.range ≠ "uima.cas.Float") &&
  match alistGet? o.slots f.name with
  | some .none => true
  | some (.ref b) => refOkB' hp b
  | _ => false

def inlArrB (hp : Heap) (P : Val → Bool) : Val → Bool
  | .none => true
  | .ref arr => match slot hp arr "elements" with
    | some ev => P ev
    | none => false
  | _ => false

def inlListB (hp : Heap) (P : List Val → Bool) : Val → Bool
  | .none => true
  | .ref a => match collectList hp (hp.length + 1) (.ref a) with
    | .ok hs => P hs
    | .error _ => false
  | _ => false

def isIntV : Val → Bool | .int _ => true | _ => false
def isFloatTokV : Val → Bool | .float t => tokOkB t | _ => false
def isStrOrNoneV : Val → Bool | .none => true | .str _ => true | _ => false
def isRefOkV (hp : Heap) : Val → Bool | .ref b => refOkB' hp b | _ => false

def inlineFeatB (K : Consts) (ts : TypeSystem) (hp : Heap) (o : Obj) (f : Feature) : Bool :=
  (f.multi.getD false == false) &&
  match alistGet? o.slots f.name with
  | none => false
  | some v =>
    (primArrTyB f.range && rangeKindB K ts f.range true false true false false false &&
        inlArrB hp (primElemsB f.range) v) ||
    (decide (f.range = STRING_ARRAY) && rangeKindB K ts f.range true false true false true false &&
        inlArrB hp strElemsB v) ||
    (decide (f.range = FS_ARRAY) && rangeKindB K ts f.range false false true false false false &&
        inlArrB hp (fsElemsB hp) v) ||
    (decide (f.range = INTEGER_LIST) && rangeKindB K ts f.range false true false true false false &&
        inlListB hp (fun hs => hs.all isIntV) v) ||
    (decide (f.range = FLOAT_LIST) && rangeKindB K ts f.range false true false true false false &&
        inlListB hp (fun hs => hs.all isFloatTokV) v) ||
    (decide (f.range = STRING_LIST) && rangeKindB K ts f.range false true false true false true &&
        inlListB hp (fun hs => !hs.isEmpty && hs.all isStrOrNoneV) v) ||
    (decide (f.range = FS_LIST) && rangeKindB K ts f.range false false false true false false &&
        inlListB hp (fun hs => hs.all (isRefOkV hp)) v)

def nameOkB (f : Feature) : Bool :=
  decide (ResOk f) && decide (f.name ≠ "xmiID") && decide (f.name ≠ "type") && decide (f.name ≠ "self") &&
  decide (f.name ≠ ID) && decide (f.name ≠ "sofa")

def collFeatB (K : Consts) (ts : TypeSystem) (c : Cas) (ci : Nat) (hp : Heap) (isAnn : Bool) (o : Obj) (f : Feature) :
    Bool :=
  flatFeatB K ts c ci hp isAnn o f || (nameOkB f && (sharedFeatB K ts hp o f || inlineFeatB K ts hp o f))

/-- `GenFs K ts c ci hp a` -/
def genFsB (K : Consts) (ts : TypeSystem) (c : Cas) (ci : Nat) (hp : Heap) (a : Nat) : Bool :=
  match hp[a]? with
  | none => false
  | some o =>
    match find? ts o.ty with
    | none => false
    | some t =>
      decide (t.name = o.ty) && decide (isArray K o.ty = false) && decide (isList K o.ty = false) &&
      decide (t.super ≠ some ARRAY_BASE) && decide (isPrimitiveArray K o.ty = false) && decide (o.ty ≠ FS_ARRAY) &&
      decide (isInstanceOf ts o.ty STRING_ARRAY = false) && decide (o.ty ≠ SOFA) && decide (o.ty ≠ VIEW_T) &&
      decide ((ctorFields t).Nodup) && decide (o.slots.map (·.1) = (ctorFields t).eraseDups) &&
      (allFeatures t).all (fun f => collFeatB K ts c ci hp (isInstanceOf ts o.ty ANNOTATION) o f) &&
      (!isInstanceOf ts o.ty ANNOTATION || annOkB c ci o)

/-- `ArrFs K ts hp a` -/
def arrFsB (K : Consts) (ts : TypeSystem) (hp : Heap) (a : Nat) : Bool :=
  match hp[a]? with
  | none => false
  | some o =>
    match find? ts o.ty with
    | none => false
    | some t =>
      match allFeatures t, o.slots with
      | [f], [(n, ev)] =>
        decide (t.name = o.ty) && decide (t.super = some ARRAY_BASE) && decide (f.name = "elements") &&
        decide (f.range = TOP) && decide (f.reserved = false) && decide (n = "elements") &&
        decide (isInstanceOf ts o.ty ANNOTATION = false) &&
        ( (decide (o.ty = FS_ARRAY) && decide (isPrimitiveArray K FS_ARRAY = false) &&
            decide (isInstanceOf ts FS_ARRAY STRING_ARRAY = false) && (decide (ev = .none) || fsElemsB hp ev))
        || (decide (o.ty = STRING_ARRAY) && decide (isPrimitiveArray K STRING_ARRAY = true) && strElemsB ev)
        || (primArrTyB o.ty && decide (isPrimitiveArray K o.ty = true) &&
            decide (isInstanceOf ts o.ty STRING_ARRAY = false) && (decide (ev = .none) || primElemsB o.ty ev)) )
      | _, _ => false

/-- `CollFs K ts c ci hp a` -/
def collFsB (K : Consts) (ts : TypeSystem) (c : Cas) (ci : Nat) (hp : Heap) (a : Nat) : Bool :=
  genFsB K ts c ci hp a || arrFsB K ts hp a

/-! ### The test -/

/-- every hypothesis of `xmi_roundtrip_coll` holds for the CAS `cass[ci]` over the heap `hp` -/
def collAppliesB (K : Consts) (ts : TypeSystem) (cass : List Cas) (ci : Nat) (hp : Heap) : Bool :=
  match cass[ci]? with
  | none => false
  | some c =>
    match saveXmi K ts cass ci hp with
    | .error _ => false
    | .ok (_, st) =>
      rtWfB c hp && nullOkB ts && st.allFs.all (fun q => collFsB K ts c ci st.heap q.2) && disjointB st.allFs c &&
      memSofaB c st.heap && membersOkB c st.heap

/-! ### The conclusion of the theorem as a computable test (for experiments and the counterexamples) -/

def CVal.beq : CVal → CVal → Bool
  | .none, .none => true
  | .int i, .int j => i == j
  | .str s, .str t => s == t
  | .bool a, .bool b => a == b
  | .float s, .float t => s == t
  | .ref a, .ref b => a == b
  | .sofa a, .sofa b => a == b
  | .elems l, .elems m => go l m
  | .other, .other => true
  | _, _ => false
where
  go : List CVal → List CVal → Bool
    | [], [] => true
    | a :: l, b :: m => CVal.beq a b && go l m
    | _, _ => false

/-- the features of the collected structures whose content differs after `saveXmi` / `loadXmi`
    (`none`: the structure is missing or of another type); `.error`: writer or reader raised -/
def roundTripDiffs (K : Consts) (ts : TypeSystem) (cass : List Cas) (ci : Nat) (hp : Heap) (tsIdx ci' : Nat) :
    Except Err (List (Int × Option String)) := do
  let (doc, st) ← saveXmi K ts cass ci hp
  let p ← pass1 K ts tsIdx false doc { heap := st.heap }
  let ld ← loadXmi K ts tsIdx ci' false st.heap doc
  let c ← match cass[ci]? with | some c => pure c | none => throw .keyError
  let viewsOk := decide (ld.cas.views.map (viewContent ld.heap) = c.views.map (viewContent st.heap))
  let ds := st.allFs.flatMap (fun q =>
    match lookupFs p.fss q.1, st.heap[q.2]? with
    | .ok a', some o =>
      match ld.heap[a']?, find? ts o.ty with
      | some o', some t =>
        if o'.ty == o.ty && o'.xid == some q.1 then
          (allFeatures t).filterMap (fun f =>
            if CVal.beq (featContentC K ld.heap a' f) (featContentC K st.heap q.2 f) then none else some (q.1, some f.name))
        else [(q.1, none)]
      | _, _ => [(q.1, none)]
    | _, _ => [(q.1, none)])
  pure (if viewsOk then ds else (0, some "views") :: ds)

/-! ## A hand-built instance with every collection kind -/

namespace CollDemo

def K : Consts := Gen.consts

def feat (n r : String) (multi : Option Bool := none) : Feature :=
  { name := n, domain := "x.Doc", range := r, multi := multi }

/-- `x.Doc`, an annotation type with one feature per collection kind, inlined and shared -/
def docRec : TypeRec :=
  { name := "x.Doc", super := some ANNOTATION,
    own := [ feat "n" "uima.cas.Integer", feat "next" "x.Doc",
             feat "ia" "uima.cas.IntegerArray", feat "sha" "uima.cas.ShortArray", feat "la" "uima.cas.LongArray",
             feat "ba" "uima.cas.ByteArray", feat "boa" "uima.cas.BooleanArray",
             feat "fa" "uima.cas.FloatArray", feat "da" "uima.cas.DoubleArray",
             feat "sa" "uima.cas.StringArray", feat "se" "uima.cas.StringArray",
             feat "fsa" "uima.cas.FSArray", feat "fsl" "uima.cas.FSList",
             feat "il" "uima.cas.IntegerList", feat "fl" "uima.cas.FloatList", feat "sl" "uima.cas.StringList",
             feat "mfa" "uima.cas.FSArray" (some true), feat "mia" "uima.cas.IntegerArray" (some true),
             feat "msa" "uima.cas.StringArray" (some true), feat "mfl" "uima.cas.FSList" (some true),
             feat "mil" "uima.cas.IntegerList" (some true), feat "msl" "uima.cas.StringList" (some true) ],
    inh := [ { name := "begin", domain := "uima.tcas.Annotation", range := "uima.cas.Integer" },
             { name := "end", domain := "uima.tcas.Annotation", range := "uima.cas.Integer" },
             { name := "sofa", domain := "uima.cas.AnnotationBase", range := "uima.cas.Sofa" } ] }

def ts : TypeSystem := { Gen.builtinTS with types := Gen.builtinTS.types ++ [docRec] }

def arr (ty : String) (ev : Val) : Obj := { ty := ty, ts := 0, xid := none, slots := [("elements", ev)] }
def node (ty : String) (hd tl : Val) : Obj := { ty := ty, ts := 0, xid := none, slots := [("head", hd), ("tail", tl)] }
def enode (ty : String) : Obj := { ty := ty, ts := 0, xid := none, slots := [] }

def noColl : List (String × Val) :=
  [ ("ia", .none), ("sha", .none), ("la", .none), ("ba", .none), ("boa", .none), ("fa", .none), ("da", .none),
    ("sa", .none), ("se", .none), ("fsa", .none), ("fsl", .none), ("il", .none), ("fl", .none), ("sl", .none),
    ("mfa", .none), ("mia", .none), ("msa", .none), ("mfl", .none), ("mil", .none), ("msl", .none) ]

def tailSlots (b e : Int) : List (String × Val) :=
  [("begin", .int b), ("end", .int e), ("sofa", .sofa 0 "_InitialView")]

/-- the heap: two `x.Doc` structures (the first indexed, the second only referenced), then the collection objects -/
def hp : Heap :=
  [ /- 0 -/ { ty := "x.Doc", ts := 0, xid := some 2, slots :=
      [ ("n", .int 7), ("next", .ref 1),
        ("ia", .ref 2), ("sha", .ref 3), ("la", .ref 4), ("ba", .ref 5), ("boa", .ref 6), ("fa", .ref 7), ("da", .ref 8),
        ("sa", .ref 9), ("se", .ref 10), ("fsa", .ref 11), ("fsl", .ref 13), ("il", .ref 16), ("fl", .ref 18),
        ("sl", .ref 21),
        ("mfa", .ref 23), ("mia", .ref 24), ("msa", .ref 25), ("mfl", .ref 27), ("mil", .ref 29), ("msl", .ref 31) ]
      ++ tailSlots 0 2 },
    /- 1 -/ { ty := "x.Doc", ts := 0, xid := none, slots := [("n", .none), ("next", .ref 0)] ++ noColl ++ tailSlots 2 3 },
    /- 2 -/ arr "uima.cas.IntegerArray" (.ints [1, -2, 30]),
    /- 3 -/ arr "uima.cas.ShortArray" (.ints []),
    /- 4 -/ arr "uima.cas.LongArray" (.refs []),
    /- 5 -/ arr "uima.cas.ByteArray" (.ints [0, 255, 16]),
    /- 6 -/ arr "uima.cas.BooleanArray" (.bools [true, false]),
    /- 7 -/ arr "uima.cas.FloatArray" (.floats ["1.5", "-2.0"]),
    /- 8 -/ arr "uima.cas.DoubleArray" (.floats ["1e-05"]),
    /- 9 -/ arr "uima.cas.StringArray" (.strs [some "a b", some "", none, some "c"]),
    /- 10 -/ arr "uima.cas.StringArray" (.strs []),
    /- 11 -/ arr "uima.cas.FSArray" (.refs [some 1, some 0, some 1]),
    /- 12 -/ enode "uima.cas.EmptyFSList",
    /- 13 -/ node "uima.cas.NonEmptyFSList" (.ref 1) (.ref 14),
    /- 14 -/ node "uima.cas.NonEmptyFSList" (.ref 0) (.ref 12),
    /- 15 -/ enode "uima.cas.EmptyIntegerList",
    /- 16 -/ node "uima.cas.NonEmptyIntegerList" (.int 5) (.ref 17),
    /- 17 -/ node "uima.cas.NonEmptyIntegerList" (.int (-6)) (.ref 15),
    /- 18 -/ node "uima.cas.NonEmptyFloatList" (.float "0.25") (.ref 19),
    /- 19 -/ enode "uima.cas.EmptyFloatList",
    /- 20 -/ enode "uima.cas.EmptyStringList",
    /- 21 -/ node "uima.cas.NonEmptyStringList" (.str "x y") (.ref 22),
    /- 22 -/ node "uima.cas.NonEmptyStringList" (.str "") (.ref 20),
    /- 23 -/ arr "uima.cas.FSArray" (.refs [some 0, some 1]),
    /- 24 -/ arr "uima.cas.IntegerArray" (.ints [4, 5]),
    /- 25 -/ arr "uima.cas.StringArray" (.strs [some "p", none]),
    /- 26 -/ enode "uima.cas.EmptyFSList",
    /- 27 -/ node "uima.cas.NonEmptyFSList" (.ref 1) (.ref 26),
    /- 28 -/ enode "uima.cas.EmptyIntegerList",
    /- 29 -/ node "uima.cas.NonEmptyIntegerList" (.int 9) (.ref 28),
    /- 30 -/ enode "uima.cas.EmptyStringList",
    /- 31 -/ node "uima.cas.NonEmptyStringList" (.str "q") (.ref 30) ]

def cas : Cas :=
  { views := [("_InitialView",
      { sofa := { sofaID := "_InitialView", sofaNum := 1, xid := 1, text := some [97, 128512, 98],
                  mime := some "text/plain", uri := none, arr := .none, conv := some [0, 1, 3, 4] },
        idx := [("x.Doc", [{ b := 0, e := 2, oid := 0 }])] })],
    nextXid := 3, nextSofaNum := 2 }

/-! ### counterexamples for the side conditions of `CollFs` (`Spec/RoundTripCollFrag.lean`)

`run h` = (`collAppliesB`, `roundTripDiffs`) on the demo CAS over the heap `h`; every heap below is the demo heap with
one object replaced.  The evaluated results are in the comments (the `#eval allRuns` below prints them). -/

/-- the demo heap with slot `n` of the first structure set to `v` -/
def setSlot0 (h : Heap) (n : String) (v : Val) : Heap :=
  match h with
  | o :: rest => { o with slots := alistSet o.slots n v } :: rest
  | [] => []

def run (h : Heap) : Bool × Except Err (List (Int × Option String)) :=
  (collAppliesB K ts [cas] 0 h, roundTripDiffs K ts [cas] 0 h 0 1)

/-- the instance itself: the test answers `true`, nothing differs -/
def cx_demo := run hp                                                        -- (true, ok [])
/-- (S1) an FSArray with a null element, inlined / shared: the writer raises -/
def cx_fsarray_null := run (hp.set 11 (arr "uima.cas.FSArray" (.refs [some 1, none])))        -- (false, error AttributeError)
def cx_fsarray_null_shared := run (hp.set 23 (arr "uima.cas.FSArray" (.refs [some 1, none]))) -- (false, error AttributeError)
/-- (S2) an inlined array with `elements = None` comes back as `None` -/
def cx_inline_elements_none := run (hp.set 2 (arr "uima.cas.IntegerArray" .none))            -- (false, ok [(2, "ia")])
def cx_inline_elements_none_fs := run (hp.set 11 (arr "uima.cas.FSArray" .none))             -- (false, ok [(2, "fsa")])
def cx_inline_elements_none_str := run (hp.set 9 (arr "uima.cas.StringArray" .none))         -- (false, ok [(2, "sa")])
/-- … whereas an array *object* of a non-string type may have `elements = None` -/
def ok_obj_elements_none := run (hp.set 24 (arr "uima.cas.IntegerArray" .none))              -- (true, ok [])
def ok_obj_elements_none_fs := run (hp.set 23 (arr "uima.cas.FSArray" .none))                -- (true, ok [])
/-- (S3) a StringArray object with `elements = None` comes back with `elements = []` -/
def cx_strarray_obj_none := run (hp.set 25 (arr "uima.cas.StringArray" .none))               -- (false, ok [(6, "elements")])
/-- (S4) an empty inlined StringList comes back as `None` (the other inlined lists may be empty) -/
def cx_inline_strlist_empty :=
  run (setSlot0 hp "sl" (.ref 20))              -- (false, ok [(2, "sl")])
def ok_inline_lists_empty :=
  run (setSlot0 (setSlot0 (setSlot0 hp "il" (.ref 15)) "fsl" (.ref 12)) "fl" (.ref 19))   -- (true, ok [])
/-- (S5) float tokens with a blank / empty -/
def cx_float_token_blank := run (hp.set 7 (arr "uima.cas.FloatArray" (.floats ["1.5 2.5"]))) -- (false, ok [(2, "fa")])
def cx_float_token_empty := run (hp.set 7 (arr "uima.cas.FloatArray" (.floats [""])))        -- (false, ok [(2, "fa")])
def cx_float_list_token_empty :=
  run (hp.set 18 (node "uima.cas.NonEmptyFloatList" (.float "") (.ref 19)))                  -- (false, ok [(2, "fl")])
/-- (S6) bytes outside `0 … 255` -/
def cx_byte_range := run (hp.set 5 (arr "uima.cas.ByteArray" (.ints [256])))                 -- (false, error ValueError)
def cx_byte_negative := run (hp.set 5 (arr "uima.cas.ByteArray" (.ints [-1])))               -- (false, ok [(2, "ba")])
/-- (S7) a null head in an inlined FSList / IntegerList: the writer raises; a cyclic spine -/
def cx_fslist_null_head := run (hp.set 14 (node "uima.cas.NonEmptyFSList" .none (.ref 12)))  -- (false, error AttributeError)
def cx_intlist_null_head :=
  run (hp.set 17 (node "uima.cas.NonEmptyIntegerList" .none (.ref 15)))                      -- (false, error TypeError)
def cx_cyclic_spine := run (hp.set 14 (node "uima.cas.NonEmptyFSList" (.ref 0) (.ref 13)))   -- (false, error OutOfFuel)
/-- no condition: an inlined array shared by two features, or inlined and referenced as a shared one as well -/
def ok_inline_shared_twice :=
  run (setSlot0 hp "sha" (.ref 2))              -- (true, ok [])
def ok_inline_and_shared :=
  run (setSlot0 hp "mia" (.ref 2))              -- (true, ok [])

/-- all of the above at once -/
def allRuns : List (String × Bool × String) :=
  [ ("cx_demo", cx_demo), ("cx_fsarray_null", cx_fsarray_null), ("cx_fsarray_null_shared", cx_fsarray_null_shared),
    ("cx_inline_elements_none", cx_inline_elements_none), ("cx_inline_elements_none_fs", cx_inline_elements_none_fs),
    ("cx_inline_elements_none_str", cx_inline_elements_none_str), ("ok_obj_elements_none", ok_obj_elements_none),
    ("ok_obj_elements_none_fs", ok_obj_elements_none_fs), ("cx_strarray_obj_none", cx_strarray_obj_none),
    ("cx_inline_strlist_empty", cx_inline_strlist_empty), ("ok_inline_lists_empty", ok_inline_lists_empty),
    ("cx_float_token_blank", cx_float_token_blank), ("cx_float_token_empty", cx_float_token_empty),
    ("cx_float_list_token_empty", cx_float_list_token_empty), ("cx_byte_range", cx_byte_range),
    ("cx_byte_negative", cx_byte_negative), ("cx_fslist_null_head", cx_fslist_null_head),
    ("cx_intlist_null_head", cx_intlist_null_head), ("cx_cyclic_spine", cx_cyclic_spine),
    ("ok_inline_shared_twice", ok_inline_shared_twice), ("ok_inline_and_shared", ok_inline_and_shared) ].map
  (fun (n, r) => (n, r.1, match r.2 with
    | .ok l => s!"ok {l.map (fun (d : Int × Option String) => (d.1, d.2.getD "?"))}"
    | .error e => s!"error {e}"))

-- the results quoted in the comments above:
#eval allRuns

end CollDemo

/-! ## Reserved names

A feature declared as `self` / `type` is stored as `self_` / `type_` with `reserved = true` (`createFeature`); the writer
emits it as the attribute / child element `self` / `type`, the reader renames it back.  `ResOk` (`Spec/RoundTrip.lean`)
admits such features in the fragment; here the round trip is evaluated on the model for every kind of range: each of
the 22 features of the demo type `x.Doc` (primitive, reference, the inlined and the shared collections — the two
StringArray features `sa` / `msa` and the StringList `sl` are written as child elements) in turn takes the place of the
reserved feature `self_`, then of `type_`.  Every run evaluates to `(true, ok [])`: the test accepts, nothing differs.
A type system made with `createFeature … "self" …` / `… "type" …` is evaluated as well (`viaCreate`). -/

namespace ResDemo
open CollDemo

/-- `x.Doc` with the feature `n` stored as `createFeature` stores a feature declared as `self` / `type`:
    under the name `stored` (`self_` / `type_`), `reserved = true` -/
def resRec (n stored : String) : TypeRec :=
  { docRec with own := docRec.own.map (fun f => if f.name == n then { f with name := stored, reserved := true } else f) }

def resTs (n stored : String) : TypeSystem :=
  { Gen.builtinTS with types := Gen.builtinTS.types ++ [resRec n stored] }

/-- the demo heap with the slot `n` of the `x.Doc` structures under the stored name -/
def resHp (n stored : String) : Heap :=
  hp.map (fun o =>
    if o.ty == "x.Doc" then { o with slots := o.slots.map (fun p => if p.1 == n then (stored, p.2) else p) } else o)

def run (n stored : String) : Bool × Except Err (List (Int × Option String)) :=
  (collAppliesB K (resTs n stored) [cas] 0 (resHp n stored), roundTripDiffs K (resTs n stored) [cas] 0 (resHp n stored) 0 1)

/-- a type system made with `createFeature`: `self` an integer, `type` a StringArray (child elements `type`), `peer` a
    reference; `createFeature` stores `self_` / `type_` with `reserved = true` (third component) -/
def tsC : TypeSystem :=
  match (do
    let ts ← createType K Gen.builtinTS "x.R" ANNOTATION none
    let ts ← createFeature ts "x.R" "self" "uima.cas.Integer"
    let ts ← createFeature ts "x.R" "type" "uima.cas.StringArray"
    createFeature ts "x.R" "peer" "x.R") with
  | .ok ts => ts
  | .error _ => Gen.builtinTS

def hpC : Heap :=
  [ { ty := "x.R", ts := 0, xid := some 2, slots :=
        [("self_", .int 7), ("type_", .ref 2), ("peer", .ref 1)] ++ tailSlots 0 2 },
    { ty := "x.R", ts := 0, xid := none, slots := [("self_", .none), ("type_", .none), ("peer", .ref 0)] ++ tailSlots 2 3 },
    arr "uima.cas.StringArray" (.strs [some "a b", none, some "c"]) ]

def casC : Cas :=
  { cas with views := cas.views.map (fun nv => (nv.1, { nv.2 with idx := [("x.R", [{ b := 0, e := 2, oid := 0 }])] })) }

/-- (test, differences, the own features of `x.R` as stored, the written attributes and child elements of the first
    structure) -/
def viaCreate : Bool × Except Err (List (Int × Option String)) × List (String × Bool) ×
    Option (List (String × String) × List (String × Option String)) :=
  (collAppliesB K tsC [casC] 0 hpC, roundTripDiffs K tsC [casC] 0 hpC 0 1,
   ((find? tsC "x.R").map (fun t => t.own.map (fun f => (f.name, f.reserved)))).getD [],
   match saveXmi K tsC [casC] 0 hpC with
   | .ok (doc, _) => (doc[1]?).map (fun e => (e.attrs, e.kids))
   | .error _ => none)

/-- a flat instance (for `xmi_roundtrip_flat` / `rtAppliesB`): `x.F` with the reserved features `self_` (an integer)
    and `type_` (a reference), as `createFeature` stores them -/
def flatRec : TypeRec :=
  { name := "x.F", super := some ANNOTATION,
    own := [ { name := "self_", domain := "x.F", range := "uima.cas.Integer", reserved := true },
             { name := "type_", domain := "x.F", range := "x.F", reserved := true } ],
    inh := docRec.inh }

def flatTs : TypeSystem := { Gen.builtinTS with types := Gen.builtinTS.types ++ [flatRec] }

def flatHp : Heap :=
  [ { ty := "x.F", ts := 0, xid := some 2, slots := [("self_", .int 7), ("type_", .ref 1)] ++ tailSlots 0 2 },
    { ty := "x.F", ts := 0, xid := none, slots := [("self_", .none), ("type_", .ref 0)] ++ tailSlots 2 3 } ]

def flatCas : Cas :=
  { cas with views := cas.views.map (fun nv => (nv.1, { nv.2 with idx := [("x.F", [{ b := 0, e := 2, oid := 0 }])] })) }

def showDiffs (r : Except Err (List (Int × Option String))) : String :=
  match r with
  | .ok l => s!"ok {l.map (fun (d : Int × Option String) => (d.1, d.2.getD "?"))}"
  | .error e => s!"error {e}"

/-- every feature of `x.Doc` as `self_` and as `type_` -/
def allRuns : List (String × String × Bool × String) :=
  (docRec.own.map (·.name)).flatMap (fun n =>
    ["self_", "type_"].map (fun stored => (n, stored, (run n stored).1, showDiffs (run n stored).2)))

-- 44 runs, each `(feature, stored name, true, "ok []")`:
#eval allRuns
#eval allRuns.all (fun r => r.2.2.1 && r.2.2.2 == "ok []")          -- true
-- (true, ok [], [("self_", true), ("type_", true), ("peer", false)],
--  attributes xmi:id="2" self="7" peer="3" begin="0" end="3" sofa="1", children <type>a b</type><type/><type>c</type>):
#eval (viaCreate.1, showDiffs viaCreate.2.1, viaCreate.2.2.1, viaCreate.2.2.2)
-- the flat instance: (true, true, "ok []")
#eval (rtAppliesB K flatTs [flatCas] 0 flatHp, collAppliesB K flatTs [flatCas] 0 flatHp,
  showDiffs (roundTripDiffs K flatTs [flatCas] 0 flatHp 0 1))

end ResDemo

end Cassis.Xmi
