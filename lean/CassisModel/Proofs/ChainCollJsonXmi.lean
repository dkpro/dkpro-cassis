/-
C16 with collections — the first half of the converse chain JSON → CAS → XMI → CAS (`chain_json_xmi_coll`,
`Properties/C16ChainColl.lean`, which composes it with the XMI round trip).

`chain_json_xmi_coll_half` is the JSON round trip read as a statement about the loaded CAS: the writer's document is
described (`Json.json_written_coll`), the reader loads it (`Json.json_read_coll`), and instead of the round trip's
conclusion the heap relation and the view relation are kept, as `JLd` (`ChainCollJsonLoadedFrag.lean`).  `JLd.mem_sofa` and
`JLd.membersOk` carry the two hypotheses about view members over to the loaded CAS; the XMI round trip needs them there.
-/
import CassisModel.Proofs.ChainCollJsonLoadedTrav
import CassisModel.Proofs.ChainViewsWf
import CassisModel.Properties.C02RoundTripColl

namespace Cassis.ChainC
open Cassis.TS Cassis.Xmi

section
variable {K : Consts} {ts : TypeSystem} {c : Cas} {ci : Nat} {H : Heap} {L : List (Int × Nat)} {ci' : Nat}
  {ld : Json.Loaded}

theorem JLd.mem_sofa (x : JLd K ts c ci H L ci' ld)
    (h : ∀ nv ∈ c.views, ∀ e ∈ Index.all nv.2.idx, Xmi.slot H e.oid "sofa" ≠ some .none) :
    ∀ nv ∈ ld.cas.views, ∀ e ∈ Index.all nv.2.idx, Xmi.slot ld.heap e.oid "sofa" ≠ some .none :=
  x.ldViews.mem_sofa x.rel x.collx (fun _ _ => nofun) h

theorem JLd.membersOk (x : JLd K ts c ci H L ci' ld) (h : MembersOk c H) : MembersOk ld.cas ld.heap :=
  x.ldViews.membersOk_rel x.rel (fun _ _ => ⟨fun _ => rfl, rfl⟩) h

end

end Cassis.ChainC

namespace Cassis
open Cassis.TS Cassis.Traverse Cassis.Xmi Cassis.Chain Cassis.ChainC

/-- the first half of `chain_json_xmi_coll`: the written document is loaded, and the loaded CAS stands in the
    relation `JLd` to the CAS that was written -/
theorem chain_json_xmi_coll_half (K : Consts) (ts : TypeSystem) (cass : List Cas) (ci : Nat) (c : Cas) (hp : Heap)
    (tsIdx : Nat) (docj : Json.JDoc) (st : St)
    (hc : cass[ci]? = some c) (hwf : RTWf c hp)
    (hsave : Json.saveJson K ts cass ci hp .none = .ok (docj, st))
    (hcoll : ∀ q ∈ st.allFs, CollFs K ts c ci st.heap q.2)
    (hjson : ∀ q ∈ st.allFs, Json.JsonFs ts st.heap q.2)
    (harr : ∀ q ∈ st.allFs, Json.ArrElemsSome st.heap q.2)
    (hids : ∀ nv ∈ c.views, ∀ e ∈ Index.all nv.2.idx, (xidOf hp e.oid).isSome = true)
    (hdis : ∀ q ∈ st.allFs, ∀ nv ∈ c.views, q.1 ≠ nv.2.sofa.xid)
    (hmem : ∀ nv ∈ c.views, ∀ e ∈ Index.all nv.2.idx, Xmi.slot st.heap e.oid "sofa" ≠ some .none)
    (hmok : MembersOk c st.heap) :
    ∃ ld1 : Json.Loaded, Json.loadJson K ts tsIdx cass.length false false st.heap docj = .ok ld1 ∧
      JLd K ts c ci st.heap (sortById st.allFs) cass.length ld1 ∧
      ld1.cas.views.map (viewContent ld1.heap) = c.views.map (viewContent st.heap) ∧
      0 < ld1.cas.nextXid ∧ RTWf ld1.cas [] := by
  have hjcoll : ∀ q ∈ st.allFs, Json.JCollFs K ts c ci st.heap q.2 := fun q hq =>
    Json.jcollFs_of_collFs K ts c ci st.heap q.2 (hcoll q hq) (hjson q hq) (harr q hq)
  obtain ⟨g, hdfss, hdviews⟩ := Json.json_written_coll hc hwf hsave hjcoll hids hdis
  obtain ⟨ld1, m, hload1, _, hrel, hvrelJ, hvc1, hnx, hm0, hmq, hms⟩ :=
    Json.json_read_coll g st.heap tsIdx cass.length docj hdfss hdviews hmem hmok
  have hnx2 : 0 < ld1.cas.nextXid := by omega
  exact ⟨ld1, hload1, ⟨g.lok, fun q hq => hcoll q (mem_sortById.mp hq), hrel, hvrelJ⟩, hvc1, hnx2,
    rtwf_of_json hwf hvrelJ hnx2 (fun nv hnv => by have := (hms nv hnv).1; omega)⟩

end Cassis
