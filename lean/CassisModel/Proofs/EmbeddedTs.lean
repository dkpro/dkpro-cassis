/-
Proof of `Properties/C02EmbeddedTs.lean`: the type system the JSON reader builds from the `%TYPES` section of a FULL
document declares the same as the original.
Both passes of the reader are replayed inside the original for any closed list of written records (`RecsOk`,
`EmbeddedTsReplay.lean`); the result (`loadEmbedded_on`) is a part of the original that covers the own features of every
record and is itself the result of a history (`Hist`), so merging it into a fresh type system reproduces it
(`merge_same_of` of `MergeSelf.lean`).  For the FULL records (`recsOk_full`) the part is `SameTs` to the whole (`same_of`,
same file).
-/
import CassisModel.Proofs.EmbeddedTsReplay
import CassisModel.Proofs.ChainEmbProvenance
import CassisModel.Proofs.TypeAgreeOfSameTs
import CassisModel.Properties.C13
import CassisModel.Proofs.MergeSelf
import CassisModel.Proofs.ApiHistoryEval

namespace Cassis.Json
open Cassis.TS

/-- every feature record of a fresh type system is an own record of the original -/
theorem likeIn_builtin {o : TypeSystem} (ho : Hist o) : ChainE.RecsP (ChainE.LikeIn o) Gen.builtinTS := by
  intro t ht g hg
  obtain ⟨t1, ht1, hg1⟩ := ChainE.inhAnc_builtin.ownIn_rec ht hg
  obtain ⟨t', ht', _, _, hown, _, _⟩ := ho.grow t1.name t1 (find?_of_mem consistent_builtins.1.nodup ht1)
  exact ChainE.likeIn_of_own ⟨t', find?_mem ht', hown g hg1⟩

theorem loadEmbedded_on {o : TypeSystem} (ho : UserBuilt o) (hw : Writable Gen.consts o)
    (hpc : NoPercentNames o) {R : List TypeRec} (hR : RecsOk o R) :
    ∃ emb, loadEmbeddedTs Gen.consts (R.map (renderTypeDecl0 Gen.consts)) = .ok emb ∧
      Hist emb ∧ EInv o emb ∧
      ∀ t ∈ R, ∃ t', find? emb t.name = some t' ∧ ∀ f ∈ t.own, ∃ g ∈ eff t', featureEq g f = true := by
  have hrank : ∀ jt ∈ R.map (renderTypeDecl0 Gen.consts), jt.super ≠ jt.name →
      (o.types.map (·.name)).idxOf jt.super < (o.types.map (·.name)).idxOf jt.name := by
    intro jt hjt _
    obtain ⟨t, s, hto, _, _, hts, hjs, _, _⟩ := types_facts ho.hist hw hR jt hjt
    have := rank_lt ho.built.cons (find?_mem hto) hts
    rw [find?_name hto, ← hjs] at this
    exact this
  obtain ⟨order, htop, hp, hpw⟩ := toposort_of_rank _ (fun n => (o.types.map (·.name)).idxOf n) hrank
  have hmem : ∀ x, x ∈ order ↔ x ∈ (R.map (renderTypeDecl0 Gen.consts)).map (·.name) ∨
      x ∈ (R.map (renderTypeDecl0 Gen.consts)).map (·.super) := fun x => by
    rw [hp.mem_iff, List.mem_eraseDups, List.mem_append]
  have hi0 : EInv o Gen.builtinTS :=
    ⟨consistent_builtins.1, featInv_builtins.1, sub_builtin ho.hist, Grow.refl _ _, likeIn_builtin ho.hist⟩
  obtain ⟨ts1, hfold1, hi1, hreg1⟩ := typesPass ho.hist hw hR order Gen.builtinTS hi0 hpw
    (fun x hx => ((hmem x).mp hx).imp List.mem_map.mp List.mem_map.mp)
    (fun t ht => ⟨fun hn => absurd ((hmem _).mpr (.inl (List.mem_map_of_mem ht))) hn,
      fun hn => absurd ((hmem _).mpr (.inr (List.mem_map_of_mem ht))) hn⟩)
  have hregAll : RegAll R ts1 := by
    intro x hx
    rcases hx with hb | ⟨t, ht, rfl⟩
    · exact hi1.grow.reg x hb
    · exact hreg1 (renderTypeDecl0 Gen.consts t) (List.mem_map.mpr ⟨t, ht, rfl⟩)
  obtain ⟨emb, hfold2, hi2, _, hcov⟩ := featsOuter ho hw hR R ts1 (fun _ h => h) hi1 hregAll
  have hnofinal : NoFinal emb := by
    intro t' ht' hp
    obtain ⟨to, hto, hr⟩ := hi2.sub t'.name t' (find?_of_mem hi2.cons.nodup ht')
    obtain ⟨s, hs, hnf⟩ := ho.hist.nofinal to (find?_mem hto) (by rw [find?_name hto]; exact hp)
    exact ⟨s, by rw [← hr.super]; exact hs, hnf⟩
  refine ⟨emb, ?_, ⟨hi2.cons, hi2.feat, hi2.grow, hnofinal⟩, hi2, hcov⟩
  rw [loadEmbeddedTs_eq _ _ (no_dockey hw (fun _ ht => (hR.mem ht).1))
    (renderTypeDecl0_noPct _ _ (fun t ht => hpc t (hR.mem ht).1))]
  simp only [bind, Except.bind, htop, hfold1]
  exact hfold2

/-- `merge_same_of` (`MergeSelf.lean`, what C13 rests on) with the invariant `Consistent` of the merged type system kept -/
theorem merge_same_of_cons (o : TypeSystem) (ho : Hist o) (inputs : List TypeSystem)
    (hin : ∀ a ∈ inputs, a = o ∨ a = Gen.builtinTS) (hmem : o ∈ inputs) :
    ∃ m, merge Gen.consts Gen.builtinTS inputs = .ok m ∧ SameTs o m ∧ Consistent m := by
  obtain ⟨m, hm, hs⟩ := merge_same_of o ho inputs hin hmem
  exact ⟨m, hm, hs, merge_consistent Gen.consts Gen.builtinTS m _ consistent_builtins.1 hm⟩

/-- what `loadTs` makes of a document whose `%TYPES` section declares a closed list of records when no type system is
    supplied: the embedded type system `emb` of `loadEmbedded_on`, merged into a fresh one -/
theorem loadTs_recs {o : TypeSystem} (ho : UserBuilt o) (hw : Writable Gen.consts o)
    (hpc : NoPercentNames o) {R : List TypeRec} (hR : RecsOk o R) {doc : JDoc}
    (hdoc : doc.types = some (R.map (renderTypeDecl0 Gen.consts))) :
    ∃ emb m, loadTs Gen.consts Gen.builtinTS true doc = .ok m ∧ EInv o emb ∧
      (∀ t ∈ R, ∃ t', find? emb t.name = some t' ∧ ∀ f ∈ t.own, ∃ g ∈ eff t', featureEq g f = true) ∧
      SameTs emb m ∧ Consistent m ∧ ChainE.RecsP (ChainE.LikeIn o) m := by
  obtain ⟨emb, hload, hemb, hi, hcov⟩ := loadEmbedded_on ho hw hpc hR
  obtain ⟨m, hm, hsame, hcm⟩ := merge_same_of_cons emb hemb [Gen.builtinTS, emb] (by simp) (by simp)
  refine ⟨emb, m, ?_, hi, hcov, hsame, hcm, ?_⟩
  · unfold loadTs
    simp only [hdoc, hload, if_true]
    exact hm
  · -- the declarations that are merged are the user types of the two inputs, with their own features; the domain the
    -- merge sets is not looked at
    refine ChainE.recsP_mergeDecls (likeIn_builtin ho.hist) (fun d hdm f hf => ?_) hm
    obtain ⟨ts0, hts0, hd0⟩ := List.mem_flatMap.mp hdm
    obtain ⟨t, ht, rfl⟩ := List.mem_map.mp hd0
    have htm : t ∈ ts0.types := by
      unfold getTypes at ht
      simp only [Bool.false_eq_true, if_false] at ht
      exact (List.mem_filter.mp ht).1
    show ChainE.LikeIn o f
    rcases List.mem_cons.mp hts0 with rfl | hts0
    · exact likeIn_builtin ho.hist t htm f (List.mem_append_left _ hf)
    · rw [List.mem_singleton.mp hts0] at htm
      exact hi.like t htm f (List.mem_append_left _ hf)

theorem regName_full {o : TypeSystem} {x : String} (hx : hasExact o x = true) : RegName (fullRecs Gen.consts o) x := by
  obtain ⟨t, ht⟩ := (hasExact_iff_find _ _).mp hx
  cases hp : Gen.consts.predefined.contains x with
  | true => exact Or.inl (builtin_pre x hp)
  | false =>
    by_cases hd : x = DOCUMENT_ANNOTATION
    · exact Or.inl (hd ▸ builtin_docAnn)
    · exact Or.inr ⟨t, (mem_fullRecs _ _ _).mpr ⟨find?_mem ht, by rw [find?_name ht]; exact hp,
        by rw [find?_name ht]; exact hd⟩, find?_name ht⟩

theorem recsOk_full {o : TypeSystem} (ho : UserBuilt o) : RecsOk o (fullRecs Gen.consts o) := by
  refine ⟨fun _ h => h, fun t ht s hs => ?_, fun t ht f hf => ?_⟩
  · exact regName_full (ho.built.cons.superReg t ((mem_fullRecs _ _ _).mp ht).1 s hs)
  · obtain ⟨hr, he, _⟩ := ho.built.ownOK t ((mem_fullRecs _ _ _).mp ht).1 f hf
    exact ⟨regName_full hr, fun e h => regName_full (he e h)⟩

theorem embedded_same {o emb : TypeSystem} (ho : UserBuilt o) (hi : EInv o emb)
    (hcov : ∀ t ∈ fullRecs Gen.consts o,
      ∃ t', find? emb t.name = some t' ∧ ∀ f ∈ t.own, ∃ g ∈ eff t', featureEq g f = true) : SameTs o emb := by
  apply same_of o emb ho.hist hi.cons hi.feat hi.sub (X := fun _ => False) (SubP.of_grow consistent_builtins.1 hi.grow)
  intro t ht hp
  by_cases hd : t.name = DOCUMENT_ANNOTATION
  · -- DocumentAnnotation is not written; it has the own features of the built-in table on both sides
    obtain ⟨tb, htb⟩ := (hasExact_iff_find _ _).mp builtin_docAnn
    obtain ⟨to, hto, hown⟩ := ho.own_builtin htb
    rw [← hd, find?_of_mem ho.built.cons.nodup ht] at hto; cases hto
    obtain ⟨t', ht', _, _, hsub, _, _⟩ := hi.grow _ tb htb
    rw [hd]
    exact ⟨t', ht', fun f hf => ⟨f, List.mem_append_left _ (hsub f (hown ▸ hf)), featureEq_refl f⟩⟩
  · exact hcov t ((mem_fullRecs _ _ _).mpr ⟨ht, hp, hd⟩)

/-- `json_full_ts_same` with the two registries' invariants -/
theorem json_full_ts_same_cons (ops : List TsOp)
    (h : UserOnlyNoDoc Gen.consts ops)
    (hw : Writable Gen.consts (ops.foldl (applyOp Gen.consts) Gen.builtinTS))
    (hpc : NoPercentNames (ops.foldl (applyOp Gen.consts) Gen.builtinTS))
    (cass : List Cas) (ci : Nat) (hp : Heap) (doc : JDoc) (st : Traverse.St)
    (hsave : saveJson Gen.consts (ops.foldl (applyOp Gen.consts) Gen.builtinTS) cass ci hp .full = .ok (doc, st)) :
    ∃ ts', loadTs Gen.consts Gen.builtinTS true doc = .ok ts' ∧
      SameTs (ops.foldl (applyOp Gen.consts) Gen.builtinTS) ts' ∧
      Consistent (ops.foldl (applyOp Gen.consts) Gen.builtinTS) ∧ Consistent ts' := by
  have ho := userBuilt_of_history ops h.1 h.2
  obtain ⟨emb, m, hl, hi, hcov, hsame, hcm, _⟩ :=
    loadTs_recs ho hw hpc (recsOk_full ho) (saveJson_types hpc hsave rfl)
  exact ⟨m, hl, sameTs_trans (embedded_same ho hi hcov) hsame, ho.built.cons, hcm⟩

end Cassis.Json
