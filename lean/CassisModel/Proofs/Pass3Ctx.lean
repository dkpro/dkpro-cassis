/-
The premises of the third pass of the XMI reader (`buildCas`); the second pass on a permuted document rests on the same
tables.

The passes after the first use the tables of the first pass through lookups only, so the premises describe the tables up
to permutation: the same entries as the writer order would give, in any order, at any addresses.

* `n0` — the address of the `cas:NULL` object (anywhere);
* `NaOkP` — new addresses pairwise distinct and different from `n0` (`NaOk`, new addresses behind the old heap, gives it);
* `P1WP` — `p.fss`, `p.sofas`, `p.views` are permutations of the lists the writer order would give (`P1W`, the exact
  tables, gives it); every lookup is derived from the two facts `IdsOk` about the collected structures (ids pairwise
  distinct, none of them 0);
* `LOkW` (`RoundTripCollDefs.lean`) — what the third pass asks of the collected structures, on every fragment;
* `LPC.CtxC` — all of it together: the context `Pass3.buildCas_ok` is proved in.

Namespaces: `LP` the reader on a document in any order ("layout permutation"), `LPC` the same with collections.
-/
import CassisModel.Properties.C05
import CassisModel.Proofs.RoundTripCollDefs
import CassisModel.Proofs.Pass3Lists
import CassisModel.Proofs.XmiLookups
import CassisModel.Proofs.XmiReader

namespace Cassis.Xmi.LP

structure NaOkP (n0 : Nat) (L : List (Int × Nat)) (na : Int → Nat) : Prop where
  inj : ∀ q ∈ L, ∀ q' ∈ L, na q.1 = na q'.1 → q.1 = q'.1
  ne0 : ∀ q ∈ L, n0 ≠ na q.1

def FssEntry (n0 : Nat) (L : List (Int × Nat)) (na : Int → Nat) (r : Int × Nat) : Prop :=
  r = (0, n0) ∨ ∃ q ∈ L, r = (q.1, na q.1)

end Cassis.Xmi.LP

namespace Cassis.Xmi.LPC
open Cassis.Xmi.LP

structure P1WP (c : Cas) (H : Heap) (L : List (Int × Nat)) (na : Int → Nat) (n0 : Nat) (p : Pass1) : Prop where
  fss : p.fss.Perm ((0, n0) :: L.map (fun q => (q.1, na q.1)))
  sofas : p.sofas.Perm (c.views.map (fun nv => (nv.2.sofa.xid, psofaOf nv)))
  views : p.views.Perm (c.views.map (fun nv => (nv.2.sofa.xid, pviewOf H nv)))
  lenient : p.lenientIds = []
  null : ∃ o0 : Obj, p.heap[n0]? = some o0 ∧ o0.ty = NULL_T ∧ o0.xid = some 0 ∧ o0.slots = []

structure IdsOk (L : List (Int × Nat)) : Prop where
  ne0 : ∀ q ∈ L, q.1 ≠ 0
  nodup : (L.map (·.1)).Nodup

section
variable {c : Cas} {H : Heap} {L : List (Int × Nat)} {na : Int → Nat} {n0 : Nat} {p : Pass1}

theorem P1WP.fss_nodup (h : P1WP c H L na n0 p) (hL : IdsOk L) : (p.fss.map (·.1)).Nodup := by
  rw [(h.fss.map (·.1)).nodup_iff, List.map_cons, List.map_map, List.nodup_cons]
  refine ⟨fun h0 => ?_, hL.nodup⟩
  obtain ⟨q, hq, e⟩ := List.mem_map.mp h0
  exact hL.ne0 q hq e

theorem P1WP.fss_entry (h : P1WP c H L na n0 p) : ∀ r ∈ p.fss, FssEntry n0 L na r := by
  intro r hr
  rcases List.mem_cons.mp (h.fss.mem_iff.mp hr) with e | e
  · exact Or.inl e
  · obtain ⟨q, hq, e⟩ := List.mem_map.mp e
    exact Or.inr ⟨q, hq, e.symm⟩

theorem P1WP.mem_fss (h : P1WP c H L na n0 p) {q : Int × Nat} (hq : q ∈ L) : (q.1, na q.1) ∈ p.fss :=
  h.fss.mem_iff.mpr (List.mem_cons_of_mem _ (List.mem_map.mpr ⟨q, hq, rfl⟩))

theorem P1WP.mem_sofas (h : P1WP c H L na n0 p) {nv : String × View} (hnv : nv ∈ c.views) :
    (nv.2.sofa.xid, psofaOf nv) ∈ p.sofas :=
  h.sofas.mem_iff.mpr (List.mem_map.mpr ⟨nv, hnv, rfl⟩)

theorem P1WP.lookup (h : P1WP c H L na n0 p) (hL : IdsOk L) {q : Int × Nat} (hq : q ∈ L) :
    lookupFs p.fss q.1 = .ok (na q.1) := by
  rw [lookupFs_perm _ _ h.fss (h.fss_nodup hL)]
  unfold lookupFs
  rw [List.find?_cons]
  have h0 : ((0 : Int) == q.1) = false := by
    have := hL.ne0 q hq
    simpa using fun e : (0 : Int) = q.1 => this e.symm
  simp only [h0]
  have := Det.find?_map_key (fun q : Int × Nat => q.1) (fun q => na q.1) L q hq hL.nodup
  rw [this]

theorem P1WP.lookup0 (h : P1WP c H L na n0 p) (hL : IdsOk L) : lookupFs p.fss 0 = .ok n0 := by
  rw [lookupFs_perm _ _ h.fss (h.fss_nodup hL)]
  unfold lookupFs
  rw [List.find?_cons]
  simp

/-- the sofa table is used through `find?` by id only: every such lookup agrees with the one in the writer order -/
theorem P1WP.find_sofa_any (h : P1WP c H L na n0 p) (hnd : (c.views.map (·.2.sofa.xid)).Nodup) (i : Int) :
    p.sofas.find? (fun q => q.1 == i) =
      (c.views.map (fun nv => (nv.2.sofa.xid, psofaOf nv))).find? (fun q => q.1 == i) :=
  findKey_perm _ _ h.sofas ((h.sofas.map (·.1)).nodup_iff.mpr (by rw [List.map_map]; exact hnd)) i

theorem P1WP.find_sofa_name (h : P1WP c H L na n0 p) (hnames : ∀ nv ∈ c.views, nv.2.sofa.sofaID = nv.1)
    (hnd : (c.views.map (·.1)).Nodup) {nv : String × View} (hnv : nv ∈ c.views) :
    p.sofas.find? (fun q => q.2.sofaID == nv.1) = some (nv.2.sofa.xid, psofaOf nv) := by
  have hn : ((c.views.map (fun nv => (nv.2.sofa.xid, psofaOf nv))).map (fun q : Int × PSofa => q.2.sofaID)).Nodup := by
    rw [List.map_map]
    exact (List.map_congr_left (fun nv hnv => hnames nv hnv) : _ = c.views.map (·.1)) ▸ hnd
  have := Det.find?_perm_key (fun q : Int × PSofa => q.2.sofaID) h.sofas hn (nv.2.sofa.xid, psofaOf nv)
    (List.mem_map.mpr ⟨nv, hnv, rfl⟩)
  rw [show (psofaOf nv).sofaID = nv.1 from hnames nv hnv] at this
  exact this

theorem P1WP.members_of (h : P1WP c H L na n0 p) (hnd : (c.views.map (·.2.sofa.xid)).Nodup)
    {nv : String × View} (hnv : nv ∈ c.views) :
    membersOf p.views (psofaOf nv) = (pviewOf H nv).members := by
  have hn : ((c.views.map (fun nv => (nv.2.sofa.xid, pviewOf H nv))).map (fun q : Int × PView => q.1)).Nodup := by
    rw [List.map_map]; exact hnd
  have := Det.find?_perm_key (fun q : Int × PView => q.1) h.views hn (nv.2.sofa.xid, pviewOf H nv)
    (List.mem_map.mpr ⟨nv, hnv, rfl⟩)
  unfold membersOf
  show (match p.views.find? (fun q : Int × PView => q.1 == nv.2.sofa.xid) with | some q => q.2.members | none => _) = _
  simp only at this
  rw [this]

end

end Cassis.Xmi.LPC

namespace Cassis.Xmi
open Cassis.TS

theorem NaOk.toP {n0 : Nat} {L : List (Int × Nat)} {na : Int → Nat} (h : NaOk n0 L na) : LP.NaOkP n0 L na :=
  ⟨h.inj, fun q hq => Nat.ne_of_lt (h.gt q hq)⟩

theorem P1W.toWP {c : Cas} {H : Heap} {L : List (Int × Nat)} {na : Int → Nat} {p : Pass1} (h : P1W c H L na p) :
    LPC.P1WP c H L na H.length p :=
  ⟨h.fss ▸ List.Perm.refl _, h.sofas ▸ List.Perm.refl _, h.views ▸ List.Perm.refl _, h.lenient, h.null⟩

theorem LOkW.idsOk {ts : TypeSystem} {c : Cas} {ci : Nat} {H : Heap} {L : List (Int × Nat)}
    (hL : LOkW ts c ci H L) : LPC.IdsOk L := ⟨fun q hq => (hL.ids q hq).2, hL.nodup⟩

end Cassis.Xmi

namespace Cassis.Xmi.LPC
open Cassis.TS Cassis.Xmi.RTB Cassis.Xmi.LP

structure CtxC (K : Consts) (ts : TypeSystem) (cass : List Cas) (ci : Nat) (c : Cas) (hp H : Heap)
    (L : List (Int × Nat)) (na : Int → Nat) (n0 : Nat) (p : Pass1) : Prop where
  hc : cass[ci]? = some c
  wf : RTWf c hp
  lok : LOkW ts c ci H L
  nok : NaOkP n0 L na
  p1 : P1WP c H L na n0 p
  hmem : ∀ nv ∈ c.views, ∀ e ∈ Index.all nv.2.idx, slot H e.oid "sofa" ≠ some .none
  mok : MembersOk c H

section
variable {K : Consts} {ts : TypeSystem} {cass : List Cas} {ci : Nat} {c : Cas} {hp H : Heap}
  {L : List (Int × Nat)} {na : Int → Nat} {n0 : Nat} {p : Pass1}

theorem CtxC.id_ne_zero (ctx : CtxC K ts cass ci c hp H L na n0 p) {m : Int} {am : Nat} (h : (m, am) ∈ L) : m ≠ 0 :=
  (ctx.lok.ids _ h).2

theorem CtxC.lookup (ctx : CtxC K ts cass ci c hp H L na n0 p) {m : Int} {am : Nat} (h : (m, am) ∈ L) :
    lookupFs p.fss m = .ok (na m) :=
  ctx.p1.lookup (ctx.lok.idsOk) h

theorem CtxC.zero_not_id (ctx : CtxC K ts cass ci c hp H L na n0 p) : (0 : Int) ∉ L.map (·.1) := by
  intro h
  obtain ⟨q, hq, e⟩ := List.mem_map.mp h
  exact (ctx.lok.ids q hq).2 e

theorem CtxC.find_sofa (ctx : CtxC K ts cass ci c hp H L na n0 p) {vn : String} {v : View}
    (h : Cas.getViewRec c vn = some v) :
    p.sofas.find? (fun q => q.2.sofaID == vn) = some (v.sofa.xid, psofaOf (vn, v)) :=
  ctx.p1.find_sofa_name ctx.wf.names ctx.wf.names_nodup (nv := (vn, v)) (alistGet?_mem _ _ _ h)

theorem CtxC.members_of (ctx : CtxC K ts cass ci c hp H L na n0 p) {nv : String × View} (hnv : nv ∈ c.views) :
    membersOf p.views (psofaOf nv) = (pviewOf H nv).members :=
  ctx.p1.members_of ctx.wf.sofa_ids_nodup hnv

theorem CtxC.member (ctx : CtxC K ts cass ci c hp H L na n0 p) {nv : String × View} (hnv : nv ∈ c.views) {m : Int}
    (hm : m ∈ (pviewOf H nv).members) : ∃ e ∈ Index.all nv.2.idx, (m, e.oid) ∈ L :=
  member_of_pview ctx.lok.ids ctx.lok.members hnv hm

theorem CtxC.contains (ctx : CtxC K ts cass ci c hp H L na n0 p) {m : Int} {am : Nat} (h : (m, am) ∈ L) {o : Obj}
    (ho : H[am]? = some o) : containsType ts o.ty = true := by
  obtain ⟨t, hf⟩ := ctx.lok.reg _ h o ho
  exact containsType_of_find hf

end

end Cassis.Xmi.LPC
