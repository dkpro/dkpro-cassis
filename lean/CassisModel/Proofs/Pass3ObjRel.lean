/-
The third pass of the reader (`buildCas`): how the object under construction relates to the object that was
written, and what the primitive steps (`Cas.add`, `rehome`, `convertOffsets`) do to that relation.

The pass is the same on every fragment and for every order of the document; what differs is the pair of expectation
functions: `E2 o n v` is what slot `n` holds when the pass starts (offsets of annotations still external), `E3 o n v`
what it holds in the end.  `ExpOk` lists what the proofs use of such a pair; the pair of the whole format is `E2c`/`E3c`
(`RTCB.expOk_coll`, `Pass3BuildCas.lean`), the pair of the flat fragment `E2`/`E3` (`Pass3.expOk_flat`,
`Pass3Fragments.lean`).
-/
import CassisModel.Properties.C03Doc
import CassisModel.Proofs.Pass3Lists
import CassisModel.Proofs.XmiOffsets
import CassisModel.Proofs.Cas

namespace Cassis.Xmi.RTB

theorem exp2_eq_exp3 (cass : List Cas) (H : Heap) (na : Int → Nat) (ci' : Nat) (isAnn : Bool) (o : Obj) (n : String)
    (v : Val) (h : (isAnn && (n == "begin" || n == "end")) = false) :
    exp2 cass H na ci' isAnn o n v = exp3 H na ci' v := by
  cases v <;> try rfl
  case int i => exact congrArg Val.int (extInt_plain h i)

end Cassis.Xmi.RTB

namespace Cassis.Xmi.Pass3
open Cassis.TS

/-- what the third pass uses of the expectation functions `E2` (before it) and `E3` (after it) -/
structure ExpOk (ts : TypeSystem) (cass : List Cas) (ci' : Nat) (E2 E3 : Obj → String → Val → Val) : Prop where
  /-- only the offsets of annotations are still to be converted -/
  eq : ∀ o n v, (isInstanceOf ts o.ty ANNOTATION && (n == "begin" || n == "end")) = false → E2 o n v = E3 o n v
  int2 : ∀ o n i, E2 o n (.int i) = .int (extInt cass (isInstanceOf ts o.ty ANNOTATION) o n i)
  int3 : ∀ o n i, E3 o n (.int i) = .int i
  none3 : ∀ o n, E3 o n .none = .none
  sofa3 : ∀ o n c vn, E3 o n (.sofa c vn) = .sofa ci' vn

section
variable (E2 E3 : Obj → String → Val → Val) (ci' : Nat)

/-- what slot `n` of the new object may hold (`w`) when the old object holds `v`; `C`: offsets already internal;
    `Kp`: the member's own sofa is on record (the slot then names the view the member was added to last) -/
def SlotOk (C Kp : Prop) (o : Obj) (n : String) (v w : Val) : Prop :=
  if n = "sofa" then (w = E3 o n v ∨ (Kp ∧ ∃ u, w = .sofa ci' u))
  else ((C → w = E3 o n v) ∧ (¬ C → w = E2 o n v))

def ObjOk (C Kp : Prop) (o o' : Obj) (x : Int) : Prop :=
  ObjRelS (SlotOk E2 E3 ci' C Kp o) o o' x

end

section
variable {ts : TypeSystem} {cass : List Cas} {E2 E3 : Obj → String → Val → Val} {ci' : Nat}
  {C Kp C' Kp' : Prop} {o o' : Obj} {x : Int} {n : String} {v w : Val}

theorem slotOk_sofa :
    SlotOk E2 E3 ci' C Kp o "sofa" v w ↔ (w = E3 o "sofa" v ∨ (Kp ∧ ∃ u, w = .sofa ci' u)) := by
  unfold SlotOk
  rw [if_pos rfl]

theorem slotOk_ne (hn : n ≠ "sofa") :
    SlotOk E2 E3 ci' C Kp o n v w ↔ ((C → w = E3 o n v) ∧ (¬ C → w = E2 o n v)) := by
  unfold SlotOk
  rw [if_neg hn]

theorem SlotOk.mono (h : SlotOk E2 E3 ci' C Kp o n v w) (hC : C ↔ C') (hK : Kp → Kp') :
    SlotOk E2 E3 ci' C' Kp' o n v w := by
  by_cases hn : n = "sofa"
  · subst hn
    rw [slotOk_sofa] at h ⊢
    exact h.imp_right (fun ⟨k, hu⟩ => ⟨hK k, hu⟩)
  · rw [slotOk_ne hn] at h ⊢
    exact ⟨fun c => h.1 (hC.mpr c), fun c => h.2 (fun c' => c (hC.mp c'))⟩

theorem SlotOk.of_eq (h : SlotOk E2 E3 ci' C Kp o n v w) (e : E2 o n v = E3 o n v) :
    SlotOk E2 E3 ci' C' Kp o n v w := by
  by_cases hn : n = "sofa"
  · subst hn
    rw [slotOk_sofa] at h ⊢
    exact h
  · rw [slotOk_ne hn] at h ⊢
    have hw : w = E3 o n v := by
      by_cases c : C
      · exact h.1 c
      · exact (h.2 c).trans e
    exact ⟨fun _ => hw, fun _ => hw.trans e.symm⟩

theorem ObjOk.mono (h : ObjOk E2 E3 ci' C Kp o o' x) (hC : C ↔ C') (hK : Kp → Kp') :
    ObjOk E2 E3 ci' C' Kp' o o' x :=
  ObjRelS.mono h (fun _ _ _ _ hs => hs.mono hC hK)

theorem ObjOk.nonann (hE : ExpOk ts cass ci' E2 E3) (h : ObjOk E2 E3 ci' C Kp o o' x)
    (hann : isInstanceOf ts o.ty ANNOTATION = false) : ObjOk E2 E3 ci' C' Kp o o' x :=
  ObjRelS.mono h (fun n v _ _ hs => hs.of_eq (hE.eq o n v (by rw [hann]; rfl)))

theorem ObjOk.slot_exp3 (h : ObjOk E2 E3 ci' True Kp o o' x) (hn : n ≠ "sofa") :
    alistGet? o'.slots n = (alistGet? o.slots n).map (E3 o n) := by
  cases hv : alistGet? o.slots n with
  | none => exact (h.none_iff n).mpr hv
  | some v =>
    obtain ⟨w, hw, hs⟩ := h.2.2.2 n v hv
    rw [hw, ((slotOk_ne hn).mp hs).1 trivial]
    rfl

theorem ObjOk.add (h : ObjOk E2 E3 ci' C Kp o o' x) (hd : Handle)
    (hK : Kp → Kp') (hK' : (alistGet? o'.slots "sofa").isSome = true → Kp') :
    ObjOk E2 E3 ci' C Kp' o (Cas.addObj ci' hd o' x) x := by
  unfold Cas.addObj
  by_cases hs : (alistGet? o'.slots "sofa").isSome = true
  · rw [if_pos hs]
    obtain ⟨v, hv⟩ := Option.isSome_iff_exists.mp ((h.isSome_iff "sofa").mp hs)
    have h1 : ObjOk E2 E3 ci' C Kp' o { o' with slots := alistSet o'.slots "sofa" (.sofa ci' hd.view) } x :=
      ObjRelS.set h hv (slotOk_sofa.mpr (Or.inr ⟨hK' hs, _, rfl⟩)) (fun _ _ _ _ hs => hs.mono Iff.rfl hK)
    exact ⟨h1.1, rfl, h1.2.2⟩
  · rw [if_neg hs]
    have h1 := h.mono (C' := C) Iff.rfl hK
    exact ⟨h1.1, rfl, h1.2.2⟩

theorem ObjOk.rehome (h : ObjOk E2 E3 ci' C Kp o o' x) (hv : alistGet? o.slots "sofa" = some v) :
    ObjOk E2 E3 ci' C Kp' o { o' with slots := alistSet o'.slots "sofa" (E3 o "sofa" v) } x :=
  ObjRelS.set h hv (slotOk_sofa.mpr (Or.inl rfl)) (fun _ _ _ hn hs => (slotOk_ne hn).mpr ((slotOk_ne hn).mp hs))

theorem ObjOk.convert (hE : ExpOk ts cass ci' E2 E3) (h : ObjOk E2 E3 ci' C Kp o o' x) (hC' : C')
    {bI eI : Int} (hb : alistGet? o.slots "begin" = some (.int bI)) (he : alistGet? o.slots "end" = some (.int eI)) :
    ObjOk E2 E3 ci' C' Kp o
      { o' with slots := alistSet (alistSet o'.slots "begin" (.int bI)) "end" (.int eI) } x := by
  have hint : ∀ (n : String) (i : Int), n ≠ "sofa" → SlotOk E2 E3 ci' C' Kp o n (.int i) (.int i) :=
    fun n i hn => (slotOk_ne hn).mpr ⟨fun _ => (hE.int3 o n i).symm, fun c => absurd hC' c⟩
  -- the other slots: the two expectations agree, or the slot is `sofa`
  have hoth : ∀ (n : String) (v w : Val), n ≠ "begin" → n ≠ "end" → SlotOk E2 E3 ci' C Kp o n v w →
      SlotOk E2 E3 ci' C' Kp o n v w := by
    intro n v w hnb hne hs
    refine hs.of_eq (hE.eq o n v ?_)
    have e1 : (n == "begin") = false := by simpa using hnb
    have e2 : (n == "end") = false := by simpa using hne
    rw [e1, e2]; simp
  -- in between, `begin` is converted and `end` is not
  have h1 : ObjRelS (fun n v w => if n = "end" then SlotOk E2 E3 ci' C Kp o n v w else SlotOk E2 E3 ci' C' Kp o n v w)
      o { o' with slots := alistSet o'.slots "begin" (.int bI) } x := by
    refine ObjRelS.set h hb ?_ (fun n v w hn hs => ?_)
    · show if "begin" = "end" then _ else _
      rw [if_neg (by decide)]
      exact hint _ _ (by decide)
    · show if n = "end" then _ else _
      split
      · exact hs
      · rename_i hne
        exact hoth n v w hn hne hs
  refine ObjRelS.set h1 he (hint _ _ (by decide)) (fun n v w hn hs => ?_)
  change if n = "end" then _ else _ at hs
  rwa [if_neg hn] at hs

end

section
variable (E2 E3 : Obj → String → Val → Val) (ci' : Nat) (H : Heap) (L : List (Int × Nat)) (na : Int → Nat)

/-- every collected structure has its counterpart at its new address; `Cp x`: the offsets of the structure with id `x`
    are internal; `Kp x`: its own sofa is on record -/
def HInv (Cp Kp : Int → Prop) (hp : Heap) : Prop :=
  HeapRelP H L na (fun o o' x => ObjOk E2 E3 ci' (Cp x) (Kp x) o o' x) hp

end

section
variable {ts : TypeSystem} {cass : List Cas} {E2 E3 : Obj → String → Val → Val} {ci' : Nat} {H : Heap}
  {L : List (Int × Nat)} {na : Int → Nat} {Cp Kp Cp' Kp' : Int → Prop} {hp : Heap}

theorem HInv.get (h : HInv E2 E3 ci' H L na Cp Kp hp) {m : Int} {am : Nat}
    (hm : (m, am) ∈ L) {o : Obj} (ho : H[am]? = some o) :
    ∃ o', hp[na m]? = some o' ∧ ObjOk E2 E3 ci' (Cp m) (Kp m) o o' m :=
  HeapRelP.get h hm ho

theorem HInv.mono (h : HInv E2 E3 ci' H L na Cp Kp hp)
    (hC : ∀ q ∈ L, (Cp q.1 ↔ Cp' q.1)) (hK : ∀ q ∈ L, Kp q.1 → Kp' q.1) : HInv E2 E3 ci' H L na Cp' Kp' hp :=
  HeapRelP.mono h fun q hq _ _ _ hr => hr.mono (hC q hq) (hK q hq)

/-- as `HInv.mono`; `Cp` may change at will on structures that are no annotations -/
theorem HInv.mono_nonann (hE : ExpOk ts cass ci' E2 E3) (h : HInv E2 E3 ci' H L na Cp Kp hp)
    (hC : ∀ q ∈ L, (Cp q.1 ↔ Cp' q.1) ∨ (∀ o, H[q.2]? = some o → isInstanceOf ts o.ty ANNOTATION = false))
    (hK : ∀ q ∈ L, Kp q.1 → Kp' q.1) : HInv E2 E3 ci' H L na Cp' Kp' hp := by
  intro q hq
  obtain ⟨o, o', ho, ho', hr⟩ := h q hq
  refine ⟨o, o', ho, ho', ?_⟩
  rcases hC q hq with e | e
  · exact hr.mono e (hK q hq)
  · exact (hr.nonann hE (e o ho)).mono Iff.rfl (hK q hq)

theorem HInv.step (hinj : ∀ q ∈ L, ∀ q' ∈ L, na q.1 = na q'.1 → q.1 = q'.1) (hnd : (L.map (·.1)).Nodup)
    (h : HInv E2 E3 ci' H L na Cp Kp hp) {m : Int} {am : Nat} (hm : (m, am) ∈ L) {o o' o1 : Obj}
    (ho : H[am]? = some o) (ho' : hp[na m]? = some o')
    (h1 : ObjOk E2 E3 ci' (Cp' m) (Kp' m) o o1 m)
    (hC : ∀ q ∈ L, q.1 ≠ m → (Cp q.1 ↔ Cp' q.1)) (hK : ∀ q ∈ L, q.1 ≠ m → Kp q.1 → Kp' q.1) :
    HInv E2 E3 ci' H L na Cp' Kp' (hp.set (na m) o1) :=
  HeapRelP.step hinj hnd h hm ho (Det.set_get_self ho') h1 (fun _ _ hne => List.getElem?_set_ne (Ne.symm hne))
    fun q hq hqm _ _ hr => hr.mono (hC q hq hqm) (hK q hq hqm)

end

end Cassis.Xmi.Pass3

namespace Cassis.Xmi.RTB
open Cassis.TS

theorem cvI_restores (t : List Nat) (hs : ∀ c ∈ t, Offsets.IsScalar c) (i : Nat) (hi : i ≤ t.length) :
    cvI (convOfText (some (docText t))) ((Offsets.pythonToExternal (some (Offsets.table t)) i : Nat) : Int) = i := by
  rw [cvI_nat]
  have := xmi_offset_roundtrip t hs i hi
  have e : Offsets.createMapping none (some t) = some (Offsets.table t) := rfl
  rw [e] at this
  rw [this]

theorem add_eq (ts : TypeSystem) (ci : Nat) (c : Cas) {hp : Heap} (h : Handle) {a : Nat} {o : Obj} {v : View} {x : Int}
    {e : Index.Entry} (ho : hp[a]? = some o) (hct : containsType ts o.ty = true)
    (hv : Cas.getViewRec c h.view = some v) (hx : o.xid = some x)
    (he : Cas.entryOf (Cas.addObj ci h o x) a = .ok e)
    (hk : (Index.get v.idx o.ty).any
      (fun y => decide (y.b = Index.NONE_KEY) != decide (e.b = Index.NONE_KEY)) = false) :
    Cas.add ts ci c hp h a true =
      .ok (Cas.setViewRec c h.view { v with idx := Index.add v.idx o.ty e }, hp.set a (Cas.addObj ci h o x)) := by
  rw [Cas.add_eq, ho]
  simp only [hct, Bool.not_true, Bool.and_false, Bool.false_eq_true, if_false, Cas.addCore, Cas.cur_of_get hv, hx, Cas.pickId, he, hk]

theorem addObj_slot_ne (ci' : Nat) (h : Handle) (o1 : Obj) (m : Int) {n : String} (hn : n ≠ "sofa") :
    alistGet? (Cas.addObj ci' h o1 m).slots n = alistGet? o1.slots n := by
  unfold Cas.addObj
  dsimp only
  split
  · rw [alistGet?_alistSet, if_neg hn]
  · rfl

/-- the index key of an object whose `begin` and `end` went through functions that keep integers and `none` -/
theorem entryOf_map {f g : Val → Val} (hf : ∀ i, f (.int i) = .int i) (hf0 : f .none = .none)
    (hg : ∀ i, g (.int i) = .int i) (hg0 : g .none = .none) {o o2 : Obj} {a a2 : Nat} {k : Index.Entry}
    (hb : alistGet? o2.slots "begin" = (alistGet? o.slots "begin").map f)
    (he : alistGet? o2.slots "end" = (alistGet? o.slots "end").map g)
    (hk : Cas.entryOf o a = .ok k) : Cas.entryOf o2 a2 = .ok { k with oid := a2 } := by
  unfold Cas.entryOf at hk ⊢
  rw [hb, he]
  cases h1 : alistGet? o.slots "begin" with
  | none => rw [h1] at hk; cases hk; rfl
  | some vb =>
    cases h2 : alistGet? o.slots "end" with
    | none => rw [h1, h2] at hk; cases hk; rfl
    | some ve =>
      rw [h1, h2] at hk
      simp only [Option.map_some] at hk ⊢
      split at hk
      · rw [hf, hg]; cases hk; rfl
      · rw [hf0, hg0]; cases hk; rfl
      · cases hk

end Cassis.Xmi.RTB
