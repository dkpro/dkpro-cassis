/-
C16 with collections, the CAS loaded from XMI (`XLd`, `RoundTripCollLoaded.lean`): the collection objects the
reader made for inlined collections, with their types *and* their content (`VList`: a typed list is what `collectList`
reads along it, `TList.vlist`), and the set `SAll` of the structures the JSON writer will collect from the loaded CAS: the
counterparts of the written structures (`SMain`), the inlined array objects (`SArr`) and the nodes of the inlined lists
(`SNode`).  A written structure and its counterpart are looked at in the setting `Loc` of `RoundTripCollContent.lean` (`XLd.loc`).
-/
import CassisModel.Proofs.RoundTripCollLoaded
import CassisModel.Proofs.ChainDefs

namespace Cassis.ChainC
open Cassis.TS Cassis.Traverse Cassis.Xmi Cassis.Json

theorem get_tail (v t : Val) : alistGet? [("head", v), ("tail", t)] "tail" = some t := by
  simp [alistGet?]

/-- a typed list is the list of the heads along its spine -/
theorem TList.vlist {hp : Heap} {k : LK} {a : Nat} (h : TList hp k a) : ∀ {vs : List Val}, Spine hp (.ref a) vs →
    VList hp k a vs := by
  induction h with
  | nil h1 h2 h3 h4 =>
    intro vs hs
    cases hs with
    | stop _ => exact .nil h1 h2 h3 h4
    | node hh _ => rw [slot_eq h1, h4] at hh; cases hh
  | cons h1 h2 h3 h4 _ ih =>
    intro vs hs
    cases hs with
    | stop h0 => have := h0 _ rfl; rw [slot_eq h1, h4, alistGet?_cons_self] at this; cases this
    | node hh ht =>
      rw [slot_eq h1, h4, alistGet?_cons_self] at hh
      cases hh
      rw [slot_eq h1, h4, get_tail] at ht
      exact .cons h1 h2 h3 h4 (ih ht)

/-- the head of a node of a list of kind `k`: a counterpart of a written structure, or a primitive of the kind -/
def HeadGood (L : List (Int × Nat)) (na : Int → Nat) : LK → Val → Prop
  | .fs, v => ∃ q ∈ L, v = .ref (na q.1)
  | .int, v => ∃ i : Int, v = .int i
  | .flt, v => ∃ t : String, v = .float t
  | .str, v => v = .none ∨ ∃ s : String, v = .str s

/-- the counterpart of a written structure -/
def SMain (L : List (Int × Nat)) (na : Int → Nat) (a : Nat) : Prop := ∃ q ∈ L, a = na q.1

/-- a node of an inlined list -/
def SNode (hp : Heap) (L : List (Int × Nat)) (na : Int → Nat) (a : Nat) : Prop :=
  ∃ (k : LK) (vs : List Val), VList hp k a vs ∧ vs.length < hp.length ∧ ∀ v ∈ vs, HeadGood L na k v

/-- an inlined array object -/
def SArr (K : Consts) (hp : Heap) (L : List (Int × Nat)) (na : Int → Nat) (a : Nat) : Prop :=
  ∃ (o : Obj) (ev : Val), hp[a]? = some o ∧ o.xid = none ∧ o.slots = [("elements", ev)] ∧
    ( (o.ty = FS_ARRAY ∧ isPrimitiveArray K FS_ARRAY = false ∧
        ∃ l : List (Option Nat), ev = .refs l ∧ ∀ r ∈ l, ∃ q ∈ L, r = some (na q.1))
    ∨ (o.ty ≠ FS_ARRAY ∧ (PrimArrTy o.ty ∨ o.ty = STRING_ARRAY) ∧ isPrimitiveArray K o.ty = true ∧
        JPrimElems o.ty ev) )

def SAll (K : Consts) (hp : Heap) (L : List (Int × Nat)) (na : Int → Nat) (a : Nat) : Prop :=
  SMain L na a ∨ SArr K hp L na a ∨ SNode hp L na a

theorem SNode.tail {hp : Heap} {L : List (Int × Nat)} {na : Int → Nat} {a : Nat} {o : Obj} {v : Val} {a' : Nat}
    (h : SNode hp L na a) (ho : hp[a]? = some o) (hs : o.slots = [("head", v), ("tail", .ref a')]) :
    SNode hp L na a' ∧ ∃ k, HeadGood L na k v ∧ o.ty = k.neT := by
  obtain ⟨k, vs, hv, hlen, hgood⟩ := h
  cases hv with
  | nil g1 _ _ g4 =>
    rw [ho] at g1; cases g1
    rw [hs] at g4; cases g4
  | cons g1 _ g3 g4 g5 =>
    rw [ho] at g1; cases g1
    rw [hs] at g4
    cases g4
    refine ⟨⟨k, _, g5, ?_, fun w hw => hgood w (List.mem_cons_of_mem _ hw)⟩, k, hgood _ List.mem_cons_self, g3⟩
    simp only [List.length_cons] at hlen
    omega

theorem lk_range_inj : ∀ {k k' : LK}, k.range = k'.range → k = k' := by
  intro k k' h
  cases k <;> cases k' <;> first | rfl | simp [LK.range, FS_LIST, INTEGER_LIST, FLOAT_LIST, STRING_LIST] at h

theorem primArr_ne_list {r : String} (h : PrimArrTy r ∨ r = STRING_ARRAY ∨ r = FS_ARRAY) : ∀ k : LK, r ≠ k.range := by
  intro k
  rcases h with ((h | h | h) | h | h | (h | h)) | h | h <;> subst h <;> cases k <;>
    simp [LK.range, FS_LIST, INTEGER_LIST, FLOAT_LIST, STRING_LIST, STRING_ARRAY, FS_ARRAY]

section
variable {K : Consts} {ts : TypeSystem} {c : Cas} {ci : Nat} {H : Heap} {L : List (Int × Nat)} {ci' : Nat}
  {na : Int → Nat} {ia : Int → String → Nat} {ld : Xmi.Loaded}

theorem XLd.ldViews (x : XLd K ts c ci H L ci' na ia ld) : Chain.LdViews c H L na ld.cas :=
  ⟨.of_xmi x.views, x.lok.members, x.lok.ids⟩

theorem XLd.target (x : XLd K ts c ci H L ci' na ia ld) {q : Int × Nat} (hq : q ∈ L) {b : Nat}
    (hb : Target K ts H q.2 b) : ∃ q' ∈ L, q'.2 = b ∧ xidOf H b = some q'.1 := by
  obtain ⟨y, hy, hyl⟩ := x.lok.closed q hq b hb
  exact ⟨(y, b), hyl, rfl, hy⟩

theorem XLd.loc (x : XLd K ts c ci H L ci' na ia ld) {q : Int × Nat} (hq : q ∈ L) :
    ∃ (o o' : Obj) (t : TypeRec), Loc K ts c ci H L na ia ci' ld.heap q o o' t :=
  loc_of x.lok x.rel x.colls hq

/-- the collection object a loaded inlined feature refers to is typed by the range of the feature; a list has fewer heads
    than the heap has objects -/
theorem XLd.typedAt (x : XLd K ts c ci H L ci' na ia ld) {q : Int × Nat} {o o' : Obj} {t : TypeRec}
    (h : Loc K ts c ci H L na ia ci' ld.heap q o o' t)
    {f : Feature} (hf : f ∈ allFeatures t) (hi : isInline K f = true) {b : Nat}
    (hv' : alistGet? o'.slots f.name = some (.ref b)) :
    NewFor K ld.heap f.range b ∧ ∀ hs, collectList ld.heap (ld.heap.length + 1) (.ref b) = .ok hs →
      isArray K f.range = false → hs.length < ld.heap.length := by
  obtain ⟨cc, hv⟩ := h.ref_inv hv'
  obtain ⟨hv'', hd⟩ := h.inl hf hi hv
  rw [hv'] at hv''
  cases hv''
  refine ⟨x.typed q h.hq o h.ho f.name cc hv ((CF.inlineSlot_eq h.ht h.kind.1 hf).trans hi) t f h.ht hf rfl, fun hs hc hna => ?_⟩
  rcases hd with ⟨ha, _⟩ | ⟨_, hs0, _, hat, hlen⟩
  · rw [hna] at ha; cases ha
  · rw [collectList_spine hat.spine _ (by rw [List.length_map]; omega)] at hc
    cases hc
    rw [List.length_map]
    exact hlen

end

end Cassis.ChainC
