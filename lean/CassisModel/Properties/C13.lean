/-
C13 — merge_typesystems follows the UIMA merge rules, is order-independent and pure.

Proved about `Model/Merge.lean` (the repaired algorithm): the loop terminates on closed, acyclic
declaration lists; whenever a merge succeeds the result is one tree (`Consistent`, C10) that registers
every declared type; a new type is created with the declared supertype and features; equal supertypes
leave the hierarchy alone; incomparable and contradictory supertypes raise `ValueError`.
Purity of the inputs is built into the functional model and observed on the implementation.
Order independence (`MergePermInvariant` below states it without hypotheses on the inputs, as a definition only) is
proved under hypotheses on the declarations: `merge_perm_movable` (`Proofs/MergePermMain.lean`), with the instances
`merge_perm_one_super`, `merge_perm_leaf_compete` (`C13Perm.lean`) and `merge_perm_subtree_compete` (`C13PermSub.lean`);
the correspondence check enumerates small pools exhaustively.
-/
import CassisModel.Proofs.Merge

namespace Cassis.TS

/-- the declarations are closed (every supertype is predefined or itself declared) and acyclic -/
structure ClosedDecls (K : Consts) (decls : List Decl) : Prop where
  closed : ∀ d ∈ decls, K.predefined.contains d.super = true ∨ d.super ∈ decls.map (·.name)
  acyclic : ∃ rank : String → Nat, ∀ d ∈ decls, K.predefined.contains d.super = false → rank d.super < rank d.name

/-- the readiness loop never spins: with closed acyclic declarations it does not run out of the fuel
    `|decls| + 1` (the code's own "no progress" guard can never fire, see DESIGN.md M5) -/
theorem merge_terminates (K : Consts) (base : TypeSystem) (decls : List Decl) (h : ClosedDecls K decls) :
    mergeDecls K base decls ≠ .error .outOfFuel :=
  merge_terminates_aux K base decls h.closed h.acyclic

/-- a successful merge yields one tree -/
theorem merge_consistent (K : Consts) (base ts' : TypeSystem) (decls : List Decl)
    (hc : Consistent base) (h : mergeDecls K base decls = .ok ts') : Consistent ts' :=
  mergeDecls_inv Consistent (fun d _ s s' => consistent_processDecl K s s' d) hc h

/-- … in which every declared type is registered, and everything registered before still is -/
theorem merge_contains_all (K : Consts) (base ts' : TypeSystem) (decls : List Decl)
    (h : mergeDecls K base decls = .ok ts') :
    (∀ d ∈ decls, hasExact ts' d.name = true) ∧ (∀ n, hasExact base n = true → hasExact ts' n = true) := by
  obtain ⟨s', hs, rfl⟩ := mergeDecls_ok K base ts' decls h
  -- invariant of the loop: everything in `base` and everything merged so far is registered
  have inv := mergeLoop_inv (P := fun s => RegLe base s.ts ∧ ∀ x ∈ s.merged, hasExact s.ts x = true) decls
    (fun d _ s s1 ⟨i1, i2⟩ hp => by
      obtain ⟨r1, r2⟩ := processDecl_reg K s s1 d hp
      refine ⟨i1.trans r1, fun x hx => ?_⟩
      rcases (processDecl_mem_merged hp x).mp hx with hx | rfl
      · exact r1 x (i2 x hx)
      · exact r2) _ _ s' ⟨RegLe.refl _, fun _ hx => by cases hx⟩ hs
  exact ⟨fun d hd => inv.2 _ (mergeLoop_complete K decls _ _ s' hs d hd), inv.1⟩

/-- a type seen for the first time is created below its declared supertype with its declared features -/
theorem processDecl_new (K : Consts) (s s' : MState) (d : Decl) (hn : hasExact s.ts d.name = false)
    (h : processDecl K s d = .ok s') :
    ∃ ts1, createType K s.ts d.name d.super d.descr = .ok ts1 ∧ addOwnFeatures ts1 d.name d.own = .ok s'.ts := by
  obtain ⟨ts1, h1, h2, _⟩ := processDecl_ok_iff.mp h
  exact ⟨ts1, declSuper_new hn ▸ h1, h2⟩

/-- the same supertype again: only the features are merged, the hierarchy is untouched -/
theorem processDecl_same_super (K : Consts) (s s' : MState) (d : Decl) (ex : TypeRec)
    (he : find? s.ts d.name = some ex) (hs : ex.super = some d.super) (h : processDecl K s d = .ok s') :
    addOwnFeatures s.ts d.name d.own = .ok s'.ts := by
  obtain ⟨ts1, h1, h2, _⟩ := processDecl_ok_iff.mp h
  rw [declSuper_same he hs] at h1
  cases h1; exact h2

/-- incomparable supertypes raise `ValueError` -/
theorem processDecl_incomparable_error (K : Consts) (s : MState) (d : Decl) (ex : TypeRec) (exSup : String)
    (he : find? s.ts d.name = some ex) (hs : ex.super = some exSup) (hne : d.super ≠ exSup)
    (h1 : subsumes s.ts exSup d.super = false) (h2 : subsumes s.ts d.super exSup = false)
    (r1 : hasExact s.ts exSup = true) (r2 : hasExact s.ts d.super = true) :
    processDecl K s d = .error .valueError := by
  rw [processDecl_eq, declSuper_diff he hs hne r1 r2, h1, h2]; rfl

/-- contradictory supertypes (the new supertype is the type itself or one of its subtypes) raise `ValueError` -/
theorem reparent_contradictory_error (ts : TypeSystem) (name oldSup newSup : String)
    (h : subsumes ts name newSup = true) : reparent ts name oldSup newSup = .error .valueError := by
  simp [reparent, h]

/-- re-parenting, when it succeeds, makes the declared (more specific) supertype the supertype -/
theorem reparent_super (ts ts' : TypeSystem) (name oldSup newSup : String) (hc : Consistent ts)
    (hreg : hasExact ts name = true) (h : reparent ts name oldSup newSup = .ok ts') :
    ∃ t, find? ts' name = some t ∧ t.super = some newSup := by
  obtain ⟨_, ns, _, hi⟩ := reparent_ok ts ts' name oldSup newSup h
  have hn1 := nodup_relink ts name oldSup newSup hc.nodup
  have hsk := frame_skel.inheritFrom name _ _ ts' (fun _ _ => trivial) hi hn1
  have hreg1 : hasExact (relink ts name oldSup newSup) name = true :=
    RegLe.of_perm (names_relink_perm ts name oldSup newSup) name hreg
  obtain ⟨t1, ht1⟩ := (hasExact_iff_find _ _).mp hreg1
  have hsup : t1.super = some newSup := by
    have hm := (relink_perm ts name oldSup newSup).mem_iff.mp (find?_mem ht1)
    obtain ⟨t0, _, rfl⟩ := List.mem_map.mp hm
    have := find?_name ht1
    rw [relinkRec_name] at this
    exact relinkRec_super_self name oldSup newSup t0 this
  obtain ⟨t', ht', he⟩ := find?_transfer hsk.symm ht1
  rw [tr_eq_iff] at he
  exact ⟨t', ht', by rw [he.2.1]; exact hsup⟩

/-- merging nothing changes nothing -/
theorem merge_empty (K : Consts) (base : TypeSystem) : mergeDecls K base [] = .ok base := by
  simp [mergeDecls, mergeLoop, mergeRound]

/-- order independence as the property states it, without hypotheses on the inputs.  A definition only: what is proved
    (`merge_perm_movable` and its instances in `C13Perm.lean`, `C13PermSub.lean`) has hypotheses on the declarations. -/
def MergePermInvariant (K : Consts) (base : TypeSystem) : Prop :=
  ∀ (inputs inputs' : List TypeSystem), inputs.Perm inputs' →
    (∀ ts ts', merge K base inputs = .ok ts → merge K base inputs' = .ok ts' →
      ∀ n, (find? ts n).map (fun t => (t.super, (allFeatures t).map (·.name))) =
           (find? ts' n).map (fun t => (t.super, (allFeatures t).map (·.name))))

/-! Non-vacuity (tests of concrete instances): x.X below Annotation in one input, below x.Mid in the other -/
def demoA : List Decl := [{ name := "x.Mid", super := "uima.tcas.Annotation" }, { name := "x.X", super := "uima.tcas.Annotation" }]
def demoB : List Decl := [{ name := "x.Mid", super := "uima.tcas.Annotation" }, { name := "x.X", super := "x.Mid" }]

/-- both orders in one declaration (one kernel evaluation; see the head of `Proofs/InstancesFlat.lean`) -/
theorem demo_super :
    ((mergeDecls Gen.consts Gen.builtinTS (demoA ++ demoB)).toOption.bind (fun ts => find? ts "x.X")).map (·.super)
      = some (some "x.Mid") ∧
    ((mergeDecls Gen.consts Gen.builtinTS (demoB ++ demoA)).toOption.bind (fun ts => find? ts "x.X")).map (·.super)
      = some (some "x.Mid") := by
  rw [mergeDecls_eq_S, mergeDecls_eq_S]; decide +kernel

example : ((mergeDecls Gen.consts Gen.builtinTS (demoA ++ demoB)).toOption.bind (fun ts => find? ts "x.X")).map (·.super)
    = some (some "x.Mid") := demo_super.1
example : ((mergeDecls Gen.consts Gen.builtinTS (demoB ++ demoA)).toOption.bind (fun ts => find? ts "x.X")).map (·.super)
    = some (some "x.Mid") := demo_super.2

end Cassis.TS
