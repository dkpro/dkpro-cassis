/-
C03, written-document level: the converter of a sofa whose converter belongs to its text (`SofaConvOk`)
computes the oracle `extOffset` (`extOffset_*_aux`, `conv_ext`); then, per writer, that a feature contributes nothing else
under the names `begin` / `end`.
-/
import CassisModel.Spec.OffsetsDoc
import CassisModel.Properties.C03
import CassisModel.Proofs.RoundTripWriter
import CassisModel.Proofs.JsonWriter

namespace Cassis.OffsetsDoc
open Cassis.Offsets

theorem extOffset_inside_aux (t : List Nat) (i : Nat) (h : i ≤ t.length) :
    extOffset t (i : Int) = Int.ofNat (utf16Encode (t.take i)).length := by
  unfold extOffset
  have h0 : (0 : Int) ≤ (i : Int) := by omega
  rw [if_pos ⟨h0, by simpa using h⟩, Int.toNat_natCast]

theorem extOffset_neg_aux (t : List Nat) (i : Int) (h : i < 0) : extOffset t i = i := by
  unfold extOffset
  rw [if_neg (by omega)]

theorem extOffset_beyond_aux (t : List Nat) (i : Int) (h : (t.length : Int) < i) : extOffset t i = i := by
  unfold extOffset
  rw [if_neg (by omega)]

/-- what both writers compute for an integer `begin`/`end` of an annotation is the oracle -/
theorem conv_ext (s : Sofa) (t : List Nat) (ht : s.text = some t) (hok : SofaConvOk s) (i : Int) :
    (if i < 0 then i else ((pythonToExternal s.conv i.toNat : Nat) : Int)) = extOffset t i := by
  by_cases hneg : i < 0
  · rw [if_pos hneg, extOffset_neg_aux t i hneg]
  · rw [if_neg hneg]
    have hi : ((i.toNat : Nat) : Int) = i := Int.toNat_of_nonneg (by omega)
    rcases hok t ht with hc | ⟨rfl, hc⟩
    · rw [hc]
      show ((p2e t i.toNat : Nat) : Int) = _
      by_cases hin : i.toNat ≤ t.length
      · rw [p2e_eq_utf16_len t _ hin]
        unfold extOffset
        rw [if_pos ⟨by omega, hin⟩]
        rfl
      · have hp : p2e t i.toNat = i.toNat := by
          unfold p2e p2eTab
          have : (table t)[i.toNat]? = none := by
            apply List.getElem?_eq_none
            rw [table_length]; omega
          rw [this]
        rw [hp, hi]
        unfold extOffset
        rw [if_neg (by omega)]
    · rw [hc]
      show ((i.toNat : Nat) : Int) = _
      unfold extOffset
      by_cases hz : i.toNat ≤ ([] : List Nat).length
      · rw [if_pos ⟨by omega, hz⟩]
        have : i.toNat = 0 := by simpa using hz
        rw [this]
        rfl
      · rw [if_neg (by intro h; exact hz h.2), hi]

end Cassis.OffsetsDoc

/-! ### the XMI writer: a feature contributes at most one attribute, under the name it is written with -/
namespace Cassis.Xmi
open Cassis.TS Cassis.OffsetsDoc

theorem _root_.Cassis.OffsetsDoc.IntFeat.noColl {K : Consts} {ts : TypeSystem} {f : Feature} (h : IntFeat K ts f)
    (hname : f.name = "begin" ∨ f.name = "end") : NoColl K ts f := by
  obtain ⟨hres, hr, _, hpa, hpl, hsa, hsl⟩ := h
  refine { res := Or.inl hres, n1 := ?_, n2 := ?_, pa := hpa, pl := hpl, fa := ?_, fl := ?_, sa := hsa, sl := hsl }
  · rcases hname with h | h <;> rw [h] <;> decide
  · rcases hname with h | h <;> rw [h] <;> decide
  · rcases isIntRange_cases hr with h | h | h | h <;> rw [h] <;> decide
  · rcases isIntRange_cases hr with h | h | h | h <;> rw [h] <;> decide

/-- at most one attribute, under the given name -/
def OneAttr (name : String) (out : List (String × String) × List (String × Option String)) : Prop :=
  out.1 = [] ∨ ∃ s, out.1 = [(name, s)]

/-- Every exit of `renderFeature` is `pure ([], _)` or `pure ([(name, s)], [])`.  The walk follows its text: two early
    exits, the offset mapping (last lines), then the branches for the kind of the range (`stage2`, the continuation the `do`
    block shares between the arms of the offset mapping; it is `renderVal` of `RoundTripWriter.lean`). -/
theorem renderFeature_oneAttr (K : Consts) (ts : TypeSystem) (cass : List Cas) (hp : Heap) (a : Nat) (isAnn : Bool)
    (f : Feature) : OkP (OneAttr (xmlName f)) (renderFeature K ts cass hp a isAnn f) := by
  unfold renderFeature
  extract_lets name v multi fuel stage2
  clear_value v multi fuel
  have noAttr : ∀ k, OkP (OneAttr (xmlName f)) (Pure.pure (([] : List (String × String)), k)) :=
    fun _ => OkP.pure (Or.inl rfl)
  have oneAttr : ∀ s, OkP (OneAttr (xmlName f)) (Pure.pure ([(name, s)], ([] : List (String × Option String)))) :=
    fun s => OkP.pure (Or.inr ⟨s, rfl⟩)
  have h2 : ∀ w, OkP (OneAttr (xmlName f)) (stage2 w) := by
    intro w
    refine OkP.ite (fun _ => ?_) (fun _ => ?_)
    · split
      · split
        · exact oneAttr _
        · exact oneAttr _
        · exact noAttr _
        · exact noAttr _
        · exact noAttr _
        · exact OkP.throw _
      · exact OkP.throw _
    refine OkP.ite (fun _ => OkP.bind (fun _ _ => OkP.bind (fun _ _ => noAttr _))) (fun _ => ?_)
    refine OkP.ite (fun _ => ?_) (fun _ => ?_)
    · split
      · split
        · exact noAttr _
        · exact noAttr _
        · exact OkP.bind (fun _ _ => oneAttr _)
      · exact OkP.throw _
    refine OkP.ite (fun _ => OkP.bind (fun _ _ => OkP.bind (fun _ _ => oneAttr _))) (fun _ => ?_)
    refine OkP.ite (fun _ => ?_) (fun _ => ?_)
    · split
      · split
        · exact noAttr _
        · exact noAttr _
        · exact OkP.bind (fun _ _ => oneAttr _)
        · exact OkP.throw _
      · exact OkP.throw _
    refine OkP.ite (fun _ => OkP.bind (fun _ _ => OkP.bind (fun _ _ => oneAttr _))) (fun _ => ?_)
    refine OkP.ite (fun _ => ?_) (fun _ => ?_)
    · split
      · split
        · exact oneAttr _
        · exact OkP.throw _
      · exact OkP.bind (fun _ _ => oneAttr _)
      · exact OkP.throw _
    refine OkP.ite (fun _ => ?_) (fun _ => ?_)
    · split <;> exact oneAttr _
    refine OkP.ite (fun _ => ?_) (fun _ => ?_)
    · split
      · exact oneAttr _
      · exact OkP.throw _
    refine OkP.ite (fun _ => OkP.bind (fun _ _ => oneAttr _)) (fun _ => ?_)
    split
    · exact OkP.bind (fun _ _ => oneAttr _)
    · split
      · exact oneAttr _
      · exact OkP.throw _
    · exact OkP.throw _
  refine OkP.ite (fun _ => noAttr _) (fun _ => OkP.ite (fun _ => noAttr _) (fun _ => ?_))
  refine OkP.ite (fun _ => ?_) (fun _ => OkP.bind (fun w _ => h2 w))
  split
  · split
    · split <;> exact OkP.bind (fun w _ => h2 w)
    · exact OkP.bind (fun w _ => h2 w)
  · exact OkP.bind (fun w _ => h2 w)

end Cassis.Xmi

/-! ### the JSON writer: a member named `begin` / `end` is the one member of a feature written under that name -/
namespace Cassis.Json
open Cassis.TS

/-- a feature written under the name `begin` / `end` is none of the two common fields the writers skip -/
theorem name_of_xmlName_offset (f : Feature) (h : xmlName f = "begin" ∨ xmlName f = "end") :
    (f.name == "xmiID" || f.name == "type") = false := by
  cases hb : (f.name == "xmiID" || f.name == "type") with
  | false => rfl
  | true =>
    rw [Bool.or_eq_true, beq_iff_eq, beq_iff_eq] at hb
    unfold xmlName at h
    generalize f.reserved = r at h
    rcases hb with hb | hb <;> rw [hb] at h <;> cases r <;> revert h <;> decide

theorem stage2_int (K : Consts) (ts : TypeSystem) (cass : List Cas) (hp : Heap) (f : Feature) (name : String) (j : Int) :
    (isPrimitive K ts f.range = true ∨ f.range = "uima.cas.Double" ∨ f.range = "uima.cas.Float" →
      stage2 K ts cass hp f name (.int j) = .ok [(name, .int j)]) ∧
    (∀ out, stage2 K ts cass hp f name (.int j) = .ok out → out = [(name, .int j)]) := by
  unfold stage2
  by_cases h1 : (f.range == "uima.cas.Double" || f.range == "uima.cas.Float") = true
  · rw [if_pos h1]
    exact ⟨fun _ => rfl, fun out h => by cases h; rfl⟩
  · rw [if_neg h1]
    by_cases h2 : isPrimitive K ts f.range = true
    · rw [if_pos h2]
      exact ⟨fun _ => rfl, fun out h => by cases h; rfl⟩
    · rw [if_neg h2]
      refine ⟨fun h => ?_, fun out h => by cases h⟩
      rcases h with h | h | h
      · exact absurd h h2
      · exfalso; apply h1; rw [h]; rfl
      · exfalso; apply h1; rw [h]; rfl

theorem prefixed_ne (p n s : String) (c : Char) (hp : p.toList = [c]) (hc : s.toList.head? ≠ some c) : p ++ n ≠ s := by
  intro h
  apply hc
  rw [← h, String.toList_append, hp]
  rfl

theorem stage2_keys (K : Consts) (ts : TypeSystem) (cass : List Cas) (hp : Heap) (f : Feature) (name : String) (v : Val)
    (out : List (String × JV)) (h : stage2 K ts cass hp f name v = .ok out) :
    ∃ k jv, out = [(k, jv)] ∧ (k = name ∨ k = "#" ++ name ∨ k = "@" ++ name) := by
  unfold stage2 at h
  split at h
  · split at h
    · split at h
      · cases h; exact ⟨_, _, rfl, Or.inr (Or.inl rfl)⟩
      · cases h; exact ⟨_, _, rfl, Or.inl rfl⟩
    · cases h; exact ⟨_, _, rfl, Or.inl rfl⟩
    · cases h
  · split at h
    · simp only [bind, Except.bind] at h
      split at h
      · cases h
      · cases h; exact ⟨_, _, rfl, Or.inl rfl⟩
    · split at h
      · cases h; exact ⟨_, _, rfl, Or.inr (Or.inr rfl)⟩
      · split at h
        · cases h; exact ⟨_, _, rfl, Or.inr (Or.inr rfl)⟩
        · cases h
      · cases h

theorem renderFeature_offset_member (K : Consts) (ts : TypeSystem) (cass : List Cas) (hp : Heap) (a : Nat)
    (f : Feature) (out : List (String × JV)) (h : renderFeature K ts cass hp a f = .ok out)
    (m : String × JV) (hm : m ∈ out) (hn : m.1 = "begin" ∨ m.1 = "end") : xmlName f = m.1 ∧ out = [m] := by
  rw [renderFeature_eq] at h
  split at h
  · cases h; cases hm
  · dsimp only at h
    split at h
    · cases h; cases hm
    · rw [xmlName_def] at h
      obtain ⟨v', _, h2⟩ := Det.bind_ok h
      obtain ⟨k, jv, rfl, hk⟩ := stage2_keys K ts cass hp f _ _ _ h2
      have : m = (k, jv) := List.mem_singleton.mp hm
      subst this
      refine ⟨?_, rfl⟩
      rcases hk with hk | hk | hk
      · exact hk.symm
      · exfalso
        dsimp only at hn
        rw [hk] at hn
        rcases hn with hn | hn
        · exact prefixed_ne "#" _ _ '#' (by decide) (by decide) hn
        · exact prefixed_ne "#" _ _ '#' (by decide) (by decide) hn
      · exfalso
        dsimp only at hn
        rw [hk] at hn
        rcases hn with hn | hn
        · exact prefixed_ne "@" _ _ '@' (by decide) (by decide) hn
        · exact prefixed_ne "@" _ _ '@' (by decide) (by decide) hn

end Cassis.Json
