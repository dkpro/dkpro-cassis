/-
Proofs about the lexical layer (`Model/Lex.lean`): `int(str(i)) = i`, `" ".join(toks).split() = toks` for
tokens, `bytearray.fromhex(hex(bs)) = bs`; what `split()` returns are tokens (`splitWs_isTok`); and `str(i)` read back
off the front of a longer text (`showIntL_split`, for the sort keys of `Proofs/ComparableSensAnchorStr.lean`).
-/
import CassisModel.Model.Lex

namespace Cassis.Lex

theorem charDigit_digitChar (d : Nat) (h : d < 10) : charDigit? (digitChar d) = some d := by
  have : ∀ d, d < 10 → charDigit? (digitChar d) = some d := by decide
  exact this d h

theorem digitChar_ne_minus (d : Nat) (h : d < 10) : digitChar d ≠ '-' := by
  have : ∀ d, d < 10 → digitChar d ≠ '-' := by decide
  exact this d h

theorem digitChar_not_ws (d : Nat) (h : d < 10) : isWs (digitChar d) = false := by
  have : ∀ d, d < 10 → isWs (digitChar d) = false := by decide
  exact this d h

/-- value of least-significant-first digits -/
def valRev : List Nat → Nat
  | [] => 0
  | d :: ds => d + 10 * valRev ds

theorem digitsRev_val (fuel n : Nat) (h : n < fuel) : valRev (digitsRev fuel n) = n := by
  induction fuel generalizing n with
  | zero => omega
  | succ f ih =>
    unfold digitsRev
    split
    · simp only [valRev]; omega
    · have : n / 10 < f := by omega
      simp only [valRev, ih _ this]; omega

theorem digitsRev_lt (fuel n : Nat) : ∀ d ∈ digitsRev fuel n, d < 10 := by
  induction fuel generalizing n with
  | zero => intro d hd; unfold digitsRev at hd; cases hd
  | succ f ih =>
    unfold digitsRev
    split
    · intro d hd
      simp only [List.mem_singleton] at hd
      omega
    · intro d hd
      simp only [List.mem_cons] at hd
      rcases hd with h | h
      · omega
      · exact ih _ d h

theorem digitsRev_ne_nil (fuel n : Nat) (h : 0 < fuel) : digitsRev fuel n ≠ [] := by
  cases fuel with
  | zero => omega
  | succ f => unfold digitsRev; split <;> exact List.cons_ne_nil _ _

theorem parseNatAux_map (ds : List Nat) (hd : ∀ d ∈ ds, d < 10) (acc : Nat) :
    parseNatAux (ds.map digitChar) acc = some (ds.foldl (fun a d => a * 10 + d) acc) := by
  induction ds generalizing acc with
  | nil => rfl
  | cons d ds ih =>
    have hd0 : d < 10 := hd d List.mem_cons_self
    simp only [List.map_cons, parseNatAux, charDigit_digitChar d hd0, List.foldl_cons]
    exact ih (fun x hx => hd x (List.mem_cons_of_mem _ hx)) _

theorem foldl_reverse_val (ds : List Nat) :
    ds.reverse.foldl (fun a d => a * 10 + d) 0 = valRev ds := by
  induction ds with
  | nil => rfl
  | cons d ds ih =>
    simp only [List.reverse_cons, List.foldl_append, List.foldl_cons, List.foldl_nil, ih, valRev]
    omega

def digitsOf (n : Nat) : List Nat := (digitsRev (n+1) n).reverse

theorem showNatL_eq (n : Nat) : showNatL n = (digitsOf n).map digitChar := rfl

theorem digitsOf_lt (n : Nat) : ∀ d ∈ digitsOf n, d < 10 := by
  intro d hd
  exact digitsRev_lt _ _ d (List.mem_reverse.mp hd)

theorem digitsOf_ne_nil (n : Nat) : digitsOf n ≠ [] := by
  unfold digitsOf
  intro h
  exact digitsRev_ne_nil (n+1) n (by omega) (List.reverse_eq_nil_iff.mp h)

theorem showNatL_ne_nil (n : Nat) : showNatL n ≠ [] := by
  rw [showNatL_eq]
  intro h
  exact digitsOf_ne_nil n (List.map_eq_nil_iff.mp h)

theorem showNatL_mem (n : Nat) (c : Char) (h : c ∈ showNatL n) : ∃ d, d < 10 ∧ c = digitChar d := by
  rw [showNatL_eq] at h
  obtain ⟨d, hd, rfl⟩ := List.mem_map.mp h
  exact ⟨d, digitsOf_lt n d hd, rfl⟩

theorem parseNatL_showNatL (n : Nat) : parseNatL (showNatL n) = some n := by
  have hne := showNatL_ne_nil n
  unfold parseNatL
  split
  · rename_i h; exact absurd h hne
  · rw [showNatL_eq, parseNatAux_map _ (digitsOf_lt n)]
    unfold digitsOf
    rw [foldl_reverse_val, digitsRev_val _ _ (by omega)]

theorem parseIntL_showNatL (n : Nat) : parseIntL (showNatL n) = some (n : Int) := by
  unfold parseIntL
  split
  · rename_i rest h
    have hm : '-' ∈ showNatL n := by rw [h]; exact List.mem_cons_self
    obtain ⟨d, hd, e⟩ := showNatL_mem n _ hm
    exact absurd e.symm (digitChar_ne_minus d hd)
  · rw [parseNatL_showNatL]; rfl

theorem parseIntL_showIntL (i : Int) : parseIntL (showIntL i) = some i := by
  cases i with
  | ofNat n => exact parseIntL_showNatL n
  | negSucc n =>
    show parseIntL ('-' :: showNatL (n + 1)) = some (Int.negSucc n)
    unfold parseIntL
    simp only [parseNatL_showNatL]
    rfl

theorem parseInt_showInt_aux (i : Int) : parseInt (showInt i) = some i := by
  unfold parseInt showInt
  rw [String.toList_ofList]
  exact parseIntL_showIntL i

theorem showInt_injective {i j : Int} (h : showInt i = showInt j) : i = j := by
  have := parseInt_showInt_aux i
  rw [h, parseInt_showInt_aux] at this
  exact (Option.some.inj this).symm

def IsTok (t : String) : Prop := t.toList ≠ [] ∧ ∀ c ∈ t.toList, isWs c = false

theorem showIntL_ne_nil (i : Int) : showIntL i ≠ [] := by
  cases i with
  | ofNat n => exact showNatL_ne_nil n
  | negSucc n => exact List.cons_ne_nil _ _

theorem showNatL_not_ws (n : Nat) : ∀ c ∈ showNatL n, isWs c = false := by
  intro c hc
  obtain ⟨d, hd, rfl⟩ := showNatL_mem n c hc
  exact digitChar_not_ws d hd

theorem showIntL_not_ws (i : Int) : ∀ c ∈ showIntL i, isWs c = false := by
  cases i with
  | ofNat n => exact showNatL_not_ws n
  | negSucc n =>
    intro c hc
    have hc' : c ∈ '-' :: showNatL (n + 1) := hc
    rcases List.mem_cons.mp hc' with rfl | h
    · decide
    · exact showNatL_not_ws _ c h

theorem showInt_isTok (i : Int) : IsTok (showInt i) := by
  unfold IsTok showInt
  rw [String.toList_ofList]
  exact ⟨showIntL_ne_nil i, showIntL_not_ws i⟩

theorem isWs_space : isWs ' ' = true := by decide

theorem splitWsAux_run (t : List Char) (ht : ∀ c ∈ t, isWs c = false) (rest cur : List Char) :
    splitWsAux (t ++ rest) cur = splitWsAux rest (t.reverse ++ cur) := by
  induction t generalizing cur with
  | nil => rfl
  | cons c t ih =>
    have hc : isWs c = false := ht c List.mem_cons_self
    simp only [List.cons_append, splitWsAux, hc, Bool.false_eq_true, if_false]
    rw [ih (fun x hx => ht x (List.mem_cons_of_mem _ hx))]
    simp only [List.reverse_cons, List.append_assoc, List.singleton_append]

theorem splitWsAux_tok_end (t : List Char) (hne : t ≠ []) (ht : ∀ c ∈ t, isWs c = false) :
    splitWsAux t [] = [t] := by
  have := splitWsAux_run t ht [] []
  rw [List.append_nil, List.append_nil] at this
  rw [this]
  unfold splitWsAux
  have : t.reverse.isEmpty = false := by
    cases h : t.reverse with
    | nil => exact absurd (List.reverse_eq_nil_iff.mp h) hne
    | cons a b => rfl
  simp only [this, Bool.false_eq_true, if_false, List.reverse_reverse]

theorem splitWsAux_tok_sp (t : List Char) (hne : t ≠ []) (ht : ∀ c ∈ t, isWs c = false) (rest : List Char) :
    splitWsAux (t ++ ' ' :: rest) [] = t :: splitWsAux rest [] := by
  rw [splitWsAux_run t ht, List.append_nil]
  have : t.reverse.isEmpty = false := by
    cases h : t.reverse with
    | nil => exact absurd (List.reverse_eq_nil_iff.mp h) hne
    | cons a b => rfl
  simp only [splitWsAux, isWs_space, if_true, this, Bool.false_eq_true, if_false, List.reverse_reverse]

theorem splitWsL_joinSpL (toks : List (List Char))
    (h : ∀ t ∈ toks, t ≠ [] ∧ ∀ c ∈ t, isWs c = false) : splitWsL (joinSpL toks) = toks := by
  unfold splitWsL
  induction toks with
  | nil => rfl
  | cons t ts ih =>
    obtain ⟨hne, hws⟩ := h t List.mem_cons_self
    cases ts with
    | nil =>
      show splitWsAux t [] = [t]
      exact splitWsAux_tok_end t hne hws
    | cons t' ts' =>
      show splitWsAux (t ++ ' ' :: joinSpL (t' :: ts')) [] = t :: t' :: ts'
      rw [splitWsAux_tok_sp t hne hws, ih (fun x hx => h x (List.mem_cons_of_mem _ hx))]

theorem splitWs_joinSp_aux (toks : List String) (h : ∀ t ∈ toks, IsTok t) : splitWs (joinSp toks) = toks := by
  unfold splitWs joinSp
  rw [String.toList_ofList, splitWsL_joinSpL]
  · rw [List.map_map]
    have : (String.ofList ∘ fun (x : String) => x.toList) = id := by
      funext s; exact String.ofList_toList
    rw [this, List.map_id]
  · intro t ht
    obtain ⟨s, hs, rfl⟩ := List.mem_map.mp ht
    exact h s hs

theorem joinSpL_ne_nil (toks : List (List Char)) (hne : toks ≠ []) (h : ∀ t ∈ toks, t ≠ []) :
    joinSpL toks ≠ [] := by
  cases toks with
  | nil => exact absurd rfl hne
  | cons t ts =>
    have ht := h t List.mem_cons_self
    cases ts with
    | nil => exact ht
    | cons t' ts' =>
      show t ++ ' ' :: joinSpL (t' :: ts') ≠ []
      intro e
      exact ht (List.append_eq_nil_iff.mp e).1

theorem joinSp_toList_ne_nil (toks : List String) (hne : toks ≠ []) (h : ∀ t ∈ toks, t.toList ≠ []) :
    (joinSp toks).toList ≠ [] := by
  unfold joinSp
  rw [String.toList_ofList]
  apply joinSpL_ne_nil
  · intro e; exact hne (List.map_eq_nil_iff.mp e)
  · intro t ht
    obtain ⟨s, hs, rfl⟩ := List.mem_map.mp ht
    exact h s hs

theorem hexVal_hexDigit (d : Nat) (h : d < 16) : hexVal? (hexDigit d) = some d := by
  have : ∀ d, d < 16 → hexVal? (hexDigit d) = some d := by decide
  exact this d h

theorem hexDecL_hexEncL (bs : List Nat) (h : ∀ b ∈ bs, b < 256) : hexDecL (hexEncL bs) = some bs := by
  induction bs with
  | nil => rfl
  | cons b bs ih =>
    have hb : b < 256 := h b List.mem_cons_self
    have h1 : b / 16 < 16 := by omega
    have h2 : b % 16 < 16 := by omega
    have h3 : b / 16 * 16 + b % 16 = b := by omega
    simp only [hexEncL, hexDecL, hexVal_hexDigit _ h1, hexVal_hexDigit _ h2,
      ih (fun x hx => h x (List.mem_cons_of_mem _ hx)), h3]

theorem hexEnc_toList_ne_nil (bs : List Nat) (hne : bs ≠ []) : (hexEnc bs).toList ≠ [] := by
  unfold hexEnc
  rw [String.toList_ofList]
  cases bs with
  | nil => exact absurd rfl hne
  | cons b bs => exact List.cons_ne_nil _ _

theorem isEmpty_false_of_toList {s : String} (h : s.toList ≠ []) : s.isEmpty = false := by
  cases hs : s.isEmpty with
  | false => rfl
  | true =>
    rw [String.isEmpty_iff] at hs
    subst hs
    exact absurd rfl h

theorem splitWsAux_tok (cs : List Char) : ∀ (cur : List Char), (∀ c ∈ cur, isWs c = false) →
    ∀ t ∈ splitWsAux cs cur, t ≠ [] ∧ ∀ c ∈ t, isWs c = false := by
  have hrev : ∀ cur : List Char, (∀ c ∈ cur, isWs c = false) → ¬ (cur.isEmpty = true) →
      cur.reverse ≠ [] ∧ ∀ c ∈ cur.reverse, isWs c = false := by
    intro cur hcur hne
    refine ⟨?_, fun c hc => hcur c (List.mem_reverse.mp hc)⟩
    intro e
    apply hne
    rw [List.reverse_eq_nil_iff.mp e]
    rfl
  induction cs with
  | nil =>
    intro cur hcur t ht
    unfold splitWsAux at ht
    split at ht
    · cases ht
    · rename_i hne
      rw [List.mem_singleton] at ht
      subst ht
      exact hrev cur hcur hne
  | cons c cs ih =>
    intro cur hcur t ht
    unfold splitWsAux at ht
    split at ht
    · split at ht
      · exact ih [] (fun c hc => by cases hc) t ht
      · rename_i hne
        rcases List.mem_cons.mp ht with rfl | ht
        · exact hrev cur hcur hne
        · exact ih [] (fun c hc => by cases hc) t ht
    · rename_i hws
      refine ih (c :: cur) ?_ t ht
      intro x hx
      rcases List.mem_cons.mp hx with rfl | hx
      · cases hw : isWs x with
        | false => rfl
        | true => exact absurd hw hws
      · exact hcur x hx

theorem splitWs_isTok (s : String) : ∀ t ∈ splitWs s, IsTok t := by
  intro t ht
  unfold splitWs at ht
  obtain ⟨l, hl, rfl⟩ := List.mem_map.mp ht
  unfold IsTok
  rw [String.toList_ofList]
  exact splitWsAux_tok s.toList [] (fun c hc => by cases hc) l hl

/-! ### reading `str(i)` back off a longer text -/

def IsDig (c : Char) : Prop := ∃ d, d < 10 ∧ c = digitChar d

theorem not_isDig_of_digitChar_ne (c0 : Char) (h0 : ∀ d, d < 10 → digitChar d ≠ c0) : ¬ IsDig c0 := by
  rintro ⟨d, hd, e⟩
  exact h0 d hd e.symm

theorem not_isDig_minus : ¬ IsDig '-' := not_isDig_of_digitChar_ne _ (by decide)

theorem digit_run_split (c0 : Char) (h0 : ¬ IsDig c0) (u v r r' : List Char)
    (hu : ∀ c ∈ u, IsDig c) (hv : ∀ c ∈ v, IsDig c) (h : u ++ c0 :: r = v ++ c0 :: r') : u = v ∧ r = r' := by
  induction u generalizing v with
  | nil =>
    cases v with
    | nil => simpa using h
    | cons b v' =>
      simp only [List.nil_append, List.cons_append, List.cons.injEq] at h
      exact absurd (h.1 ▸ hv b List.mem_cons_self) h0
  | cons a u' ih =>
    cases v with
    | nil =>
      simp only [List.nil_append, List.cons_append, List.cons.injEq] at h
      exact absurd (h.1 ▸ hu a List.mem_cons_self) h0
    | cons b v' =>
      simp only [List.cons_append, List.cons.injEq] at h
      obtain ⟨hab, ht⟩ := h
      obtain ⟨h1, h2⟩ := ih v' (fun c hc => hu c (List.mem_cons_of_mem _ hc))
        (fun c hc => hv c (List.mem_cons_of_mem _ hc)) ht
      exact ⟨by rw [hab, h1], h2⟩

theorem toList_showInt (i : Int) : (showInt i).toList = showIntL i := String.toList_ofList

theorem showIntL_injective {i j : Int} (h : showIntL i = showIntL j) : i = j := by
  have := parseIntL_showIntL i
  rw [h, parseIntL_showIntL] at this
  exact (Option.some.inj this).symm

theorem showNatL_append_ne_minus (n : Nat) (t t' : List Char) : showNatL n ++ t ≠ '-' :: t' := by
  cases hn : showNatL n with
  | nil => exact absurd hn (showNatL_ne_nil n)
  | cons a as =>
    intro h
    have : IsDig a := showNatL_mem n a (by rw [hn]; exact List.mem_cons_self)
    rw [(List.cons.inj h).1] at this
    exact not_isDig_minus this

/-- `str(i)` followed by a non-digit (`-` included: the sign is recognised at the head) can be read back -/
theorem showIntL_split (c0 : Char) (h0 : ¬ IsDig c0) (i j : Int) (r r' : List Char)
    (h : showIntL i ++ c0 :: r = showIntL j ++ c0 :: r') : i = j ∧ r = r' := by
  have key : showIntL i = showIntL j ∧ r = r' := by
    cases i with
    | ofNat n =>
      cases j with
      | ofNat m => exact digit_run_split c0 h0 _ _ r r' (showNatL_mem n) (showNatL_mem m) h
      | negSucc m => exact absurd h (showNatL_append_ne_minus n _ _)
    | negSucc n =>
      cases j with
      | ofNat m => exact absurd h.symm (showNatL_append_ne_minus m _ _)
      | negSucc m =>
        change '-' :: showNatL (n + 1) ++ c0 :: r = '-' :: showNatL (m + 1) ++ c0 :: r' at h
        obtain ⟨h1, h2⟩ := digit_run_split c0 h0 _ _ r r' (showNatL_mem _) (showNatL_mem _) (List.cons.inj h).2
        exact ⟨by change '-' :: showNatL (n + 1) = '-' :: showNatL (m + 1); rw [h1], h2⟩
  exact ⟨showIntL_injective key.1, key.2⟩

end Cassis.Lex
