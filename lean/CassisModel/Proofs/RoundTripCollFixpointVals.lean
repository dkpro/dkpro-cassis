/-
Fixpoint of the XMI round trip with collections (`Properties/C01FixpointColl.lean`; namespace `CFX`, layer X of
`RoundTripColl_NOTES.md`), value level: what the reader stores for the elements of an array (`elemsExp`) and the heads of a
list (`headExp`) is written like the original, and stays inside the fragment.
-/
import CassisModel.Proofs.RoundTripCollDefs
import CassisModel.Proofs.RoundTripCollArr
import CassisModel.Proofs.RoundTripCollElemWriter

namespace Cassis.Xmi.CFX
open Cassis.Traverse

theorem normTxt_idem (e : Option String) : normTxt (normTxt e) = normTxt e := by
  unfold normTxt
  cases h : (e == some "")
  · simp only [h, Bool.false_eq_true, if_false]
  · simp only [if_true]; rfl

theorem kidTxt_strHead (h : Val) : CG1.kidTxt (strHead h) = CG1.kidTxt h := by
  cases h with
  | str s =>
    unfold strHead
    by_cases hs : s = ""
    · subst hs; rfl
    · have : (s == "") = false := by simpa using hs
      simp only [this, Bool.false_eq_true, if_false]
  | _ => rfl

theorem idTok_new {H hpL : Heap} {na : Int → Nat} {b : Nat} {x : Int} (h1 : xidOf H b = some x)
    (h2 : xidOf hpL (na x) = some x) : idTok hpL (na x) = idTok H b := by
  unfold idTok; rw [h1, h2]

theorem refOk_new {hpL : Heap} {a : Nat} {x : Int} (h : xidOf hpL a = some x) (hx : x ≠ 0) : RefOk hpL a := by
  refine ⟨by rw [h]; rfl, ?_⟩
  rw [h]
  intro e
  exact hx (Option.some.inj e)

theorem primElems_exp (H : Heap) (na : Int → Nat) {r : String} {ev : Val} (h : PrimElems r ev) :
    PrimElems r (elemsExp H na ev) := by
  rcases h with rfl | ⟨hr, l, rfl⟩ | ⟨hr, l, rfl, hb⟩ | ⟨hr, l, rfl⟩ | ⟨hr, l, rfl, ht⟩
  · exact .inl rfl
  · cases l with
    | nil => exact .inl rfl
    | cons i l => exact .inr (.inl ⟨hr, _, rfl⟩)
  · cases l with
    | nil => exact .inl rfl
    | cons i l => exact .inr (.inr (.inl ⟨hr, _, rfl, hb⟩))
  · cases l with
    | nil => exact .inl rfl
    | cons i l => exact .inr (.inr (.inr (.inl ⟨hr, _, rfl⟩)))
  · cases l with
    | nil => exact .inl rfl
    | cons i l => exact .inr (.inr (.inr (.inr ⟨hr, _, rfl, ht⟩)))

theorem showPrimArray_exp (H : Heap) (na : Int → Nat) {r : String} {ev : Val} (h : PrimElems r ev) :
    showPrimArray r (elemsExp H na ev) = showPrimArray r ev := by
  rcases h with rfl | ⟨hr, l, rfl⟩ | ⟨hr, l, rfl, hb⟩ | ⟨hr, l, rfl⟩ | ⟨hr, l, rfl, ht⟩
  · rfl
  · cases l with
    | nil => rw [CAR.show_ints_nil]; rfl
    | cons i l => rfl
  · cases l with
    | nil => rw [CAR.show_ints_nil]; rfl
    | cons i l => rfl
  · cases l with
    | nil => rfl
    | cons i l => rfl
  · cases l with
    | nil => rfl
    | cons i l => rfl

theorem strElems_exp (H : Heap) (na : Int → Nat) {ev : Val} (h : StrElems ev) : StrElems (elemsExp H na ev) := by
  rcases h with rfl | ⟨l, rfl⟩
  · exact .inl rfl
  · cases l with
    | nil => exact .inl rfl
    | cons e l => exact .inr ⟨_, rfl⟩

/-- the new elements of an FSArray -/
theorem fs_exp (H : Heap) (na : Int → Nat) (l : List Nat) (h : ∀ b ∈ l, ∃ x, xidOf H b = some x) :
    elemsExp H na (.refs (l.map some)) = .refs ((l.map (fun b => na (CAR.idOf H b))).map some) := by
  show Val.refs ((l.map some).map (fun r => r.bind (fun b => (xidOf H b).map na))) = _
  rw [List.map_map, List.map_map]
  congr 1
  apply List.map_congr_left
  intro b hb
  obtain ⟨x, hx⟩ := h b hb
  simp only [Function.comp, Option.bind_some, CAR.idOf, hx]
  rfl

theorem idOf_eq {H : Heap} {b : Nat} {x : Int} (h : xidOf H b = some x) : CAR.idOf H b = x := by
  unfold CAR.idOf; rw [h]; rfl

/-- the references `l` held by a written structure are collected, and their loaded counterparts carry their ids -/
def Resolved (H hpL : Heap) (L : List (Int × Nat)) (na : Int → Nat) (l : List Nat) : Prop :=
  ∀ b ∈ l, ∃ x, xidOf H b = some x ∧ (x, b) ∈ L ∧ xidOf hpL (na x) = some x ∧ x ≠ 0

/-- the new addresses of `Resolved` references are references the writer accepts, written as the same ids -/
theorem Resolved.new {H hpL : Heap} {L : List (Int × Nat)} {na : Int → Nat} {l : List Nat}
    (h : Resolved H hpL L na l) :
    (∀ b' ∈ l.map (fun b => na (CAR.idOf H b)), RefOk hpL b') ∧
    (l.map (fun b => na (CAR.idOf H b))).map (idTok hpL) = l.map (idTok H) := by
  refine ⟨fun b' hb' => ?_, ?_⟩
  · obtain ⟨b, hb, rfl⟩ := List.mem_map.mp hb'
    obtain ⟨x, h1, _, h3, h4⟩ := h b hb
    rw [idOf_eq h1]
    exact refOk_new h3 h4
  · rw [List.map_map]
    apply List.map_congr_left
    intro b hb
    obtain ⟨x, h1, _, h3, _⟩ := h b hb
    simp only [Function.comp, idOf_eq h1]
    exact idTok_new h1 h3

theorem headExp_prim (H : Heap) (na : Int → Nat) : ∀ (hs : List Val),
    (∀ h ∈ hs, (∃ i : Int, h = .int i) ∨ (∃ t : String, h = .float t)) → hs.map (headExp H na) = hs
  | [], _ => rfl
  | h :: hs, hh => by
    rw [List.map_cons, headExp_prim H na hs (fun y hy => hh y (List.mem_cons_of_mem _ hy))]
    rcases hh h List.mem_cons_self with ⟨i, rfl⟩ | ⟨t, rfl⟩ <;> rfl

theorem strHead_ok (h : Val) (hh : h = .none ∨ ∃ s : String, h = .str s) :
    strHead h = .none ∨ ∃ s : String, strHead h = .str s := by
  rcases hh with rfl | ⟨s, rfl⟩
  · exact .inl rfl
  · unfold strHead
    by_cases hs : s = ""
    · subst hs; exact .inl rfl
    · have : (s == "") = false := by simpa using hs
      simp only [this, Bool.false_eq_true, if_false]
      exact .inr ⟨s, rfl⟩

theorem headExp_refs (H : Heap) (na : Int → Nat) : ∀ (bs : List Nat), (∀ b ∈ bs, ∃ x, xidOf H b = some x) →
    (bs.map Val.ref).map (headExp H na) = (bs.map (fun b => na (CAR.idOf H b))).map Val.ref
  | [], _ => rfl
  | b :: bs, hh => by
    obtain ⟨x, hx⟩ := hh b List.mem_cons_self
    simp only [List.map_cons]
    rw [headExp_refs H na bs (fun y hy => hh y (List.mem_cons_of_mem _ hy))]
    simp only [headExp, hx, CAR.idOf, Option.getD_some]

end Cassis.Xmi.CFX
