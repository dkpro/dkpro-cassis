/-
Non-vacuity of `merge_perm_subtree_compete` (`Properties/C13PermSub.lean`): the Boolean test `subHypsB` of its
hypotheses, proved sound, evaluated by the kernel on `demoSub` (`Proofs/InstancesMerge.lean`: `x.X`, with children `x.Y`, `x.Z` and
grandchild `x.W`, is declared below `uima.tcas.Annotation` and below `x.M2`); the witness of finding M6 violates
`StableCompete` and is order dependent.
-/
import CassisModel.Proofs.MergePermMain
import CassisModel.Proofs.MergePermDemo

namespace Cassis.TS

theorem competingB_iff (decls : List Decl) (n : String) : competingB decls n = true ↔ Competing decls n := by
  unfold competingB Competing
  simp only [List.any_eq_true, Bool.and_eq_true, beq_iff_eq, bne_iff_ne, ne_eq]
  constructor
  · rintro ⟨d, hd, d', hd', ⟨h1, h2⟩, h3⟩
    exact ⟨d, hd, d', hd', h1, h2, h3⟩
  · rintro ⟨d, hd, d', hd', h1, h2, h3⟩
    exact ⟨d, hd, d', hd', ⟨h1, h2⟩, h3⟩

theorem stableCertB_sound (decls : List Decl) (S : List String) (h : stableCertB decls S = true) :
    StableCompete decls := by
  unfold stableCertB at h
  simp only [Bool.and_eq_true, List.all_eq_true, Bool.or_eq_true, Bool.not_eq_true', List.contains_eq_mem,
    decide_eq_true_eq] at h
  obtain ⟨⟨h1, h2⟩, h3⟩ := h
  intro d hd hE a ha hEa
  have hds : d.super ∈ S := by
    rcases h1 d hd with h | h
    · rw [(competingB_iff decls d.name).mpr hE] at h; cases h
    · exact h
  have hcl : ∀ e ∈ decls, e.name ∈ S → e.super ∈ S := by
    intro e he hm
    rcases h2 e he with h | h
    · exact absurd hm (by simpa using h)
    · exact h
  have haS : a ∈ S := declAnc_closed hcl ha hds
  have := h3 a haS
  rw [(competingB_iff decls a).mpr hEa] at this
  cases this

theorem subHypsB_sound (K : Consts) (rank : String → Nat) (S : List String) (decls : List Decl)
    (h : subHypsB K rank S decls = true) :
    ClosedDecls K decls ∧ UserDecls K decls ∧ BaseAgree decls ∧ StableCompete decls ∧ CompeteNonFinal K decls := by
  unfold subHypsB at h
  rw [Bool.and_eq_true, Bool.and_eq_true, Bool.and_eq_true] at h
  obtain ⟨⟨⟨hcu, h4⟩, h5⟩, h6⟩ := h
  obtain ⟨hc, hu⟩ := closedUserB_sound K rank decls hcu
  rw [List.all_eq_true] at h5
  refine ⟨hc, hu, baseAgree_of_all h4, stableCertB_sound decls S h6, ?_⟩
  · intro d hd hE
    have := h5 d hd
    rw [(competingB_iff decls d.name).mpr hE] at this
    simpa using this

theorem demoSub_hyps : subHypsB Gen.consts demoSubRank demoSubCert demoSub = true := mergePermSubtreeDemo_evals.hypsSub
theorem demoSubClash_hyps : subHypsB Gen.consts demoSubRank demoSubCert demoSubClash = true := mergePermSubtreeDemo_evals.hypsClash

/-- `x.X` does have competing supertypes and declared subtypes: `LeafCompete` fails on `demoSub` -/
theorem demoSub_not_leaf : ¬ LeafCompete demoSub := by
  intro h
  have hE : Competing demoSub "x.X" :=
    ⟨{ name := "x.X", super := ANNOTATION, own := [demoFeat "x" "uima.cas.Integer"] }, by simp [demoSub],
     { name := "x.X", super := "x.M2", own := [demoFeat "x2" "uima.cas.Integer"] }, by simp [demoSub],
     rfl, rfl, by simp [ANNOTATION]⟩
  exact h "x.X" hE { name := "x.Z", super := "x.X", own := [demoFeat "z" "uima.cas.Integer"] } (by simp [demoSub]) rfl

/-- the witness `demoM6a ++ demoM6b` of finding M6 is order dependent -/
theorem demoM6_order_dependent :
    (mergeDecls Gen.consts Gen.builtinTS (demoM6a ++ demoM6b)).toOption.isSome = false ∧
    (mergeDecls Gen.consts Gen.builtinTS (demoM6b ++ demoM6a)).toOption.isSome = true := by
  rw [mergeDecls_eq_S, mergeDecls_eq_S]; exact ⟨mergePermSubtreeDemo_evals.failsM6ab, mergePermSubtreeDemo_evals.mergeM6ba⟩

/-- the witness of finding M6 violates `StableCompete`: the declared ancestor `x.C` of the competing supertype `x.B` of `x.A` competes -/
theorem demoM6_not_stable : ¬ StableCompete (demoM6a ++ demoM6b) := by
  intro h
  have hA : Competing (demoM6a ++ demoM6b) "x.A" :=
    ⟨{ name := "x.A", super := "x.B" }, by simp [demoM6a, demoM6b], { name := "x.A", super := ANNOTATION },
      by simp [demoM6a, demoM6b], rfl, rfl, by simp [ANNOTATION]⟩
  have hC : Competing (demoM6a ++ demoM6b) "x.C" :=
    ⟨{ name := "x.C", super := TOP }, by simp [demoM6a, demoM6b], { name := "x.C", super := ANNOTATION },
      by simp [demoM6a, demoM6b], rfl, rfl, by simp [ANNOTATION, TOP]⟩
  have hanc : DeclAnc (demoM6a ++ demoM6b) "x.C" "x.B" :=
    DeclAnc.step "x.C" { name := "x.B", super := "x.C" } (by simp [demoM6a, demoM6b]) (DeclAnc.refl _)
  exact h { name := "x.A", super := "x.B" } (by simp [demoM6a, demoM6b]) hA "x.C" hanc hC

end Cassis.TS
