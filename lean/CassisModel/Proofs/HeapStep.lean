/-
What a step of a reader does to the heap, for both formats: `hp'` is a later heap of `hp` when every object is still
there, related by `R` to what it was, and every object behind the old heap satisfies `N` (`HExt R N`; steps compose by
`HExt.comp`).  `Frame R` is the case without new objects, `XSame` the frame "no id changes"; `FssAll Q` says that the
registered structures sit in the heap with a property `Q`, which an `HExt` transports (`FssAll.of_hExt`).  With them the
facts about ids of the two loaders: `SofaSame` and `VB` for both, `IdLe` for XMI, `NewB` for JSON, and what
`Heap.setSlot`, `convertOffsets` and `Cas.add` keep: the ids under a condition each (`XSame`), type and slot names always
(`KSame`, the frame of `SameKeys`).  The relations of the XMI reader's passes (`XExt`, `PlainKeep`) are instances in
`XmiReader.lean`, that of the JSON reader's (`KExt`) in `JsonIdsPass.lean`.
-/
import CassisModel.Proofs.Heap
import CassisModel.Proofs.Cas
import CassisModel.Proofs.XmiOffsets
import CassisModel.Properties.C08

namespace Cassis.Xmi
open Cassis.TS

/-- `hp'` is a later heap of the reader: every object is still there, related by `R` to what it was; every object behind
    the old heap satisfies `N`. -/
structure HExt (R : Obj → Obj → Prop) (N : Obj → Prop) (hp hp' : Heap) : Prop where
  old : ∀ (a : Nat) (o : Obj), hp[a]? = some o → ∃ o', hp'[a]? = some o' ∧ R o o'
  new : ∀ (a : Nat) (o' : Obj), hp.length ≤ a → hp'[a]? = some o' → N o'

namespace HExt
variable {R R' R'' : Obj → Obj → Prop} {N N' N'' : Obj → Prop} {h1 h2 h3 hp hp' : Heap}

theorem refl (hR : ∀ o, R o o) (hp : Heap) : HExt R N hp hp :=
  ⟨fun _ o h => ⟨o, h, hR o⟩, fun a o' hl h => by rw [List.getElem?_eq_none hl] at h; cases h⟩

/-- two steps: the relations compose, and an object the first step made is carried along by the second; the one place
    where an address is compared with the length of the heap in between -/
theorem comp (x : HExt R N h1 h2) (y : HExt R' N' h2 h3) (hR : ∀ a b c, R a b → R' b c → R'' a c)
    (hN : ∀ b c, N b → R' b c → N'' c) (hN' : ∀ c, N' c → N'' c) : HExt R'' N'' h1 h3 := by
  refine ⟨fun i o1 h => ?_, fun i o3 hl h => ?_⟩
  · obtain ⟨o2, g2, r2⟩ := x.old i o1 h
    obtain ⟨o3, g3, r3⟩ := y.old i o2 g2
    exact ⟨o3, g3, hR _ _ _ r2 r3⟩
  · rcases Nat.lt_or_ge i h2.length with hlt | hge
    · obtain ⟨o3', g3, r3⟩ := y.old i h2[i] (List.getElem?_eq_getElem hlt)
      rw [g3] at h
      cases h
      exact hN _ _ (x.new i _ hl (List.getElem?_eq_getElem hlt)) r3
    · exact hN' _ (y.new i o3 hge h)

theorem trans (x : HExt R N h1 h2) (y : HExt R N h2 h3) (hR : ∀ a b c, R a b → R b c → R a c)
    (hN : ∀ b c, N b → R b c → N c) : HExt R N h1 h3 :=
  x.comp y hR hN fun _ h => h

theorem mono (x : HExt R N hp hp') (hR : ∀ a b, R a b → R' a b) (hN : ∀ c, N c → N' c) : HExt R' N' hp hp' :=
  ⟨fun a o h => let ⟨o', g, r⟩ := x.old a o h; ⟨o', g, hR _ _ r⟩, fun a o' hl h => hN _ (x.new a o' hl h)⟩

theorem append (hR : ∀ o, R o o) {t : List Obj} (ht : ∀ o ∈ t, N o) : HExt R N hp (hp ++ t) :=
  ⟨fun a o h => ⟨o, by rw [List.getElem?_append_left (List.getElem?_eq_some_iff.mp h).1]; exact h, hR o⟩,
   fun a o' hl h => by rw [List.getElem?_append_right hl] at h; exact ht o' (List.mem_of_getElem? h)⟩

/-- a heap of the same length that differs at one address -/
theorem at' (hR : ∀ o, R o o) {a : Nat} {o o' : Obj} (hlen : hp'.length = hp.length)
    (hoth : ∀ b, b ≠ a → hp'[b]? = hp[b]?) (ho : hp[a]? = some o) (ho' : hp'[a]? = some o') (h : R o o') :
    HExt R N hp hp' := by
  refine ⟨fun b ob hob => ?_, fun b ob hl hb => ?_⟩
  · by_cases hb : b = a
    · subst hb; rw [ho] at hob; cases hob; exact ⟨o', ho', h⟩
    · exact ⟨ob, by rw [hoth b hb]; exact hob, hR ob⟩
  · have := (List.getElem?_eq_some_iff.mp hb).1
    omega

theorem set (hR : ∀ o, R o o) {a : Nat} {o o1 : Obj} (ho : hp[a]? = some o) (h : R o o1) :
    HExt R N hp (hp.set a o1) :=
  at' hR List.length_set (fun _ hb => List.getElem?_set_ne (fun e => hb e.symm)) ho
    (List.getElem?_set_self (List.getElem?_eq_some_iff.mp ho).1) h

theorem length_eq (x : HExt R (fun _ => False) hp hp') : hp'.length = hp.length := by
  rcases Nat.lt_trichotomy hp'.length hp.length with h | h | h
  · obtain ⟨o', g, _⟩ := x.old hp'.length _ (List.getElem?_eq_getElem h)
    rw [List.getElem?_eq_none (Nat.le_refl _)] at g
    cases g
  · exact h
  · exact (x.new hp.length _ (Nat.le_refl _) (List.getElem?_eq_getElem h)).elim

theorem back (x : HExt R (fun _ => False) hp hp') {a : Nat} {o' : Obj} (ho' : hp'[a]? = some o') :
    ∃ o, hp[a]? = some o ∧ R o o' := by
  rcases Nat.lt_or_ge a hp.length with hlt | hge
  · obtain ⟨o2, g, r⟩ := x.old a hp[a] (List.getElem?_eq_getElem hlt)
    rw [ho'] at g
    cases g
    exact ⟨hp[a], List.getElem?_eq_getElem hlt, r⟩
  · exact (x.new a o' hge ho').elim

end HExt

def NoId (o : Obj) : Prop := o.xid = none

theorem snoc_old {α} {X : List α} {o x : α} {a : Nat} (h : X[a]? = some x) : (X ++ [o])[a]? = some x := by
  rw [List.getElem?_append_left (List.getElem?_eq_some_iff.mp h).1]
  exact h

/-- every registered structure sits in the heap and has the property `Q` (of its id and the object) -/
def FssAll (Q : Int → Obj → Prop) (fss : List (Int × Nat)) (hp : Heap) : Prop :=
  ∀ q ∈ fss, ∃ o : Obj, hp[q.2]? = some o ∧ Q q.1 o

theorem FssAll.of_hExt {Q : Int → Obj → Prop} {fss : List (Int × Nat)} {hp hp' : Heap} {R : Obj → Obj → Prop}
    {N : Obj → Prop} (h : FssAll Q fss hp) (t : HExt R N hp hp') (hQ : ∀ i o o', R o o' → Q i o → Q i o') :
    FssAll Q fss hp' := by
  intro q hq
  obtain ⟨o, ho, hc⟩ := h q hq
  obtain ⟨o', ho', r⟩ := t.old q.2 o ho
  exact ⟨o', ho', hQ _ _ _ r hc⟩

abbrev Frame (R : Obj → Obj → Prop) : Heap → Heap → Prop := HExt R fun _ => False

theorem Frame.trans {R : Obj → Obj → Prop} (hR : ∀ a b c, R a b → R b c → R a c) {h1 h2 h3 : Heap}
    (x : Frame R h1 h2) (y : Frame R h2 h3) : Frame R h1 h3 :=
  HExt.trans x y hR fun _ _ h _ => h

/-- every registered structure sits in the heap under its id -/
def FssIds (fss : List (Int × Nat)) (hp : Heap) : Prop := FssAll (fun i o => o.xid = some i) fss hp

/-- every object from address `n` on has no id or a bounded one -/
def NewB (n : Nat) (hp : Heap) (m : Int) : Prop :=
  ∀ (a : Nat) (o : Obj) (x : Int), n ≤ a → hp[a]? = some o → o.xid = some x → x ≤ m

def IdLe (m : Int) (o : Obj) : Prop := ∀ x, o.xid = some x → x ≤ m

/-! ### no object is created, no id changes -/

def XSame : Heap → Heap → Prop := Frame fun o o' => o'.xid = o.xid

theorem XSame.refl (hp : Heap) : XSame hp hp := HExt.refl (R := fun o o' => o'.xid = o.xid) (fun _ => rfl) hp

theorem XSame.trans {h1 h2 h3 : Heap} (a : XSame h1 h2) (b : XSame h2 h3) : XSame h1 h3 :=
  Frame.trans (fun _ _ _ x2 x3 => x3.trans x2) a b

theorem XSame.back {hp hp' : Heap} (h : XSame hp hp') {a : Nat} {o' : Obj} (ho' : hp'[a]? = some o') :
    ∃ o, hp[a]? = some o ∧ o.xid = o'.xid :=
  let ⟨o, ho, hx⟩ := HExt.back h ho'
  ⟨o, ho, hx.symm⟩

theorem set_xsame {hp : Heap} {a : Nat} {o o1 : Obj} (ho : hp[a]? = some o) (hx : o1.xid = o.xid) :
    XSame hp (hp.set a o1) :=
  HExt.set (R := fun o o' => o'.xid = o.xid) (fun _ => rfl) ho hx

theorem FssIds.same {fss : List (Int × Nat)} {hp hp' : Heap} (h : FssIds fss hp) (t : XSame hp hp') :
    FssIds fss hp' :=
  h.of_hExt t fun _ _ _ e hc => e.trans hc

theorem setSlot_xsame {hp hp' : Heap} {a : Nat} {n : String} {v w : Val} (hs : slot hp a n = some w)
    (h : Heap.setSlot hp a n v = .ok hp') : XSame hp hp' := by
  obtain ⟨o, ho, hc⟩ := Heap.setSlot_ok_cases hp hp' a n v h
  rcases hc with ⟨w', _, rfl⟩ | ⟨hnone, _, _⟩
  · exact set_xsame ho rfl
  · rw [slot_of ho n, hnone] at hs
    cases hs

/-- setting a slot other than `xmiID` never touches an id (the `xmiID` fallback of `setSlot` is out of reach) -/
theorem setSlot_xsame_of_ne {hp hp' : Heap} {a : Nat} {n : String} {v : Val} (hn : n ≠ "xmiID")
    (h : Heap.setSlot hp a n v = .ok hp') : XSame hp hp' := by
  obtain ⟨o, ho, hc⟩ := Heap.setSlot_ok_cases hp hp' a n v h
  rcases hc with ⟨w', _, rfl⟩ | ⟨_, hx, _⟩
  · exact set_xsame ho rfl
  · exact absurd hx hn

theorem convertOffsets_xsame {conv : Offsets.Conv} {hp hp' : Heap} {a : Nat}
    (h : convertOffsets conv hp a = .ok hp') : XSame hp hp' :=
  convertOffsets_inv (XSame hp) (fun _ _ _ _ _ hs h k => k.trans (setSlot_xsame hs h)) (.refl _) h

/-- the sofa of every view is kept -/
def SofaSame (c c' : Cas) : Prop :=
  ∀ (w : String) (v : View), Cas.getViewRec c w = some v → ∃ v', Cas.getViewRec c' w = some v' ∧ v'.sofa = v.sofa

theorem SofaSame.refl (c : Cas) : SofaSame c c := fun _ v h => ⟨v, h, rfl⟩

theorem SofaSame.trans {c1 c2 c3 : Cas} (a : SofaSame c1 c2) (b : SofaSame c2 c3) : SofaSame c1 c3 := by
  intro w v h
  obtain ⟨v2, h2, e2⟩ := a w v h
  obtain ⟨v3, h3, e3⟩ := b w v2 h2
  exact ⟨v3, h3, e3.trans e2⟩

theorem add_xsame {ts : TypeSystem} {ci : Nat} {c c' : Cas} {hp hp' : Heap} {h : Handle} {a : Nat} {o : Obj} {x : Int}
    (ho : hp[a]? = some o) (hx : o.xid = some x) (hadd : Cas.add ts ci c hp h a true = .ok (c', hp')) :
    XSame hp hp' ∧ SofaSame c c' := by
  constructor
  · obtain ⟨o1, v, x1, c1, e, ho1, _, hv, hcase, he, rfl, rfl⟩ := Cas.add_cases hadd
    rw [ho] at ho1
    cases ho1
    rcases hcase with ⟨_, hx1, _⟩ | ⟨hk | hn, _, _⟩
    · rw [hx] at hx1
      cases hx1
      exact set_xsame ho (by show some x = o.xid; rw [hx])
    · cases hk
    · rw [hx] at hn; cases hn
  · obtain ⟨h1, ⟨v, v', _, _, hv, hv', _, hs, _, _⟩, _⟩ := Cas.add_frame ts ci c c' hp hp' h a true hadd
    intro w vw hw
    by_cases hwv : w = h.view
    · subst hwv
      rw [hv] at hw
      cases hw
      exact ⟨v', hv', hs⟩
    · rw [← h1 w hwv] at hw
      exact ⟨vw, hw, rfl⟩

/-- the view named `n` exists and its sofa id / number are bounded -/
def VB (M N : Int) (c : Cas) (n : String) : Prop :=
  ∃ v : View, Cas.getViewRec c n = some v ∧ v.sofa.xid ≤ M ∧ v.sofa.sofaNum ≤ N

theorem VB.same {M N : Int} {c c' : Cas} {n : String} (h : VB M N c n) (s : SofaSame c c') : VB M N c' n := by
  obtain ⟨v, hv, h1, h2⟩ := h
  obtain ⟨v', hv', e⟩ := s n v hv
  exact ⟨v', hv', by rw [e]; exact h1, by rw [e]; exact h2⟩

/-! ### no object is created, every object keeps its type and its slot names in their order -/

def SameKeys (o o' : Obj) : Prop := o'.ty = o.ty ∧ o'.slots.map (·.1) = o.slots.map (·.1)

theorem SameKeys.refl (o : Obj) : SameKeys o o := ⟨rfl, rfl⟩

theorem SameKeys.trans {a b c : Obj} (x : SameKeys a b) (y : SameKeys b c) : SameKeys a c :=
  ⟨y.1.trans x.1, y.2.trans x.2⟩

/-- what `Heap.setSlot`, `convertOffsets` and `Cas.add` do to a heap, whatever the slot and the value: only `construct`
    decides type and slot names -/
def KSame : Heap → Heap → Prop := Frame SameKeys

theorem KSame.refl (hp : Heap) : KSame hp hp := HExt.refl SameKeys.refl hp

theorem KSame.trans {h1 h2 h3 : Heap} (a : KSame h1 h2) (b : KSame h2 h3) : KSame h1 h3 :=
  Frame.trans (R := SameKeys) (fun _ _ _ => SameKeys.trans) a b

theorem setSlot_ksame {hp hp' : Heap} {a : Nat} {n : String} {v : Val} (h : Heap.setSlot hp a n v = .ok hp') :
    KSame hp hp' := by
  obtain ⟨o, ho, hc⟩ := Heap.setSlot_ok_cases hp hp' a n v h
  rcases hc with ⟨w, hw, rfl⟩ | ⟨_, _, x, rfl⟩
  · exact HExt.set SameKeys.refl ho ⟨rfl, alistSet_keys_of_mem _ _ _ (alistGet?_mem_keys _ _ _ hw)⟩
  · exact HExt.set SameKeys.refl ho ⟨rfl, rfl⟩

theorem convertOffsets_ksame {conv : Offsets.Conv} {hp hp' : Heap} {a : Nat}
    (h : convertOffsets conv hp a = .ok hp') : KSame hp hp' :=
  convertOffsets_inv (KSame hp) (fun _ _ _ _ _ _ h k => k.trans (setSlot_ksame h)) (.refl _) h

theorem addObj_sameKeys (cas : Nat) (h : Handle) (o : Obj) (x : Int) : SameKeys o (Cas.addObj cas h o x) := by
  refine ⟨rfl, ?_⟩
  unfold Cas.addObj
  dsimp only
  split
  · rename_i hs
    obtain ⟨w, hw⟩ := Option.isSome_iff_exists.mp hs
    exact alistSet_keys_of_mem _ _ _ (alistGet?_mem_keys _ _ _ hw)
  · rfl

theorem add_ksame {ts : TypeSystem} {ci : Nat} {c : Cas} {hp : Heap} {hd : Handle} {a : Nat} {keep : Bool} {r : Cas × Heap}
    (hr : Cas.add ts ci c hp hd a keep = .ok r) : KSame hp r.2 := by
  obtain ⟨o, _, x, _, _, ho, _, _, _, _, _, e⟩ := Cas.add_cases (c' := r.1) (hp' := r.2) hr
  rw [e]
  exact HExt.set SameKeys.refl ho (addObj_sameKeys ci hd o x)

end Cassis.Xmi
