/-
The anchor map of `_generate_anchors`, characterised: every collected structure is mapped (under its xmi:id) to its
anchor text plus a counter, and two structures with the same anchor text get different counters.
-/
import CassisModel.Proofs.ComparableSensAnchorStr
import CassisModel.Proofs.ComparableTable

namespace Cassis.Comparable
open Cassis.TS Cassis.Traverse

/-- how many structures got the anchor text `s` so far -/
def cnt (st : AnchorSt) (s : String) : Nat := (alistGet? st.counts s).getD 0

theorem anchorStep_ok {cass : List Cas} {hp : Heap} {indexed : List Nat} {o : Opts} {st st' : AnchorSt} {a : Nat}
    (h : anchorStep cass hp indexed o st a = .ok st') :
    ∃ s, anchorOf cass hp indexed o a = .ok s ∧
      st' = { counts := alistSet st.counts s (cnt st s + 1),
              byId := setById st.byId (xidOf hp a) (withCount s (cnt st s)) } := by
  unfold anchorStep at h
  cases hs : anchorOf cass hp indexed o a with
  | error e => rw [hs] at h; cases h
  | ok s =>
    rw [hs] at h
    refine ⟨s, rfl, ?_⟩
    have h' : Except.ok _ = Except.ok st' := h
    cases h'
    rfl

theorem cnt_set_same (st : AnchorSt) (s : String) (n : Nat) (b : List (Option Int × String)) :
    cnt { counts := alistSet st.counts s n, byId := b } s = n := by
  unfold cnt
  simp only [alistGet?_set_same, Option.getD_some]

theorem cnt_set_other (st : AnchorSt) (s s2 : String) (n : Nat) (b : List (Option Int × String)) (h : s2 ≠ s) :
    cnt { counts := alistSet st.counts s n, byId := b } s2 = cnt st s2 := by
  unfold cnt
  simp only [alistGet?_set_other _ _ _ _ h]

/-- the invariant of the loop over the structures processed so far -/
structure AInv (cass : List Cas) (hp : Heap) (indexed : List Nat) (o : Opts) (P : List Nat) (st : AnchorSt) : Prop where
  has : ∀ a ∈ P, ∃ s n, anchorOf cass hp indexed o a = .ok s ∧
    getById st.byId (xidOf hp a) = some (withCount s n) ∧ n < cnt st s
  ne : ∀ a ∈ P, ∀ b ∈ P, a ≠ b → anchorOf cass hp indexed o a = anchorOf cass hp indexed o b →
    getById st.byId (xidOf hp a) ≠ getById st.byId (xidOf hp b)

theorem AInv.mono {cass : List Cas} {hp : Heap} {indexed : List Nat} {o : Opts} {P P' : List Nat} {st : AnchorSt}
    (h : AInv cass hp indexed o P st) (hsub : ∀ a ∈ P', a ∈ P) : AInv cass hp indexed o P' st :=
  ⟨fun a ha => h.has a (hsub a ha), fun a ha b hb => h.ne a (hsub a ha) b (hsub b hb)⟩

theorem AInv.nil (cass : List Cas) (hp : Heap) (indexed : List Nat) (o : Opts) (st : AnchorSt) :
    AInv cass hp indexed o [] st :=
  ⟨fun a ha => (by cases ha), fun a ha => (by cases ha)⟩

theorem AInv.step {cass : List Cas} {hp : Heap} {indexed : List Nat} {o : Opts} {addrs P : List Nat}
    {st st' : AnchorSt} {c : Nat} (hx : XidInj hp addrs) (hP : ∀ a ∈ P, a ∈ addrs) (hc : c ∈ addrs)
    (inv : AInv cass hp indexed o P st) (h : anchorStep cass hp indexed o st c = .ok st') :
    AInv cass hp indexed o (c :: P) st' := by
  obtain ⟨sc, hsc, rfl⟩ := anchorStep_ok h
  have old : ∀ a ∈ P, a ≠ c → ∃ s n, anchorOf cass hp indexed o a = .ok s ∧
      getById (setById st.byId (xidOf hp c) (withCount sc (cnt st sc))) (xidOf hp a) = some (withCount s n) ∧
      n < cnt st s := by
    intro a ha hac
    obtain ⟨s, n, h1, h2, h3⟩ := inv.has a ha
    refine ⟨s, n, h1, ?_, h3⟩
    rw [getById_setById_other _ _ _ _ (fun e => hac (hx a (hP a ha) c hc e))]
    exact h2
  have new : getById (setById st.byId (xidOf hp c) (withCount sc (cnt st sc))) (xidOf hp c) =
      some (withCount sc (cnt st sc)) := getById_setById_same _ _ _
  have clash : ∀ a ∈ P, a ≠ c → anchorOf cass hp indexed o a = anchorOf cass hp indexed o c →
      getById (setById st.byId (xidOf hp c) (withCount sc (cnt st sc))) (xidOf hp a) ≠
      getById (setById st.byId (xidOf hp c) (withCount sc (cnt st sc))) (xidOf hp c) := by
    intro a ha hac he
    obtain ⟨s, n, h1, h2, h3⟩ := old a ha hac
    rw [h2, new]
    intro heq
    have hss : s = sc := by
      rw [h1, hsc] at he
      exact Except.ok.inj he
    subst hss
    have := withCount_inj_right s n (cnt st s) (Option.some.inj heq)
    omega
  constructor
  · intro a ha
    by_cases hac : a = c
    · subst hac
      refine ⟨sc, cnt st sc, hsc, new, ?_⟩
      rw [cnt_set_same]
      omega
    · have haP : a ∈ P := by
        rcases List.mem_cons.1 ha with h | h
        · exact absurd h hac
        · exact h
      obtain ⟨s, n, h1, h2, h3⟩ := old a haP hac
      refine ⟨s, n, h1, h2, ?_⟩
      by_cases hs : s = sc
      · subst hs
        rw [cnt_set_same]
        omega
      · rw [cnt_set_other _ _ _ _ _ hs]
        exact h3
  · intro a ha b hb hab he
    have memP : ∀ x, x ∈ c :: P → x ≠ c → x ∈ P := by
      intro x hx' hxc
      rcases List.mem_cons.1 hx' with h | h
      · exact absurd h hxc
      · exact h
    by_cases hac : a = c
    · subst hac
      have hbc : b ≠ a := fun e => hab e.symm
      exact fun e => clash b (memP b hb hbc) hbc he.symm e.symm
    · by_cases hbc : b = c
      · subst hbc
        exact clash a (memP a ha hac) hac he
      · have haP := memP a ha hac
        have hbP := memP b hb hbc
        show getById (setById _ _ _) _ ≠ getById (setById _ _ _) _
        rw [getById_setById_other _ _ _ _ (fun e => hac (hx a (hP a haP) c hc e)),
          getById_setById_other _ _ _ _ (fun e => hbc (hx b (hP b hbP) c hc e))]
        exact inv.ne a haP b hbP hab he

theorem AInv.list {cass : List Cas} {hp : Heap} {indexed : List Nat} {o : Opts} {addrs : List Nat}
    (hx : XidInj hp addrs) (l : List Nat) (hl : ∀ a ∈ l, a ∈ addrs) (P : List Nat) (st st' : AnchorSt)
    (hP : ∀ a ∈ P, a ∈ addrs) (inv : AInv cass hp indexed o P st)
    (h : anchorsOfList cass hp indexed o l st = .ok st') : AInv cass hp indexed o (l ++ P) st' := by
  induction l generalizing P st with
  | nil =>
    simp only [anchorsOfList] at h
    cases h
    exact inv
  | cons c cs ih =>
    rw [anchorsOfList] at h
    split at h
    · cases h
    · rename_i st1 h1
      have hc : c ∈ addrs := hl c List.mem_cons_self
      have inv1 := AInv.step hx hP hc inv h1
      have := ih (fun a ha => hl a (List.mem_cons_of_mem _ ha)) (c :: P) st1
        (fun a ha => by
          rcases List.mem_cons.1 ha with h | h
          · subst h; exact hc
          · exact hP a h) inv1 h
      refine this.mono ?_
      intro a ha
      simp only [List.cons_append, List.mem_cons, List.mem_append] at ha ⊢
      rcases ha with h | h | h
      · exact Or.inr (Or.inl h)
      · exact Or.inl h
      · exact Or.inr (Or.inr h)

theorem AInv.gen {ts : TypeSystem} {cass : List Cas} {hp : Heap} {indexed : List Nat} {o : Opts} {addrs : List Nat}
    (hx : XidInj hp addrs) (sorted L : List (String × List Nat)) (hL : ∀ p ∈ L, ∀ a ∈ p.2, a ∈ addrs)
    (P : List Nat) (st st' : AnchorSt) (hP : ∀ a ∈ P, a ∈ addrs) (inv : AInv cass hp indexed o P st)
    (h : genAnchors ts cass hp indexed o sorted L st = .ok st') :
    AInv cass hp indexed o (L.flatMap (·.2) ++ P) st' := by
  induction L generalizing P st with
  | nil =>
    simp only [genAnchors] at h
    cases h
    exact inv
  | cons p rest ih =>
    obtain ⟨t, fss⟩ := p
    rw [genAnchors] at h
    split at h
    · cases h
    · split at h
      · cases h
      · rename_i st1 h1
        have hfss : ∀ a ∈ fss, a ∈ addrs := hL (t, fss) List.mem_cons_self
        have inv1 := AInv.list hx fss hfss P st st1 hP inv h1
        have := ih (fun q hq => hL q (List.mem_cons_of_mem _ hq)) (fss ++ P) st1
          (fun a ha => by
            rcases List.mem_append.1 ha with h | h
            · exact hfss a h
            · exact hP a h) inv1 h
        refine this.mono ?_
        intro a ha
        simp only [List.flatMap_cons, List.mem_append] at ha ⊢
        rcases ha with (h | h) | h
        · exact Or.inr (Or.inl h)
        · exact Or.inl h
        · exact Or.inr (Or.inr h)

theorem genAnchors_spec {ts : TypeSystem} {cass : List Cas} {hp : Heap} {indexed : List Nat} {o : Opts}
    {addrs : List Nat} (lt : Nat → Nat → Bool) (hx : XidInj hp addrs) (st : AnchorSt)
    (h : genAnchors ts cass hp indexed o (sortedOf lt hp addrs) (sortedOf lt hp addrs) {} = .ok st) :
    AInv cass hp indexed o addrs st := by
  have := AInv.gen hx (sortedOf lt hp addrs) (sortedOf lt hp addrs)
    (fun p hp' a ha => (mem_sortedOf lt hp addrs a).1 (List.mem_flatMap.2 ⟨p, hp', ha⟩))
    [] {} st (fun a ha => by cases ha) (AInv.nil _ _ _ _ _) h
  refine this.mono ?_
  intro a ha
  rw [List.append_nil]
  exact (mem_sortedOf lt hp addrs a).2 ha

theorem anchors_distinct {cass : List Cas} {hp : Heap} {indexed : List Nat} {o : Opts} {addrs : List Nat}
    {st : AnchorSt} (inv : AInv cass hp indexed o addrs st) (x y : Nat) (hx : x ∈ addrs) (hy : y ∈ addrs)
    (hxy : x ≠ y) (px : AnchorPlain cass hp indexed o x) (py : AnchorPlain cass hp indexed o y) :
    ∃ s s', getById st.byId (xidOf hp x) = some s ∧ getById st.byId (xidOf hp y) = some s' ∧ s ≠ s' := by
  obtain ⟨s, n, h1, h2, _⟩ := inv.has x hx
  obtain ⟨s', m, h1', h2', _⟩ := inv.has y hy
  refine ⟨_, _, h2, h2', ?_⟩
  intro heq
  obtain ⟨hs, _⟩ := withCount_inj s s' n m (px s h1) (py s' h1') heq
  subst hs
  have := inv.ne x hx y hy hxy (by rw [h1, h1'])
  rw [h2, h2', heq] at this
  exact this rfl

end Cassis.Comparable
