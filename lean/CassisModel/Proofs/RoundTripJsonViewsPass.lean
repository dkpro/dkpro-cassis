/-
JSON round trip: the views pass of the reader (`viewsPass` / `addJMembers`, the folds of `viewStep` / `memberStep`) over the
written view records in any order.
-/
import CassisModel.Proofs.RoundTripJsonDefs
import CassisModel.Proofs.JsonReader

namespace Cassis.Json
open Cassis.TS Cassis.Traverse Cassis.Xmi

namespace ViewsPass
open Cassis.Xmi.RTB

/-- every recorded first-seen value is the `sofa` slot of the final heap -/
def MSInv (HF : Heap) (na : Int → Nat) (ms : List (Int × Option Val)) : Prop :=
  ∀ r ∈ ms, r.2 = Traverse.slot HF (na r.1) "sofa"

theorem jOwnOf_fst {HF : Heap} {na : Int → Nat} {m : Int} {v : VState} (hh : v.heap = HF)
    (hms : MSInv HF na v.memberSofas) : (jOwnOf m (na m) v).1 = Traverse.slot HF (na m) "sofa" := by
  unfold jOwnOf
  cases hf : v.memberSofas.find? (fun q => q.1 == m) with
  | some r =>
    dsimp only
    have hr := List.mem_of_find?_eq_some hf
    have hr1 : r.1 = m := by simpa using List.find?_some hf
    rw [hms r hr, hr1]
  | none =>
    dsimp only
    rw [hh]

theorem jOwnOf_snd {HF : Heap} {na : Int → Nat} {m : Int} {v : VState} (hh : v.heap = HF)
    (hms : MSInv HF na v.memberSofas) : MSInv HF na (jOwnOf m (na m) v).2 := by
  unfold jOwnOf
  cases hf : v.memberSofas.find? (fun q => q.1 == m) with
  | some r => exact hms
  | none =>
    dsimp only
    intro r hr
    rcases List.mem_append.mp hr with hr | hr
    · exact hms r hr
    · rw [List.mem_singleton] at hr
      subst hr
      rw [hh]

/-- `Cas.add` followed by the write-back leaves the heap as it was -/
theorem jWriteBack_restores (ci' : Nat) (h : Handle) {HF : Heap} {a : Nat} {o' : Obj} {m : Int}
    (ho' : HF[a]? = some o') (hx : o'.xid = some m) (hw : alistGet? o'.slots "sofa" ≠ some .none) :
    jWriteBack (Traverse.slot HF a "sofa") (HF.set a (Cas.addObj ci' h o' m)) a = .ok HF := by
  have hslot : Traverse.slot HF a "sofa" = alistGet? o'.slots "sofa" := by
    show (HF[a]?).bind _ = _
    rw [ho']; rfl
  rw [hslot]
  have hobj : ({ o' with xid := some m } : Obj) = o' := by
    cases o'
    simp only at hx
    subst hx
    rfl
  unfold jWriteBack
  cases hs : alistGet? o'.slots "sofa" with
  | none =>
    dsimp only
    unfold Cas.addObj
    rw [hs]
    simp only [Option.isSome_none, Bool.false_eq_true, if_false]
    rw [hobj, Det.set_self ho']
  | some w =>
    dsimp only
    have hwn : (w != Val.none) = true := by
      have : w ≠ .none := fun e => hw (by rw [hs, e])
      simpa using this
    rw [if_pos hwn]
    have h1 : (HF.set a (Cas.addObj ci' h o' m))[a]? = some (Cas.addObj ci' h o' m) := Det.set_get_self ho'
    have h2 : alistGet? (Cas.addObj ci' h o' m).slots "sofa" = some (.sofa ci' h.view) := by
      unfold Cas.addObj
      dsimp only
      rw [hs]
      simp only [Option.isSome_some, if_true]
      exact alistGet?_set_same _ _ _
    rw [Heap.setSlot_existing w h1 h2, List.set_set]
    have h3 : ({ Cas.addObj ci' h o' m with slots := alistSet (Cas.addObj ci' h o' m).slots "sofa" w } : Obj) = o' := by
      unfold Cas.addObj
      dsimp only
      rw [hs]
      simp only [Option.isSome_some, if_true]
      rw [alistSet_alistSet_get _ _ _ _ hs]
      exact hobj
    rw [h3, Det.set_self ho']

/-- one view of the reader during the views pass: still without members while its entry is to come (`todo` holds the
    names of the entries to come), related to the written view afterwards -/
def VSt (H : Heap) (na : Int → Nat) (todo : List String) (nv w : String × View) : Prop :=
  w.1 = nv.1 ∧ (nv.1 ∈ todo → w.2 = ({ sofa := nv.2.sofa, idx := [] } : View)) ∧
  (nv.1 ∉ todo → ViewRelJ H na nv w)

/-- what the views pass needs to know of the member `m` of the view `nv`: it is the id of an indexed structure `o`; its
    counterpart `o'` in the final heap `HF` sits at `na m` and is registered there, has the same type, the id `m`, a
    `sofa` slot that is not `None`, and the same sort key -/
def MemOk (ts : TypeSystem) (H HF : Heap) (na : Int → Nat) (fss : List (Int × Val)) (nv : String × View) (m : Int) :
    Prop :=
  ∃ e ∈ Index.all nv.2.idx, ∃ (o o' : Obj), H[e.oid]? = some o ∧ HF[na m]? = some o' ∧
    lookup fss m = some (.ref (na m)) ∧ o'.ty = o.ty ∧ o'.xid = some m ∧ containsType ts o.ty = true ∧
    alistGet? o'.slots "sofa" ≠ some .none ∧
    ∀ k, Cas.entryOf o e.oid = .ok k → Cas.entryOf o' (na m) = .ok { k with oid := na m }

section
variable {ts : TypeSystem} {c : Cas} {H HF : Heap} {na : Int → Nat} {ci' : Nat} {fss : List (Int × Val)}

theorem member_step (hmok : MembersOk c H) {nv : String × View} (hnv : nv ∈ c.views) {m : Int}
    (hm : MemOk ts H HF na fss nv m) (v : VState) (hh : v.heap = HF)
    (hms : MSInv HF na v.memberSofas) {pre post : List (String × View)} {cur : View}
    (hviews : v.cas.views = pre ++ (nv.1, cur) :: post) (hpre : nv.1 ∉ pre.map (·.1))
    (hidx : IdxFrom H nv cur.idx) :
    ∃ (v' : VState) (cur' : View),
      memberStep ts ci' { view := nv.1, lenient := false } fss v m = .ok v' ∧
      v'.heap = HF ∧ MSInv HF na v'.memberSofas ∧ v'.cas.views = pre ++ (nv.1, cur') :: post ∧
      v'.cas.nextXid = v.cas.nextXid ∧ v'.cas.nextSofaNum = v.cas.nextSofaNum ∧ cur'.sofa = cur.sofa ∧
      ((Index.all cur'.idx).map (·.oid)).Perm (na m :: (Index.all cur.idx).map (·.oid)) ∧
      IdxFrom H nv cur'.idx := by
  obtain ⟨e, he, o, o', ho, ho', hl, hty, hxid, hct, hnn', hkey⟩ := hm
  obtain ⟨o2, k, ho2, hk⟩ := (hmok nv hnv).1 e he
  rw [ho] at ho2; cases ho2
  let h : Handle := { view := nv.1, lenient := false }
  have hent : Cas.entryOf (Cas.addObj ci' h o' m) (na m) = .ok { k with oid := na m } := by
    -- `Cas.add` changes the `sofa` slot only: the sort key is that of the object
    rw [Cas.entryOf_congr (addObj_slot_ne ci' _ o' m (by decide)) (addObj_slot_ne ci' _ o' m (by decide))]; exact hkey k hk
  obtain ⟨cur', hadd, hs, hperm, hidx'⟩ :=
    add_member hmok hnv he ho hk ci' (hh ▸ ho' : v.heap[na m]? = some o') hty hxid hct hent v.cas hviews hpre hidx
  refine ⟨{ cas := { v.cas with views := pre ++ (nv.1, cur') :: post }, heap := HF,
            memberSofas := (jOwnOf m (na m) v).2 }, cur', ?_, rfl, jOwnOf_snd hh hms, rfl, rfl, rfl, hs, hperm, hidx'⟩
  unfold memberStep addJMember1
  rw [hl]
  dsimp only
  rw [hadd]
  dsimp only
  rw [jOwnOf_fst hh hms, hh, jWriteBack_restores ci' h ho' hxid hnn']

theorem members_loop (hmok : MembersOk c H) {nv : String × View} (hnv : nv ∈ c.views)
    {pre post : List (String × View)} (hpre : nv.1 ∉ pre.map (·.1)) :
    ∀ (ms : List Int), (∀ m ∈ ms, MemOk ts H HF na fss nv m) → ∀ (v : VState) (cur : View),
      v.heap = HF → MSInv HF na v.memberSofas → v.cas.views = pre ++ (nv.1, cur) :: post → IdxFrom H nv cur.idx →
      ∃ (v' : VState) (cur' : View),
        ms.foldlM (memberStep ts ci' { view := nv.1, lenient := false } fss) v = .ok v' ∧
        v'.heap = HF ∧ MSInv HF na v'.memberSofas ∧ v'.cas.views = pre ++ (nv.1, cur') :: post ∧
        v'.cas.nextXid = v.cas.nextXid ∧ v'.cas.nextSofaNum = v.cas.nextSofaNum ∧ cur'.sofa = cur.sofa ∧
        ((Index.all cur'.idx).map (·.oid)).Perm (ms.map na ++ (Index.all cur.idx).map (·.oid)) := by
  intro ms
  induction ms with
  | nil =>
    intro _ v cur hh hms hv _
    exact ⟨v, cur, rfl, hh, hms, hv, rfl, rfl, rfl, List.Perm.refl _⟩
  | cons m ms ih =>
    intro hmem v cur hh hms hv hidx
    obtain ⟨v1, cur1, h1, hh1, hms1, hv1, hx1, hn1, hs1, hp1, hidx1⟩ :=
      member_step hmok hnv (hmem m List.mem_cons_self) v hh hms hv hpre hidx
    obtain ⟨v2, cur2, h2, hh2, hms2, hv2, hx2, hn2, hs2, hp2⟩ :=
      ih (fun m' hm' => hmem m' (List.mem_cons_of_mem _ hm')) v1 cur1 hh1 hms1 hv1 hidx1
    refine ⟨v2, cur2, by rw [List.foldlM_cons, h1]; exact h2, hh2, hms2, hv2, hx2.trans hx1, hn2.trans hn1, hs2.trans hs1, ?_⟩
    refine hp2.trans ?_
    rw [List.map_cons, List.cons_append]
    exact (List.Perm.append_left _ hp1).trans List.perm_middle

/-- all entries of `%VIEWS`, in any order: split `c.views` at the view of the entry, run the members loop on it, and
    re-establish `VSt` for the rest -/
theorem views_loop (hmok : MembersOk c H)
    (hm : ∀ nv ∈ c.views, ∀ m ∈ (pviewOf H nv).members, MemOk ts H HF na fss nv m)
    (hnames : ∀ nv ∈ c.views, nv.2.sofa.sofaID = nv.1) (hnd : (c.views.map (·.1)).Nodup) :
    ∀ (todo : List (String × View)), (∀ nv ∈ todo, nv ∈ c.views) → (todo.map (·.1)).Nodup →
      ∀ (v : VState), v.heap = HF → MSInv HF na v.memberSofas →
      All2 (VSt H na (todo.map (·.1))) c.views v.cas.views →
      ∃ v' : VState, (todo.map (jviewH H)).foldlM (viewStep ts ci' false fss) v = .ok v' ∧
        v'.heap = HF ∧ v'.cas.nextXid = v.cas.nextXid ∧ v'.cas.nextSofaNum = v.cas.nextSofaNum ∧
        All2 (ViewRelJ H na) c.views v'.cas.views := by
  intro todo
  induction todo with
  | nil =>
    intro _ _ v hh _ hall
    refine ⟨v, rfl, hh, rfl, rfl, ?_⟩
    exact All2.imp_mem hall (fun a _ b hr => hr.2.2 (by simp))
  | cons nv todo ih =>
    intro hsub hnd2 v hh hms hall
    have hnv : nv ∈ c.views := hsub nv List.mem_cons_self
    obtain ⟨A, B, hAB⟩ := List.append_of_mem hnv
    rw [List.map_cons, List.nodup_cons] at hnd2
    have hnd' := hnd
    rw [hAB, List.map_append, List.map_cons] at hnd'
    have hndA := List.nodup_append.mp hnd'
    have hA_ne : ∀ a ∈ A, a.1 ≠ nv.1 := fun a ha e =>
      hndA.2.2 _ (List.mem_map_of_mem ha) _ List.mem_cons_self e
    have hB_ne : ∀ a ∈ B, a.1 ≠ nv.1 := fun a ha e =>
      (List.nodup_cons.mp hndA.2.1).1 (by rw [← e]; exact List.mem_map_of_mem ha)
    rw [hAB] at hall
    obtain ⟨WA, W2, hW, hallA, hall2⟩ := All2.append_inv hall
    cases W2 with
    | nil => exact hall2.elim
    | cons w WB =>
      obtain ⟨hw, hallB⟩ := hall2
      have hkeys : WA.map (·.1) = A.map (·.1) := All2.map_eq hallA (fun _ _ _ h => h.1)
      have hpre : nv.1 ∉ WA.map (·.1) := by
        rw [hkeys]
        intro hin
        exact hndA.2.2 _ hin _ List.mem_cons_self rfl
      have hweq : w = (nv.1, ({ sofa := nv.2.sofa, idx := [] } : View)) := by
        obtain ⟨w1, w2⟩ := w
        have e1 : w1 = nv.1 := hw.1
        have e2 : w2 = _ := hw.2.1 (by rw [List.map_cons]; exact List.mem_cons_self)
        rw [e1, e2]
      have hv : v.cas.views = WA ++ (nv.1, ({ sofa := nv.2.sofa, idx := [] } : View)) :: WB := by
        rw [hW, hweq]
      have hname : (jviewH H nv).name = nv.1 := hnames nv hnv
      have hget : Cas.getViewRec v.cas (jviewH H nv).name = some ({ sofa := nv.2.sofa, idx := [] } : View) := by
        unfold Cas.getViewRec
        rw [hname, hv]; exact alistGet?_append_mid WA nv.1 _ _ hpre
      have hidx0 : IdxFrom H nv ([] : Index.Idx) := by
        intro ty x hx
        cases hx
      obtain ⟨v1, cur1, h1, hh1, hms1, hv1, hx1, hn1, hs1, hp1⟩ :=
        members_loop hmok hnv hpre (pviewOf H nv).members (hm nv hnv) v _ hh hms hv hidx0
      have hr1 : ViewRelJ H na nv (nv.1, cur1) := by
        refine ⟨rfl, ?_, ?_⟩
        · show cur1.sofa = _
          rw [hs1]
        · show ((Index.all cur1.idx).map (·.oid)).Perm _
          have : (Index.all ([] : Index.Idx)).map (·.oid) = [] := rfl
          rw [this, List.append_nil] at hp1
          exact hp1
      have hall1 : All2 (VSt H na (todo.map (·.1))) c.views v1.cas.views := by
        rw [hv1]
        conv => arg 2; rw [hAB]
        refine All2.append (All2.imp_mem hallA ?_) ⟨?_, All2.imp_mem hallB ?_⟩
        · intro a ha b hr
          refine ⟨hr.1, fun hin => hr.2.1 (by rw [List.map_cons]; exact List.mem_cons_of_mem _ hin), fun hnin => hr.2.2 ?_⟩
          rw [List.map_cons, List.mem_cons, not_or]
          exact ⟨hA_ne a ha, hnin⟩
        · exact ⟨rfl, fun hin => absurd hin hnd2.1, fun _ => hr1⟩
        · intro a ha b hr
          refine ⟨hr.1, fun hin => hr.2.1 (by rw [List.map_cons]; exact List.mem_cons_of_mem _ hin), fun hnin => hr.2.2 ?_⟩
          rw [List.map_cons, List.mem_cons, not_or]
          exact ⟨hB_ne a ha, hnin⟩
      obtain ⟨v2, h2, hh2, hx2, hn2, hall2⟩ :=
        ih (fun x hx => hsub x (List.mem_cons_of_mem _ hx)) hnd2.2 v1 hh1 hms1 hall1
      refine ⟨v2, ?_, hh2, hx2.trans hx1, hn2.trans hn1, hall2⟩
      have hstep : viewStep ts ci' false fss v (jviewH H nv) = .ok v1 := by
        have he : viewEnsure v.cas (jviewH H nv).name false = .ok v.cas := by unfold viewEnsure; rw [hget]; rfl
        unfold viewStep
        rw [he, hname]
        exact (addJMembers_eq ..).trans h1
      rw [List.map_cons, List.foldlM_cons, hstep]
      exact h2

theorem view_content {nv nv' : String × View} (hm : ∀ m ∈ (pviewOf H nv).members, MemOk ts H HF na fss nv m)
    (hr : ViewRelJ H na nv nv') : viewContent HF nv' = viewContent H nv := by
  obtain ⟨h1, h2, h6⟩ := hr
  unfold viewContent
  rw [h1, h2, members_back (fun m hmm => by
    obtain ⟨_, _, _, o', _, ho', _, _, hxid, _⟩ := hm m hmm
    exact (xidOf_eq ho').trans hxid) h6]
  rfl

/-- **the views pass over the entries of `%VIEWS` in any order** (`τ` a permutation of the written views), for
    members that are known as `MemOk` describes -/
theorem viewsPass_anyOrder (hmok : MembersOk c H)
    (hm : ∀ nv ∈ c.views, ∀ m ∈ (pviewOf H nv).members, MemOk ts H HF na fss nv m)
    (hnames : ∀ nv ∈ c.views, nv.2.sofa.sofaID = nv.1) (hnd : (c.views.map (·.1)).Nodup)
    (c0 : Cas) (hc0 : c0.views = bareViews c.views) (τ : List (String × View)) (hτ : τ.Perm c.views) :
    ∃ v : VState,
      viewsPass ts ci' false fss (τ.map (jviewH H)) { cas := c0, heap := HF } = .ok v ∧
      v.heap = HF ∧ v.cas.nextXid = c0.nextXid ∧ v.cas.nextSofaNum = c0.nextSofaNum ∧
      All2 (ViewRelJ H na) c.views v.cas.views ∧
      v.cas.views.map (viewContent HF) = c.views.map (viewContent H) := by
  have hall0 : ∀ (l : List (String × View)), (∀ nv ∈ l, nv.1 ∈ τ.map (·.1)) →
      All2 (VSt H na (τ.map (·.1))) l (bareViews l) := by
    intro l
    induction l with
    | nil => intro _; trivial
    | cons nv l ih =>
      intro hin
      refine ⟨⟨rfl, fun _ => rfl, fun hnin => absurd (hin nv List.mem_cons_self) hnin⟩, ?_⟩
      exact ih (fun x hx => hin x (List.mem_cons_of_mem _ hx))
  obtain ⟨v, h1, hh, hx, hn, hall⟩ :=
    views_loop (ci' := ci') hmok hm hnames hnd τ (fun nv hnv => hτ.mem_iff.mp hnv) ((hτ.map (·.1)).nodup_iff.mpr hnd)
      { cas := c0, heap := HF } rfl (fun r hr => by cases hr)
      (by
        show All2 _ c.views c0.views
        rw [hc0]
        exact hall0 c.views (fun nv hnv => List.mem_map_of_mem (hτ.mem_iff.mpr hnv)))
  exact ⟨v, (viewsPass_eq ..).trans h1, hh, hx, hn, hall,
    All2.map_eq hall (fun nv hnv nv' hr => view_content (hm nv hnv) hr)⟩

end

end ViewsPass

namespace JV
open Cassis.Xmi.RTB

/-- what is known on the flat fragment when the views pass starts -/
structure VC (K : Consts) (ts : TypeSystem) (c : Cas) (ci : Nat) (H : Heap) (L : List (Int × Nat)) (na : Int → Nat)
    (ci' : Nat) (HF : Heap) (fss : List (Int × Val)) : Prop where
  lok : LOk K ts c ci H L
  hmem : ∀ nv ∈ c.views, ∀ e ∈ Index.all nv.2.idx, Xmi.slot H e.oid "sofa" ≠ some .none
  mok : MembersOk c H
  rel : HeapRel H L na (E3 H na ci') HF
  fss : ∀ q ∈ L, lookup fss q.1 = some (.ref (na q.1))

section
variable {K : Consts} {ts : TypeSystem} {c : Cas} {ci : Nat} {H : Heap} {L : List (Int × Nat)} {na : Int → Nat}
  {ci' : Nat} {HF : Heap} {fss : List (Int × Val)}

theorem VC.member (ctx : VC K ts c ci H L na ci' HF fss) {nv : String × View} (hnv : nv ∈ c.views) {m : Int}
    (hm : m ∈ (pviewOf H nv).members) : ∃ e ∈ Index.all nv.2.idx, (m, e.oid) ∈ L :=
  member_of_pview ctx.lok.ids ctx.lok.members hnv hm

theorem VC.contains (ctx : VC K ts c ci H L na ci' HF fss) {m : Int} {am : Nat} (h : (m, am) ∈ L) {o : Obj}
    (ho : H[am]? = some o) : containsType ts o.ty = true := by
  obtain ⟨t, hf⟩ := CollFs.type (.inl (genFs_of_flatFs (ctx.lok.flat _ h))) ho
  exact containsType_of_find hf

end

end JV

end Cassis.Json
