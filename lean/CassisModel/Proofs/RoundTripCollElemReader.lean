/-
Round trip with collections, layer G1 of `RoundTripColl_NOTES.md`, the reader: `parseFsElem` (with named pieces:
`CG1.parseFsElem_eq` of `XmiLookups.lean`) on the element with arbitrary contributions of the features, under any naming of
the attributes and child elements that the reader's own renaming of `self` / `type` turns into the stored names.
`parseFsElem_gElem` is the equation up to the child elements (the keyword arguments from the attributes key by key, `kwOf`),
`parse_nofold` the elements that need no fold over the child elements, `parse_gen` the fold and the general structure.
`kwOf` and its lemmas (`kwOf_get`, `kwOf_noSofa`, `alistSet_sofa`, `filter_noId`) come first, in `Cassis.Xmi`: they speak of
lists of attributes only; the layer's namespace `CG1` starts behind them.
-/
import CassisModel.Proofs.RoundTripCollElemDefs
import CassisModel.Proofs.RoundTripCollLemmas
import CassisModel.Proofs.Features
import CassisModel.Proofs.Lists

namespace Cassis.Xmi
open Cassis.Lex

theorem alistGet?_alistSet {β} (l : List (String × β)) (k n : String) (v : β) :
    alistGet? (alistSet l k v) n = if n = k then some v else alistGet? l n :=
  Cassis.alistGet?_alistSet l k n v

theorem filter_noId (A : List (String × String)) (h : ∀ p ∈ A, p.1 ≠ ID) :
    (A.map (fun p => (p.1, Val.str p.2))).filter (fun p => p.1 != ID) = A.map (fun p => (p.1, Val.str p.2)) := by
  rw [List.filter_eq_self]
  intro q hq
  obtain ⟨p, hp, rfl⟩ := List.mem_map.mp hq
  simp only [bne_iff_ne, ne_eq]
  exact h p hp

/-- the keyword arguments the reader builds out of the attributes `A` (the id attribute removed): key by key -/
def kwOf (A : List (String × String)) : List (String × Val) := A.map (fun p => (p.1, attrVal p.1 (some p.2)))

theorem kwOf_get (A : List (String × String)) (n : String) :
    (alistGet? (kwOf A) n).getD .none = attrVal n (alistGet? A n) := by
  unfold kwOf
  rw [alistGet?_mapVal (fun n s => attrVal n (some s))]
  cases alistGet? A n <;> rfl

theorem kwOf_noSofa {A : List (String × String)} (h : "sofa" ∉ A.map (·.1)) :
    kwOf A = A.map (fun p => (p.1, Val.str p.2)) :=
  List.map_congr_left fun p hp => by
    have : p.1 ≠ "sofa" := fun e => h (e ▸ List.mem_map_of_mem hp)
    simp only [attrVal, this, if_false]

/-- the reader's `intify` step on the `sofa` attribute is `attrVal`, if no other attribute has that name -/
theorem alistSet_sofa : ∀ (A : List (String × String)), (A.map (·.1)).Nodup → ∀ (s : String) (i : Int),
    alistGet? A "sofa" = some s → parseInt s = some i →
    alistSet (A.map (fun p => (p.1, Val.str p.2))) "sofa" (Val.int i) = kwOf A
  | [], _, _, _, h, _ => nomatch h
  | (k, v) :: A, hnd, s, i, h, hi => by
    rw [List.map_cons, List.nodup_cons] at hnd
    by_cases hk : k = "sofa"
    · subst hk
      rw [alistGet?_cons_self] at h
      cases h
      show (if "sofa" = "sofa" then _ else _) = _
      rw [if_pos rfl, ← kwOf_noSofa hnd.1]
      simp only [kwOf, List.map_cons, attrVal, if_true, hi]
    · rw [alistGet?_cons_ne _ _ _ _ hk] at h
      show (if k = "sofa" then _ else _) = _
      rw [if_neg hk, alistSet_sofa A hnd.2 s i h hi]
      simp only [kwOf, List.map_cons, attrVal, hk, if_false]

end Cassis.Xmi

namespace Cassis.Xmi.CG1
open Cassis.TS Cassis.Lex

theorem alistSet_append_of_some {β} (l1 l2 : List (String × β)) (k : String) (v0 v : β)
    (h : alistGet? l1 k = some v0) : alistSet (l1 ++ l2) k v = alistSet l1 k v ++ l2 := by
  induction l1 with
  | nil => cases h
  | cons p rest ih =>
    obtain ⟨k', v'⟩ := p
    by_cases hk : k' = k
    · subst hk
      rw [List.cons_append]
      unfold alistSet
      rw [if_pos rfl, if_pos rfl]; rfl
    · rw [alistGet?_cons_ne _ _ _ _ hk] at h
      rw [List.cons_append]
      unfold alistSet
      rw [if_neg hk, if_neg hk, ih h]; rfl

theorem alistGet?_append_not_key {β} (l1 l2 : List (String × β)) (k : String) (h : k ∉ l2.map (·.1)) :
    alistGet? (l1 ++ l2) k = alistGet? l1 k := by
  cases h1 : alistGet? l1 k with
  | none => rw [alistGet?_append_of_none _ _ _ h1, (alistGet?_eq_none_iff _ _).2 h]
  | some v => rw [alistGet?_append_of_some _ _ _ _ h1]

theorem alistGet?_getD_append {β} (l1 l2 : List (String × β)) (k : String) (d : β) (h : k ∉ l2.map (·.1)) :
    (alistGet? (l1 ++ l2) k).getD d = (alistGet? l1 k).getD d := by
  rw [alistGet?_append_not_key l1 l2 k h]

theorem groupKids_run (n : String) (rest : List (String × Option String)) :
    ∀ (l : List (Option String)) (acc : List (String × List (Option String))) (l0 : List (Option String)),
      n ∉ acc.map (·.1) →
      groupKids (l.map (fun e => (n, e)) ++ rest) (acc ++ [(n, l0)]) = groupKids rest (acc ++ [(n, l0 ++ l)])
  | [], acc, l0, _ => by rw [List.map_nil, List.nil_append, List.append_nil]
  | e :: l, acc, l0, h => by
    rw [List.map_cons, List.cons_append, groupKids,
      alistGet?_append_of_none _ _ _ ((alistGet?_eq_none_iff _ _).2 h), alistGet?_cons_self,
      Option.getD_some, alistSet_append_mid _ _ _ _ [] h, groupKids_run n rest l acc (l0 ++ [e]) h,
      List.append_assoc, List.singleton_append]

theorem groupKids_first (n : String) (rest : List (String × Option String)) (l : List (Option String))
    (acc : List (String × List (Option String))) (hl : l ≠ []) (h : n ∉ acc.map (·.1)) :
    groupKids (l.map (fun e => (n, e)) ++ rest) acc = groupKids rest (acc ++ [(n, l)]) := by
  cases l with
  | nil => exact absurd rfl hl
  | cons e l =>
    rw [List.map_cons, List.cons_append, groupKids, (alistGet?_eq_none_iff _ _).2 h,
      Option.getD_none, List.nil_append, alistSet_of_not_mem _ _ _ h, groupKids_run n rest l acc [e] h,
      List.singleton_append]

/-- the features with child elements -/
def gF (ck : Feature → List (Option String)) (fs : List Feature) : List Feature :=
  fs.filter (fun f => !(ck f).isEmpty)

theorem mem_gF {ck : Feature → List (Option String)} {fs : List Feature} {f : Feature} :
    f ∈ gF ck fs ↔ f ∈ fs ∧ ck f ≠ [] := by
  unfold gF
  rw [List.mem_filter]
  cases ck f <;> simp

theorem name_not_mem_gF {ck : Feature → List (Option String)} {fs : List Feature} (hnd : (fs.map (·.name)).Nodup)
    {f : Feature} (hf : f ∈ fs) (hc : ck f = []) : f.name ∉ (gF ck fs).map (·.name) := by
  intro hm
  obtain ⟨g, hg, hgn⟩ := List.mem_map.mp hm
  obtain rfl : g = f := Det.inj_of_nodup_map Feature.name fs hnd (mem_gF.mp hg).1 hf hgn
  exact (mem_gF.mp hg).2 hc

/-- what `groupKids` makes of `gKids nm ck fs` (`groupKids_gKids`): one group per feature with child elements -/
def gG0 (nm : Feature → String) (ck : Feature → List (Option String)) (fs : List Feature) :
    List (String × List (Option String)) :=
  (gF ck fs).map (fun f => (nm f, ck f))

theorem gF_cons_nil (ck : Feature → List (Option String)) (f : Feature) (fs : List Feature) (h : ck f = []) :
    gF ck (f :: fs) = gF ck fs := by
  unfold gF; rw [List.filter_cons_of_neg]; rw [h]; simp

theorem gF_cons_ne (ck : Feature → List (Option String)) (f : Feature) (fs : List Feature) (h : ck f ≠ []) :
    gF ck (f :: fs) = f :: gF ck fs := by
  unfold gF; rw [List.filter_cons_of_pos]
  cases hc : ck f with
  | nil => exact absurd hc h
  | cons _ _ => rfl

theorem groupKids_gKids (nm : Feature → String) (ck : Feature → List (Option String)) :
    ∀ (fs : List Feature) (acc : List (String × List (Option String))), (fs.map nm).Nodup →
      (∀ f ∈ fs, nm f ∉ acc.map (·.1)) → groupKids (gKids nm ck fs) acc = acc ++ gG0 nm ck fs
  | [], acc, _, _ => by simp [gKids, groupKids, gG0, gF]
  | f :: fs, acc, hn, hd => by
    rw [List.map_cons, List.nodup_cons] at hn
    unfold gKids gG0
    by_cases hc : ck f = []
    · rw [gF_cons_nil ck f fs hc, hc, List.map_nil, List.nil_append]
      exact groupKids_gKids nm ck fs acc hn.2 (fun g hg => hd g (List.mem_cons_of_mem _ hg))
    · rw [gF_cons_ne ck f fs hc, groupKids_first _ _ _ _ hc (hd f List.mem_cons_self),
        groupKids_gKids nm ck fs _ hn.2, List.map_cons, List.append_assoc, List.singleton_append]
      · rfl
      · intro g hg hm
        rw [List.map_append, List.mem_append] at hm
        rcases hm with hm | hm
        · exact hd g (List.mem_cons_of_mem _ hg) hm
        · simp only [List.map_cons, List.map_nil, List.mem_singleton] at hm
          exact hn.1 (hm ▸ List.mem_map_of_mem hg)

theorem merge_groups : ∀ (G : List (String × List (Option String))) (raw : List (String × Val)),
    (G.map (·.1)).Nodup → (∀ p ∈ G, p.1 ∉ raw.map (·.1)) →
    G.foldl (fun acc p => alistSet acc p.1 (Val.strs p.2)) raw = raw ++ G.map (fun p => (p.1, Val.strs p.2))
  | [], raw, _, _ => by simp
  | p :: G, raw, hn, hd => by
    rw [List.map_cons, List.nodup_cons] at hn
    rw [List.foldl_cons, alistSet_of_not_mem _ _ _ (hd p List.mem_cons_self), merge_groups G _ hn.2, List.map_cons,
      List.append_assoc, List.singleton_append]
    intro q hq hm
    rw [List.map_append, List.mem_append] at hm
    rcases hm with hm | hm
    · exact hd q (List.mem_cons_of_mem _ hq) hm
    · simp only [List.map_cons, List.map_nil, List.mem_singleton] at hm
      exact hn.1 (hm ▸ List.mem_map_of_mem hq)

theorem gAttrs_mem (nm : Feature → String) (ca : Feature → Option String) :
    ∀ (fs : List Feature) (p : String × String), p ∈ gAttrs nm ca fs → ∃ f ∈ fs, p.1 = nm f ∧ ca f = some p.2
  | [], p, h => by cases h
  | f :: fs, p, h => by
    unfold gAttrs at h
    rw [List.mem_append] at h
    rcases h with h | h
    · refine ⟨f, List.mem_cons_self, ?_⟩
      split at h
      · rename_i s hs; rw [List.mem_singleton] at h; rw [h]; exact ⟨rfl, hs⟩
      · cases h
    · obtain ⟨g, hg, hp⟩ := gAttrs_mem nm ca fs p h
      exact ⟨g, List.mem_cons_of_mem _ hg, hp⟩

theorem gAttrs_get_not_mem (nm : Feature → String) (ca : Feature → Option String) (fs : List Feature) (n : String)
    (h : n ∉ fs.map nm) : alistGet? (gAttrs nm ca fs) n = none := by
  apply (alistGet?_eq_none_iff _ _).2
  intro hm
  obtain ⟨p, hp, hpn⟩ := List.mem_map.mp hm
  obtain ⟨f, hf, hfe, _⟩ := gAttrs_mem nm ca fs p hp
  apply h
  rw [← hpn, hfe]
  exact List.mem_map_of_mem hf

theorem gAttrs_get (nm : Feature → String) (ca : Feature → Option String) :
    ∀ (fs : List Feature), (fs.map nm).Nodup → ∀ f ∈ fs, alistGet? (gAttrs nm ca fs) (nm f) = ca f
  | [], _, f, hf => by cases hf
  | g :: fs, hn, f, hf => by
    rw [List.map_cons, List.nodup_cons] at hn
    unfold gAttrs
    by_cases hfg : nm g = nm f
    · have hfe : alistGet? (gAttrs nm ca fs) (nm f) = none :=
        gAttrs_get_not_mem nm ca fs (nm f) (by rw [← hfg]; exact hn.1)
      have hgf : g = f := by
        rcases List.mem_cons.mp hf with h | h
        · exact h.symm
        · exact absurd (hfg ▸ List.mem_map_of_mem h) hn.1
      subst hgf
      cases ht : ca g with
      | none => exact hfe
      | some s => exact alistGet?_cons_self _ _ _
    · have hf' : f ∈ fs := by
        rcases List.mem_cons.mp hf with h | h
        · exact absurd (by rw [h]) hfg
        · exact h
      rw [alistGet?_append_of_none _ _ _ ?_, gAttrs_get nm ca fs hn.2 f hf']
      split
      · rw [alistGet?_cons_ne _ _ _ _ hfg]; rfl
      · rfl

theorem gAttrs_ren (nm : Feature → String) (ca : Feature → Option String) :
    ∀ (fs : List Feature), (∀ f ∈ fs, renRes (nm f) = f.name) →
      (gAttrs nm ca fs).map (fun p => (renRes p.1, p.2)) = gAttrs Feature.name ca fs
  | [], _ => rfl
  | f :: fs, h => by
    unfold gAttrs
    rw [List.map_append, gAttrs_ren nm ca fs (fun g hg => h g (List.mem_cons_of_mem _ hg))]
    congr 1
    cases ca f with
    | none => rfl
    | some s =>
      show [(renRes (nm f), s)] = [(f.name, s)]
      rw [h f List.mem_cons_self]

theorem getFeature_eq_find (t : TypeRec) (n : String) :
    getFeature t n = (t.own ++ t.inh).find? (·.name == n) := by
  unfold getFeature
  rw [List.find?_append]
  cases t.own.find? (·.name == n) <;> rfl

theorem dedup_first (n : String) : ∀ (l seen : List Feature) (g : Feature),
    l.find? (·.name == n) = some g → (∀ s ∈ seen, s.name ≠ n) → g ∈ dedupFeatures l seen
  | [], _, _, h, _ => by cases h
  | f :: fs, seen, g, h, hs => by
    unfold dedupFeatures
    by_cases hf : f.name = n
    · rw [List.find?_cons_of_pos (by simpa using hf)] at h
      cases h
      rw [if_neg]
      · exact List.mem_cons_self
      · intro ha
        obtain ⟨s, hs1, hs2⟩ := List.any_eq_true.mp ha
        exact hs s hs1 ((featureEq_name hs2).trans hf)
    · rw [List.find?_cons_of_neg (by simpa using hf)] at h
      split
      · exact dedup_first n fs seen g h hs
      · refine List.mem_cons_of_mem _ (dedup_first n fs _ g h ?_)
        intro s hs'
        rcases List.mem_append.mp hs' with h1 | h1
        · exact hs s h1
        · rw [List.mem_singleton] at h1; rw [h1]; exact hf

theorem getFeature_of_mem (t : TypeRec) (hn : (ctorFields t).Nodup) (f : Feature) (hf : f ∈ allFeatures t) :
    getFeature t f.name = some f := by
  rw [getFeature_eq_find]
  cases h : (t.own ++ t.inh).find? (·.name == f.name) with
  | none => exact absurd (mem_fnames_of_mem (allFeatures_sub hf)) (find_name_none.mp h)
  | some g =>
    have hg : g ∈ allFeatures t := dedup_first f.name _ [] g h (fun s hs => by cases hs)
    rw [Det.inj_of_nodup_map Feature.name (allFeatures t) hn hg hf (find_name_some h).2]

theorem buildPrimList_str (hp : Heap) (tsIdx : Nat) (l : List (Option String)) :
    ∃ (ext : List Obj) (a : Nat), buildPrimList hp tsIdx STRING_LIST l = .ok (hp ++ ext, a) ∧
      (∀ ob ∈ ext, ob.xid = none) ∧ ext.length = l.length + 1 ∧ ChainC.VList (hp ++ ext) .str a (l.map txtHead) := by
  unfold buildPrimList
  have d1 : (STRING_LIST == INTEGER_LIST) = false := by simp [STRING_LIST, INTEGER_LIST]
  have d2 : (STRING_LIST == FLOAT_LIST) = false := by simp [STRING_LIST, FLOAT_LIST]
  simp only [d1, d2, beq_self_eq_true, if_true, Bool.false_eq_true, if_false]
  rw [Det.mapM_ok_of_forall _ txtHead l (fun e _ => by cases e <;> rfl)]
  obtain ⟨ext, a, h1, h2, h3, h4⟩ := ChainC.listBuild_vlist .str id hp
    { ty := "uima.cas.EmptyStringList", ts := tsIdx, xid := none, slots := [] } rfl rfl rfl
    (fun (acc : Heap × Nat) (v : Val) =>
      ({ ty := "uima.cas.NonEmptyStringList", ts := tsIdx, xid := none,
         slots := [("head", v), ("tail", Val.ref acc.2)] } : Obj))
    (fun _ _ => ⟨rfl, rfl, rfl⟩) (l.map txtHead)
  rw [List.map_id, List.length_map] at *
  exact ⟨ext, a, congrArg Except.ok h1, h2, h3, h4⟩

theorem kidStep_ok (K : Consts) (t : TypeRec) (tsIdx : Nat) (ck : Feature → List (Option String)) (f : Feature)
    (n : String) (hn : renRes n = f.name)
    (hgf : getFeature t f.name = some f)
    (hk : isPrimitiveArray K f.range = true ∨ (isPrimitiveList K f.range = true ∧ f.range = STRING_LIST))
    (hp : Heap) (m : List (String × Val)) :
    ∃ (ext : List Obj) (w : Val), kidStep K t tsIdx (hp, m) (n, ck f) = .ok (hp ++ ext, alistSet m f.name w) ∧
      (∀ ob ∈ ext, ob.xid = none) ∧ KidAt K (hp ++ ext) f (ck f) w := by
  have hpn : (if (n == "self" || n == "type") = true then n ++ "_" else n) = f.name := (renRes_eq_ite n).trans hn
  unfold kidStep
  simp only [hpn, hgf, bind, Except.bind, pure, Except.pure]
  cases ha : isPrimitiveArray K f.range with
  | true =>
    refine ⟨[{ ty := f.range, ts := tsIdx, xid := none, slots := [("elements", Val.strs (ck f))] }], .ref hp.length,
      ?_, ?_, hp.length, rfl, .inl ⟨⟨_, _, List.getElem?_concat_length, rfl, rfl, rfl⟩, .inl ha⟩, Or.inl ⟨ha, ?_⟩⟩
    · simp only [if_true]
    · intro ob hob; rw [List.mem_singleton] at hob; rw [hob]
    · refine ⟨{ ty := f.range, ts := tsIdx, xid := none, slots := [("elements", Val.strs (ck f))] }, ?_, rfl,
        alistGet?_cons_self _ _ _⟩
      rw [List.getElem?_append_right (Nat.le_refl _), Nat.sub_self]; rfl
  | false =>
    rcases hk with hk | ⟨hl, hr⟩
    · rw [ha] at hk; cases hk
    · obtain ⟨ext, a, hb, hx, hlen, hL⟩ := buildPrimList_str hp tsIdx (ck f)
      refine ⟨ext, .ref a, ?_, hx, a, rfl, .inr ⟨.str, hr, hL.tlist⟩, Or.inr ⟨ha, hL.listAt, ?_⟩⟩
      · rw [hr] at hl
        simp only [hl, Bool.false_eq_true, if_false, if_true, hr, hb]
      · rw [List.length_append, hlen]; omega

theorem kidFold (K : Consts) (t : TypeRec) (tsIdx : Nat) (nm : Feature → String)
    (ck : Feature → List (Option String)) :
    ∀ (gs : List Feature), (gs.map (·.name)).Nodup →
      (∀ f ∈ gs, renRes (nm f) = f.name ∧ getFeature t f.name = some f ∧
        (isPrimitiveArray K f.range = true ∨ (isPrimitiveList K f.range = true ∧ f.range = STRING_LIST))) →
      ∀ (hp : Heap) (m : List (String × Val)), (∀ f ∈ gs, f.name ∈ m.map (·.1)) →
      ∃ (ext : List Obj) (m' : List (String × Val)),
        (gs.map (fun f => (nm f, ck f))).foldlM (kidStep K t tsIdx) (hp, m) = .ok (hp ++ ext, m') ∧
        (∀ ob ∈ ext, ob.xid = none) ∧ m'.map (·.1) = m.map (·.1) ∧
        (∀ n, n ∉ gs.map (·.name) → alistGet? m' n = alistGet? m n) ∧
        ∀ f ∈ gs, ∃ w, alistGet? m' f.name = some w ∧ KidAt K (hp ++ ext) f (ck f) w
  | [], _, _, hp, m, _ => ⟨[], m, by simp [pure, Except.pure], by simp, rfl, fun _ _ => rfl, fun f hf => by cases hf⟩
  | f :: gs, hn, hg, hp, m, hm => by
    rw [List.map_cons, List.nodup_cons] at hn
    obtain ⟨hnm, hgf, hk⟩ := hg f List.mem_cons_self
    obtain ⟨e1, w1, h1, hx1, hK1⟩ := kidStep_ok K t tsIdx ck f (nm f) hnm hgf hk hp m
    have hkeys1 : (alistSet m f.name w1).map (·.1) = m.map (·.1) := by
      rw [alistSet_keys, if_pos (hm f List.mem_cons_self)]
    obtain ⟨e2, m', h2, hx2, hkeys2, hget2, hK2⟩ := kidFold K t tsIdx nm ck gs hn.2
      (fun g hg' => hg g (List.mem_cons_of_mem _ hg')) (hp ++ e1) (alistSet m f.name w1)
      (fun g hg' => by rw [hkeys1]; exact hm g (List.mem_cons_of_mem _ hg'))
    refine ⟨e1 ++ e2, m', ?_, ?_, hkeys2.trans hkeys1, ?_, ?_⟩
    · rw [List.map_cons, List.foldlM_cons, h1]
      simp only [bind, Except.bind]
      rw [h2, List.append_assoc]
    · intro ob hob
      rcases List.mem_append.mp hob with h | h
      · exact hx1 ob h
      · exact hx2 ob h
    · intro n hnn
      rw [List.map_cons, List.mem_cons, not_or] at hnn
      rw [hget2 n hnn.2, alistGet?_set_other _ _ _ _ hnn.1]
    · intro g hg'
      rcases List.mem_cons.mp hg' with rfl | hg''
      · refine ⟨w1, ?_, ?_⟩
        · rw [hget2 _ hn.1, alistGet?_set_same]
        · rw [← List.append_assoc]; exact hK1.frz (Frz.append _ _)
      · obtain ⟨w, hw, hKw⟩ := hK2 g hg''
        exact ⟨w, hw, by rw [← List.append_assoc]; exact hKw⟩

theorem intify_kw (A : List (String × String)) (G : List (String × Val)) (hnd : (A.map (·.1)).Nodup)
    (hG : "sofa" ∉ G.map (·.1)) (hsofa : ∀ s, alistGet? A "sofa" = some s → (parseInt s).isSome = true) :
    intify (A.map (fun p => (p.1, Val.str p.2)) ++ G) "sofa" = .ok (kwOf A ++ G) := by
  unfold intify
  rw [alistGet?_append_not_key _ _ _ hG, alistGet?_mapVal (fun _ s => Val.str s)]
  cases hs : alistGet? A "sofa" with
  | none => rw [kwOf_noSofa ((alistGet?_eq_none_iff _ _).1 hs)]; rfl
  | some s =>
    obtain ⟨i, hi⟩ := Option.isSome_iff_exists.mp (hsofa s hs)
    have h1 : alistGet? (A.map (fun p => (p.1, Val.str p.2))) "sofa" = some (Val.str s) := by
      rw [alistGet?_mapVal (fun _ s => Val.str s), hs]; rfl
    simp only [Option.map_some, parseIntE, hi, Except.map, alistSet_append_of_some _ _ _ _ _ h1,
      alistSet_sofa A hnd s i hs hi]

theorem kwOf_ren (A : List (String × String)) :
    (kwOf A).map (fun p => (renRes p.1, p.2)) = kwOf (A.map (fun p => (renRes p.1, p.2))) := by
  unfold kwOf
  rw [List.map_map, List.map_map]
  refine List.map_congr_left fun p _ => ?_
  have : (renRes p.1 = "sofa") = (p.1 = "sofa") := propext (renRes_sofa p.1)
  simp only [Function.comp, attrVal, this]

theorem gAttrs_keys_nodup (nm : Feature → String) (ca : Feature → Option String) :
    ∀ (fs : List Feature), (fs.map nm).Nodup → ((gAttrs nm ca fs).map (·.1)).Nodup
  | [], _ => List.nodup_nil
  | f :: fs, h => by
    rw [List.map_cons, List.nodup_cons] at h
    unfold gAttrs
    cases ca f with
    | none => exact gAttrs_keys_nodup nm ca fs h.2
    | some s =>
      refine List.nodup_cons.mpr ⟨fun hm => ?_, gAttrs_keys_nodup nm ca fs h.2⟩
      obtain ⟨p, hp, hpe⟩ := List.mem_map.mp hm
      obtain ⟨g, hg, hgn, _⟩ := gAttrs_mem nm ca fs p hp
      have e : nm f = nm g := hpe.symm.trans hgn
      exact h.1 (e ▸ List.mem_map_of_mem hg)

/-- the keyword arguments the reader has assembled when it turns to the child elements -/
def kwArgs (ca : Feature → Option String) (ck : Feature → List (Option String)) (fs : List Feature) : List (String × Val) :=
  kwOf (gAttrs Feature.name ca fs) ++ (gG0 Feature.name ck fs).map (fun p => (p.1, Val.strs p.2))

theorem kwArgs_keys {ca : Feature → Option String} {ck : Feature → List (Option String)} {fs : List Feature} :
    ∀ p ∈ kwArgs ca ck fs, ∃ f ∈ fs, p.1 = f.name := by
  intro p hp
  rcases List.mem_append.mp hp with h | h
  · obtain ⟨q, hq, rfl⟩ := List.mem_map.mp h
    obtain ⟨f, hf, hfn, _⟩ := gAttrs_mem Feature.name ca fs q hq
    exact ⟨f, hf, hfn⟩
  · obtain ⟨q, hq, rfl⟩ := List.mem_map.mp h
    obtain ⟨f, hf, rfl⟩ := List.mem_map.mp hq
    exact ⟨f, (mem_gF.mp hf).1, rfl⟩

theorem kwArgs_groupKeys (ck : Feature → List (Option String)) (fs : List Feature) :
    ((gG0 Feature.name ck fs).map (fun p => (p.1, Val.strs p.2))).map (·.1) = (gF ck fs).map (·.name) := by
  unfold gG0; rw [List.map_map, List.map_map]; rfl

theorem kwArgs_get_attr {ca : Feature → Option String} {ck : Feature → List (Option String)} {fs : List Feature}
    (hnd : (fs.map (·.name)).Nodup) {f : Feature} (hf : f ∈ fs) (hc : ck f = []) :
    (alistGet? (kwArgs ca ck fs) f.name).getD .none = attrVal f.name (ca f) := by
  unfold kwArgs
  rw [alistGet?_getD_append _ _ _ _ (by rw [kwArgs_groupKeys]; exact name_not_mem_gF hnd hf hc), kwOf_get,
    gAttrs_get Feature.name ca fs hnd f hf]

theorem parseFsElem_gElem (K : Consts) (ts : TypeSystem) (tsIdx : Nat) (t : TypeRec) (x : Int) (ty : String)
    (nm : Feature → String) (ca : Feature → Option String) (ck : Feature → List (Option String))
    (ht : getTypeExact ts ty = .ok t) (hnd : ((allFeatures t).map (·.name)).Nodup)
    (R : ∀ f ∈ allFeatures t, Shape0 f (ca f) (ck f))
    (hnm : ∀ f ∈ allFeatures t, renRes (nm f) = f.name ∧ nm f ≠ ID) (hp : Heap) :
    parseFsElem K ts tsIdx hp (gElem nm ty x ca ck (allFeatures t)) = (do
      let (hp, merged) ←
        if isPrimitiveArray K ty then pure (hp, kwArgs ca ck (allFeatures t))
        else (gG0 nm ck (allFeatures t)).foldlM (kidStep K t tsIdx) (hp, kwArgs ca ck (allFeatures t))
      let o ← construct t tsIdx (some x) merged
      pure (hp ++ [o], x, hp.length)) := by
  -- the written names are pairwise different, because the stored ones are
  have hinj : ∀ f ∈ allFeatures t, ∀ g ∈ allFeatures t, nm f = nm g → f = g := fun f hf g hg e =>
    Det.inj_of_nodup_map Feature.name _ hnd hf hg (by rw [← (hnm f hf).1, ← (hnm g hg).1, e])
  have hndN : ((allFeatures t).map nm).Nodup := by
    have := hnd
    rw [show (allFeatures t).map (·.name) = ((allFeatures t).map nm).map renRes by
      rw [List.map_map]; exact List.map_congr_left fun f hf => ((hnm f hf).1).symm] at this
    exact List.Pairwise.of_map renRes (fun a b h e => h (congrArg renRes e)) this
  have hgsub : ∀ f ∈ gF ck (allFeatures t), f ∈ allFeatures t ∧ ck f ≠ [] := fun f hf => mem_gF.mp hf
  have hgndN : ((gF ck (allFeatures t)).map nm).Nodup :=
    List.Nodup.sublist (List.Sublist.map _ List.filter_sublist) hndN
  have hAk := gAttrs_mem nm ca (allFeatures t)
  have hG0k : (gG0 nm ck (allFeatures t)).map (·.1) = (gF ck (allFeatures t)).map nm := by
    unfold gG0; rw [List.map_map]; rfl
  have hGk : ((gG0 nm ck (allFeatures t)).map (fun p => (p.1, Val.strs p.2))).map (·.1)
      = (gF ck (allFeatures t)).map nm := by
    rw [List.map_map, ← hG0k]; rfl
  have hgA : ∀ f ∈ gF ck (allFeatures t), nm f ∉ (gAttrs nm ca (allFeatures t)).map (·.1) := by
    intro f hf hm
    obtain ⟨p, hp, hpe⟩ := List.mem_map.mp hm
    obtain ⟨g, hg, hgn, hgc⟩ := hAk p hp
    have : g = f := hinj g hg f (hgsub f hf).1 (by rw [← hgn, hpe])
    subst this
    rw [(R g hg).excl (hgsub g hf).2] at hgc; cases hgc
  have hgroup : groupKids (gKids nm ck (allFeatures t)) [] = gG0 nm ck (allFeatures t) := by
    rw [groupKids_gKids nm ck _ [] hndN (fun _ _ h => by cases h), List.nil_append]
  have hG0mem : ∀ p ∈ gG0 nm ck (allFeatures t), ∃ f ∈ gF ck (allFeatures t), p.1 = nm f := by
    intro p hp
    obtain ⟨f, hf, rfl⟩ := List.mem_map.mp hp
    exact ⟨f, hf, rfl⟩
  have hmerge : (gG0 nm ck (allFeatures t)).foldl (fun acc p => alistSet acc p.1 (Val.strs p.2))
      ((ID, Val.str (showInt x)) :: (gAttrs nm ca (allFeatures t)).map (fun p => (p.1, Val.str p.2)))
      = ((ID, Val.str (showInt x)) :: (gAttrs nm ca (allFeatures t)).map (fun p => (p.1, Val.str p.2)))
        ++ (gG0 nm ck (allFeatures t)).map (fun p => (p.1, Val.strs p.2)) := by
    apply merge_groups _ _ (by rw [hG0k]; exact hgndN)
    intro p hp hm
    obtain ⟨f, hf, hpf⟩ := hG0mem p hp
    rw [List.map_cons, List.map_map, List.mem_cons] at hm
    rcases hm with hm | hm
    · exact (hnm f (hgsub f hf).1).2 (hpf ▸ hm)
    · exact hgA f hf (hpf ▸ hm)
  have hfil : List.filter (fun p => p.fst != ID)
      ((ID, Val.str (showInt x)) :: ((gAttrs nm ca (allFeatures t)).map (fun p => (p.1, Val.str p.2))
        ++ (gG0 nm ck (allFeatures t)).map (fun p => (p.1, Val.strs p.2))))
      = (gAttrs nm ca (allFeatures t)).map (fun p => (p.1, Val.str p.2))
        ++ (gG0 nm ck (allFeatures t)).map (fun p => (p.1, Val.strs p.2)) := by
    rw [List.filter_cons_of_neg (by simp), List.filter_append, filter_noId, List.filter_eq_self.mpr]
    · intro q hq
      obtain ⟨p, hp, rfl⟩ := List.mem_map.mp hq
      obtain ⟨f, hf, hpf⟩ := hG0mem p hp
      simp only [bne_iff_ne, ne_eq]
      exact hpf ▸ (hnm f (hgsub f hf).1).2
    · intro p hp
      obtain ⟨f, hf, hpf, _⟩ := hAk p hp
      exact hpf ▸ (hnm f hf).2
  have hpi : parseIntE (showInt x) = .ok x := by unfold parseIntE; rw [parseInt_showInt_aux]
  -- `nm f = "sofa"` only for the feature `sofa`
  have hsofa : ∀ f ∈ allFeatures t, nm f = "sofa" → f.name = "sofa" := fun f hf e => by
    rw [← (hnm f hf).1, e]; rfl
  have hint : intify ((gAttrs nm ca (allFeatures t)).map (fun p => (p.1, Val.str p.2))
        ++ (gG0 nm ck (allFeatures t)).map (fun p => (p.1, Val.strs p.2))) "sofa"
      = .ok (kwOf (gAttrs nm ca (allFeatures t))
          ++ (gG0 nm ck (allFeatures t)).map (fun p => (p.1, Val.strs p.2))) := by
    apply intify_kw _ _ (gAttrs_keys_nodup nm ca _ hndN)
    · rw [hGk]
      intro hm
      obtain ⟨f, hf, hfn⟩ := List.mem_map.mp hm
      exact (R f (hgsub f hf).1).kidSofa (hgsub f hf).2 (hsofa f (hgsub f hf).1 hfn)
    · intro s hs
      obtain ⟨f, hf, hfn, hfc⟩ := hAk _ (alistGet?_mem _ _ _ hs)
      exact (R f hf).sofa (hsofa f hf hfn.symm) s hfc
  -- the reader's renaming: from the written to the stored names
  have hren : rename (rename (kwOf (gAttrs nm ca (allFeatures t))
        ++ (gG0 nm ck (allFeatures t)).map (fun p => (p.1, Val.strs p.2))) "self" "self_") "type" "type_"
      = kwArgs ca ck (allFeatures t) := by
    unfold rename kwArgs
    rw [renRes_map, List.map_append, kwOf_ren]
    congr 1
    · exact congrArg kwOf (gAttrs_ren nm ca (allFeatures t) (fun f hf => (hnm f hf).1))
    · unfold gG0
      rw [List.map_map, List.map_map, List.map_map]
      exact List.map_congr_left fun f hf => by
        simp only [Function.comp, (hnm f (hgsub f hf).1).1]
  rw [parseFsElem_eq]
  simp only [gElem, ht, bind, Except.bind, hgroup, List.map_cons, hmerge, List.cons_append, alistGet?_cons_self,
    hpi, hfil, hint, hren]

theorem construct_kw (t : TypeRec) (tsIdx : Nat) (x : Int) {m : List (String × Val)}
    (hm : ∀ p ∈ m, ∃ f ∈ allFeatures t, p.1 = f.name) :
    construct t tsIdx (some x) m = .ok (constructed t tsIdx (some x) m) :=
  construct_eq_ok.mpr ⟨fun p hp => by obtain ⟨f, hf, e⟩ := hm p hp; exact e ▸ List.mem_map_of_mem hf, rfl⟩

/-- where the reader does not turn to the child elements (the element of a primitive array), or there are none: the
    object is built from the keyword arguments as they are -/
theorem parse_nofold (K : Consts) (ts : TypeSystem) (tsIdx : Nat) (t : TypeRec) (x : Int) (ty : String)
    (nm : Feature → String) (ca : Feature → Option String) (ck : Feature → List (Option String))
    (ht : getTypeExact ts ty = .ok t) (hnd : ((allFeatures t).map (·.name)).Nodup)
    (R : ∀ f ∈ allFeatures t, Shape0 f (ca f) (ck f))
    (hnm : ∀ f ∈ allFeatures t, renRes (nm f) = f.name ∧ nm f ≠ ID)
    (hno : isPrimitiveArray K ty = true ∨ ∀ f ∈ allFeatures t, ck f = []) (hp : Heap) :
    parseFsElem K ts tsIdx hp (gElem nm ty x ca ck (allFeatures t)) =
      .ok (hp ++ [constructed t tsIdx (some x) (kwArgs ca ck (allFeatures t))], x, hp.length) := by
  rw [parseFsElem_gElem K ts tsIdx t x ty nm ca ck ht hnd R hnm hp]
  rcases hno with h | h
  · simp only [h, if_true, bind, Except.bind, pure, Except.pure, construct_kw t tsIdx x kwArgs_keys]
  · have : gG0 nm ck (allFeatures t) = [] := by
      unfold gG0
      rw [List.map_eq_nil_iff, List.eq_nil_iff_forall_not_mem]
      exact fun f hf => (mem_gF.mp hf).2 (h f (mem_gF.mp hf).1)
    simp only [this, List.foldlM_nil, ite_self, bind, Except.bind, pure, Except.pure,
      construct_kw t tsIdx x kwArgs_keys]

/-- the first pass on the element with the contributions `ca`/`ck` under the names `nm`: objects without id for the child
    elements (`ext`), then the object, whose slots hold the attribute strings (the `sofa` attribute as an integer) or
    refer to what was built for the child elements (`Read1`) -/
theorem parse_gen (K : Consts) (ts : TypeSystem) (tsIdx : Nat) (t : TypeRec) (x : Int) (ty : String)
    (nm : Feature → String) (ca : Feature → Option String) (ck : Feature → List (Option String))
    (ht : getTypeExact ts ty = .ok t) (hpa : isPrimitiveArray K ty = false) (hnd : ((allFeatures t).map (·.name)).Nodup)
    (R : ∀ f ∈ allFeatures t, Shape K f (ca f) (ck f))
    (hnm : ∀ f ∈ allFeatures t, renRes (nm f) = f.name ∧ nm f ≠ ID) (hpCur : Heap) :
    ∃ (ext : List Obj) (o1 : Obj),
      parseFsElem K ts tsIdx hpCur (gElem nm ty x ca ck (allFeatures t))
        = .ok (hpCur ++ ext ++ [o1], x, (hpCur ++ ext).length) ∧
      (∀ ob ∈ ext, ob.xid = none) ∧ o1.ty = t.name ∧ o1.xid = some x ∧
      o1.slots.map (·.1) = (ctorFields t).eraseDups ∧
      ∀ f ∈ allFeatures t, ∃ w, alistGet? o1.slots f.name = some w ∧ Read1 K (hpCur ++ ext) f (ca f) (ck f) w := by
  have hgsub : ∀ f ∈ gF ck (allFeatures t), f ∈ allFeatures t ∧ ck f ≠ [] := fun f hf => mem_gF.mp hf
  have hgnd : ((gF ck (allFeatures t)).map (·.name)).Nodup :=
    List.Nodup.sublist (List.Sublist.map _ List.filter_sublist) hnd
  obtain ⟨ext, m', hfold, hext, hkeys, hget, hK⟩ := kidFold K t tsIdx nm ck (gF ck (allFeatures t)) hgnd
    (fun f hf => ⟨(hnm f (hgsub f hf).1).1, getFeature_of_mem t hnd f (hgsub f hf).1,
      (R f (hgsub f hf).1).kid (hgsub f hf).2⟩) hpCur (kwArgs ca ck (allFeatures t))
    (fun f hf => by
      unfold kwArgs
      rw [List.map_append, kwArgs_groupKeys, List.mem_append]; exact Or.inr (List.mem_map_of_mem hf))
  have hfold' : List.foldlM (kidStep K t tsIdx) (hpCur, kwArgs ca ck (allFeatures t)) (gG0 nm ck (allFeatures t))
      = .ok (hpCur ++ ext, m') := hfold
  have hcon : construct t tsIdx (some x) m' = .ok (constructed t tsIdx (some x) m') :=
    construct_kw t tsIdx x fun p hp => by
      have : p.1 ∈ m'.map (·.1) := List.mem_map_of_mem hp
      rw [hkeys] at this
      obtain ⟨q, hq, hqe⟩ := List.mem_map.mp this
      exact hqe ▸ kwArgs_keys q hq
  refine ⟨ext, constructed t tsIdx (some x) m', ?_, hext, rfl, rfl, ?_, ?_⟩
  · rw [parseFsElem_gElem K ts tsIdx t x ty nm ca ck ht hnd (fun f hf => (R f hf).toShape0) hnm hpCur]
    simp only [hpa, hfold', hcon, bind, Except.bind, Bool.false_eq_true, if_false, pure, Except.pure]
  · exact constructed_keys ..
  · intro f hf
    have hfm : f.name ∈ (ctorFields t).eraseDups := by
      rw [List.mem_eraseDups]; exact List.mem_map_of_mem hf
    refine ⟨(alistGet? m' f.name).getD .none,
      alistGet?_map_self (fun n => (alistGet? m' n).getD .none) _ _ hfm, ?_, ?_⟩
    · intro hc
      rw [hget f.name (name_not_mem_gF hnd hf hc), kwArgs_get_attr hnd hf hc]
    · intro hc
      obtain ⟨w, hw, hKw⟩ := hK f (mem_gF.mpr ⟨hf, hc⟩)
      rw [hw]
      exact hKw

end Cassis.Xmi.CG1
