/-
The reader congruence `loadJson_congr`, the parsing passes: one feature structure (`parseFs`), one sofa (`parseSofa`) and the
two passes over the document, on reader states that are similar (`RSim`: everything equal but the heaps, which are equal up
to slot order).
-/
import CassisModel.Proofs.JsonReaderSimHeap
import CassisModel.Proofs.TypeSystem
import CassisModel.Proofs.GetTypeExact
import CassisModel.Properties.C10
import CassisModel.Proofs.JsonReader
import CassisModel.Proofs.XmiOffsets
import CassisModel.Proofs.JsonIdsPass

namespace Cassis.Json
open Cassis.TS

/-- the type of the object at an address -/
def tyAt (hp : Heap) (a : Nat) : Option String := (hp[a]?).map (·.ty)

/-- a type name both type systems know (`Cas.add` asks `contains_type`) -/
def Good (ts ts' : TypeSystem) (n : String) : Prop := containsType ts n = true ∧ containsType ts' n = true

/-- similar reader states; every registered structure has a type both type systems know -/
structure RSim (ts ts' : TypeSystem) (s s' : RState) : Prop where
  cas : s'.cas = s.cas
  heap : HeapSim s.heap s'.heap
  fss : s'.fss = s.fss
  deferred : s'.deferred = s.deferred
  maxId : s'.maxId = s.maxId
  maxNum : s'.maxNum = s.maxNum
  good : ∀ p ∈ s.fss, ∀ a, p.2 = .ref a → ∃ n, tyAt s.heap a = some n ∧ Good ts ts' n

theorem tyAt_of_ksame {hp hp1 : Heap} (h : Xmi.KSame hp hp1) {b : Nat} {n : String} (hb : tyAt hp b = some n) :
    tyAt hp1 b = some n := by
  unfold tyAt at hb ⊢
  obtain ⟨o, ho, rfl⟩ := Option.map_eq_some_iff.mp hb
  obtain ⟨o', ho', r⟩ := h.old b o ho
  rw [ho']
  exact congrArg some r.1

theorem resolveRefs_sim (rn : String → String) (fss : List (Int × Val)) (addr : Nat) :
    ∀ (l : List (String × JV)) (hp hp' : Heap) (d : List Deferred), HeapSim hp hp' →
      ESim (fun r r' => HeapSim r.1 r'.1 ∧ r'.2 = r.2)
        (resolveRefs rn fss addr l (hp, d)) (resolveRefs rn fss addr l (hp', d)) := by
  intro l
  induction l with
  | nil => intro hp hp' d h; exact ESim.ok ⟨h, rfl⟩
  | cons p rest ih =>
    intro hp hp' d h
    unfold resolveRefs
    dsimp only
    split
    · rename_i tv _
      exact ESim.cases (setSlot_sim h addr (rn (String.ofList (p.1.toList.drop 1))) tv)
        (fun e => ESim.err e) (fun x y _ _ hr => ih x y d hr)
    · exact ih hp hp' _ h

theorem convSlot_sim (conv : Offsets.Conv) (n : String) {hp hp' : Heap} (h : HeapSim hp hp') (a : Nat) :
    ESim HeapSim (Xmi.convSlot conv n hp a) (Xmi.convSlot conv n hp' a) := by
  unfold Xmi.convSlot Xmi.slot
  rw [h.slot a n]
  cases Traverse.slot hp a n with
  | none => exact ESim.err _
  | some v => exact setSlot_sim h a n _

theorem convertOffsets_sim (conv : Offsets.Conv) {hp hp' : Heap} (h : HeapSim hp hp') (a : Nat) :
    ESim HeapSim (Xmi.convertOffsets conv hp a) (Xmi.convertOffsets conv hp' a) := by
  rw [Xmi.convertOffsets_eq, Xmi.convertOffsets_eq]
  exact ESim.cases (convSlot_sim conv "begin" h a) (fun e => ESim.err e) fun _ _ _ _ hr => convSlot_sim conv "end" hr a

theorem parseFsWith_sim (K : Consts) {ts ts' : TypeSystem} {t t' : TypeRec} (hn : t'.name = t.name)
    (hf : ∀ x, x ∈ ctorFields t' ↔ x ∈ ctorFields t) (hg : Good ts ts' t.name) (isAnn : Bool) (tsIdx : Nat)
    {s s' : RState} (hs : RSim ts ts' s s') (j : JFs) :
    ESim (RSim ts ts') (parseFsWith K t isAnn tsIdx s j) (parseFsWith K t' isAnn tsIdx s' j) := by
  obtain ⟨c, h, f, d, m, n⟩ := s
  obtain ⟨c', h', f', d', m', n'⟩ := s'
  obtain ⟨e1, hh, e3, e4, e5, e6, hgood⟩ := hs
  dsimp only at e1 hh e3 e4 e5 e6 hgood
  subst e1 e3 e4 e5 e6
  unfold parseFsWith
  dsimp only
  rw [hh.1]
  cases j.id with
  | none => exact ESim.err _
  | some fsId =>
    dsimp only
    cases parseNums (j.feats.filter numP) with
    | error e => exact ESim.err _
    | ok nums =>
      dsimp only
      rw [elemArgs_name hn]
      split
      · exact ESim.err _
      · rename_i kwargs deferred0 hr
        clear hr
        refine ESim.cases (construct_sim hn hf tsIdx (some fsId) kwargs) (fun e => ESim.err e)
          (fun o o' h1 _ ho => ?_)
        · dsimp only
          have hoty : o.ty = t.name := (Cas.construct_ok h1).1
          refine ESim.cases (resolveRefs_sim renameReserved f' h.length (j.feats.filter refP)
              (h ++ [o]) (h' ++ [o']) deferred0 (hh.push ho)) (fun e => ESim.err e) ?_
          · rintro ⟨heap1, def1⟩ ⟨heap1', def1'⟩ h3 _ ⟨hx, hd⟩
            dsimp only at hx hd ⊢
            subst hd
            have hk1 : Xmi.KSame (h ++ [o]) heap1 := Ids.resolveRefs_ksame h3
            -- the final state, given the heap after the offset conversion
            have fin : ∀ (hp2 hp2' : Heap), HeapSim hp2 hp2' → Xmi.KSame heap1 hp2 →
                RSim ts ts'
                  { cas := c', heap := hp2, fss := setFs f' fsId (Val.ref h.length), deferred := def1',
                    maxId := max m' fsId, maxNum := n' }
                  { cas := c', heap := hp2', fss := setFs f' fsId (Val.ref h.length), deferred := def1',
                    maxId := max m' fsId, maxNum := n' } := by
              intro hp2 hp2' hsim hk2
              refine ⟨rfl, hsim, rfl, rfl, rfl, rfl, ?_⟩
              intro p hp a hpa
              dsimp only at hp ⊢
              suffices ∃ n, tyAt (h ++ [o]) a = some n ∧ Good ts ts' n from
                let ⟨n, hn1, hn2⟩ := this
                ⟨n, tyAt_of_ksame (hk1.trans hk2) hn1, hn2⟩
              rcases mem_setFs hp with hp | hp
              · obtain ⟨n, hn1, hn2⟩ := hgood p hp a hpa
                refine ⟨n, ?_, hn2⟩
                unfold tyAt at hn1 ⊢
                cases hha : h[a]? with
                | none => rw [hha] at hn1; cases hn1
                | some oa =>
                  have : a < h.length := by
                    rcases Nat.lt_or_ge a h.length with hlt | hge
                    · exact hlt
                    · rw [List.getElem?_eq_none hge] at hha; cases hha
                  rw [List.getElem?_append_left this, hha]
                  rw [hha] at hn1; exact hn1
              · subst hp
                dsimp only at hpa
                cases hpa
                refine ⟨t.name, ?_, hg⟩
                unfold tyAt
                rw [List.getElem?_append_right (Nat.le_refl _), Nat.sub_self]
                simp only [List.getElem?_cons_zero, Option.map_some, hoty]
            cases isAnn with
            | false => exact ESim.ok (fin heap1 heap1' hx (.refl _))
            | true =>
              simp only [convStep, if_true, Xmi.slot]
              rw [hx.slot h.length "sofa"]
              cases hsl : Traverse.slot heap1 h.length "sofa" with
              | none => exact ESim.err _
              | some w =>
                cases w with
                | sofa ci vn =>
                  dsimp only
                  cases hv : Cas.getViewRec c' vn with
                  | none => exact ESim.err _
                  | some view =>
                    dsimp only
                    exact ESim.cases (convertOffsets_sim view.sofa.conv hx h.length) (fun e => ESim.err e)
                      (fun z z' h5 _ hz => ESim.ok (fin z z' hz (Xmi.convertOffsets_ksame h5)))
                | _ => exact ESim.err _

theorem containsType_of_mem {ts : TypeSystem} {t : TypeRec} (h : t ∈ ts.types) : containsType ts t.name = true := by
  have : (find? ts t.name).isSome = true := by
    unfold find?
    rw [List.find?_isSome]
    exact ⟨t, h, by simp⟩
  obtain ⟨t0, ht0⟩ := Option.isSome_iff_exists.mp this
  exact containsType_of_find ht0

/-- type systems that agree on a name under `get_type` agree on it under the exact lookup of the reader: a type found by
    short name only has another name than the one asked for, in both -/
theorem typeAgree_exact {ts ts' : TypeSystem} {n : String} (ha : TypeAgree ts ts' n) :
    ESim (fun t t' => t'.name = t.name ∧ (∀ x, x ∈ ctorFields t' ↔ x ∈ ctorFields t) ∧
        isInstanceOf ts' t.name ANNOTATION = isInstanceOf ts t.name ANNOTATION)
      (getTypeExact ts n) (getTypeExact ts' n) := by
  unfold TypeAgree at ha
  have key : ∀ (a b : TypeSystem) (t t' : TypeRec), find? a n = some t → find? b n = none → getType b n = .ok t' →
      t'.name = t.name → False := by
    intro a b t t' h1 h2 h3 h4
    have hm := getType_mem h3
    have := List.find?_eq_none.mp h2 t' hm
    rw [h4, find?_name h1] at this
    simp at this
  cases hf : find? ts n with
  | none =>
    cases hf' : find? ts' n with
    | none => rw [getTypeExact_of_find_none hf, getTypeExact_of_find_none hf']; exact ESim.err _
    | some t' =>
      rw [getType_of_find hf'] at ha
      cases hg : getType ts n with
      | error e => rw [hg] at ha; exact ha.elim
      | ok t =>
        rw [hg] at ha
        exact (key ts' ts t' t hf' hf hg ha.1.symm).elim
  | some t =>
    cases hf' : find? ts' n with
    | none =>
      rw [getType_of_find hf] at ha
      cases hg : getType ts' n with
      | error e => rw [hg] at ha; exact ha.elim
      | ok t' =>
        rw [hg] at ha
        exact (key ts ts' t t' hf hf' hg ha.1).elim
    | some t' =>
      rw [getType_of_find hf, getType_of_find hf'] at ha
      rw [getTypeExact_of_find hf, getTypeExact_of_find hf']
      exact ha

theorem parseFs_sim (K : Consts) {ts ts' : TypeSystem} (tsIdx : Nat) {s s' : RState} (hs : RSim ts ts' s s') (j : JFs)
    (ha : TypeAgree ts ts' (fsTypeName j)) :
    ESim (RSim ts ts') (parseFs K ts tsIdx s j) (parseFs K ts' tsIdx s' j) := by
  rw [parseFs_eq, parseFs_eq]
  refine ESim.cases (typeAgree_exact ha) (fun e => ESim.err e) ?_
  · rintro t t' h1 h2 ⟨hn, hf, hi⟩
    dsimp only
    rw [hn, hi]
    have hg : Good ts ts' t.name :=
      ⟨containsType_of_mem (getTypeExact_mem h1), by rw [← hn]; exact containsType_of_mem (getTypeExact_mem h2)⟩
    exact parseFsWith_sim K hn hf hg _ tsIdx hs j

/-! ### the sofa of a view (`parseSofa` consults neither the type system nor the heap) and the two passes -/

theorem parseSofa_sim {ts ts' : TypeSystem} (ci : Nat) {s s' : RState} (hs : RSim ts ts' s s') (j : JFs) :
    ESim (RSim ts ts') (parseSofa ci s j) (parseSofa ci s' j) := by
  -- in the normal form `parseSofa_eq` the state enters through `cas`, `fss` and the two maxima, and the result is
  -- the state with these replaced: the two runs differ in the heap they carry along, and nowhere else
  rw [parseSofa_eq, parseSofa_eq, hs.cas, hs.fss]
  cases j.id with
  | none => exact ESim.err _
  | some fsId =>
    cases sofaIdOf j with
    | none => exact ESim.err _
    | some name =>
      dsimp only
      refine ESim.bind_same _ fun c1 => ?_
      unfold sofaTail
      repeat' refine ESim.bind_same _ fun _ => ?_
      rw [hs.fss, hs.maxId, hs.maxNum]
      refine ESim.ok ⟨rfl, hs.heap, rfl, hs.deferred, rfl, rfl, ?_⟩
      intro p hp a hpa
      rcases mem_setFs hp with hp | hp
      · exact hs.good p hp a hpa
      · subst hp; cases hpa

/-- the type systems agree on the type names of these feature structures -/
def AgreeOn (ts ts' : TypeSystem) (l : List JFs) : Prop := ∀ j ∈ l, TypeAgree ts ts' (fsTypeName j)

theorem parseById_sim (K : Consts) {ts ts' : TypeSystem} (tsIdx : Nat) (i : Int) (l : List JFs) (ha : AgreeOn ts ts' l) {s s' : RState}
    (hs : RSim ts ts' s s') : ESim (RSim ts ts') (parseById K ts tsIdx i l s) (parseById K ts' tsIdx i l s') := by
  rw [parseById_eq, parseById_eq]
  exact ESim.foldlM _ (fun j hj a b hr => parseFs_sim K tsIdx hr j (ha j (List.mem_filter.mp hj).1)) hs

theorem sofaPass_sim (K : Consts) {ts ts' : TypeSystem} (tsIdx ci : Nat) (all : List JFs) (hall : AgreeOn ts ts' all) (l : List JFs)
    {s s' : RState} (hs : RSim ts ts' s s') :
    ESim (RSim ts ts') (sofaPass K ts tsIdx ci all l s) (sofaPass K ts' tsIdx ci all l s') := by
  rw [sofaPass_eq, sofaPass_eq]
  refine ESim.foldlM _ (fun j _ a b hr => ?_) hs
  unfold sofaStep
  have pre : ESim (RSim ts ts') (sofaPre K ts tsIdx all a j) (sofaPre K ts' tsIdx all b j) := by
    unfold sofaPre
    rw [hr.fss]
    split
    · split
      · exact parseById_sim K tsIdx _ all hall hr
      · exact ESim.ok hr
    · exact ESim.ok hr
  exact ESim.cases pre (fun e => ESim.err e) (fun _ _ _ _ hr1 => parseSofa_sim ci hr1 j)

theorem fsPass_sim (K : Consts) {ts ts' : TypeSystem} (tsIdx : Nat) (l : List JFs) (ha : AgreeOn ts ts' l) {s s' : RState}
    (hs : RSim ts ts' s s') : ESim (RSim ts ts') (fsPass K ts tsIdx l s) (fsPass K ts' tsIdx l s') := by
  rw [fsPass_eq, fsPass_eq]
  exact ESim.foldlM _ (fun j hj a b hr => parseFs_sim K tsIdx hr j (ha j (List.mem_filter.mp hj).1)) hs

end Cassis.Json
