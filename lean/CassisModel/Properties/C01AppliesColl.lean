/-
C01, applicability of the end-to-end theorem with collections — a computable test for the hypotheses of
`xmi_roundtrip_coll` (`Properties/C01RoundTripColl.lean`).

`collAppliesB K ts cass ci hp` (`Spec/RoundTripCollCheck.lean`) is a Boolean function of the inputs of `saveXmi`: it runs
`saveXmi` and evaluates one Boolean checker per hypothesis of `xmi_roundtrip_coll`:

* `rtWfB`      — `RTWf c hp`,
* `nullOkB`    — `NullOk ts`,
* `collFsB`    — `CollFs K ts c ci st.heap a` for every collected structure (`Spec/RoundTripCollFrag.lean`),
* `disjointB`  — `hdis` (structure ids differ from sofa ids),
* `memSofaB`   — `hmem` (no indexed structure has `sofa = None`),
* `membersOkB` — `MembersOk c st.heap`.

Each checker is proved sound in `Proofs/RoundTripCheckSound.lean` / `Proofs/RoundTripCollCheckSound.lean`.  Hence, whenever
the compiled model answers `true` for a generated CAS, the round-trip theorem with collections applies to that CAS
(`collAppliesB_sound`).  Non-vacuity: `collDemo_applies` (`Proofs/RoundTripCollDemo.lean`) — the test answers `true`
(evaluated by the kernel) on the instance `CollDemo` of `Spec/RoundTripCollCheck.lean`.
-/
import CassisModel.Properties.C01RoundTripColl
import CassisModel.Proofs.RoundTripCollCheckSound
import CassisModel.Proofs.RoundTripCollDemo

namespace Cassis.Xmi
open Cassis.TS Cassis.Traverse

/-- whenever the Boolean test says so, the round-trip theorem applies: writing and reading back succeed and preserve
    the structures (ids, types, the content of every feature, inlined collections compared by their elements) and
    the views -/
theorem collAppliesB_sound (K : Consts) (ts : TypeSystem) (cass : List Cas) (ci : Nat) (hp : Heap) (tsIdx ci' : Nat)
    (h : collAppliesB K ts cass ci hp = true) :
    ∃ (c : Cas) (doc : XDoc) (st : Traverse.St) (p : Pass1) (ld : Loaded),
      cass[ci]? = some c ∧ saveXmi K ts cass ci hp = .ok (doc, st) ∧
      pass1 K ts tsIdx false doc { heap := st.heap } = .ok p ∧
      loadXmi K ts tsIdx ci' false st.heap doc = .ok ld ∧
      (∀ q ∈ st.allFs, ∃ (a' : Nat) (o o' : Obj), lookupFs p.fss q.1 = .ok a' ∧
          st.heap[q.2]? = some o ∧ ld.heap[a']? = some o' ∧ o'.ty = o.ty ∧ o'.xid = some q.1 ∧
          ∀ t : TypeRec, find? ts o.ty = some t → ∀ f ∈ allFeatures t,
            featContentC K ld.heap a' f = featContentC K st.heap q.2 f) ∧
      ld.cas.views.map (viewContent ld.heap) = c.views.map (viewContent st.heap) := by
  obtain ⟨c, doc, st, hc, hs, hwf, hn, hf, hd, hm, hmo⟩ := collAppliesB_hyps K ts cass ci hp h
  obtain ⟨p, ld, hp1, hl, _, hfs, hv, _⟩ :=
    xmi_roundtrip_coll K ts cass ci c hp tsIdx ci' doc st hc hwf hn hs hf hd hm hmo
  exact ⟨c, doc, st, p, ld, hc, hs, hp1, hl, hfs, hv⟩

/-- non-vacuity: the test answers `true` on an instance with inlined arrays of every primitive kind, an inlined
    FSArray, FSList, IntegerList, FloatList and StringList, and shared (multi) arrays and lists -/
example : collAppliesB CollDemo.K CollDemo.ts [CollDemo.cas] 0 CollDemo.hp = true := collDemo_applies

/-- the conclusion of the theorem holds for `CollDemo` -/
example : ∃ (doc : XDoc) (st : Traverse.St) (ld : Loaded),
    saveXmi CollDemo.K CollDemo.ts [CollDemo.cas] 0 CollDemo.hp = .ok (doc, st) ∧
    loadXmi CollDemo.K CollDemo.ts 0 1 false st.heap doc = .ok ld := by
  obtain ⟨_, doc, st, _, ld, _, hs, _, hl, _⟩ :=
    collAppliesB_sound CollDemo.K CollDemo.ts [CollDemo.cas] 0 CollDemo.hp 0 1 collDemo_applies
  exact ⟨doc, st, ld, hs, hl⟩

#eval collAppliesB CollDemo.K CollDemo.ts [CollDemo.cas] 0 CollDemo.hp

#print axioms xmi_roundtrip_coll
#print axioms collFs_of_flatFs
#print axioms collAppliesB_sound
#print axioms collDemo_applies

end Cassis.Xmi
