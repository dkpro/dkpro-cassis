/-
A frame for properties of sofas: a `P` that holds for a fresh sofa (`Fresh P`) and is kept by the sofa update at hand holds
of every sofa (`AllSofas P`) after every CAS operation (`AllSofas.createView`, `.updSofa`, `.add`, …) and after every effect
of a history step (`eff_allSofas`).  The instance for C03: the converter of a sofa with text belongs to the *current* text,
also after the text is replaced, since the setter recomputes the table (`setText_convIs`; along histories
`convIs_history`, `Properties/C03DocWrite.lean`).
-/
import CassisModel.Spec.OffsetsDoc
import CassisModel.Proofs.Cas

namespace Cassis.OffsetsDoc
open Cassis.Offsets Cassis.TS Cassis.Cas

def AllSofas (P : Sofa → Prop) (c : Cas) : Prop := ∀ nv ∈ c.views, P nv.2.sofa

variable {P : Sofa → Prop}

theorem AllSofas.get {c : Cas} (h : AllSofas P c) {n : String} {v : View} (hv : getViewRec c n = some v) : P v.sofa :=
  h (n, v) (alistGet?_mem _ _ _ hv)

theorem AllSofas.setViewRec {c : Cas} (h : AllSofas P c) (n : String) {v : View} (hv : P v.sofa) :
    AllSofas P (setViewRec c n v) := by
  intro nv hnv
  rcases mem_alistSet _ _ _ _ hnv with rfl | hnv
  · exact hv
  · exact h nv hnv

theorem AllSofas.of_views {c c' : Cas} (h : AllSofas P c) (hv : c'.views = c.views) : AllSofas P c' := by
  intro nv hnv; rw [hv] at hnv; exact h nv hnv

/-- a fresh sofa: no text, no converter -/
def Fresh (P : Sofa → Prop) : Prop := ∀ (n : String) (num x : Int), P { sofaID := n, sofaNum := num, xid := x }

theorem AllSofas.addView {c : Cas} (h : AllSofas P c) (hf : Fresh P) (name : String) (xid num : Option Int) :
    AllSofas P (addView c name xid num) := by
  unfold Cas.addView
  cases xid <;> cases num <;> exact AllSofas.setViewRec (h.of_views rfl) _ (hf _ _ _)

theorem allSofas_empty (hf : Fresh P) : AllSofas P Cas.empty := by
  unfold Cas.empty
  exact AllSofas.addView (fun nv hnv => by cases hnv) hf _ _ _

theorem AllSofas.createView {c c' : Cas} {h h' : Handle} {name : String} {xid num : Option Int}
    (ha : AllSofas P c) (hf : Fresh P) (hc : createView c h name xid num = .ok (c', h')) : AllSofas P c' := by
  unfold Cas.createView at hc
  split at hc
  · cases hc
  · cases hc
    exact ha.addView hf _ _ _

theorem AllSofas.updSofa {c c' : Cas} {h : Handle} {f : Sofa → Sofa} (ha : AllSofas P c)
    (hf : ∀ s, P s → P (f s)) (hu : updSofa c h f = .ok c') : AllSofas P c' := by
  obtain ⟨v, hv, rfl⟩ := updSofa_ok hu
  exact ha.setViewRec _ (hf _ (ha.get hv))

theorem AllSofas.add {ts : TypeSystem} {cas : Nat} {c c' : Cas} {hp hp' : Heap} {h : Handle} {addr : Nat} {keep : Bool}
    (ha : AllSofas P c) (hadd : Cas.add ts cas c hp h addr keep = .ok (c', hp')) : AllSofas P c' := by
  obtain ⟨o, v, x, nx', e, _, _, hv, _, _, rfl, _⟩ := add_cases hadd
  have hp : P v.sofa := ha.get hv
  exact (ha.of_views (c' := { c with nextXid := nx' }) rfl).setViewRec _ hp

theorem AllSofas.remove {c c' : Cas} {hp : Heap} {h : Handle} {addr : Nat}
    (ha : AllSofas P c) (hr : Cas.remove c hp h addr = .ok c') : AllSofas P c' := by
  obtain ⟨v, idx', hv, rfl⟩ := remove_ok hr
  have hp : P v.sofa := ha.get hv
  refine ha.setViewRec _ ?_
  exact hp

/-- the text setter establishes the strong form of "the converter belongs to the current text", whatever the sofa was; the
    weak form follows by `SofaConvIs.ok` -/
theorem setText_convIs (t : Option (List Nat)) (s : Sofa) :
    SofaConvIs { s with text := t, conv := createMapping s.conv t } := by
  intro t' ht'
  dsimp only at ht' ⊢
  subst ht'
  rfl

theorem SofaConvIs.ok {s : Sofa} (h : SofaConvIs s) : SofaConvOk s := fun t ht => Or.inl (h t ht)

theorem fresh_convIs : Fresh SofaConvIs := by
  intro n num x t ht; cases ht

theorem fresh_convOk : Fresh SofaConvOk := by
  intro n num x t ht; cases ht

theorem sofaStep_pres
    (htext : ∀ t s, P s → P { s with text := t, conv := createMapping s.conv t })
    (hmime : ∀ m s, P s → P { s with mime := m }) (huri : ∀ u s, P s → P { s with uri := u })
    (harr : ∀ a s, P s → P { s with arr := a }) {a b : Sofa} (h : SofaStep a b) (ha : P a) : P b := by
  cases h with
  | same => exact ha
  | text t => exact htext t _ ha
  | mime m => exact hmime m _ ha
  | uri u => exact huri u _ ha
  | arr v => exact harr v _ ha

theorem eff_allSofas (hfresh : Fresh P)
    (htext : ∀ t s, P s → P { s with text := t, conv := createMapping s.conv t })
    (hmime : ∀ m s, P s → P { s with mime := m }) (huri : ∀ u s, P s → P { s with uri := u })
    (harr : ∀ a s, P s → P { s with arr := a })
    {s s' : CState} (e : Eff s s') (h : AllSofas P s.cas) : AllSofas P s'.cas := by
  cases e with
  | view hd name _ _ =>
    intro nv hnv
    rcases List.mem_append.mp hnv with hnv | hnv
    · exact h nv hnv
    · rw [List.mem_singleton.mp hnv]; exact hfresh _ _ _
  | handle | alloc | keep => exact h
  | fresh => exact h.of_views rfl
  | setView n v v' hv hs => exact h.setViewRec n (sofaStep_pres htext hmime huri harr hs (h.get hv))

end Cassis.OffsetsDoc
