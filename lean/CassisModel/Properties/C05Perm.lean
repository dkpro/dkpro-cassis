/-
C05 — loading depends on what a document says, not on the order of its elements (XMI, flat fragment).

For a document written by `saveXmi` for a CAS in the flat fragment, *every permutation* of its elements (structures
before the structures they refer to or after them, sofas and views anywhere, the `cas:NULL` element anywhere) loads, and
loads to the same content: the same structures under the same ids and types with the same content of every feature, the
same views with the same sofa data and member ids (the initial view first, the other views in the order of their sofa
elements), generators reseeded.  Together with `xmi_roundtrip_flat` (the identity permutation) this is the XMI half of C05
for the element-order dimension; attribute order, prefixes, whitespace and escaping do not exist in the abstract documents
of the model (lxml's business) and are exercised per run through the independent writer.
-/
import CassisModel.Properties.C05PermColl
import CassisModel.Properties.C01RoundTripColl
import CassisModel.Proofs.RoundTripFlatOfColl
import CassisModel.Proofs.RoundTripDemo

namespace Cassis.Xmi
open Cassis.TS Cassis.Traverse

/-- **element-order independence of the XMI reader** -/
theorem xmi_load_perm_flat (K : Consts) (ts : TypeSystem) (cass : List Cas) (ci : Nat) (c : Cas) (hp : Heap)
    (tsIdx ci' : Nat) (doc doc' : XDoc) (st : St)
    (hc : cass[ci]? = some c) (hwf : RTWf c hp) (hnull : NullOk ts)
    (hsave : saveXmi K ts cass ci hp = .ok (doc, st))
    (hflat : ∀ q ∈ st.allFs, FlatFs K ts c ci st.heap q.2)
    (hdis : ∀ q ∈ st.allFs, ∀ nv ∈ c.views, q.1 ≠ nv.2.sofa.xid)
    (hmem : ∀ nv ∈ c.views, ∀ e ∈ Index.all nv.2.idx, slot st.heap e.oid "sofa" ≠ some .none)
    (hmok : MembersOk c st.heap)
    (hperm : doc'.Perm doc) :
    ∃ (p' : Pass1) (ld' : Loaded),
      pass1 K ts tsIdx false doc' { heap := st.heap } = .ok p' ∧
      loadXmi K ts tsIdx ci' false st.heap doc' = .ok ld' ∧
      -- the same structures under the same ids
      (p'.fss.map (·.1)).Perm (0 :: (sortById st.allFs).map (·.1)) ∧
      (∀ q ∈ st.allFs, ∃ (a' : Nat) (o o' : Obj), lookupFs p'.fss q.1 = .ok a' ∧
          st.heap[q.2]? = some o ∧ ld'.heap[a']? = some o' ∧ o'.ty = o.ty ∧ o'.xid = some q.1 ∧
          ∀ t : TypeRec, find? ts o.ty = some t → ∀ f ∈ allFeatures t,
            featContent ld'.heap a' f.name = featContent st.heap q.2 f.name) ∧
      -- the same views (the initial view first)
      (ld'.cas.views.map (viewContent ld'.heap)).Perm (c.views.map (viewContent st.heap)) ∧
      (ld'.cas.views.head?).map (·.1) = some Cas.INITIAL_VIEW ∧
      -- generators reseeded
      (∀ q ∈ st.allFs, q.1 < ld'.cas.nextXid) ∧
      (∀ nv ∈ c.views, nv.2.sofa.xid < ld'.cas.nextXid ∧ nv.2.sofa.sofaNum < ld'.cas.nextSofaNum) :=
  by
  -- the flat fragment is part of the whole format; there the deep content of a feature determines the flat one
  obtain ⟨p', ld', hp1, hload, hids, hcont, rest⟩ :=
    xmi_load_perm_coll K ts cass ci c hp tsIdx ci' doc doc' st hc hwf hnull hsave
      (fun q hq => collFs_of_flatFs K ts c ci st.heap q.2 (hflat q hq)) hdis hmem hmok hperm
  refine ⟨p', ld', hp1, hload, hids, fun q hq => ?_, rest⟩
  obtain ⟨a', o, o', hl, ho, ho', hty, hx, hc⟩ := hcont q hq
  exact ⟨a', o, o', hl, ho, ho', hty, hx, fun t ht f hf => flatFs_content (hflat q hq) ho ht hf (hc t ht f hf)⟩

/-! ### Non-vacuity

The instance `Demo` of `Proofs/InstancesFlat.lean` (type system with the annotation type `x.Tok`, a CAS over the text `a😀b`, two
`x.Tok` structures referring to each other, one of them indexed): all hypotheses hold (`Demo.demo_hyps`), and the written
document REVERSED (views before sofas before structures, the later structure before the earlier one it refers to, the
`cas:NULL` element last) is a permutation of it, so the theorem applies: the reversed document loads, to the same view
content. -/

example : ∃ (doc : XDoc) (st : St) (p' : Pass1) (ld' : Loaded),
    saveXmi Demo.K Demo.demoTS [Demo.demo.1] 0 Demo.demo.2 = .ok (doc, st) ∧
    doc.reverse.Perm doc ∧
    pass1 Demo.K Demo.demoTS 0 false doc.reverse { heap := st.heap } = .ok p' ∧
    loadXmi Demo.K Demo.demoTS 0 1 false st.heap doc.reverse = .ok ld' ∧
    (p'.fss.map (·.1)).Perm (0 :: (sortById st.allFs).map (·.1)) ∧
    (ld'.cas.views.map (viewContent ld'.heap)).Perm (Demo.demo.1.views.map (viewContent st.heap)) ∧
    (ld'.cas.views.head?).map (·.1) = some Cas.INITIAL_VIEW := by
  obtain ⟨doc, st, hs, hc, hwf, hn, hf, hd, hm, hmo⟩ := Demo.demo_hyps
  obtain ⟨p', ld', hp, hl, hids, _, hv, hh, _⟩ :=
    xmi_load_perm_flat Demo.K Demo.demoTS [Demo.demo.1] 0 Demo.demo.1 Demo.demo.2 0 1 doc doc.reverse st
      hc hwf hn hs hf hd hm hmo (List.reverse_perm doc)
  exact ⟨doc, st, p', ld', hs, List.reverse_perm doc, hp, hl, hids, hv, hh⟩

#print axioms xmi_load_perm_flat

end Cassis.Xmi
