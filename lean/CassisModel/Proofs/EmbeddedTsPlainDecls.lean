/-
The `%TYPES` writer and reader on declarations without feature names that start with `%` (`NoPercentNames`), for
`Properties/C02EmbeddedTs.lean`.

A `%TYPES` entry is ONE JSON object that holds the reserved members `%NAME`, `%SUPER_TYPE`, `%DESCRIPTION` and one member
per feature; the model follows the code there (`renderTypeDecl`, `renderTypeDecls`, `loadEmbeddedTs`): a feature named
`%NAME` makes the writer raise, features named `%SUPER_TYPE` / `%DESCRIPTION` replace those members, and the reader skips
every feature whose name starts with `%`.  Without such names none of this happens: the writer produces the plain
declaration `renderTypeDecl0` and the reader creates every declared feature.
-/
import CassisModel.Spec.EmbeddedTs

namespace Cassis.Json
open Cassis.TS

/-- the declaration of a type none of whose features has a name that starts with `%` -/
def renderTypeDecl0 (K : Consts) (t : TypeRec) : JType :=
  { name := t.name, super := t.super.getD "",
    descr := match t.descr with | some "" => none | d => d,
    feats := t.own.map (renderFeatDecl K) }

theorem sw_pct_dropLast (s : String) (h : s.startsWith "%" = false) :
    (String.ofList s.toList.dropLast).startsWith "%" = false := by
  simp at h ⊢
  cases hk : s.toList with
  | nil => simp
  | cons c r =>
    rw [hk] at h
    cases r with
    | nil => simp
    | cons d r' => simp at h ⊢; exact h

theorem featDecl_name_noPct (K : Consts) (f : Feature) (h : f.name.startsWith "%" = false) :
    (renderFeatDecl K f).name.startsWith "%" = false := by
  show (if f.reserved then String.ofList f.name.toList.dropLast else f.name).startsWith "%" = false
  split
  · exact sw_pct_dropLast _ h
  · exact h

theorem featDecls_noPct (K : Consts) (t : TypeRec) (h : ∀ f ∈ t.own, f.name.startsWith "%" = false) :
    ∀ jf ∈ t.own.map (renderFeatDecl K), jf.name.startsWith "%" = false := by
  intro jf hjf
  obtain ⟨f, hf, rfl⟩ := List.mem_map.mp hjf
  exact featDecl_name_noPct K f (h f hf)

theorem any_name_eq_false (l : List JFeat) (k : String) (hk : k.startsWith "%" = true)
    (h : ∀ f ∈ l, f.name.startsWith "%" = false) : l.any (fun f => f.name == k) = false := by
  rw [List.any_eq_false]
  intro f hf he
  have e : f.name = k := by simpa using he
  have h1 := h f hf
  rw [e, hk] at h1
  cases h1

theorem renderTypeDecl_eq0 (K : Consts) (t : TypeRec) (h : ∀ f ∈ t.own, f.name.startsWith "%" = false) :
    renderTypeDecl K t = renderTypeDecl0 K t := by
  have hn := featDecls_noPct K t h
  unfold renderTypeDecl renderTypeDecl0
  simp only [any_name_eq_false _ "%SUPER_TYPE" (by simp) hn, any_name_eq_false _ "%DESCRIPTION" (by simp) hn,
    Bool.false_eq_true, if_false]
  rfl

theorem renderTypeDecls_noPct (K : Consts) (l : List TypeRec)
    (h : ∀ t ∈ l, ∀ f ∈ t.own, f.name.startsWith "%" = false) :
    renderTypeDecls K l = .ok (l.map (renderTypeDecl0 K)) := by
  unfold renderTypeDecls
  have hany : l.any (fun t => t.own.any (fun f => (renderFeatDecl K f).name == "%NAME")) = false := by
    rw [List.any_eq_false]
    intro t ht hc
    have := any_name_eq_false _ "%NAME" (by simp) (featDecls_noPct K t (h t ht))
    rw [List.any_map] at this
    have hc' : (t.own.any ((fun f => f.name == "%NAME") ∘ renderFeatDecl K)) = true := hc
    rw [this] at hc'
    cases hc'
  rw [hany]
  simp only [Bool.false_eq_true, if_false]
  congr 1
  exact List.map_congr_left (fun t ht => renderTypeDecl_eq0 K t (h t ht))

theorem renderTypeDecl0_noPct (K : Consts) (l : List TypeRec)
    (h : ∀ t ∈ l, ∀ f ∈ t.own, f.name.startsWith "%" = false) :
    ∀ jt ∈ l.map (renderTypeDecl0 K), ∀ jf ∈ jt.feats, jf.name.startsWith "%" = false := by
  intro jt hjt
  obtain ⟨t, ht, rfl⟩ := List.mem_map.mp hjt
  exact featDecls_noPct K t (h t ht)

theorem filter_noPct (l : List JFeat) (h : ∀ jf ∈ l, jf.name.startsWith "%" = false) :
    l.filter (fun jf => !(jf.name.startsWith "%")) = l := by
  apply List.filter_eq_self.mpr
  intro jf hjf
  rw [h jf hjf]
  rfl

end Cassis.Json
