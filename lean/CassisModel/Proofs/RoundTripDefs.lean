/-
Shared definitions of the round-trip proofs: what the reader's three passes leave for a flat value, the relations
between the written heap and the loaded one.  The proofs about the whole format (`RoundTripCollDefs.lean`) extend them.

Notation used throughout the `RoundTrip*` files:
* `H`  — the heap that is written (`st.heap`, after id assignment);
* `n0` — the address of the `cas:NULL` object in the reader's heap: `H.length` when the document is read in the order it
  was written, any address in the statements about a permuted document (`Pass3Ctx.lean`);
* `L`  — the collected structures `(id, address in H)` in document order (`sortById st.allFs`);
* `na` — the new address of the structure with a given id (`lookupFs p.fss id = .ok (na id)`);
* `cass`, `ci'` — the CASes of the written state (a value `.sofa ci vn` names one by its index), and the index of the CAS
  that is being loaded; `hpX` — the reader's heap;
* `E o n v` — the value expected in slot `n` of the *new* object that stands for the old object `o`, when the old
  slot value is `v`; there is one such function per phase of the reader (`exp1` after `pass1`, `exp2` after
  `postAll`, `exp3` after `buildCas`).
-/
import CassisModel.Spec.RoundTrip
import CassisModel.Spec.XmiDoc
import CassisModel.Proofs.Basic
import CassisModel.Proofs.Heap
import CassisModel.Proofs.RoundTripFrag
import CassisModel.Proofs.Lists

namespace Cassis.Xmi
open Cassis.TS Cassis.Traverse Cassis.Lex

theorem isIntRange_cases {r : String} (h : isIntRange r = true) :
    r = "uima.cas.Integer" ∨ r = "uima.cas.Short" ∨ r = "uima.cas.Long" ∨ r = "uima.cas.Byte" := by
  simpa only [isIntRange, Bool.or_eq_true, beq_iff_eq, or_assoc] using h

/-- the offset the writer puts into the document for the integer `i` held by slot `n` of `o` -/
def extInt (cass : List Cas) (isAnn : Bool) (o : Obj) (n : String) (i : Int) : Int :=
  if isAnn && (n == "begin" || n == "end") then
    match alistGet? o.slots "sofa" with
    | some (.sofa ci vn) =>
      match (cass[ci]?).bind (fun c => Cas.getViewRec c vn) with
      | some view => if i < 0 then i else (Offsets.pythonToExternal view.sofa.conv i.toNat : Nat)
      | none => i
    | _ => i
  else i

theorem extInt_mapped {cass : List Cas} {o : Obj} {n : String} {ci : Nat} {vn : String} {view : View}
    (hn : n = "begin" ∨ n = "end") (hs : alistGet? o.slots "sofa" = some (.sofa ci vn))
    (hv : (cass[ci]?).bind (fun c => Cas.getViewRec c vn) = some view) (i : Int) :
    extInt cass true o n i = if i < 0 then i else (Offsets.pythonToExternal view.sofa.conv i.toNat : Nat) := by
  unfold extInt
  rw [if_pos (by rcases hn with rfl | rfl <;> rfl), hs]
  dsimp only
  rw [hv]

theorem extInt_plain {cass : List Cas} {isAnn : Bool} {o : Obj} {n : String}
    (h : (isAnn && (n == "begin" || n == "end")) = false) (i : Int) : extInt cass isAnn o n i = i := by
  unfold extInt
  rw [if_neg (by rw [h]; exact Bool.false_ne_true)]

/-- the attribute value written for the slot value `v` of slot `n` (`none`: no attribute) -/
def flatTok (cass : List Cas) (H : Heap) (isAnn : Bool) (o : Obj) (n : String) (v : Val) : Option String :=
  match v with
  | .none => none
  | .sofa ci vn => ((cass[ci]?).bind (fun c => Cas.getViewRec c vn)).map (fun view => showInt view.sofa.xid)
  | .int i => some (showInt (extInt cass isAnn o n i))
  | .str s => some s
  | .bool b => some (showBool b)
  | .float t => some t
  | .ref b => (xidOf H b).map showInt
  | _ => none

def flatAttrs (cass : List Cas) (H : Heap) (isAnn : Bool) (o : Obj) : List Feature → List (String × String)
  | [] => []
  | f :: fs =>
    (match flatTok cass H isAnn o f.name ((alistGet? o.slots f.name).getD .none) with
     | some s => [(f.name, s)]
     | none => []) ++ flatAttrs cass H isAnn o fs

/-- slot value after `pass1`: the attribute string (the `sofa` attribute as an integer) -/
def exp1 (cass : List Cas) (H : Heap) (isAnn : Bool) (o : Obj) (n : String) (v : Val) : Val :=
  match v with
  | .none => .none
  | .sofa ci vn =>
    match (cass[ci]?).bind (fun c => Cas.getViewRec c vn) with
    | some view => .int view.sofa.xid
    | none => .none
  | .int i => .str (showInt (extInt cass isAnn o n i))
  | .str s => .str s
  | .bool b => .str (showBool b)
  | .float t => .str t
  | .ref b => match xidOf H b with | some x => .str (showInt x) | none => .none
  | _ => .none

/-- slot value after `postAll`: typed again, references resolved to new addresses, offsets still external -/
def exp2 (cass : List Cas) (H : Heap) (na : Int → Nat) (ci' : Nat) (isAnn : Bool) (o : Obj) (n : String) (v : Val) : Val :=
  match v with
  | .none => .none
  | .sofa _ vn => .sofa ci' vn
  | .int i => .int (extInt cass isAnn o n i)
  | .str s => .str s
  | .bool b => .bool b
  | .float t => .float t
  | .ref b => match xidOf H b with | some x => .ref (na x) | none => .none
  | _ => .none

/-- slot value after `buildCas`: offsets internal again -/
def exp3 (H : Heap) (na : Int → Nat) (ci' : Nat) (v : Val) : Val :=
  match v with
  | .none => .none
  | .sofa _ vn => .sofa ci' vn
  | .int i => .int i
  | .str s => .str s
  | .bool b => .bool b
  | .float t => .float t
  | .ref b => match xidOf H b with | some x => .ref (na x) | none => .none
  | _ => .none

def E1 (ts : TypeSystem) (cass : List Cas) (H : Heap) (o : Obj) : String → Val → Val :=
  exp1 cass H (isInstanceOf ts o.ty ANNOTATION) o
def E2 (ts : TypeSystem) (cass : List Cas) (H : Heap) (na : Int → Nat) (ci' : Nat) (o : Obj) : String → Val → Val :=
  exp2 cass H na ci' (isInstanceOf ts o.ty ANNOTATION) o
def E3 (H : Heap) (na : Int → Nat) (ci' : Nat) (_o : Obj) : String → Val → Val :=
  fun _ v => exp3 H na ci' v

/-- the new object `o'` stands for the old object `o` with id `x`: same type, id `x`, same slot names, and every
    slot holds the expected value -/
def ObjRel (E : String → Val → Val) (o o' : Obj) (x : Int) : Prop :=
  o'.ty = o.ty ∧ o'.xid = some x ∧ o'.slots.map (·.1) = o.slots.map (·.1) ∧
  ∀ (n : String) (v : Val), alistGet? o.slots n = some v → alistGet? o'.slots n = some (E n v)

/-- every collected structure has its counterpart at its new address -/
def HeapRel (H : Heap) (L : List (Int × Nat)) (na : Int → Nat) (E : Obj → String → Val → Val) (hpX : Heap) : Prop :=
  ∀ q ∈ L, ∃ (o o' : Obj), H[q.2]? = some o ∧ hpX[na q.1]? = some o' ∧ ObjRel (E o) o o' q.1

theorem ObjRel.slot {E : String → Val → Val} {o o' : Obj} {x : Int} (h : ObjRel E o o' x) (n : String) :
    alistGet? o'.slots n = (alistGet? o.slots n).map (E n) := by
  cases hv : alistGet? o.slots n with
  | some v => exact h.2.2.2 n v hv
  | none =>
    have : alistGet? o'.slots n = none := by
      rw [alistGet?_eq_none_iff] at hv ⊢
      rw [h.2.2.1]; exact hv
    rw [this]; rfl

section
variable {H hpX : Heap} {L : List (Int × Nat)} {na : Int → Nat} {E : Obj → String → Val → Val}

theorem HeapRel.xid (hrel : HeapRel H L na E hpX) {q : Int × Nat} (hq : q ∈ L) : xidOf hpX (na q.1) = some q.1 := by
  obtain ⟨_, o', _, ho', _, hx, _⟩ := hrel q hq
  exact (xidOf_eq ho').trans hx

theorem HeapRel.slot (hrel : HeapRel H L na E hpX) {q : Int × Nat} (hq : q ∈ L) {o : Obj} (ho : H[q.2]? = some o)
    (n : String) : Traverse.slot hpX (na q.1) n = (alistGet? o.slots n).map (E o n) := by
  obtain ⟨o1, o', ho1, ho', hr⟩ := hrel q hq
  cases ho.symm.trans ho1
  rw [Traverse.slot_eq ho']
  exact hr.slot n

/-- new addresses are pairwise different: the loaded structures carry the ids of the written ones -/
theorem HeapRel.na_inj (hrel : HeapRel H L na E hpX) {q q' : Int × Nat} (hq : q ∈ L) (hq' : q' ∈ L)
    (e : na q.1 = na q'.1) : q.1 = q'.1 := by
  have h := hrel.xid hq
  rw [e, hrel.xid hq'] at h
  exact (Option.some.inj h).symm

end

/-! ### the frame of the object relations

`ObjRel` fixes the slot values by a function; during the passes a slot is only known to be in some relation to the old
value (`Slot1`, `Slot2`, `Pass3.SlotOk`).  `ObjRelS S` is the common frame; a step that writes one slot is `ObjRelS.step`. -/

/-- `o2` is `o1` with slot `n` holding `w` -/
def SetR (n : String) (w : Val) (o1 o2 : Obj) : Prop :=
  o2.ty = o1.ty ∧ o2.xid = o1.xid ∧ o2.slots.map (·.1) = o1.slots.map (·.1) ∧ alistGet? o2.slots n = some w ∧
    ∀ m, m ≠ n → alistGet? o2.slots m = alistGet? o1.slots m

theorem SetR.same {n : String} {w : Val} {o : Obj} (h : alistGet? o.slots n = some w) : SetR n w o o :=
  ⟨rfl, rfl, rfl, h, fun _ _ => rfl⟩

theorem SetR.alistSet {n : String} {u : Val} (w : Val) {o : Obj} (h : alistGet? o.slots n = some u) :
    SetR n w o { o with slots := alistSet o.slots n w } :=
  ⟨rfl, rfl, alistSet_keys_of_mem _ _ _ (alistGet?_mem_keys _ _ _ h), alistGet?_set_same _ _ _,
    fun _ hm => alistGet?_set_other _ _ _ _ hm⟩

/-- `o'` has the type and the slot names of `o` and the id `x`, and the values of each slot are related by `S` -/
def ObjRelS (S : String → Val → Val → Prop) (o o' : Obj) (x : Int) : Prop :=
  o'.ty = o.ty ∧ o'.xid = some x ∧ o'.slots.map (·.1) = o.slots.map (·.1) ∧
  ∀ (n : String) (v : Val), alistGet? o.slots n = some v → ∃ w, alistGet? o'.slots n = some w ∧ S n v w

theorem ObjRel.iffS {E : String → Val → Val} {o o' : Obj} {x : Int} :
    ObjRel E o o' x ↔ ObjRelS (fun n v w => w = E n v) o o' x :=
  ⟨fun h => ⟨h.1, h.2.1, h.2.2.1, fun n v hv => ⟨_, h.2.2.2 n v hv, rfl⟩⟩,
   fun h => ⟨h.1, h.2.1, h.2.2.1, fun n v hv => let ⟨_, hw, e⟩ := h.2.2.2 n v hv; e ▸ hw⟩⟩

section
variable {S S' : String → Val → Val → Prop} {o o' o2 : Obj} {x : Int}

theorem ObjRelS.mono (h : ObjRelS S o o' x) (hS : ∀ n v w, alistGet? o.slots n = some v → S n v w → S' n v w) :
    ObjRelS S' o o' x :=
  ⟨h.1, h.2.1, h.2.2.1, fun n v hv => let ⟨w, hw, hs⟩ := h.2.2.2 n v hv; ⟨w, hw, hS n v w hv hs⟩⟩

theorem ObjRelS.isSome_iff (h : ObjRelS S o o' x) (n : String) :
    (alistGet? o'.slots n).isSome = true ↔ (alistGet? o.slots n).isSome = true := by
  rw [alistGet?_isSome_iff, alistGet?_isSome_iff, h.2.2.1]

theorem ObjRelS.none_iff (h : ObjRelS S o o' x) (n : String) :
    alistGet? o'.slots n = none ↔ alistGet? o.slots n = none := by
  rw [alistGet?_eq_none_iff, alistGet?_eq_none_iff, h.2.2.1]

/-- slot `k` of the new object is written: `S' k` has to hold of the new value, the other slots keep what `S` says -/
theorem ObjRelS.step (h : ObjRelS S o o' x) {k : String} {v w' : Val} (hv : alistGet? o.slots k = some v)
    (hset : SetR k w' o' o2) (hk : S' k v w') (hrest : ∀ n v w, n ≠ k → S n v w → S' n v w) : ObjRelS S' o o2 x := by
  refine ⟨hset.1.trans h.1, hset.2.1.trans h.2.1, hset.2.2.1.trans h.2.2.1, fun n v1 hv1 => ?_⟩
  by_cases hn : n = k
  · subst hn
    cases hv.symm.trans hv1
    exact ⟨w', hset.2.2.2.1, hk⟩
  · obtain ⟨w, hw, hs⟩ := h.2.2.2 n v1 hv1
    exact ⟨w, (hset.2.2.2.2 n hn).trans hw, hrest n v1 w hn hs⟩

theorem ObjRelS.set (h : ObjRelS S o o' x) {k : String} {v w' : Val} (hv : alistGet? o.slots k = some v)
    (hk : S' k v w') (hrest : ∀ n v w, n ≠ k → S n v w → S' n v w) :
    ObjRelS S' o { o' with slots := alistSet o'.slots k w' } x :=
  let ⟨_, hw, _⟩ := h.2.2.2 k v hv
  h.step hv (.alistSet w' hw) hk hrest

end

/-- every collected structure has its counterpart at its new address, related by `R` (`HeapRel` is the case
    `R o o' x := ObjRel (E o) o o' x`) -/
def HeapRelP (H : Heap) (L : List (Int × Nat)) (na : Int → Nat) (R : Obj → Obj → Int → Prop) (hpX : Heap) : Prop :=
  ∀ q ∈ L, ∃ (o o' : Obj), H[q.2]? = some o ∧ hpX[na q.1]? = some o' ∧ R o o' q.1

section
variable {H hp hp' : Heap} {L : List (Int × Nat)} {na : Int → Nat} {R R' : Obj → Obj → Int → Prop}

theorem HeapRelP.get (h : HeapRelP H L na R hp) {q : Int × Nat} (hq : q ∈ L) {o : Obj} (ho : H[q.2]? = some o) :
    ∃ o', hp[na q.1]? = some o' ∧ R o o' q.1 := by
  obtain ⟨o_, o', ho_, ho', hr⟩ := h q hq
  cases ho.symm.trans ho_
  exact ⟨o', ho', hr⟩

theorem HeapRelP.mono (h : HeapRelP H L na R hp)
    (hR : ∀ q ∈ L, ∀ o o', H[q.2]? = some o → R o o' q.1 → R' o o' q.1) : HeapRelP H L na R' hp := fun q hq =>
  let ⟨o, o', ho, ho', hr⟩ := h q hq
  ⟨o, o', ho, ho', hR q hq o o' ho hr⟩

/-- the object at one new address is replaced, the rest of the heap below its old length is as it was -/
theorem HeapRelP.step (hinj : ∀ q ∈ L, ∀ q' ∈ L, na q.1 = na q'.1 → q.1 = q'.1) (hnd : (L.map (·.1)).Nodup)
    (h : HeapRelP H L na R hp) {q0 : Int × Nat} (hq0 : q0 ∈ L) {o o1 : Obj}
    (ho : H[q0.2]? = some o) (ho1 : hp'[na q0.1]? = some o1) (h1 : R' o o1 q0.1)
    (hoth : ∀ b, b < hp.length → b ≠ na q0.1 → hp'[b]? = hp[b]?)
    (hR : ∀ q ∈ L, q.1 ≠ q0.1 → ∀ o o', R o o' q.1 → R' o o' q.1) : HeapRelP H L na R' hp' := by
  intro q hq
  by_cases hqm : q.1 = q0.1
  · cases Det.inj_of_nodup_map (·.1) _ hnd hq hq0 hqm
    exact ⟨o, o1, ho, ho1, h1⟩
  · obtain ⟨p, p', hp1, hp2, hr⟩ := h q hq
    refine ⟨p, p', hp1, ?_, hR q hq hqm p p' hr⟩
    rw [hoth _ (List.getElem?_eq_some_iff.mp hp2).1 fun e => hqm (hinj q hq q0 hq0 e)]
    exact hp2

end

/-- new addresses are pairwise distinct and lie behind the old heap and the `cas:NULL` object (at `n0`) -/
structure NaOk (n0 : Nat) (L : List (Int × Nat)) (na : Int → Nat) : Prop where
  inj : ∀ q ∈ L, ∀ q' ∈ L, na q.1 = na q'.1 → q.1 = q'.1
  gt : ∀ q ∈ L, n0 < na q.1

def psofaOf (nv : String × View) : PSofa :=
  { xid := nv.2.sofa.xid, num := nv.2.sofa.sofaNum, sofaID := nv.2.sofa.sofaID, mime := nv.2.sofa.mime,
    text := nv.2.sofa.text.map docText }

def pviewOf (H : Heap) (nv : String × View) : PView :=
  { sofa := nv.2.sofa.xid, members := sortInts ((Index.all nv.2.idx).filterMap (fun e => xidOf H e.oid)) }

/-- the state of the reader after the first pass over the written document -/
structure P1Spec (ts : TypeSystem) (cass : List Cas) (c : Cas) (H : Heap) (L : List (Int × Nat)) (na : Int → Nat)
    (p : Pass1) : Prop where
  fss : p.fss = (0, H.length) :: L.map (fun q => (q.1, na q.1))
  sofas : p.sofas = c.views.map (fun nv => (nv.2.sofa.xid, psofaOf nv))
  views : p.views = c.views.map (fun nv => (nv.2.sofa.xid, pviewOf H nv))
  lenient : p.lenientIds = []
  len : p.heap.length = H.length + 1 + L.length
  null : ∃ o0 : Obj, p.heap[H.length]? = some o0 ∧ o0.ty = NULL_T ∧ o0.xid = some 0 ∧ o0.slots = []
  rel : HeapRel H L na (E1 ts cass H) p.heap

/-- closure of the collected structures under references -/
def ClosedL (H : Heap) (L : List (Int × Nat)) : Prop :=
  ∀ q ∈ L, ∀ (o : Obj), H[q.2]? = some o → ∀ (n : String) (b : Nat), alistGet? o.slots n = some (.ref b) →
    ∃ x : Int, xidOf H b = some x ∧ (x, b) ∈ L

/-- what the round-trip proofs use of the collected structures of a flat CAS -/
structure LOk (K : Consts) (ts : TypeSystem) (c : Cas) (ci : Nat) (H : Heap) (L : List (Int × Nat)) : Prop where
  flat : ∀ q ∈ L, FlatFs K ts c ci H q.2
  ids : ∀ q ∈ L, xidOf H q.2 = some q.1 ∧ q.1 ≠ 0
  nodup : (L.map (·.1)).Nodup
  closed : ClosedL H L
  /-- every indexed structure is collected -/
  members : ∀ nv ∈ c.views, ∀ e ∈ Index.all nv.2.idx, ∃ x : Int, (x, e.oid) ∈ L

/-- a loaded view against the view that was written: same key, same sofa data; the converter is the one the reader
    builds from the document text; the index holds exactly the members, at their new addresses -/
def ViewRel (H : Heap) (na : Int → Nat) (nv nv' : String × View) : Prop :=
  nv'.1 = nv.1 ∧ nv'.2.sofa.sofaID = nv.2.sofa.sofaID ∧ nv'.2.sofa.xid = nv.2.sofa.xid ∧
  nv'.2.sofa.sofaNum = nv.2.sofa.sofaNum ∧ nv'.2.sofa.text = nv.2.sofa.text ∧ nv'.2.sofa.mime = nv.2.sofa.mime ∧
  nv'.2.sofa.conv = convOfText (nv.2.sofa.text.map docText) ∧
  ((Index.all nv'.2.idx).map (·.oid)).Perm ((pviewOf H nv).members.map na)

/-- the loaded CAS has the written views, in the same order -/
def ViewsRelL (H : Heap) (na : Int → Nat) : List (String × View) → List (String × View) → Prop
  | [], [] => True
  | nv :: r, nv' :: r' => ViewRel H na nv nv' ∧ ViewsRelL H na r r'
  | _, _ => False

def ViewsRel (H : Heap) (na : Int → Nat) (c c' : Cas) : Prop := ViewsRelL H na c.views c'.views

namespace RTB

def All2 {α β} (R : α → β → Prop) : List α → List β → Prop
  | [], [] => True
  | a :: as, b :: bs => R a b ∧ All2 R as bs
  | _, _ => False

theorem _root_.Cassis.Xmi.viewsRelL_iff_all2 {H : Heap} {na : Int → Nat} : ∀ {l l' : List (String × View)},
    ViewsRelL H na l l' ↔ All2 (ViewRel H na) l l'
  | [], [] | [], _ :: _ | _ :: _, [] => Iff.rfl
  | _ :: _, _ :: _ => and_congr_right fun _ => viewsRelL_iff_all2

theorem _root_.Cassis.Xmi.ViewsRelL.all2 {H : Heap} {na : Int → Nat} {l l' : List (String × View)} :
    ViewsRelL H na l l' → All2 (ViewRel H na) l l' := viewsRelL_iff_all2.mp

theorem All2.snoc {α β} {R : α → β → Prop} {a : α} {b : β} : ∀ {as : List α} {bs : List β},
    All2 R as bs → R a b → All2 R (as ++ [a]) (bs ++ [b])
  | [], [], _, h => ⟨h, trivial⟩
  | _ :: _, _ :: _, ⟨h1, h2⟩, h => ⟨h1, All2.snoc h2 h⟩
  | [], _ :: _, h', _ => h'.elim
  | _ :: _, [], h', _ => h'.elim

theorem All2.map_eq {α β γ} {R : α → β → Prop} {f : α → γ} {g : β → γ} : ∀ {as : List α} {bs : List β},
    All2 R as bs → (∀ a ∈ as, ∀ b, R a b → g b = f a) → bs.map g = as.map f
  | [], [], _, _ => rfl
  | a :: as, b :: bs, ⟨h1, h2⟩, h => by
    rw [List.map_cons, List.map_cons, h a List.mem_cons_self b h1,
      All2.map_eq h2 (fun a' ha' => h a' (List.mem_cons_of_mem _ ha'))]
  | [], _ :: _, h', _ => h'.elim
  | _ :: _, [], h', _ => h'.elim

theorem All2.append_inv {α β} {R : α → β → Prop} : ∀ {as1 as2 : List α} {bs : List β}, All2 R (as1 ++ as2) bs →
    ∃ bs1 bs2, bs = bs1 ++ bs2 ∧ All2 R as1 bs1 ∧ All2 R as2 bs2
  | [], _, bs, h => ⟨[], bs, rfl, trivial, h⟩
  | _ :: _, _, [], h => h.elim
  | a :: as1, as2, b :: bs, h => by
    obtain ⟨h1, h2⟩ := h
    obtain ⟨bs1, bs2, e, g1, g2⟩ := All2.append_inv (as1 := as1) h2
    exact ⟨b :: bs1, bs2, by rw [e]; rfl, ⟨h1, g1⟩, g2⟩

theorem All2.append {α β} {R : α → β → Prop} : ∀ {as1 as2 : List α} {bs1 bs2 : List β}, All2 R as1 bs1 →
    All2 R as2 bs2 → All2 R (as1 ++ as2) (bs1 ++ bs2)
  | [], _, [], _, _, h => h
  | [], _, _ :: _, _, h', _ => h'.elim
  | _ :: _, _, [], _, h', _ => h'.elim
  | _ :: _, _, _ :: _, _, ⟨h1, h2⟩, h => ⟨h1, All2.append h2 h⟩

theorem All2.imp_mem {α β} {R S : α → β → Prop} : ∀ {as : List α} {bs : List β}, All2 R as bs →
    (∀ a ∈ as, ∀ b, R a b → S a b) → All2 S as bs
  | [], [], _, _ => trivial
  | [], _ :: _, h', _ => h'.elim
  | _ :: _, [], h', _ => h'.elim
  | a :: _, b :: _, ⟨h1, h2⟩, h =>
    ⟨h a List.mem_cons_self b h1, All2.imp_mem h2 (fun a' ha' => h a' (List.mem_cons_of_mem _ ha'))⟩

theorem All2.fwd {α β} {R : α → β → Prop} : ∀ {as : List α} {bs : List β}, All2 R as bs → ∀ a ∈ as, ∃ b ∈ bs, R a b
  | [], [], _, _, h => nomatch h
  | [], _ :: _, h, _, _ => h.elim
  | _ :: _, [], h, _, _ => h.elim
  | _ :: _, b :: _, ⟨h1, h2⟩, a, hm => by
    rcases List.mem_cons.mp hm with rfl | hm
    · exact ⟨b, List.mem_cons_self, h1⟩
    · obtain ⟨b', hm', hr⟩ := All2.fwd h2 a hm
      exact ⟨b', List.mem_cons_of_mem _ hm', hr⟩

theorem All2.bwd {α β} {R : α → β → Prop} : ∀ {as : List α} {bs : List β}, All2 R as bs → ∀ b ∈ bs, ∃ a ∈ as, R a b
  | [], [], _, _, h => nomatch h
  | [], _ :: _, h, _, _ => h.elim
  | _ :: _, [], h, _, _ => h.elim
  | a :: _, _ :: _, ⟨h1, h2⟩, b, hm => by
    rcases List.mem_cons.mp hm with rfl | hm
    · exact ⟨a, List.mem_cons_self, h1⟩
    · obtain ⟨a', hm', hr⟩ := All2.bwd h2 b hm
      exact ⟨a', List.mem_cons_of_mem _ hm', hr⟩

/-- related association lists with the same keys answer the same lookups -/
theorem All2.get {β γ} {R : String × β → String × γ → Prop} (hk : ∀ a b, R a b → b.1 = a.1) :
    ∀ {l : List (String × β)} {l' : List (String × γ)}, All2 R l l' → ∀ (k : String) (v : β), alistGet? l k = some v →
      ∃ v', alistGet? l' k = some v' ∧ R (k, v) (k, v')
  | [], _, _, _, _, h => by simp [alistGet?] at h
  | _ :: _, [], hr, _, _, _ => hr.elim
  | (k0, w) :: _, (k0', w') :: _, ⟨h1, h2⟩, k, v, h => by
    have e : k0' = k0 := hk _ _ h1
    subst e
    unfold alistGet? at h ⊢
    by_cases hkn : k0' = k
    · rw [if_pos hkn] at h ⊢
      cases h; subst hkn
      exact ⟨w', rfl, h1⟩
    · rw [if_neg hkn] at h ⊢
      exact All2.get hk h2 k v h

end RTB

theorem RTWf.views_cons {c : Cas} {hp : Heap} (hwf : RTWf c hp) :
    ∃ (iv : String × View) (rest : List (String × View)), c.views = iv :: rest ∧ iv.1 = Cas.INITIAL_VIEW := by
  have := hwf.init_first
  cases hv : c.views with
  | nil => rw [hv] at this; cases this
  | cons iv rest =>
    rw [hv] at this
    exact ⟨iv, rest, rfl, Option.some.inj this⟩

/-- position of the id `x` in the collected structures -/
def posOf (x : Int) : List (Int × Nat) → Nat
  | [] => 0
  | q :: L => if q.1 = x then 0 else posOf x L + 1

/-- the entries the first pass appends to the id table, the first new object sitting at address `n` -/
def addrsFrom : Nat → List (Int × Nat) → List (Int × Nat)
  | _, [] => []
  | n, q :: L => (q.1, n) :: addrsFrom (n + 1) L

theorem posOf_inj : ∀ (L : List (Int × Nat)) (x y : Int), x ∈ L.map (·.1) → y ∈ L.map (·.1) →
    posOf x L = posOf y L → x = y
  | [], _, _, hx, _, _ => by cases hx
  | q :: L, x, y, hx, hy, h => by
    unfold posOf at h
    by_cases h1 : q.1 = x <;> by_cases h2 : q.1 = y
    · rw [← h1, ← h2]
    · rw [if_pos h1, if_neg h2] at h; omega
    · rw [if_neg h1, if_pos h2] at h; omega
    · rw [if_neg h1, if_neg h2] at h
      rw [List.map_cons, List.mem_cons] at hx hy
      have hx' : x ∈ L.map (·.1) := by
        rcases hx with hx | hx
        · exact absurd hx.symm h1
        · exact hx
      have hy' : y ∈ L.map (·.1) := by
        rcases hy with hy | hy
        · exact absurd hy.symm h2
        · exact hy
      exact posOf_inj L x y hx' hy' (by omega)

theorem addrsFrom_keys : ∀ (L : List (Int × Nat)) (n : Nat), (addrsFrom n L).map (·.1) = L.map (·.1)
  | [], _ => rfl
  | q :: L, n => by rw [addrsFrom, List.map_cons, List.map_cons, addrsFrom_keys L (n + 1)]

def Trip (P : Int × Nat → XElem → Obj → Prop) : List (Int × Nat) → List XElem → List Obj → Prop
  | [], [], [] => True
  | q :: L, e :: es, o :: objs => P q e o ∧ Trip P L es objs
  | _, _, _ => False

theorem Trip.length {P : Int × Nat → XElem → Obj → Prop} : ∀ {L : List (Int × Nat)} {es : List XElem} {objs : List Obj},
    Trip P L es objs → objs.length = L.length
  | [], [], [], _ => rfl
  | _ :: L, _ :: es, _ :: objs, h => by
    rw [List.length_cons, List.length_cons, Trip.length (L := L) (es := es) (objs := objs) h.2]
  | [], [], _ :: _, h | [], _ :: _, _, h | _ :: _, [], _, h | _ :: _, _ :: _, [], h => h.elim

end Cassis.Xmi
