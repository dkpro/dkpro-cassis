/-
The statement of `Properties/C02EmbeddedTs.lean` without the hypothesis `Writable` (`UserOnlyNoDoc` only) is false
(`json_full_ts_same_needs_writable` there); here the instance it is refuted on, the history `create_type("x.A", "uima.cas.TOP", description="")`.  The document is written (evaluated by
the kernel), its `%TYPES` section is the single declaration of `x.A` without a description, and every type system the
reader can build from it gives `x.A` the description `None` — the original has `""`.

(`toposort` is evaluated by rewriting with `toposort_go_step1`; the rest through `loadTs_afterMerge`.  The instance and
what is evaluated on it stand in `Proofs/InstancesEmb.lean`.)
-/
import CassisModel.Proofs.InstancesEmb

namespace Cassis.Json
open Cassis.TS

theorem cex_toposort : toposort cexTypes = .ok ["uima.cas.TOP", "x.A"] := by
  unfold toposort
  simp only []
  rw [toposort_go_step1 _ _ 2 _ _ "uima.cas.TOP" (by decide) (by decide) (by decide)]
  rw [toposort_go_step1 _ _ 1 _ _ "x.A" (by decide) (by decide) (by decide)]
  rfl

/-- whatever the reader builds from the document gives `x.A` no description -/
theorem cex_load (doc : JDoc) (hdoc : doc.types = some cexTypes) (ts' : TypeSystem)
    (h : loadTs Gen.consts Gen.builtinTS true doc = .ok ts') :
    (find? ts' "x.A").bind (·.descr) = none := by
  have hnp : ∀ jt ∈ cexTypes, ∀ jf ∈ jt.feats, jf.name.startsWith "%" = false := by
    intro jt hjt jf hjf
    simp only [cexTypes, List.mem_singleton] at hjt
    subst hjt
    cases hjf
  simpa using loadTs_afterMerge _ _ _ _ (by decide) hnp cex_toposort cex_evals.loadedDescrNone doc hdoc ts' h

end Cassis.Json
