/-
C20 — `cas_to_comparable_text` is invariant under the JSON round trip, on the whole format (arrays and lists included).

`render_json_roundtrip_coll` extends `render_json_roundtrip_flat` (`Properties/C20Iso.lean`) from the flat fragment to the
fragment `JCollFs` of `json_roundtrip_coll` (`Properties/C02RoundTripColl.lean`): structures with array and list features,
inlined or shared; null elements of FSArrays, `""` next to null in string arrays, empty inlined lists, … (everything the
JSON fragment admits beyond the XMI fragment).  For such a CAS,

    cas_to_comparable_text(load_cas_from_json(cas.to_json())) = cas_to_comparable_text(cas)

— `render` of the loaded CAS (its own traversal of the loaded heap included) and `render` of the original give the same
table, or fail with the same exception (a cyclic nesting of arrays: `RecursionError` on both sides).

Hypotheses: those of `json_roundtrip_coll`, and the side condition `Distinct` of C20 — stated for what
`cas_to_comparable_text` itself collects from the original: its traversal runs with the default options
(`include_inlinable_arrays_and_lists=False`, result `std`), whereas the JSON writer traverses with
`include_inlinable_arrays_and_lists=True` (result `st`), collects every collection object as a structure of its own
(32 against 11 structures on the instance `CollDemo`) and assigns other ids.  `Distinct` on the writer's list would be
the wrong condition: it holds several list nodes of one type without offsets.

**No further hypothesis**: none of `InlOk` / `NodeTysNotArr` of the XMI theorem (`Properties/C20IsoColl.lean`) is needed —
JSON keeps `""` apart from null, writes every collection object with its type, and both references to a list node that is
inlined *and* shared lead to the same loaded node.  The statement is evaluated on `CollDemo` and 41 variations
(`Spec/ComparableIsoJsonCollCheck.lean`: null FSArray elements, empty lists, `""` in string arrays, shared/inlined
combinations, inlined "arrays" that are no array objects, pre-assigned ids on uncollected collection objects, two
views, cyclic structures): whenever the hypotheses of `json_roundtrip_coll` and `Distinct` hold the text is kept.

The hypothesis `hD` ("the default traversal of the original succeeds", the analogue of `hsave` of the XMI theorems, whose
`st` *is* that traversal) follows from the others for all constants that do not classify `uima.cas.FSList` as an array
type (`default_traversal_succeeds`; `render_json_roundtrip_coll_consts` is the theorem in that form).  For the remaining
(artificial) constants see the note at the end of the check file.
-/
import CassisModel.Proofs.ComparableIsoJsonColl
import CassisModel.Proofs.ComparableIsoJsonCollIso
import CassisModel.Proofs.ComparableIsoJsonCollDefTrav
import CassisModel.Proofs.ComparableIsoJsonCollDemo

namespace Cassis.Comparable
open Cassis.TS Cassis.Traverse Cassis.Xmi

/-- **the two traversals and the isomorphism**: the default traversal of the loaded CAS succeeds without touching the
    loaded heap; what the default traversal of the original collects is part of what the JSON writer collected; and the
    two default traversals collect isomorphic structures (`IsoR`: the semantic variant of `Iso`,
    `Proofs/ComparableIsoRel.lean`; `renderFrom_isoR` turns it into equal tables) -/
theorem json_roundtrip_coll_isoR' (K : Consts) (ts : TypeSystem) (cass : List Cas) (ci : Nat) (c : Cas) (hp : Heap)
    (tsIdx : Nat) (doc : Json.JDoc) (st std : St)
    (hc : cass[ci]? = some c) (hwf : RTWf c hp)
    (hsave : Json.saveJson K ts cass ci hp .none = .ok (doc, st))
    (hcoll : ∀ q ∈ st.allFs, Json.JCollFs K ts c ci st.heap q.2)
    (hids : ∀ nv ∈ c.views, ∀ e ∈ Index.all nv.2.idx, (xidOf hp e.oid).isSome = true)
    (hdis : ∀ q ∈ st.allFs, ∀ nv ∈ c.views, q.1 ≠ nv.2.sofa.xid)
    (hmem : ∀ nv ∈ c.views, ∀ e ∈ Index.all nv.2.idx, Xmi.slot st.heap e.oid "sofa" ≠ some .none)
    (hmok : MembersOk c st.heap)
    (hD : findAllFs K ts {} hp c.nextXid (defaultSeeds c) = .ok std) :
    ∃ (ld : Json.Loaded) (φ : Nat → Nat) (st' : St),
      Json.loadJson K ts tsIdx cass.length false false st.heap doc = .ok ld ∧
      findAllFs K ts {} ld.heap ld.cas.nextXid (defaultSeeds ld.cas) = .ok st' ∧ st'.heap = ld.heap ∧
      (∀ a ∈ std.allFs.map (·.2), ∃ q ∈ st.allFs, q.2 = a) ∧
      IsoR K cass (cass ++ [ld.cas]) std.heap ld.heap (defaultSeeds c) (defaultSeeds ld.cas)
        (std.allFs.map (·.2)) (st'.allFs.map (·.2)) φ := by
  obtain ⟨ld, hload, hnx, jw, sh, hv⟩ :=
    json_roundtrip_coll_jw K ts cass ci c hp tsIdx doc st hc hwf hsave hcoll hids hdis hmem hmok
  have X : DCtx K ts c ci hp st.heap (sortById st.allFs) cass.length ld.heap ld.cas std := ⟨jw, hwf, sh, hv, hD⟩
  obtain ⟨st', hfa', hheap, hperm⟩ := X.traversal hnx
  have hnd : (st'.allFs.map (·.2)).Nodup := (findAllFs_inv K ts {} ld.heap ld.cas.nextXid _ st' hfa').1.nodupA
  refine ⟨ld, _, st', hload, hfa', hheap, ?_,
    isoR_of_dctx X hc List.getElem?_concat_length (viewsSame_of_relJ hv) _ hnd hperm⟩
  intro a ha
  obtain ⟨q, hq, h2, _⟩ := inL_pair (X.sub ha)
  exact ⟨q, mem_sortById.mp hq, h2⟩

/-- **C20 across the JSON round trip (whole format)**: the comparable text of the loaded CAS is that of the original.
    `st` is what the JSON writer collected (the hypotheses of `json_roundtrip_coll` speak about it), `std` what the
    traversal of `cas_to_comparable_text` collects from the original (`Distinct` speaks about it).  The conclusion reads
    as in `render_xmi_roundtrip_flat` (`Properties/C20Iso.lean`). -/
theorem render_json_roundtrip_coll (K : Consts) (ts : TypeSystem) (cass : List Cas) (ci : Nat) (c : Cas) (hp : Heap)
    (tsIdx : Nat) (doc : Json.JDoc) (st std : St) (o : Opts) (hsh hsh' : Nat → Int)
    (hc : cass[ci]? = some c) (hwf : RTWf c hp)
    (hsave : Json.saveJson K ts cass ci hp .none = .ok (doc, st))
    (hcoll : ∀ q ∈ st.allFs, Json.JCollFs K ts c ci st.heap q.2)
    (hids : ∀ nv ∈ c.views, ∀ e ∈ Index.all nv.2.idx, (xidOf hp e.oid).isSome = true)
    (hdis : ∀ q ∈ st.allFs, ∀ nv ∈ c.views, q.1 ≠ nv.2.sofa.xid)
    (hmem : ∀ nv ∈ c.views, ∀ e ∈ Index.all nv.2.idx, Xmi.slot st.heap e.oid "sofa" ≠ some .none)
    (hmok : MembersOk c st.heap)
    (hD : findAllFs K ts {} hp c.nextXid (defaultSeeds c) = .ok std)
    (hd : Distinct std.heap (std.allFs.map (·.2))) :
    ∃ ld : Json.Loaded,
      Json.loadJson K ts tsIdx cass.length false false st.heap doc = .ok ld ∧
      (render K ts (cass ++ [ld.cas]) cass.length ld.heap o hsh' none).map (·.1)
        = (render K ts cass ci hp o hsh none).map (·.1) := by
  obtain ⟨ld, φ, st', hload, hfa', hheap, _, hiso⟩ :=
    json_roundtrip_coll_isoR' K ts cass ci c hp tsIdx doc st std hc hwf hsave hcoll hids hdis hmem hmok hD
  exact ⟨ld, hload, render_eq_of_isoR o hsh hsh' hc List.getElem?_concat_length hD hfa' (hheap ▸ hiso) hd⟩

/-- **the default traversal of the original succeeds** under the hypotheses of `json_roundtrip_coll`, for constants that
    do not classify `uima.cas.FSList` as an array type (true for the generated constants): `hD` is not a restriction -/
theorem default_traversal_succeeds (K : Consts) (ts : TypeSystem) (cass : List Cas) (ci : Nat) (c : Cas) (hp : Heap)
    (doc : Json.JDoc) (st : St)
    (hc : cass[ci]? = some c) (hwf : RTWf c hp)
    (hsave : Json.saveJson K ts cass ci hp .none = .ok (doc, st))
    (hcoll : ∀ q ∈ st.allFs, Json.JCollFs K ts c ci st.heap q.2)
    (hids : ∀ nv ∈ c.views, ∀ e ∈ Index.all nv.2.idx, (xidOf hp e.oid).isSome = true)
    (hdis : ∀ q ∈ st.allFs, ∀ nv ∈ c.views, q.1 ≠ nv.2.sofa.xid)
    (hmem : ∀ nv ∈ c.views, ∀ e ∈ Index.all nv.2.idx, Xmi.slot st.heap e.oid "sofa" ≠ some .none)
    (hmok : MembersOk c st.heap)
    (hK : isArray K FS_LIST = false) :
    ∃ std : St, findAllFs K ts {} hp c.nextXid (defaultSeeds c) = .ok std := by
  obtain ⟨ld, _, _, jw, sh, _⟩ :=
    json_roundtrip_coll_jw K ts cass ci c hp 0 doc st hc hwf hsave hcoll hids hdis hmem hmok
  exact default_traversal_succeeds_of_jw hK jw hwf sh

/-- the theorem for such constants: the hypotheses of `json_roundtrip_coll`, and `Distinct` on whatever the default
    traversal of the original collects -/
theorem render_json_roundtrip_coll_consts (K : Consts) (ts : TypeSystem) (cass : List Cas) (ci : Nat) (c : Cas)
    (hp : Heap) (tsIdx : Nat) (doc : Json.JDoc) (st : St) (o : Opts) (hsh hsh' : Nat → Int)
    (hc : cass[ci]? = some c) (hwf : RTWf c hp)
    (hsave : Json.saveJson K ts cass ci hp .none = .ok (doc, st))
    (hcoll : ∀ q ∈ st.allFs, Json.JCollFs K ts c ci st.heap q.2)
    (hids : ∀ nv ∈ c.views, ∀ e ∈ Index.all nv.2.idx, (xidOf hp e.oid).isSome = true)
    (hdis : ∀ q ∈ st.allFs, ∀ nv ∈ c.views, q.1 ≠ nv.2.sofa.xid)
    (hmem : ∀ nv ∈ c.views, ∀ e ∈ Index.all nv.2.idx, Xmi.slot st.heap e.oid "sofa" ≠ some .none)
    (hmok : MembersOk c st.heap)
    (hK : isArray K FS_LIST = false)
    (hd : ∀ std : St, findAllFs K ts {} hp c.nextXid (defaultSeeds c) = .ok std →
      Distinct std.heap (std.allFs.map (·.2))) :
    ∃ ld : Json.Loaded,
      Json.loadJson K ts tsIdx cass.length false false st.heap doc = .ok ld ∧
      (render K ts (cass ++ [ld.cas]) cass.length ld.heap o hsh' none).map (·.1)
        = (render K ts cass ci hp o hsh none).map (·.1) := by
  obtain ⟨std, hD⟩ := default_traversal_succeeds K ts cass ci c hp doc st hc hwf hsave hcoll hids hdis hmem hmok hK
  exact render_json_roundtrip_coll K ts cass ci c hp tsIdx doc st std o hsh hsh' hc hwf hsave hcoll hids hdis hmem hmok
    hD (hd std hD)

/-- whenever the Boolean test says so, the comparable text survives the JSON round trip -/
theorem renderJsonCollAppliesB_sound (K : Consts) (ts : TypeSystem) (cass : List Cas) (ci : Nat) (hp : Heap) (tsIdx : Nat)
    (o : Opts) (hsh hsh' : Nat → Int) (h : renderJsonCollAppliesB K ts cass ci hp = true) :
    ∃ (doc : Json.JDoc) (st : St) (ld : Json.Loaded),
      Json.saveJson K ts cass ci hp .none = .ok (doc, st) ∧
      Json.loadJson K ts tsIdx cass.length false false st.heap doc = .ok ld ∧
      (render K ts (cass ++ [ld.cas]) cass.length ld.heap o hsh' none).map (·.1)
        = (render K ts cass ci hp o hsh none).map (·.1) := by
  obtain ⟨c, doc, st, std, hc, hs, hwf, hf, hi, hdi, hm, hmo, hD, hd⟩ := renderJsonCollAppliesB_hyps K ts cass ci hp h
  obtain ⟨ld, hl, hr⟩ :=
    render_json_roundtrip_coll K ts cass ci c hp tsIdx doc st std o hsh hsh' hc hwf hs hf hi hdi hm hmo hD hd
  exact ⟨doc, st, ld, hs, hl, hr⟩

/-! ### Non-vacuity

`CollDemo` (`Spec/RoundTripCollCheck.lean`): type `x.Doc` with one feature per collection kind — seven primitive array
types, StringArray (with the elements `""` and null), FSArray, FSList, IntegerList, FloatList, StringList inlined; FSArray,
IntegerArray, StringArray, FSList, IntegerList, StringList shared —, text `a😀b`, two structures referring to each other,
one of them indexed.  The JSON writer collects 32 structures, the default traversal 11.  `IsoJsonCollCheck.rich` has null
elements in both FSArrays and an empty inlined StringList besides — outside the hypotheses of the XMI theorem.  Every
hypothesis holds on both (`jsonCollDemo_applies`, `jsonCollRich_applies`, checked by the kernel). -/

/-- all hypotheses of `render_json_roundtrip_coll` hold on the instance `rich` -/
example : ∃ (doc : Json.JDoc) (st std : St),
    Json.saveJson CollDemo.K CollDemo.ts [CollDemo.cas] 0 IsoJsonCollCheck.rich .none = .ok (doc, st) ∧
    RTWf CollDemo.cas IsoJsonCollCheck.rich ∧
    (∀ q ∈ st.allFs, Json.JCollFs CollDemo.K CollDemo.ts CollDemo.cas 0 st.heap q.2) ∧
    (∀ nv ∈ CollDemo.cas.views, ∀ e ∈ Index.all nv.2.idx, (xidOf IsoJsonCollCheck.rich e.oid).isSome = true) ∧
    (∀ q ∈ st.allFs, ∀ nv ∈ CollDemo.cas.views, q.1 ≠ nv.2.sofa.xid) ∧
    (∀ nv ∈ CollDemo.cas.views, ∀ e ∈ Index.all nv.2.idx, Xmi.slot st.heap e.oid "sofa" ≠ some .none) ∧
    MembersOk CollDemo.cas st.heap ∧
    findAllFs CollDemo.K CollDemo.ts {} IsoJsonCollCheck.rich CollDemo.cas.nextXid (defaultSeeds CollDemo.cas) = .ok std ∧
    Distinct std.heap (std.allFs.map (·.2)) := by
  obtain ⟨c, doc, st, std, hc, hs, hwf, hf, hi, hdi, hm, hmo, hD, hd⟩ :=
    renderJsonCollAppliesB_hyps _ _ _ _ _ jsonCollRich_applies
  obtain rfl : CollDemo.cas = c := Option.some.inj hc
  exact ⟨doc, st, std, hs, hwf, hf, hi, hdi, hm, hmo, hD, hd⟩

/-- the theorem applied to the two instances -/
example : ∃ (doc : Json.JDoc) (st : St) (ld : Json.Loaded),
    Json.saveJson CollDemo.K CollDemo.ts [CollDemo.cas] 0 CollDemo.hp .none = .ok (doc, st) ∧
    Json.loadJson CollDemo.K CollDemo.ts 0 1 false false st.heap doc = .ok ld ∧
    (render CollDemo.K CollDemo.ts ([CollDemo.cas] ++ [ld.cas]) 1 ld.heap {} (fun a => a) none).map (·.1)
      = (render CollDemo.K CollDemo.ts [CollDemo.cas] 0 CollDemo.hp {} (fun _ => 0) none).map (·.1) :=
  renderJsonCollAppliesB_sound CollDemo.K CollDemo.ts [CollDemo.cas] 0 CollDemo.hp 0 {} (fun _ => 0) (fun a => a)
    jsonCollDemo_applies

example : ∃ (doc : Json.JDoc) (st : St) (ld : Json.Loaded),
    Json.saveJson CollDemo.K CollDemo.ts [CollDemo.cas] 0 IsoJsonCollCheck.rich .none = .ok (doc, st) ∧
    Json.loadJson CollDemo.K CollDemo.ts 0 1 false false st.heap doc = .ok ld ∧
    (render CollDemo.K CollDemo.ts ([CollDemo.cas] ++ [ld.cas]) 1 ld.heap {} (fun a => a) none).map (·.1)
      = (render CollDemo.K CollDemo.ts [CollDemo.cas] 0 IsoJsonCollCheck.rich {} (fun _ => 0) none).map (·.1) :=
  renderJsonCollAppliesB_sound CollDemo.K CollDemo.ts [CollDemo.cas] 0 IsoJsonCollCheck.rich 0 {} (fun _ => 0)
    (fun a => a) jsonCollRich_applies

/-- the generated constants satisfy the proviso of `default_traversal_succeeds` -/
example : isArray CollDemo.K FS_LIST = false := by decide +kernel

/-- the test is not constantly true -/
example : renderJsonCollAppliesB CollDemo.K CollDemo.ts [CollDemo.cas] 0
    (CollDemo.setSlot0 CollDemo.hp "mfl" (.ref 13)) = false := jsonCollShared_rejected

#print axioms render_json_roundtrip_coll
#print axioms default_traversal_succeeds
#print axioms render_json_roundtrip_coll_consts
#print axioms json_roundtrip_coll_isoR'
#print axioms renderJsonCollAppliesB_sound
#print axioms jsonCollDemo_applies
#print axioms jsonCollRich_applies

end Cassis.Comparable
