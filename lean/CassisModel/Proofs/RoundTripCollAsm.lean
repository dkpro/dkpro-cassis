/-
Round trip with collections, layer AS of `RoundTripColl_NOTES.md`: the two loops of the reader (first pass `pass1`, second
pass `postAll`), assembled from the per-structure statements `Elem1Stmt` / `Post2Stmt` (`Proofs/RoundTripCollStmts.lean`),
which are hypotheses here.  Both loops are proved for the elements of the written document in ANY order (namespace `LPC`);
the statement about the written document itself (`pass1_coll_written`) is the instance of the writer order.

First pass.  The elements of the document are tagged (`ItemC`): an object element (`cas:NULL` or a collected structure), a
sofa element or a view element.  One structure element may produce several heap objects — objects without id for inlined
string arrays / string lists, then the object itself — and what it produces depends on the heap it is parsed on (the
addresses inside the list nodes), so an object item only records what `parseFsElem` does on ANY heap (`ItemC.Ok`, cf.
`Elem1Stmt`); the new addresses are given by the id table `A` the loop builds (`CAS.naOf`).  `pass1_itemsC` computes the
first pass over any list of items with fresh, pairwise distinct keys, from any start state, item by item (`step1_itemC`):
every entry of `A` points into the new part of the heap, at an object that satisfies `R` at its key; the addresses are
pairwise different because those objects carry their keys as ids (`addr_inj`).  `pass1_of_itemsC` reads the
invariants of `Pass3Ctx.lean` off it for a permutation of the written items, `pass1_coll_written` the exact tables for the
written order.

Second pass.  One step may append objects to the heap and leaves the other old objects alone (`Ext`); the work list is
processed in any order, the `cas:NULL` entry anywhere (`postAll_permC_aux`).
-/
import CassisModel.Proofs.RoundTripCollStmts
import CassisModel.Proofs.RoundTripCollFrz
import CassisModel.Proofs.RoundTripCollElemReader
import CassisModel.Properties.C01
import CassisModel.Proofs.RoundTripPass2
import CassisModel.Proofs.Pass3Ctx

namespace Cassis.Xmi
open Cassis.TS Cassis.Lex

theorem step1_view (K : Consts) (ts : TypeSystem) (tsIdx : Nat) (H : Heap) (nv : String × View) (s : Pass1)
    (hx : nv.2.sofa.xid ∉ s.views.map (·.1)) :
    step1 K ts tsIdx false (renderView H nv.2) s =
      .ok { s with views := s.views ++ [(nv.2.sofa.xid, pviewOf H nv)] } := by
  unfold step1
  rw [if_neg (show ¬ ((renderView H nv.2).ty == SOFA) = true by show ¬ (VIEW_T == SOFA) = true; decide),
    if_pos (by rfl), view_roundtrip]
  dsimp only
  rw [alistSetI_of_not_mem _ _ _ hx]
  rfl

theorem null_elem (K : Consts) (ts : TypeSystem) (tsIdx : Nat) (hnull : NullOk ts) :
    ∃ o0 : Obj, o0.ty = NULL_T ∧ o0.xid = some 0 ∧ o0.slots = [] ∧
      ∀ hpCur, parseFsElem K ts tsIdx hpCur { ty := NULL_T, attrs := [(ID, "0")] } = .ok (hpCur ++ [o0], 0, hpCur.length) := by
  obtain ⟨t0, hf, ha⟩ := hnull
  have hgt : getTypeExact ts NULL_T = .ok t0 := by unfold getTypeExact; rw [hf]
  have hname : t0.name = NULL_T := by
    have := List.find?_some hf
    simpa using this
  refine ⟨constructed t0 tsIdx (some 0) (CG1.kwArgs (fun _ => none) (fun _ => []) (allFeatures t0)), hname, rfl, ?_, fun hpCur => ?_⟩
  · unfold constructed ctorFields
    rw [ha]
    rfl
  · have hno : ∀ {P : Feature → Prop}, ∀ f ∈ allFeatures t0, P f := by
      rw [ha]; intro _ f hf; cases hf
    have := CG1.parse_nofold K ts tsIdx t0 0 NULL_T xmlName (fun _ => none) (fun _ => []) hgt
      (by rw [ha]; exact List.nodup_nil) hno hno (.inr fun _ _ => rfl) hpCur
    rw [ha] at this ⊢
    rw [CG1.gElem, CG1.gAttrs, CG1.gKids, show showInt 0 = "0" by decide] at this
    exact this

end Cassis.Xmi

namespace Cassis.Xmi.CAS
open Cassis.TS

theorem step1_fsC (K : Consts) (ts : TypeSystem) (tsIdx : Nat) (e : XElem) (s : Pass1) (hpN : Heap) (x : Int) (a : Nat)
    (h1 : e.ty ≠ SOFA) (h2 : e.ty ≠ VIEW_T)
    (hp : parseFsElem K ts tsIdx s.heap e = .ok (hpN, x, a))
    (hx : x ∉ s.fss.map (·.1)) :
    step1 K ts tsIdx false e s =
      .ok { s with heap := hpN, fss := s.fss ++ [(x, a)], maxId := max s.maxId x } := by
  unfold step1
  rw [if_neg (by simpa using h1), if_neg (by simpa using h2), hp]
  dsimp only
  rw [alistSetI_of_not_mem _ _ _ hx]

/-- the address the id table `A` gives for the id `x` -/
def naOf (A : List (Int × Nat)) (x : Int) : Nat :=
  match A.find? (fun p => p.1 == x) with
  | some p => p.2
  | none => 0

theorem naOf_cons_eq (p : Int × Nat) (A : List (Int × Nat)) (x : Int) (h : p.1 = x) : naOf (p :: A) x = p.2 := by
  unfold naOf
  rw [List.find?_cons_of_pos (by simpa using h)]

theorem naOf_cons_ne (p : Int × Nat) (A : List (Int × Nat)) (x : Int) (h : p.1 ≠ x) : naOf (p :: A) x = naOf A x := by
  unfold naOf
  rw [List.find?_cons_of_neg (by simpa using h)]

theorem naOf_mem : ∀ (A : List (Int × Nat)), (A.map (·.1)).Nodup → ∀ (x : Int) (a : Nat), (x, a) ∈ A → naOf A x = a
  | [], _, _, _, h => by cases h
  | p :: A, hn, x, a, h => by
    rw [List.map_cons, List.nodup_cons] at hn
    rcases List.mem_cons.1 h with rfl | h
    · exact naOf_cons_eq _ A _ rfl
    · have hne : p.1 ≠ x := by
        intro he
        apply hn.1
        rw [he]
        exact List.mem_map_of_mem (f := fun p : Int × Nat => p.1) h
      rw [naOf_cons_ne p A x hne]
      exact naOf_mem A hn.2 x a h

theorem naOf_key {A : List (Int × Nat)} (hn : (A.map (·.1)).Nodup) {x : Int} (hx : x ∈ A.map (·.1)) :
    (x, naOf A x) ∈ A := by
  obtain ⟨p, hp, rfl⟩ := List.mem_map.mp hx
  rw [naOf_mem A hn p.1 p.2 hp]
  exact hp

theorem naOf_table (A L : List (Int × Nat)) (hn : (A.map (·.1)).Nodup) (hk : A.map (·.1) = L.map (·.1)) :
    A = L.map (fun q => (q.1, naOf A q.1)) := by
  have h1 : A.map (fun p => (p.1, naOf A p.1)) = A := by
    conv => rhs; rw [← List.map_id A]
    apply List.map_congr_left
    intro p hp
    rw [naOf_mem A hn p.1 p.2 hp]
    rfl
  have h2 : ∀ M : List (Int × Nat), M.map (fun p => (p.1, naOf A p.1)) = (M.map (·.1)).map (fun x => (x, naOf A x)) := by
    intro M
    rw [List.map_map]
    rfl
  rw [h2 L, ← hk, ← h2 A]
  exact h1.symm

end Cassis.Xmi.CAS

namespace Cassis.Xmi.LPC
open Cassis.TS Cassis.Traverse Cassis.Xmi.LP Cassis.Xmi.CAS

inductive ItemC where
  | obj (x : Int) (e : XElem)
  | sofa (nv : String × View)
  | view (nv : String × View)

def ItemC.elem (H : Heap) : ItemC → XElem
  | .obj _ e => e
  | .sofa nv => renderSofa nv.2.sofa
  | .view nv => renderView H nv.2

def ItemC.okey : ItemC → Option Int
  | .obj x _ => some x
  | .sofa _ => none
  | .view _ => none

def ItemC.sofaV : ItemC → Option (String × View)
  | .sofa nv => some nv
  | _ => none

def ItemC.viewV : ItemC → Option (String × View)
  | .view nv => some nv
  | _ => none

/-- the reader turns the element of an object item, on any heap, into some objects followed by an object that
    satisfies `R` -/
def ItemC.Ok (K : Consts) (ts : TypeSystem) (tsIdx : Nat) (R : Int → Heap → Obj → Prop) : ItemC → Prop
  | .obj x e => e.ty ≠ SOFA ∧ e.ty ≠ VIEW_T ∧
      ∀ hpCur : Heap, ∃ (ext : List Obj) (o1 : Obj),
        parseFsElem K ts tsIdx hpCur e = .ok (hpCur ++ ext ++ [o1], x, (hpCur ++ ext).length) ∧
        R x (hpCur ++ ext ++ [o1]) o1
  | .sofa _ => True
  | .view _ => True

theorem not_mem_of_nodup_concat {α} {A : List α} {x : α} (h : (A ++ [x]).Nodup) : x ∉ A :=
  fun hx => (List.nodup_append.mp h).2.2 x hx x List.mem_cons_self rfl

theorem step1_sofa' (K : Consts) (ts : TypeSystem) (tsIdx : Nat) (nv : String × View) (s : Pass1)
    (hx : nv.2.sofa.xid ∉ s.sofas.map (·.1)) :
    step1 K ts tsIdx false (renderSofa nv.2.sofa) s =
      .ok { s with sofas := s.sofas ++ [(nv.2.sofa.xid, psofaOf nv)], maxId := max s.maxId nv.2.sofa.xid,
                   maxNum := max s.maxNum nv.2.sofa.sofaNum } := by
  unfold step1
  rw [if_pos (by rfl), sofa_roundtrip]
  dsimp only
  rw [alistSetI_of_not_mem _ _ _ hx]
  rfl

theorem pass1_step {K : Consts} {ts : TypeSystem} {tsIdx : Nat} {e : XElem} {s s' : Pass1}
    (h : step1 K ts tsIdx false e s = .ok s') (es : XDoc) :
    pass1 K ts tsIdx false (e :: es) s = pass1 K ts tsIdx false es s' := by
  rw [pass1_cons, h]
  rfl

/-- one step of the first pass, on an item whose keys are fresh: objects are appended to the heap (`ext`), the key of an
    object item is entered with the address of its object, a sofa or view goes to its table -/
theorem step1_itemC (K : Consts) (ts : TypeSystem) (tsIdx : Nat) (H : Heap) (R : Int → Heap → Obj → Prop) (it : ItemC)
    (s : Pass1) (hok : it.Ok K ts tsIdx R) (hf : (s.fss.map (·.1) ++ [it].filterMap ItemC.okey).Nodup)
    (hs : (s.sofas.map (·.1) ++ ([it].filterMap ItemC.sofaV).map (·.2.sofa.xid)).Nodup)
    (hv : (s.views.map (·.1) ++ ([it].filterMap ItemC.viewV).map (·.2.sofa.xid)).Nodup) :
    ∃ (ext : List Obj) (B : List (Int × Nat)) (m m' : Int),
      step1 K ts tsIdx false (it.elem H) s = .ok
        { s with heap := s.heap ++ ext, fss := s.fss ++ B,
                 sofas := s.sofas ++ ([it].filterMap ItemC.sofaV).map (fun nv => (nv.2.sofa.xid, psofaOf nv)),
                 views := s.views ++ ([it].filterMap ItemC.viewV).map (fun nv => (nv.2.sofa.xid, pviewOf H nv)),
                 maxId := m, maxNum := m' } ∧
      B.map (·.1) = [it].filterMap ItemC.okey ∧
      ∀ p ∈ B, s.heap.length ≤ p.2 ∧ ∃ o1, (s.heap ++ ext)[p.2]? = some o1 ∧ R p.1 (s.heap ++ ext) o1 := by
  cases it with
  | obj x e =>
    obtain ⟨h1, h2, h3⟩ := hok
    obtain ⟨ext, o1, hparse, hR1⟩ := h3 s.heap
    refine ⟨ext ++ [o1], [(x, (s.heap ++ ext).length)], max s.maxId x, s.maxNum,
      (step1_fsC K ts tsIdx e s _ x _ h1 h2 hparse (not_mem_of_nodup_concat hf)).trans ?_, rfl, fun p hp => ?_⟩
    · simp [ItemC.sofaV, ItemC.viewV]
    · cases List.mem_singleton.mp hp
      rw [← List.append_assoc]
      exact ⟨by simp, o1, List.getElem?_concat_length, hR1⟩
  | sofa nv =>
    exact ⟨[], [], max s.maxId nv.2.sofa.xid, max s.maxNum nv.2.sofa.sofaNum,
      (step1_sofa' K ts tsIdx nv s (not_mem_of_nodup_concat hs)).trans (by simp [ItemC.sofaV, ItemC.viewV]), rfl, nofun⟩
  | view nv =>
    exact ⟨[], [], s.maxId, s.maxNum,
      (step1_view K ts tsIdx H nv s (not_mem_of_nodup_concat hv)).trans (by simp [ItemC.sofaV, ItemC.viewV]), rfl, nofun⟩

theorem pass1_itemsC (K : Consts) (ts : TypeSystem) (tsIdx : Nat) (H : Heap) (R : Int → Heap → Obj → Prop)
    (hR : ∀ x hpX o1 (tl : List Obj), R x hpX o1 → R x (hpX ++ tl) o1) : ∀ (its : List ItemC) (s : Pass1),
    (∀ it ∈ its, it.Ok K ts tsIdx R) →
    (s.fss.map (·.1) ++ its.filterMap ItemC.okey).Nodup →
    (s.sofas.map (·.1) ++ (its.filterMap ItemC.sofaV).map (·.2.sofa.xid)).Nodup →
    (s.views.map (·.1) ++ (its.filterMap ItemC.viewV).map (·.2.sofa.xid)).Nodup →
    ∃ (tl : List Obj) (A : List (Int × Nat)) (m m' : Int),
      pass1 K ts tsIdx false (its.map (ItemC.elem H)) s = .ok
        { s with heap := s.heap ++ tl, fss := s.fss ++ A,
                 sofas := s.sofas ++ (its.filterMap ItemC.sofaV).map (fun nv => (nv.2.sofa.xid, psofaOf nv)),
                 views := s.views ++ (its.filterMap ItemC.viewV).map (fun nv => (nv.2.sofa.xid, pviewOf H nv)),
                 maxId := m, maxNum := m' } ∧
      A.map (·.1) = its.filterMap ItemC.okey ∧
      ∀ p ∈ A, s.heap.length ≤ p.2 ∧ ∃ o1, (s.heap ++ tl)[p.2]? = some o1 ∧ R p.1 (s.heap ++ tl) o1
  | [], s, _, _, _, _ => ⟨[], [], s.maxId, s.maxNum, by simp [pass1_nil], rfl, nofun⟩
  | it :: r, s, hok, hf, hs, hv => by
    have hc : ∀ {β} (f : ItemC → Option β), (it :: r).filterMap f = [it].filterMap f ++ r.filterMap f :=
      fun f => List.filterMap_append (l := [it])
    rw [hc, ← List.append_assoc] at hf
    rw [hc, List.map_append, ← List.append_assoc] at hs hv
    obtain ⟨ext, B, m0, m0', hstep, hB, hBo⟩ := step1_itemC K ts tsIdx H R it s (hok it List.mem_cons_self)
      (List.nodup_append.mp hf).1 (List.nodup_append.mp hs).1 (List.nodup_append.mp hv).1
    obtain ⟨tl, A, m, m', hm, hkeys, hAo⟩ := pass1_itemsC K ts tsIdx H R hR r
      { s with heap := s.heap ++ ext, fss := s.fss ++ B,
               sofas := s.sofas ++ ([it].filterMap ItemC.sofaV).map (fun nv => (nv.2.sofa.xid, psofaOf nv)),
               views := s.views ++ ([it].filterMap ItemC.viewV).map (fun nv => (nv.2.sofa.xid, pviewOf H nv)),
               maxId := m0, maxNum := m0' }
      (fun it hit => hok it (List.mem_cons_of_mem _ hit)) (by rw [List.map_append, hB]; exact hf)
      (by rw [List.map_append, List.map_map]; exact hs) (by rw [List.map_append, List.map_map]; exact hv)
    dsimp only at hm hAo
    refine ⟨ext ++ tl, B ++ A, m, m', ?_, by rw [List.map_append, hB, hkeys, hc], fun p hp => ?_⟩
    · rw [List.map_cons, pass1_step hstep, hm]
      simp only [hc, List.map_append, List.append_assoc]
    · rw [← List.append_assoc]
      rcases List.mem_append.mp hp with hp | hp
      · obtain ⟨hle, o1, hget, hr⟩ := hBo p hp
        exact ⟨hle, o1, by rw [List.getElem?_append_left (List.getElem?_eq_some_iff.mp hget).1]; exact hget,
          hR _ _ _ tl hr⟩
      · obtain ⟨hle, h⟩ := hAo p hp
        exact ⟨Nat.le_trans (by simp) hle, h⟩

/-- an id table whose objects carry their keys as ids has pairwise different addresses -/
theorem addr_inj {hp : Heap} {A : List (Int × Nat)} (h : ∀ p ∈ A, ∃ o, hp[p.2]? = some o ∧ o.xid = some p.1) :
    ∀ p ∈ A, ∀ p' ∈ A, p.2 = p'.2 → p.1 = p'.1 := by
  intro p hp p' hp' e
  obtain ⟨o, h1, x1⟩ := h p hp
  obtain ⟨o', h2, x2⟩ := h p' hp'
  cases (e ▸ h1).symm.trans h2
  exact Option.some.inj (x1.symm.trans x2)

theorem filterMap_map_none {α β γ} (f : α → β) (g : β → Option γ) (h : ∀ a, g (f a) = none) :
    ∀ l : List α, (l.map f).filterMap g = []
  | [] => rfl
  | a :: l => by rw [List.map_cons, List.filterMap_cons, h a]; exact filterMap_map_none f g h l

theorem filterMap_map_some {α β} (f : α → β) (g : β → Option α) (h : ∀ a, g (f a) = some a) :
    ∀ l : List α, (l.map f).filterMap g = l
  | [] => rfl
  | a :: l => by rw [List.map_cons, List.filterMap_cons, h a, filterMap_map_some f g h l]

/-- the object the reader makes from the element with id `x`: the `cas:NULL` object or the counterpart (`Obj1`) of a
    collected structure -/
def RC (K : Consts) (ts : TypeSystem) (cass : List Cas) (H : Heap) (L : List (Int × Nat)) (x : Int) (hpX : Heap)
    (o1 : Obj) : Prop :=
  (x = 0 ∧ o1.ty = NULL_T ∧ o1.xid = some 0 ∧ o1.slots = []) ∨
  (∃ q ∈ L, q.1 = x ∧ ∃ o : Obj, H[q.2]? = some o ∧ Obj1 K ts cass H hpX o o1 x)

theorem RC.mono {K : Consts} {ts : TypeSystem} {cass : List Cas} {H : Heap} {L : List (Int × Nat)} (x : Int)
    (hpX : Heap) (o1 : Obj) (tl : List Obj) (h : RC K ts cass H L x hpX o1) : RC K ts cass H L x (hpX ++ tl) o1 := by
  rcases h with h | ⟨q, hq, e, o, ho, hobj⟩
  · exact .inl h
  · exact .inr ⟨q, hq, e, o, ho, hobj.frz (Frz.append _ tl)⟩

theorem RC.xid {K : Consts} {ts : TypeSystem} {cass : List Cas} {H : Heap} {L : List (Int × Nat)} {x : Int} {hpX : Heap}
    {o1 : Obj} (h : RC K ts cass H L x hpX o1) : o1.xid = some x := by
  rcases h with ⟨rfl, _, h, _⟩ | ⟨_, _, _, _, _, h⟩
  · exact h
  · exact h.2.1

/-- what is known about the tagged elements of (a permutation of) the written document -/
structure ItemsOkC (K : Consts) (ts : TypeSystem) (cass : List Cas) (c : Cas) (H : Heap) (L : List (Int × Nat))
    (tsIdx : Nat) (its : List ItemC) : Prop where
  keys : (its.filterMap ItemC.okey).Perm (0 :: L.map (·.1))
  sofas : (its.filterMap ItemC.sofaV).Perm c.views
  views : (its.filterMap ItemC.viewV).Perm c.views
  ok : ∀ it ∈ its, it.Ok K ts tsIdx (RC K ts cass H L)

theorem ItemsOkC.perm {K : Consts} {ts : TypeSystem} {cass : List Cas} {c : Cas} {H : Heap} {L : List (Int × Nat)}
    {tsIdx : Nat} {its its' : List ItemC} (h : ItemsOkC K ts cass c H L tsIdx its) (hp : its'.Perm its) :
    ItemsOkC K ts cass c H L tsIdx its' where
  keys := (hp.filterMap _).trans h.keys
  sofas := (hp.filterMap _).trans h.sofas
  views := (hp.filterMap _).trans h.views
  ok := fun it hit => h.ok it (hp.mem_iff.mp hit)

theorem renderAll_items (K : Consts) (ts : TypeSystem) (cass : List Cas) (H : Heap) (L : List (Int × Nat)) (tsIdx : Nat)
    (P : Nat → Prop) (helem : Elem1Stmt K ts cass H tsIdx P) :
    ∀ (Ls : List (Int × Nat)), (∀ q ∈ Ls, q ∈ L ∧ P q.2 ∧ xidOf H q.2 = some q.1) →
    ∃ its : List ItemC, renderAll K ts cass H Ls = .ok (its.map (ItemC.elem H)) ∧
      its.filterMap ItemC.okey = Ls.map (·.1) ∧ its.filterMap ItemC.sofaV = [] ∧ its.filterMap ItemC.viewV = [] ∧
      ∀ it ∈ its, it.Ok K ts tsIdx (RC K ts cass H L)
  | [], _ => ⟨[], rfl, rfl, rfl, rfl, fun _ h => nomatch h⟩
  | q :: Ls, h => by
    obtain ⟨hq, hP, hx⟩ := h q List.mem_cons_self
    obtain ⟨o, e, ho, hr, h1, h2, h3⟩ := helem q.2 q.1 hP hx
    obtain ⟨its, a1, a2, a3, a4, a5⟩ := renderAll_items K ts cass H L tsIdx P helem Ls
      fun q' hq' => h q' (List.mem_cons_of_mem _ hq')
    refine ⟨.obj q.1 e :: its, by rw [renderAll, hr, a1]; rfl, ?_, ?_, ?_, ?_⟩
    · simp [ItemC.okey, a2]
    · simp [List.filterMap_cons, ItemC.sofaV, a3]
    · simp [List.filterMap_cons, ItemC.viewV, a4]
    · intro it hit
      rcases List.mem_cons.mp hit with rfl | hit
      · exact ⟨h1, h2, fun hpCur => (h3 hpCur).imp fun ext g => g.imp fun o1 g =>
          ⟨g.1, .inr ⟨q, hq, rfl, o, ho, g.2.2⟩⟩⟩
      · exact a5 it hit

theorem _root_.Cassis.Xmi.CAS.renderAll_ok (K : Consts) (ts : TypeSystem) (cass : List Cas) (H : Heap) (tsIdx : Nat)
    (P : Nat → Prop) (helem : Elem1Stmt K ts cass H tsIdx P) (L : List (Int × Nat)) (hP : ∀ q ∈ L, P q.2)
    (hx : ∀ q ∈ L, xidOf H q.2 = some q.1) : ∃ es : List XElem, renderAll K ts cass H L = .ok es :=
  let ⟨_, h, _⟩ := renderAll_items K ts cass H L tsIdx P helem L fun q hq => ⟨hq, hP q hq, hx q hq⟩
  ⟨_, h⟩

theorem doc_items (K : Consts) (ts : TypeSystem) (cass : List Cas) (ci : Nat) (c : Cas) (hp : Heap) (tsIdx : Nat)
    (doc : XDoc) (st : St) (hc : cass[ci]? = some c)
    (hsave : saveXmi K ts cass ci hp = .ok (doc, st)) (hnull : NullOk ts)
    (hL : LOkC K ts c ci st.heap (sortById st.allFs))
    (helem : Elem1Stmt K ts cass st.heap tsIdx (CollFs K ts c ci st.heap)) :
    ∃ (o0 : Obj) (rest : List ItemC), o0.ty = NULL_T ∧ o0.xid = some 0 ∧ o0.slots = [] ∧
      (∀ hpCur : Heap, parseFsElem K ts tsIdx hpCur { ty := NULL_T, attrs := [(ID, "0")] } =
        .ok (hpCur ++ [o0], 0, hpCur.length)) ∧
      doc = { ty := NULL_T, attrs := [(ID, "0")] } :: rest.map (ItemC.elem st.heap) ∧
      rest.filterMap ItemC.okey = (sortById st.allFs).map (·.1) ∧
      rest.filterMap ItemC.sofaV = c.views ∧ rest.filterMap ItemC.viewV = c.views ∧
      ∀ it ∈ rest, it.Ok K ts tsIdx (RC K ts cass st.heap (sortById st.allFs)) := by
  obtain ⟨fsElems, _, hr, hdoc⟩ := saveXmi_ok_inv hc hsave
  generalize hLd : sortById st.allFs = L at hL hr ⊢
  generalize hHd : st.heap = H at hL hr hdoc helem ⊢
  obtain ⟨itsF, f1, f2, f3, f4, f5⟩ := renderAll_items K ts cass H L tsIdx _ helem L
    fun q hq => ⟨hq, hL.coll q hq, (hL.ids q hq).1⟩
  cases hr.symm.trans f1
  obtain ⟨o0, h0ty, h0x, h0s, h0p⟩ := null_elem K ts tsIdx hnull
  have s1 : (c.views.map ItemC.sofa).map (ItemC.elem H) = c.views.map (fun p => renderSofa p.2.sofa) := by
    rw [List.map_map]; rfl
  have v1 : (c.views.map ItemC.view).map (ItemC.elem H) = c.views.map (fun p => renderView H p.2) := by
    rw [List.map_map]; rfl
  have s2 := filterMap_map_none ItemC.sofa ItemC.okey (fun _ => rfl) c.views
  have v2 := filterMap_map_none ItemC.view ItemC.okey (fun _ => rfl) c.views
  have s3 := filterMap_map_some ItemC.sofa ItemC.sofaV (fun _ => rfl) c.views
  have v3 := filterMap_map_none ItemC.view ItemC.sofaV (fun _ => rfl) c.views
  have s4 := filterMap_map_none ItemC.sofa ItemC.viewV (fun _ => rfl) c.views
  have v4 := filterMap_map_some ItemC.view ItemC.viewV (fun _ => rfl) c.views
  refine ⟨o0, itsF ++ (c.views.map ItemC.sofa ++ c.views.map ItemC.view), h0ty, h0x, h0s, h0p, ?_, ?_, ?_, ?_, ?_⟩
  · rw [hdoc, docOf, List.map_append, List.map_append, s1, v1]
    simp only [List.append_assoc, List.cons_append, List.nil_append]
  · rw [List.filterMap_append, List.filterMap_append, f2, s2, v2, List.append_nil, List.append_nil]
  · rw [List.filterMap_append, List.filterMap_append, f3, s3, v3, List.append_nil, List.nil_append]
  · rw [List.filterMap_append, List.filterMap_append, f4, s4, v4, List.nil_append, List.nil_append]
  · intro it hit
    rcases List.mem_append.mp hit with hit | hit
    · exact f5 it hit
    · rcases List.mem_append.mp hit with hit | hit
      · obtain ⟨nv, _, rfl⟩ := List.mem_map.mp hit
        trivial
      · obtain ⟨nv, _, rfl⟩ := List.mem_map.mp hit
        trivial

theorem items_of_docC (K : Consts) (ts : TypeSystem) (cass : List Cas) (ci : Nat) (c : Cas) (hp : Heap) (tsIdx : Nat)
    (doc : XDoc) (st : St) (hc : cass[ci]? = some c)
    (hsave : saveXmi K ts cass ci hp = .ok (doc, st)) (hnull : NullOk ts)
    (hL : LOkC K ts c ci st.heap (sortById st.allFs))
    (helem : Elem1Stmt K ts cass st.heap tsIdx (CollFs K ts c ci st.heap)) :
    ∃ its : List ItemC, doc = its.map (ItemC.elem st.heap) ∧
      its.filterMap ItemC.sofaV = c.views ∧
      ItemsOkC K ts cass c st.heap (sortById st.allFs) tsIdx its := by
  obtain ⟨o0, rest, h0ty, h0x, h0s, h0p, hdoc, k2, k3, k4, hok⟩ :=
    doc_items K ts cass ci c hp tsIdx doc st hc hsave hnull hL helem
  refine ⟨ItemC.obj 0 { ty := NULL_T, attrs := [(ID, "0")] } :: rest, hdoc, k3, .of_eq (congrArg (0 :: ·) k2),
    .of_eq k3, .of_eq k4, fun it hit => ?_⟩
  rcases List.mem_cons.mp hit with rfl | hit
  · refine ⟨by decide, by decide, fun hpCur => ⟨[], o0, ?_, .inl ⟨rfl, h0ty, h0x, h0s⟩⟩⟩
    rw [List.append_nil]
    exact h0p hpCur
  · exact hok it hit

theorem pass1_of_itemsC (K : Consts) (ts : TypeSystem) (cass : List Cas) (c : Cas) (H hb : Heap)
    (L : List (Int × Nat)) (tsIdx : Nat) (its : List ItemC) (hnd : (c.views.map (·.2.sofa.xid)).Nodup)
    (hL : IdsOk L) (h : ItemsOkC K ts cass c H L tsIdx its) :
    ∃ (na : Int → Nat) (n0 : Nat) (p : Pass1), pass1 K ts tsIdx false (its.map (ItemC.elem H)) { heap := hb } = .ok p ∧
      p.sofas = (its.filterMap ItemC.sofaV).map (fun nv => (nv.2.sofa.xid, psofaOf nv)) ∧
      NaOkP n0 L na ∧ P1WP c H L na n0 p ∧ HeapRelP H L na (Obj1 K ts cass H p.heap) p.heap := by
  have hk0 : ((0 : Int) :: L.map (·.1)).Nodup := by
    rw [List.nodup_cons]
    refine ⟨?_, hL.nodup⟩
    intro h0
    obtain ⟨q, hq, e⟩ := List.mem_map.mp h0
    exact hL.ne0 q hq e
  have hkn : (its.filterMap ItemC.okey).Nodup := h.keys.nodup_iff.mpr hk0
  have hsn : ((its.filterMap ItemC.sofaV).map (·.2.sofa.xid)).Nodup := (h.sofas.map _).nodup_iff.mpr hnd
  have hvn : ((its.filterMap ItemC.viewV).map (·.2.sofa.xid)).Nodup := (h.views.map _).nodup_iff.mpr hnd
  obtain ⟨tl, A, m, m', hrun, hkeys, hAo⟩ := pass1_itemsC K ts tsIdx H (RC K ts cass H L) RC.mono its
    { heap := hb } h.ok (by simpa using hkn) (by simpa using hsn) (by simpa using hvn)
  dsimp only at hrun hAo
  have hAn : (A.map (·.1)).Nodup := by rw [hkeys]; exact hkn
  have hA : A = (A.map (·.1)).map (fun x => (x, naOf A x)) := by
    have := naOf_table A A hAn rfl
    rw [List.map_map]
    exact this
  have hinj := addr_inj fun p hp => let ⟨_, o1, hg, hr⟩ := hAo p hp; ⟨o1, hg, hr.xid⟩
  have hk : ∀ x ∈ (0 : Int) :: L.map (·.1), (x, naOf A x) ∈ A := fun x hx =>
    naOf_key hAn (by rw [hkeys]; exact h.keys.mem_iff.mpr hx)
  have hmA0 := hk 0 List.mem_cons_self
  obtain ⟨_, o0, hget0, hr0⟩ := hAo _ hmA0
  have hq : ∀ q ∈ L, ∃ (o o1 : Obj), (q.1, naOf A q.1) ∈ A ∧ H[q.2]? = some o ∧ (hb ++ tl)[naOf A q.1]? = some o1 ∧
      Obj1 K ts cass H (hb ++ tl) o o1 q.1 := by
    intro q hq
    have hmA := hk q.1 (List.mem_cons_of_mem _ (List.mem_map_of_mem hq))
    obtain ⟨_, o1, hget, hr⟩ := hAo _ hmA
    rcases hr with ⟨e0, _⟩ | ⟨q', hq', e', o, ho, hobj⟩
    · exact absurd e0 (hL.ne0 q hq)
    · have : q' = q := Det.inj_of_nodup_map (fun q : Int × Nat => q.1) _ hL.nodup hq' hq e'
      subst this
      exact ⟨o, o1, hmA, ho, hget, hobj⟩
  refine ⟨naOf A, naOf A 0, _, hrun, List.nil_append _, ⟨?_, ?_⟩,
    ⟨?_, List.nil_append _ ▸ h.sofas.map _, List.nil_append _ ▸ h.views.map _, rfl, ?_⟩, ?_⟩
  · intro q hq1 q' hq2 e
    obtain ⟨_, _, m1, _⟩ := hq q hq1
    obtain ⟨_, _, m2, _⟩ := hq q' hq2
    exact hinj (q.1, naOf A q.1) m1 (q'.1, naOf A q'.1) m2 e
  · intro q hq1 e
    obtain ⟨_, _, m1, _⟩ := hq q hq1
    have := hinj (0, naOf A 0) hmA0 (q.1, naOf A q.1) m1 e
    exact hL.ne0 q hq1 this.symm
  · show ([] ++ A).Perm _
    rw [List.nil_append]
    have h1 := h.keys.map (fun x => (x, naOf A x))
    rw [← hkeys, ← hA, List.map_cons, List.map_map] at h1
    exact h1
  · rcases hr0 with ⟨_, r⟩ | ⟨q', hq', e', _⟩
    · exact ⟨o0, hget0, r⟩
    · exact absurd e' (hL.ne0 q' hq')
  · intro q hq1
    obtain ⟨o, o1, _, ho, ho1, hobj⟩ := hq q hq1
    exact ⟨o, o1, ho, ho1, hobj⟩

end Cassis.Xmi.LPC

namespace Cassis.Xmi
open Cassis.TS Cassis.Traverse CAS

theorem pass1_coll_written (K : Consts) (ts : TypeSystem) (cass : List Cas) (ci : Nat) (c : Cas) (hp : Heap) (tsIdx : Nat)
    (doc : XDoc) (st : St) (hc : cass[ci]? = some c) (hnd : (c.views.map (·.2.sofa.xid)).Nodup)
    (hsave : saveXmi K ts cass ci hp = .ok (doc, st)) (hnull : NullOk ts)
    (hL : LOkC K ts c ci st.heap (sortById st.allFs))
    (helem : Elem1Stmt K ts cass st.heap tsIdx (CollFs K ts c ci st.heap)) :
    ∃ (na : Int → Nat) (p : Pass1), pass1 K ts tsIdx false doc { heap := st.heap } = .ok p ∧
      NaOk st.heap.length (sortById st.allFs) na ∧ P1W c st.heap (sortById st.allFs) na p ∧
      HeapRelP st.heap (sortById st.allFs) na (Obj1 K ts cass st.heap p.heap) p.heap := by
  obtain ⟨o0, rest, h0ty, h0x, h0s, h0p, hdoc, k2, k3, k4, hok⟩ :=
    LPC.doc_items K ts cass ci c hp tsIdx doc st hc hsave hnull hL helem
  generalize sortById st.allFs = L at hL k2 hok ⊢
  generalize st.heap = H at hL hdoc hok ⊢
  -- the `cas:NULL` element, then the items in the order of the writer
  have hstep0 := step1_fsC K ts tsIdx { ty := NULL_T, attrs := [(ID, "0")] } { heap := H } _ 0 _
    (by simp [NULL_T, SOFA]) (by simp [NULL_T, VIEW_T]) (h0p H) (by intro h; cases h)
  obtain ⟨tl, A, m, m', hrun, hkeys, hAo⟩ := LPC.pass1_itemsC K ts tsIdx H (LPC.RC K ts cass H L) LPC.RC.mono
    rest { heap := H ++ [o0], fss := [] ++ [((0 : Int), H.length)], maxId := max 0 0 } hok
    (by
      rw [k2]
      show ((0 : Int) :: L.map (·.1)).Nodup
      rw [List.nodup_cons]
      refine ⟨fun h0 => ?_, hL.nodup⟩
      obtain ⟨q, hq, e⟩ := List.mem_map.mp h0
      exact (hL.ids q hq).2 e)
    (by rw [k3]; exact hnd) (by rw [k4]; exact hnd)
  dsimp only at hrun hAo
  rw [k2] at hkeys
  have hAn : (A.map (·.1)).Nodup := by rw [hkeys]; exact hL.nodup
  have hA : A = L.map (fun q => (q.1, naOf A q.1)) := naOf_table A L hAn hkeys
  have hmemA : ∀ q ∈ L, (q.1, naOf A q.1) ∈ A := by
    intro q hq
    rw [hA]
    exact List.mem_map.2 ⟨q, hq, by rw [← hA]⟩
  refine ⟨naOf A,
    { heap := (H ++ [o0]) ++ tl, fss := ([] ++ [((0 : Int), H.length)]) ++ A,
      sofas := [] ++ (rest.filterMap LPC.ItemC.sofaV).map (fun nv => (nv.2.sofa.xid, psofaOf nv)),
      views := [] ++ (rest.filterMap LPC.ItemC.viewV).map (fun nv => (nv.2.sofa.xid, pviewOf H nv)),
      maxId := m, maxNum := m' }, ?_, ⟨?_, ?_⟩, ⟨?_, ?_, ?_, rfl, ?_⟩, ?_⟩
  · rw [hdoc]
    exact (LPC.pass1_step hstep0 _).trans hrun
  · intro q hq q' hq' h
    exact LPC.addr_inj (fun p hp => let ⟨_, o1, hg, hr⟩ := hAo p hp; ⟨o1, hg, hr.xid⟩)
      (q.1, naOf A q.1) (hmemA q hq) (q'.1, naOf A q'.1) (hmemA q' hq') h
  · intro q hq
    have := (hAo _ (hmemA q hq)).1
    rw [List.length_append, List.length_singleton] at this
    exact this
  · show ([] ++ [((0 : Int), H.length)]) ++ A = _
    rw [← hA]
    rfl
  · show [] ++ (rest.filterMap LPC.ItemC.sofaV).map _ = _
    rw [k3]
    rfl
  · show [] ++ (rest.filterMap LPC.ItemC.viewV).map _ = _
    rw [k4]
    rfl
  · refine ⟨o0, ?_, h0ty, h0x, h0s⟩
    show ((H ++ [o0]) ++ tl)[H.length]? = some o0
    rw [List.append_assoc, List.getElem?_append_right (Nat.le_refl _), Nat.sub_self]
    rfl
  · intro q hq
    obtain ⟨_, o1, hget, hr⟩ := hAo _ (hmemA q hq)
    rcases hr with ⟨e0, _⟩ | ⟨q', hq', e', o, ho, hobj⟩
    · exact absurd e0 (hL.ids q hq).2
    · obtain rfl : q' = q := Det.inj_of_nodup_map (fun q : Int × Nat => q.1) _ hL.nodup hq' hq e'
      exact ⟨o, o1, ho, hget, hobj⟩

end Cassis.Xmi

namespace Cassis.Xmi.LPC
open Cassis.TS Cassis.Xmi.LP

/-- the loop over an arbitrary work list: structures whose entry is still to come are in the state after the first
    pass (`Obj1`), the others in the state after the second pass (`Obj2`) -/
theorem postAll_permC_aux (K : Consts) (ts : TypeSystem) (cass : List Cas) (H : Heap)
    (L : List (Int × Nat)) (na : Int → Nat) (n0 : Nat) (tsIdx ci' : Nat) (sofas : List (Int × PSofa))
    (fss : List (Int × Nat)) (P : Nat → Prop) (hP : ∀ q ∈ L, P q.2)
    (hnull : NullOk ts) (hL : IdsOk L) (hna : NaOkP n0 L na)
    (hpost : Post2Stmt K ts cass H L na tsIdx ci' sofas fss P)
    (o0 : Obj) (hty0 : o0.ty = NULL_T) :
    ∀ (w : List (Int × Nat)), (∀ r ∈ w, FssEntry n0 L na r) → (w.map (·.1)).Nodup → ∀ (hpX : Heap),
      hpX[n0]? = some o0 →
      HeapRelP H L na (fun o o' x => (x ∈ w.map (·.1) → Obj1 K ts cass H hpX o o' x) ∧
        (x ∉ w.map (·.1) → Obj2 K ts cass H na ci' hpX o o' x)) hpX →
      ∃ hpY, postAll K ts tsIdx ci' sofas fss w hpX = .ok hpY ∧ Frz hpX hpY ∧
        hpY[n0]? = hpX[n0]? ∧ HeapRelP H L na (Obj2 K ts cass H na ci' hpY) hpY := by
  obtain ⟨t0, hfind0, hfeat0⟩ := hnull
  intro w
  induction w with
  | nil =>
    intro _ _ hpX _ hinv
    refine ⟨hpX, ?_, Frz.refl _, rfl, ?_⟩
    · rw [postAll]
    · exact hinv.mono fun _ _ _ _ _ h => h.2 (by simp)
  | cons r w ih =>
    intro hent hnodup hpX h0 hinv
    rw [List.map_cons, List.nodup_cons] at hnodup
    have hent' : ∀ r' ∈ w, FssEntry n0 L na r' := fun r' hr' => hent r' (List.mem_cons_of_mem _ hr')
    rcases hent r List.mem_cons_self with rfl | ⟨q0, hq0, rfl⟩
    · -- the `cas:NULL` entry: nothing happens
      have hstep := postAll_cons K ts tsIdx ci' sofas fss 0 n0 w hpX hpX o0 t0 h0
        (by rw [hty0]; exact getType_of_find hfind0) (by rw [hfeat0]; rfl)
      obtain ⟨hpY, hpa, hfrzY, h0Y, hrelY⟩ := ih hent' hnodup.2 hpX h0 (hinv.mono fun q hq _ _ _ h =>
        ⟨fun hm => h.1 (List.mem_cons_of_mem _ hm),
         fun hm => h.2 fun hm' => (List.mem_cons.1 hm').elim (hL.ne0 q hq) hm⟩)
      exact ⟨hpY, by rw [hstep]; exact hpa, hfrzY, h0Y, hrelY⟩
    · -- the entry of a collected structure
      obtain ⟨o, o1, ho, ho1, hE1, _⟩ := hinv q0 hq0
      have hobj1 : Obj1 K ts cass H hpX o o1 q0.1 := hE1 (by simp)
      obtain ⟨t, hp1, hgt, hpf, hext, o2, ho2, hobj2⟩ := hpost q0 hq0 (hP q0 hq0) hpX o o1 ho ho1 hobj1
      have hx1 : o1.xid ≠ none := by rw [hobj1.2.1]; exact fun h => by cases h
      have hfrz1 : Frz hpX hp1 := hext.toFrz ho1 hx1
      have hlt0 : n0 < hpX.length := (List.getElem?_eq_some_iff.mp h0).1
      have h01 : hp1[n0]? = hpX[n0]? := hext.2 n0 hlt0 (hna.ne0 q0 hq0)
      -- the structure just visited is done; every other one keeps its state, on the later heap
      obtain ⟨hpY, hpa, hfrzY, h0Y, hrelY⟩ := ih hent' hnodup.2 hp1 (h01.trans h0)
        (hinv.step hna.inj hL.nodup hq0 ho ho2 ⟨fun hm => absurd hm hnodup.1, fun _ => hobj2⟩ hext.2
          fun q _ hqq p p' hr => ⟨fun hm => (hr.1 (List.mem_cons_of_mem _ hm)).frz hfrz1,
            fun hm => (hr.2 fun hm' => (List.mem_cons.1 hm').elim hqq hm).frz hfrz1⟩)
      refine ⟨hpY, ?_, hfrz1.trans hfrzY, h0Y.trans h01, hrelY⟩
      rw [postAll_cons K ts tsIdx ci' sofas fss q0.1 (na q0.1) w hpX hp1 o1 t ho1 hgt hpf]
      exact hpa

end Cassis.Xmi.LPC
