/-
C16 with an embedded type system, the chain JSON → CAS → XMI → CAS: the XMI fragment (`CollFs`), the successor
relation of the traversal (`Target`) and the invariant of the collected structures (`LOkC`) carry over from a type
system `ts` and a heap `hp` to a type system `ts'` that answers the XMI codec alike on a set `N` of type names (`TsLe`,
`Proofs/ChainEmbTsLe.lean`) and a heap `hp'` that is the same up to the order of the slots of each object (`HeapSim`), for
structures whose type name is in `N` (`TyOn`), provided the slots of the objects of `hp'` come in the order of the
features under `ts'` (`SlotsOk`: what a reader running under `ts'` makes).  With `TsLe` in both directions the traversal
of the XMI writer carries over as well (second part, `traversal_le`): under `ts'` over `hp'` it collects the same structures
under the same ids.
-/
import CassisModel.Proofs.ChainEmbTsLe
import CassisModel.Proofs.JsonReaderSimHeap
import CassisModel.Proofs.RoundTripCollDefs
import CassisModel.Proofs.RoundTripMoved
import CassisModel.Proofs.RoundTripCollTrav

namespace Cassis.ChainE
open Cassis.TS Cassis.Traverse Cassis.Xmi Cassis.Json

/-- the slots of the object at `a` come in the order of the constructor fields of its type -/
def SlotsOk (ts : TypeSystem) (hp : Heap) (a : Nat) : Prop :=
  ∀ o t, hp[a]? = some o → find? ts o.ty = some t → o.slots.map (·.1) = (ctorFields t).eraseDups

def TyOn (N : String → Prop) (hp : Heap) (a : Nat) : Prop := ∀ o, hp[a]? = some o → N o.ty

def TyIn (N : List String) (hp : Heap) (a : Nat) : Prop := ∀ o, hp[a]? = some o → o.ty ∈ N

/-! the heap is consulted through `xidOf`, `slot`, `collectList` (`collectList_congr`) and its length -/

theorem xidOf_sim {hp hp' : Heap} (h : HeapSim hp hp') : Traverse.xidOf hp' = Traverse.xidOf hp :=
  funext (fun a => h.xidOf a)

theorem slot_sim {hp hp' : Heap} (h : HeapSim hp hp') : Xmi.slot hp' = Xmi.slot hp := by
  funext a n
  exact h.slot a n

theorem tslot_sim {hp hp' : Heap} (h : HeapSim hp hp') : Traverse.slot hp' = Traverse.slot hp := by
  funext a n
  exact h.slot a n

theorem multi_true_iff (f : Feature) : f.multi = some true ↔ f.multi.getD false = true := by
  cases hm : f.multi with
  | none => simp
  | some b => simp

theorem inlineFeat_coll {K : Consts} {ts : TypeSystem} {hp : Heap} {o : Obj} {f : Feature}
    (h : InlineFeat K ts hp o f) : isArray K f.range = true ∨ isList K f.range = true := by
  obtain ⟨_, v, _, hk⟩ := h
  rcases hk with ⟨_, rk, _⟩ | ⟨_, rk, _⟩ | ⟨_, rk, _⟩ | ⟨_, rk, _⟩ | ⟨_, rk, _⟩ | ⟨_, rk, _⟩ | ⟨_, rk, _⟩
  · exact .inl rk.arr
  · exact .inl rk.arr
  · exact .inl rk.arr
  · exact .inr rk.list
  · exact .inr rk.list
  · exact .inr rk.list
  · exact .inr rk.list

/-- the fragment looks at a feature through its name, range, reserved flag and — for collection ranges —
    `multipleReferencesAllowed` -/
theorem collFeat_like {K : Consts} {ts : TypeSystem} {c : Cas} {ci : Nat} {hp : Heap} {isAnn : Bool} {o : Obj}
    {f f' : Feature} (hl : FeatLike K f f') (h : CollFeat K ts c ci hp isAnn o f) : CollFeat K ts c ci hp isAnn o f' := by
  obtain ⟨hn, hr, hm, hres⟩ := hl
  rcases h with hflat | ⟨hname, hsh | hin⟩
  · refine .inl ?_
    unfold FlatFeat ResOk at hflat ⊢
    rw [hn, hr, hres]
    exact hflat
  · refine .inr ⟨?_, .inl ?_⟩
    · unfold NameOk ResOk at hname ⊢
      rw [hn, hres]
      exact hname
    · have hcoll := hsh.2.1
      unfold SharedFeat at hsh ⊢
      rw [hn, hr]
      refine ⟨?_, hsh.2⟩
      rw [multi_true_iff, hm hcoll, ← multi_true_iff]
      exact hsh.1
  · refine .inr ⟨?_, .inr ?_⟩
    · unfold NameOk ResOk at hname ⊢
      rw [hn, hres]
      exact hname
    · have hcoll := inlineFeat_coll hin
      unfold InlineFeat at hin ⊢
      rw [hn, hr, hm hcoll]
      exact hin

/-- the fragment looks at the type system through `is_instance_of` / `is_primitive` of the range of the feature, at the
    heap through ids, slots and list spines -/
theorem collFeat_sim {K : Consts} {ts ts' : TypeSystem} {c : Cas} {ci : Nat} {hp hp' : Heap} {isAnn : Bool} {o o' : Obj}
    {f : Feature} (hi1 : isInstanceOf ts' f.range STRING_ARRAY = isInstanceOf ts f.range STRING_ARRAY)
    (hi2 : isInstanceOf ts' f.range STRING_LIST = isInstanceOf ts f.range STRING_LIST)
    (hpr : isPrimitive K ts' f.range = isPrimitive K ts f.range) (hh : HeapSim hp hp')
    (ho : ∀ n, alistGet? o'.slots n = alistGet? o.slots n)
    (h : CollFeat K ts c ci hp isAnn o f) : CollFeat K ts' c ci hp' isAnn o' f := by
  have hrk : ∀ pa pl ar li sa sl, RangeKind K ts' f.range pa pl ar li sa sl = RangeKind K ts f.range pa pl ar li sa sl := by
    intro pa pl ar li sa sl
    apply propext
    constructor
    · intro h
      exact ⟨h.primArr, h.primList, h.arr, h.list, by rw [← hi1]; exact h.strArr, by rw [← hi2]; exact h.strList,
        by rw [← hpr]; exact h.prim⟩
    · intro h
      exact ⟨h.primArr, h.primList, h.arr, h.list, by rw [hi1]; exact h.strArr, by rw [hi2]; exact h.strList,
        by rw [hpr]; exact h.prim⟩
  unfold CollFeat FlatFeat SharedFeat InlineFeat InlArr InlList FsElems RefOk at h ⊢
  rw [xidOf_sim hh, slot_sim hh, collectList_congr hh.slot, hh.1]
  simp only [hi1, hi2, hpr, ho, hrk]
  exact h

theorem tyOn_sim {N : String → Prop} {hp hp' : Heap} (hh : HeapSim hp hp') {a : Nat} (h : TyOn N hp a) : TyOn N hp' a := by
  intro o' ho'
  obtain ⟨x, g1, gx⟩ := hh.symm.get_some ho'
  rw [← gx.1]; exact h x g1

theorem collFs_le {K : Consts} {N : String → Prop} {ts ts' : TypeSystem} {c : Cas} {ci : Nat} {hp hp' : Heap} {a : Nat}
    (hle : TsLe K N ts ts') (hh : HeapSim hp hp') (hk : SlotsOk ts' hp' a) (hN : TyOn N hp a)
    (h : CollFs K ts c ci hp a) : CollFs K ts' c ci hp' a := by
  rcases h with hg | hA
  · obtain ⟨o, t, ho, ht, g⟩ := genFs_iff.mp hg
    obtain ⟨o', g2, gx⟩ := hh.get_some ho
    have hoN : N o.ty := hN o ho
    obtain ⟨t', ht', htn', hsup', hperm, hfwd, hbwd, hrng⟩ := hle.find _ t hoN ht
    have hty : o'.ty = o.ty := gx.1
    have hget : ∀ n, alistGet? o'.slots n = alistGet? o.slots n := gx.2.2.2.2
    have ht'' : find? ts' o'.ty = some t' := by rw [hty]; exact ht'
    refine .inl ⟨o', t', g2, ht'', by rw [htn', g.name, hty], ?_⟩
    rw [hty, hsup', hle.inst _ _ hoN, hle.inst _ _ hoN]
    refine ⟨g.notArr, g.notList, g.notArrBase, g.notPrimArr, g.notFsArr, g.notStrArr, g.notSofa, g.notView,
      hperm.nodup_iff.mpr g.nodup, hk o' t' g2 ht'', ?_, ?_⟩
    · intro f' hf'
      obtain ⟨f, hf, hl⟩ := hbwd f' hf'
      have hr := hrng f hf
      exact collFeat_like hl (collFeat_sim (hle.inst _ _ hr) (hle.inst _ _ hr) (hle.prim _ hr) hh hget (g.feat f hf))
    · exact fun hA => (g.ann hA).copy (E := fun _ v => v) (fun n v hv => (hget n).trans hv) (fun _ => rfl)
        (fun _ _ => rfl) fun vn v hv => ⟨v, hv, rfl⟩
  · obtain ⟨o, t, f, ev, ho, ht, ar⟩ := hA.obj
    obtain ⟨o', g2, gx⟩ := hh.get_some ho
    have hoN : N o.ty := hN o ho
    obtain ⟨t', ht', htn', hsup', hperm, hfwd, hbwd, _⟩ := hle.find _ t hoN ht
    have hty : o'.ty = o.ty := gx.1
    have ht'' : find? ts' o'.ty = some t' := by rw [hty]; exact ht'
    -- the only feature
    have hnames : (allFeatures t').map (·.name) = [f.name] := by
      have e : ctorFields t = [f.name] := by unfold ctorFields; rw [ar.feats]; rfl
      exact List.perm_singleton.mp (e ▸ hperm)
    obtain ⟨f', hall'⟩ : ∃ f', allFeatures t' = [f'] := by
      cases hl : allFeatures t' with
      | nil => rw [hl] at hnames; cases hnames
      | cons f' rest =>
        cases rest with
        | nil => exact ⟨f', rfl⟩
        | cons _ _ => rw [hl] at hnames; simp at hnames
    obtain ⟨f0, hf0, hl⟩ := hbwd f' (by rw [hall']; exact List.mem_cons_self)
    rw [ar.feats] at hf0
    have e0 : f0 = f := by simpa using hf0
    subst e0
    obtain ⟨l1, l2, _, l4⟩ := hl
    have hsl' : o'.slots = [("elements", ev)] := List.perm_singleton.mp (ar.slots ▸ gx.2.2.2.1)
    refine .inr ⟨o', t', f', ev, g2, ht'', by rw [htn', ar.name, hty], by rw [hsup']; exact ar.arrBase, hall',
      by rw [l1]; exact ar.fname, by rw [l2]; exact ar.frange, by rw [l4]; exact ar.fres, hsl', ?_, ?_⟩
    · rw [hty, hle.inst _ _ hoN]; exact ar.notAnn
    · rw [hty]
      have hcase := ar.kind
      unfold FsElems RefOk at hcase ⊢
      rw [xidOf_sim hh]
      rcases hcase with ⟨c1, c2, c3, c4⟩ | hc2 | ⟨c1, c2, c3, c4⟩
      · exact .inl ⟨c1, c2, by rw [← c1, hle.inst _ _ hoN, c1]; exact c3, c4⟩
      · exact .inr (.inl hc2)
      · exact .inr (.inr ⟨c1, c2, by rw [hle.inst _ _ hoN]; exact c3, c4⟩)

theorem isInline_like {K : Consts} {f f' : Feature} (hl : FeatLike K f f') : isInline K f' = isInline K f := by
  unfold isInline
  rw [hl.2.1]
  cases ha : isArray K f.range with
  | true => rw [hl.2.2.1 (.inl ha)]
  | false =>
    cases hli : isList K f.range with
    | true => rw [hl.2.2.1 (.inr hli)]
    | false => simp

theorem target_le {K : Consts} {N : String → Prop} {ts ts' : TypeSystem} {hp hp' : Heap} {a b : Nat}
    (hle : TsLe K N ts ts') (hh : HeapSim hp hp') (hN : TyOn N hp a) (h : Target K ts hp a b) :
    Target K ts' hp' a b := by
  obtain ⟨o, t, ho, ht, hcase⟩ := h
  obtain ⟨o', g2, gx⟩ := hh.get_some ho
  obtain ⟨t', ht', _, _, _, hfwd, _⟩ := hle.find _ t (hN o ho) ht
  have hty : o'.ty = o.ty := gx.1
  have hget : ∀ n, alistGet? o'.slots n = alistGet? o.slots n := gx.2.2.2.2
  refine ⟨o', t', g2, by rw [hty]; exact ht', ?_⟩
  rcases hcase with ⟨f, hf, h1, h2⟩ | ⟨f, hf, h1, h2, cc, l, h3, h4, h5⟩ | ⟨f, hf, h1, h2, cc, hs, h3, h4, h5⟩ |
    ⟨h1, l, h2, h3⟩
  · obtain ⟨f', hf', hl⟩ := hfwd f hf
    exact .inl ⟨f', hf', by rw [isInline_like hl]; exact h1, by rw [hl.1, hget]; exact h2⟩
  · obtain ⟨f', hf', hl⟩ := hfwd f hf
    exact .inr (.inl ⟨f', hf', by rw [isInline_like hl]; exact h1, by rw [hl.2.1]; exact h2, cc, l,
      by rw [hl.1, hget]; exact h3, by rw [slot_sim hh]; exact h4, h5⟩)
  · obtain ⟨f', hf', hl⟩ := hfwd f hf
    exact .inr (.inr (.inl ⟨f', hf', by rw [isInline_like hl]; exact h1, by rw [hl.2.1]; exact h2, cc, hs,
      by rw [hl.1, hget]; exact h3, by rw [collectList_congr hh.slot, hh.1]; exact h4, h5⟩))
  · exact .inr (.inr (.inr ⟨by rw [hty]; exact h1, l, by rw [hget]; exact h2, h3⟩))

theorem lokC_le {K : Consts} {N : String → Prop} {ts ts' : TypeSystem} {c : Cas} {ci : Nat} {hp hp' : Heap}
    {L : List (Int × Nat)} (hle : TsLe K N ts ts') (hle' : TsLe K N ts' ts) (hh : HeapSim hp hp')
    (hk : ∀ q ∈ L, SlotsOk ts' hp' q.2) (hN : ∀ q ∈ L, TyOn N hp q.2)
    (hL : LOkC K ts c ci hp L) : LOkC K ts' c ci hp' L := by
  refine ⟨fun q hq => collFs_le hle hh (hk q hq) (hN q hq) (hL.coll q hq), ?_, hL.nodup, ?_, hL.members⟩
  · intro q hq
    rw [hh.xidOf]
    exact hL.ids q hq
  · intro q hq b hb
    obtain ⟨x, hx, hxl⟩ := hL.closed q hq b (target_le hle' (HeapSim.symm hh) (tyOn_sim hh (hN q hq)) hb)
    exact ⟨x, by rw [hh.xidOf]; exact hx, hxl⟩

/-! ### The traversal under the other type system

The traversal of the XMI writer does not tell apart two type systems that answer the XMI codec alike on `N` (`TsLe` in both
directions) on heaps that are the same up to slot order, when the first traversal leaves the heap alone and collects
structures of the XMI fragment whose types are in `N`: seen under the other type system they are a copy, at the same
addresses, in the sense of `Traverse.Moved`, so the second traversal succeeds, leaves its heap alone, and collects the same
structures under the same ids (the *order* of collection may differ — the features are visited in the order of the type
system — but the writer sorts by id). -/

section
variable {K : Consts} {N : String → Prop} {ts ts' : TypeSystem} {c : Cas} {ci : Nat} {hp hp' : Heap}

/-- the address under which `L` lists the id `x` -/
def addrOf (L : List (Int × Nat)) (x : Int) : Nat := ((L.find? (·.1 == x)).map (·.2)).getD 0

theorem addrOf_mem {L : List (Int × Nat)} (hn : (L.map (·.1)).Nodup) {q : Int × Nat} (hq : q ∈ L) : addrOf L q.1 = q.2 := by
  unfold addrOf
  cases hf : L.find? (·.1 == q.1) with
  | none => exact absurd (by simp) (List.find?_eq_none.mp hf q hq)
  | some r =>
    have e : r.1 = q.1 := by simpa using List.find?_some hf
    rw [Det.inj_of_nodup_map (·.1) _ hn (List.mem_of_find?_eq_some hf) hq e]
    rfl

/-- the structures collected under `ts` over `hp`, seen under `ts'` over `hp'`, are a copy at the same addresses -/
theorem moved_le (hle : TsLe K N ts ts') (hh : HeapSim hp hp') {L : List (Int × Nat)}
    (hN : ∀ q ∈ L, TyOn N hp q.2) (hL : LOkC K ts c ci hp L) (hL' : LOkC K ts' c ci hp' L) :
    Moved K ts ts' {} {} hp (hp.length + 1) hp' L (addrOf L) := by
  have ha := fun q hq => addrOf_mem hL.nodup (q := q) hq
  refine ⟨fun q hq => by rw [ha q hq]; exact (hL'.ids q hq).1, fun q hq => ?_, fun xa a xb b hqa hqb hs => ?_⟩
  · rw [ha q hq]
    obtain ⟨o', t, ps, n, ho', ht, hns, hps⟩ := CT.nodeSuccs_coll_iff (hL'.coll q hq)
    refine ⟨o', t, ps, n, ho', TS.getType_of_find ht, hns, fun b' hb' => ?_⟩
    obtain ⟨x, _, hxl⟩ := hL'.closed q hq b' ((hps b').mp hb')
    exact ⟨_, hxl, (ha _ hxl).symm⟩
  · rw [ha _ hqa, ha _ hqb]
    exact (CT.succsOf_coll (hL'.coll _ hqa) b).mpr
      (target_le hle hh (hN _ hqa) ((CT.succsOf_coll (hL.coll _ hqa) b).mp hs))

/-- **the traversal under the other type system** -/
theorem traversal_le (hle : TsLe K N ts ts') (hle' : TsLe K N ts' ts) (hh : HeapSim hp hp') {nx : Int} (hnx : 0 < nx)
    {st : St} (hfa : findAllFs K ts {} hp nx (defaultSeeds c) = .ok st) (hheap : st.heap = hp)
    (hL : LOkC K ts c ci hp (sortById st.allFs)) (hk : ∀ q ∈ st.allFs, SlotsOk ts' hp' q.2)
    (hN : ∀ q ∈ st.allFs, TyOn N hp q.2) :
    ∃ st' : St, findAllFs K ts' {} hp' nx (defaultSeeds c) = .ok st' ∧ st'.heap = hp' ∧
      sortById st'.allFs = sortById st.allFs ∧ LOkC K ts' c ci hp' (sortById st.allFs) := by
  subst hheap
  have hN' := fun q hq => hN q (mem_sortById.mp hq)
  have hL' : LOkC K ts' c ci hp' (sortById st.allFs) :=
    lokC_le hle hle' hh (fun q hq => hk q (mem_sortById.mp hq)) hN' hL
  have ha := fun q hq => addrOf_mem hL.nodup (q := q) hq
  obtain ⟨st', hfa', hheap', _, hsort⟩ := (moved_le hle hh hN' hL hL').sorted (seeds' := defaultSeeds c) hnx hfa
    (fun a hs => by
      -- the seeds are members of views, hence collected
      obtain ⟨nv, hnv, e, he, rfl⟩ := mem_defaultSeeds_iff.mp hs
      obtain ⟨x, hx⟩ := hL.members nv hnv e he
      exact ⟨_, hx, (ha _ hx).symm⟩)
    (fun x a hx hs => by rw [ha _ hx]; exact hs) hnx
  refine ⟨st', hfa', hheap', ?_, hL'⟩
  rw [hsort, List.map_congr_left (g := id) (fun q hq => (Prod.ext rfl (ha q hq) :
    (q.1, addrOf (sortById st.allFs) q.1) = id q)), List.map_id]

end

end Cassis.ChainE
