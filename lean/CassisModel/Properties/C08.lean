/-
C08 — Views are isolated, share ids and types, and every handle sees the same state.

The model keeps ONE `Cas` value for all handles of a CAS (`Model/Cas.lean`), so "every handle observes
and mutates the same state" is the shape of the model; that the code really shares `_views`, `_sofas`
and the generators between handles is what the correspondence check observes.  Proved here: frame
properties (an operation through a handle of view `v` changes nothing in any other view), leniency and
validity of every handle obtainable in any history, read-back of the four sofa fields, the sofa link
that `add` installs and the covered-text equation, and the create-once behaviour of the document annotation.
-/
import CassisModel.Proofs.Cas
import CassisModel.Proofs.Index

namespace Cassis.Cas

/-- every handle ever obtained (create_view / get_view, repeatedly, in any history) keeps the CAS's
    leniency and points to an existing view; view names stay unique and each view has exactly one sofa,
    named after the view -/
theorem handles_history (K : TS.Consts) (ts : TS.TypeSystem) (lenient : Bool) (ops : List COp) :
    HandlesOk lenient (ops.foldl (cstep K ts) (init lenient)) ∧ ViewsOk (ops.foldl (cstep K ts) (init lenient)) := by
  obtain ⟨g, h⟩ := good_handlesOk_history K ts lenient ops _ (good_init lenient) (handlesOk_init lenient)
  exact ⟨h, g.2.2⟩

/-- `add` through a handle of view `v`: every other view (index and sofa) is untouched, the sofa of `v`
    is untouched, and `v`'s index gains exactly the new entry under the structure's type name -/
theorem add_frame (ts : TS.TypeSystem) (cas : Nat) (c c' : Cas) (hp hp' : Heap) (h : Handle) (addr : Nat)
    (keep : Bool) (hadd : add ts cas c hp h addr keep = .ok (c', hp')) :
    (∀ w, w ≠ h.view → getViewRec c' w = getViewRec c w) ∧
    (∃ v v' o e, getViewRec c h.view = some v ∧ getViewRec c' h.view = some v' ∧ hp[addr]? = some o ∧
      v'.sofa = v.sofa ∧ v'.idx = Index.add v.idx o.ty e ∧ e.oid = addr) ∧
    (c'.views.map (·.1)) = (c.views.map (·.1)) := by
  obtain ⟨o, v, x, nx', e, ho, _, hv, _, he, rfl, rfl⟩ := add_cases hadd
  exact ⟨fun w hw => getViewRec_set_other _ _ _ _ hw,
    ⟨v, _, o, e, hv, getViewRec_set_same _ _ _, ho, rfl, rfl, entryOf_oid he⟩,
    keys_setViewRec { c with nextXid := nx' } _ v _ hv⟩

/-- `add` changes one object only: its id (kept or generated) and its `sofa` slot, which now names the
    view it was added to -/
theorem add_heap (ts : TS.TypeSystem) (cas : Nat) (c c' : Cas) (hp hp' : Heap) (h : Handle) (addr : Nat)
    (keep : Bool) (hadd : add ts cas c hp h addr keep = .ok (c', hp')) :
    hp'.length = hp.length ∧ (∀ b, b ≠ addr → hp'[b]? = hp[b]?) ∧
    ∃ o o', hp[addr]? = some o ∧ hp'[addr]? = some o' ∧ o'.ty = o.ty ∧
      (∀ n, n ≠ "sofa" → alistGet? o'.slots n = alistGet? o.slots n) ∧
      ((alistGet? o.slots "sofa").isSome = true → alistGet? o'.slots "sofa" = some (.sofa cas h.view)) ∧
      ((alistGet? o.slots "sofa") = none → alistGet? o'.slots "sofa" = none) := by
  obtain ⟨o, v, x, c1, e, ho, _, hv, hx, he, rfl, rfl⟩ := add_cases hadd
  have hlt : addr < hp.length := (List.getElem?_eq_some_iff.mp ho).1
  refine ⟨List.length_set, ?_, o, addObj cas h o x, ho, List.getElem?_set_self hlt, rfl, ?_, ?_, ?_⟩
  · intro b hb
    exact List.getElem?_set_ne (fun e => hb e.symm)
  · intro n hn
    unfold addObj
    simp only
    split
    · exact alistGet?_set_other _ _ _ _ hn
    · rfl
  · intro hs
    unfold addObj
    simp only [hs, if_true]
    exact alistGet?_set_same _ _ _
  · intro hs
    unfold addObj
    simp only [hs, Option.isSome_none, Bool.false_eq_true, if_false]

theorem remove_frame (c c' : Cas) (hp : Heap) (h : Handle) (addr : Nat) (hr : remove c hp h addr = .ok c') :
    (∀ w, w ≠ h.view → getViewRec c' w = getViewRec c w) ∧
    (∃ v v', getViewRec c h.view = some v ∧ getViewRec c' h.view = some v' ∧ v'.sofa = v.sofa) ∧
    c'.nextXid = c.nextXid ∧ c'.nextSofaNum = c.nextSofaNum := by
  obtain ⟨v, idx', hv, rfl⟩ := remove_ok hr
  exact ⟨fun w hw => getViewRec_set_other _ _ _ _ hw, ⟨v, _, hv, getViewRec_set_same _ _ _, rfl⟩, rfl, rfl⟩

/-- the four sofa fields read back as last written; the setter of one field leaves the other fields, the
    index of the view and all other views alone; the text setter also recomputes the offset mapping -/
theorem sofa_readback (c c' : Cas) (h : Handle) (f : Sofa → Sofa) (hu : updSofa c h f = .ok c') :
    (∃ v, getViewRec c h.view = some v ∧ getViewRec c' h.view = some { v with sofa := f v.sofa }) ∧
    (∀ w, w ≠ h.view → getViewRec c' w = getViewRec c w) ∧
    c'.nextXid = c.nextXid ∧ c'.nextSofaNum = c.nextSofaNum := by
  obtain ⟨v, hv, rfl⟩ := updSofa_ok hu
  exact ⟨⟨v, hv, getViewRec_set_same _ _ _⟩, fun w hw => getViewRec_set_other _ _ _ _ hw, rfl, rfl⟩

theorem setSofaString_reads (c c' : Cas) (h : Handle) (t : Option (List Nat)) (hs : setSofaString c h t = .ok c') :
    ∃ v v', getViewRec c h.view = some v ∧ getViewRec c' h.view = some v' ∧ v'.sofa.text = t ∧
      v'.sofa.conv = Offsets.createMapping v.sofa.conv t ∧ v'.sofa.mime = v.sofa.mime ∧
      v'.sofa.uri = v.sofa.uri ∧ v'.sofa.arr = v.sofa.arr ∧ v'.sofa.xid = v.sofa.xid ∧
      v'.sofa.sofaNum = v.sofa.sofaNum ∧ v'.idx = v.idx := by
  unfold setSofaString at hs
  obtain ⟨v, hv, rfl⟩ := updSofa_ok hs
  exact ⟨v, _, hv, getViewRec_set_same _ _ _, rfl, rfl, rfl, rfl, rfl, rfl, rfl, rfl⟩

/-- covered text = the `[begin:end)` slice of the text of the view named by the structure's sofa slot,
    i.e. (by `add_heap`) the view it was most recently added to -/
theorem coveredText_spec (cass : List Cas) (hp : Heap) (addr : Nat) (o : Obj) (ci : Nat) (vn : String)
    (c : Cas) (v : View) (b e : Int) (t : List Nat)
    (ho : hp[addr]? = some o) (hs : alistGet? o.slots "sofa" = some (.sofa ci vn))
    (hb : alistGet? o.slots "begin" = some (.int b)) (he : alistGet? o.slots "end" = some (.int e))
    (hc : cass[ci]? = some c) (hv : getViewRec c vn = some v) (ht : v.sofa.text = some t)
    (hb0 : 0 ≤ b) (he0 : 0 ≤ e) :
    coveredText cass hp addr = .ok (some (Offsets.slice t b.toNat e.toNat)) := by
  unfold coveredText
  simp only [bind, Except.bind, pure, Except.pure, throw, throwThe, MonadExceptOf.throw, ho, hs, hb, he, hc,
    hv, ht]
  have h1 : ¬ b < 0 := by omega
  have h2 : ¬ e < 0 := by omega
  simp [h1, h2]

/-- document annotation: an indexed instance of the DocumentAnnotation subtree is returned and nothing
    changes … -/
theorem docAnn_existing (ts : TS.TypeSystem) (ti cas : Nat) (c : Cas) (hp : Heap) (h : Handle)
    (e : Index.Entry) (rest : List Index.Entry)
    (hsel : select ts c h TS.DOCUMENT_ANNOTATION = .ok (e :: rest)) :
    getDocumentAnnotation ts ti cas c hp h = .ok (c, hp, e.oid) := by
  unfold getDocumentAnnotation
  simp only [bind, Except.bind, pure, Except.pure, hsel]

/-- … otherwise exactly one is created and indexed in this view, and a second call returns that one -/
theorem docAnn_creates_once (ts : TS.TypeSystem) (hcs : TS.Consistent ts) (ti cas : Nat) (c c' : Cas)
    (hp hp' : Heap) (h : Handle) (a : Nat)
    (hsel : select ts c h TS.DOCUMENT_ANNOTATION = .ok [])
    (hd : getDocumentAnnotation ts ti cas c hp h = .ok (c', hp', a)) :
    a = hp.length ∧ hp'.length = hp.length + 1 ∧
    getDocumentAnnotation ts ti cas c' hp' h = .ok (c', hp', a) := by
  rcases docAnn_cases hd with ⟨e, rest, hs, _⟩ | ⟨_, t, o, ht, hc, hadd, ha⟩
  · rw [hsel] at hs; cases hs
  obtain ⟨t0, v0, ht0, hv0, hnil⟩ := select_cases hsel
  rw [ht] at ht0
  cases ht0
  obtain ⟨o1, v, x, nx', e, ho1, _, hv, hx, he, rfl, rfl⟩ := add_cases hadd
  rw [hv0] at hv
  cases hv
  have ho : o1 = o := by
    have : (hp ++ [o])[hp.length]? = some o := by simp
    rw [this] at ho1
    cases ho1; rfl
  subst ho
  have hty : o1.ty = t.name := (construct_ok hc).1
  subst ha
  have hempty : ∀ n ∈ TS.descendantsOf ts t.name, Index.get v0.idx n = [] := by
    intro n hn
    unfold Index.selectNames at hnil
    exact List.flatMap_eq_nil_iff.mp hnil.symm n hn
  have hself := self_mem_descendantsOf hcs ht
  have hget : ∀ n ∈ TS.descendantsOf ts t.name,
      Index.get (Index.add v0.idx o1.ty e) n = if n = t.name then [e] else [] := by
    intro n hn
    unfold Index.add
    rw [Index.get_alistSet, hty, hempty _ hself, hempty n hn]
    rfl
  obtain ⟨r, hr⟩ := flatMap_head_of_single hget hself
  refine ⟨rfl, ?_, ?_⟩
  · rw [List.length_set, List.length_append]; rfl
  · have hs2 : select ts (setViewRec { c with nextXid := nx' } h.view { v0 with idx := Index.add v0.idx o1.ty e }) h
        TS.DOCUMENT_ANNOTATION = .ok (e :: r) := by
      rw [select_of ht (getViewRec_set_same _ _ _)]
      unfold Index.selectNames
      simp only
      rw [hr]
    rw [docAnn_existing ts ti cas _ _ h e r hs2, entryOf_oid he]

/-! Non-vacuity (test of a concrete history) -/
example : ((([COp.createView 0 "v2", .getView 1 "_InitialView", .setSofaString 1 (some [97, 98])].foldl
    (cstep Gen.consts Gen.builtinTS) (init true)).handles.map (·.lenient))) = [true, true, true] := by decide

end Cassis.Cas
