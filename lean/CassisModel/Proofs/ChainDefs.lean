/-
Shared definitions of the composition of the two round trips (`Properties/C16Chain.lean`).

Both loaders produce a CAS that stands in the same relation to the CAS that was written: `HeapRel … E3` for the
structures and a view relation (`ViewsRelL` for the XMI reader, `ViewsRelJ` for the JSON reader).  `VR` is the common
part of the two relations between single views, `VRL` its lifting to the lists of views; `LdCtx` bundles what is known
about a loaded CAS.  Everything the *other* format's round trip needs of the loaded CAS is derived from `LdCtx`
(`ChainLoaded.lean`); the facts about seeds and members that the three kinds of loaded CAS (`LdCtx`, `XLd`, `JLd`) share
are stated once, over `LdViews`.

Two facts make the public theorems inapplicable to a loaded CAS, although their conclusions hold:
* `RTWf.ids_below` / `RTWf.ids_pos` speak about the whole heap; the loaders extend the heap of the CAS that was written,
  so structures that are not part of the loaded CAS (unreachable ones with larger ids, the `cas:NULL` object with id 0
  of the XMI reader) are in the same heap.  The internal lemmas only use these two fields to establish `LOk`, which is
  proved directly for the loaded CAS; they are applied with the well-formedness of the views stated against the empty
  heap (`RTWf c []`).
* `RTWf.conv`: the XMI reader installs no converter for the empty text (`convOfText`), the setter installs the table of
  the empty text.  Both agree on every offset inside the text; the JSON half is run on the normalised CAS (`normCas`),
  which is written as the same document.
-/
import CassisModel.Proofs.RoundTripFlat
import CassisModel.Proofs.RoundTripJsonFixpoint

namespace Cassis.Chain
open Cassis.TS Cassis.Traverse Cassis.Xmi Cassis.Json

/-- the common part of `ViewRel` and `ViewRelJ` -/
def VR (H : Heap) (na : Int → Nat) (nv nv' : String × View) : Prop :=
  nv'.1 = nv.1 ∧ nv'.2.sofa.sofaID = nv.2.sofa.sofaID ∧ nv'.2.sofa.xid = nv.2.sofa.xid ∧
  nv'.2.sofa.sofaNum = nv.2.sofa.sofaNum ∧ nv'.2.sofa.text = nv.2.sofa.text ∧ nv'.2.sofa.mime = nv.2.sofa.mime ∧
  ((Index.all nv'.2.idx).map (·.oid)).Perm ((pviewOf H nv).members.map na)

def VRL (H : Heap) (na : Int → Nat) : List (String × View) → List (String × View) → Prop
  | [], [] => True
  | nv :: r, nv' :: r' => VR H na nv nv' ∧ VRL H na r r'
  | _, _ => False

theorem VR.of_xmi {H : Heap} {na : Int → Nat} {nv nv' : String × View} : ViewRel H na nv nv' → VR H na nv nv'
  | ⟨h1, h2, h3, h4, h5, h6, _, h8⟩ => ⟨h1, h2, h3, h4, h5, h6, h8⟩

theorem VR.of_json {H : Heap} {na : Int → Nat} {nv nv' : String × View} : ViewRelJ H na nv nv' → VR H na nv nv'
  | ⟨h1, h2, h3⟩ => ⟨h1, by rw [h2], by rw [h2], by rw [h2], by rw [h2], by rw [h2], h3⟩

theorem vrl_iff_all2 {H : Heap} {na : Int → Nat} : ∀ {l l' : List (String × View)}, VRL H na l l' ↔ RTB.All2 (VR H na) l l'
  | [], [] | [], _ :: _ | _ :: _, [] => Iff.rfl
  | _ :: _, _ :: _ => and_congr_right fun _ => vrl_iff_all2

theorem VRL.all2 {H : Heap} {na : Int → Nat} {l l' : List (String × View)} : VRL H na l l' → RTB.All2 (VR H na) l l' :=
  vrl_iff_all2.mp

theorem VRL.of_xmi {H : Heap} {na : Int → Nat} {l l' : List (String × View)} (h : ViewsRelL H na l l') : VRL H na l l' :=
  vrl_iff_all2.mpr (h.all2.imp_mem fun _ _ _ => .of_xmi)

theorem VRL.of_json {H : Heap} {na : Int → Nat} {l l' : List (String × View)} (h : ViewsRelJ H na l l') : VRL H na l l' :=
  vrl_iff_all2.mpr (h.all2.imp_mem fun _ _ _ => .of_json)

/-- `MembersOk` reads a CAS through the index entries of each view and the heap through the type and the sort key of the
    object at each entry: it carries over to views whose entries have counterparts that agree in these two -/
theorem _root_.Cassis.Xmi.MembersOk.transport {c c' : Cas} {H H' : Heap}
    (hkey : ∀ nv' ∈ c'.views, ∃ nv ∈ c.views, ∀ e' ∈ Index.all nv'.2.idx, ∃ e ∈ Index.all nv.2.idx,
      ∀ o, H[e.oid]? = some o → ∃ o', H'[e'.oid]? = some o' ∧ o'.ty = o.ty ∧
        ∀ k, Cas.entryOf o e.oid = .ok k → ∃ k', Cas.entryOf o' e'.oid = .ok k' ∧ k'.b = k.b)
    (h : MembersOk c H) : MembersOk c' H' := by
  intro nv' hnv'
  obtain ⟨nv, hnv, hent⟩ := hkey nv' hnv'
  obtain ⟨h1, h2⟩ := h nv hnv
  have key : ∀ e' ∈ Index.all nv'.2.idx, ∃ e ∈ Index.all nv.2.idx, ∃ (o o' : Obj) (k k' : Index.Entry),
      H[e.oid]? = some o ∧ Cas.entryOf o e.oid = .ok k ∧ H'[e'.oid]? = some o' ∧ o'.ty = o.ty ∧
      Cas.entryOf o' e'.oid = .ok k' ∧ k'.b = k.b := by
    intro e' he'
    obtain ⟨e, he, hobj⟩ := hent e' he'
    obtain ⟨o, k, ho, hk⟩ := h1 e he
    obtain ⟨o', ho', hty, hk'⟩ := hobj o ho
    obtain ⟨k', hk', hb⟩ := hk' k hk
    exact ⟨e, he, o, o', k, k', ho, hk, ho', hty, hk', hb⟩
  refine ⟨fun e' he' => ?_, fun e1' he1' e2' he2' o1' o2' k1' k2' ho1' ho2' hty hk1' hk2' => ?_⟩
  · obtain ⟨_, _, _, o', _, k', _, _, ho', _, hk', _⟩ := key e' he'
    exact ⟨o', k', ho', hk'⟩
  · obtain ⟨e1, he1, o1, o1'', k1, k1'', ho1, hk1, ho1'', hty1, hk1'', hb1⟩ := key e1' he1'
    obtain ⟨e2, he2, o2, o2'', k2, k2'', ho2, hk2, ho2'', hty2, hk2'', hb2⟩ := key e2' he2'
    rw [ho1'] at ho1''; cases ho1''
    rw [ho2'] at ho2''; cases ho2''
    rw [hk1'] at hk1''; cases hk1''
    rw [hk2'] at hk2''; cases hk2''
    rw [hb1, hb2]
    exact h2 e1 he1 e2 he2 o1 o2 k1 k2 ho1 ho2 (by rw [← hty1, ← hty2]; exact hty) hk1 hk2

/-- what the seed and member lemmas need of a loaded CAS `c'`: the views correspond, and the members of the written views
    are among the collected structures `L` (both `members` and `ids` are fields of `LOk`, `LOkC`, `LOkJ`) -/
structure LdViews (c : Cas) (H : Heap) (L : List (Int × Nat)) (na : Int → Nat) (c' : Cas) : Prop where
  views : VRL H na c.views c'.views
  members : ∀ nv ∈ c.views, ∀ e ∈ Index.all nv.2.idx, ∃ x : Int, (x, e.oid) ∈ L
  ids : ∀ q ∈ L, xidOf H q.2 = some q.1 ∧ q.1 ≠ 0

section
variable {c : Cas} {H : Heap} {L : List (Int × Nat)} {na : Int → Nat} {c' : Cas}

theorem LdViews.entry_of (x : LdViews c H L na c') {nv nv' : String × View} (hnv : nv ∈ c.views) (hr : VR H na nv nv')
    {e' : Index.Entry} (he' : e' ∈ Index.all nv'.2.idx) :
    ∃ e ∈ Index.all nv.2.idx, ∃ i : Int, (i, e.oid) ∈ L ∧ e'.oid = na i := by
  obtain ⟨m, hm, hme⟩ := List.mem_map.mp (hr.2.2.2.2.2.2.mem_iff.mp (List.mem_map.mpr ⟨e', he', rfl⟩))
  obtain ⟨e, he, hx⟩ := mem_members.mp hm
  obtain ⟨y, hy⟩ := x.members nv hnv e he
  have := (x.ids _ hy).1
  rw [show ((y, e.oid) : Int × Nat).2 = e.oid from rfl, hx] at this
  cases this
  exact ⟨e, he, _, hy, hme.symm⟩

theorem LdViews.entry (x : LdViews c H L na c') {nv' : String × View} (hnv' : nv' ∈ c'.views) {e' : Index.Entry}
    (he' : e' ∈ Index.all nv'.2.idx) :
    ∃ nv ∈ c.views, VR H na nv nv' ∧ ∃ e ∈ Index.all nv.2.idx, ∃ i : Int, (i, e.oid) ∈ L ∧ e'.oid = na i := by
  obtain ⟨nv, hnv, hr⟩ := x.views.all2.bwd nv' hnv'
  exact ⟨nv, hnv, hr, x.entry_of hnv hr he'⟩

theorem LdViews.seed_fwd (x : LdViews c H L na c') {a : Nat} (ha : a ∈ defaultSeeds c') : ∃ q ∈ L, a = na q.1 :=
  let ⟨q, hq, e, _⟩ := seeds_fwd_of x.ids x.members (x.views.all2.imp_mem fun _ _ _ hr => hr.2.2.2.2.2.2).bwd ha
  ⟨q, hq, e⟩

theorem LdViews.seed_bwd (x : LdViews c H L na c') {i : Int} {a : Nat} (hx : (i, a) ∈ L) (ha : a ∈ defaultSeeds c) :
    na i ∈ defaultSeeds c' :=
  seeds_bwd_of x.ids (x.views.all2.imp_mem fun _ _ _ hr => hr.2.2.2.2.2.2).fwd hx ha

theorem LdViews.members_transfer (x : LdViews c H L na c') {P P' : Nat → Prop} (hs : ∀ q ∈ L, P q.2 → P' (na q.1))
    (h : ∀ nv ∈ c.views, ∀ e ∈ Index.all nv.2.idx, P e.oid) : ∀ nv ∈ c'.views, ∀ e ∈ Index.all nv.2.idx, P' e.oid := by
  intro nv' hnv' e' he'
  obtain ⟨nv, hnv, _, e, he, i, hi, hei⟩ := x.entry hnv' he'
  rw [hei]
  exact hs _ hi (h nv hnv e he)

theorem LdViews.mem_sofa (x : LdViews c H L na c') {K : Consts} {ts : TypeSystem} {ci : Nat}
    {E : Obj → String → Val → Val} {H' : Heap} (hrel : HeapRel H L na E H') (hcoll : ∀ q ∈ L, CollFs K ts c ci H q.2)
    (hE : ∀ o vn, E o "sofa" (.sofa ci vn) ≠ .none)
    (h : ∀ nv ∈ c.views, ∀ e ∈ Index.all nv.2.idx, Xmi.slot H e.oid "sofa" ≠ some .none) :
    ∀ nv ∈ c'.views, ∀ e ∈ Index.all nv.2.idx, Xmi.slot H' e.oid "sofa" ≠ some .none := by
  refine x.members_transfer (P := fun a => Xmi.slot H a "sofa" ≠ some .none)
    (P' := fun a => Xmi.slot H' a "sofa" ≠ some .none) (fun q hq h0 => ?_) h
  obtain ⟨o, o', ho, ho', hor⟩ := hrel q hq
  rw [Xmi.slot_of ho' "sofa", hor.slot "sofa"]
  rw [Xmi.slot_of ho "sofa"] at h0
  cases hv : alistGet? o.slots "sofa" with
  | none => simp
  | some v =>
    rw [hv] at h0
    rcases ((hcoll q hq).sofa_slot ho hv).symm with rfl | ⟨vn, rfl, _⟩
    · exact absurd rfl h0
    · exact fun e => hE o vn (Option.some.inj e)

theorem LdViews.membersOk_rel (x : LdViews c H L na c') {E : Obj → String → Val → Val} {H' : Heap}
    (hrel : HeapRel H L na E H') (hE : ∀ o n, (∀ i, E o n (.int i) = .int i) ∧ E o n .none = .none) :
    MembersOk c H → MembersOk c' H' := by
  refine MembersOk.transport fun nv' hnv' => ?_
  obtain ⟨nv, hnv, hr⟩ := x.views.all2.bwd nv' hnv'
  refine ⟨nv, hnv, fun e' he' => ?_⟩
  obtain ⟨e, he, i, hi, hei⟩ := x.entry_of hnv hr he'
  obtain ⟨o, o', ho, ho', hor⟩ := hrel _ hi
  refine ⟨e, he, fun o1 ho1 => ?_⟩
  rw [show H[((i, e.oid) : Int × Nat).2]? = H[e.oid]? from rfl, ho1] at ho
  cases ho
  rw [hei]
  exact ⟨o', ho', hor.1, fun k hk => ⟨_, RTB.entryOf_map (hE o "begin").1 (hE o "begin").2 (hE o "end").1
    (hE o "end").2 (hor.slot "begin") (hor.slot "end") hk, rfl⟩⟩

end

theorem _root_.Cassis.ChainC.mem_sorted_of_addr {l : List (Int × Nat)} {b : Nat} (h : b ∈ l.map (·.2)) : ∃ y : Int, (y, b) ∈ sortById l := by
  obtain ⟨⟨y, b'⟩, hp1, rfl⟩ := List.mem_map.mp h
  exact ⟨y, mem_sortById.mpr hp1⟩

theorem slot_getD {hp : Heap} {a : Nat} {o : Obj} {n : String} {w : Val} (ho : hp[a]? = some o)
    (h : (Xmi.slot hp a n).getD .none = w) (hw : w ≠ .none) : alistGet? o.slots n = some w := by
  rw [Xmi.slot_of ho n] at h
  cases hg : alistGet? o.slots n with
  | none => rw [hg] at h; exact absurd h.symm hw
  | some v => rw [hg] at h; exact congrArg some h

/-- a loaded CAS `c'` (index `ci'`, heap `H'`) against the CAS `c` (index `ci`, heap `H`) that was written; `L` are the
    written structures, `na` their new addresses -/
structure LdCtx (K : Consts) (ts : TypeSystem) (c : Cas) (ci : Nat) (H : Heap) (L : List (Int × Nat)) (na : Int → Nat)
    (c' : Cas) (ci' : Nat) (H' : Heap) : Prop where
  lok : LOk K ts c ci H L
  rel : HeapRel H L na (E3 H na ci') H'
  views : VRL H na c.views c'.views
  flat' : ∀ q ∈ L, FlatFs K ts c' ci' H' (na q.1)

theorem LdCtx.ldViews {K : Consts} {ts : TypeSystem} {c : Cas} {ci : Nat} {H : Heap} {L : List (Int × Nat)}
    {na : Int → Nat} {c' : Cas} {ci' : Nat} {H' : Heap} (x : LdCtx K ts c ci H L na c' ci' H') :
    LdViews c H L na c' := ⟨x.views, x.lok.members, x.lok.ids⟩

/-- the written structures at their new addresses -/
def newL (na : Int → Nat) (L : List (Int × Nat)) : List (Int × Nat) := L.map (fun q => (q.1, na q.1))

/-- the loaded CAS with the converter the sofa setter would have built -/
def normView (v : View) : View := { v with sofa := { v.sofa with conv := Offsets.createMapping none v.sofa.text } }
def normCas (c : Cas) : Cas := { c with views := c.views.map (fun nv => (nv.1, normView nv.2)) }

end Cassis.Chain
