/-
C12 round trip: the loaded type system is `SameXml` to the original, in two parts.

First the records of the loaded type system against the records of the original (`Loaded` is the context: a faithful
descriptor, its load, the simulation): same names, supertype, stripped description, and exactly the declared own features
(`rec_corr`; own features from `load_declares_core`, the rest from the simulation) — the two make the same declarations.
Then, with no loader in sight: two type systems that make the same declarations (`DeclSame`) are `SameXml`
(`sameXml_of_decls`) — children, inherited and effective features follow, parents first.
-/
import CassisModel.Proofs.TsXmlRoundTripDecl

namespace Cassis.TsXml
open Cassis.TS

/-- the context of the comparison: `ts` is the API-built original, `ts2` (with some `redeclared` list) what the loader
    returns for a faithful descriptor `d0` -/
structure Loaded (ts : TypeSystem) (d0 : Descriptor) (ts2 : TypeSystem) (R : List String) : Prop where
  hx : UserBuilt ts
  ns : NoShadow ts
  faith : Faithful ts (effective d0)
  load : load Gen.consts d0 = .ok { ts2 with redeclared := R }
  inv : LInv Gen.consts (trTs ts) ts2
  grow : Grow Gen.consts Gen.builtinTSNoDoc ts2

theorem sub_trTs {ts ts2 : TypeSystem} (hs : Sub (trTs ts) ts2) {n : String} {t' : TypeRec}
    (h : find? ts2 n = some t') : ∃ t, find? ts n = some t ∧ SubRec (trTs ts) n t' (trRec t) := by
  obtain ⟨to, hto, hr⟩ := hs n t' h
  rw [find?_trTs] at hto
  obtain ⟨t, ht, rfl⟩ := Option.map_eq_some_iff.mp hto
  exact ⟨t, ht, hr⟩

theorem inh_names {ts : TypeSystem} {d0 : Descriptor} {ts2 : TypeSystem} {R : List String}
    (L : Loaded ts d0 ts2 R) {n : String} {t t' : TypeRec}
    (ht' : find? ts2 n = some t') (ht : find? ts n = some t) :
    ∀ g ∈ t'.inh, g.name ∈ fnames t.inh := by
  intro g hg
  obtain ⟨t0, ht0, hr⟩ := sub_trTs L.inv.sub ht'
  rw [ht] at ht0; cases ht0
  have hsup : t.super = t'.super := hr.super
  cases hs : t'.super with
  | none =>
    rw [L.inv.feat.rootInh t' (find?_mem ht') hs] at hg
    cases hg
  | some s =>
    have hreg : hasExact ts2 s = true := L.inv.cons.superReg t' (find?_mem ht') s hs
    obtain ⟨ps', hps'⟩ := (hasExact_iff_find ts2 s).mp hreg
    obtain ⟨ps, hps, hrp⟩ := sub_trTs L.inv.sub hps'
    have h1 := (L.inv.feat.inherit' (find?_mem ht') hs hps' g.name).mp (mem_fnames_of_mem hg)
    rw [← List.mem_append, ← fnames_append] at h1
    obtain ⟨h, hh, hhn⟩ := mem_fnames.mp h1
    obtain ⟨h0, hh0, hh0e⟩ := hrp.feats h hh
    have hh0' : h0 ∈ (ps.own ++ ps.inh).map trFeat := by rw [← eff_trRec]; exact hh0
    obtain ⟨h00, hh00, rfl⟩ := List.mem_map.mp hh0'
    have hname : h00.name = g.name := by
      have := featureEq_name hh0e
      rw [trFeat_name] at this
      rw [this, hhn]
    have h2 : g.name ∈ fnames ps.own ∨ g.name ∈ fnames ps.inh := by
      rw [← List.mem_append, ← fnames_append]
      exact mem_fnames.mpr ⟨h00, hh00, hname⟩
    exact (L.hx.hist.feat.inherit' (find?_mem ht) (by rw [hsup]; exact hs) hps g.name).mpr h2

theorem own_user {ts : TypeSystem} {d0 : Descriptor} {ts2 : TypeSystem} {R : List String}
    (L : Loaded ts d0 ts2 R) {t : TypeRec} (ht : t ∈ ts.types)
    (hu : Gen.consts.predefined.contains t.name = false) :
    ∃ t', find? ts2 t.name = some t' ∧
      t'.own = t.own.map (fun f0 => mkFeat t.name (normF (renderFeat f0))) := by
  have hft : find? ts t.name = some t := find?_of_mem L.hx.hist.cons.nodup ht
  have he := L.faith.user_in t ht hu
  obtain ⟨r, hr, _, _, sel, hown, _, _, hex⟩ :=
    load_declares_core d0 _ L.load (normT (renderType t)) he hu
  have hrn : find? ts2 t.name = some r := hr
  refine ⟨r, hrn, ?_⟩
  have hst : ∀ f0 ∈ t.own, storedName (normF (renderFeat f0)).name = f0.name := by
    intro f0 hf0
    exact (featWFB_spec (L.hx.built.ownOK t ht f0 hf0).2.2).1
  have hsel := hex (by
      intro f hf
      obtain ⟨f1, hf1, rfl⟩ := List.mem_map.mp hf
      obtain ⟨f0, hf0, rfl⟩ := List.mem_map.mp hf1
      refine ⟨by simp [fnames], ?_⟩
      rw [hst f0 hf0]
      intro hm
      obtain ⟨g, hg, hgn⟩ := mem_fnames.mp hm
      obtain ⟨g1, hg1, hg1n⟩ := mem_fnames.mp (inh_names L hrn hft g hg)
      exact L.ns t ht f0 hf0 g1 hg1 (hg1n.trans hgn))
    (by
      have : (normT (renderType t)).feats.map (fun f => storedName f.name) = fnames t.own := by
        show ((t.own.map renderFeat).map normF).map (fun f => storedName f.name) = t.own.map (·.name)
        rw [List.map_map, List.map_map]
        apply List.map_congr_left
        intro f0 hf0
        exact hst f0 hf0
      rw [this]
      exact L.hx.hist.feat.ownNodup t ht)
  have : r.own = sel := by simpa using hown
  rw [this, hsel]
  show ((t.own.map renderFeat).map normF).map (mkFeat t.name) = _
  rw [List.map_map, List.map_map]
  rfl

/-- a predefined type has the own features of the table the loader starts from, in the original and in the loaded type
    system -/
theorem own_predef {ts : TypeSystem} {d0 : Descriptor} {ts2 : TypeSystem} {R : List String}
    (L : Loaded ts d0 ts2 R) {n : String} (hp : Gen.consts.predefined.contains n = true) :
    ∃ t t', find? ts n = some t ∧ find? ts2 n = some t' ∧ t'.own = t.own ∧
      (t.own.map renderFeat).map trimF = t.own.map renderFeat := by
  obtain ⟨tm, htm⟩ := (hasExact_iff_find _ n).mp (base_predef_reg n hp)
  obtain ⟨t', ht', _, _, _, _, ho'⟩ := L.grow n tm htm
  obtain ⟨t, ht, _, _, _, _, ho2⟩ := L.hx.growBase n tm htm
  refine ⟨t, t', ht, ht', by rw [ho' hp, ho2 hp], ?_⟩
  rw [ho2 hp]
  exact congrArg TDesc.feats (base_fixed (find?_mem htm)).2.1

theorem names_iff {ts : TypeSystem} {d0 : Descriptor} {ts2 : TypeSystem} {R : List String}
    (L : Loaded ts d0 ts2 R) (n : String) : hasExact ts2 n = true ↔ hasExact ts n = true := by
  constructor
  · intro h
    obtain ⟨t', ht'⟩ := (hasExact_iff_find ts2 n).mp h
    obtain ⟨t, ht, _⟩ := sub_trTs L.inv.sub ht'
    exact (hasExact_iff_find ts n).mpr ⟨t, ht⟩
  · intro h
    cases hp : Gen.consts.predefined.contains n with
    | true => exact L.grow.reg n (base_predef_reg n hp)
    | false =>
      obtain ⟨t, ht⟩ := (hasExact_iff_find ts n).mp h
      have hn := find?_name ht
      obtain ⟨t', ht', _⟩ := own_user L (find?_mem ht) (by rw [hn]; exact hp)
      rw [hn] at ht'
      exact (hasExact_iff_find ts2 n).mpr ⟨t', ht'⟩

theorem trimF_render_mk (dom : String) (f0 : Feature) :
    renderFeat (mkFeat dom (normF (renderFeat f0))) = trimF (renderFeat f0) := by
  rw [renderFeat_mkFeat]
  rfl

theorem rec_corr {ts : TypeSystem} {d0 : Descriptor} {ts2 : TypeSystem} {R : List String}
    (L : Loaded ts d0 ts2 R) {n : String} {t : TypeRec} (ht : find? ts n = some t) :
    ∃ t', find? ts2 n = some t' ∧ t'.super = t.super ∧ t'.descr = trD t.descr ∧
      t'.own.map renderFeat = (t.own.map renderFeat).map trimF ∧ fnames t'.own = fnames t.own := by
  have hreg : hasExact ts2 n = true := (names_iff L n).mpr ((hasExact_iff_find ts n).mpr ⟨t, ht⟩)
  obtain ⟨t', ht'⟩ := (hasExact_iff_find ts2 n).mp hreg
  obtain ⟨t0, ht0, hr⟩ := sub_trTs L.inv.sub ht'
  rw [ht] at ht0; cases ht0
  refine ⟨t', ht', hr.super.symm, hr.descr.symm, ?_⟩
  cases hp : Gen.consts.predefined.contains n with
  | true =>
    obtain ⟨t1, t1', h1, h1', ho, hfix⟩ := own_predef L hp
    rw [ht] at h1; cases h1
    rw [ht'] at h1'; cases h1'
    rw [ho]
    exact ⟨hfix.symm, rfl⟩
  | false =>
    have hn := find?_name ht
    obtain ⟨t1', h1', ho⟩ := own_user L (find?_mem ht) (by rw [hn]; exact hp)
    rw [hn, ht'] at h1'; cases h1'
    rw [ho]
    refine ⟨?_, ?_⟩
    · rw [List.map_map, List.map_map]
      apply List.map_congr_left
      intro f0 _
      exact trimF_render_mk t.name f0
    · show fnames (t.own.map (fun f0 => mkFeat t.name (normF (renderFeat f0)))) = fnames t.own
      unfold fnames
      rw [List.map_map]
      apply List.map_congr_left
      intro f0 hf0
      exact (featWFB_spec (L.hx.built.ownOK t (find?_mem ht) f0 hf0).2.2).1

theorem noShadow_loaded {ts : TypeSystem} {d0 : Descriptor} {ts2 : TypeSystem} {R : List String}
    (L : Loaded ts d0 ts2 R) : NoShadow ts2 := by
  intro t' ht' f hf g hg e
  have hft' : find? ts2 t'.name = some t' := find?_of_mem L.inv.cons.nodup ht'
  obtain ⟨t, ht, _⟩ := sub_trTs L.inv.sub hft'
  obtain ⟨t'', ht'', _, _, _, hfn⟩ := rec_corr L ht
  rw [hft'] at ht''; cases ht''
  have h1 : f.name ∈ fnames t.own := by rw [← hfn]; exact mem_fnames_of_mem hf
  obtain ⟨f0, hf0, hf0n⟩ := mem_fnames.mp h1
  obtain ⟨g0, hg0, hg0n⟩ := mem_fnames.mp (inh_names L hft' ht g hg)
  exact L.ns t (find?_mem ht) f0 hf0 g0 hg0 (by rw [hg0n, hf0n, e])

/-! ### without shadowing, the effective features are own ++ inherited -/

theorem eff_names_nodup {ts : TypeSystem} (hf : FeatInv ts) (hns : NoShadow ts) {t : TypeRec} (ht : t ∈ ts.types) :
    (fnames (t.own ++ t.inh)).Nodup := by
  rw [fnames_append, List.nodup_append]
  refine ⟨hf.ownNodup t ht, hf.inhNodup t ht, ?_⟩
  intro a ha b hb e
  obtain ⟨f, hfm, hfn⟩ := mem_fnames.mp ha
  obtain ⟨g, hg, hgn⟩ := mem_fnames.mp hb
  exact hns t ht f hfm g hg (by rw [hgn, hfn, e])

theorem allFeatures_eq {ts : TypeSystem} (hf : FeatInv ts) (hns : NoShadow ts) {t : TypeRec} (ht : t ∈ ts.types) :
    allFeatures t = t.own ++ t.inh :=
  allFeatures_of_nodup (eff_names_nodup hf hns ht)

theorem inh_perm {ts : TypeSystem} (hf : FeatInv ts) (hi : InhSub ts) (hns : NoShadow ts) {t ps : TypeRec}
    {s : String} (ht : t ∈ ts.types) (hs : t.super = some s) (hps : find? ts s = some ps) :
    t.inh.Perm (ps.own ++ ps.inh) := by
  have hnd := eff_names_nodup hf hns (find?_mem hps)
  have n1 : t.inh.Nodup := List.Pairwise.of_map (·.name) (fun a b h e => h (e ▸ rfl)) (hf.inhNodup t ht)
  have n2 : (ps.own ++ ps.inh).Nodup := List.Pairwise.of_map (·.name) (fun a b h e => h (e ▸ rfl)) hnd
  rw [List.perm_ext_iff_of_nodup n1 n2]
  intro g
  constructor
  · exact hi t ht s ps hs hps g
  · intro hg
    have hn : g.name ∈ fnames t.inh := by
      rw [hf.inherit' ht hs hps, ← List.mem_append, ← fnames_append]
      exact mem_fnames_of_mem hg
    obtain ⟨g', hg', e⟩ := mem_fnames.mp hn
    have hg'' := hi t ht s ps hs hps g' hg'
    rw [← Det.inj_of_nodup_map Feature.name _ hnd hg'' hg e]
    exact hg'

/-! ### two type systems that make the same declarations -/

/-- `ts'` registers the names of `ts`, each with the same supertype, the description as the round trip leaves it, and the
    same own features as the writer renders them -/
def DeclSame (ts ts' : TypeSystem) : Prop :=
  (∀ n, hasExact ts' n = true ↔ hasExact ts n = true) ∧
  ∀ n t, find? ts n = some t → ∃ t', find? ts' n = some t' ∧ t'.super = t.super ∧ t'.descr = trD t.descr ∧
    t'.own.map renderFeat = (t.own.map renderFeat).map trimF

theorem declSame_loaded {ts : TypeSystem} {d0 : Descriptor} {ts2 : TypeSystem} {R : List String}
    (L : Loaded ts d0 ts2 R) : DeclSame ts ts2 :=
  ⟨names_iff L, fun _ _ ht => let ⟨t', ht', hs, hd, ho, _⟩ := rec_corr L ht; ⟨t', ht', hs, hd, ho⟩⟩

/-- inherited features, parents first: without shadowing they are the supertype's effective features on both sides -/
theorem inh_corr {ts ts' : TypeSystem} (hc : Consistent ts) (hf : FeatInv ts) (hi : InhSub ts) (hns : NoShadow ts)
    (hf' : FeatInv ts') (hi' : InhSub ts') (hns' : NoShadow ts') (h : DeclSame ts ts') :
    ∀ n, hasExact ts n = true → ∀ t t', find? ts n = some t → find? ts' n = some t' →
      (t'.inh.map renderFeat).Perm (t.inh.map (fun f => trimF (renderFeat f))) := by
  refine hc.rec_up fun n t ht ih t0 t' ht0 ht' => ?_
  rw [ht] at ht0; cases ht0
  have htm : t ∈ ts.types := find?_mem ht
  obtain ⟨t'', ht'', hsup, _⟩ := h.2 _ _ ht
  rw [ht'] at ht''; cases ht''
  cases hs : t.super with
  | none =>
    rw [hf.rootInh _ htm hs, hf'.rootInh t' (find?_mem ht') (by rw [hsup]; exact hs)]
    exact List.Perm.refl _
  | some s =>
    obtain ⟨ps, hps⟩ := (hasExact_iff_find ts s).mp (hc.superReg t htm s hs)
    obtain ⟨ps', hps', _, _, hown⟩ := h.2 _ _ hps
    have ihj := ih s hs ps ps' hps hps'
    have q1 := (inh_perm hf hi hns htm hs hps).map (fun f => trimF (renderFeat f))
    have q2 := (inh_perm hf' hi' hns' (find?_mem ht') (by rw [hsup]; exact hs) hps').map renderFeat
    refine q2.trans (List.Perm.trans ?_ q1.symm)
    rw [List.map_append, List.map_append, hown, List.map_map]
    exact List.Perm.append_left _ ihj

theorem children_corr {ts ts' : TypeSystem} (hc : Consistent ts) (hc' : Consistent ts') (h : DeclSame ts ts')
    {n : String} {t t' : TypeRec} (ht : find? ts n = some t) (ht' : find? ts' n = some t') :
    t'.children.Perm t.children := by
  rw [List.perm_ext_iff_of_nodup (hc'.childNodup t' (find?_mem ht')) (hc.childNodup t (find?_mem ht))]
  intro c
  constructor
  · intro hm
    obtain ⟨tc', htc', hsc'⟩ := (hc'.link n c).mp ⟨t', ht', hm⟩
    obtain ⟨tc, htc⟩ := (hasExact_iff_find ts c).mp ((h.1 c).mp ((hasExact_iff_find ts' c).mpr ⟨tc', htc'⟩))
    obtain ⟨tc'', htc'', hs, _⟩ := h.2 _ _ htc
    rw [htc'] at htc''; cases htc''
    obtain ⟨ta, hta, hmem⟩ := (hc.link n c).mpr ⟨tc, htc, by rw [← hs]; exact hsc'⟩
    rw [ht] at hta; cases hta
    exact hmem
  · intro hm
    obtain ⟨tc, htc, hsc⟩ := (hc.link n c).mp ⟨t, ht, hm⟩
    obtain ⟨tc', htc', hsup, _⟩ := h.2 _ _ htc
    obtain ⟨ta, hta, hmem⟩ := (hc'.link n c).mpr ⟨tc', htc', by rw [hsup]; exact hsc⟩
    rw [ht'] at hta; cases hta
    exact hmem

theorem render_corr {t t' : TypeRec} (hn : t'.name = t.name) (hs : t'.super = t.super)
    (hd : t'.descr = trD t.descr) (ho : t'.own.map renderFeat = (t.own.map renderFeat).map trimF) :
    renderType t' = trimT (renderType t) := by
  unfold renderType trimT
  simp only [TDesc.mk.injEq]
  exact ⟨hn, by rw [hd]; rfl, by rw [hs], ho⟩

/-- **the declarations decide everything `SameXml` says**: two type systems, each one tree with the feature invariant,
    inherited records taken from the supertype and no shadowed feature, that make the same declarations have the same
    children and the same effective features under every name -/
theorem sameXml_of_decls {ts ts' : TypeSystem} (hc : Consistent ts) (hf : FeatInv ts) (hi : InhSub ts)
    (hns : NoShadow ts) (hc' : Consistent ts') (hf' : FeatInv ts') (hi' : InhSub ts') (hns' : NoShadow ts')
    (h : DeclSame ts ts') : SameXml ts ts' := by
  intro n
  cases ht : find? ts n with
  | none =>
    cases ht' : find? ts' n with
    | none => trivial
    | some t' =>
      obtain ⟨t, ht0⟩ := (hasExact_iff_find ts n).mp ((h.1 n).mp ((hasExact_iff_find ts' n).mpr ⟨t', ht'⟩))
      rw [ht] at ht0; cases ht0
  | some t =>
    obtain ⟨t', ht', hsup, hd, hown⟩ := h.2 _ _ ht
    rw [ht']
    show t'.super = t.super ∧ renderType t' = trimT (renderType t) ∧ t'.children.Perm t.children ∧
      ((allFeatures t').map renderFeat).Perm ((allFeatures t).map (fun f => trimF (renderFeat f)))
    refine ⟨hsup, render_corr ((find?_name ht').trans (find?_name ht).symm) hsup hd hown,
      children_corr hc hc' h ht ht', ?_⟩
    rw [allFeatures_eq hf' hns' (find?_mem ht'), allFeatures_eq hf hns (find?_mem ht), List.map_append,
      List.map_append, hown, List.map_map]
    apply List.Perm.append_left
    exact inh_corr hc hf hi hns hf' hi' hns' h n ((hasExact_iff_find ts n).mpr ⟨t, ht⟩) t t' ht ht'

theorem sameXml_loaded {ts : TypeSystem} {d0 : Descriptor} {ts2 : TypeSystem} {R : List String}
    (L : Loaded ts d0 ts2 R) : SameXml ts { ts2 with redeclared := R } :=
  sameXml_of_decls (ts' := { ts2 with redeclared := R }) L.hx.hist.cons L.hx.hist.feat L.hx.built.inhSub L.ns
    (consistent_of_skel (ts := ts2) rfl L.inv.cons) (inv_redeclared ts2 R L.inv.cons L.inv.feat).2 L.inv.built.inhSub
    (show NoShadow ts2 from noShadow_loaded L) (show DeclSame ts ts2 from declSame_loaded L)

end Cassis.TsXml
