/-
JSON round trip with collections: the second pass of the reader on the written elements — `parseFs` on the element of an
array object and of any collected structure, `fsPass`, and the deferred references and FSArray elements (`fixUps`), as
instances of the loops of `RoundTripJsonPass.lean`.
-/
import CassisModel.Proofs.RoundTripJsonCollDefs

namespace Cassis.Json
open Cassis.TS Cassis.Traverse Cassis.Xmi

theorem ctorFields_arr {t : TypeRec} {f : Feature} (hf : allFeatures t = [f]) (hn : f.name = "elements") :
    (ctorFields t).eraseDups = ["elements"] := by
  unfold ctorFields
  rw [hf]
  simp only [List.map_cons, List.map_nil, hn]
  decide

theorem construct_arr_some {t : TypeRec} {f : Feature} (hf : allFeatures t = [f]) (hn : f.name = "elements")
    (tsIdx : Nat) (x : Int) (ev : Val) :
    construct t tsIdx (some x) [("elements", ev)] =
      .ok { ty := t.name, ts := tsIdx, xid := some x, slots := [("elements", ev)] } := by
  rw [construct_eq, if_pos fun p hp => by
    cases List.mem_singleton.mp hp; unfold ctorFields; rw [hf, ← hn]; exact List.mem_singleton.mpr rfl]
  unfold constructed
  rw [ctorFields_arr hf hn]
  simp [alistGet?]

theorem construct_arr_none {t : TypeRec} {f : Feature} (hf : allFeatures t = [f]) (hn : f.name = "elements")
    (tsIdx : Nat) (x : Int) :
    construct t tsIdx (some x) [] =
      .ok { ty := t.name, ts := tsIdx, xid := some x, slots := [("elements", Val.none)] } := by
  rw [construct_eq, if_pos nofun]
  unfold constructed
  rw [ctorFields_arr hf hn]
  simp [alistGet?]

theorem getType_of_find' {ts : TypeSystem} {n : String} {t : TypeRec} (h : find? ts n = some t) :
    getType ts n = .ok t :=
  getType_of_find h

/-- primitive array: the elements are parsed at once -/
theorem parseFs_arr_prim (K : Consts) (ts : TypeSystem) (tsIdx : Nat) (s : RState) (ty : String) (x : Int)
    (el : Option JV) (t : TypeRec) (f : Feature) (ev : Val)
    (hty : ty.endsWith "[]" = false) (hgt : getTypeExact ts ty = .ok t)
    (hf : allFeatures t = [f]) (hn : f.name = "elements")
    (hpa : isPrimitiveArray K t.name = true) (hpp : parsePrimArray t.name el = .ok ev)
    (hann : isInstanceOf ts t.name ANNOTATION = false) :
    parseFs K ts tsIdx s { id := some x, ty := ty, elements := el } =
      .ok { s with heap := s.heap ++ [{ ty := t.name, ts := tsIdx, xid := some x, slots := [("elements", ev)] }],
                   fss := setFs s.fss x (.ref s.heap.length),
                   deferred := s.deferred ++ [], maxId := max s.maxId x } := by
  rw [List.append_nil]
  exact parseFs_of_stages (by unfold fsTypeName; rw [hty]; exact hgt) rfl rfl
    (by unfold elemArgs; rw [hpa, if_pos rfl, hpp]; rfl) (construct_arr_some hf hn tsIdx x ev) rfl
    (by rw [hann, convStep_false])

/-- FSArray: the element ids are deferred -/
theorem parseFs_arr_fs (K : Consts) (ts : TypeSystem) (tsIdx : Nat) (s : RState) (ty : String) (x : Int)
    (el : Option JV) (t : TypeRec) (f : Feature) (ids : List (Option Int))
    (hty : ty.endsWith "[]" = false) (hgt : getTypeExact ts ty = .ok t)
    (hf : allFeatures t = [f]) (hn : f.name = "elements")
    (hpa : isPrimitiveArray K t.name = false) (hfa : t.name = FS_ARRAY)
    (hids : (match el with
              | some (.refs l) => l
              | some (.ints l) => l.map some
              | _ => []) = ids)
    (hann : isInstanceOf ts t.name ANNOTATION = false) :
    parseFs K ts tsIdx s { id := some x, ty := ty, elements := el } =
      .ok { s with heap := s.heap ++ [{ ty := t.name, ts := tsIdx, xid := some x, slots := [("elements", Val.none)] }],
                   fss := setFs s.fss x (.ref s.heap.length),
                   deferred := s.deferred ++
                     [{ addr := s.heap.length, slot := "elements", target := none, elems := some ids }],
                   maxId := max s.maxId x } :=
  parseFs_of_stages (by unfold fsTypeName; rw [hty]; exact hgt) rfl rfl
    (by unfold elemArgs; rw [hpa, hfa, if_neg (by decide), if_pos (beq_self_eq_true _), ← hids]; rfl)
    (construct_arr_none hf hn tsIdx x) rfl (by rw [hann, convStep_false])

theorem parseArr_collJ (K : Consts) (ts : TypeSystem) (H : Heap) (na : Int → Nat) (ci' : Nat) (tsIdx : Nat) (s : RState)
    (x : Int) (a : Nat) (o : Obj) (ho : H[a]? = some o) (harr : JArrFs K ts H a) (hj : JsonFs ts H a) :
    ∃ (o' : Obj) (ds : List Deferred),
      parseFs K ts tsIdx s (arrJFs H x o) =
        .ok { s with heap := s.heap ++ [o'], fss := setFs s.fss x (.ref s.heap.length),
                     deferred := s.deferred ++ ds, maxId := max s.maxId x } ∧
      ObjPendJ H na ci' s.heap.length ds o o' x ∧ (∀ d ∈ ds, DefEntry H s.heap.length o d) := by
  obtain ⟨t, f, ev, hfind, g⟩ := harr.at ho
  have hty : o.ty.endsWith "[]" = false := (hj o t ho hfind).1
  have hgt : getTypeExact ts o.ty = .ok t := getTypeExact_of_find hfind
  have hann' : isInstanceOf ts t.name ANNOTATION = false := by rw [g.name]; exact g.notAnn
  rcases g.kind with ⟨hfs, hpa, l, rfl⟩ | ⟨hfs, hpa, hprim⟩
  · obtain ⟨el, hae, hids⟩ := arrayElements_fs H l
    have hel : arrElemsJ H o = el := arrElemsJ_eq g.slots (by rw [hfs]; exact hae)
    refine ⟨{ ty := t.name, ts := tsIdx, xid := some x, slots := [("elements", Val.none)] },
      [elemsDef H s.heap.length l], ?_, ⟨g.name, rfl, ?_, ?_⟩, ?_⟩
    · unfold arrJFs
      rw [hel]
      exact parseFs_arr_fs K ts tsIdx s o.ty x el t f _ hty hgt g.feats g.fname (by rw [g.name, hfs]; exact hpa)
        (by rw [g.name, hfs]) hids hann'
    · rw [g.slots]; rfl
    · intro n v hv
      rw [g.slots] at hv
      obtain ⟨e1, e2⟩ := alistGet?_single hv
      exact Or.inr (Or.inr ⟨l, e2, e1.symm, List.mem_singleton.mpr rfl⟩)
    · intro d hd
      rw [List.mem_singleton.mp hd]
      exact Or.inr ⟨l, rfl, by rw [g.slots]; exact alistGet?_cons_self _ _ _⟩
  · obtain ⟨el, hae, hpp⟩ := prim_rt H na o.ty ev hfs hprim
    have hel : arrElemsJ H o = el := arrElemsJ_eq g.slots hae
    refine ⟨{ ty := t.name, ts := tsIdx, xid := some x, slots := [("elements", elemsExpJ H na ev)] },
      [], ?_, ⟨g.name, rfl, ?_, ?_⟩, ?_⟩
    · unfold arrJFs
      rw [hel]
      exact parseFs_arr_prim K ts tsIdx s o.ty x el t f _ hty hgt g.feats g.fname (by rw [g.name]; exact hpa)
        (by rw [g.name]; exact hpp) hann'
    · rw [g.slots]; rfl
    · intro n v hv
      rw [g.slots] at hv
      obtain ⟨e1, e2⟩ := alistGet?_single hv
      subst e1 e2
      left
      rw [exp3J_prim H na ci' o.ty v hprim]
      exact alistGet?_cons_self _ _ _
    · intro d hd
      cases hd

section
variable {K : Consts} {ts : TypeSystem} {cass : List Cas} {c : Cas} {ci : Nat} {hp H : Heap} {L : List (Int × Nat)}

theorem jgen_plain {o : Obj} {t : TypeRec} (g : GenObj K ts c ci (JFeatOk K ts c ci H) o t) {n : String} {v : Val}
    (hv : alistGet? o.slots n = some v) : plainV v = true := by
  obtain ⟨f, hf, rfl⟩ := g.slot_feature hv
  exact ((g.feat f hf).scalar hv).1

theorem ObjPendJ.of_plain {na : Int → Nat} {ci' addr : Nat} {ds : List Deferred} {o o' : Obj} {x : Int}
    (h : ObjPend H na ci' addr ds o o' x) (hpl : ∀ n v, alistGet? o.slots n = some v → plainV v = true) :
    ObjPendJ H na ci' addr ds o o' x := by
  obtain ⟨h1, h2, h3, h4⟩ := h
  refine ⟨h1, h2, h3, fun n v hv => ?_⟩
  rcases h4 n v hv with h | h
  · left; rw [exp3J_plain _ _ _ _ (hpl n v hv)]; exact h
  · exact Or.inr (Or.inl h)

/-- one step of the second pass: `parseFs` on the element of a collected structure, in any context that knows the sofas
    and the structures registered so far -/
theorem parseFs_collJ (hL : LOkJ K ts c ci H L) (tsIdx : Nat) {na : Int → Nat} {ci' : Nat} {fss : List (Int × Val)}
    {cas1 : Cas} (pc : PCtx cass c ci H L na ci' fss cas1) (s : RState) (hfss : s.fss = fss) (hcas : s.cas = cas1)
    (q : Int × Nat) (hq : q ∈ L) :
    ∃ (o o' : Obj) (ds : List Deferred), H[q.2]? = some o ∧
      parseFs K ts tsIdx s (elemOfJ K ts cass H q) =
        .ok { s with heap := s.heap ++ [o'], fss := setFs s.fss q.1 (.ref s.heap.length),
                     deferred := s.deferred ++ ds, maxId := max s.maxId q.1 } ∧
      ObjPendJ H na ci' s.heap.length ds o o' q.1 ∧ (∀ d ∈ ds, DefEntry H s.heap.length o d) := by
  have hjson := (hL.coll q hq).2
  rcases elemOfJ_cases (cass := cass) hL q hq with ⟨o, t, ho, ht, hgen, he, _⟩ | ⟨o, ho, harr, he, _⟩
  · obtain ⟨o', ds, hparse, hpend, hdef⟩ := parseFs_gen tsIdx pc s hfss hcas q hq o t ho ht hgen hjson
    have G := hgen.at ho ht
    exact ⟨o, o', ds, ho, he ▸ hparse, ObjPendJ.of_plain hpend (fun n v hv => jgen_plain G hv),
      fun d hd => Or.inl (hdef d hd)⟩
  · obtain ⟨o', ds, hparse, hpend, hdef⟩ := parseArr_collJ K ts H na ci' tsIdx s q.1 q.2 o ho harr hjson
    exact ⟨o, o', ds, ho, he ▸ hparse, hpend, hdef⟩

/-- the second pass over the written structures, read over the base heap `B`; `F0`: the entries of the id map before the pass,
    which hold the sofas of the views and none of the ids of `L` -/
theorem fsPass_coll (g : GCtxJ K ts cass c ci hp H L) (B : Heap) (tsIdx ci' : Nat) (cas1 : Cas)
    (hv : cas1.views = bareViews c.views) {F0 : List (Int × Val)}
    (hs : ∀ nv ∈ c.views, lookup F0 nv.2.sofa.xid = some (.sofa ci' nv.1)) (hk : ∀ q ∈ L, q.1 ∉ F0.map (·.1))
    (m0 m1 : Int) :
    ∀ (L2 L1 : List (Int × Nat)) (s : RState), L = L1 ++ L2 →
      FInvG F0 B H L (ObjPendJ H (naOf B L) ci') (DefEntry H) cas1 m0 m1 L1 s →
      ∃ s', (L2.map (elemOfJ K ts cass H)).foldlM (parseFs K ts tsIdx) s = .ok s' ∧
        FInvG F0 B H L (ObjPendJ H (naOf B L) ci') (DefEntry H) cas1 m0 m1 L s' :=
  fsPass_of (el := elemOfJ K ts cass H) tsIdx cas1 g.lok.nodup hk (fun _ _ _ _ _ _ h hs => h.mono hs)
    (fun L1 s hfss hcas q hq => parseFs_collJ g.lok tsIdx
      (PCtx.of_entries g.hc g.lok.closed g.wf.conv hs hk _ cas1 hv L1) s hfss hcas q hq) m0 m1

end

/-- a waiting slot does not wait for an entry of another object or another slot -/
theorem PendJ.tail {H : Heap} {addr : Nat} {d : Deferred} {ds : List Deferred} {n : String} {v : Val}
    (h : PendJ H addr (d :: ds) n v) (hne : d.addr ≠ addr ∨ d.slot ≠ n) : PendJ H addr ds n v := by
  rcases h with h | ⟨l, e1, e2, hm⟩
  · exact Or.inl (h.tail hne)
  · refine Or.inr ⟨l, e1, e2, ?_⟩
    rcases List.mem_cons.mp hm with e | hm'
    · rcases hne with h | h
      · exact absurd (by rw [← e]; rfl) h
      · exact absurd (by rw [← e, e2]; rfl) h
    · exact hm'

theorem fixVal_elems (H : Heap) (na : Int → Nat) (fssF : List (Int × Val)) {d : Deferred} {l : List (Option Nat)}
    (hd : d.elems = some (l.map (refOf H)))
    (h : ∀ b : Nat, some b ∈ l → ∃ y : Int, xidOf H b = some y ∧ lookup fssF y = some (.ref (na y))) :
    fixVal fssF d = .refs (l.map (fun r => r.bind (fun b => (xidOf H b).map na))) := by
  unfold fixVal
  rw [hd]
  dsimp only
  rw [List.map_map]
  congr 1
  apply List.map_congr_left
  intro r hr
  cases r with
  | none => rfl
  | some b =>
    obtain ⟨y, hy, hl⟩ := h b hr
    show (match (Cassis.Json.idOf H b).bind (lookup fssF) with
        | some (.ref a) => some a
        | _ => none) = (xidOf H b).map na
    rw [idOf_eq_xidOf, hy]
    dsimp only [Option.bind_some, Option.map_some]
    rw [hl]

/-- the deferred references and FSArray elements (`fixUps_eq`): every entry stores the final value of its slot -/
theorem fixUps_collJ (K : Consts) (ts : TypeSystem) (cass : List Cas) (c : Cas) (ci : Nat) (hp H : Heap)
    (L : List (Int × Nat)) (g : GCtxJ K ts cass c ci hp H L) (B : Heap) (ci' : Nat) (fssF : List (Int × Val))
    (hfss : ∀ q ∈ L, lookup fssF q.1 = some (.ref (naOf B L q.1))) :
    ∀ (ds : List Deferred) (heap : Heap), (∀ d ∈ ds, ∃ q ∈ L, ∃ o, H[q.2]? = some o ∧ DefEntry H (naOf B L q.1) o d) →
      PRelG (exp3J H (naOf B L) ci') (PendJ H) B H L heap ds →
      ∃ heap', fixUps fssF ds heap = .ok heap' ∧ HeapRel H L (naOf B L) (E3J H (naOf B L) ci') heap'
  | [], heap, _, hrel => by
    refine ⟨heap, rfl, ?_⟩
    intro q hq
    obtain ⟨o, o', ho, ho', h1, h2, h3, h4⟩ := hrel q hq
    refine ⟨o, o', ho, ho', h1, h2, h3, ?_⟩
    intro n v hv
    rcases h4 n v hv with h | ⟨_, _, _, _, hm⟩ | ⟨_, _, _, hm⟩
    · exact h
    · cases hm
    · cases hm
  | d :: ds, heap, hdc, hrel => by
    obtain ⟨q, hq, o, ho, hd⟩ := hdc d List.mem_cons_self
    obtain ⟨n, v0, hda, hds, hsl, hval⟩ : ∃ n v0, d.addr = naOf B L q.1 ∧ d.slot = n ∧ alistGet? o.slots n = some v0 ∧
        fixVal fssF d = exp3J H (naOf B L) ci' v0 := by
      rcases hd with ⟨n, b, y, hd, hsl, hy⟩ | ⟨l, hd, hsl⟩
      · obtain ⟨y', hy', hyL⟩ := g.lok.closed q hq o ho n b hsl
        rw [hy] at hy'; cases hy'
        refine ⟨n, .ref b, by rw [hd], by rw [hd], hsl, ?_⟩
        unfold fixVal
        rw [hd]
        dsimp only [Option.bind_some]
        rw [hfss _ hyL]
        show Val.ref (naOf B L y) = exp3 H (naOf B L) ci' (.ref b)
        unfold exp3
        dsimp only
        rw [hy]
      · refine ⟨"elements", .refs l, by rw [hd]; rfl, by rw [hd]; rfl, hsl, ?_⟩
        refine fixVal_elems H (naOf B L) fssF (by rw [hd]; rfl) (fun b hb => ?_)
        obtain ⟨y, hy, hyL⟩ := g.lok.closedE q hq o ho l hsl b hb
        exact ⟨y, hy, hfss _ hyL⟩
    obtain ⟨heap1, hstep, hrel'⟩ := fix_step_of (E := exp3J H (naOf B L) ci') (fun _ _ _ _ _ h => h.tail)
      g.lok.nodup d ds heap q hq o ho n v0 hda hds hsl hrel
    obtain ⟨heap', hfix, hfin⟩ := fixUps_collJ K ts cass c ci hp H L g B ci' fssF hfss ds heap1
      (fun d' hd' => hdc d' (List.mem_cons_of_mem _ hd')) hrel'
    refine ⟨heap', ?_, hfin⟩
    rw [fixUps_eq, List.foldlM_cons, hval, hstep]
    exact (fixUps_eq fssF ds heap1).symm.trans hfix

end Cassis.Json
