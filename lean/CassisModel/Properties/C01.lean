/-
C01 — XMI save/load is lossless.

Proved here (about `Model/Lex.lean` and `Model/Xmi.lean`): the lexical layer round-trips (integers,
booleans, byte arrays as hex, blank-separated token lists), each per-kind encoder of the writer is
inverted by the corresponding decoder of the reader, the written document lists the collected structures
once each in ascending id order, and sofa and view records round-trip.
The end-to-end statement `load (save c) ≈ c` over whole feature-structure graphs is `xmi_roundtrip_coll`
(`C01RoundTripColl.lean`; flat fragment: `xmi_roundtrip_flat`, `C01RoundTrip.lean`); the tie between model and
implementation is the correspondence check.
-/
import CassisModel.Proofs.XmiCodec

namespace Cassis.Lex

theorem parseInt_showInt (i : Int) : parseInt (showInt i) = some i := parseInt_showInt_aux i

theorem parseBool_showBool (b : Bool) : parseBool (showBool b) = some b := by
  cases b <;> decide

theorem splitWs_joinSp (toks : List String) (h : ∀ t ∈ toks, IsTok t) : splitWs (joinSp toks) = toks :=
  splitWs_joinSp_aux toks h

theorem hexDec_hexEnc (bs : List Nat) (h : ∀ b ∈ bs, b < 256) : hexDec (hexEnc bs) = some bs := by
  unfold hexDec hexEnc
  rw [String.toList_ofList]
  exact hexDecL_hexEncL bs h

end Cassis.Lex

namespace Cassis.Xmi
open Cassis.Lex Cassis.TS

/-- a list of integers written as an attribute is read back -/
theorem parseInts_showInts (l : List Int) : parseInts (splitWs (joinSp (l.map showInt))) = .ok l := by
  rw [split_join_showInt, parseInts_map_showInt]

/-- a list of references written as ids is resolved to the same structures -/
theorem resolveIds_showIds (fss : List (Int × Nat)) (ids : List Int) (targets : List Nat)
    (h : List.Forall₂ (fun i t => lookupFs fss i = .ok t) ids targets) :
    resolveIds fss (splitWs (joinSp (ids.map showInt))) = .ok targets := by
  rw [split_join_showInt]
  exact resolveIds_map_showInt fss ids targets h

theorem intArray_roundtrip (ty : String)
    (hty : ty = "uima.cas.IntegerArray" ∨ ty = "uima.cas.ShortArray" ∨ ty = "uima.cas.LongArray")
    (l : List Int) (hne : l ≠ []) (s : String) (hs : showPrimArray ty (.ints l) = .ok s) :
    parsePrimArrayStr ty s = .ok (.ints l) := by
  have hs' : s = joinSp (l.map showInt) := by
    -- the tests of the type name against literals go through the literal simprocs: `decide` compares the strings
    -- character by character in the kernel, which is slow to check
    rcases hty with rfl | rfl | rfl <;>
    · simp only [showPrimArray] at hs
      simp only [beq_iff_eq, String.reduceEq, if_false] at hs
      exact (Except.ok.inj hs).symm
  subst hs'
  have hemp : (joinSp (l.map showInt)).isEmpty = false := by
    apply isEmpty_false_of_toList
    apply joinSp_toList_ne_nil
    · intro e; exact hne (List.map_eq_nil_iff.mp e)
    · intro t ht
      obtain ⟨i, _, rfl⟩ := List.mem_map.mp ht
      exact (showInt_isTok i).1
  unfold parsePrimArrayStr
  simp only [hemp, parseInts_showInts]
  rcases hty with rfl | rfl | rfl <;>
    simp only [Bool.or_eq_true, beq_iff_eq, String.reduceEq, or_self, or_false, or_true, if_false, if_true] <;> rfl

theorem byteArray_roundtrip (l : List Nat) (hb : ∀ b ∈ l, b < 256) (hne : l ≠ []) (s : String)
    (hs : showPrimArray "uima.cas.ByteArray" (.ints (l.map Int.ofNat)) = .ok s) :
    parsePrimArrayStr "uima.cas.ByteArray" s = .ok (.ints (l.map Int.ofNat)) := by
  have hs' : s = hexEnc l := by
    simp only [showPrimArray] at hs
    simp only [beq_iff_eq, if_true] at hs
    rw [map_toNat_ofNat] at hs
    exact (Except.ok.inj hs).symm
  subst hs'
  have hemp : (hexEnc l).isEmpty = false := isEmpty_false_of_toList (hexEnc_toList_ne_nil l hne)
  unfold parsePrimArrayStr
  simp only [hemp, hexDec_hexEnc l hb]
  simp only [Bool.or_eq_true, beq_iff_eq, String.reduceEq, or_self, if_false, if_true]
  rfl

theorem mapM_parseBool (l : List Bool) : (l.map showBool).mapM parseBool = some l := by
  induction l with
  | nil => rfl
  | cons b l ih =>
    simp only [List.map_cons, List.mapM_cons, parseBool_showBool, ih, bind, Option.bind, pure]

theorem boolArray_roundtrip (l : List Bool) (hne : l ≠ []) (s : String)
    (hs : showPrimArray "uima.cas.BooleanArray" (.bools l) = .ok s) :
    parsePrimArrayStr "uima.cas.BooleanArray" s = .ok (.bools l) := by
  have hs' : s = joinSp (l.map showBool) := by
    simp only [showPrimArray] at hs
    exact (Except.ok.inj hs).symm
  subst hs'
  have htok : ∀ t ∈ l.map showBool, IsTok t := by
    intro t ht
    obtain ⟨b, _, rfl⟩ := List.mem_map.mp ht
    exact showBool_isTok b
  have hemp : (joinSp (l.map showBool)).isEmpty = false := by
    apply isEmpty_false_of_toList
    apply joinSp_toList_ne_nil
    · intro e; exact hne (List.map_eq_nil_iff.mp e)
    · intro t ht; exact (htok t ht).1
  unfold parsePrimArrayStr
  simp only [hemp, splitWs_joinSp_aux _ htok, mapM_parseBool]
  simp only [Bool.or_eq_true, beq_iff_eq, String.reduceEq, or_self, if_false, if_true]
  rfl

/-- float tokens are opaque: a list of tokens is written and read back unchanged -/
theorem floatArray_roundtrip (ty : String) (hty : ty = "uima.cas.FloatArray" ∨ ty = "uima.cas.DoubleArray")
    (l : List String) (htok : ∀ t ∈ l, IsTok t) (hne : l ≠ []) (s : String)
    (hs : showPrimArray ty (.floats l) = .ok s) : parsePrimArrayStr ty s = .ok (.floats l) := by
  have hs' : s = joinSp l := by
    simp only [showPrimArray] at hs
    exact (Except.ok.inj hs).symm
  subst hs'
  have hemp : (joinSp l).isEmpty = false := by
    apply isEmpty_false_of_toList
    apply joinSp_toList_ne_nil _ hne
    intro t ht; exact (htok t ht).1
  unfold parsePrimArrayStr
  simp only [hemp, splitWs_joinSp_aux _ htok]
  rcases hty with rfl | rfl <;>
    simp only [Bool.or_eq_true, beq_iff_eq, String.reduceEq, or_self, or_false, or_true, if_false, if_true] <;> rfl

/-- an empty array of any primitive kind is written as the empty attribute and read back as an empty list -/
theorem emptyArray_roundtrip (ty : String) (h : ty ∈ ["uima.cas.IntegerArray", "uima.cas.ShortArray", "uima.cas.LongArray",
    "uima.cas.FloatArray", "uima.cas.DoubleArray", "uima.cas.BooleanArray", "uima.cas.ByteArray", "uima.cas.StringArray"]) :
    parsePrimArrayStr ty "" = .ok (.refs []) := by
  simp only [List.mem_cons, List.not_mem_nil, or_false] at h
  rcases h with rfl | rfl | rfl | rfl | rfl | rfl | rfl | rfl <;> rfl

theorem primValue_roundtrip_int (ts : TypeSystem) (fuel : Nat) (ty : String)
    (hty : ty ∈ ["uima.cas.Integer", "uima.cas.Short", "uima.cas.Long", "uima.cas.Byte"]) (i : Int) :
    parsePrimValue ts (fuel + 1) ty (.str (showInt i)) = .ok (.int i) := by
  simp only [List.mem_cons, List.not_mem_nil, or_false] at hty
  unfold parsePrimValue
  simp only [parseIntE_showInt]
  rcases hty with rfl | rfl | rfl | rfl <;>
    simp only [Bool.or_eq_true, beq_iff_eq, String.reduceEq, or_self, or_false, or_true, if_false, if_true] <;> rfl

theorem primValue_roundtrip_str (ts : TypeSystem) (fuel : Nat) (s : String) :
    parsePrimValue ts (fuel + 1) "uima.cas.String" (.str s) = .ok (.str s) := by
  simp [parsePrimValue]

theorem primValue_roundtrip_bool (ts : TypeSystem) (fuel : Nat) (b : Bool) :
    parsePrimValue ts (fuel + 1) "uima.cas.Boolean" (.str (showBool b)) = .ok (.bool b) := by
  unfold parsePrimValue
  simp only [parseBool_showBool]
  simp only [Bool.or_eq_true, beq_iff_eq, String.reduceEq, or_self, if_false, if_true]

/-- a user subtype of a primitive type is parsed like its primitive ancestor (finding X4) -/
theorem primValue_subtype (ts : TypeSystem) (fuel : Nat) (ty sup : String) (v : Val)
    (hnp : ty ∉ ["uima.cas.String", "uima.cas.Float", "uima.cas.Double", "uima.cas.Integer", "uima.cas.Short",
                 "uima.cas.Long", "uima.cas.Byte", "uima.cas.Boolean"])
    (hv : v ≠ .none) (hs : superOf ts ty = some sup) :
    parsePrimValue ts (fuel + 1) ty v = parsePrimValue ts fuel sup v := by
  simp only [List.mem_cons, List.not_mem_nil, or_false, not_or] at hnp
  obtain ⟨h1, h2, h3, h4, h5, h6, h7, h8⟩ := hnp
  have e1 : (ty == "uima.cas.String") = false := beq_false_of_ne h1
  have e2 : (ty == "uima.cas.Float") = false := beq_false_of_ne h2
  have e3 : (ty == "uima.cas.Double") = false := beq_false_of_ne h3
  have e4 : (ty == "uima.cas.Integer") = false := beq_false_of_ne h4
  have e5 : (ty == "uima.cas.Short") = false := beq_false_of_ne h5
  have e6 : (ty == "uima.cas.Long") = false := beq_false_of_ne h6
  have e7 : (ty == "uima.cas.Byte") = false := beq_false_of_ne h7
  have e8 : (ty == "uima.cas.Boolean") = false := beq_false_of_ne h8
  cases v with
  | none => exact absurd rfl hv
  | _ =>
    simp only [parsePrimValue, e1, e2, e3, e4, e5, e6, e7, e8, Bool.or_false, Bool.false_eq_true, if_false, hs]

theorem sortById_perm (l : List (Int × Nat)) : (sortById l).Perm l := sortById_perm_aux l

theorem sortById_sorted (l : List (Int × Nat)) : (sortById l).Pairwise (fun p q => p.1 ≤ q.1) :=
  insertById_isInsert.foldr_sorted (fun _ _ => Int.le_total _ _) (fun _ _ _ => Int.le_trans) l

/-- the written document: `cas:NULL`, then the collected structures once each in ascending id order (ids
    pairwise distinct), then the sofas, then the views -/
theorem saveXmi_shape (K : Consts) (ts : TypeSystem) (cass : List Cas) (ci : Nat) (hp : Heap) (doc : XDoc)
    (st : Traverse.St) (h : saveXmi K ts cass ci hp = .ok (doc, st)) :
    ∃ (c : Cas) (fsElems : List XElem), cass[ci]? = some c ∧
      doc = [{ ty := NULL_T, attrs := [(ID, "0")] }] ++ fsElems ++ c.views.map (fun p => renderSofa p.2.sofa) ++
            c.views.map (fun p => renderView st.heap p.2) ∧
      fsElems.map (fun e => attr e ID) = (sortById st.allFs).map (fun p => some (showInt p.1)) ∧
      ((sortById st.allFs).map (·.1)).Nodup := by
  obtain ⟨c, fsElems, hc, hst, hr, rfl⟩ := saveXmi_ok_iff.mp h
  have inv := (Traverse.findAllFs_inv K ts {} hp c.nextXid (Traverse.defaultSeeds c) st hst).1
  have hperm := sortById_perm_aux st.allFs
  exact ⟨c, fsElems, hc, rfl,
    renderAll_ids K ts cass st.heap _ _ hr fun p hp' => inv.link p.1 p.2 (hperm.mem_iff.mp hp'),
    (hperm.map (·.1)).nodup_iff.mpr inv.nodupK⟩

theorem saveXmi_ids_nodup (K : Consts) (ts : TypeSystem) (cass : List Cas) (ci : Nat) (hp : Heap) (doc : XDoc)
    (st : Traverse.St) (h : saveXmi K ts cass ci hp = .ok (doc, st)) :
    ((sortById st.allFs).map (fun p => showInt p.1)).Nodup := by
  obtain ⟨_, _, _, _, _, hnd⟩ := saveXmi_shape K ts cass ci hp doc st h
  have : (sortById st.allFs).map (fun p => showInt p.1) = ((sortById st.allFs).map (·.1)).map showInt := by
    rw [List.map_map]; rfl
  rw [this]
  exact List.Pairwise.map showInt (fun _ _ hne he => hne (showInt_injective he)) hnd

/-- sofa records round-trip (id, sofaNum, name, MIME type, text) -/
theorem sofa_roundtrip (s : Sofa) :
    parseSofa (renderSofa s) = .ok { xid := s.xid, num := s.sofaNum, sofaID := s.sofaID, mime := s.mime,
                                     text := s.text.map (fun t => String.ofList (t.map Char.ofNat)) } := by
  obtain ⟨sid, num, xid, text, mime, uri, arr, conv⟩ := s
  cases mime <;> cases text <;>
    simp [parseSofa, renderSofa, attr, alistGet?, ID, parseIntE_showInt, bind, Except.bind, pure, Except.pure]

/-- view records round-trip: the sofa id and the member ids in ascending order -/
theorem view_roundtrip (hp : Heap) (v : View) :
    parseView (renderView hp v) =
      .ok { sofa := v.sofa.xid, members := sortInts ((Index.all v.idx).filterMap (fun e => (hp[e.oid]?).bind (·.xid))) } := by
  simp [parseView, renderView, attr, alistGet?, parseIntE_showInt, parseInts_showInts, bind, Except.bind, pure, Except.pure]

/-! Non-vacuity (tests of concrete instances) -/
example : parseInt (showInt (-9223372036854775808)) = some (-9223372036854775808) := by decide +kernel
example : splitWs (joinSp ["12", "-3", "0"]) = ["12", "-3", "0"] := by decide +kernel
example : hexDec (hexEnc [0, 255, 16]) = some [0, 255, 16] := by decide +kernel

end Cassis.Xmi
