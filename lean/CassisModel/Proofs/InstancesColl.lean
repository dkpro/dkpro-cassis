/-
Everything that is evaluated on the instance `CollDemo` (`Spec/RoundTripCollCheck.lean`: every collection kind, inlined
and shared), its variations and the instances with a reserved feature (`ResDemo`), on the XMI and on the JSON side, as
ONE statement `Facts.coll`: the kernel keeps what it has computed only within one declaration, and any evaluation over a
type system that extends the built-in one first pays for decoding and comparing the built-in type names.  One structure
of named facts (`Facts.<module or instance>`) per module or instance that uses them.  (The JSON test on the flat instance
`ResDemo.flat*` is `Facts.FaithfulJsonFlatDemo` of `Proofs/InstancesFlat.lean`.)
-/
import CassisModel.Spec.RoundTripCollCheck
import CassisModel.Spec.RoundTripJsonCollCheck
import CassisModel.Spec.ChainCollCheck
import CassisModel.Spec.ComparableIsoCollCheck
import CassisModel.Spec.ComparableIsoJsonCollCheck
import CassisModel.Proofs.JsonDecEq

namespace Cassis.Xmi.CollDemo

/-- `CollDemo.hp` in another layout (`Proofs/FaithfulCollDemo.lean`): the inlined ShortArray and LongArray objects have
    changed places, the inlined StringArray `["a b", "", null, "c"]` has become `["a b", null, "", "c"]`, an unreachable
    object is appended -/
def hpB : Heap :=
  [ /- 0 -/ { ty := "x.Doc", ts := 0, xid := some 2, slots :=
      [ ("n", .int 7), ("next", .ref 1),
        ("ia", .ref 2), ("sha", .ref 4), ("la", .ref 3), ("ba", .ref 5), ("boa", .ref 6), ("fa", .ref 7), ("da", .ref 8),
        ("sa", .ref 9), ("se", .ref 10), ("fsa", .ref 11), ("fsl", .ref 13), ("il", .ref 16), ("fl", .ref 18),
        ("sl", .ref 21),
        ("mfa", .ref 23), ("mia", .ref 24), ("msa", .ref 25), ("mfl", .ref 27), ("mil", .ref 29), ("msl", .ref 31) ]
      ++ tailSlots 0 2 },
    /- 1 -/ { ty := "x.Doc", ts := 0, xid := none, slots := [("n", .none), ("next", .ref 0)] ++ noColl ++ tailSlots 2 3 },
    /- 2 -/ arr "uima.cas.IntegerArray" (.ints [1, -2, 30]),
    /- 3 -/ arr "uima.cas.LongArray" (.refs []),
    /- 4 -/ arr "uima.cas.ShortArray" (.ints []),
    /- 5 -/ arr "uima.cas.ByteArray" (.ints [0, 255, 16]),
    /- 6 -/ arr "uima.cas.BooleanArray" (.bools [true, false]),
    /- 7 -/ arr "uima.cas.FloatArray" (.floats ["1.5", "-2.0"]),
    /- 8 -/ arr "uima.cas.DoubleArray" (.floats ["1e-05"]),
    /- 9 -/ arr "uima.cas.StringArray" (.strs [some "a b", none, some "", some "c"]),
    /- 10 -/ arr "uima.cas.StringArray" (.strs []),
    /- 11 -/ arr "uima.cas.FSArray" (.refs [some 1, some 0, some 1]),
    /- 12 -/ enode "uima.cas.EmptyFSList",
    /- 13 -/ node "uima.cas.NonEmptyFSList" (.ref 1) (.ref 14),
    /- 14 -/ node "uima.cas.NonEmptyFSList" (.ref 0) (.ref 12),
    /- 15 -/ enode "uima.cas.EmptyIntegerList",
    /- 16 -/ node "uima.cas.NonEmptyIntegerList" (.int 5) (.ref 17),
    /- 17 -/ node "uima.cas.NonEmptyIntegerList" (.int (-6)) (.ref 15),
    /- 18 -/ node "uima.cas.NonEmptyFloatList" (.float "0.25") (.ref 19),
    /- 19 -/ enode "uima.cas.EmptyFloatList",
    /- 20 -/ enode "uima.cas.EmptyStringList",
    /- 21 -/ node "uima.cas.NonEmptyStringList" (.str "x y") (.ref 22),
    /- 22 -/ node "uima.cas.NonEmptyStringList" (.str "") (.ref 20),
    /- 23 -/ arr "uima.cas.FSArray" (.refs [some 0, some 1]),
    /- 24 -/ arr "uima.cas.IntegerArray" (.ints [4, 5]),
    /- 25 -/ arr "uima.cas.StringArray" (.strs [some "p", none]),
    /- 26 -/ enode "uima.cas.EmptyFSList",
    /- 27 -/ node "uima.cas.NonEmptyFSList" (.ref 1) (.ref 26),
    /- 28 -/ enode "uima.cas.EmptyIntegerList",
    /- 29 -/ node "uima.cas.NonEmptyIntegerList" (.int 9) (.ref 28),
    /- 30 -/ enode "uima.cas.EmptyStringList",
    /- 31 -/ node "uima.cas.NonEmptyStringList" (.str "q") (.ref 30),
    /- 32 -/ enode "uima.cas.EmptyStringList" ]

end Cassis.Xmi.CollDemo

namespace Cassis.Json.CollDemoJ
open Cassis.TS Cassis.Traverse Cassis.Xmi Cassis.Xmi.CollDemo

/-- `CollDemo.hp` in another layout (`Proofs/FaithfulJsonDemo.lean`): the ShortArray and LongArray objects have changed
    places (addresses 3 and 4) and an unreachable object is appended -/
def hpJ : Heap :=
  [ /- 0 -/ { ty := "x.Doc", ts := 0, xid := some 2, slots :=
      [ ("n", .int 7), ("next", .ref 1),
        ("ia", .ref 2), ("sha", .ref 4), ("la", .ref 3), ("ba", .ref 5), ("boa", .ref 6), ("fa", .ref 7), ("da", .ref 8),
        ("sa", .ref 9), ("se", .ref 10), ("fsa", .ref 11), ("fsl", .ref 13), ("il", .ref 16), ("fl", .ref 18),
        ("sl", .ref 21),
        ("mfa", .ref 23), ("mia", .ref 24), ("msa", .ref 25), ("mfl", .ref 27), ("mil", .ref 29), ("msl", .ref 31) ]
      ++ tailSlots 0 2 },
    /- 1 -/ { ty := "x.Doc", ts := 0, xid := none, slots := [("n", .none), ("next", .ref 0)] ++ noColl ++ tailSlots 2 3 },
    /- 2 -/ arr "uima.cas.IntegerArray" (.ints [1, -2, 30]),
    /- 3 -/ arr "uima.cas.LongArray" (.refs []),
    /- 4 -/ arr "uima.cas.ShortArray" (.ints []),
    /- 5 -/ arr "uima.cas.ByteArray" (.ints [0, 255, 16]),
    /- 6 -/ arr "uima.cas.BooleanArray" (.bools [true, false]),
    /- 7 -/ arr "uima.cas.FloatArray" (.floats ["1.5", "-2.0"]),
    /- 8 -/ arr "uima.cas.DoubleArray" (.floats ["1e-05"]),
    /- 9 -/ arr "uima.cas.StringArray" (.strs [some "a b", some "", none, some "c"]),
    /- 10 -/ arr "uima.cas.StringArray" (.strs []),
    /- 11 -/ arr "uima.cas.FSArray" (.refs [some 1, some 0, some 1]),
    /- 12 -/ enode "uima.cas.EmptyFSList",
    /- 13 -/ node "uima.cas.NonEmptyFSList" (.ref 1) (.ref 14),
    /- 14 -/ node "uima.cas.NonEmptyFSList" (.ref 0) (.ref 12),
    /- 15 -/ enode "uima.cas.EmptyIntegerList",
    /- 16 -/ node "uima.cas.NonEmptyIntegerList" (.int 5) (.ref 17),
    /- 17 -/ node "uima.cas.NonEmptyIntegerList" (.int (-6)) (.ref 15),
    /- 18 -/ node "uima.cas.NonEmptyFloatList" (.float "0.25") (.ref 19),
    /- 19 -/ enode "uima.cas.EmptyFloatList",
    /- 20 -/ enode "uima.cas.EmptyStringList",
    /- 21 -/ node "uima.cas.NonEmptyStringList" (.str "x y") (.ref 22),
    /- 22 -/ node "uima.cas.NonEmptyStringList" (.str "") (.ref 20),
    /- 23 -/ arr "uima.cas.FSArray" (.refs [some 0, some 1]),
    /- 24 -/ arr "uima.cas.IntegerArray" (.ints [4, 5]),
    /- 25 -/ arr "uima.cas.StringArray" (.strs [some "p", none]),
    /- 26 -/ enode "uima.cas.EmptyFSList",
    /- 27 -/ node "uima.cas.NonEmptyFSList" (.ref 1) (.ref 26),
    /- 28 -/ enode "uima.cas.EmptyIntegerList",
    /- 29 -/ node "uima.cas.NonEmptyIntegerList" (.int 9) (.ref 28),
    /- 30 -/ enode "uima.cas.EmptyStringList",
    /- 31 -/ node "uima.cas.NonEmptyStringList" (.str "q") (.ref 30),
    /- 32 -/ enode "uima.cas.EmptyStringList" ]

end Cassis.Json.CollDemoJ

namespace Cassis.Facts
open Cassis Cassis.Xmi Cassis.Json Cassis.TS Cassis.Traverse

structure RoundTripCollDemo : Prop where
  applies : collAppliesB CollDemo.K CollDemo.ts [CollDemo.cas] 0 CollDemo.hp = true
  -- the counterexamples (S1)–(S7) of `Spec/RoundTripCollCheck.lean`: the test rejects each
  s1_fsarrayNull : CollDemo.cx_fsarray_null.1 = false
  s2_inlineElementsNone : CollDemo.cx_inline_elements_none.1 = false
  s3_strarrayObjNone : CollDemo.cx_strarray_obj_none.1 = false
  s4_inlineStrlistEmpty : CollDemo.cx_inline_strlist_empty.1 = false
  s5_floatTokenBlank : CollDemo.cx_float_token_blank.1 = false
  s6_byteRange : CollDemo.cx_byte_range.1 = false
  s7_cyclicSpine : CollDemo.cx_cyclic_spine.1 = false
  -- the variations that are no restriction
  okObjElementsNone : CollDemo.ok_obj_elements_none.1 = true
  okInlineListsEmpty : CollDemo.ok_inline_lists_empty.1 = true
  okInlineAndShared : CollDemo.ok_inline_and_shared.1 = true
  -- the instances with a reserved feature
  resSelfPrim : collAppliesB CollDemo.K (ResDemo.resTs "n" "self_") [CollDemo.cas] 0 (ResDemo.resHp "n" "self_") =
    true
  resTypeKids : collAppliesB CollDemo.K (ResDemo.resTs "sa" "type_") [CollDemo.cas] 0 (ResDemo.resHp "sa" "type_") =
    true
  resTypeRef : collAppliesB CollDemo.K (ResDemo.resTs "next" "type_") [CollDemo.cas] 0 (ResDemo.resHp "next" "type_")
    = true
  resFlat : rtAppliesB CollDemo.K ResDemo.flatTs [ResDemo.flatCas] 0 ResDemo.flatHp = true
  resHasReserved : ((TS.find? (ResDemo.resTs "sa" "type_") "x.Doc").map (fun t => (TS.allFeatures t).any (fun f =>
    f.reserved && f.name == "type_"))) = some true

instance : Decidable RoundTripCollDemo :=
  decidable_of_iff' _ ⟨fun s => And.intro s.applies <| And.intro s.s1_fsarrayNull
      <| And.intro s.s2_inlineElementsNone <| And.intro s.s3_strarrayObjNone <| And.intro s.s4_inlineStrlistEmpty <|
      And.intro s.s5_floatTokenBlank <| And.intro s.s6_byteRange <| And.intro s.s7_cyclicSpine <| And.intro
      s.okObjElementsNone <| And.intro s.okInlineListsEmpty <| And.intro s.okInlineAndShared <| And.intro
      s.resSelfPrim <| And.intro s.resTypeKids <| And.intro s.resTypeRef <| And.intro s.resFlat s.resHasReserved,
    fun h => ⟨h.1, h.2.1, h.2.2.1, h.2.2.2.1, h.2.2.2.2.1, h.2.2.2.2.2.1, h.2.2.2.2.2.2.1, h.2.2.2.2.2.2.2.1,
      h.2.2.2.2.2.2.2.2.1, h.2.2.2.2.2.2.2.2.2.1, h.2.2.2.2.2.2.2.2.2.2.1, h.2.2.2.2.2.2.2.2.2.2.2.1,
      h.2.2.2.2.2.2.2.2.2.2.2.2.1, h.2.2.2.2.2.2.2.2.2.2.2.2.2.1, h.2.2.2.2.2.2.2.2.2.2.2.2.2.2.1,
      h.2.2.2.2.2.2.2.2.2.2.2.2.2.2.2⟩⟩

structure FaithfulCollDemo : Prop where
  hpB_ne : CollDemo.hp ≠ CollDemo.hpB
  hpB_length : CollDemo.hpB.length = CollDemo.hp.length + 1
  applies_hpB : collAppliesB CollDemo.K CollDemo.ts [CollDemo.cas] 0 CollDemo.hpB = true
  sameDoc : (saveXmi CollDemo.K CollDemo.ts [CollDemo.cas] 0 CollDemo.hp).toOption.map (·.1) = (saveXmi CollDemo.K
    CollDemo.ts [CollDemo.cas] 0 CollDemo.hpB).toOption.map (·.1)
  /-- the document of `CollDemo.hp` alone has 14 elements (for `Properties/C05PermColl.lean`) -/
  docLength : (saveXmi CollDemo.K CollDemo.ts [CollDemo.cas] 0 CollDemo.hp).toOption.map (fun r => r.1.length) = some
    14

instance : Decidable FaithfulCollDemo :=
  decidable_of_iff' _ ⟨fun s => And.intro s.hpB_ne <| And.intro s.hpB_length <| And.intro s.applies_hpB <| And.intro
      s.sameDoc s.docLength,
    fun h => ⟨h.1, h.2.1, h.2.2.1, h.2.2.2.1, h.2.2.2.2⟩⟩

structure ChainCollDemo : Prop where
  chainXJ : Json.chainCollAppliesB CollDemo.K CollDemo.ts [CollDemo.cas] 0 CollDemo.hp = true
  typesOk : Json.collTypesOkB CollDemo.K CollDemo.ts = true
  /-- not about `CollDemo`: `htys` for the built-in type system alone -/
  builtinTypesOk : Json.collTypesOkB Gen.consts Gen.builtinTS = true
  -- the counterexample for the hypothesis `harr` of `chain_xmi_json_coll` (every other hypothesis holds), and the one for `htys`
  harrBase : Json.chainBaseB CollDemo.K CollDemo.ts [CollDemo.cas] 0 (CollDemo.hp.set 24 (CollDemo.arr
    "uima.cas.IntegerArray" .none)) = true
  harrFails : Json.chainCollAppliesB CollDemo.K CollDemo.ts [CollDemo.cas] 0 (CollDemo.hp.set 24 (CollDemo.arr
    "uima.cas.IntegerArray" .none)) = false
  htysFails : Json.collTypesOkB CollDemo.K (Json.ChainDemo.tsWithout "uima.cas.NonEmptyIntegerList") = false
  chainJX : Json.chainJXAppliesB CollDemo.K CollDemo.ts [CollDemo.cas] 0 CollDemo.hp = true

instance : Decidable ChainCollDemo :=
  decidable_of_iff' _ ⟨fun s => And.intro s.chainXJ <| And.intro s.typesOk <| And.intro s.builtinTypesOk <| And.intro
      s.harrBase <| And.intro s.harrFails <| And.intro s.htysFails s.chainJX,
    fun h => ⟨h.1, h.2.1, h.2.2.1, h.2.2.2.1, h.2.2.2.2.1, h.2.2.2.2.2.1, h.2.2.2.2.2.2⟩⟩

structure ComparableIsoCollDemo : Prop where
  goodApplies : Comparable.renderCollAppliesB CollDemo.K CollDemo.ts [CollDemo.cas] 0 Comparable.IsoCollCheck.good =
    true
  demoRejected : Comparable.renderCollAppliesB CollDemo.K CollDemo.ts [CollDemo.cas] 0 CollDemo.hp = false

instance : Decidable ComparableIsoCollDemo :=
  decidable_of_iff' _ ⟨fun s => And.intro s.goodApplies s.demoRejected,
    fun h => ⟨h.1, h.2⟩⟩

structure RoundTripJsonCollDemo : Prop where
  applies : jcollAppliesB CollDemo.K CollDemo.ts [CollDemo.cas] 0 CollDemo.hp = true
  -- the runs (J1), (J2) and the accepted ones of `Spec/RoundTripJsonCollCheck.lean`, then the instances with a reserved feature
  j1_objElementsNone : JCollDemo.cxj_obj_elements_none.1 = false
  j2_cyclicSpine : JCollDemo.cxj_cyclic_spine.1 = false
  okFsarrayNull : JCollDemo.okj_fsarray_null.1 = true
  okInlineStrlistEmpty : JCollDemo.okj_inline_strlist_empty.1 = true
  resSelfPrim : jcollAppliesB CollDemo.K (ResDemo.resTs "n" "self_") [CollDemo.cas] 0 (ResDemo.resHp "n" "self_") =
    true
  resTypeRef : jcollAppliesB CollDemo.K (ResDemo.resTs "next" "type_") [CollDemo.cas] 0 (ResDemo.resHp "next"
    "type_") = true
  resTypeKids : jcollAppliesB CollDemo.K (ResDemo.resTs "sa" "type_") [CollDemo.cas] 0 (ResDemo.resHp "sa" "type_") =
    true

instance : Decidable RoundTripJsonCollDemo :=
  decidable_of_iff' _ ⟨fun s => And.intro s.applies <| And.intro s.j1_objElementsNone <| And.intro s.j2_cyclicSpine
      <| And.intro s.okFsarrayNull <| And.intro s.okInlineStrlistEmpty <| And.intro s.resSelfPrim <| And.intro
      s.resTypeRef s.resTypeKids,
    fun h => ⟨h.1, h.2.1, h.2.2.1, h.2.2.2.1, h.2.2.2.2.1, h.2.2.2.2.2.1, h.2.2.2.2.2.2.1, h.2.2.2.2.2.2.2⟩⟩

structure ComparableIsoJsonCollDemo : Prop where
  demoApplies : Comparable.renderJsonCollAppliesB CollDemo.K CollDemo.ts [CollDemo.cas] 0 CollDemo.hp = true
  richApplies : Comparable.renderJsonCollAppliesB CollDemo.K CollDemo.ts [CollDemo.cas] 0
    Comparable.IsoJsonCollCheck.rich = true
  sharedListRejected : Comparable.renderJsonCollAppliesB CollDemo.K CollDemo.ts [CollDemo.cas] 0 (CollDemo.setSlot0
    CollDemo.hp "mfl" (.ref 13)) = false

instance : Decidable ComparableIsoJsonCollDemo :=
  decidable_of_iff' _ ⟨fun s => And.intro s.demoApplies <| And.intro s.richApplies s.sharedListRejected,
    fun h => ⟨h.1, h.2.1, h.2.2⟩⟩

structure FaithfulJsonCollDemo : Prop where
  hpJ_ne : CollDemo.hp ≠ CollDemoJ.hpJ
  hpJ_length : CollDemoJ.hpJ.length = CollDemo.hp.length + 1
  applies_hpJ : jcollAppliesB CollDemo.K CollDemo.ts [CollDemo.cas] 0 CollDemoJ.hpJ = true
  sameDoc : (saveJson CollDemo.K CollDemo.ts [CollDemo.cas] 0 CollDemo.hp .none).toOption.map (·.1) = (saveJson
    CollDemo.K CollDemo.ts [CollDemo.cas] 0 CollDemoJ.hpJ .none).toOption.map (·.1)
  /-- a null element and `""` of a string array are kept apart -/
  nullVsEmptyDiffer : (saveJson CollDemo.K CollDemo.ts [CollDemo.cas] 0 CollDemo.hp .none).toOption.map (·.1) ≠
    (saveJson CollDemo.K CollDemo.ts [CollDemo.cas] 0 (CollDemo.hp.set 9 (CollDemo.arr "uima.cas.StringArray" (.strs
    [some "a b", none, some "", some "c"]))) .none).toOption.map (·.1)

instance : Decidable FaithfulJsonCollDemo :=
  decidable_of_iff' _ ⟨fun s => And.intro s.hpJ_ne <| And.intro s.hpJ_length <| And.intro s.applies_hpJ <| And.intro
      s.sameDoc s.nullVsEmptyDiffer,
    fun h => ⟨h.1, h.2.1, h.2.2.1, h.2.2.2.1, h.2.2.2.2⟩⟩

theorem coll :
    RoundTripCollDemo ∧ FaithfulCollDemo ∧ ChainCollDemo ∧ ComparableIsoCollDemo ∧
    RoundTripJsonCollDemo ∧ ComparableIsoJsonCollDemo ∧ FaithfulJsonCollDemo := by
  decide +kernel

end Cassis.Facts

namespace Cassis.Xmi

theorem collDemo_evals : Facts.RoundTripCollDemo := Facts.coll.1
theorem collDemoB_evals : Facts.FaithfulCollDemo := Facts.coll.2.1

end Cassis.Xmi

namespace Cassis.Json

theorem chainCollDemo_evals : Facts.ChainCollDemo := Facts.coll.2.2.1
theorem jcollDemo_evals : Facts.RoundTripJsonCollDemo := Facts.coll.2.2.2.2.1
theorem collDemoJ_evals : Facts.FaithfulJsonCollDemo := Facts.coll.2.2.2.2.2.2

end Cassis.Json

namespace Cassis.Comparable

theorem isoCollDemo_evals : Facts.ComparableIsoCollDemo := Facts.coll.2.2.2.1
theorem isoJsonCollDemo_evals : Facts.ComparableIsoJsonCollDemo := Facts.coll.2.2.2.2.2.1

end Cassis.Comparable
