/-
Soundness of the Boolean checkers of `Spec/ComparableSens.lean`.
-/
import CassisModel.Spec.ComparableSens
import CassisModel.Proofs.Basic

namespace Cassis.Comparable
open Cassis.TS Cassis.Traverse

theorem fuelOkB_sound {need : Nat → Nat} {v : Val} {F : Nat} (h : fuelOkB need v F = true) : FuelOk need v F := by
  cases v <;> simp only [FuelOk] <;> try trivial
  case ref x => simpa [fuelOkB] using h
  case refs l =>
    simp only [fuelOkB, Bool.and_eq_true, decide_eq_true_eq, List.all_eq_true] at h
    refine ⟨h.1, fun e he => ?_⟩
    have := h.2 (some e) he
    simpa using this

theorem isArrayFs_oob {K : Consts} {hp : Heap} {x : Nat} (h2 : isArray K "" = false) (hx : hp.length ≤ x) :
    isArrayFs K hp x = false := by
  unfold isArrayFs tyOf
  rw [List.getElem?_eq_none hx]
  exact h2

theorem wellNestedB_sound {K : Consts} {hp : Heap} {need : Nat → Nat} (h1 : ∀ x, 1 ≤ need x)
    (h2 : isArray K "" = false) (h3 : wellNestedB K hp need = true) : WellNested K hp need := by
  intro x
  refine ⟨h1 x, fun harr => ?_⟩
  rcases Nat.lt_or_ge x hp.length with hx | hx
  · unfold wellNestedB at h3
    rw [List.all_eq_true] at h3
    have := h3 x (List.mem_range.2 hx)
    rw [harr] at this
    simp only [Bool.not_true, Bool.false_or] at this
    split at this
    · rename_i v hv
      exact ⟨v, hv, fuelOkB_sound this⟩
    · cases this
  · rw [isArrayFs_oob h2 hx] at harr
    cases harr

theorem sofaOkB_sound {cass : List Cas} {hp : Heap} {a : Nat} (h : sofaOkB cass hp a = true) : SofaOk cass hp a := by
  unfold sofaOkB at h
  unfold SofaOk
  split at h
  · trivial
  · rename_i ci vn hs
    split at h
    · rename_i c hc
      cases hv : Cas.getViewRec c vn with
      | none => rw [hv] at h; cases h
      | some v => exact ⟨c, v, hc, hv⟩
    · cases h
  · cases h

theorem rowOkB_sound {K : Consts} {ts : TypeSystem} {cass : List Cas} {hp : Heap} {o : Opts} {need : Nat → Nat}
    {a : Nat} (h : rowOkB K ts cass hp o need a = true) : RowOk K ts cass hp o need a := by
  unfold rowOkB at h
  cases ht : getType ts (tyOf hp a) with
  | error e => rw [ht] at h; cases h
  | ok t =>
    rw [ht] at h
    simp only [Bool.and_eq_true] at h
    obtain ⟨⟨hsofa, hcov⟩, hrest⟩ := h
    refine ⟨⟨t, ht⟩, sofaOkB_sound hsofa, ?_, ?_, ?_⟩
    · intro t' ht' hflag hann
      rw [ht] at ht'
      have : t' = t := (Except.ok.inj ht').symm
      subst this
      rw [hflag, hann] at hcov
      simp only [Bool.and_self, Bool.not_true, Bool.false_or, Bool.and_eq_true, decide_eq_true_eq] at hcov
      obtain ⟨⟨hs, hb⟩, he⟩ := hcov
      refine ⟨?_, hb, he⟩
      split at hs
      · rename_i ci vn hs'
        exact ⟨ci, vn, hs'⟩
      · cases hs
    · intro harr
      rw [harr] at hrest
      simp only [if_true] at hrest
      split at hrest
      · rename_i v hv
        exact ⟨v, hv, fuelOkB_sound hrest⟩
      · cases hrest
    · intro harr n
      rw [harr] at hrest
      simp only [Bool.false_eq_true, if_false] at hrest
      unfold slot
      cases hob : hp[a]? with
      | none => simp only [Option.bind_none, Option.getD_none, FuelOk]
      | some ob =>
        rw [hob] at hrest
        simp only [Option.bind_some]
        cases hv : alistGet? ob.slots n with
        | none => simp only [Option.getD_none, FuelOk]
        | some v =>
          simp only [Option.getD_some]
          rw [List.all_eq_true] at hrest
          exact fuelOkB_sound (hrest (n, v) (alistGet?_mem _ _ _ hv))

end Cassis.Comparable
