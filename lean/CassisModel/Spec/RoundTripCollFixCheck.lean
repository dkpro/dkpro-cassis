/-
The conclusion of `xmi_roundtrip_coll_fixpoint` (`Properties/C01FixpointColl.lean`) as a computable test, evaluated on
the demo instance `CollDemo` (`Spec/RoundTripCollCheck.lean`), on its variations, and on a few hand-made CASes with
inlined / shared arrays and lists: save, load, save again, compare the two documents.

Remark on the byte level (outside the model, which works on the XML infoset: `normTxt`): the implementation writes an
inlined / shared string array element `""` as `<sa></sa>` and a null element as `<sa/>`; after loading both are null, so
the *second* document writes `<sa/>` twice.  The two byte strings differ, their canonical forms (c14n) are equal, and from
the second document on the bytes are stable (checked on the implementation with lxml).

This file imports specification files only.
-/
import CassisModel.Spec.RoundTripCollCheck

namespace Cassis.Xmi
open Cassis.TS Cassis.Traverse

/-- save `cass[ci]`, load the document as a new CAS at index `cass.length`, save that CAS: are the two documents equal?
    (`.error`: one of the three runs raised) -/
def fixpointB (K : Consts) (ts : TypeSystem) (cass : List Cas) (ci : Nat) (hp : Heap) (tsIdx : Nat) :
    Except Err Bool := do
  let (doc, st) ← saveXmi K ts cass ci hp
  let ld ← loadXmi K ts tsIdx cass.length false st.heap doc
  let (doc', _) ← saveXmi K ts (cass ++ [ld.cas]) cass.length ld.heap
  pure (decide (doc' = doc))

/-- the same, three times: the third document too -/
def fixpoint2B (K : Consts) (ts : TypeSystem) (cass : List Cas) (ci : Nat) (hp : Heap) (tsIdx : Nat) :
    Except Err Bool := do
  let (doc, st) ← saveXmi K ts cass ci hp
  let ld ← loadXmi K ts tsIdx cass.length false st.heap doc
  let (doc', st') ← saveXmi K ts (cass ++ [ld.cas]) cass.length ld.heap
  let ld' ← loadXmi K ts tsIdx (cass.length + 1) false st'.heap doc'
  let (doc'', _) ← saveXmi K ts (cass ++ [ld.cas] ++ [ld'.cas]) (cass.length + 1) ld'.heap
  pure (decide (doc' = doc) && decide (doc'' = doc))

namespace CollDemo

/-- (`collAppliesB`, fixpoint) on the demo CAS over the heap `h` -/
def runFix (h : Heap) : Bool × Except Err Bool := (collAppliesB K ts [cas] 0 h, fixpointB K ts [cas] 0 h 0)

/-- string arrays / lists with null and `""` side by side, inlined and shared; empty collections of every kind -/
def hpNulls : Heap :=
  ((((hp.set 9 (arr "uima.cas.StringArray" (.strs [none, some "", some "x", none]))).set 25
      (arr "uima.cas.StringArray" (.strs [some "", none]))).set 21
      (node "uima.cas.NonEmptyStringList" .none (.ref 22))).set 31
      (node "uima.cas.NonEmptyStringList" (.str "") (.ref 30)))

def hpEmpties : Heap :=
  setSlot0 (setSlot0 (setSlot0 (((hp.set 2 (arr "uima.cas.IntegerArray" (.ints []))).set 11
      (arr "uima.cas.FSArray" (.refs []))).set 23 (arr "uima.cas.FSArray" (.refs []))) "il" (.ref 15)) "fsl" (.ref 12))
    "fl" (.ref 19)

def fixRuns : List (String × Bool × String) :=
  [ ("demo", runFix hp), ("nulls", runFix hpNulls), ("empties", runFix hpEmpties),
    ("obj_elements_none", runFix (hp.set 24 (arr "uima.cas.IntegerArray" .none))),
    ("obj_elements_none_fs", runFix (hp.set 23 (arr "uima.cas.FSArray" .none))),
    ("inline_lists_empty", runFix (setSlot0 (setSlot0 (setSlot0 hp "il" (.ref 15)) "fsl" (.ref 12)) "fl" (.ref 19))),
    ("inline_shared_twice", runFix (setSlot0 hp "sha" (.ref 2))),
    ("inline_and_shared", runFix (setSlot0 hp "mia" (.ref 2))),
    ("inline_and_shared_fs", runFix (setSlot0 hp "mfa" (.ref 11))),
    ("inline_and_shared_list", runFix (setSlot0 hp "mfl" (.ref 13))),
    ("inline_and_shared_strlist", runFix (setSlot0 hp "msl" (.ref 21))),
    -- outside the fragment (for information)
    ("cx_inline_elements_none", runFix (hp.set 2 (arr "uima.cas.IntegerArray" .none))),
    ("cx_strarray_obj_none", runFix (hp.set 25 (arr "uima.cas.StringArray" .none))),
    ("cx_inline_strlist_empty", runFix (setSlot0 hp "sl" (.ref 20))),
    ("cx_float_token_blank", runFix (hp.set 7 (arr "uima.cas.FloatArray" (.floats ["1.5 2.5"])))),
    ("cx_byte_negative", runFix (hp.set 5 (arr "uima.cas.ByteArray" (.ints [-1])))) ].map
  (fun (n, r) => (n, r.1, match r.2 with | .ok b => s!"ok {b}" | .error e => s!"error {e}"))

-- every run inside the fragment (second component `true`) evaluates to `"ok true"`: the second document is the first;
-- so do the five runs outside the fragment listed for information (the round trip changes the CAS there, cf. the
-- counterexamples of `Spec/RoundTripCollCheck.lean`, but what is written is already a fixpoint):
#eval fixRuns
-- (ok true, ok true, ok true): the third document too
#eval (fixpoint2B K ts [cas] 0 hp 0, fixpoint2B K ts [cas] 0 hpNulls 0, fixpoint2B K ts [cas] 0 hpEmpties 0)

end CollDemo

namespace ResDemo
open CollDemo

/-- reserved names: every feature of `x.Doc` as `self_` and as `type_` -/
def fixRuns : List (String × String × Bool × String) :=
  (docRec.own.map (·.name)).flatMap (fun n =>
    ["self_", "type_"].map (fun stored => (n, stored, collAppliesB K (resTs n stored) [cas] 0 (resHp n stored),
      match fixpointB K (resTs n stored) [cas] 0 (resHp n stored) 0 with
      | .ok b => s!"ok {b}" | .error e => s!"error {e}")))

#eval fixRuns.all (fun r => r.2.2.1 && r.2.2.2 == "ok true")          -- true (44 runs)
#eval (collAppliesB K tsC [casC] 0 hpC, fixpointB K tsC [casC] 0 hpC 0)  -- (true, ok true)

end ResDemo

end Cassis.Xmi
