/-
Proofs about the XMI codec model (`Model/Xmi.lean`).  At the head: `OkP`, the way the proofs about reader and writer speak
about the successful results of a computation.  Then the helpers of the per-kind encoder/decoder round trips of
`Properties/C01.lean`, the shape of a written element (`renderFs_shape`), the loops of the writer as `mapM`
(`renderAll_eq_mapM`, `renderFeatures_eq`), the writer's list walk and the spine of a list (`collectList_spine` and its
converse `collectList_ok`; `collectList_congr`: the walk reads the heap through `slot` only) and `saveXmi` in normal form
(`saveXmi_ok_iff`; the document is `docOf`).
-/
import CassisModel.Proofs.Lex
import CassisModel.Model.Xmi
import CassisModel.Proofs.Traverse
import CassisModel.Proofs.Lists

/-- pointwise relation of two lists (as in Batteries/Mathlib; core Lean has no `List.Forall₂`) -/
inductive List.Forall₂ {α β} (R : α → β → Prop) : List α → List β → Prop
  | nil : List.Forall₂ R [] []
  | cons {a b l₁ l₂} : R a b → List.Forall₂ R l₁ l₂ → List.Forall₂ R (a :: l₁) (b :: l₂)

namespace Cassis.Xmi
open Cassis.Lex Cassis.TS

/-- a property of the successful results of a computation -/
def OkP {α} (P : α → Prop) (x : Except Err α) : Prop := ∀ a, x = .ok a → P a

theorem OkP.pure {α} {P : α → Prop} {a : α} (h : P a) : OkP P (Pure.pure a : Except Err α) := by
  intro b hb; cases hb; exact h

theorem OkP.ok {α} {P : α → Prop} {a : α} (h : P a) : OkP P (Except.ok a : Except Err α) := by
  intro b hb; cases hb; exact h

theorem OkP.err {α} {P : α → Prop} (e : Err) : OkP P (Except.error e : Except Err α) := by
  intro b hb; cases hb

theorem OkP.throw {α} {P : α → Prop} (e : Err) : OkP P (throw e : Except Err α) := by
  intro b hb; cases hb

theorem OkP.bind {α β} {P : β → Prop} {x : Except Err α} {f : α → Except Err β}
    (hf : ∀ a, x = .ok a → OkP P (f a)) : OkP P (x >>= f) := by
  intro b hb
  obtain ⟨a, ha, h⟩ := Det.bind_ok hb
  exact hf a ha b h

theorem OkP.ite {α} {P : α → Prop} {c : Prop} [Decidable c] {x y : Except Err α}
    (hx : c → OkP P x) (hy : ¬c → OkP P y) : OkP P (if c then x else y) := by
  split
  · exact hx ‹_›
  · exact hy ‹_›

theorem OkP.map {α β} {P : β → Prop} {x : Except Err α} {g : α → β} (h : ∀ a, P (g a)) : OkP P (x.map g) := by
  intro b hb
  cases x with
  | error e => cases hb
  | ok a => cases hb; exact h a

theorem foldlM_okp {α β : Type} {f : β → α → Except Err β} {Inv : β → Prop} (hstep : ∀ b a, Inv b → OkP Inv (f b a))
    (l : List α) (b : β) (hb : Inv b) : OkP Inv (l.foldlM f b) :=
  fun r h => Det.foldlM_inv (fun _ => Inv) l [] (fun x _ _ s s' hf hJ => hstep s x hJ s' hf) b r h hb

theorem parseIntE_showInt (i : Int) : parseIntE (showInt i) = .ok i := by
  unfold parseIntE
  rw [parseInt_showInt_aux]

theorem parseInts_nil : parseInts [] = .ok [] := by rw [parseInts]

theorem parseInts_cons_ok {s : String} {ss : List String} {ms : List Int} (h : parseInts (s :: ss) = .ok ms) :
    ∃ i is, parseInt s = some i ∧ parseInts ss = .ok is ∧ ms = i :: is := by
  rw [parseInts] at h
  unfold parseIntE at h
  cases hi : parseInt s with
  | none => rw [hi] at h; cases h
  | some i =>
    rw [hi] at h
    cases hr : parseInts ss with
    | error e => rw [hr] at h; cases h
    | ok is =>
      rw [hr] at h
      cases h
      exact ⟨i, is, rfl, rfl, rfl⟩

theorem parseInts_cons_of {s : String} {ss : List String} {i : Int} {is : List Int} (hi : parseInt s = some i)
    (hr : parseInts ss = .ok is) : parseInts (s :: ss) = .ok (i :: is) := by
  rw [parseInts]
  unfold parseIntE
  rw [hi, hr]
  rfl

theorem parseInts_map_showInt (l : List Int) : parseInts (l.map showInt) = .ok l := by
  induction l with
  | nil => rfl
  | cons i l ih =>
    simp only [List.map_cons, parseInts, parseIntE_showInt, ih, bind, Except.bind, pure, Except.pure]

theorem split_join_showInt (l : List Int) : splitWs (joinSp (l.map showInt)) = l.map showInt := by
  apply splitWs_joinSp_aux
  intro t ht
  obtain ⟨i, _, rfl⟩ := List.mem_map.mp ht
  exact showInt_isTok i

theorem resolveIds_map_showInt (fss : List (Int × Nat)) (ids : List Int) (targets : List Nat)
    (h : List.Forall₂ (fun i t => lookupFs fss i = .ok t) ids targets) :
    resolveIds fss (ids.map showInt) = .ok targets := by
  induction h with
  | nil => rfl
  | cons h1 _ ih =>
    simp only [List.map_cons, resolveIds, parseIntE_showInt, h1, ih, bind, Except.bind, pure, Except.pure]

theorem map_toNat_ofNat (l : List Nat) : (l.map Int.ofNat).map Int.toNat = l := by
  induction l with
  | nil => rfl
  | cons b l ih => simp only [List.map_cons, ih]; rfl

theorem showBool_isTok (b : Bool) : IsTok (showBool b) := by
  cases b <;> exact ⟨by decide, by decide⟩

theorem insertById_isInsert : Det.IsInsert (fun p q : Int × Nat => p.1 ≤ q.1) insertById :=
  ⟨fun _ => rfl, fun _ _ _ => rfl⟩

theorem insertInt_isInsert : Det.IsInsert (· ≤ ·) insertInt := ⟨fun _ => rfl, fun _ _ _ => rfl⟩

theorem sortInts_perm (l : List Int) : (sortInts l).Perm l := insertInt_isInsert.foldr_perm l

theorem mem_sortInts {x : Int} {l : List Int} : x ∈ sortInts l ↔ x ∈ l := (sortInts_perm l).mem_iff

theorem sortById_perm_aux (l : List (Int × Nat)) : (sortById l).Perm l := insertById_isInsert.foldr_perm l

theorem mem_sortById {l : List (Int × Nat)} {q : Int × Nat} : q ∈ sortById l ↔ q ∈ l :=
  (sortById_perm_aux l).mem_iff

theorem insertById_map (g : Int × Nat → Int × Nat) (hg : ∀ p, (g p).1 = p.1) (p : Int × Nat) :
    ∀ l : List (Int × Nat), insertById (g p) (l.map g) = (insertById p l).map g
  | [] => rfl
  | q :: qs => by
    simp only [List.map_cons, insertById, hg]
    split
    · simp
    · simp [insertById_map g hg p qs]

theorem sortById_map (g : Int × Nat → Int × Nat) (hg : ∀ p, (g p).1 = p.1) :
    ∀ l : List (Int × Nat), sortById (l.map g) = (sortById l).map g
  | [] => rfl
  | p :: l => by
    show insertById (g p) (sortById (l.map g)) = (insertById p (sortById l)).map g
    rw [sortById_map g hg l, insertById_map g hg]

theorem attr_id_head {e : XElem} {v : String} {as : List (String × String)} (h : e.attrs = (ID, v) :: as) :
    attr e ID = some v := by
  simp only [attr, h, alistGet?, if_true]

/-- the element of the structure `o`: its type, the id as the first attribute; if `o` is no array object the rest is what
    `renderFeatures` gives -/
def FsShape (K : Consts) (ts : TypeSystem) (cass : List Cas) (hp : Heap) (a : Nat) (o : Obj) (e : XElem) : Prop :=
  ∃ as, e.ty = o.ty ∧ e.attrs = (ID, match o.xid with | some x => showInt x | none => "None") :: as ∧
    ((isPrimitiveArray K o.ty || o.ty == FS_ARRAY) = false → ∃ tr, getType ts o.ty = .ok tr ∧
      renderFeatures K ts cass hp a (isInstanceOf ts o.ty ANNOTATION) (allFeatures tr) = .ok (as, e.kids))

theorem renderFs_shape {K : Consts} {ts : TypeSystem} {cass : List Cas} {hp : Heap} {a : Nat} {e : XElem}
    (h : renderFs K ts cass hp a = .ok e) : ∃ o, hp[a]? = some o ∧ FsShape K ts cass hp a o e := by
  cases ho : hp[a]? with
  | none =>
    unfold renderFs at h
    rw [ho] at h
    cases h
  | some o =>
    refine ⟨o, rfl, ?_⟩
    -- every branch for an array object returns an element of this form
    have ok : ∀ (A : List (String × String)) (ks : List (String × Option String)),
        (isPrimitiveArray K o.ty || o.ty == FS_ARRAY) = true →
        OkP (FsShape K ts cass hp a o)
          (Pure.pure (⟨o.ty, (ID, match o.xid with | some x => showInt x | none => "None") :: A, ks⟩ : XElem)) :=
      fun A _ hb => OkP.pure ⟨A, rfl, rfl, fun hn => by rw [hb] at hn; cases hn⟩
    revert e
    unfold renderFs
    rw [ho]
    refine (?_ : OkP _ _)
    refine OkP.bind (fun o' ho' => ?_)
    cases ho'
    dsimp only
    refine OkP.ite (fun hb => ?_) (fun hb => ?_)
    · split
      · exact ok _ _ hb
      · exact ok _ _ hb
      · refine OkP.ite (fun _ => ?_) (fun _ => OkP.ite (fun _ => ?_) (fun _ => OkP.bind (fun _ _ => ok _ _ hb)))
        · split
          · exact ok _ _ hb
          · exact ok _ _ hb
          · exact OkP.throw _
        · split
          · exact OkP.bind (fun _ _ => ok _ _ hb)
          · exact OkP.throw _
    · exact OkP.bind (fun tr htr => OkP.bind (fun r hr => OkP.pure ⟨r.1, rfl, rfl, fun _ => ⟨tr, htr, hr⟩⟩))

theorem renderFs_xid {K : Consts} {ts : TypeSystem} {cass : List Cas} {hp : Heap} {a : Nat} {e : XElem} {x : Int}
    (h : renderFs K ts cass hp a = .ok e) (hx : Traverse.xidOf hp a = some x) : attr e ID = some (showInt x) := by
  obtain ⟨o, ho, as, _, hat, _⟩ := renderFs_shape h
  exact attr_id_head (by rw [hat, (Traverse.xidOf_eq ho).symm.trans hx])

theorem renderAll_eq_mapM (K : Consts) (ts : TypeSystem) (cass : List Cas) (hp : Heap) (l : List (Int × Nat)) :
    renderAll K ts cass hp l = l.mapM (fun p => renderFs K ts cass hp p.2) := by
  induction l with
  | nil => rfl
  | cons p ps ih => rw [renderAll, ih, List.mapM_cons]

theorem renderFeatures_eq (K : Consts) (ts : TypeSystem) (cass : List Cas) (hp : Heap) (a : Nat) (isAnn : Bool)
    (fs : List Feature) :
    renderFeatures K ts cass hp a isAnn fs =
      (fs.mapM (renderFeature K ts cass hp a isAnn)).map fun outs => (outs.flatMap (·.1), outs.flatMap (·.2)) := by
  induction fs with
  | nil => rfl
  | cons f fs ih =>
    rw [renderFeatures, ih, List.mapM_cons]
    cases renderFeature K ts cass hp a isAnn f with
    | error e => rfl
    | ok x => cases List.mapM (renderFeature K ts cass hp a isAnn) fs <;> rfl

theorem renderAll_ids (K : Consts) (ts : TypeSystem) (cass : List Cas) (hp : Heap) (l : List (Int × Nat))
    (es : List XElem) (h : renderAll K ts cass hp l = .ok es)
    (hl : ∀ p ∈ l, Traverse.xidOf hp p.2 = some p.1) :
    es.map (fun e => attr e ID) = l.map (fun p => some (showInt p.1)) :=
  Det.mapM_ok_map (renderAll_eq_mapM K ts cass hp l ▸ h) fun p hp' _ hr => renderFs_xid hr (hl p hp')

/-- **`collectList` in normal form**: the heads along the spine, if the budget exceeds their number (and conversely,
    `collectList_ok`) -/
theorem collectList_spine {hp : Heap} {v : Val} {vs : List Val} (h : Traverse.Spine hp v vs) :
    ∀ f, vs.length < f → collectList hp f v = .ok vs := by
  induction h with
  | @stop v h0 =>
    intro f hf
    obtain ⟨f, rfl⟩ : ∃ g, f = g + 1 := ⟨f - 1, by omega⟩
    cases v with
    | ref a => unfold collectList; rw [show slot hp a "head" = none from h0 a rfl]
    | _ => rfl
  | @node a hd vs h1 _ ih =>
    intro f hf
    obtain ⟨f, rfl⟩ : ∃ g, f = g + 1 := ⟨f - 1, by omega⟩
    unfold collectList
    rw [show slot hp a "head" = some hd from h1]
    dsimp only
    rw [show collectList hp f ((slot hp a "tail").getD .none) = .ok vs from ih f (by simpa using hf)]
    rfl

theorem collectList_ok {hp : Heap} : ∀ {f : Nat} {v : Val} {vs : List Val}, collectList hp f v = .ok vs →
    Traverse.Spine hp v vs ∧ vs.length < f
  | 0, _, _, h => by cases h
  | f+1, v, vs, h => by
    by_cases hv : ∃ a, v = .ref a
    · obtain ⟨a, rfl⟩ := hv
      unfold collectList at h
      cases hh : slot hp a "head" with
      | none => rw [hh] at h; cases h; exact ⟨.stop fun _ e => by cases e; exact hh, Nat.succ_pos _⟩
      | some hd =>
        rw [hh] at h
        obtain ⟨rest, hr, h⟩ := Det.bind_ok h
        cases h
        obtain ⟨hs, hl⟩ := collectList_ok hr
        exact ⟨.node hh hs, Nat.succ_lt_succ hl⟩
    · have : vs = [] := by
        cases v with
        | ref a => exact absurd ⟨a, rfl⟩ hv
        | _ => cases h; rfl
      subst this
      exact ⟨.of_nonref hp fun b e => hv ⟨b, e⟩, Nat.succ_pos _⟩

theorem collectList_congr {hp hp' : Heap} (hs : ∀ a n, Traverse.slot hp' a n = Traverse.slot hp a n) :
    collectList hp' = collectList hp := by
  funext fuel
  induction fuel with
  | zero => rfl
  | succ f ih =>
    funext v
    cases v with
    | ref a => unfold collectList slot; rw [hs a "head", hs a "tail", ih]
    | _ => rfl

/-- the document `saveXmi` assembles: `cas:NULL`, the collected structures, the sofas, the views -/
def docOf (c : Cas) (hp : Heap) (es : List XElem) : XDoc :=
  [{ ty := NULL_T, attrs := [(ID, "0")] }] ++ es ++ c.views.map (fun p => renderSofa p.2.sofa) ++
    c.views.map (fun p => renderView hp p.2)

theorem saveXmi_eq {K : Consts} {ts : TypeSystem} {cass : List Cas} {ci : Nat} {c : Cas} (hc : cass[ci]? = some c)
    (hp : Heap) :
    saveXmi K ts cass ci hp =
      (Traverse.findAllFs K ts {} hp c.nextXid (Traverse.defaultSeeds c)).bind fun st =>
        (renderAll K ts cass st.heap (sortById st.allFs)).bind fun es => .ok (docOf c st.heap es, st) := by
  unfold saveXmi
  rw [hc]
  rfl

theorem saveXmi_ok_iff {K : Consts} {ts : TypeSystem} {cass : List Cas} {ci : Nat} {hp : Heap} {doc : XDoc}
    {st : Traverse.St} :
    saveXmi K ts cass ci hp = .ok (doc, st) ↔ ∃ c es, cass[ci]? = some c ∧
      Traverse.findAllFs K ts {} hp c.nextXid (Traverse.defaultSeeds c) = .ok st ∧
      renderAll K ts cass st.heap (sortById st.allFs) = .ok es ∧ doc = docOf c st.heap es := by
  constructor
  · intro h
    cases hc : cass[ci]? with
    | none => unfold saveXmi at h; rw [hc] at h; cases h
    | some c =>
      rw [saveXmi_eq hc] at h
      obtain ⟨st', h1, h⟩ := Det.bind_ok h
      obtain ⟨es, h2, h⟩ := Det.bind_ok h
      cases h
      exact ⟨c, es, rfl, h1, h2, rfl⟩
  · rintro ⟨c, es, hc, h1, h2, rfl⟩
    rw [saveXmi_eq hc, h1]
    show (renderAll K ts cass st.heap (sortById st.allFs)).bind _ = _
    rw [h2]
    rfl

theorem saveXmi_ok_inv {K : Consts} {ts : TypeSystem} {cass : List Cas} {ci : Nat} {hp : Heap} {c : Cas} {doc : XDoc}
    {st : Traverse.St} (hc : cass[ci]? = some c) (h : saveXmi K ts cass ci hp = .ok (doc, st)) :
    ∃ es : List XElem, Traverse.findAllFs K ts {} hp c.nextXid (Traverse.defaultSeeds c) = .ok st ∧
      renderAll K ts cass st.heap (sortById st.allFs) = .ok es ∧ doc = docOf c st.heap es := by
  obtain ⟨c', es, hc', h1, h2, hd⟩ := saveXmi_ok_iff.mp h
  cases hc.symm.trans hc'
  exact ⟨es, h1, h2, hd⟩

theorem saveXmi_findAllFs {K : Consts} {ts : TypeSystem} {cass : List Cas} {ci : Nat} {c : Cas} {hp : Heap}
    {doc : XDoc} {st : Traverse.St} (hc : cass[ci]? = some c) (h : saveXmi K ts cass ci hp = .ok (doc, st)) :
    Traverse.findAllFs K ts {} hp c.nextXid (Traverse.defaultSeeds c) = .ok st :=
  let ⟨_, hfa, _⟩ := saveXmi_ok_inv hc h; hfa

theorem saveXmi_elem {K : Consts} {ts : TypeSystem} {cass : List Cas} {ci : Nat} {hp : Heap} {doc : XDoc}
    {st : Traverse.St} (h : saveXmi K ts cass ci hp = .ok (doc, st)) {p : Int × Nat} (hp' : p ∈ st.allFs) :
    ∃ e ∈ doc, renderFs K ts cass st.heap p.2 = .ok e := by
  obtain ⟨c, es, _, _, hr, rfl⟩ := saveXmi_ok_iff.mp h
  rw [renderAll_eq_mapM] at hr
  obtain ⟨e, he, hre⟩ := (Det.mapM_ok_mem hr).1 p ((sortById_perm_aux st.allFs).mem_iff.mpr hp')
  exact ⟨e, List.mem_append_left _ (List.mem_append_left _ (List.mem_append_right _ he)), hre⟩

end Cassis.Xmi
