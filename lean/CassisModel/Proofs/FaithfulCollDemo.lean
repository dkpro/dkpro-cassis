/-
Non-vacuity of `Properties/C04FaithfulColl.lean`: `CollDemo.hp` (`Spec/RoundTripCollCheck.lean`) and `CollDemo.hpB`
(`Proofs/InstancesColl.lean`; the same content in another layout, with null and `""` exchanged inside a string array — what
`featContentC` identifies — and an unreachable object appended) both satisfy the hypotheses and are written to the same
document.
-/
import CassisModel.Proofs.RoundTripCollDemo

namespace Cassis.Xmi
open Cassis.Traverse

namespace CollDemo

theorem hpB_ne : hp ≠ hpB := collDemoB_evals.hpB_ne

theorem hpB_length : hpB.length = hp.length + 1 := collDemoB_evals.hpB_length

/-- both layouts satisfy the hypotheses of `saveXmi_faithful_coll` and are written to the same document -/
theorem two_layouts :
    ∃ (doc : XDoc) (st₁ st₂ : Traverse.St),
      saveXmi K ts [cas] 0 hp = .ok (doc, st₁) ∧ saveXmi K ts [cas] 0 hpB = .ok (doc, st₂) ∧
      NullOk ts ∧
      RTWf cas hp ∧ (∀ q ∈ st₁.allFs, CollFs K ts cas 0 st₁.heap q.2) ∧
      (∀ q ∈ st₁.allFs, ∀ nv ∈ cas.views, q.1 ≠ nv.2.sofa.xid) ∧
      (∀ nv ∈ cas.views, ∀ e ∈ Index.all nv.2.idx, slot st₁.heap e.oid "sofa" ≠ some .none) ∧
      MembersOk cas st₁.heap ∧
      RTWf cas hpB ∧ (∀ q ∈ st₂.allFs, CollFs K ts cas 0 st₂.heap q.2) ∧
      (∀ q ∈ st₂.allFs, ∀ nv ∈ cas.views, q.1 ≠ nv.2.sofa.xid) ∧
      (∀ nv ∈ cas.views, ∀ e ∈ Index.all nv.2.idx, slot st₂.heap e.oid "sofa" ≠ some .none) ∧
      MembersOk cas st₂.heap := by
  obtain ⟨c₁, doc₁, st₁, hc₁, hs₁, hwf₁, hn, hf₁, hd₁, hm₁, hmo₁⟩ := collDemo_hyps
  obtain ⟨c₂, doc₂, st₂, hc₂, hs₂, hwf₂, _, hf₂, hd₂, hm₂, hmo₂⟩ := collAppliesB_hyps _ _ _ _ _ collDemoB_applies
  cases hc₁
  cases hc₂
  have hd := collDemoB_same_doc
  rw [hs₁, hs₂] at hd
  have : doc₁ = doc₂ := by simpa [Except.toOption] using hd
  subst this
  exact ⟨doc₁, st₁, st₂, hs₁, hs₂, hn, hwf₁, hf₁, hd₁, hm₁, hmo₁, hwf₂, hf₂, hd₂, hm₂, hmo₂⟩

end CollDemo

end Cassis.Xmi
