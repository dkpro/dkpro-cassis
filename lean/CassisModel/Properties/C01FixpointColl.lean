/-
C01 — serialising the loaded CAS again yields the identical document, on the whole format.

`xmi_roundtrip_coll_fixpoint` (`xmi_roundtrip_flat_fixpoint` is its restriction to the flat fragment): for a CAS in the fragment
`CollFs`, writing, loading and writing again produces the same abstract document (same elements in the same order, same
attributes and child elements).  (For inlined string arrays/lists the document cannot tell null from `""`; the second
document is identical to the first because the first already wrote them alike.)
-/
import CassisModel.Proofs.RoundTripCollFixpoint
import CassisModel.Proofs.RoundTripCollFixpointDemo

namespace Cassis.Xmi
open Cassis.TS Cassis.Traverse

theorem xmi_roundtrip_coll_fixpoint (K : Consts) (ts : TypeSystem) (cass : List Cas) (ci : Nat) (c : Cas) (hp : Heap)
    (tsIdx : Nat) (doc : XDoc) (st : St) (ld : Loaded)
    (hc : cass[ci]? = some c) (hwf : RTWf c hp) (hnull : NullOk ts)
    (hsave : saveXmi K ts cass ci hp = .ok (doc, st))
    (hcoll : ∀ q ∈ st.allFs, CollFs K ts c ci st.heap q.2)
    (hdis : ∀ q ∈ st.allFs, ∀ nv ∈ c.views, q.1 ≠ nv.2.sofa.xid)
    (hmem : ∀ nv ∈ c.views, ∀ e ∈ Index.all nv.2.idx, slot st.heap e.oid "sofa" ≠ some .none)
    (hmok : MembersOk c st.heap)
    (hload : loadXmi K ts tsIdx cass.length false st.heap doc = .ok ld) :
    ∃ st' : St, saveXmi K ts (cass ++ [ld.cas]) cass.length ld.heap = .ok (doc, st') :=
  (xmi_roundtrip_coll_again K ts cass ci c hp tsIdx doc st ld hc hwf hnull hsave hcoll hmem hmok hload).imp
    fun _ h => h.1

/-! ### Non-vacuity

All hypotheses hold on the instance `CollDemo` (`Spec/RoundTripCollCheck.lean`; `collDemo_hyps`, evaluated by the
kernel): inlined arrays of every primitive kind (a StringArray with null and `""` among them), an inlined FSArray,
FSList, IntegerList, FloatList, StringList, and shared arrays and lists.  So the theorem applies to it.  The evaluated
runs (save, load, save again, compare) are in `Spec/RoundTripCollFixCheck.lean`. -/

example : ∃ (doc : XDoc) (st st' : St) (ld : Loaded),
    saveXmi CollDemo.K CollDemo.ts [CollDemo.cas] 0 CollDemo.hp = .ok (doc, st) ∧
    loadXmi CollDemo.K CollDemo.ts 0 1 false st.heap doc = .ok ld ∧
    saveXmi CollDemo.K CollDemo.ts ([CollDemo.cas] ++ [ld.cas]) 1 ld.heap = .ok (doc, st') := by
  obtain ⟨c, doc, st, hc, hs, hwf, hn, hf, hd, hm, hmo⟩ := collDemo_hyps
  obtain ⟨_, ld, _, hl, _⟩ :=
    xmi_roundtrip_coll CollDemo.K CollDemo.ts [CollDemo.cas] 0 c CollDemo.hp 0 1 doc st hc hwf hn hs hf hd hm hmo
  obtain ⟨st', hs'⟩ :=
    xmi_roundtrip_coll_fixpoint CollDemo.K CollDemo.ts [CollDemo.cas] 0 c CollDemo.hp 0 doc st ld hc hwf hn hs hf hd
      hm hmo hl
  exact ⟨doc, st, st', ld, hs, hl, hs'⟩

#print axioms xmi_roundtrip_coll_fixpoint
#print axioms xmi_roundtrip_coll_again
#print axioms collDemo_fixpoint

end Cassis.Xmi
