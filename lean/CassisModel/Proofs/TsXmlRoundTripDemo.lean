/-
Non-vacuity of the C12 round-trip statements: a concrete history (a chain declared subtypes-first in the emitted
descriptor, a padded and an empty description, a feature named `self`, an array feature with an element type declared
later; no name carries surrounding whitespace) satisfies every hypothesis.  The history and what is evaluated on it stand in
`Proofs/InstancesFlat.lean` (on `Json.applyOpS` of `Proofs/ApiHistoryEval.lean`, the kernel-reducible copy of `applyOp`).
-/
import CassisModel.Spec.TsXmlRoundTripCheck
import CassisModel.Proofs.InstancesFlat

namespace Cassis.TsXml.Demo
open Cassis.TS Cassis.TsXml Cassis.TsXml.Check
open Cassis.Json (applyOp_eq_S histOkB_sound)

theorem noShadowB_sound (ts : TypeSystem) (h : noShadowB ts = true) : NoShadow ts := by
  intro t ht f hf g hg
  have := List.all_eq_true.mp (List.all_eq_true.mp (List.all_eq_true.mp h t ht) f hf) g hg
  simpa using this

theorem strippedNamesK_sound (ts : TypeSystem) (h : strippedNamesK ts = true) : StrippedNames Gen.consts ts := by
  intro t ht hp hd
  have := List.all_eq_true.mp h t ht
  simp only [hp, Bool.false_or, Bool.or_eq_true, beq_iff_eq, hd, false_or, Bool.and_eq_true] at this
  exact ⟨strip_of_noPad this.1, fun f hf => strip_of_noPad (List.all_eq_true.mp this.2 f hf)⟩

theorem demo_user : UserOnlyNoDoc Gen.consts demoOps := histOkB_sound _ _ tsxmlDemo_evals.hist

theorem demo_noShadow : NoShadow (demoOps.foldl (applyOp Gen.consts) Gen.builtinTS) := by
  rw [applyOp_eq_S]
  exact noShadowB_sound _ tsxmlDemo_evals.noShadow

theorem demo_stripped : StrippedNames Gen.consts (demoOps.foldl (applyOp Gen.consts) Gen.builtinTS) := by
  rw [applyOp_eq_S]
  exact strippedNamesK_sound _ tsxmlDemo_evals.stripped

theorem demo_descriptor : toDescriptor Gen.consts (demoOps.foldl (applyOp Gen.consts) Gen.builtinTS) = .ok demoD := by
  rw [applyOp_eq_S]
  exact Det.ok_of_toOption tsxmlDemo_evals.descriptor

theorem demo_perm : demoD'.Perm demoD := by
  show [demoD[2]!, demoD[0]!, demoD[1]!].Perm [demoD[0]!, demoD[1]!, demoD[2]!]
  exact (List.Perm.swap _ _ _).trans (List.Perm.cons _ (List.Perm.swap _ _ _))

theorem demo_pre : ∀ e ∈ demoPre, (Gen.consts.predefined.contains e.name = true ∧
    (find? Gen.builtinTSNoDoc e.name).map renderType = some e) ∨ e = docEntry := by
  intro e he
  have := List.all_eq_true.mp tsxmlDemo_evals.preRedeclared e he
  simp only [Bool.or_eq_true, Bool.and_eq_true, decide_eq_true_eq] at this
  exact this

theorem demo_pre_notop : ∀ e ∈ demoPre, e.name ≠ TOP := by
  intro e he
  simpa using List.all_eq_true.mp tsxmlDemo_evals.preNotTop e he

theorem demo_pre_nodup : demoPre.Nodup := tsxmlDemo_evals.preNodup

/-! ### counterexamples that force hypotheses, checked by the kernel -/

/-- forces `hnt` (`Check.counterTop`): the redeclaration of `uima.cas.TOP` has the supertype `""` -/
theorem counterTop_keyError :
    (match counterTop with | .ok _ => none | .error e => some e) = some Err.keyError := by
  have hd : ["uima.cas.TOP"].filterMap Check.builtinEntry = [{ name := "uima.cas.TOP", super := "" }] := by
    decide +kernel
  unfold counterTop load normalize
  rw [hd, List.map_cons, List.map_nil, stripT_of_noPad_nodescr (by decide) rfl (by decide)]
  decide +kernel

/-- the hypotheses other than `StrippedNames` hold of `Check.hPadType`, a history with a padded type name; that the round
    trip fails on it is a `#guard` of `Spec/TsXmlRoundTripCheck.lean` -/
theorem counterPadType_hyps : UserOnlyNoDoc Gen.consts hPadType ∧ NoShadow (hPadType.foldl (applyOp Gen.consts) Gen.builtinTS) := by
  refine ⟨⟨trivial, ?_⟩, ?_⟩
  · intro op hop
    simp only [hPadType, List.mem_singleton] at hop
    subst hop
    trivial
  · rw [applyOp_eq_S]
    exact noShadowB_sound _ tsxmlDemo_evals.padNoShadow

end Cassis.TsXml.Demo
