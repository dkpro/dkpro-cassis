/-
Cell-level sensitivity of `_render_feature_value`: which pairs of values can never be rendered to the same cell.
-/
import CassisModel.Proofs.ComparableSensSetSlot
import CassisModel.Proofs.ComparableRenderVal

namespace Cassis.Comparable
open Cassis.TS Cassis.Traverse

/-- the two values are never rendered to the same cell (whatever the recursion budgets) -/
def CellNe (K : Consts) (hp hp' : Heap) (byId byId' : List (Option Int × String)) (v v' : Val) : Prop :=
  ∀ F F' c, renderVal K hp byId F v = .ok c → renderVal K hp' byId' F' v' = .ok c → False

theorem cellNe_prim {K : Consts} {hp hp' : Heap} {byId byId' : List (Option Int × String)} {p p' : Val}
    (hd : PrimDiffer p p') : CellNe K hp hp' byId byId' p p' := by
  intro F F' c h h'
  -- the twelve pairs `PrimDiffer` admits, not the 121 pairs of constructors
  unfold PrimDiffer at hd
  split at hd
  case h_13 => exact hd
  all_goals
    rw [renderVal_plain K _ _ _ rfl] at h h'
    cases h
    simp only [Except.ok.injEq, Cell.null, Cell.int.injEq, Cell.str.injEq, Cell.bool.injEq, Cell.float.injEq,
      reduceCtorEq] at h'
    try first
      | exact hd h'.symm
      | exact hd h'

theorem map_transfer {α β γ : Type} (φ : α → β) (ψ : α → γ) (hφ : ∀ a b, φ a = φ b → ψ a = ψ b) (l l' : List α)
    (h : l.map φ = l'.map φ) : l.map ψ = l'.map ψ := by
  induction l generalizing l' with
  | nil =>
    cases l' with
    | nil => rfl
    | cons b bs => simp at h
  | cons a as ih =>
    cases l' with
    | nil => simp at h
    | cons b bs =>
      simp only [List.map_cons, List.cons.injEq] at h ⊢
      exact ⟨hφ a b h.1, ih bs h.2⟩

theorem cellNe_primArr {K : Consts} {hp hp' : Heap} {byId byId' : List (Option Int × String)} {v v' : Val}
    (hd : PrimArrDiffer v v') : CellNe K hp hp' byId byId' v v' := by
  intro F F' c h h'
  unfold PrimArrDiffer at hd
  split at hd
  case h_5 => exact hd
  all_goals
    rw [renderVal_plain K _ _ _ rfl] at h h'
    cases h
    simp only [Except.ok.injEq, Cell.list.injEq] at h'
  · exact hd ((List.map_inj_right (fun _ _ e => Cell.int.inj e)).1 h').symm
  · exact hd ((List.map_inj_right (fun _ _ e => Cell.float.inj e)).1 h').symm
  · exact hd ((List.map_inj_right (fun _ _ e => Cell.bool.inj e)).1 h').symm
  · refine hd (map_transfer _ _ ?_ _ _ h').symm
    intro a b hab
    cases a <;> cases b <;>
      simp only [Cell.null, NULL_VALUE, Cell.str.injEq] at hab <;> simp [NULL_VALUE, hab]

theorem primArrDiffer_ne_none {v v' : Val} (h : PrimArrDiffer v v') : v ≠ .none ∧ v' ≠ .none := by
  unfold PrimArrDiffer at h
  split at h
  case h_5 => exact h.elim
  all_goals exact ⟨Val.noConfusion, Val.noConfusion⟩

theorem cellNe_ref {K : Consts} {hp hp' : Heap} {byId byId' : List (Option Int × String)} {x y : Nat}
    (hx : isArrayFs K hp x = false) (hy : isArrayFs K hp' y = false)
    (hne : ∃ s s', getById byId (xidOf hp x) = some s ∧ getById byId' (xidOf hp' y) = some s' ∧ s ≠ s') :
    CellNe K hp hp' byId byId' (.ref x) (.ref y) := by
  intro F F' c h h'
  obtain ⟨s, s', h1, h2, h3⟩ := hne
  cases F with
  | zero => rw [renderVal_zero_ref] at h; cases h
  | succ F =>
    cases F' with
    | zero => rw [renderVal_zero_ref] at h'; cases h'
    | succ F' =>
      rw [renderVal_ref_fs K hp byId F hx, h1] at h
      rw [renderVal_ref_fs K hp' byId' F' hy, h2] at h'
      cases h
      exact h3 (Cell.str.inj (Except.ok.inj h')).symm

theorem cellNe_refs {K : Consts} {hp hp' : Heap} {byId byId' : List (Option Int × String)} {l l' : List (Option Nat)}
    {i x y : Nat} (hx : l[i]? = some (some x)) (hy : l'[i]? = some (some y))
    (hne : CellNe K hp hp' byId byId' (.ref x) (.ref y)) :
    CellNe K hp hp' byId byId' (.refs l) (.refs l') := by
  intro F F' c h h'
  cases F with
  | zero => cases h
  | succ F =>
    cases F' with
    | zero => cases h'
    | succ F' =>
      rw [renderVal_refs] at h h'
      obtain ⟨cs, hm, e1⟩ := Det.map_ok h
      obtain ⟨cs', hm', e2⟩ := Det.map_ok h'
      rw [e1] at e2
      cases Cell.list.inj e2
      obtain ⟨c1, hc1, hg1⟩ := Det.mapM_ok_getElem? hm hx
      obtain ⟨c2, hc2, hg2⟩ := Det.mapM_ok_getElem? hm' hy
      rw [hc1] at hc2
      cases hc2
      exact hne F F' c1 hg1 hg2

theorem cellNe_deref {K : Consts} {hp hp' : Heap} {byId byId' : List (Option Int × String)} {arr : Nat} {v v' : Val}
    (ha : isArrayFs K hp arr = true) (ha' : isArrayFs K hp' arr = true)
    (hv : slot hp arr "elements" = some v) (hv' : slot hp' arr "elements" = some v')
    (hn : v ≠ .none) (hn' : v' ≠ .none) (hne : CellNe K hp hp' byId byId' v v') :
    CellNe K hp hp' byId byId' (.ref arr) (.ref arr) := by
  intro F F' c h h'
  cases F with
  | zero => rw [renderVal_zero_ref] at h; cases h
  | succ F =>
    cases F' with
    | zero => rw [renderVal_zero_ref] at h'; cases h'
    | succ F' =>
      rw [renderVal_ref_arr K hp byId F ha hv hn] at h
      rw [renderVal_ref_arr K hp' byId' F' ha' hv' hn'] at h'
      exact hne F F' c h h'

end Cassis.Comparable
