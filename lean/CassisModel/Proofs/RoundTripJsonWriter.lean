/-
JSON round trip: the writer on general structures (`JGenFs`: primitive features, the sofa reference, references
of any kind).  The flat structures are the special case in which every reference is a plain one.
-/
import CassisModel.Proofs.RoundTripJsonDefs
import CassisModel.Proofs.RoundTripJsonCollOfXmiFrag

namespace Cassis.Json
open Cassis.TS Cassis.Traverse Cassis.Xmi

/-- the members the writer emits for the value `v` of the feature named `n` of `o` -/
def jmem (cass : List Cas) (H : Heap) (isAnn : Bool) (o : Obj) (n : String) (v : Val) : List (String × JV) :=
  match v with
  | .sofa ci vn =>
    match (cass[ci]?).bind (fun c => Cas.getViewRec c vn) with
    | some view => [("@" ++ n, .int view.sofa.xid)]
    | none => []
  | .int i => [(n, .int (extInt cass isAnn o n i))]
  | .str s => [(n, .str s)]
  | .bool b => [(n, .bool b)]
  | .float t => if isSpecialFloat t then [("#" ++ n, .str t)] else [(n, .flt t)]
  | .ref b =>
    match xidOf H b with
    | some x => [("@" ++ n, .int x)]
    | none => []
  | _ => []

/-- the members written for the feature `f`: under the name the writer uses (`xmlName`: a reserved feature `self_` /
    `type_` is written as `self` / `type`) -/
def jmemF (cass : List Cas) (H : Heap) (isAnn : Bool) (o : Obj) (f : Feature) : List (String × JV) :=
  jmem cass H isAnn o (xmlName f) ((alistGet? o.slots f.name).getD .none)

/-- whether an offset is mapped does not depend on which of the two names is asked -/
theorem extInt_xmlName (cass : List Cas) (isAnn : Bool) (o : Obj) (f : Feature) (h : ResOk f) (i : Int) :
    extInt cass isAnn o (xmlName f) i = extInt cass isAnn o f.name i := by
  unfold extInt
  rw [xmlName_begin f h, xmlName_end f h]

/-- the range of a `sofa` feature that holds a sofa is a structure type (follows from a successful save) -/
def SofaRangeOk (K : Consts) (ts : TypeSystem) (o : Obj) (f : Feature) : Prop :=
  f.name = "sofa" → (alistGet? o.slots f.name).getD .none ≠ .none →
    f.range ≠ "uima.cas.Double" ∧ f.range ≠ "uima.cas.Float" ∧ isPrimitive K ts f.range = false

/-- the writer decides by the declaring type whether an offset is mapped; this agrees with the type of the structure -/
def DomOk (isAnn : Bool) (f : Feature) : Prop :=
  (f.name = "begin" ∨ f.name = "end") → (f.domain == ANNOTATION) = isAnn

theorem jgenFs_of_flatFs {K : Consts} {ts : TypeSystem} {c : Cas} {ci : Nat} {hp : Heap} {a : Nat}
    (h : FlatFs K ts c ci hp a) : JGenFs K ts c ci hp a :=
  jgenFs_of_genFs _ _ _ _ _ _ (genFs_of_flatFs h)

theorem renderFeature_slot (K : Consts) (ts : TypeSystem) (cass : List Cas) {H : Heap} {a : Nat} {o : Obj} {f : Feature}
    {v : Val} (ho : H[a]? = some o) (hn1 : f.name ≠ "xmiID") (hn2 : f.name ≠ "type")
    (hv : alistGet? o.slots f.name = some v) :
    renderFeature K ts cass H a f =
      if v == .none then .ok [] else (stage1 cass H a f (xmlName f) v).bind (stage2 K ts cass H f (xmlName f)) := by
  have hs : Xmi.slot H a f.name = some v := by
    exact (Xmi.slot_of ho _).trans hv
  have hx : (f.name == "xmiID" || f.name == "type") = false := by simp [hn1, hn2]
  rw [renderFeature_eq, hx]
  simp only [Bool.false_eq_true, if_false, hs, Option.getD_some, xmlName_def]

theorem stage1_eq {cass : List Cas} {c : Cas} {ci : Nat} {H : Heap} {a : Nat} {o : Obj} {f : Feature} {isAnn : Bool}
    (hc : cass[ci]? = some c) (ho : H[a]? = some o) (hres : ResOk f) (hdom : DomOk isAnn f)
    (hann : isAnn = true → ∃ vn view, alistGet? o.slots "sofa" = some (.sofa ci vn) ∧ Cas.getViewRec c vn = some view)
    (v : Val) :
    stage1 cass H a f (xmlName f) v =
      .ok (match v with | .int i => .int (extInt cass isAnn o (xmlName f) i) | w => w) := by
  have hcond : (f.domain == ANNOTATION && (xmlName f == "begin" || xmlName f == "end")) =
      (isAnn && (xmlName f == "begin" || xmlName f == "end")) := by
    rw [xmlName_begin f hres, xmlName_end f hres]
    by_cases hbe : f.name = "begin" ∨ f.name = "end"
    · rw [hdom hbe]
    · have : (f.name == "begin" || f.name == "end") = false := by simpa using hbe
      rw [this, Bool.and_false, Bool.and_false]
  unfold stage1 extInt
  rw [hcond]
  by_cases hA : (isAnn && (xmlName f == "begin" || xmlName f == "end")) = true
  · obtain ⟨vn, view, h1, h2⟩ := hann (Bool.and_eq_true _ _ ▸ hA).1
    have hs : Xmi.slot H a "sofa" = some (.sofa ci vn) := by
      exact (Xmi.slot_of ho _).trans h1
    have e : (cass[ci]?.bind fun c => Cas.getViewRec c vn) = some view := by rw [hc]; exact h2
    simp only [if_pos hA, hs, h1, e]
    cases v <;> rfl
  · simp only [if_neg hA]
    cases v <;> rfl

/-- `hcl`: the target of a reference has an id (the collected structures are closed under references) -/
theorem renderFeature_gen (K : Consts) (ts : TypeSystem) (cass : List Cas) (c : Cas) (ci : Nat) (H : Heap) (a : Nat)
    (isAnn : Bool) (o : Obj) (f : Feature) (hc : cass[ci]? = some c) (ho : H[a]? = some o)
    (hf : JFeatOk K ts c ci H isAnn o f) (hdom : DomOk isAnn f) (hsr : SofaRangeOk K ts o f)
    (hcl : ∀ b, alistGet? o.slots f.name = some (.ref b) → (xidOf H b).isSome = true)
    (hann : isAnn = true → ∃ vn view, alistGet? o.slots "sofa" = some (.sofa ci vn) ∧ Cas.getViewRec c vn = some view) :
    renderFeature K ts cass H a f = .ok (jmemF cass H isAnn o f) := by
  obtain ⟨hres, hn1, hn2, _, _, v, hv, hcase⟩ := hf
  unfold jmemF
  rw [hv, Option.getD_some, renderFeature_slot K ts cass ho hn1 hn2 hv]
  by_cases hvn : v = .none
  · subst hvn; rfl
  rw [if_neg (by simpa using hvn), stage1_eq hc ho hres hdom hann]
  have hDF : f.range ≠ "uima.cas.Double" → f.range ≠ "uima.cas.Float" →
      (f.range == "uima.cas.Double" || f.range == "uima.cas.Float") = false := fun h1 h2 => by simp [h1, h2]
  have hprimJV : (f.range == "uima.cas.Double" || f.range == "uima.cas.Float") = false → isPrimitive K ts f.range = true →
      ∀ w jv, primJV w = .ok jv → stage2 K ts cass H f (xmlName f) w = .ok [(xmlName f, jv)] := by
    intro e1 e2 w jv hw
    unfold stage2
    rw [e1, e2, hw]
    rfl
  rcases hcase with ⟨hn, hsofa⟩ | ⟨hn, hprim, h3⟩ | ⟨hn, hprim, hnb, hnd, hnf, hval⟩
  · rcases hsofa with ⟨vn, rfl, hview⟩ | ⟨rfl, _⟩
    · obtain ⟨r1, r2, r3⟩ := hsr hn (by rw [hv]; exact hvn)
      obtain ⟨view, hview'⟩ := Option.isSome_iff_exists.mp hview
      have e : (cass[ci]?.bind fun c => Cas.getViewRec c vn) = some view := by rw [hc]; exact hview'
      show stage2 K ts cass H f (xmlName f) (Val.sofa ci vn) = _
      unfold stage2 jmem
      simp only [hDF r1 r2, r3, e, Bool.false_eq_true, if_false]
      rfl
    · exact absurd rfl hvn
  · rcases h3 with rfl | ⟨hr, i, rfl⟩ | ⟨hr, x, rfl⟩ | ⟨hr, x, rfl⟩ | ⟨hr, t, rfl⟩
    · exact absurd rfl hvn
    · -- an integer is written in the same way under a float range
      show stage2 K ts cass H f (xmlName f) (Val.int _) = _
      unfold stage2
      rw [hprim]
      cases (f.range == "uima.cas.Double" || f.range == "uima.cas.Float") <;> rfl
    · exact hprimJV (by simp [hr]) hprim _ _ rfl
    · exact hprimJV (by simp [hr]) hprim _ _ rfl
    · have e1 : (f.range == "uima.cas.Double" || f.range == "uima.cas.Float") = true := by
        rcases hr with h | h <;> rw [h] <;> decide
      show stage2 K ts cass H f (xmlName f) (Val.float t) = _
      unfold stage2 jmem
      rw [e1]
      simp only [if_true]
      split <;> rfl
  · rcases hval with rfl | ⟨b, rfl, _⟩
    · exact absurd rfl hvn
    · obtain ⟨x, hx⟩ := Option.isSome_iff_exists.mp (hcl b hv)
      have hx' : idOf H b = some x := hx
      show stage2 K ts cass H f (xmlName f) (Val.ref b) = _
      unfold stage2 jmem
      simp only [hDF hnd hnf, hprim, Bool.false_eq_true, if_false, hx, hx']
      rfl

theorem renderFeatures_of_each (K : Consts) (ts : TypeSystem) (cass : List Cas) (H : Heap) (a : Nat) (g : Feature → List (String × JV))
    (fs : List Feature) (h : ∀ f ∈ fs, renderFeature K ts cass H a f = .ok (g f)) :
    renderFeatures K ts cass H a fs = .ok (fs.flatMap g) := by
  rw [renderFeatures_eq, Det.mapM_ok_of_forall _ g fs h, List.flatMap_def]
  rfl

theorem renderFeatures_ok_each (K : Consts) (ts : TypeSystem) (cass : List Cas) (H : Heap) (a : Nat)
    (fs : List Feature) (r : List (String × JV)) (h : renderFeatures K ts cass H a fs = .ok r) :
    ∀ f ∈ fs, ∃ r', renderFeature K ts cass H a f = .ok r' := by
  rw [renderFeatures_eq] at h
  obtain ⟨outs, ho, _⟩ := Det.map_ok h
  exact fun f hf => let ⟨r', _, e⟩ := (Det.mapM_ok_mem ho).1 f hf; ⟨r', e⟩

theorem sofaRange_of_ok {K : Consts} {ts : TypeSystem} {cass : List Cas} {H : Heap} {a : Nat} {o : Obj} {f : Feature}
    {ci : Nat} {vn : String} {r : List (String × JV)} (ho : H[a]? = some o) (hres : ResOk f) (hn : f.name = "sofa")
    (hv : alistGet? o.slots f.name = some (.sofa ci vn)) (h : renderFeature K ts cass H a f = .ok r) :
    f.range ≠ "uima.cas.Double" ∧ f.range ≠ "uima.cas.Float" ∧ isPrimitive K ts f.range = false := by
  rw [renderFeature_slot K ts cass ho (by rw [hn]; decide) (by rw [hn]; decide) hv, if_neg (by simp)] at h
  have hst : stage1 cass H a f (xmlName f) (.sofa ci vn) = .ok (.sofa ci vn) := by
    unfold stage1
    rw [xmlName_begin f hres, xmlName_end f hres]
    have : (f.domain == ANNOTATION && (f.name == "begin" || f.name == "end")) = false := by
      rw [hn]
      have : (("sofa" : String) == "begin" || ("sofa" : String) == "end") = false := by decide
      rw [this]; simp
    rw [this]; rfl
  rw [hst] at h
  change stage2 K ts cass H f (xmlName f) (Val.sofa ci vn) = _ at h
  unfold stage2 at h
  by_cases e1 : (f.range == "uima.cas.Double" || f.range == "uima.cas.Float") = true
  · rw [if_pos e1] at h; cases h
  · rw [if_neg e1] at h
    by_cases e2 : isPrimitive K ts f.range = true
    · rw [if_pos e2] at h; cases h
    · simp only [Bool.or_eq_true, beq_iff_eq, not_or] at e1
      exact ⟨e1.1, e1.2, by simpa using e2⟩

/-- the element written for a general structure -/
def genJFs (ts : TypeSystem) (cass : List Cas) (H : Heap) (x : Int) (o : Obj) (t : TypeRec) : JFs :=
  { id := some x, ty := o.ty, elements := none,
    feats := (allFeatures t).flatMap (jmemF cass H (isInstanceOf ts o.ty ANNOTATION) o) }

theorem renderFs_obj (K : Consts) (ts : TypeSystem) (cass : List Cas) {H : Heap} {a : Nat} {o : Obj} {t : TypeRec}
    (ho : H[a]? = some o) (hpa : isPrimitiveArray K o.ty = false) (hfa : o.ty ≠ FS_ARRAY)
    (ht : find? ts o.ty = some t) :
    renderFs K ts cass H a =
      (renderFeatures K ts cass H a (allFeatures t)).map (fun fs => { id := o.xid, ty := o.ty, feats := fs }) := by
  rw [renderFs_eq, ho]
  simp only [hpa, beq_false_of_ne hfa, Bool.or_self, Bool.false_eq_true, if_false, getType_of_find ht]
  rfl

theorem renderFs_gen (K : Consts) (ts : TypeSystem) (cass : List Cas) (c : Cas) (ci : Nat) (H : Heap) (a : Nat) (x : Int)
    (o : Obj) (t : TypeRec) (hc : cass[ci]? = some c) (hfl : JGenFs K ts c ci H a) (ho : H[a]? = some o)
    (ht : find? ts o.ty = some t) (hx : xidOf H a = some x)
    (hdom : ∀ f ∈ allFeatures t, DomOk (isInstanceOf ts o.ty ANNOTATION) f)
    (hsr : ∀ f ∈ allFeatures t, SofaRangeOk K ts o f)
    (hcl : ∀ (n : String) (b : Nat), alistGet? o.slots n = some (.ref b) → (xidOf H b).isSome = true) :
    renderFs K ts cass H a = .ok (genJFs ts cass H x o t) := by
  have g := hfl.at ho ht
  have hxid : o.xid = some x := by
    exact (xidOf_eq ho).symm.trans hx
  rw [renderFs_obj K ts cass ho g.notPrimArr g.notFsArr ht,
    renderFeatures_of_each K ts cass H a (jmemF cass H (isInstanceOf ts o.ty ANNOTATION) o) (allFeatures t)
      (fun f hf => renderFeature_gen K ts cass c ci H a _ o f hc ho (g.feat f hf) (hdom f hf) (hsr f hf)
        (hcl f.name) g.ann_sofa), hxid]
  rfl

/-- the flat case: that the target of a reference has an id is part of the fragment -/
theorem renderFs_flatJ (K : Consts) (ts : TypeSystem) (cass : List Cas) (c : Cas) (ci : Nat) (H : Heap) (a : Nat) (x : Int)
    (o : Obj) (t : TypeRec) (hc : cass[ci]? = some c) (hfl : FlatFs K ts c ci H a) (ho : H[a]? = some o)
    (ht : find? ts o.ty = some t) (hx : xidOf H a = some x)
    (hdom : ∀ f ∈ allFeatures t, DomOk (isInstanceOf ts o.ty ANNOTATION) f)
    (hsr : ∀ f ∈ allFeatures t, SofaRangeOk K ts o f) :
    renderFs K ts cass H a = .ok (genJFs ts cass H x o t) := by
  refine renderFs_gen K ts cass c ci H a x o t hc (jgenFs_of_flatFs hfl) ho ht hx hdom hsr (fun n b hb => ?_)
  have g := hfl.at ho ht
  obtain ⟨f, hf, rfl⟩ := g.slot_feature hb
  obtain ⟨_, _, _, _, _, _, _, _, _, _, _, v, hv, hcase⟩ := g.feat f hf
  rw [hb] at hv; cases hv
  rcases hcase with ⟨_, ⟨vn, e, _⟩ | ⟨e, _⟩⟩ | ⟨_, _, e | ⟨_, i, e⟩ | ⟨_, s, e⟩ | ⟨_, b', e⟩ | ⟨_, t', e⟩⟩ |
    ⟨_, _, _, _, _, _, _, e | ⟨b', e, hs, _⟩⟩ <;> cases e
  exact hs

theorem renderAll_ok_each (K : Consts) (ts : TypeSystem) (cass : List Cas) (H : Heap) (L : List (Int × Nat))
    (es : List JFs) (h : renderAll K ts cass H L = .ok es) : ∀ q ∈ L, ∃ e, renderFs K ts cass H q.2 = .ok e :=
  fun q hq => let ⟨e, _, he⟩ := (Det.mapM_ok_mem (renderAll_eq_mapM K ts cass H L ▸ h)).1 q hq; ⟨e, he⟩

theorem sofaRange_of_renderFs (K : Consts) (ts : TypeSystem) (cass : List Cas) (c : Cas) (ci : Nat) (H : Heap) (a : Nat)
    (o : Obj) (t : TypeRec) (hfl : JGenFs K ts c ci H a) (ho : H[a]? = some o) (ht : find? ts o.ty = some t)
    (e : JFs) (h : renderFs K ts cass H a = .ok e) : ∀ f ∈ allFeatures t, SofaRangeOk K ts o f := by
  have g := hfl.at ho ht
  rw [renderFs_obj K ts cass ho g.notPrimArr g.notFsArr ht] at h
  obtain ⟨r, hr, _⟩ := Det.map_ok h
  intro f hf hn hne
  obtain ⟨r', hr'⟩ := renderFeatures_ok_each K ts cass H a _ r hr f hf
  obtain ⟨hres, _, _, _, _, v, hv, hcase⟩ := g.feat f hf
  rw [hv, Option.getD_some] at hne
  rcases hcase with ⟨_, hsofa⟩ | ⟨hn', _⟩ | ⟨hn', _⟩
  · rcases hsofa with ⟨vn, rfl, _⟩ | ⟨rfl, _⟩
    · exact sofaRange_of_ok ho hres hn hv hr'
    · exact absurd rfl hne
  · exact absurd hn hn'
  · exact absurd hn hn'

theorem renderAll_eq_map (K : Consts) (ts : TypeSystem) (cass : List Cas) (H : Heap) {g : Int × Nat → JFs}
    (L : List (Int × Nat)) (h : ∀ q ∈ L, renderFs K ts cass H q.2 = .ok (g q)) :
    renderAll K ts cass H L = .ok (L.map g) :=
  renderAll_eq_mapM K ts cass H L ▸ Det.mapM_ok_of_forall _ g L h

/-- the converse: a successful `renderAll` returned `L.map g` when every successful `renderFs` returns `g q` -/
theorem renderAll_ok_eq_map (K : Consts) (ts : TypeSystem) (cass : List Cas) (H : Heap) (g : Int × Nat → JFs) :
    ∀ (L : List (Int × Nat)) (es : List JFs), renderAll K ts cass H L = .ok es →
      (∀ q ∈ L, ∀ e, renderFs K ts cass H q.2 = .ok e → e = g q) → es = L.map g := fun L es h hg => by
  have := Det.mapM_ok_map (renderAll_eq_mapM K ts cass H L ▸ h) (g := id) (k := g) hg
  rwa [List.map_id] at this

end Cassis.Json
