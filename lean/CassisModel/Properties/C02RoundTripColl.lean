/-
C02, end to end on the whole format — arrays and lists included (configuration: `TypeSystemMode.NONE`, the original type
system supplied, no merge).

`json_roundtrip_coll` extends `json_roundtrip_flat` (`C02RoundTrip.lean`) to structures with array and list features,
inlined or shared.  JSON writes every collection object as a structure of its own (the traversal runs with
`include_inlinable_arrays_and_lists=True`), so collection objects keep their identity and ids; the content of a feature is
nevertheless compared with the same `featContentC` as for XMI (`Spec/RoundTripColl.lean`), which is what the properties speak
about and lets the two theorems be composed (C16).

`JCollFs` (`Spec/RoundTripJsonCollFrag.lean`) is the fragment; it contains the common fragment of both formats,
`CollFs ∧ JsonFs`, up to one case (J1): an array *object* whose `elements` is `None` — admitted by the XMI fragment for
non-string arrays written as elements of their own — comes back from JSON with `elements = []` (no `%ELEMENTS` member is
written, the reader makes the empty list of it); counterexample `cxj_obj_elements_none` (a shared IntegerArray) and
`cxj_obj_elements_none_fs` in `Spec/RoundTripJsonCollCheck.lean`: the XMI test accepts, the JSON round trip reports the
`elements` feature of the array object.  Hence the extra hypothesis `ArrElemsSome` of `jcollFs_of_collFs`.
The fragment admits more than `CollFs`: null elements of FSArrays, arbitrary bytes and float tokens, empty inlined
StringLists, null heads, … (listed with evaluated examples in the two `Spec/RoundTripJsonColl*.lean` files).
The second condition of the fragment, (J2) "the spine of an inlined list ends", is part of `CollFs` as well (S7).
-/
import CassisModel.Proofs.RoundTripJsonColl
import CassisModel.Proofs.RoundTripJsonCollContent

namespace Cassis.Json
open Cassis.TS Cassis.Traverse Cassis.Xmi

/-- **JSON round trip, collections included** -/
theorem json_roundtrip_coll (K : Consts) (ts : TypeSystem) (cass : List Cas) (ci : Nat) (c : Cas) (hp : Heap)
    (tsIdx ci' : Nat) (doc : JDoc) (st : St)
    (hc : cass[ci]? = some c) (hwf : RTWf c hp)
    (hsave : saveJson K ts cass ci hp .none = .ok (doc, st))
    (hcoll : ∀ q ∈ st.allFs, JCollFs K ts c ci st.heap q.2)
    (hids : ∀ nv ∈ c.views, ∀ e ∈ Index.all nv.2.idx, (xidOf hp e.oid).isSome = true)
    (hdis : ∀ q ∈ st.allFs, ∀ nv ∈ c.views, q.1 ≠ nv.2.sofa.xid)
    (hmem : ∀ nv ∈ c.views, ∀ e ∈ Index.all nv.2.idx, Xmi.slot st.heap e.oid "sofa" ≠ some .none)
    (hmok : MembersOk c st.heap) :
    ∃ (ld : Loaded) (fss : List (Int × Val)),
      loadJson K ts tsIdx ci' false false st.heap doc = .ok ld ∧ ld.ts = ts ∧
      (∀ q ∈ st.allFs, ∃ (a' : Nat) (o o' : Obj), lookup fss q.1 = some (.ref a') ∧
          st.heap[q.2]? = some o ∧ ld.heap[a']? = some o' ∧ o'.ty = o.ty ∧ o'.xid = some q.1 ∧
          ∀ t : TypeRec, find? ts o.ty = some t → ∀ f ∈ allFeatures t,
            featContentC K ld.heap a' f = featContentC K st.heap q.2 f) ∧
      (∀ p ∈ fss, (∃ q ∈ st.allFs, q.1 = p.1) ∨ (∃ nv ∈ c.views, nv.2.sofa.xid = p.1)) ∧
      ld.cas.views.map (viewContent ld.heap) = c.views.map (viewContent st.heap) ∧
      (∀ q ∈ st.allFs, q.1 < ld.cas.nextXid) ∧
      (∀ nv ∈ c.views, nv.2.sofa.xid < ld.cas.nextXid ∧ nv.2.sofa.sofaNum < ld.cas.nextSofaNum) := by
  obtain ⟨g, hdfss, hdviews⟩ := json_written_coll hc hwf hsave hcoll hids hdis
  obtain ⟨ld, m, hload, hts, hrel, _, hviews, hnx, _, hmq, hms⟩ :=
    json_read_coll g st.heap tsIdx ci' doc hdfss hdviews hmem hmok
  have hL := g.lok
  -- the id map of the reader after both passes
  refine ⟨ld, sofaEntries ci' c.views ++ fsEntries (naOf st.heap (sortById st.allFs)) (sortById st.allFs),
    hload, hts, ?_, ?_, hviews, ?_, ?_⟩
  · intro q hq0
    have hq := mem_sortById.mpr hq0
    obtain ⟨o, o', ho, ho', hty, hx, _, _⟩ := hrel q hq
    exact ⟨_, o, o', lookup_entries ci' c.views _ hL.nodup hq (g.dis q hq), ho, ho', hty, hx,
      fun t ht f hf => content_collJ K ts c ci st.heap (sortById st.allFs) ci' ld.heap hL hrel
        (Nat.le_of_lt (CC.len_lt hrel hq)) q hq o t ho ht f hf⟩
  · intro p hp
    rcases List.mem_append.mp hp with h | h
    · obtain ⟨nv, hnv, rfl⟩ := List.mem_map.mp h
      exact Or.inr ⟨nv, hnv, rfl⟩
    · obtain ⟨q, hq, rfl⟩ := List.mem_map.mp h
      exact Or.inl ⟨q, mem_sortById.mp hq, rfl⟩
  · intro q hq0
    have := hmq q (mem_sortById.mpr hq0)
    omega
  · intro nv hnv
    obtain ⟨h1, h2⟩ := hms nv hnv
    exact ⟨by omega, h2⟩

/-- the common fragment of both formats is part of it, except for array objects with `elements = None` (J1) -/
theorem jcollFs_of_collFs (K : Consts) (ts : TypeSystem) (c : Cas) (ci : Nat) (hp : Heap) (a : Nat)
    (h : CollFs K ts c ci hp a) (hj : JsonFs ts hp a) (he : ArrElemsSome hp a) : JCollFs K ts c ci hp a := by
  rcases h with h | h
  · exact ⟨Or.inl (jgenFs_of_genFs K ts c ci hp a h), hj⟩
  · exact ⟨Or.inr (jarrFs_of_arrFs K ts hp a h he), hj⟩

/-- the flat fragment of `json_roundtrip_flat` is part of it -/
theorem jcollFs_of_flatFs (K : Consts) (ts : TypeSystem) (c : Cas) (ci : Nat) (hp : Heap) (a : Nat)
    (h : FlatFs K ts c ci hp a) (hj : JsonFs ts hp a) : JCollFs K ts c ci hp a :=
  ⟨Or.inl (jgenFs_of_flatFs h), hj⟩

#print axioms json_roundtrip_coll
#print axioms jcollFs_of_collFs

end Cassis.Json
