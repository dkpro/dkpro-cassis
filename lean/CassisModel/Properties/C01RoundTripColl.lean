/-
C01, end to end on the whole format — arrays and lists included.

`xmi_roundtrip_coll` speaks of structures with array and list features (`xmi_roundtrip_flat`, `C01RoundTrip.lean`, is
its restriction to the flat fragment), inlined or shared: primitive arrays of every kind, FSArrays, FSLists and
primitive lists, the collection objects and list nodes that are written as structures of their own.  The content of a
feature is compared deeply (`featContentC`, `Spec/RoundTripColl.lean`): an inlined collection is its sequence of
elements, a shared one a reference to the collection object; inside string arrays and lists null and `""` coincide (the
only equivalence XMI forces besides the identity of inlined collection objects).

`CollFs` (`Spec/RoundTripCollFrag.lean`) is the fragment: what a structure must look like for the theorem to apply.  It
contains the flat fragment and every collection kind; the conditions beyond "well typed" are exactly the things XMI cannot
express (null elements of FSArrays, …), each named there with its counterexample (`CollDemo.cx_*`, evaluated in
`Spec/RoundTripCollCheck.lean`).  `collAppliesB` (same file; sound by `collAppliesB_sound`,
`Properties/C01AppliesColl.lean`) is a computable test for all hypotheses; the correspondence check reports for how
many generated CASes it holds.
-/
import CassisModel.Proofs.RoundTripColl
import CassisModel.Proofs.RoundTripFlatOfColl

namespace Cassis.Xmi
open Cassis.TS Cassis.Traverse

/-- **XMI round trip, collections included** -/
theorem xmi_roundtrip_coll (K : Consts) (ts : TypeSystem) (cass : List Cas) (ci : Nat) (c : Cas) (hp : Heap)
    (tsIdx ci' : Nat) (doc : XDoc) (st : St)
    (hc : cass[ci]? = some c) (hwf : RTWf c hp) (hnull : NullOk ts)
    (hsave : saveXmi K ts cass ci hp = .ok (doc, st))
    (hcoll : ∀ q ∈ st.allFs, CollFs K ts c ci st.heap q.2)
    (hdis : ∀ q ∈ st.allFs, ∀ nv ∈ c.views, q.1 ≠ nv.2.sofa.xid)
    (hmem : ∀ nv ∈ c.views, ∀ e ∈ Index.all nv.2.idx, slot st.heap e.oid "sofa" ≠ some .none)
    (hmok : MembersOk c st.heap) :
    ∃ (p : Pass1) (ld : Loaded),
      pass1 K ts tsIdx false doc { heap := st.heap } = .ok p ∧
      loadXmi K ts tsIdx ci' false st.heap doc = .ok ld ∧
      p.fss.map (·.1) = 0 :: (sortById st.allFs).map (·.1) ∧
      (∀ q ∈ st.allFs, ∃ (a' : Nat) (o o' : Obj), lookupFs p.fss q.1 = .ok a' ∧
          st.heap[q.2]? = some o ∧ ld.heap[a']? = some o' ∧ o'.ty = o.ty ∧ o'.xid = some q.1 ∧
          ∀ t : TypeRec, find? ts o.ty = some t → ∀ f ∈ allFeatures t,
            featContentC K ld.heap a' f = featContentC K st.heap q.2 f) ∧
      ld.cas.views.map (viewContent ld.heap) = c.views.map (viewContent st.heap) ∧
      (∀ q ∈ st.allFs, q.1 < ld.cas.nextXid) ∧
      (∀ nv ∈ c.views, nv.2.sofa.xid < ld.cas.nextXid ∧ nv.2.sofa.sofaNum < ld.cas.nextSofaNum) :=
  by
  have hL := lokC_of_save hc hwf hsave hcoll
  obtain ⟨_, p, _, ld, hp1, _, hload, _, hp1w, _, r⟩ :=
    xmi_passes_coll K ts cass ci c hp hp tsIdx ci' doc st hc hwf hnull hsave hL hmem hmok
  refine ⟨p, ld, hp1, hload, ?_, fun q hq => r.found hL (mem_sortById.mpr hq), r.content,
    fun q hq => r.fs_below q (mem_sortById.mpr hq), r.sofas_below⟩
  rw [hp1w.fss, List.map_cons, List.map_map]
  rfl

theorem collFs_of_flatFs (K : Consts) (ts : TypeSystem) (c : Cas) (ci : Nat) (hp : Heap) (a : Nat)
    (h : FlatFs K ts c ci hp a) : CollFs K ts c ci hp a :=
  .inl (genFs_of_flatFs h)

end Cassis.Xmi
