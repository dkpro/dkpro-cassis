/-
The loaded CAS against the written one, as far as no format and no collection is involved: views and seeds of the loaded
CAS (`viewsRelL_get`, `seeds_fwd`, `seeds_bwd`), a flat feature across the round trip (flat again, written as the same token),
flat structures related by `E3` as a copy in the sense of `Traverse.Moved` (`moved_of_flat`; the flat JSON fixpoint of
`Properties/C02RoundTrip.lean`, the flat results of `Properties/C20Iso.lean` and the chains rest on it; the flat XMI
fixpoint is an instance of the one with collections), the collected list of the second traversal in document order
(`Moved.sorted`), and `saveXmi_moved`: a copy whose structures, sofas and views are written alike is saved as the identical
document.
-/
import CassisModel.Properties.C03Doc
import CassisModel.Proofs.RoundTripDefs
import CassisModel.Proofs.RoundTripCollected
import CassisModel.Proofs.TraverseCopy
import CassisModel.Properties.C14

namespace Cassis.Xmi
open Cassis.TS Cassis.Traverse Cassis.Lex

theorem viewsRelL_get {H : Heap} {na : Int → Nat} (l l' : List (String × View)) (vn : String) (v : View)
    (h : ViewsRelL H na l l') (hv : alistGet? l vn = some v) :
    ∃ v', alistGet? l' vn = some v' ∧ ViewRel H na (vn, v) (vn, v') :=
  RTB.All2.get (fun _ _ hr => hr.1) h.all2 vn v hv

/-- the reader's converter and the setter's converter agree on every offset inside the text -/
theorem conv_p2e_eq (text : List Nat) (hs : ∀ cp ∈ text, Offsets.IsScalar cp) (k : Nat) (hk : k ≤ text.length) :
    Offsets.pythonToExternal (convOfText (some (docText text))) k
      = Offsets.pythonToExternal (some (Offsets.table text)) k := by
  by_cases hne : text = []
  · subst hne
    have : k = 0 := by simpa using hk
    subst this
    rfl
  · rw [convOfText_docText text hs hne]
    rfl

section
variable {K : Consts} {ts : TypeSystem} {cass cass' : List Cas} {ci ci' : Nat} {c c' : Cas} {hp H hpL : Heap}
  {na : Int → Nat} {o o' : Obj} {isAnn : Bool} {f : Feature}

theorem flatFeat_new
    (hget : ∀ vn v, Cas.getViewRec c vn = some v → ∃ v', Cas.getViewRec c' vn = some v' ∧ v'.sofa.text = v.sofa.text)
    (hf : FlatFeat K ts c ci H isAnn o f)
    (hslot : ∀ v, alistGet? o.slots f.name = some v → alistGet? o'.slots f.name = some (exp3 H na ci' v))
    (href : ∀ b, alistGet? o.slots f.name = some (.ref b) →
      ∃ x, xidOf H b = some x ∧ xidOf hpL (na x) = some x ∧ x ≠ 0) :
    FlatFeat K ts c' ci' hpL isAnn o' f := by
  obtain ⟨a1, a2, a3, a4, a5, a6, a7, a8, a9, a10, a11, v, hv, hd⟩ := hf
  refine ⟨a1, a2, a3, a4, a5, a6, a7, a8, a9, a10, a11, exp3 H na ci' v, hslot v hv, ?_⟩
  rcases hd with ⟨hn, hs⟩ | ⟨hn, hp, hs⟩ | ⟨hn, hp, ha, hl, hb1, hb2, hb3, hs⟩
  · refine .inl ⟨hn, ?_⟩
    rcases hs with ⟨vn, rfl, hsome⟩ | ⟨rfl, hA⟩
    · obtain ⟨w, hg⟩ := Option.isSome_iff_exists.mp hsome
      obtain ⟨w', hw', _⟩ := hget vn w hg
      exact .inl ⟨vn, rfl, Option.isSome_iff_exists.mpr ⟨w', hw'⟩⟩
    · exact .inr ⟨rfl, hA⟩
  · have he : exp3 H na ci' v = v := by
      rcases hs with rfl | ⟨_, i, rfl⟩ | ⟨_, s, rfl⟩ | ⟨_, b, rfl⟩ | ⟨_, t, rfl⟩ <;> rfl
    rw [he]
    exact .inr (.inl ⟨hn, hp, hs⟩)
  · refine .inr (.inr ⟨hn, hp, ha, hl, hb1, hb2, hb3, ?_⟩)
    rcases hs with rfl | ⟨b, rfl, _⟩
    · exact .inl rfl
    · obtain ⟨x, hx, hxn, hx0⟩ := href b hv
      refine .inr ⟨na x, by simp only [exp3, hx], by rw [hxn]; rfl, ?_⟩
      rw [hxn]
      exact fun h => hx0 (Option.some.inj h)

/-- the offset written for an integer slot is the same on both sides: inside the text, the converter the reader builds
    from the document text agrees with the one the sofa setter built -/
theorem extInt_new (hc : cass[ci]? = some c) (hc' : cass'[ci']? = some c') (hwf : RTWf c hp)
    (hviews : ViewsRel H na c c')
    (hsofa : ∀ vn, alistGet? o.slots "sofa" = some (.sofa ci vn) → alistGet? o'.slots "sofa" = some (.sofa ci' vn))
    (hann : isAnn = true → AnnOk c ci o)
    {n : String} {i : Int} (hi : alistGet? o.slots n = some (.int i)) :
    extInt cass' isAnn o' n i = extInt cass isAnn o n i := by
  by_cases hcond : (isAnn && (n == "begin" || n == "end")) = true
  · simp only [Bool.and_eq_true, Bool.or_eq_true, beq_iff_eq] at hcond
    obtain ⟨rfl, hn⟩ := hcond
    obtain ⟨vn, v, text, b, e, hs, hv, ht, hb, he, hbl, hel⟩ := hann rfl
    obtain ⟨v', hv', hvr⟩ := viewsRelL_get _ _ vn v hviews hv
    have hmem : (vn, v) ∈ c.views := alistGet?_mem _ _ _ hv
    have hconv : v.sofa.conv = some (Offsets.table text) := hwf.conv _ hmem text ht
    have hconv' : v'.sofa.conv = convOfText (some (docText text)) := by
      have := hvr.2.2.2.2.2.2.1
      rwa [ht] at this
    obtain ⟨k, hk, rfl⟩ : ∃ k : Nat, k ≤ text.length ∧ i = (k : Int) := by
      rcases hn with rfl | rfl
      · rw [hb] at hi; cases hi; exact ⟨b, hbl, rfl⟩
      · rw [he] at hi; cases hi; exact ⟨e, hel, rfl⟩
    rw [extInt_mapped hn hs (by rw [hc]; exact hv), extInt_mapped hn (hsofa vn hs) (by rw [hc']; exact hv'), hconv, hconv',
      Int.toNat_natCast, conv_p2e_eq text (hwf.scalar _ hmem text ht) k hk]
  · rw [extInt_plain (Bool.eq_false_iff.mpr hcond), extInt_plain (Bool.eq_false_iff.mpr hcond)]

theorem flatTok_new (hc : cass[ci]? = some c) (hc' : cass'[ci']? = some c') (hwf : RTWf c hp)
    (hviews : ViewsRel H na c c')
    (hsofa : ∀ vn, alistGet? o.slots "sofa" = some (.sofa ci vn) → alistGet? o'.slots "sofa" = some (.sofa ci' vn))
    (hann : isAnn = true → AnnOk c ci o)
    (hf : FlatFeat K ts c ci H isAnn o f)
    (hslot : ∀ v, alistGet? o.slots f.name = some v → alistGet? o'.slots f.name = some (exp3 H na ci' v))
    (href : ∀ b, alistGet? o.slots f.name = some (.ref b) →
      ∃ x, xidOf H b = some x ∧ xidOf hpL (na x) = some x ∧ x ≠ 0) :
    flatTok cass' hpL isAnn o' f.name ((alistGet? o'.slots f.name).getD .none)
      = flatTok cass H isAnn o f.name ((alistGet? o.slots f.name).getD .none) := by
  obtain ⟨_, _, _, _, _, _, _, _, _, _, _, v, hv, hd⟩ := hf
  rw [hv, hslot v hv, Option.getD_some, Option.getD_some]
  rcases hd with ⟨_, hs⟩ | ⟨_, _, hs⟩ | ⟨_, _, _, _, _, _, _, hs⟩
  · rcases hs with ⟨vn, rfl, hsome⟩ | ⟨rfl, _⟩
    · obtain ⟨w, hg⟩ := Option.isSome_iff_exists.mp hsome
      obtain ⟨w', hw', hvr⟩ := viewsRelL_get _ _ vn w hviews hg
      simp only [exp3, flatTok, hc, hc', Option.bind_some, hg, show Cas.getViewRec c' vn = some w' from hw',
        Option.map_some, show w'.sofa.xid = w.sofa.xid from hvr.2.2.1]
    · rfl
  · rcases hs with rfl | ⟨_, i, rfl⟩ | ⟨_, s, rfl⟩ | ⟨_, b, rfl⟩ | ⟨_, t, rfl⟩
    · rfl
    · simp only [exp3, flatTok, extInt_new hc hc' hwf hviews hsofa hann hv]
    · rfl
    · rfl
    · rfl
  · rcases hs with rfl | ⟨b, rfl, _⟩
    · rfl
    · obtain ⟨x, hx, hxn, _⟩ := href b hv
      simp only [exp3, flatTok, hx, hxn]

end

theorem viewsRel_get_text {H : Heap} {na : Int → Nat} {c c' : Cas} (hviews : ViewsRel H na c c') (vn : String) (v : View)
    (h : Cas.getViewRec c vn = some v) : ∃ v', Cas.getViewRec c' vn = some v' ∧ v'.sofa.text = v.sofa.text := by
  obtain ⟨v', hv', hvr⟩ := viewsRelL_get _ _ vn v hviews h
  exact ⟨v', hv', hvr.2.2.2.2.1⟩

theorem flatFs_new {K : Consts} {ts : TypeSystem} {c : Cas} {ci : Nat} {H : Heap} {L : List (Int × Nat)} {na : Int → Nat}
    {ci' : Nat} {c' : Cas} {hpL : Heap} (hL : LOk K ts c ci H L) (hrel : HeapRel H L na (E3 H na ci') hpL)
    (hget : ∀ vn v, Cas.getViewRec c vn = some v → ∃ v', Cas.getViewRec c' vn = some v' ∧ v'.sofa.text = v.sofa.text) :
    ∀ q ∈ L, FlatFs K ts c' ci' hpL (na q.1) := by
  intro q hq
  obtain ⟨o, o', hHo, hLo', hty, hxid, hnames, hslots⟩ := hrel q hq
  obtain ⟨o1, t, ho1, hfind, g⟩ := flatFs_iff.mp (hL.flat q hq)
  cases hHo.symm.trans ho1
  refine flatFs_iff.mpr ⟨o', t, hLo', hty ▸ hfind, g.copy hty hnames (fun f _ hf => ?_)
    fun h => h.copy (E := fun _ => exp3 H na ci') hslots (fun _ => rfl) (fun _ _ => rfl) hget⟩
  refine flatFeat_new hget hf (hslots f.name) (fun b hb => ?_)
  obtain ⟨x, hx, hxL⟩ := hL.closed q hq o hHo f.name b hb
  exact ⟨x, hx, hrel.xid hxL, (hL.ids _ hxL).2⟩

theorem flatAttrs_congr {cass cass' : List Cas} {H hpL : Heap} {isAnn : Bool} {o o' : Obj} :
    ∀ (fs : List Feature),
      (∀ f ∈ fs, flatTok cass' hpL isAnn o' f.name ((alistGet? o'.slots f.name).getD .none)
        = flatTok cass H isAnn o f.name ((alistGet? o.slots f.name).getD .none)) →
      flatAttrs cass' hpL isAnn o' fs = flatAttrs cass H isAnn o fs
  | [], _ => rfl
  | f :: fs, h => by
    simp only [flatAttrs]
    rw [h f List.mem_cons_self, flatAttrs_congr fs (fun g hg => h g (List.mem_cons_of_mem _ hg))]

theorem renderSofa_rel {H : Heap} {na : Int → Nat} {nv nv' : String × View} (h : ViewRel H na nv nv') :
    renderSofa nv'.2.sofa = renderSofa nv.2.sofa := by
  obtain ⟨_, h1, h2, h3, h4, h5, _⟩ := h
  unfold renderSofa
  rw [h1, h2, h3, h4, h5]

theorem renderView_map (hp hp' : Heap) (l l' : List (String × View))
    (h : l'.map (viewContent hp') = l.map (viewContent hp)) :
    l'.map (fun p => renderView hp' p.2) = l.map (fun p => renderView hp p.2) := by
  have e : ∀ (hp : Heap) (l : List (String × View)), l.map (fun p => renderView hp p.2) =
      (l.map (viewContent hp)).map (fun vc => ({ ty := VIEW_T, attrs := [("sofa", showInt vc.xid),
        ("members", joinSp (vc.members.map showInt))] } : XElem)) := fun hp l => by rw [List.map_map]; rfl
  rw [e, e, h]

theorem exp3_ref {H : Heap} {na : Int → Nat} {ci' : Nat} {v : Val} {b' : Nat} (h : exp3 H na ci' v = .ref b') :
    ∃ bb xb, v = .ref bb ∧ xidOf H bb = some xb ∧ b' = na xb := by
  cases v <;> simp only [exp3] at h <;> try (exact absurd h (by simp))
  rename_i bb
  cases hx : xidOf H bb with
  | none => rw [hx] at h; exact absurd h (by simp)
  | some xb =>
    rw [hx] at h
    simp only [Val.ref.injEq] at h
    exact ⟨bb, xb, rfl, hx, h.symm⟩

theorem rel_succ_fwd {K : Consts} {ts : TypeSystem} {c : Cas} {ci : Nat} {H : Heap} {L : List (Int × Nat)}
    {na : Int → Nat} {ci' : Nat} {hpL : Heap} (hL : LOk K ts c ci H L) (hrel : HeapRel H L na (E3 H na ci') hpL)
    {q : Int × Nat} (hq : q ∈ L) {o' : Obj} (ho' : hpL[na q.1]? = some o') {n : String} {b' : Nat}
    (hb : alistGet? o'.slots n = some (.ref b')) : ∃ q' ∈ L, b' = na q'.1 := by
  obtain ⟨o, o2, ho, ho2, _, _, hkeys, hslots⟩ := hrel q hq
  rw [ho'] at ho2; cases ho2
  obtain ⟨v, hv⟩ := alistGet?_of_keys o.slots o'.slots n _ hkeys.symm hb
  have := hslots n v hv
  rw [hb] at this
  obtain ⟨bb, xb, rfl, hxb, rfl⟩ := exp3_ref (Option.some.inj this).symm
  obtain ⟨x, hx, hm⟩ := hL.closed q hq o ho n bb hv
  rw [hxb] at hx; cases hx
  exact ⟨(xb, bb), hm, rfl⟩

theorem rel_succ_bwd {K : Consts} {ts : TypeSystem} {c : Cas} {ci : Nat} {H : Heap} {L : List (Int × Nat)}
    {na : Int → Nat} {ci' : Nat} {hpL : Heap} (hL : LOk K ts c ci H L) (hrel : HeapRel H L na (E3 H na ci') hpL)
    {xa : Int} {a : Nat} (ha : (xa, a) ∈ L) {xb : Int} {b : Nat} (hb : (xb, b) ∈ L) {o : Obj} (ho : H[a]? = some o)
    {n : String} (hn : alistGet? o.slots n = some (.ref b)) :
    ∃ o', hpL[na xa]? = some o' ∧ alistGet? o'.slots n = some (.ref (na xb)) := by
  obtain ⟨o1, o', ho1, ho', _, _, _, hslots⟩ := hrel (xa, a) ha
  rw [show H[(xa, a).2]? = H[a]? from rfl, ho] at ho1; cases ho1
  refine ⟨o', ho', ?_⟩
  have := hslots n _ hn
  rw [this]
  show some (exp3 H na ci' (.ref b)) = _
  simp only [exp3, (hL.ids (xb, b) hb).1]

theorem mem_members {H : Heap} {nv : String × View} {m : Int} :
    m ∈ (pviewOf H nv).members ↔ ∃ e ∈ Index.all nv.2.idx, xidOf H e.oid = some m := by
  unfold pviewOf
  simp only
  rw [mem_sortInts, List.mem_filterMap]

/-- `hviews` is all that `seeds_fwd` uses of `ViewsRel`: the index of a loaded view holds the members of a written one, at
    their new addresses -/
theorem seeds_fwd_of {c c' : Cas} {H : Heap} {L : List (Int × Nat)} {na : Int → Nat}
    (hids : ∀ q ∈ L, xidOf H q.2 = some q.1 ∧ q.1 ≠ 0)
    (hmem : ∀ nv ∈ c.views, ∀ e ∈ Index.all nv.2.idx, ∃ x : Int, (x, e.oid) ∈ L)
    (hviews : ∀ nv' ∈ c'.views, ∃ nv ∈ c.views,
      ((Index.all nv'.2.idx).map (·.oid)).Perm ((pviewOf H nv).members.map na))
    {a : Nat} (ha : a ∈ defaultSeeds c') : ∃ q ∈ L, a = na q.1 ∧ q.2 ∈ defaultSeeds c := by
  obtain ⟨nv', hnv', e', he', rfl⟩ := mem_defaultSeeds_iff.mp ha
  obtain ⟨nv, hnv, hr⟩ := hviews nv' hnv'
  obtain ⟨m, hm, hna⟩ := List.mem_map.mp (hr.mem_iff.mp (List.mem_map_of_mem he'))
  obtain ⟨e0, he0, hx0⟩ := mem_members.mp hm
  obtain ⟨x, hx⟩ := hmem nv hnv e0 he0
  have := (hids _ hx).1
  rw [show ((x, e0.oid) : Int × Nat).2 = e0.oid from rfl, hx0] at this
  cases this
  exact ⟨_, hx, hna.symm, mem_defaultSeeds hnv he0⟩

theorem seeds_bwd_of {c c' : Cas} {H : Heap} {L : List (Int × Nat)} {na : Int → Nat}
    (hids : ∀ q ∈ L, xidOf H q.2 = some q.1 ∧ q.1 ≠ 0)
    (hviews : ∀ nv ∈ c.views, ∃ nv' ∈ c'.views,
      ((Index.all nv'.2.idx).map (·.oid)).Perm ((pviewOf H nv).members.map na))
    {x : Int} {a : Nat} (hx : (x, a) ∈ L) (ha : a ∈ defaultSeeds c) : na x ∈ defaultSeeds c' := by
  obtain ⟨nv, hnv, e, he, rfl⟩ := mem_defaultSeeds_iff.mp ha
  obtain ⟨nv', hnv', hr⟩ := hviews nv hnv
  obtain ⟨e', he', h⟩ := List.mem_map.mp
    (hr.mem_iff.mpr (List.mem_map.mpr ⟨x, mem_members.mpr ⟨e, he, (hids _ hx).1⟩, rfl⟩))
  exact mem_defaultSeeds_iff.mpr ⟨nv', hnv', e', he', h⟩

theorem seeds_fwd {c c' : Cas} {H : Heap} {L : List (Int × Nat)} {na : Int → Nat}
    (hids : ∀ q ∈ L, xidOf H q.2 = some q.1 ∧ q.1 ≠ 0)
    (hmem : ∀ nv ∈ c.views, ∀ e ∈ Index.all nv.2.idx, ∃ x : Int, (x, e.oid) ∈ L)
    (hviews : ViewsRel H na c c') {a : Nat} (ha : a ∈ defaultSeeds c') : ∃ q ∈ L, a = na q.1 :=
  let ⟨q, hq, e, _⟩ := seeds_fwd_of hids hmem (hviews.all2.imp_mem fun _ _ _ hr => hr.2.2.2.2.2.2.2).bwd ha
  ⟨q, hq, e⟩

theorem seeds_bwd {c c' : Cas} {H : Heap} {L : List (Int × Nat)} {na : Int → Nat}
    (hids : ∀ q ∈ L, xidOf H q.2 = some q.1 ∧ q.1 ≠ 0) (hviews : ViewsRel H na c c') {x : Int} {a : Nat}
    (hx : (x, a) ∈ L) (ha : a ∈ defaultSeeds c) : na x ∈ defaultSeeds c' :=
  seeds_bwd_of hids (hviews.all2.imp_mem fun _ _ _ hr => hr.2.2.2.2.2.2.2).fwd hx ha

theorem moved_of_flat {K : Consts} {ts : TypeSystem} {op op' : Opts} {c : Cas} {ci : Nat} {H : Heap}
    {L : List (Int × Nat)} {na : Int → Nat} {ci' : Nat} {c' : Cas} {hpL : Heap}
    (hL : LOk K ts c ci H L) (hrel : HeapRel H L na (E3 H na ci') hpL)
    (hflat : ∀ q ∈ L, FlatFs K ts c' ci' hpL (na q.1)) (lf : Nat) : Moved K ts ts op op' H lf hpL L na := by
  refine ⟨fun q hq => hrel.xid hq, fun q hq => ?_, fun xa a xb b ha hb hsucc => ?_⟩
  · obtain ⟨o', t, ps, n, ho', hty, hns, hps⟩ := nodeSuccs_flat (op := op') (hflat q hq) (hpL.length + 1)
    exact ⟨o', t, ps, n, ho', hty, hns, fun b' hb' => ((hps b').mp hb').elim fun n hn => rel_succ_fwd hL hrel hq ho' hn⟩
  · obtain ⟨o, _, ho, _⟩ := flatFs_iff.mp (hL.flat _ ha)
    obtain ⟨n, hn⟩ := (succsOf_flat (hL.flat _ ha) ho lf b).mp hsucc
    obtain ⟨o', ho', hn'⟩ := rel_succ_bwd hL hrel ha hb ho hn
    exact (succsOf_flat (hflat _ ha) ho' _ (na xb)).mpr ⟨n, hn'⟩

theorem moved_flat {K : Consts} {ts : TypeSystem} {op : Opts} {c : Cas} {ci : Nat} {H : Heap}
    {L : List (Int × Nat)} {na : Int → Nat} {ci' : Nat} {c' : Cas} {hpL : Heap}
    (hL : LOk K ts c ci H L) (hrel : HeapRel H L na (E3 H na ci') hpL)
    (hget : ∀ vn v, Cas.getViewRec c vn = some v → ∃ v', Cas.getViewRec c' vn = some v' ∧ v'.sofa.text = v.sofa.text)
    (lf : Nat) : Moved K ts ts op op H lf hpL L na :=
  moved_of_flat hL hrel (flatFs_new hL hrel hget) lf

end Cassis.Xmi

namespace Cassis.Traverse
open Cassis.TS Cassis.Xmi

theorem Moved.sorted {K : Consts} {ts ts' : TypeSystem} {o o' : Opts} {hp hp' : Heap} {na : Int → Nat} {nx nx' : Int}
    {seeds seeds' : List Nat} {st : St}
    (hnx : 0 < nx) (hfa : Traverse.findAllFs K ts o hp nx seeds = .ok st)
    (m : Moved K ts ts' o o' st.heap (hp.length + 1) hp' (sortById st.allFs) na)
    (hfwd : ∀ a ∈ seeds', ∃ q ∈ sortById st.allFs, a = na q.1)
    (hbwd : ∀ x a, (x, a) ∈ sortById st.allFs → a ∈ seeds → na x ∈ seeds') (hnx' : 0 < nx') :
    ∃ st' : St, Traverse.findAllFs K ts' o' hp' nx' seeds' = .ok st' ∧ st'.heap = hp' ∧
      st'.allFs.Perm (st.allFs.map (fun q => (q.1, na q.1))) ∧
      sortById st'.allFs = (sortById st.allFs).map (fun q => (q.1, na q.1)) := by
  obtain ⟨st', hfa', hheap, hperm⟩ := m.findAllFs_collected hnx hfa (sortById_perm_aux _) hfwd hbwd hnx'
  refine ⟨st', hfa', hheap, hperm, ?_⟩
  rw [sortById_perm_invariant _ _ hperm (findAllFs_inv K ts' o' _ _ _ st' hfa').1.nodupK]
  exact sortById_map (fun q => (q.1, na q.1)) (fun _ => rfl) _

end Cassis.Traverse

namespace Cassis.Xmi
open Cassis.TS Cassis.Traverse

theorem saveXmi_moved {K : Consts} {ts : TypeSystem} {cass cass' : List Cas} {ci ci' : Nat} {c c' : Cas} {hp hpL : Heap}
    {na : Int → Nat} {doc : XDoc} {st : St}
    (hc : cass[ci]? = some c) (hc' : cass'[ci']? = some c') (hsave : saveXmi K ts cass ci hp = .ok (doc, st))
    (hnx : 0 < c.nextXid) (hnx' : 0 < c'.nextXid)
    (m : Moved K ts ts {} {} st.heap (hp.length + 1) hpL (sortById st.allFs) na)
    (hfwd : ∀ a ∈ defaultSeeds c', ∃ q ∈ sortById st.allFs, a = na q.1)
    (hbwd : ∀ x a, (x, a) ∈ sortById st.allFs → a ∈ defaultSeeds c → na x ∈ defaultSeeds c')
    (hrender : ∀ q ∈ sortById st.allFs, renderFs K ts cass' hpL (na q.1) = renderFs K ts cass st.heap q.2)
    (hsofas : c'.views.map (fun p => renderSofa p.2.sofa) = c.views.map (fun p => renderSofa p.2.sofa))
    (hvc : c'.views.map (viewContent hpL) = c.views.map (viewContent st.heap)) :
    ∃ st' : St, saveXmi K ts cass' ci' hpL = .ok (doc, st') ∧ st'.heap = hpL ∧
      st'.allFs.Perm (st.allFs.map (fun q => (q.1, na q.1))) := by
  obtain ⟨es, hfa, hr, rfl⟩ := saveXmi_ok_inv hc hsave
  obtain ⟨st', hfa', hheap, hperm, hsort⟩ := m.sorted hnx hfa hfwd hbwd hnx'
  refine ⟨st', saveXmi_ok_iff.mpr ⟨c', es, hc', hfa', ?_, ?_⟩, hheap, hperm⟩
  · rw [hheap, hsort, renderAll_eq_mapM, List.mapM_map, ← hr, renderAll_eq_mapM]
    exact Det.mapM_congr hrender
  · rw [hheap, docOf, docOf, hsofas, renderView_map st.heap hpL _ _ hvc]

end Cassis.Xmi
