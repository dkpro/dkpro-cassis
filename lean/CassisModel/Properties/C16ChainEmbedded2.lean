/-
C16 with the JSON-embedded type system, item (3) of `Properties/C16ChainEmbedded.lean`: the chain JSON written with mode
MINIMAL → CAS loaded with NO type system supplied → XMI written and read under the REBUILT type system → CAS.

The type system `ts'` the reader rebuilds from the `%TYPES` section of a MINIMAL document is only a PART of the original
(the transitive closure of the used types, merged into a fresh type system), so it is not `SameTs` to the original and
the two type systems do not answer the XMI codec alike about EVERY name.  What holds and suffices: on a list `N` of names
that contains the type of every collected structure and `uima.cas.NULL` and is closed under supertypes and ranges of
effective features, both type systems register every name, with the same supertype and the same effective features up to
`Feature.__eq__` (`PartOn`, established by `json_minimal_ts_part` with `N` = the names a fresh type system or the written
records declare).  `is_instance_of` and `is_primitive` walk the supertype chain with a fuel that depends on the size of
the registry; for consistent type systems the fuel is irrelevant, hence the two type systems answer alike on `N`
although their registries differ in size.

Hypotheses and conclusion are those of `chain_json_xmi_full_coll` with `saveJson … .minimal`, and — as in
`chain_xmi_json_minimal_coll` — `TypeAgree` on the `%TYPE`s of the document in place of `SameTs`.  `FlagCoherent` is
needed as for FULL (the counterexample `RedefDemo` behaves the same with MINIMAL, `Properties/C16ChainEmbedded.lean`).
-/
import CassisModel.Properties.C16ChainEmbedded
import CassisModel.Proofs.ChainEmbMinimalTs
import CassisModel.Proofs.ChainEmbPartDemo

namespace Cassis
open Cassis.TS Cassis.Traverse Cassis.Xmi Cassis.Json Cassis.ChainE

/-- **the type system rebuilt from a MINIMAL document agrees with the original on `multipleReferencesAllowed` and the
    reserved flag**, for `FlagCoherent` type systems (counterpart of `json_full_ts_multi`; `hreg`: the collected
    structures have registered types not named `…[]`, as in `json_minimal_ts_agree`) -/
theorem json_minimal_ts_multi (ops : List TsOp) (hu : UserOnlyNoDoc Gen.consts ops)
    (hw : Writable Gen.consts (ops.foldl (applyOp Gen.consts) Gen.builtinTS))
    (hpc : NoPercentNames (ops.foldl (applyOp Gen.consts) Gen.builtinTS))
    (hfc : FlagCoherent Gen.consts (ops.foldl (applyOp Gen.consts) Gen.builtinTS))
    (cass : List Cas) (ci : Nat) (c : Cas) (hp : Heap) (doc : Json.JDoc) (st : St)
    (hc : cass[ci]? = some c) (harr : ∀ nv ∈ c.views, nv.2.sofa.arr = .none)
    (hsave : Json.saveJson Gen.consts (ops.foldl (applyOp Gen.consts) Gen.builtinTS) cass ci hp .minimal = .ok (doc, st))
    (hreg : ∀ q ∈ st.allFs, ∀ ob : Obj, st.heap[q.2]? = some ob →
      (find? (ops.foldl (applyOp Gen.consts) Gen.builtinTS) ob.ty).isSome = true ∧ ob.ty.endsWith "[]" = false)
    (ts' : TypeSystem) (hl : Json.loadTs Gen.consts Gen.builtinTS true doc = .ok ts') :
    MultiResAgree Gen.consts (ops.foldl (applyOp Gen.consts) Gen.builtinTS) ts' := by
  have ho := userBuilt_of_history ops hu.1 hu.2
  exact multiRes_of_recs ho hw hpc hfc (recsOk_min ho st) (saveJson_types hpc hsave rfl) hl

/-- **the composition step for a rebuilt type system that is a PART of the original** (any mode, any supplied type
    system `tsArg`, any constants): if the type system `ts'` the reader rebuilds from the `%TYPES` section answers the
    JSON reader alike on the `%TYPE`s of the document (`TypeAgree`), agrees with the original on a closed list `N` of
    names containing the types of the collected structures (`PartOn`, `TyIn`), has a feature-less `uima.cas.NULL`,
    both list each name once, and they agree on `multipleReferencesAllowed` and the reserved flag (`MultiResAgree`),
    the chain ends in the same CAS -/
theorem chain_json_xmi_embedded_coll_of_part (K : Consts) (N : List String) (ts ts' tsArg : TypeSystem) (mode : Json.Mode)
    (cass : List Cas) (ci : Nat) (c : Cas) (hp : Heap) (tsIdx : Nat) (docj : Json.JDoc) (st stx : St)
    (hc : cass[ci]? = some c) (hwf : RTWf c hp) (hnull : NullOk ts)
    (hsave : Json.saveJson K ts cass ci hp mode = .ok (docj, st))
    (hlts : Json.loadTs K tsArg true docj = .ok ts')
    (hag : ∀ j ∈ docj.fss, Json.TypeAgree ts ts' (Json.fsTypeName j))
    (hpart : PartOn N ts ts') (hN : ∀ q ∈ st.allFs, TyIn N st.heap q.2) (hnull' : NullOk ts')
    (hcons : Consistent ts) (hcons' : Consistent ts') (hmr : MultiResAgree K ts ts')
    (hcoll : ∀ q ∈ st.allFs, CollFs K ts c ci st.heap q.2)
    (hjson : ∀ q ∈ st.allFs, Json.JsonFs ts st.heap q.2)
    (harr : ∀ q ∈ st.allFs, Json.ArrElemsSome st.heap q.2)
    (hids : ∀ nv ∈ c.views, ∀ e ∈ Index.all nv.2.idx, (xidOf hp e.oid).isSome = true)
    (hdis : ∀ q ∈ st.allFs, ∀ nv ∈ c.views, q.1 ≠ nv.2.sofa.xid)
    (hmem : ∀ nv ∈ c.views, ∀ e ∈ Index.all nv.2.idx, Xmi.slot st.heap e.oid "sofa" ≠ some .none)
    (hmok : MembersOk c st.heap)
    (hx : findAllFs K ts {} st.heap c.nextXid (defaultSeeds c) = .ok stx) :
    ∃ (ld1 : Json.Loaded) (docx : XDoc) (st2 : St) (p2 : Pass1) (ld2 : Xmi.Loaded),
      Json.loadJson K tsArg tsIdx cass.length false true st.heap docj = .ok ld1 ∧ ld1.ts = ts' ∧
      saveXmi K ts' (cass ++ [ld1.cas]) cass.length ld1.heap = .ok (docx, st2) ∧
      pass1 K ts' tsIdx false docx { heap := st2.heap } = .ok p2 ∧
      loadXmi K ts' tsIdx (cass.length + 1) false st2.heap docx = .ok ld2 ∧
      ld2.cas.views.map (viewContent ld2.heap) = c.views.map (viewContent st.heap) ∧
      (∀ q ∈ stx.allFs, ∃ (a2 : Nat) (o o2 : Obj), lookupFs p2.fss q.1 = .ok a2 ∧
          st.heap[q.2]? = some o ∧ ld2.heap[a2]? = some o2 ∧ o2.ty = o.ty ∧ o2.xid = some q.1 ∧
          ∀ t : TypeRec, find? ts o.ty = some t → ∀ f ∈ allFeatures t,
            featContentC K ld2.heap a2 f = featContentC K st.heap q.2 f) :=
  have hm := multiResAgree' hmr
  chain_json_xmi_emb_core K (· ∈ N) ts ts' tsArg mode cass ci c hp tsIdx docj st stx hc hwf hsave hlts hag
    (tsLe_of_part K hpart hcons hcons' hm) (tsLe_of_part K hpart.symm hcons' hcons hm.symm) hN hnull' hcons'.nodup
    hcoll hjson harr hids hdis hmem hmok hx

/-- the same with `MultiResAgree` between the original and the rebuilt type system as a hypothesis (`hmr`) instead of
    `FlagCoherent` (counterpart of `chain_json_xmi_full_coll_partial`) -/
theorem chain_json_xmi_minimal_coll_partial (ops : List TsOp) (ts : TypeSystem)
    (hts : ts = ops.foldl (applyOp Gen.consts) Gen.builtinTS)
    (hu : UserOnlyNoDoc Gen.consts ops) (hw : Writable Gen.consts ts) (hpc : NoPercentNames ts)
    (cass : List Cas) (ci : Nat) (c : Cas) (hp : Heap) (tsIdx : Nat) (docj : Json.JDoc) (st stx : St)
    (hc : cass[ci]? = some c) (hwf : RTWf c hp) (hnull : NullOk ts)
    (hsave : Json.saveJson Gen.consts ts cass ci hp .minimal = .ok (docj, st))
    (hcoll : ∀ q ∈ st.allFs, CollFs Gen.consts ts c ci st.heap q.2)
    (hjson : ∀ q ∈ st.allFs, Json.JsonFs ts st.heap q.2)
    (harr : ∀ q ∈ st.allFs, Json.ArrElemsSome st.heap q.2)
    (hids : ∀ nv ∈ c.views, ∀ e ∈ Index.all nv.2.idx, (xidOf hp e.oid).isSome = true)
    (hdis : ∀ q ∈ st.allFs, ∀ nv ∈ c.views, q.1 ≠ nv.2.sofa.xid)
    (hmem : ∀ nv ∈ c.views, ∀ e ∈ Index.all nv.2.idx, Xmi.slot st.heap e.oid "sofa" ≠ some .none)
    (hmok : MembersOk c st.heap)
    (hx : findAllFs Gen.consts ts {} st.heap c.nextXid (defaultSeeds c) = .ok stx)
    (hmr : ∀ ts', Json.loadTs Gen.consts Gen.builtinTS true docj = .ok ts' → MultiResAgree Gen.consts ts ts') :
    ∃ (ld1 : Json.Loaded) (docx : XDoc) (st2 : St) (p2 : Pass1) (ld2 : Xmi.Loaded),
      Json.loadJson Gen.consts Gen.builtinTS tsIdx cass.length false true st.heap docj = .ok ld1 ∧
      (∀ j ∈ docj.fss, TypeAgree ts ld1.ts (fsTypeName j)) ∧
      saveXmi Gen.consts ld1.ts (cass ++ [ld1.cas]) cass.length ld1.heap = .ok (docx, st2) ∧
      pass1 Gen.consts ld1.ts tsIdx false docx { heap := st2.heap } = .ok p2 ∧
      loadXmi Gen.consts ld1.ts tsIdx (cass.length + 1) false st2.heap docx = .ok ld2 ∧
      ld2.cas.views.map (viewContent ld2.heap) = c.views.map (viewContent st.heap) ∧
      (∀ q ∈ stx.allFs, ∃ (a2 : Nat) (o o2 : Obj), lookupFs p2.fss q.1 = .ok a2 ∧
          st.heap[q.2]? = some o ∧ ld2.heap[a2]? = some o2 ∧ o2.ty = o.ty ∧ o2.xid = some q.1 ∧
          ∀ t : TypeRec, find? ts o.ty = some t → ∀ f ∈ allFeatures t,
            featContentC Gen.consts ld2.heap a2 f = featContentC Gen.consts st.heap q.2 f) := by
  subst hts
  obtain ⟨ts', N, hlts, hcons, hcons', hag, hpart, hN, hnN⟩ :=
    json_minimal_ts_part ops hu hw hpc cass ci c hp docj st hc (fun nv hnv => (hwf.text_sofa nv hnv).1) hsave
      (fun q hq => reg_of_collFs (hcoll q hq) (hjson q hq))
  -- `cas:NULL` has no features in the rebuilt type system either
  obtain ⟨ld1, docx, st2, p2, ld2, h1, h2, h3, h4, h5, h6, h7⟩ :=
    chain_json_xmi_embedded_coll_of_part Gen.consts N _ ts' Gen.builtinTS .minimal cass ci c hp tsIdx docj st stx hc hwf
      hnull hsave hlts hag hpart hN (nullOk_of_keys (keysOn_of_part hpart) hnN hnull) hcons hcons' (hmr ts' hlts) hcoll hjson harr hids
      hdis hmem hmok hx
  rw [← h2] at h3 h4 h5 hag
  exact ⟨ld1, docx, st2, p2, ld2, h1, hag, h3, h4, h5, h6, h7⟩

/-- **JSON (MINIMAL) → CAS without a type system → XMI written and read under the REBUILT type system (`ld1.ts`) → CAS.**
    Hypotheses: those of `chain_json_xmi_full_coll` with `saveJson … .minimal` (about the CAS those of
    `chain_json_xmi_coll`; the type system API-built, `Writable`, `NoPercentNames`, `FlagCoherent`).  Conclusion as
    `chain_json_xmi_full_coll`, with `TypeAgree` on the `%TYPE`s of the document in place of `SameTs` (the rebuilt type
    system is only a part of the original). -/
theorem chain_json_xmi_minimal_coll (ops : List TsOp) (ts : TypeSystem)
    (hts : ts = ops.foldl (applyOp Gen.consts) Gen.builtinTS)
    (hu : UserOnlyNoDoc Gen.consts ops) (hw : Writable Gen.consts ts) (hpc : NoPercentNames ts)
    (hfc : FlagCoherent Gen.consts ts)
    (cass : List Cas) (ci : Nat) (c : Cas) (hp : Heap) (tsIdx : Nat) (docj : Json.JDoc) (st stx : St)
    (hc : cass[ci]? = some c) (hwf : RTWf c hp) (hnull : NullOk ts)
    (hsave : Json.saveJson Gen.consts ts cass ci hp .minimal = .ok (docj, st))
    (hcoll : ∀ q ∈ st.allFs, CollFs Gen.consts ts c ci st.heap q.2)
    (hjson : ∀ q ∈ st.allFs, Json.JsonFs ts st.heap q.2)
    (harr : ∀ q ∈ st.allFs, Json.ArrElemsSome st.heap q.2)
    (hids : ∀ nv ∈ c.views, ∀ e ∈ Index.all nv.2.idx, (xidOf hp e.oid).isSome = true)
    (hdis : ∀ q ∈ st.allFs, ∀ nv ∈ c.views, q.1 ≠ nv.2.sofa.xid)
    (hmem : ∀ nv ∈ c.views, ∀ e ∈ Index.all nv.2.idx, Xmi.slot st.heap e.oid "sofa" ≠ some .none)
    (hmok : MembersOk c st.heap)
    (hx : findAllFs Gen.consts ts {} st.heap c.nextXid (defaultSeeds c) = .ok stx) :
    ∃ (ld1 : Json.Loaded) (docx : XDoc) (st2 : St) (p2 : Pass1) (ld2 : Xmi.Loaded),
      Json.loadJson Gen.consts Gen.builtinTS tsIdx cass.length false true st.heap docj = .ok ld1 ∧
      (∀ j ∈ docj.fss, TypeAgree ts ld1.ts (fsTypeName j)) ∧
      saveXmi Gen.consts ld1.ts (cass ++ [ld1.cas]) cass.length ld1.heap = .ok (docx, st2) ∧
      pass1 Gen.consts ld1.ts tsIdx false docx { heap := st2.heap } = .ok p2 ∧
      loadXmi Gen.consts ld1.ts tsIdx (cass.length + 1) false st2.heap docx = .ok ld2 ∧
      ld2.cas.views.map (viewContent ld2.heap) = c.views.map (viewContent st.heap) ∧
      (∀ q ∈ stx.allFs, ∃ (a2 : Nat) (o o2 : Obj), lookupFs p2.fss q.1 = .ok a2 ∧
          st.heap[q.2]? = some o ∧ ld2.heap[a2]? = some o2 ∧ o2.ty = o.ty ∧ o2.xid = some q.1 ∧
          ∀ t : TypeRec, find? ts o.ty = some t → ∀ f ∈ allFeatures t,
            featContentC Gen.consts ld2.heap a2 f = featContentC Gen.consts st.heap q.2 f) :=
  chain_json_xmi_minimal_coll_partial ops ts hts hu hw hpc cass ci c hp tsIdx docj st stx hc hwf hnull hsave hcoll hjson
    harr hids hdis hmem hmok hx
    (fun ts' hl => by
      subst hts
      exact json_minimal_ts_multi ops hu hw hpc hfc cass ci c hp docj st hc (fun nv hnv => (hwf.text_sofa nv hnv).1)
        hsave (fun q hq => reg_of_collFs (hcoll q hq) (hjson q hq)) ts' hl)

/-! ### Evaluation and non-vacuity -/

-- the chain with MINIMAL on the demo instances: no difference, the same numbers of structures
/-- info: "ok [] json=5 stx=4 xmi=4" -/
#guard_msgs in
#eval showDiffsN (chainDiffsJXEmb Gen.consts EmbDemo.embTsC [EmbDemo.cas] 0 EmbDemo.hpC 0 .minimal false)

-- `CollDemo` (every collection kind, inlined and shared): FULL and MINIMAL
#eval (showDiffsN (chainDiffsJXEmb Cassis.Xmi.CollDemo.K Cassis.Xmi.CollDemo.ts [Cassis.Xmi.CollDemo.cas] 0 Cassis.Xmi.CollDemo.hp 0 .full false),
  showDiffsN (chainDiffsJXEmb Cassis.Xmi.CollDemo.K Cassis.Xmi.CollDemo.ts [Cassis.Xmi.CollDemo.cas] 0 Cassis.Xmi.CollDemo.hp 0 .minimal false))

/-- `chain_json_xmi_minimal_coll` applied to the instance `EmbDemo` with collections (see
    `Properties/C16ChainEmbedded.lean`): every hypothesis holds (`EmbDemo.chainJX_applies` for the CAS,
    `EmbDemo.flagCoherent` for the type system, both evaluated by the kernel), hence the chain with the type system
    rebuilt from the MINIMAL document succeeds and ends with the same views -/
example : ∃ (docj : Json.JDoc) (st : St) (ld1 : Json.Loaded) (docx : XDoc) (st2 : St) (ld2 : Xmi.Loaded),
    Json.saveJson Gen.consts EmbDemo.embTsC [EmbDemo.cas] 0 EmbDemo.hpC .minimal = .ok (docj, st) ∧
    Json.loadJson Gen.consts Gen.builtinTS 0 1 false true st.heap docj = .ok ld1 ∧
    saveXmi Gen.consts ld1.ts ([EmbDemo.cas] ++ [ld1.cas]) 1 ld1.heap = .ok (docx, st2) ∧
    loadXmi Gen.consts ld1.ts 0 2 false st2.heap docx = .ok ld2 ∧
    ld2.cas.views.map (viewContent ld2.heap) = EmbDemo.cas.views.map (viewContent st.heap) := by
  obtain ⟨c, docj0, st, stx, hc, hs0, hx, hwf, hn, hf, hj, ha, hi, hd, hm, hmo⟩ :=
    Json.chainJXAppliesB_hyps _ _ _ _ _ EmbDemo.chainJX_applies
  obtain rfl : EmbDemo.cas = c := Option.some.inj hc
  obtain ⟨docj, hs, _, _⟩ :=
    Json.saveJson_mode_fss Gen.consts EmbDemo.embTsC EmbDemo.noPct_coll [EmbDemo.cas] 0 EmbDemo.hpC .none .minimal docj0 st hs0
  obtain ⟨ld1, docx, st2, _, ld2, h1, _, h2, _, h3, h4, _⟩ :=
    chain_json_xmi_minimal_coll EmbDemo.embOpsC EmbDemo.embTsC EmbDemo.embTsC_eq.symm
      EmbDemo.hist_coll EmbDemo.writable_coll EmbDemo.noPct_coll EmbDemo.flagCoherent
      [EmbDemo.cas] 0 EmbDemo.cas EmbDemo.hpC 0 docj st stx hc hwf hn hs hf hj ha hi hd hm hmo hx
  exact ⟨docj, st, ld1, docx, st2, ld2, hs, h1, h2, h3, h4⟩

/-- `chain_json_xmi_minimal_coll` applied to the instance `PartDemo` (`Proofs/InstancesEmb.lean`, facts in
    `Proofs/ChainEmbPartDemo.lean`): the type system of `EmbDemo` plus two types `x.U`, `x.V` the CAS does not use — the
    type system rebuilt from the MINIMAL document is STRICTLY a part of the original (it registers neither `x.U` nor
    `x.V`: evaluated there).  Every hypothesis is evaluated by the kernel. -/
example : ∃ (docj : Json.JDoc) (st : St) (ld1 : Json.Loaded) (docx : XDoc) (st2 : St) (ld2 : Xmi.Loaded),
    Json.saveJson Gen.consts PartDemo.ts [EmbDemo.cas] 0 EmbDemo.hpC .minimal = .ok (docj, st) ∧
    Json.loadJson Gen.consts Gen.builtinTS 0 1 false true st.heap docj = .ok ld1 ∧
    saveXmi Gen.consts ld1.ts ([EmbDemo.cas] ++ [ld1.cas]) 1 ld1.heap = .ok (docx, st2) ∧
    loadXmi Gen.consts ld1.ts 0 2 false st2.heap docx = .ok ld2 ∧
    ld2.cas.views.map (viewContent ld2.heap) = EmbDemo.cas.views.map (viewContent st.heap) := by
  obtain ⟨c, docj0, st, stx, hc, hs0, hx, hwf, hn, hf, hj, ha, hi, hd, hm, hmo⟩ :=
    Json.chainJXAppliesB_hyps _ _ _ _ _ PartDemo.chainJX_applies
  obtain rfl : EmbDemo.cas = c := Option.some.inj hc
  obtain ⟨docj, hs, _, _⟩ :=
    Json.saveJson_mode_fss Gen.consts PartDemo.ts PartDemo.noPct [EmbDemo.cas] 0 EmbDemo.hpC .none .minimal docj0 st hs0
  obtain ⟨ld1, docx, st2, _, ld2, h1, _, h2, _, h3, h4, _⟩ :=
    chain_json_xmi_minimal_coll PartDemo.ops PartDemo.ts PartDemo.ts_eq.symm
      ⟨PartDemo.userOnly, PartDemo.noDoc⟩ PartDemo.writable PartDemo.noPct PartDemo.flagCoherent
      [EmbDemo.cas] 0 EmbDemo.cas EmbDemo.hpC 0 docj st stx hc hwf hn hs hf hj ha hi hd hm hmo hx
  exact ⟨docj, st, ld1, docx, st2, ld2, hs, h1, h2, h3, h4⟩

#print axioms json_minimal_ts_multi
#print axioms chain_json_xmi_embedded_coll_of_part
#print axioms chain_json_xmi_minimal_coll
#print axioms chain_json_xmi_minimal_coll_partial

end Cassis
