/-
Self-merge (`Properties/C13Self.lean`): the declaration list of an API-built type system (`Hist`,
`Proofs/ApiHistory.lean`), the comparison of a part of the original that covers it with the original (`same_of`), and
`merge_same_of_decls`: the declarations of the original are declarations it makes too, none of them movable, so the
replay of the order proof (`Proofs/MergePermReplay.lean`) runs them inside the original in whatever order they come.
-/
import CassisModel.Proofs.MergePermReplay
import CassisModel.Properties.C10
import CassisModel.Properties.C11

namespace Cassis.TS

def mkDecl (t : TypeRec) : Decl :=
  { name := t.name, super := t.super.getD "", descr := t.descr, own := t.own }

theorem declsOf_eq (K : Consts) (ts : TypeSystem) :
    declsOf K ts = (ts.types.filter (fun t => !(K.predefined.contains t.name))).map mkDecl := by
  simp [declsOf, getTypes, mkDecl]

theorem mem_declsOf {K : Consts} {ts : TypeSystem} {d : Decl} (h : d ∈ declsOf K ts) :
    ∃ t ∈ ts.types, K.predefined.contains t.name = false ∧ d = mkDecl t := by
  rw [declsOf_eq] at h
  obtain ⟨t, ht, e⟩ := List.mem_map.mp h
  obtain ⟨h1, h2⟩ := List.mem_filter.mp ht
  exact ⟨t, h1, by simpa using h2, e.symm⟩

theorem declsOf_mem {K : Consts} {ts : TypeSystem} {t : TypeRec} (ht : t ∈ ts.types)
    (hp : K.predefined.contains t.name = false) : mkDecl t ∈ declsOf K ts := by
  rw [declsOf_eq]
  exact List.mem_map.mpr ⟨t, List.mem_filter.mpr ⟨ht, by rw [hp]; rfl⟩, rfl⟩

theorem declsOf_ok {a o : TypeSystem} (ha : Hist a) (hg : Grow Gen.consts a o) :
    ∀ d ∈ declsOf Gen.consts a, DeclOk Gen.consts o d := by
  intro d hd
  obtain ⟨t, ht, hp, rfl⟩ := mem_declsOf hd
  obtain ⟨s, hs, hnf⟩ := ha.nofinal t ht hp
  obtain ⟨t', ht', hs', hd', ho', _⟩ := hg t.name t (find?_of_mem ha.cons.nodup ht)
  have hds : (mkDecl t).super = s := by simp [mkDecl, hs]
  refine ⟨⟨t', ht', ?_, hd'⟩, ⟨t', ht', fun f hf => ⟨f, List.mem_append_left _ (ho' f hf), featureEq_refl f⟩⟩,
    ?_, hp⟩
  · rw [hs', hs, hds]
  · rw [hds]; exact hnf

theorem sub_builtin {o : TypeSystem} (ho : Hist o) : Sub o Gen.builtinTS := by
  intro n tb hn
  obtain ⟨t', ht', hs', hd', _⟩ := ho.grow n tb hn
  refine ⟨t', ht', hs', hd', ?_, ?_⟩
  · intro g hg
    obtain ⟨t'', ht'', hsub⟩ := grow_cov ho.grow hn
    rw [ht'] at ht''; cases ht''
    exact ⟨g, hsub g hg, featureEq_refl g⟩
  · intro c hc
    obtain ⟨tc, htc, hsc⟩ := (consistent_builtins.1.link n c).mp ⟨tb, hn, hc⟩
    obtain ⟨tc', htc', hsc', _⟩ := ho.grow c tc htc
    exact ⟨tc', htc', by rw [hsc', hsc]⟩

theorem eff_cover_on {o m : TypeSystem} (hco : Consistent o) (hfo : FeatInv o) (hfm : FeatInv m) (hs : Sub o m)
    {N : String → Prop}
    (hsup : ∀ n t s, N n → find? o n = some t → t.super = some s → N s)
    (hown : ∀ n t, N n → find? o n = some t →
      ∃ tm, find? m n = some tm ∧ ∀ f ∈ t.own, ∃ g ∈ eff tm, featureEq g f = true) :
    ∀ n t, N n → find? o n = some t →
      ∃ tm, find? m n = some tm ∧ ∀ f ∈ eff t, ∃ g ∈ eff tm, featureEq g f = true := by
  suffices h : ∀ n, hasExact o n = true → N n → ∀ t, find? o n = some t →
      ∃ tm, find? m n = some tm ∧ ∀ f ∈ eff t, ∃ g ∈ eff tm, featureEq g f = true from
    fun n t hn ht => h n ((hasExact_iff_find o n).mpr ⟨t, ht⟩) hn t ht
  refine hco.rec_up fun n t hfi ih hn t' ht' => ?_
  rw [hfi] at ht'; cases ht'
  have ht : t ∈ o.types := find?_mem hfi
  obtain ⟨tm, htm, hownc⟩ := hown _ _ hn hfi
  refine ⟨tm, htm, ?_⟩
  intro f hf
  rcases List.mem_append.mp hf with hf | hf
  · exact hownc f hf
  · cases hsupi : t.super with
    | none => rw [hfo.rootInh _ ht hsupi] at hf; cases hf
    | some s =>
      obtain ⟨ps, hps⟩ := (hasExact_iff_find o s).mp (hco.superReg t ht s hsupi)
      obtain ⟨pm, hpm, hpcov⟩ := ih s hsupi (hsup _ _ _ hn hfi hsupi) ps hps
      -- the feature comes from the supertype in `o` …
      have hn1 : f.name ∈ fnames ps.own ∨ f.name ∈ fnames ps.inh :=
        (hfo.inherit' ht hsupi hps f.name).mp (mem_fnames_of_mem hf)
      rw [← List.mem_append, ← fnames_append] at hn1
      obtain ⟨f1, hf1, hf1n⟩ := mem_fnames.mp hn1
      have hf1f : featureEq f1 f = true := hfo.inheritEq' ht hsupi hps f hf f1 hf1 hf1n
      obtain ⟨g1, hg1, hg1f⟩ := hpcov f1 hf1
      -- … and is inherited in `m`
      obtain ⟨to, hto, hr⟩ := hs _ tm htm
      rw [hfi] at hto; cases hto
      have hsm : tm.super = some s := by rw [← hr.super]; exact hsupi
      have htmm : tm ∈ m.types := find?_mem htm
      have hn2 : g1.name ∈ fnames tm.inh := by
        rw [hfm.inherit' htmm hsm hpm, ← List.mem_append, ← fnames_append]
        exact mem_fnames_of_mem hg1
      obtain ⟨g2, hg2, hg2n⟩ := mem_fnames.mp hn2
      have h12 : featureEq g1 g2 = true := hfm.inheritEq' htmm hsm hpm g2 hg2 g1 hg1 hg2n.symm
      exact ⟨g2, List.mem_append_right _ hg2,
        featureEq_trans (featureEq_symm h12) (featureEq_trans hg1f hf1f)⟩

theorem same_of (o m : TypeSystem) (ho : Hist o) (hcm : Consistent m) (hfm : FeatInv m) (hs : Sub o m)
    {X : String → Prop} (hg : SubP m X Gen.builtinTS)
    (hcv : ∀ t ∈ o.types, Gen.consts.predefined.contains t.name = false →
      ∃ t', find? m t.name = some t' ∧ ∀ f ∈ t.own, ∃ g ∈ eff t', featureEq g f = true) : SameTs o m := by
  have cover : ∀ n t, find? o n = some t → ∃ tm, find? m n = some tm ∧
      ∀ f ∈ eff t, ∃ g ∈ eff tm, featureEq g f = true := by
    intro n t hn
    refine eff_cover_on ho.cons ho.feat hfm hs (N := fun _ => True) (fun _ _ _ _ _ _ => trivial) ?_ n t trivial hn
    intro n t _ hnt
    have ht := find?_mem hnt
    have hname := find?_name hnt
    cases hp : Gen.consts.predefined.contains t.name with
    | false => rw [← hname]; exact hcv t ht hp
    | true =>
      obtain ⟨tb, htb⟩ := (hasExact_iff_find _ _).mp (builtin_pre _ hp)
      obtain ⟨to, hto, _, _, _, _, hown⟩ := ho.grow t.name tb htb
      rw [find?_of_mem ho.cons.nodup ht] at hto
      cases hto
      obtain ⟨tm, htm, hr⟩ := hg t.name tb htb
      rw [← hname]
      exact ⟨tm, htm, fun f hf => hr.feats f (List.mem_append_left _ (by rw [← hown hp]; exact hf))⟩
  intro n
  cases h1 : find? o n with
  | none =>
    cases h2 : find? m n with
    | none => trivial
    | some t' =>
      obtain ⟨to, hto, _⟩ := hs n t' h2
      rw [h1] at hto; cases hto
  | some t =>
    obtain ⟨tm, htm, hcov⟩ := cover n t h1
    rw [htm]
    show SameDecl t tm
    obtain ⟨to, hto, hr⟩ := hs n tm htm
    rw [h1] at hto; cases hto
    refine ⟨by rw [find?_name htm, find?_name h1], hr.super.symm, hr.descr.symm, ?_,
      keys_perm_of_cover t tm hcov hr.feats⟩
    rw [List.perm_ext_iff_of_nodup (hcm.childNodup tm (find?_mem htm)) (ho.cons.childNodup t (find?_mem h1))]
    intro c
    constructor
    · intro hc
      obtain ⟨tc, htc, hsc⟩ := hr.kids c hc
      obtain ⟨ta, hta, hm⟩ := (ho.cons.link n c).mpr ⟨tc, htc, hsc⟩
      rw [h1] at hta; cases hta; exact hm
    · intro hc
      obtain ⟨tc, htc, hsc⟩ := (ho.cons.link n c).mp ⟨t, h1, hc⟩
      obtain ⟨tcm, htcm, _⟩ := cover c tc htc
      obtain ⟨tc', htc', hrc⟩ := hs c tcm htcm
      rw [htc] at htc'; cases htc'
      obtain ⟨ta, hta, hm⟩ := (hcm.link n c).mpr ⟨tcm, htcm, by rw [← hrc.super]; exact hsc⟩
      rw [htm] at hta; cases hta; exact hm

/-! ### Descriptions along a run -/

theorem descr_reparent {ts ts' : TypeSystem} {name oldSup newSup : String} (hn : (ts.types.map (·.name)).Nodup)
    (h : reparent ts name oldSup newSup = .ok ts') (x : String) :
    (find? ts' x).map (·.descr) = (find? ts x).map (·.descr) := by
  obtain ⟨_, ns, _, hi⟩ := reparent_ok ts ts' name oldSup newSup h
  rw [frame_descr.inheritFrom name _ _ ts' (fun _ _ => trivial) hi x, find?_relink ts name oldSup newSup x hn]
  cases find? ts x with
  | none => rfl
  | some t =>
    obtain ⟨cs, e⟩ := relinkRec_eq name oldSup newSup t
    simp only [Option.map_some]
    rw [e]

/-- every description in the merged type system is the base's or a declared one (sibling of `TreeInv.edge`) -/
def DescrFrom (base : TypeSystem) (decls : List Decl) (ts : TypeSystem) : Prop :=
  ∀ x t, find? ts x = some t → (∃ tb, find? base x = some tb ∧ t.descr = tb.descr) ∨
    ∃ d ∈ decls, d.name = x ∧ t.descr = d.descr

theorem DescrFrom.of_eq {base : TypeSystem} {decls : List Decl} {ts ts' : TypeSystem} (hD : DescrFrom base decls ts)
    (h : ∀ x, (find? ts' x).map (·.descr) = (find? ts x).map (·.descr)) : DescrFrom base decls ts' := by
  intro x t' hx
  have := h x
  rw [hx] at this
  cases hm : find? ts x with
  | none => rw [hm] at this; cases this
  | some t =>
    rw [hm] at this
    have e : t'.descr = t.descr := Option.some.inj this
    rw [e]
    exact hD x t hm

theorem descrFrom_processDecl {K : Consts} {base : TypeSystem} {decls : List Decl} {d : Decl} (hd : d ∈ decls)
    {s s' : MState} (hc : Consistent s.ts) (hf : FeatInv s.ts) (hD : DescrFrom base decls s.ts)
    (h : processDecl K s d = .ok s') : DescrFrom base decls s'.ts := by
  obtain ⟨ts1, h1, h2, _⟩ := processDecl_ok_iff.mp h
  refine DescrFrom.of_eq ?_ (frame_descr.addOwnFeatures _ _ _ _ (fun _ _ => trivial) h2)
  rcases declSuper_cases h1 with ⟨hx, hct⟩ | ⟨ex, he, ⟨_, rfl⟩ | ⟨_, _, hr⟩ | ⟨_, _, _, rfl⟩⟩
  · obtain ⟨sup, _, _, _, C⟩ := createType_created K _ _ _ _ _ hc hf hx hct
    intro x t' hx'
    obtain ⟨e, rfl⟩ | ⟨_, t0, hfx, rfl⟩ := C.cases hx'
    · exact Or.inr ⟨d, hd, e.symm, rfl⟩
    · rw [upd_descr]; exact hD x t0 hfx
  · exact hD
  · exact hD.of_eq (descr_reparent hc.nodup hr)
  · exact hD

/-! ### Merging declarations that `o` makes too -/

theorem replayOk_of_declOk {K : Consts} {base o : TypeSystem} {d : Decl} (hco : Consistent o) (h : DeclOk K o d) :
    ReplayOk K base o (fun _ => False) d := by
  obtain ⟨t, ht, hs, _⟩ := h.ex
  have hreg : hasExact o d.super = true := hco.superReg t (find?_mem ht) _ hs
  refine ⟨⟨h.cov, Anc.step _ _ _ t ht hs (Anc.refl _ hreg)⟩, ?_, fun _ t' ht' => ?_, fun _ => h.nonfinal, h.user,
    fun h => h.elim⟩
  · intro e
    apply not_anc_of_super hco ht hs
    rw [← e]; exact Anc.refl _ hreg
  · rw [ht] at ht'; cases ht'; exact hs

/-- merging any declarations that `o` makes too (no movable name), in any order and with any repetitions, as long as
    every user type of `o` is among them, reproduces `o`: every order replays inside `o`; a successful run covers what
    it was given, so `o` is inside the result -/
theorem merge_same_of_decls (o : TypeSystem) (ho : Hist o) (decls : List Decl)
    (hok : ∀ d ∈ decls, DeclOk Gen.consts o d)
    (hown : ∀ t ∈ o.types, Gen.consts.predefined.contains t.name = false → mkDecl t ∈ decls) :
    ∃ m, mergeDecls Gen.consts Gen.builtinTS decls = .ok m ∧ SameTs o m := by
  have hrok : ∀ d ∈ decls, ReplayOk Gen.consts Gen.builtinTS o (fun _ => False) d :=
    fun d hd => replayOk_of_declOk ho.cons (hok d hd)
  have huser : ∀ d ∈ decls, Gen.consts.predefined.contains d.name = false := fun d hd => (hok d hd).user
  have hcb := consistent_builtins.1
  have hfb := featInv_builtins.1
  have hinit : RunInv Gen.consts Gen.builtinTS decls (fun _ => False) { ts := Gen.builtinTS, merged := [] } := by
    refine init_runInv huser fun d hd _ tb htb => ?_
    obtain ⟨t, ht, hs, _⟩ := (hok d hd).ex
    obtain ⟨t', ht', hs', _⟩ := ho.grow d.name tb htb
    rw [ht] at ht'; cases ht'
    exact hs' ▸ hs
  -- the declarations are closed, and the position in `o` is a rank
  have hterm : mergeDecls Gen.consts Gen.builtinTS decls ≠ .error .outOfFuel := by
    refine merge_terminates_aux _ _ _ ?_ ⟨fun n => (o.types.map (·.name)).idxOf n, ?_⟩
    · intro d hd
      obtain ⟨t, ht, hs, _⟩ := (hok d hd).ex
      cases hp : Gen.consts.predefined.contains d.super with
      | true => exact Or.inl rfl
      | false =>
        obtain ⟨ts', hts'⟩ := (hasExact_iff_find o d.super).mp (ho.cons.superReg t (find?_mem ht) _ hs)
        exact Or.inr (List.mem_map.mpr ⟨mkDecl ts', hown ts' (find?_mem hts') (by rw [find?_name hts']; exact hp),
          find?_name hts'⟩)
    · intro d hd _
      obtain ⟨t, ht, hs, _⟩ := (hok d hd).ex
      exact find?_name ht ▸ rank_lt ho.cons (find?_mem ht) hs
  obtain ⟨s', hm, hi'⟩ := mergeDecls_replay ho.feat ho.cons builtin_pre top_predefined
    (fun _ _ _ _ _ _ h => h.elim) hrok (fun d hd => hd) ⟨hinit, SubP.of_grow hcb ho.grow⟩ hterm
  obtain ⟨s'', hloop, hts⟩ := mergeDecls_ok _ _ _ _ hm
  obtain ⟨_, hbase, hdone⟩ := mergeLoop_run builtin_pre top_predefined (.of_replayOk hrok) huser
    (fun d hd => hd) _ _ s'' hinit hloop
  have hcm := hi'.run.tree.cons
  have hD : DescrFrom Gen.builtinTS decls s'.ts :=
    (mergeDecls_inv (fun ts => (Consistent ts ∧ FeatInv ts) ∧ DescrFrom Gen.builtinTS decls ts)
      (fun d hd s s' ⟨hi, hD⟩ h => ⟨inv_processDecl _ s s' d hi h, descrFrom_processDecl hd hi.1 hi.2 hD h⟩)
      ⟨⟨hcb, hfb⟩, fun x t ht => Or.inl ⟨t, ht, rfl⟩⟩ hm).2
  refine ⟨s'.ts, hm, same_of o s'.ts ho hcm hi'.run.tree.feat (Sub.ofP hcm hi'.sub ?_) (hts ▸ hbase :) ?_⟩
  · intro x tm to hx hto
    rcases hD x tm hx with ⟨tb, htb, e⟩ | ⟨d, hd, hn, e⟩
    · obtain ⟨t', ht', _, hd', _⟩ := ho.grow x tb htb
      rw [hto] at ht'; cases ht'
      rw [e, hd']
    · obtain ⟨t, ht, _, hd'⟩ := (hok d hd).ex
      rw [hn, hto] at ht; cases ht
      rw [e, hd']
  · intro t ht hp
    exact hts ▸ (hdone _ (hown t ht hp)).1

/-- merging a type system with any of its own earlier stages (each grown into it) reproduces it -/
theorem merge_same_of_stages (o : TypeSystem) (ho : Hist o) (inputs : List TypeSystem)
    (hhist : ∀ a ∈ inputs, Hist a ∧ Grow Gen.consts a o) (hmem : o ∈ inputs) :
    ∃ m, merge Gen.consts Gen.builtinTS inputs = .ok m ∧ SameTs o m := by
  refine merge_same_of_decls o ho _ ?_ (fun t ht hp => List.mem_flatMap.mpr ⟨o, hmem, declsOf_mem ht hp⟩)
  intro d hd
  obtain ⟨a, ha, hda⟩ := List.mem_flatMap.mp hd
  exact declsOf_ok (hhist a ha).1 (hhist a ha).2 d hda

/-- the stages of C13: the type system itself and the fresh (built-in) one -/
theorem merge_same_of (o : TypeSystem) (ho : Hist o) (inputs : List TypeSystem)
    (hin : ∀ a ∈ inputs, a = o ∨ a = Gen.builtinTS) (hmem : o ∈ inputs) :
    ∃ m, merge Gen.consts Gen.builtinTS inputs = .ok m ∧ SameTs o m :=
  merge_same_of_stages o ho inputs (fun a ha => by
    rcases hin a ha with rfl | rfl
    · exact ⟨ho, Grow.refl _ _⟩
    · exact ⟨hist_builtin, ho.grow⟩) hmem

end Cassis.TS
