/-
Interface statements between the layers of the proof of the XMI round trip with collections, as `Prop`-valued
definitions.  The loops over the document (`RoundTripCollAsm.lean`) take `Elem1Stmt` / `Post2Stmt` as hypotheses, for any
kind `P` of structure; `coll_elem1` and `coll_post_of_lookup` prove them for the fragment.  `PostInlineStmt` is the
statement of `postInline`.
-/
import CassisModel.Proofs.RoundTripCollDefs
import CassisModel.Proofs.RoundTripPass2

namespace Cassis.Xmi
open Cassis.TS Cassis.Traverse

/-- the id of the structure at `b` is in the id table of the reader, at its new address -/
def Resolves (H : Heap) (fss : List (Int × Nat)) (na : Int → Nat) (b : Nat) : Prop :=
  ∃ x : Int, xidOf H b = some x ∧ lookupFs fss x = .ok (na x)

/-- `hpY` is `hpX` with new objects without id appended and then slot `n` of the object at `a` set to `w` -/
def StepX (hpX hpY : Heap) (a : Nat) (n : String) (w : Val) : Prop :=
  ∃ t : List Obj, (∀ ob ∈ t, ob.xid = none) ∧ Step (hpX ++ t) hpY a n w

/-- first pass on one collected structure of kind `P` (`GenFs …`, `ArrFs …`, `CollFs …`): the element the writer
    produces, and what `parseFsElem` makes of it on any heap: some objects without id (`ext`), then the object -/
def Elem1Stmt (K : Consts) (ts : TypeSystem) (cass : List Cas) (H : Heap) (tsIdx : Nat) (P : Nat → Prop) : Prop :=
  ∀ (a : Nat) (x : Int), P a → xidOf H a = some x →
    ∃ (o : Obj) (e : XElem), H[a]? = some o ∧ renderFs K ts cass H a = .ok e ∧ e.ty ≠ SOFA ∧ e.ty ≠ VIEW_T ∧
      ∀ hpCur : Heap, ∃ (ext : List Obj) (o1 : Obj),
        parseFsElem K ts tsIdx hpCur e = .ok (hpCur ++ ext ++ [o1], x, (hpCur ++ ext).length) ∧
        (∀ ob ∈ ext, ob.xid = none) ∧ Obj1 K ts cass H (hpCur ++ ext ++ [o1]) o o1 x

/-- second pass on one collected structure of kind `P` -/
def Post2Stmt (K : Consts) (ts : TypeSystem) (cass : List Cas) (H : Heap) (L : List (Int × Nat)) (na : Int → Nat)
    (tsIdx ci' : Nat) (sofas : List (Int × PSofa)) (fss : List (Int × Nat)) (P : Nat → Prop) : Prop :=
  ∀ q ∈ L, P q.2 → ∀ (hpX : Heap) (o o1 : Obj), H[q.2]? = some o → hpX[na q.1]? = some o1 →
    Obj1 K ts cass H hpX o o1 q.1 →
    ∃ (t : TypeRec) (hpY : Heap), getType ts o1.ty = .ok t ∧
      postFeatures K ts tsIdx ci' sofas fss (na q.1) o1.ty (isInstanceOf ts o1.ty STRING_ARRAY) (allFeatures t) hpX
        = .ok hpY ∧
      Ext hpX hpY (na q.1) ∧ ∃ o2 : Obj, hpY[na q.1]? = some o2 ∧ Obj2 K ts cass H na ci' hpY o o2 q.1

/-- second pass on one inlined collection feature of a general structure (the object `o` at `a` in `H`, its
    counterpart `o'` at `a'` in `hpX`) -/
def PostInlineStmt (K : Consts) (ts : TypeSystem) (cass : List Cas) (H : Heap) (na : Int → Nat)
    (tsIdx ci' : Nat) (sofas : List (Int × PSofa)) (fss : List (Int × Nat)) (Q : Feature → Prop) : Prop :=
  ∀ (a : Nat) (o : Obj) (t : TypeRec) (f : Feature), H[a]? = some o → find? ts o.ty = some t → f ∈ allFeatures t →
    (ctorFields t).Nodup → NameOk f → InlineFeat K ts H o f → Q f →
    isPrimitiveArray K o.ty = false → o.ty ≠ FS_ARRAY →
    (∀ b, Target K ts H a b → Resolves H fss na b) →
    ∀ (hpX : Heap) (a' : Nat) (o' : Obj), hpX[a']? = some o' → o'.xid ≠ none →
    ∀ (v w : Val), alistGet? o.slots f.name = some v → alistGet? o'.slots f.name = some w →
      Slot1 K ts cass H hpX o f.name v w →
      ∃ (hpY : Heap) (w' : Val), postFeature K ts tsIdx ci' sofas fss hpX a' o.ty false f = .ok hpY ∧
        StepX hpX hpY a' f.name w' ∧ Slot2 K ts cass H na ci' hpY o f.name v w'

/-- the ranges of inlined arrays / of inlined lists -/
def ArrRange (f : Feature) : Prop := PrimArrTy f.range ∨ f.range = STRING_ARRAY ∨ f.range = FS_ARRAY
def ListRange (f : Feature) : Prop :=
  f.range = INTEGER_LIST ∨ f.range = FLOAT_LIST ∨ f.range = STRING_LIST ∨ f.range = FS_LIST

end Cassis.Xmi
