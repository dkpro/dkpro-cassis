/-
C20 across the XMI round trip, whole format: the relation between the addresses of the written heap `H` and the
loaded heap `hpL` (`ARc`): a collected structure and its loaded counterpart; an inlined array and the array object the
reader made for it; the first node of an inlined list and the node the reader made.  `ARc` is a simulation in the sense
`SimStep` of `Proofs/ComparableSim.lean` (`simStep_c`), and corresponding slots hold related values (`slot_vrof`,
`ComparableIsoCollSlots.lean`).
-/
import CassisModel.Spec.ComparableIsoColl
import CassisModel.Proofs.ComparableSim
import CassisModel.Proofs.ComparableIsoRoundTrip
import CassisModel.Proofs.RoundTripCollLoaded

namespace Cassis.Comparable
open Cassis.TS Cassis.Traverse Cassis.Xmi Cassis.ChainC

/-- an `elements` value the comparable text survives: a list value, no empty string, references to collected
    structures only -/
def ElemsOk (H : Heap) (L : List (Int × Nat)) (ev : Val) : Prop :=
  isListV ev = true ∧ NoEmptyStr ev ∧ ∀ l, ev = .refs l → ∀ b, some b ∈ l → InL H L b

def ARc (K : Consts) (H hpL : Heap) (L : List (Int × Nat)) (na : Int → Nat) (addrs : List Nat) (a a' : Nat) : Prop :=
  (∃ q ∈ L, q.2 = a ∧ a' = na q.1) ∨
  (isArrayFs K H a = true ∧ isArrayFs K hpL a' = true ∧ ∃ ev : Val, Traverse.slot H a "elements" = some ev ∧
    Traverse.slot hpL a' "elements" = some (elemsExp H na ev) ∧ ElemsOk H L ev) ∨
  (isArrayFs K H a = false ∧ isArrayFs K hpL a' = false ∧ (∀ b ∈ addrs, xidOf H b ≠ xidOf H a) ∧
    xidOf hpL a' = none)

theorem map_normTxt_of_noEmpty : ∀ (l : List (Option String)), some "" ∉ l → l.map normTxt = l
  | [], _ => rfl
  | e :: l, h => by
    rw [List.map_cons, map_normTxt_of_noEmpty l (fun hm => h (List.mem_cons_of_mem _ hm))]
    have he : e ≠ some "" := fun he => h (by rw [he]; exact List.mem_cons_self)
    unfold normTxt
    rw [if_neg (by simpa using he)]

section
variable {K : Consts} {H hpL : Heap} {L : List (Int × Nat)} {na : Int → Nat} {addrs : List Nat}

theorem vrof_elems {ev : Val} (h : ElemsOk H L ev) : VRof (ARc K H hpL L na addrs) ev (elemsExp H na ev) := by
  obtain ⟨hl, hs, hr⟩ := h
  cases ev with
  | refs l =>
    exact Or.inr (Or.inr (Or.inr ⟨l, _, rfl, rfl, refsRel_map_na (fun q hq => Or.inl ⟨q, hq, rfl, rfl⟩) l (hr l rfl)⟩))
  | ints l | bools l | floats l =>
    cases l with
    | nil => exact Or.inr (Or.inl ⟨by simp [EmptyList], Or.inl rfl⟩)
    | cons i l => exact Or.inl ⟨_, rfl, rfl⟩
  | strs l =>
    cases l with
    | nil => exact Or.inr (Or.inl ⟨by simp [EmptyList], Or.inl rfl⟩)
    | cons i l =>
      have : elemsExp H na (.strs (i :: l)) = .strs (i :: l) := by
        show Val.strs ((i :: l).map normTxt) = _
        rw [map_normTxt_of_noEmpty _ hs]
      rw [this]
      exact Or.inl ⟨_, rfl, rfl⟩
  | _ => cases hl

theorem elemsOk_ne_none {ev : Val} (h : ElemsOk H L ev) : ev ≠ .none := by
  intro e; subst e; cases h.1

theorem elemsExp_ne_none {ev : Val} (h : ElemsOk H L ev) : elemsExp H na ev ≠ .none := by
  obtain ⟨hl, _, _⟩ := h
  cases ev with
  | refs l => exact nofun
  | ints l | bools l | floats l | strs l => cases l <;> exact nofun
  | _ => cases hl

end

/-- what the round-trip proof knows about the loaded heap (`XLd`, `Proofs/RoundTripCollLoaded.lean`), the hypotheses of
    `render_xmi_roundtrip_coll`, and the collected addresses -/
structure CtxC (K : Consts) (ts : TypeSystem) (c : Cas) (ci : Nat) (H : Heap) (L : List (Int × Nat)) (na : Int → Nat)
    (ia : Int → String → Nat) (ci' : Nat) (hpL : Heap) (addrs : List Nat) : Prop where
  hL : LOkC K ts c ci H L
  hrel : HeapRel H L na (E3c K ts H na ia ci') hpL
  hcolls : CollsAt K ts H L na ia hpL
  typed : ∀ q ∈ L, ∀ (o : Obj), H[q.2]? = some o → ∀ (n : String) (cc : Nat), alistGet? o.slots n = some (.ref cc) →
    inlineSlot K ts o n = true → ∀ (t : TypeRec) (f : Feature), find? ts o.ty = some t → f ∈ allFeatures t →
    f.name = n → NewFor K hpL f.range (ia q.1 n)
  nodes : NodeTysNotArr K
  inl : ∀ q ∈ L, InlOk K ts H addrs q.2
  addrs_sub : ∀ b ∈ addrs, ∃ q ∈ L, q.2 = b

section
variable {K : Consts} {ts : TypeSystem} {c : Cas} {ci : Nat} {H : Heap} {L : List (Int × Nat)} {na : Int → Nat}
  {ia : Int → String → Nat} {ci' : Nat} {hpL : Heap} {addrs : List Nat}

theorem CtxC.ids (X : CtxC K ts c ci H L na ia ci' hpL addrs) : ∀ q ∈ L, xidOf H q.2 = some q.1 :=
  fun q hq => (X.hL.ids q hq).1

theorem CtxC.arrFs_elems (X : CtxC K ts c ci H L na ia ci' hpL addrs) {q : Int × Nat} (hq : q ∈ L)
    (harr : ArrFs K ts H q.2) :
    ∃ (o : Obj) (ev : Val), H[q.2]? = some o ∧ o.slots = [("elements", ev)] ∧ (ev = .none ∨ ElemsOk H L ev) := by
  obtain ⟨o, t, f, ev, ho, ht, g⟩ := harr.obj
  refine ⟨o, ev, ho, g.slots, ?_⟩
  have hel : alistGet? o.slots "elements" = some ev := by rw [g.slots]; exact CAR.get_elems _
  have hstr : NoEmptyStr ev := (X.inl q hq).strs ev ((slot_eq ho _).trans hel)
  rcases g.kind with ⟨hty, _, _, hev⟩ | ⟨_, _, hev⟩ | ⟨_, _, _, hev⟩
  · rcases hev with rfl | ⟨l, rfl, hl⟩
    · exact Or.inl rfl
    · refine Or.inr ⟨rfl, trivial, ?_⟩
      intro l' hl' b hr
      cases hl'
      exact X.hL.closed q hq b ⟨o, t, ho, ht, Or.inr (Or.inr (Or.inr ⟨hty, _, hel, hr⟩))⟩
  · rcases hev with rfl | ⟨l, rfl⟩
    · exact Or.inr ⟨rfl, trivial, fun l' hl' r hr => by cases hl'; cases hr⟩
    · exact Or.inr ⟨rfl, hstr, fun l' hl' => by cases hl'⟩
  · rcases hev with rfl | hev
    · exact Or.inl rfl
    · rcases hev with rfl | ⟨_, l, rfl⟩ | ⟨_, l, rfl, _⟩ | ⟨_, l, rfl⟩ | ⟨_, l, rfl, _⟩
      · exact Or.inr ⟨rfl, trivial, fun l' hl' r hr => by cases hl'; cases hr⟩
      all_goals exact Or.inr ⟨rfl, trivial, fun l' hl' => by cases hl'⟩

theorem simStep_c (X : CtxC K ts c ci H L na ia ci' hpL addrs) {byId byId' : List (Option Int × String)}
    (hA : AnchRel H hpL addrs (phiOf H na) byId byId') :
    SimStep K H hpL byId byId' (ARc K H hpL L na addrs) := by
  intro a a' hr
  rcases hr with ⟨q, hq, rfl, rfl⟩ | ⟨h1, h2, ev, e1, e2, hok⟩ | ⟨h1, h2, hf, hn⟩
  · have hty : isArrayFs K hpL (na q.1) = isArrayFs K H q.2 := isArrayFs_of_tyOf (heapRel_tyOf X.hrel hq) K
    by_cases harr : isArrayFs K H q.2 = true
    · refine Or.inr ⟨harr, by rw [hty]; exact harr, ?_⟩
      rcases X.hL.coll q hq with hg | ha
      · obtain ⟨o, t, ho, _, g⟩ := genFs_iff.mp hg
        rw [isArrayFs_of_obj ho, g.notArr] at harr
        cases harr
      · obtain ⟨o, ev, ho, hsl, hev⟩ := X.arrFs_elems hq ha
        have hel : alistGet? o.slots "elements" = some ev := by rw [hsl]; exact CAR.get_elems _
        rw [(slot_eq ho _).trans hel, X.hrel.slot hq ho, hel]
        rcases hev with rfl | hok
        · exact Or.inr (Or.inl ⟨rfl, rfl⟩)
        · refine Or.inr (Or.inr ⟨ev, _, rfl, rfl, elemsOk_ne_none hok, ?_, ?_⟩)
          · rw [E3c_list hok.1]; exact elemsExp_ne_none hok
          · rw [E3c_list hok.1]; exact vrof_elems hok
    · have harr' : isArrayFs K H q.2 = false := by simpa using harr
      exact Or.inl ⟨harr', by rw [hty]; exact harr', hA _ _ (heapRel_sameKey X.ids X.hrel X.addrs_sub hq)⟩
  · exact Or.inr ⟨h1, h2, Or.inr (Or.inr ⟨ev, _, e1, e2, elemsOk_ne_none hok, elemsExp_ne_none hok, vrof_elems hok⟩)⟩
  · refine Or.inl ⟨h1, h2, hA a a' fun b hb => ⟨fun h => absurd h (hf b hb), fun h => ?_⟩⟩
    obtain ⟨q, hq, rfl⟩ := X.addrs_sub b hb
    rw [phiOf_of_xid (X.ids q hq), X.hrel.xid hq, hn] at h
    cases h

end

end Cassis.Comparable
