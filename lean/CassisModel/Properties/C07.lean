/-
C07 — select_covered / select_covering implement the containment definitions.

Theorems are about `Model/Index.lean`; hypotheses: the per-type list is sorted by (begin,end)
(an invariant of every reachable index, `Properties/C06.lean`) and annotations are well formed
(`begin ≤ end`), exactly the precondition the property states.
-/
import CassisModel.Proofs.Index
import CassisModel.Proofs.Lists

namespace Cassis.Index

/-- **C07 (covered, one per-type list)**: the bisect window followed by the filter returns exactly
    the entries with `cb ≤ begin ∧ end ≤ ce`, in index order.  No hypothesis on the query span. -/
theorem selectCovered1_eq_spec (l : List Entry) (cb ce : Int)
    (hs : SortedBE l) (hwf : ∀ a ∈ l, a.b ≤ a.e) :
    selectCovered1 l cb ce = l.filter (fun a => decide (cb ≤ a.b) && decide (a.e ≤ ce)) := by
  have hspec : (fun a : Entry => decide (cb ≤ a.b) && decide (a.e ≤ ce)) = coveredP cb ce := by
    funext a; simp [coveredP]
  rw [hspec]
  unfold selectCovered1 window bisectLeft bisectRight
  apply takeWhile_window_filter
  · apply sorted_downward hs
    intro x y hxy hx
    rw [Bool.eq_false_iff, Ne, ltProbe2_iff] at *
    rw [beLeE_iff] at hxy
    omega
  · apply sorted_downward hs
    intro x y hxy hx
    rw [Bool.eq_false_iff, Ne, leProbeInf_iff] at *
    rw [beLeE_iff] at hxy
    omega
  · intro a ha hf
    have := hwf a ha
    rw [coveredP_iff] at hf
    rw [Bool.eq_false_iff, Ne, ltProbe2_iff]
    omega
  · intro a ha hf
    have := hwf a ha
    rw [coveredP_iff] at hf
    rw [leProbeInf_iff]
    omega

/-- **C07 (covering, one per-type list)**: a linear filter, so the equation is definitional; stated
    so that a change of the model's filter breaks it. -/
theorem selectCovering1_eq_spec (l : List Entry) (cb ce : Int) :
    selectCovering1 l cb ce = l.filter (fun a => decide (a.b ≤ cb) && decide (ce ≤ a.e)) := by
  unfold selectCovering1
  congr 1

theorem mem_selectCovered1 (l : List Entry) (cb ce : Int) (hs : SortedBE l) (hwf : ∀ a ∈ l, a.b ≤ a.e)
    (x : Entry) : x ∈ selectCovered1 l cb ce ↔ x ∈ l ∧ cb ≤ x.b ∧ x.e ≤ ce := by
  rw [selectCovered1_eq_spec l cb ce hs hwf]
  simp [List.mem_filter]

theorem mem_selectCovering1 (l : List Entry) (cb ce : Int) (x : Entry) :
    x ∈ selectCovering1 l cb ce ↔ x ∈ l ∧ x.b ≤ cb ∧ ce ≤ x.e := by
  rw [selectCovering1_eq_spec]
  simp [List.mem_filter]

/-- duplicates of a span are all returned: multiplicities agree with the index -/
theorem selectCovered1_count (l : List Entry) (cb ce : Int) (hs : SortedBE l) (hwf : ∀ a ∈ l, a.b ≤ a.e)
    (x : Entry) (hx : cb ≤ x.b ∧ x.e ≤ ce) : (selectCovered1 l cb ce).count x = l.count x := by
  rw [selectCovered1_eq_spec l cb ce hs hwf]
  rw [List.count_filter]
  simp [hx.1, hx.2]

/-- **C07 lifted to a type subtree**: over any iteration order `names` of the descendant set, the result
    is the concatenation of the per-type specifications — nothing from types outside `names`. -/
theorem selectCoveredNames_eq_spec (idx : Idx) (names : List String) (cb ce : Int)
    (hs : ∀ n ∈ names, SortedBE (get idx n)) (hwf : ∀ n ∈ names, ∀ a ∈ get idx n, a.b ≤ a.e) :
    selectCoveredNames idx names cb ce =
      names.flatMap (fun n => (get idx n).filter (fun a => decide (cb ≤ a.b) && decide (a.e ≤ ce))) := by
  unfold selectCoveredNames
  apply Det.flatMap_congr
  intro n hn
  exact selectCovered1_eq_spec _ cb ce (hs n hn) (hwf n hn)

theorem selectCoveringNames_eq_spec (idx : Idx) (names : List String) (cb ce : Int) :
    selectCoveringNames idx names cb ce =
      names.flatMap (fun n => (get idx n).filter (fun a => decide (a.b ≤ cb) && decide (ce ≤ a.e))) := by
  unfold selectCoveringNames
  apply Det.flatMap_congr
  intro n _
  exact selectCovering1_eq_spec _ cb ce

/-! Non-vacuity, and the case of finding S1 (a zero-width annotation at the span end, which `select_covered` left out):
    tests of concrete instances, not the unbounded claim. -/
example : SortedBE [⟨2,2,0⟩, ⟨2,5,1⟩, ⟨5,5,2⟩] ∧ ∀ a ∈ ([⟨2,2,0⟩, ⟨2,5,1⟩, ⟨5,5,2⟩] : List Entry), a.b ≤ a.e := by
  constructor
  · unfold SortedBE; decide
  · decide
example : selectCovered1 [⟨2,2,0⟩, ⟨2,5,1⟩, ⟨5,5,2⟩] 2 5 = [⟨2,2,0⟩, ⟨2,5,1⟩, ⟨5,5,2⟩] := by decide
example : selectCovered1 [⟨0,9,0⟩, ⟨2,2,1⟩, ⟨2,5,2⟩, ⟨3,3,3⟩, ⟨5,5,4⟩, ⟨5,6,5⟩] 2 5 =
    [⟨2,2,1⟩, ⟨2,5,2⟩, ⟨3,3,3⟩, ⟨5,5,4⟩] := by decide
example : selectCovering1 [⟨0,9,0⟩, ⟨2,2,1⟩, ⟨2,5,2⟩, ⟨3,3,3⟩] 2 5 = [⟨0,9,0⟩, ⟨2,5,2⟩] := by decide

end Cassis.Index
