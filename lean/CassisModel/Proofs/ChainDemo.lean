/-
Non-vacuity of the chain theorems (`Properties/C16Chain.lean`): the instance `Demo` of `Proofs/InstancesFlat.lean` satisfies
the hypotheses of `chain_xmi_json_flat` (those of the XMI round trip, `JsonFs`, and the condition on `sofa` features).
The hypotheses of `chain_json_xmi_flat` are `Json.Demo.demo_hypsJ` plus `NullOk`.
-/
import CassisModel.Proofs.RoundTripDemo
import CassisModel.Proofs.RoundTripJsonDemo
import CassisModel.Proofs.ChainCollCheckSound

namespace Cassis.Chain.Demo
open Cassis.TS Cassis.Xmi Cassis.Xmi.Demo

/-- **non-vacuity**: every hypothesis of `chain_xmi_json_flat` holds for `K := Gen.consts`, `ts := demoTS`,
    `cass := [demo.1]`, `ci := 0`, `c := demo.1`, `hp := demo.2` and the `(doc, st)` that `saveXmi` returns -/
theorem demo_hyps_chain : ∃ (doc : XDoc) (st : Traverse.St),
    saveXmi K demoTS [demo.1] 0 demo.2 = .ok (doc, st) ∧
    [demo.1][0]? = some demo.1 ∧ RTWf demo.1 demo.2 ∧ NullOk demoTS ∧
    (∀ q ∈ st.allFs, FlatFs K demoTS demo.1 0 st.heap q.2) ∧
    (∀ q ∈ st.allFs, Json.JsonFs demoTS st.heap q.2) ∧
    (∀ q ∈ st.allFs, ∀ (o : Obj) (t : TypeRec), st.heap[q.2]? = some o → find? demoTS o.ty = some t →
      ∀ f ∈ allFeatures t, f.name = "sofa" → (alistGet? o.slots f.name).getD .none ≠ .none →
        f.range ≠ "uima.cas.Double" ∧ f.range ≠ "uima.cas.Float" ∧ isPrimitive K demoTS f.range = false) ∧
    (∀ q ∈ st.allFs, ∀ nv ∈ demo.1.views, q.1 ≠ nv.2.sofa.xid) ∧
    (∀ nv ∈ demo.1.views, ∀ e ∈ Index.all nv.2.idx, Xmi.slot st.heap e.oid "sofa" ≠ some .none) ∧
    MembersOk demo.1 st.heap := by
  rw [demo_eq, demo'_lit, demoTS_eq]
  obtain ⟨c, doc, st, hc, hs, hwf, hn, hf, hd, hm, hmo⟩ := rtAppliesB_hyps _ _ _ _ _ demo_evals.applies
  cases hc
  obtain ⟨hj, hsr⟩ := Json.chainBaseB_hyps chainBase_evals hs
  exact ⟨doc, st, hs, rfl, hwf, hn, hf, hj, hsr, hd, hm, hmo⟩

end Cassis.Chain.Demo
