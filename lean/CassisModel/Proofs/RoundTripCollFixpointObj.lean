/-
Fixpoint of the XMI round trip with collections, per structure: the loaded counterpart of a collected structure is in
the fragment `CollFs` again (in the loaded CAS) and is rendered as the identical element — general structures through
`feat_new`, array objects by the three shapes of their elements (`obj_new`).  With `Loc.target_fwd/target_bwd`
(`RoundTripCollContent.lean`): `ObjFix`, `fix_obj`.
-/
import CassisModel.Proofs.RoundTripCollFixpointFeat

namespace Cassis.Xmi.CFX
open Cassis.TS

/-- the loaded counterpart of the collected structure `q`: in the fragment again, rendered as the identical element, its
    targets exactly the counterparts of the written targets -/
structure ObjFix (K : Consts) (ts : TypeSystem) (cass cass' : List Cas) (c' : Cas) (ci' : Nat) (H hpL : Heap)
    (L : List (Int × Nat)) (na : Int → Nat) (q : Int × Nat) : Prop where
  coll : CollFs K ts c' ci' hpL (na q.1)
  render : renderFs K ts cass' hpL (na q.1) = renderFs K ts cass H q.2
  fwd : ∀ b', Target K ts hpL (na q.1) b' → ∃ q' ∈ L, b' = na q'.1
  bwd : ∀ b x, Target K ts H q.2 b → (x, b) ∈ L → Target K ts hpL (na q.1) (na x)

theorem renderFeatures_congr {K : Consts} {ts : TypeSystem} {cass cass' : List Cas} {H hpL : Heap} {a a' : Nat}
    {isAnn : Bool} : ∀ (fs : List Feature),
      (∀ f ∈ fs, renderFeature K ts cass' hpL a' isAnn f = renderFeature K ts cass H a isAnn f) →
      renderFeatures K ts cass' hpL a' isAnn fs = renderFeatures K ts cass H a isAnn fs
  | [], _ => rfl
  | f :: fs, h => by
    simp only [renderFeatures]
    rw [h f List.mem_cons_self, renderFeatures_congr fs (fun g hg => h g (List.mem_cons_of_mem _ hg))]

section
variable {K : Consts} {ts : TypeSystem} {cass cass' : List Cas} {c c' : Cas} {ci ci' : Nat} {hp H hpL : Heap}
  {L : List (Int × Nat)} {na : Int → Nat} {ia : Int → String → Nat} {q : Int × Nat} {o o' : Obj} {t : TypeRec}

/-! ### in the fragment again and rendered alike -/

theorem gen_new (h : Loc K ts c ci H L na ia ci' hpL q o o' t) (hviews : ViewsRel H na c c')
    (hgen : GenFs K ts c ci H q.2) :
    CollFs K ts c' ci' hpL (na q.1) ∧ ∀ {cass cass' : List Cas} {hp : Heap}, cass[ci]? = some c → cass'[ci']? = some c' →
      RTWf c hp → renderFs K ts cass' hpL (na q.1) = renderFs K ts cass H q.2 := by
  have g := hgen.at h.ho h.ht
  have hff := fun f hf => feat_new (isAnn := isInstanceOf ts o.ty ANNOTATION) h hviews hf (g.feat f hf)
  refine ⟨.inl (genFs_iff.mpr ⟨o', t, h.ho', h.hty ▸ h.ht,
    g.copy h.hty h.hkeys (fun f hf _ => (hff f hf).coll) (ann_new h hviews)⟩), fun hc hc' hwf => ?_⟩
  · have hfa' : (o.ty == FS_ARRAY) = false := by simp [g.notFsArr]
    unfold renderFs
    simp only [h.ho, h.ho', pure, Except.pure, bind, Except.bind, h.hty, g.notPrimArr, hfa', Bool.or_self, Bool.false_eq_true,
      if_false, getType_of_find h.ht, h.ox', h.ox]
    rw [renderFeatures_congr (allFeatures t) (fun f hf => (hff f hf).render ⟨hc, hc', hwf, hviews, g.ann⟩)]

theorem arr_new (h : Loc K ts c ci H L na ia ci' hpL q o o' t) (harr : ArrFs K ts H q.2) :
    CollFs K ts c' ci' hpL (na q.1) ∧
      ∀ {cass cass' : List Cas}, renderFs K ts cass' hpL (na q.1) = renderFs K ts cass H q.2 := by
  obtain ⟨t1, f, ev, ht1, g⟩ := harr.at h.ho
  cases h.ht.symm.trans ht1
  have ho := h.ho
  have ho' := h.ho'
  have hty := h.hty
  have hox := h.ox
  have hx' := h.ox'
  have hel : alistGet? o.slots "elements" = some ev := by rw [g.slots]; exact CAR.get_elems _
  obtain ⟨w, hw⟩ := CAR.keys_elems o'.slots (by rw [h.hkeys, g.slots]; rfl)
  have hwe : w = E3c K ts H na ia ci' o "elements" ev := by
    have := h.hslots _ _ hel
    rw [hw, CAR.get_elems] at this
    exact Option.some.inj this
  -- the loaded structure is an array object, given the shape of its elements
  have mk : ( (o.ty = FS_ARRAY ∧ isPrimitiveArray K FS_ARRAY = false ∧ isInstanceOf ts FS_ARRAY STRING_ARRAY = false ∧
        (w = .none ∨ FsElems hpL w))
      ∨ (o.ty = STRING_ARRAY ∧ isPrimitiveArray K STRING_ARRAY = true ∧ StrElems w)
      ∨ (PrimArrTy o.ty ∧ isPrimitiveArray K o.ty = true ∧ isInstanceOf ts o.ty STRING_ARRAY = false ∧
        (w = .none ∨ PrimElems o.ty w)) ) → CollFs K ts c' ci' hpL (na q.1) := by
    intro hs
    refine .inr ⟨o', t, f, w, ho', ?_⟩
    rw [hty]
    exact ⟨h.ht, g.name, g.arrBase, g.feats, g.fname, g.frange, g.fres, hw, g.notAnn, hs⟩
  rcases g.kind with ⟨hfs, k1, k2, hev⟩ | ⟨hsa, k1, hev⟩ | ⟨hpr, k1, k2, hev⟩
  · -- FSArray
    have hb : (isPrimitiveArray K o.ty || o.ty == FS_ARRAY) = true := by rw [hfs]; simp
    have hb' : (isPrimitiveArray K o'.ty || o'.ty == FS_ARRAY) = true := by rw [hty]; exact hb
    rcases hev with rfl | ⟨l, rfl, hok⟩
    · have hwn : w = .none := hwe
      subst hwn
      refine ⟨mk (.inl ⟨hfs, k1, k2, .inl rfl⟩), @fun cass cass' => ?_⟩
      rw [CAR.render_none K ts cass' ho' hw hx' hb', CAR.render_none K ts cass ho g.slots hox hb, hty]
    · have hres : Resolved H hpL L na l := fun b hb =>
        h.res ⟨o, t, ho, h.ht, .inr (.inr (.inr ⟨hfs, l.map some, hel, List.mem_map_of_mem hb⟩))⟩
      obtain ⟨hok', htok⟩ := hres.new
      have hww : w = .refs ((l.map (fun b => na (CAR.idOf H b))).map some) := by
        rw [hwe, ← fs_exp H na l (fun b hb => (hres b hb).imp (fun x hx => hx.1))]
        rfl
      subst hww
      have hfs' : o'.ty = FS_ARRAY := by rw [hty]; exact hfs
      refine ⟨mk (.inl ⟨hfs, k1, k2, .inr ⟨_, rfl, hok'⟩⟩), @fun cass cass' => ?_⟩
      rw [CAR.render_refs K ts cass' _ _ ho' hw hx' hfs' (by rw [hfs']; exact k2) (CG1.refIds_ok hpL _ hok'),
        CAR.render_refs K ts cass _ _ ho g.slots hox hfs (by rw [hfs]; exact k2) (CG1.refIds_ok H l hok), hty, htok]
  · -- StringArray
    have hb : (isPrimitiveArray K o.ty || o.ty == FS_ARRAY) = true := by rw [hsa, k1]; rfl
    have hb' : (isPrimitiveArray K o'.ty || o'.ty == FS_ARRAY) = true := by rw [hty]; exact hb
    have hinst : isInstanceOf ts o.ty STRING_ARRAY = true := by rw [hsa]; exact CAR.strArr_self ts
    have hinst' : isInstanceOf ts o'.ty STRING_ARRAY = true := by rw [hty]; exact hinst
    have hempty : (ev = .refs [] ∨ ev = .strs []) → CollFs K ts c' ci' hpL (na q.1) ∧
        ∀ {cass cass' : List Cas}, renderFs K ts cass' hpL (na q.1) = renderFs K ts cass H q.2 := by
      intro hemp
      have hwn : w = .refs [] := by
        rw [hwe]; rcases hemp with rfl | rfl <;> rfl
      subst hwn
      refine ⟨mk (.inr (.inl ⟨hsa, k1, .inl rfl⟩)), @fun cass cass' => ?_⟩
      rw [CAR.render_strNil K ts cass' ho' hw hx' hb' hinst', hty]
      rcases hemp with rfl | rfl
      · rw [CAR.render_strNil K ts cass ho g.slots hox hb hinst]
      · rw [CAR.render_strs K ts cass [] ho g.slots hox hb hinst]
        rfl
    rcases hev with he | ⟨l, rfl⟩
    · exact hempty (.inl he)
    · cases l with
      | nil => exact hempty (.inr rfl)
      | cons e l =>
        have hwn : w = .strs ((e :: l).map normTxt) := hwe
        subst hwn
        refine ⟨mk (.inr (.inl ⟨hsa, k1, .inr ⟨_, rfl⟩⟩)), @fun cass cass' => ?_⟩
        rw [CAR.render_strs K ts cass' _ ho' hw hx' hb' hinst', CAR.render_strs K ts cass _ ho g.slots hox hb hinst, hty]
        have hk : ((e :: l).map normTxt).map (fun e => ("elements", normTxt e))
            = (e :: l).map (fun e => ("elements", normTxt e)) := by
          rw [List.map_map]
          apply List.map_congr_left
          intro e' _
          simp only [Function.comp, normTxt_idem]
        rw [hk]
  · -- primitive arrays
    have hne : o.ty ≠ FS_ARRAY := primArrTy_ne hpr (by simp)
    have hb : (isPrimitiveArray K o.ty || o.ty == FS_ARRAY) = true := by rw [k1]; rfl
    have hb' : (isPrimitiveArray K o'.ty || o'.ty == FS_ARRAY) = true := by rw [hty]; exact hb
    rcases hev with rfl | hP
    · have hwn : w = .none := hwe
      subst hwn
      refine ⟨mk (.inr (.inr ⟨hpr, k1, k2, .inl rfl⟩)), @fun cass cass' => ?_⟩
      rw [CAR.render_none K ts cass' ho' hw hx' hb', CAR.render_none K ts cass ho g.slots hox hb, hty]
    · have hwn : w = elemsExp H na ev := by
        rw [hwe]
        have := CAR.primElems_list hP
        cases ev <;> first | rfl | cases this
      subst hwn
      have hP' := primElems_exp H na hP
      obtain ⟨hnone, s, hsp⟩ := CG1.showPrimArray_ok hP
      obtain ⟨hnone', _, _⟩ := CG1.showPrimArray_ok hP'
      refine ⟨mk (.inr (.inr ⟨hpr, k1, k2, .inr hP'⟩)), @fun cass cass' => ?_⟩
      rw [CAR.render_prim K ts cass' _ s ho' hw hx' hnone' (by rw [hty]; exact k1) (by rw [hty]; exact hne)
          (by rw [hty]; exact k2) (by rw [hty, showPrimArray_exp H na hP]; exact hsp),
        CAR.render_prim K ts cass ev s ho g.slots hox hnone k1 hne k2 hsp, hty]

end

section
variable {K : Consts} {ts : TypeSystem} {cass cass' : List Cas} {c c' : Cas} {ci ci' : Nat} {hp H hpL : Heap}
  {L : List (Int × Nat)} {na : Int → Nat} {ia : Int → String → Nat}

theorem obj_new (hL : LOkC K ts c ci H L) (hrel : HeapRel H L na (E3c K ts H na ia ci') hpL)
    (hcolls : CollsAt K ts H L na ia hpL) (hviews : ViewsRel H na c c') {q : Int × Nat} (hq : q ∈ L) :
    CollFs K ts c' ci' hpL (na q.1) ∧ ∀ {cass cass' : List Cas} {hp : Heap}, cass[ci]? = some c → cass'[ci']? = some c' →
      RTWf c hp → renderFs K ts cass' hpL (na q.1) = renderFs K ts cass H q.2 := by
  obtain ⟨o, o', t, h⟩ := loc_of hL hrel hcolls hq
  rcases hL.coll q hq with hg | ha
  · exact gen_new h hviews hg
  · obtain ⟨h1, h2⟩ := arr_new (c' := c') h ha
    exact ⟨h1, fun _ _ _ => h2⟩

theorem collFs_new (hL : LOkC K ts c ci H L) (hrel : HeapRel H L na (E3c K ts H na ia ci') hpL)
    (hcolls : CollsAt K ts H L na ia hpL) (hviews : ViewsRel H na c c') {q : Int × Nat} (hq : q ∈ L) :
    CollFs K ts c' ci' hpL (na q.1) := (obj_new hL hrel hcolls hviews hq).1

theorem fix_obj (hc : cass[ci]? = some c) (hc' : cass'[ci']? = some c') (hwf : RTWf c hp) (hL : LOkC K ts c ci H L)
    (hrel : HeapRel H L na (E3c K ts H na ia ci') hpL) (hcolls : CollsAt K ts H L na ia hpL)
    (hviews : ViewsRel H na c c') (q : Int × Nat) (hq : q ∈ L) :
    ObjFix K ts cass cass' c' ci' H hpL L na q := by
  obtain ⟨o, o', t, h⟩ := loc_of hL hrel hcolls hq
  obtain ⟨hcoll, hrender⟩ := obj_new hL hrel hcolls hviews hq
  exact ⟨hcoll, hrender hc hc' hwf, fun _ hb' => h.target_fwd hb', fun _ _ hb hx => h.target_bwd hb hx⟩

end

end Cassis.Xmi.CFX
