/-
The common fragment of XMI and JSON: a structure of the XMI fragment `CollFs` whose names JSON can carry (`JsonFs`) and
which, if it is an array object, has `elements ≠ None` (J1, `ArrElemsSome`), is in the JSON fragment `JCollFs`.
The second part reads the two kinds of structure of the JSON fragment (`JGenFs`, `JArrFs` of
`Spec/RoundTripJsonCollFrag.lean`) through named fields (`jgenFs_iff`, `JGenFs.at`, `JArrFs.obj`, `JArrFs.at`, `jcoll_type`,
`jcoll_sofa_slot`): what the writer and the reader proofs use of the fragment.
-/
import CassisModel.Spec.RoundTripJsonCollFrag
import CassisModel.Proofs.RoundTripFrag

namespace Cassis.Json
open Cassis.TS Cassis.Xmi

theorem collRange_ne {r : String}
    (h : PrimArrTy r ∨ r = STRING_ARRAY ∨ r = FS_ARRAY ∨ r = INTEGER_LIST ∨ r = FLOAT_LIST ∨ r = STRING_LIST ∨
      r = FS_LIST) :
    r ≠ "uima.cas.Boolean" ∧ r ≠ "uima.cas.Double" ∧ r ≠ "uima.cas.Float" := by
  rcases h with ((h | h | h) | h | h | (h | h)) | h | h | h | h | h | h <;> subst h <;>
    simp [STRING_ARRAY, FS_ARRAY, INTEGER_LIST, FLOAT_LIST, STRING_LIST, FS_LIST]

theorem arrTy_ne {r : String} (h : PrimArrTy r ∨ r = STRING_ARRAY) : r ≠ FS_ARRAY ∧ r ≠ SOFA := by
  rcases h with ((h | h | h) | h | h | (h | h)) | h <;> subst h <;> simp [STRING_ARRAY, FS_ARRAY, SOFA]

theorem plainArrTy_not {r : String} (h : IntArrTy r ∨ r = "uima.cas.BooleanArray" ∨ r = STRING_ARRAY) :
    r ≠ "uima.cas.ByteArray" ∧ ¬ FloatArrTy r := by
  rcases h with (h | h | h) | h | h <;> subst h <;> simp [STRING_ARRAY, FloatArrTy]

/-- a reference feature of the JSON fragment, from the pieces common to the shared and the inlined case -/
theorem jfeatOk_ref (K : Consts) (ts : TypeSystem) (c : Cas) (ci : Nat) (hp : Heap) (isAnn : Bool) (o : Obj)
    (f : Feature) (hn : NameOk f) (v : Val) (hv : alistGet? o.slots f.name = some v)
    (hprim : isPrimitive K ts f.range = false)
    (hne : f.range ≠ "uima.cas.Boolean" ∧ f.range ≠ "uima.cas.Double" ∧ f.range ≠ "uima.cas.Float")
    (hval : v = .none ∨ ∃ b : Nat, v = .ref b ∧
      (isInline K f = true → isArray K f.range = false → SpineEnds hp b)) :
    JFeatOk K ts c ci hp isAnn o f := by
  obtain ⟨hr, h1, h2, h3, h4, hs⟩ := hn
  exact ⟨hr, h1, h2, h3, h4, v, hv, Or.inr (Or.inr ⟨hs, hprim, hne.1, hne.2.1, hne.2.2, hval⟩)⟩

/-- the value of an inlined array feature: `None` or a reference; the spine clause is vacuous -/
theorem inlArr_val (K : Consts) (hp : Heap) (f : Feature) (P : Val → Prop) (v : Val)
    (harr : isArray K f.range = true) (h : InlArr hp P v) :
    v = .none ∨ ∃ b : Nat, v = .ref b ∧ (isInline K f = true → isArray K f.range = false → SpineEnds hp b) := by
  rcases h with h | ⟨arr, ev, h, _, _⟩
  · exact Or.inl h
  · refine Or.inr ⟨arr, h, fun _ hf => ?_⟩
    rw [harr] at hf
    cases hf

theorem inlList_val (K : Consts) (hp : Heap) (f : Feature) (P : List Val → Prop) (v : Val) (h : InlList hp P v) :
    v = .none ∨ ∃ b : Nat, v = .ref b ∧ (isInline K f = true → isArray K f.range = false → SpineEnds hp b) := by
  rcases h with h | ⟨a, hs, h, hc, _⟩
  · exact Or.inl h
  · refine Or.inr ⟨a, h, fun _ _ => ⟨hs, ?_⟩⟩
    rw [← h]
    exact hc

theorem jfeatOk_of_collFeat (K : Consts) (ts : TypeSystem) (c : Cas) (ci : Nat) (hp : Heap) (isAnn : Bool) (o : Obj)
    (f : Feature) (h : CollFeat K ts c ci hp isAnn o f) : JFeatOk K ts c ci hp isAnn o f := by
  rcases h with h | ⟨hn, h | h⟩
  · -- flat
    obtain ⟨hr, h1, h2, h3, h4, _, _, _, _, _, _, v, hv, hc⟩ := h
    refine ⟨hr, h1, h2, h3, h4, v, hv, ?_⟩
    rcases hc with hc | hc | ⟨hs, hprim, harr, hlist, hb, hd, hf, hval⟩
    · exact Or.inl hc
    · exact Or.inr (Or.inl hc)
    · refine Or.inr (Or.inr ⟨hs, hprim, hb, hd, hf, ?_⟩)
      rcases hval with hval | ⟨b, hval, _, _⟩
      · exact Or.inl hval
      · refine Or.inr ⟨b, hval, fun hi => ?_⟩
        simp [isInline, harr, hlist] at hi
  · -- shared
    obtain ⟨hm, _, hprim, hb, hd, hf, v, hv, hval⟩ := h
    refine jfeatOk_ref K ts c ci hp isAnn o f hn v hv hprim ⟨hb, hd, hf⟩ ?_
    rcases hval with hval | ⟨b, hval, _⟩
    · exact Or.inl hval
    · refine Or.inr ⟨b, hval, fun hi => ?_⟩
      simp [isInline, hm] at hi
  · -- inline
    obtain ⟨_, v, hv, hc⟩ := h
    rcases hc with ⟨hty, hk, hval⟩ | ⟨hty, hk, hval⟩ | ⟨hty, hk, hval⟩ | ⟨hty, hk, hval⟩ | ⟨hty, hk, hval⟩ |
      ⟨hty, hk, hval⟩ | ⟨hty, hk, hval⟩
    · exact jfeatOk_ref K ts c ci hp isAnn o f hn v hv hk.prim (collRange_ne (.inl hty)) (inlArr_val K hp f _ v hk.arr hval)
    · exact jfeatOk_ref K ts c ci hp isAnn o f hn v hv hk.prim (collRange_ne (.inr (.inl hty)))
        (inlArr_val K hp f _ v hk.arr hval)
    · exact jfeatOk_ref K ts c ci hp isAnn o f hn v hv hk.prim (collRange_ne (.inr (.inr (.inl hty))))
        (inlArr_val K hp f _ v hk.arr hval)
    · exact jfeatOk_ref K ts c ci hp isAnn o f hn v hv hk.prim (collRange_ne (.inr (.inr (.inr (.inl hty)))))
        (inlList_val K hp f _ v hval)
    · exact jfeatOk_ref K ts c ci hp isAnn o f hn v hv hk.prim (collRange_ne (.inr (.inr (.inr (.inr (.inl hty))))))
        (inlList_val K hp f _ v hval)
    · exact jfeatOk_ref K ts c ci hp isAnn o f hn v hv hk.prim
        (collRange_ne (.inr (.inr (.inr (.inr (.inr (.inl hty))))))) (inlList_val K hp f _ v hval)
    · exact jfeatOk_ref K ts c ci hp isAnn o f hn v hv hk.prim
        (collRange_ne (.inr (.inr (.inr (.inr (.inr (.inr hty))))))) (inlList_val K hp f _ v hval)

theorem jprimElems_of_primElems (r : String) (ev : Val) (h : PrimElems r ev) : JPrimElems r ev := by
  rcases h with h | ⟨hty, l, h⟩ | ⟨hty, l, h, _⟩ | ⟨hty, l, h⟩ | ⟨hty, l, h, _⟩
  · exact Or.inl h
  · have hn := plainArrTy_not (.inl hty)
    exact Or.inr (Or.inr (Or.inr ⟨hn.1, hn.2, Or.inl ⟨l, h⟩⟩))
  · exact Or.inr (Or.inl ⟨hty, l, h⟩)
  · have hn := plainArrTy_not (.inr (.inl hty))
    exact Or.inr (Or.inr (Or.inr ⟨hn.1, hn.2, Or.inr (Or.inl ⟨l, h⟩)⟩))
  · exact Or.inr (Or.inr (Or.inl ⟨hty, l, h⟩))

theorem jarrFs_of_arrFs (K : Consts) (ts : TypeSystem) (hp : Heap) (a : Nat)
    (h : ArrFs K ts hp a) (he : ArrElemsSome hp a) : JArrFs K ts hp a := by
  obtain ⟨o, t, f, ev, ho, ht, g⟩ := h.obj
  have hev : ev ≠ .none := fun hn => he o ho (by rw [g.slots, hn])
  refine ⟨o, t, f, ev, ho, ht, g.name, g.arrBase, g.feats, g.fname, g.fres, g.slots, g.notAnn, ?_⟩
  rcases g.kind with ⟨hty, hpa, _, hel⟩ | ⟨hty, hpa, hel⟩ | ⟨hty, hpa, _, hel⟩
  · refine ⟨by rw [hty]; decide, Or.inl ⟨hty, hpa, ?_⟩⟩
    rcases hel with hel | ⟨l, hel, _⟩
    · exact absurd hel hev
    · exact ⟨l.map some, hel⟩
  · have hne := arrTy_ne (.inr hty)
    have hn := plainArrTy_not (.inr (.inr hty))
    refine ⟨hne.2, Or.inr ⟨hne.1, hty ▸ hpa, ?_⟩⟩
    rcases hel with hel | ⟨l, hel⟩
    · exact Or.inl hel
    · exact Or.inr (Or.inr (Or.inr ⟨hn.1, hn.2, Or.inr (Or.inr ⟨l, hel⟩)⟩))
  · have hne := arrTy_ne (.inl hty)
    refine ⟨hne.2, Or.inr ⟨hne.1, hpa, ?_⟩⟩
    rcases hel with hel | hel
    · exact absurd hel hev
    · exact jprimElems_of_primElems o.ty ev hel

/-! ### the two kinds of structure through named fields -/

/-- what `JArrFs` says of the object `o` at the address: its type `t` with the one feature `f`, its one slot with the
    value `ev` -/
structure JArr (K : Consts) (ts : TypeSystem) (o : Obj) (t : TypeRec) (f : Feature) (ev : Val) : Prop where
  name : t.name = o.ty
  arrBase : t.super = some ARRAY_BASE
  feats : allFeatures t = [f]
  fname : f.name = "elements"
  slots : o.slots = [("elements", ev)]
  notAnn : isInstanceOf ts o.ty ANNOTATION = false
  notSofa : o.ty ≠ SOFA
  kind : (o.ty = FS_ARRAY ∧ isPrimitiveArray K FS_ARRAY = false ∧ ∃ l : List (Option Nat), ev = .refs l) ∨
    (o.ty ≠ FS_ARRAY ∧ isPrimitiveArray K o.ty = true ∧ JPrimElems o.ty ev)

section
variable {K : Consts} {ts : TypeSystem} {c : Cas} {ci : Nat} {hp : Heap} {a : Nat}

theorem jgenFs_iff : JGenFs K ts c ci hp a ↔
    ∃ o t, hp[a]? = some o ∧ find? ts o.ty = some t ∧ GenObj K ts c ci (JFeatOk K ts c ci hp) o t := by
  constructor <;> intro h <;> obtain ⟨o, t, ho, ht, h1, h2, h3, h4, h5, h6, h7, h8, h9, h10, h11, h12, h13⟩ := h <;>
    exact ⟨o, t, ho, ht, h1, h2, h3, h4, h5, h6, h7, h8, h9, h10, h11, h12, h13⟩

theorem JGenFs.at (h : JGenFs K ts c ci hp a) {o : Obj} {t : TypeRec} (ho : hp[a]? = some o)
    (ht : find? ts o.ty = some t) : GenObj K ts c ci (JFeatOk K ts c ci hp) o t := obj_at (jgenFs_iff.mp h) ho ht

theorem jgenFs_of_genFs (K : Consts) (ts : TypeSystem) (c : Cas) (ci : Nat) (hp : Heap) (a : Nat)
    (h : GenFs K ts c ci hp a) : JGenFs K ts c ci hp a := by
  obtain ⟨o, t, ho, ht, g⟩ := genFs_iff.mp h
  exact jgenFs_iff.mpr ⟨o, t, ho, ht, g.mono fun b f => jfeatOk_of_collFeat K ts c ci hp b o f⟩

theorem JArrFs.obj (h : JArrFs K ts hp a) :
    ∃ o t f ev, hp[a]? = some o ∧ find? ts o.ty = some t ∧ JArr K ts o t f ev := by
  obtain ⟨o, t, f, ev, ho, ht, h1, h2, h3, h4, _, h6, h7, h8, h9⟩ := h
  exact ⟨o, t, f, ev, ho, ht, h1, h2, h3, h4, h6, h7, h8, h9⟩

theorem JArrFs.at (h : JArrFs K ts hp a) {o : Obj} (ho : hp[a]? = some o) :
    ∃ t f ev, find? ts o.ty = some t ∧ JArr K ts o t f ev := by
  obtain ⟨o', t, f, ev, ho', ht, g⟩ := h.obj
  cases ho.symm.trans ho'
  exact ⟨t, f, ev, ht, g⟩

theorem jcoll_type (h : JGenFs K ts c ci hp a ∨ JArrFs K ts hp a) {o : Obj} (ho : hp[a]? = some o) :
    ∃ t, find? ts o.ty = some t := by
  rcases h with hg | ha
  · obtain ⟨o', t, ho', ht, _⟩ := jgenFs_iff.mp hg
    cases ho.symm.trans ho'
    exact ⟨t, ht⟩
  · obtain ⟨t, _, _, ht, _⟩ := ha.at ho
    exact ⟨t, ht⟩

theorem jcoll_sofa_slot (h : JGenFs K ts c ci hp a ∨ JArrFs K ts hp a) {o : Obj} (ho : hp[a]? = some o) {v : Val}
    (hv : alistGet? o.slots "sofa" = some v) :
    (∃ vn, v = .sofa ci vn ∧ (Cas.getViewRec c vn).isSome = true) ∨ v = .none := by
  rcases h with hg | ha
  · obtain ⟨o', t, ho', _, g⟩ := jgenFs_iff.mp hg
    cases ho.symm.trans ho'
    obtain ⟨f, hf, hfn⟩ := g.slot_feature hv
    obtain ⟨_, _, _, _, _, v', hv', hcase⟩ := g.feat f hf
    rw [hfn, hv] at hv'; cases hv'
    rcases hcase with ⟨_, hs⟩ | ⟨hne, _⟩ | ⟨hne, _⟩
    · exact hs.imp_right And.left
    · exact absurd hfn hne
    · exact absurd hfn hne
  · obtain ⟨_, _, _, _, g⟩ := ha.at ho
    rw [g.slots] at hv
    simp [alistGet?] at hv

end

end Cassis.Json
