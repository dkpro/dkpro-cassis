/-
The JSON writer and reader on the whole format: the written document described (`json_written_coll`), and the reader on a
described document (`json_read_perm`) — sofas, structures and `%VIEWS` entries in any order, over any base heap `hb`: the
`k`-th structure of the document comes to stand at `hb.length + k` (`naOf hb L'`; the heap argument of `naOf` counts only
through its length).  The document as written is the instance `json_read_coll`; the flat fragment (`RoundTripJsonFlat.lean`),
the round trip, entry-order independence and faithfulness (C02, C05, C04) are read off these two.  The views pass is
`ViewsPass.viewsPass_anyOrder` (`RoundTripJsonViewsPass.lean`); `LOkJ` / `E3J` supply what it needs to know of a member
(`JVC.VC.memOk`; namespace `JVC`: the views pass with collections).
-/
import CassisModel.Proofs.RoundTripJsonCollDefs
import CassisModel.Proofs.RoundTripJsonCollSave
import CassisModel.Proofs.RoundTripJsonCollPass
import CassisModel.Proofs.RoundTripJsonViewsPass
import CassisModel.Proofs.LoadPermJsonDefs

namespace Cassis.Json
open Cassis.TS Cassis.Xmi

namespace JVC
open Cassis.Xmi.RTB Cassis.Json.ViewsPass

/-- what is known when the views pass starts -/
structure VC (K : Consts) (ts : TypeSystem) (c : Cas) (ci : Nat) (H : Heap) (L : List (Int × Nat)) (na : Int → Nat)
    (ci' : Nat) (HF : Heap) (fss : List (Int × Val)) : Prop where
  lok : LOkJ K ts c ci H L
  hmem : ∀ nv ∈ c.views, ∀ e ∈ Index.all nv.2.idx, Xmi.slot H e.oid "sofa" ≠ some .none
  mok : MembersOk c H
  rel : HeapRel H L na (E3J H na ci') HF
  fss : ∀ q ∈ L, lookup fss q.1 = some (.ref (na q.1))

section
variable {K : Consts} {ts : TypeSystem} {c : Cas} {ci : Nat} {H : Heap} {L : List (Int × Nat)} {na : Int → Nat}
  {ci' : Nat} {HF : Heap} {fss : List (Int × Val)}

theorem VC.member (ctx : VC K ts c ci H L na ci' HF fss) {nv : String × View} (hnv : nv ∈ c.views) {m : Int}
    (hm : m ∈ (pviewOf H nv).members) : ∃ e ∈ Index.all nv.2.idx, (m, e.oid) ∈ L :=
  member_of_pview ctx.lok.ids ctx.lok.members hnv hm

theorem VC.contains (ctx : VC K ts c ci H L na ci' HF fss) {m : Int} {am : Nat} (h : (m, am) ∈ L) {o : Obj}
    (ho : H[am]? = some o) : containsType ts o.ty = true :=
  let ⟨_, hf⟩ := jcoll_type (ctx.lok.coll _ h).1 ho; containsType_of_find hf

theorem VC.memOk (ctx : VC K ts c ci H L na ci' HF fss) {nv : String × View} (hnv : nv ∈ c.views) {m : Int}
    (hm : m ∈ (pviewOf H nv).members) : MemOk ts H HF na fss nv m := by
  obtain ⟨e, he, hq⟩ := ctx.member hnv hm
  obtain ⟨o, o', ho, ho', hok⟩ := ctx.rel (m, e.oid) hq
  refine ⟨e, he, o, o', ho, ho', ctx.fss _ hq, hok.1, hok.2.1, ctx.contains hq ho, ?_,
    -- the sort key: `begin` / `end` of the old object are integers or `None`, which `exp3J` leaves alone
    fun k hk => entryOf_map (fun _ => rfl) rfl (fun _ => rfl) rfl (CC.ObjRel.slot_mapJ hok "begin")
      (CC.ObjRel.slot_mapJ hok "end") hk⟩
  -- the old `sofa` slot is `None` or a sofa and not `None`, so the new one is a sofa
  have hnn : alistGet? o.slots "sofa" ≠ some .none := by
    have := ctx.hmem nv hnv e he
    rwa [Xmi.slot_of ho] at this
  rw [CC.ObjRel.slot_mapJ hok "sofa"]
  cases hv : alistGet? o.slots "sofa" with
  | none => intro h; cases h
  | some w =>
    rcases jcoll_sofa_slot (ctx.lok.coll _ hq).1 ho hv with ⟨vn, e1, _⟩ | e1
    · rw [e1]; intro h; cases h
    · rw [hv, e1] at hnn; exact absurd rfl hnn

end

end JVC

open Cassis.Traverse Cassis.Xmi.RTB

/-- **the written document**: the sofas of the views, the elements of the collected structures in the order of their
    ids, the view records with the ids of the written heap -/
theorem json_written_coll {K : Consts} {ts : TypeSystem} {cass : List Cas} {ci : Nat} {c : Cas} {hp : Heap} {doc : JDoc}
    {st : St} (hc : cass[ci]? = some c) (hwf : RTWf c hp)
    (hsave : saveJson K ts cass ci hp .none = .ok (doc, st))
    (hcoll : ∀ q ∈ st.allFs, JCollFs K ts c ci st.heap q.2)
    (hids : ∀ nv ∈ c.views, ∀ e ∈ Index.all nv.2.idx, (xidOf hp e.oid).isSome = true)
    (hdis : ∀ q ∈ st.allFs, ∀ nv ∈ c.views, q.1 ≠ nv.2.sofa.xid) :
    GCtxJ K ts cass c ci hp st.heap (sortById st.allFs) ∧
    doc.fss = c.views.map (fun p => renderSofa hp p.2.sofa) ++ (sortById st.allFs).map (elemOfJ K ts cass st.heap) ∧
    doc.views = c.views.map (jviewH st.heap) := by
  obtain ⟨hfa, fsElems, hr, hdfss, hdviews, _⟩ := saveJson_parts hc (fun nv hnv => (hwf.text_sofa nv hnv).1) hsave
  have g : GCtxJ K ts cass c ci hp st.heap (sortById st.allFs) :=
    ⟨hc, hwf, trav_collJ K ts ci c hp st hwf hfa hcoll, fun q hq => hdis q (mem_sortById.mp hq)⟩
  have hfs : fsElems = (sortById st.allFs).map (elemOfJ K ts cass st.heap) :=
    renderAll_ok_eq_map K ts cass st.heap _ _ fsElems hr (writer_collJ K ts cass c ci hp st.heap _ g)
  refine ⟨g, hfs ▸ hdfss, ?_⟩
  -- every member has its id before the traversal, so the view records name the ids of the written heap
  rw [hdviews]
  apply List.map_congr_left
  intro nv hnv
  unfold jviewOf jviewH pviewOf
  congr 2
  apply Det.filterMap_congr
  intro e he
  obtain ⟨y, hy⟩ := Option.isSome_iff_exists.mp (hids nv hnv e he)
  show xidOf hp e.oid = xidOf st.heap e.oid
  -- the traversal keeps the ids that are there
  rw [hy, (findAllFs_fut K ts _ hp c.nextXid _ st hfa).shape.xidOf hy]

/-- **the reader on a described document, in any order, over any base heap `hb`.**  `doc'` holds the sofas of the views
    in the order `pre ++ iv :: post` (`iv` the initial view), the elements of the collected structures `L` of the heap `H`
    in the order `L'`, the view records (with the ids of `H`) in the order `τ`; sofas and structures interleaved in any
    way.  The `k`-th structure of `L'` comes to stand at `hb.length + k`; the views come out as `iv :: pre ++ post`.
    The CAS the layers are instantiated with is `c` with its views in that order (`LPJ.withViews`). -/
theorem json_read_perm {K : Consts} {ts : TypeSystem} {cass : List Cas} {c : Cas} {ci : Nat} {hp H : Heap}
    {L : List (Int × Nat)} (g : GCtxJ K ts cass c ci hp H L) (hb : Heap)
    (hmem : ∀ nv ∈ c.views, ∀ e ∈ Index.all nv.2.idx, Xmi.slot H e.oid "sofa" ≠ some .none)
    (hmok : MembersOk c H) (tsIdx ci' : Nat)
    (pre post : List (String × View)) (iv : String × View) (hσ : (pre ++ iv :: post).Perm c.views)
    (hiv : iv.1 = Cas.INITIAL_VIEW) (L' : List (Int × Nat)) (hL' : L'.Perm L)
    (τ : List (String × View)) (hτ : τ.Perm c.views) (doc' : JDoc)
    (hsofas : doc'.fss.filter (fun j => j.ty == SOFA) = (pre ++ iv :: post).map (fun p => renderSofa hp p.2.sofa))
    (hfs : doc'.fss.filter (fun j => j.ty != SOFA) = L'.map (elemOfJ K ts cass H))
    (hviews : doc'.views = τ.map (jviewH H)) :
    ∃ (s1 s : RState) (ld : Loaded) (m : Int),
      sofaPass K ts tsIdx ci' doc'.fss doc'.fss { cas := Cas.empty, heap := hb } = .ok s1 ∧
      fsPass K ts tsIdx doc'.fss s1 = .ok s ∧
      loadJson K ts tsIdx ci' false false hb doc' = .ok ld ∧ ld.ts = ts ∧
      s.fss = sofaEntries ci' (pre ++ iv :: post) ++ fsEntries (naOf hb L') L' ∧
      HeapRel H L' (naOf hb L') (E3J H (naOf hb L') ci') ld.heap ∧
      All2 (ViewRelJ H (naOf hb L')) (iv :: pre ++ post) ld.cas.views ∧
      ld.cas.views.map (viewContent ld.heap) = (iv :: pre ++ post).map (viewContent H) ∧
      ld.cas.nextXid = m + 1 ∧ 0 ≤ m ∧ (∀ q ∈ L, q.1 ≤ m) ∧
      (∀ nv ∈ c.views, nv.2.sofa.xid ≤ m ∧ nv.2.sofa.sofaNum < ld.cas.nextSofaNum) := by
  have hwf := g.wf
  have hvs : (iv :: pre ++ post).Perm c.views :=
    (List.perm_middle (l₁ := pre) (a := iv) (l₂ := post)).symm.trans hσ
  have hwf' : RTWf (LPJ.withViews c (iv :: pre ++ post)) hp :=
    LPJ.rtwf_withViews hwf hvs (by show some iv.1 = _; rw [hiv])
  have hLok' : LOkJ K ts (LPJ.withViews c (iv :: pre ++ post)) ci H L' :=
    LPJ.lokJ_withViews g.lok hvs hwf.names_nodup hL'
  have hsv := LPJ.sameViews_set g.hc hvs hwf.names_nodup
  have hlt : ci < cass.length := (List.getElem?_eq_some_iff.mp g.hc).1
  have g' : GCtxJ K ts (cass.set ci (LPJ.withViews c (iv :: pre ++ post))) (LPJ.withViews c (iv :: pre ++ post)) ci hp H L' :=
    ⟨List.getElem?_set_self hlt, hwf', hLok',
      fun q hq nv hnv => g.dis q (hL'.mem_iff.mp hq) nv (hvs.mem_iff.mp hnv)⟩
  have helem : L'.map (elemOfJ K ts (cass.set ci (LPJ.withViews c (iv :: pre ++ post))) H) =
      L'.map (elemOfJ K ts cass H) :=
    List.map_congr_left (fun q _ => LPJ.elemOfJ_congr hsv K ts H q)
  have hxσ : ((pre ++ iv :: post).map (·.2.sofa.xid)).Nodup := (hσ.map _).nodup_iff.mpr hwf.sofa_ids_nodup
  obtain ⟨s1, hs1, h1heap, h1fss, h1def, h1views, h1id, h1num, h1bound⟩ :=
    SofaPass.sofaPass_anyOrder K ts tsIdx ci' doc'.fss hp hb pre post iv
      (fun nv hnv => sofaOk_of_wf hwf nv (hσ.mem_iff.mp hnv))
      ((hσ.map (·.1)).nodup_iff.mpr hwf.names_nodup) hxσ hiv
  have hs1' : sofaPass K ts tsIdx ci' doc'.fss doc'.fss { cas := Cas.empty, heap := hb } = .ok s1 := by
    rw [sofaPass_eq, hsofas]; exact hs1
  -- the id map holds the sofa entries in the order of the document; they are looked up by id
  have hs : ∀ nv ∈ (LPJ.withViews c (iv :: pre ++ post)).views,
      lookup (sofaEntries ci' (pre ++ iv :: post)) nv.2.sofa.xid = some (.sofa ci' nv.1) :=
    fun nv hnv => lookup_sofaEntries ci' hxσ (List.perm_middle.mem_iff.mpr hnv)
  have hk : ∀ q ∈ L', q.1 ∉ (sofaEntries ci' (pre ++ iv :: post)).map (·.1) := by
    intro q hq hin
    rw [sofaEntries_keys] at hin
    obtain ⟨nv, hnv, e⟩ := List.mem_map.mp hin
    exact g.dis q (hL'.mem_iff.mp hq) nv (hσ.mem_iff.mp hnv) e.symm
  have h1views' : s1.cas.views = bareViews (LPJ.withViews c (iv :: pre ++ post)).views := h1views
  have inv0 : FInvG (sofaEntries ci' (pre ++ iv :: post)) hb H L' (ObjPendJ H (naOf hb L') ci') (DefEntry H) s1.cas
      s1.maxNum s1.maxId [] s1 := by
    refine ⟨rfl, rfl, by rw [h1heap]; rfl, by rw [h1fss]; exact (List.append_nil _).symm, ⟨Int.le_refl _, ?_⟩, ?_, ?_⟩
    · intro q hq; cases hq
    · intro q hq; cases hq
    · intro d hd; rw [h1def] at hd; cases hd
  obtain ⟨s2, hs2, inv⟩ :=
    fsPass_coll g' hb tsIdx ci' s1.cas h1views' hs hk s1.maxNum s1.maxId L' [] s1 rfl inv0
  have hs2' : fsPass K ts tsIdx doc'.fss s1 = .ok s2 := by
    rw [fsPass_eq, hfs, ← helem]; exact hs2
  have hfss : ∀ q ∈ L', lookup s2.fss q.1 = some (.ref (naOf hb L' q.1)) := fun q hq => by
    rw [inv.fss]
    exact lookup_fsEntries _ _ hLok'.nodup hq (hk q hq)
  obtain ⟨HF, hfix, hrel⟩ :=
    fixUps_collJ K ts _ _ ci hp H L' g' hb ci' s2.fss hfss s2.deferred s2.heap inv.defs inv.rel
  have ctx : JVC.VC K ts (LPJ.withViews c (iv :: pre ++ post)) ci H L' (naOf hb L') ci' HF s2.fss :=
    ⟨hLok', fun nv hnv => hmem nv (hvs.mem_iff.mp hnv), LPJ.membersOk_withViews hmok hvs, hrel, hfss⟩
  obtain ⟨v, hvp, hvheap, hvx, hvn, hvall, hvcontent⟩ :=
    ViewsPass.viewsPass_anyOrder (ci' := ci') ctx.mok (fun _ hnv _ hm => ctx.memOk hnv hm) hwf'.names hwf'.names_nodup
      { s2.cas with nextXid := s2.maxId + 1, nextSofaNum := s2.maxNum + 1 }
      (by show s2.cas.views = _; rw [inv.cas]; exact h1views') τ (hτ.trans hvs.symm)
  have hload : loadJson K ts tsIdx ci' false false hb doc' = .ok { ts := ts, cas := v.cas, heap := v.heap } :=
    loadJson_of_passes rfl hs1' hs2' hfix (hviews ▸ hvp)
  have hm1 := inv.maxId.1
  refine ⟨s1, s2, _, s2.maxId, hs1', hs2', hload, rfl, inv.fss, hvheap ▸ hrel, hvall, hvheap ▸ hvcontent, hvx,
    by omega, fun q hq => inv.maxId.2 q (hL'.mem_iff.mpr hq), ?_⟩
  intro nv hnv
  obtain ⟨b1, b2⟩ := h1bound nv (hσ.mem_iff.mpr hnv)
  refine ⟨by omega, ?_⟩
  show _ < v.cas.nextSofaNum
  rw [hvn]
  show _ < s2.maxNum + 1
  rw [inv.num]
  omega

/-- the document as written, over any base heap -/
theorem json_read_coll {K : Consts} {ts : TypeSystem} {cass : List Cas} {c : Cas} {ci : Nat} {hp H : Heap}
    {L : List (Int × Nat)} (g : GCtxJ K ts cass c ci hp H L) (hb : Heap)
    (tsIdx ci' : Nat) (doc : JDoc)
    (hdfss : doc.fss = c.views.map (fun p => renderSofa hp p.2.sofa) ++ L.map (elemOfJ K ts cass H))
    (hdviews : doc.views = c.views.map (jviewH H))
    (hmem : ∀ nv ∈ c.views, ∀ e ∈ Index.all nv.2.idx, Xmi.slot H e.oid "sofa" ≠ some .none)
    (hmok : MembersOk c H) :
    ∃ (ld : Loaded) (m : Int),
      loadJson K ts tsIdx ci' false false hb doc = .ok ld ∧ ld.ts = ts ∧
      HeapRel H L (naOf hb L) (E3J H (naOf hb L) ci') ld.heap ∧
      ViewsRelJ H (naOf hb L) c.views ld.cas.views ∧
      ld.cas.views.map (viewContent ld.heap) = c.views.map (viewContent H) ∧
      ld.cas.nextXid = m + 1 ∧ 0 ≤ m ∧ (∀ q ∈ L, q.1 ≤ m) ∧
      (∀ nv ∈ c.views, nv.2.sofa.xid ≤ m ∧ nv.2.sofa.sofaNum < ld.cas.nextSofaNum) := by
  obtain ⟨iv, rest, hcv, hiv⟩ := g.wf.views_cons
  obtain ⟨e1, e2⟩ := LPJ.filter_parts (fun p : String × View => renderSofa hp p.2.sofa) (elemOfJ K ts cass H) c.views L
    (fun _ _ => rfl) (fun q hq => elemOfJ_notSofa g.lok q hq)
  obtain ⟨_, _, ld, m, _, _, hload, hts, _, hrel, hvall, hvc, rest'⟩ :=
    json_read_perm g hb hmem hmok tsIdx ci' [] rest iv (by rw [List.nil_append, hcv]) hiv L (.refl _)
      c.views (.refl _) doc (by rw [hdfss, e1, hcv]; rfl) (by rw [hdfss, e2]) hdviews
  rw [List.cons_append, List.nil_append, ← hcv] at hvall hvc
  exact ⟨ld, m, hload, hts, hrel, ViewsRelJ.of_all2 hvall, hvc, rest'⟩

end Cassis.Json
