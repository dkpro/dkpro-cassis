/-
A computable test "the XMI round-trip theorem (`Properties/C01RoundTrip.lean`, `xmi_roundtrip_flat`) applies to this
CAS": one Boolean function per hypothesis of the theorem (`Spec/RoundTrip.lean`) and their conjunction `rtAppliesB`.
The functions are proved sound in `Proofs/RoundTripCheckSound.lean`; `Properties/C01Applies.lean` derives the conclusion
of the theorem from `rtAppliesB … = true`.

This file imports specification files only (the compiled driver imports it).
-/
import CassisModel.Spec.RoundTrip

namespace Cassis.Xmi
open Cassis.TS Cassis.Traverse

/-! ### `FlatFeat` / `FlatFs` (sound by `Proofs/RoundTripCheckSound.lean`) -/

def sofaOkB (c : Cas) (ci : Nat) (isAnn : Bool) : Val → Bool
  | .sofa ci' vn => decide (ci' = ci) && (Cas.getViewRec c vn).isSome
  | .none => !isAnn
  | _ => false

def primOkB (range : String) : Val → Bool
  | .none => true
  | .int _ => isIntRange range
  | .str _ => decide (range = "uima.cas.String")
  | .bool _ => decide (range = "uima.cas.Boolean")
  | .float _ => decide (range = "uima.cas.Float") || decide (range = "uima.cas.Double")
  | _ => false

def refOkB (hp : Heap) : Val → Bool
  | .none => true
  | .ref b => (xidOf hp b).isSome && decide (xidOf hp b ≠ some 0)
  | _ => false

def flatFeatB (K : Consts) (ts : TypeSystem) (c : Cas) (ci : Nat) (hp : Heap) (isAnn : Bool) (o : Obj) (f : Feature) : Bool :=
  decide (ResOk f) && decide (f.name ≠ "xmiID") && decide (f.name ≠ "type") && decide (f.name ≠ "self") &&
  decide (f.name ≠ ID) &&
  decide (isPrimitiveArray K f.range = false) && decide (isPrimitiveList K f.range = false) &&
  decide (f.range ≠ FS_ARRAY) && decide (f.range ≠ FS_LIST) &&
  decide (isInstanceOf ts f.range STRING_ARRAY = false) && decide (isInstanceOf ts f.range STRING_LIST = false) &&
  match alistGet? o.slots f.name with
  | none => false
  | some v =>
    (decide (f.name = "sofa") && sofaOkB c ci isAnn v) ||
    (decide (f.name ≠ "sofa") && isPrimitive K ts f.range && primOkB f.range v) ||
    (decide (f.name ≠ "sofa") && !isPrimitive K ts f.range && !isArray K f.range && !isList K f.range &&
      decide (f.range ≠ "uima.cas.Boolean") && decide (f.range ≠ "uima.cas.Double") && decide (f.range ≠ "uima.cas.Float") &&
      refOkB hp v)

def annOkB (c : Cas) (ci : Nat) (o : Obj) : Bool :=
  match alistGet? o.slots "sofa", alistGet? o.slots "begin", alistGet? o.slots "end" with
  | some (.sofa ci' vn), some (.int b), some (.int e) =>
    decide (ci' = ci) &&
    match Cas.getViewRec c vn with
    | some v =>
      match v.sofa.text with
      | some text => decide (0 ≤ b) && decide (0 ≤ e) && decide (b.toNat ≤ text.length) && decide (e.toNat ≤ text.length)
      | none => false
    | none => false
  | _, _, _ => false

/-- `FlatFs K ts c ci hp a` -/
def flatFsB (K : Consts) (ts : TypeSystem) (c : Cas) (ci : Nat) (hp : Heap) (a : Nat) : Bool :=
  match hp[a]? with
  | none => false
  | some o =>
    match find? ts o.ty with
    | none => false
    | some t =>
      decide (t.name = o.ty) && decide (isArray K o.ty = false) && decide (isList K o.ty = false) &&
      decide (t.super ≠ some ARRAY_BASE) && decide (isPrimitiveArray K o.ty = false) && decide (o.ty ≠ FS_ARRAY) &&
      decide (isInstanceOf ts o.ty STRING_ARRAY = false) && decide (o.ty ≠ SOFA) && decide (o.ty ≠ VIEW_T) &&
      decide ((ctorFields t).Nodup) && decide (o.slots.map (·.1) = (ctorFields t).eraseDups) &&
      (allFeatures t).all (fun f => flatFeatB K ts c ci hp (isInstanceOf ts o.ty ANNOTATION) o f) &&
      (!isInstanceOf ts o.ty ANNOTATION || annOkB c ci o)

/-! ### `RTWf` -/

/-- `Offsets.IsScalar cp` -/
def isScalarB (cp : Nat) : Bool := decide (cp < 0xD800) || (decide (0xE000 ≤ cp) && decide (cp < 0x110000))

/-- the fields of `RTWf` that speak about one view: `names`, `text_sofa`, `conv`, `conv_none`, `scalar`, `sofa_ids` -/
def viewWfB (nx : Int) (nv : String × View) : Bool :=
  decide (nv.2.sofa.sofaID = nv.1) &&
  decide (nv.2.sofa.arr = .none) && decide (nv.2.sofa.uri = none) &&
  (match nv.2.sofa.text with
   | some t => decide (nv.2.sofa.conv = some (Offsets.table t)) && t.all isScalarB
   | none => decide (nv.2.sofa.conv = none)) &&
  decide (0 < nv.2.sofa.xid) && decide (nv.2.sofa.xid < nx)

/-- `ids_below` and `ids_pos`: every id in the heap is positive and below the generator -/
def idsOkB (hp : Heap) (nx : Int) : Bool :=
  hp.all (fun o => match o.xid with
    | some x => decide (0 < x) && decide (x < nx)
    | none => true)

/-- `RTWf c hp` -/
def rtWfB (c : Cas) (hp : Heap) : Bool :=
  decide ((c.views.head?).map (·.1) = some Cas.INITIAL_VIEW) &&
  decide ((c.views.map (·.1)).Nodup) &&
  decide ((c.views.map (·.2.sofa.xid)).Nodup) &&
  decide (0 < c.nextXid) &&
  c.views.all (viewWfB c.nextXid) &&
  idsOkB hp c.nextXid

/-! ### `NullOk`, `MembersOk`, and the two inline hypotheses -/

/-- `NullOk ts` -/
def nullOkB (ts : TypeSystem) : Bool :=
  match find? ts NULL_T with
  | some t0 => (allFeatures t0).isEmpty
  | none => false

/-- the sort key of the structure `e` refers to exists -/
def entryOkB (hp : Heap) (e : Index.Entry) : Bool :=
  match hp[e.oid]? with
  | some o =>
    match Cas.entryOf o e.oid with
    | .ok _ => true
    | .error _ => false
  | none => false

/-- type and "has `None` offsets" of the structure `e` refers to -/
def entryKind (hp : Heap) (e : Index.Entry) : Option (String × Bool) :=
  match hp[e.oid]? with
  | some o =>
    match Cas.entryOf o e.oid with
    | .ok k => some (o.ty, decide (k.b = Index.NONE_KEY))
    | .error _ => none
  | none => none

def viewMembersOkB (hp : Heap) (nv : String × View) : Bool :=
  (Index.all nv.2.idx).all (entryOkB hp) &&
  (let ks := (Index.all nv.2.idx).filterMap (entryKind hp)
   ks.all (fun p => ks.all (fun q => !(p.1 == q.1) || p.2 == q.2)))

/-- `MembersOk c hp` -/
def membersOkB (c : Cas) (hp : Heap) : Bool := c.views.all (viewMembersOkB hp)

/-- hypothesis `hmem` of `xmi_roundtrip_flat`: no indexed structure has `sofa = None` -/
def memSofaB (c : Cas) (hp : Heap) : Bool :=
  c.views.all (fun nv => (Index.all nv.2.idx).all (fun e => decide (slot hp e.oid "sofa" ≠ some .none)))

/-- hypothesis `hdis` of `xmi_roundtrip_flat`: structure ids differ from sofa ids -/
def disjointB (allFs : List (Int × Nat)) (c : Cas) : Bool :=
  allFs.all (fun q => c.views.all (fun nv => decide (q.1 ≠ nv.2.sofa.xid)))

/-! ### The test -/

/-- every hypothesis of `xmi_roundtrip_flat` holds for the CAS `cass[ci]` over the heap `hp` -/
def rtAppliesB (K : Consts) (ts : TypeSystem) (cass : List Cas) (ci : Nat) (hp : Heap) : Bool :=
  match cass[ci]? with
  | none => false
  | some c =>
    match saveXmi K ts cass ci hp with
    | .error _ => false
    | .ok (_, st) =>
      rtWfB c hp && nullOkB ts && st.allFs.all (fun q => flatFsB K ts c ci st.heap q.2) && disjointB st.allFs c &&
      memSofaB c st.heap && membersOkB c st.heap

end Cassis.Xmi
