/-
Facts the layers of the XMI round trip with collections share (`RoundTripColl_NOTES.md`, layer "defs"): how the second pass
reads the state after the first (`Slot1.read`: through the writer's equation for the feature), the slot relation `Slot2` on
the usual shapes of value, the ids the writer emits for the elements of an FSArray / the heads of an FSList and their
resolution by the reader, the primitive array attribute read back (`prim_inverse`), the branches of `postFeature` that
leave the heap alone, and what a step of the second pass on one feature is given (`Meets`) and has to yield (`PostDone`;
`Meets.same/.set/.build`).
-/
import CassisModel.Proofs.RoundTripCollStmts
import CassisModel.Proofs.RoundTripCollFrz
import CassisModel.Properties.C01
import CassisModel.Proofs.Lists

namespace Cassis.Xmi
open Cassis.TS Cassis.Traverse Cassis.Lex

section
variable {K : Consts} {ts : TypeSystem} {cass : List Cas} {H hpX : Heap} {na : Int → Nat} {ci' : Nat} {o : Obj}

theorem Read1.attr {f : Feature} {s : String} {w : Val} (h : Read1 K hpX f (some s) [] w) (hn : f.name ≠ "sofa") :
    w = .str s := by
  rw [h.1 rfl]; simp only [attrVal, hn, if_false]

/-- the one way the second pass reads `Slot1`: with the writer's equation for this feature -/
theorem Slot1.read {t : TypeRec} {f : Feature} {v w : Val} {av : Option String} {ks : List (Option String)}
    (h : Slot1 K ts cass H hpX o f.name v w) (hl : isListV v = false)
    (ht : find? ts o.ty = some t) (hf : f ∈ allFeatures t) (hnd : (ctorFields t).Nodup)
    (hr : ∀ a, H[a]? = some o → AnnSofa cass (isInstanceOf ts o.ty ANNOTATION) o →
      renderFeature K ts cass H a (isInstanceOf ts o.ty ANNOTATION) f = .ok (featOut f av ks)) :
    Read1 K hpX f av ks w := by
  obtain ⟨a, t', f', ho, ht', hf', hn, hann, hR⟩ := h.2 hl
  cases ht.symm.trans ht'
  cases Det.inj_of_nodup_map Feature.name _ hnd hf' hf hn
  rw [fAttr_of (hr a ho hann), fKids_of (hr a ho hann)] at hR
  exact hR

theorem Slot1.none {t : TypeRec} {f : Feature} {w : Val} (h : Slot1 K ts cass H hpX o f.name .none w)
    (ht : find? ts o.ty = some t) (hf : f ∈ allFeatures t) (hnd : (ctorFields t).Nodup) (n1 : f.name ≠ "xmiID")
    (n2 : f.name ≠ "type") (hv : alistGet? o.slots f.name = some .none) : w = .none :=
  (h.read rfl ht hf hnd (av := Option.none) (ks := []) fun a ho _ => by
    rw [renderFeature_none K ts cass H a _ f n1 n2 (by rw [Xmi.slot_of ho _, hv]; rfl)]; rfl).1 rfl

theorem Slot2.none (n : String) : Slot2 K ts cass H na ci' hpX o n .none .none :=
  ⟨0, rfl, nofun⟩

theorem Slot2.inl {t : TypeRec} {f : Feature} {c addr : Nat} (ht : find? ts o.ty = some t) (hf : f ∈ allFeatures t)
    (hnd : (ctorFields t).Nodup) (hi : isInline K f = true)
    (hat : (isArray K f.range = true ∧ ∃ ev : Val, slot H c "elements" = some ev ∧ ArrAt hpX addr (elemsExp H na ev)) ∨
      (isArray K f.range = false ∧ ∃ hs : List Val, collectList H (H.length + 1) (.ref c) = .ok hs ∧
        ListAt hpX addr (hs.map (headExp H na)) ∧ hs.length < hpX.length))
    (hty : ChainC.NewFor K hpX f.range addr) :
    Slot2 K ts cass H na ci' hpX o f.name (.ref c) (.ref addr) := by
  refine ⟨addr, ?_, fun c' hc' _ => ?_⟩
  · rw [E2c_inl ((CF.inlineSlot_eq ht hnd hf).trans hi)]
  · cases hc'
    refine ⟨⟨t, f, ht, hf, rfl, hat⟩, fun t' g ht' hg hn => ?_⟩
    cases ht.symm.trans ht'
    cases Det.inj_of_nodup_map Feature.name _ hnd hg hf hn
    exact hty

theorem Slot2.plain {n : String} {v : Val} (hni : ∀ c, v = .ref c → inlineSlot K ts o n = false)
    (hnl : isListV v = false) : Slot2 K ts cass H na ci' hpX o n v (E2 ts cass H na ci' o n v) := by
  refine ⟨0, ?_, fun c hc hi => (by cases (hni c hc).symm.trans hi)⟩
  exact (E2c_flat ⟨hnl, hni⟩).symm

theorem Slot2.list {n : String} {v : Val} (hl : isListV v = true) :
    Slot2 K ts cass H na ci' hpX o n v (elemsExp H na v) :=
  ⟨0, (by cases v <;> first | rfl | cases hl), fun c hc => (by rw [hc] at hl; cases hl)⟩

end

theorem flatTok_read {K : Consts} {ts : TypeSystem} {cass : List Cas} {c : Cas} {ci : Nat} {H : Heap} {isAnn : Bool}
    {o : Obj} {f : Feature} {v : Val} (hc : cass[ci]? = some c) (hflat : FlatFeat K ts c ci H isAnn o f)
    (hv : alistGet? o.slots f.name = some v) :
    attrVal f.name (flatTok cass H isAnn o f.name v) = exp1 cass H isAnn o f.name v := by
  obtain ⟨v', hv', hcase⟩ := hflat.2.2.2.2.2.2.2.2.2.2.2
  cases hv.symm.trans hv'
  -- off the `sofa` feature the reader keeps the string
  have plain : f.name ≠ "sofa" → (∀ ci vn, v ≠ .sofa ci vn) →
      attrVal f.name (flatTok cass H isAnn o f.name v) = exp1 cass H isAnn o f.name v := by
    intro hn hvs
    cases v with
    | sofa ci vn => exact absurd rfl (hvs ci vn)
    | ref b => unfold flatTok exp1; dsimp only; cases xidOf H b <;> simp only [attrVal, hn, if_false, Option.map]
    | _ => simp only [flatTok, exp1, attrVal, hn, if_false]
  rcases hcase with ⟨hn, hsofa⟩ | ⟨hn, _, hprim⟩ | ⟨hn, _, _, _, _, _, _, href⟩
  · rw [hn]
    rcases hsofa with ⟨vn, rfl, hsome⟩ | ⟨rfl, _⟩
    · obtain ⟨view, hg⟩ := Option.isSome_iff_exists.mp hsome
      simp only [flatTok, exp1, hc, Option.bind_some, hg, Option.map_some, attrVal, if_true, parseInt_showInt_aux]
    · rfl
  · apply plain hn
    rcases hprim with h | ⟨_, i, h⟩ | ⟨_, s, h⟩ | ⟨_, b, h⟩ | ⟨_, t, h⟩ <;> subst h <;> intro _ _ hh <;> cases hh
  · apply plain hn
    rcases href with h | ⟨b, h, _⟩ <;> subst h <;> intro _ _ hh <;> cases hh

theorem CollFeat.notList {K : Consts} {ts : TypeSystem} {c : Cas} {ci : Nat} {H : Heap} {isAnn : Bool} {o : Obj}
    {f : Feature} (hf : CollFeat K ts c ci H isAnn o f) {v : Val} (hv : alistGet? o.slots f.name = some v) :
    isListV v = false := by
  rcases hf with hflat | ⟨_, hsh | hin⟩
  · exact (hflat.plain hv).2
  · obtain ⟨_, _, _, _, _, _, v', hv', hval⟩ := hsh
    cases hv.symm.trans hv'
    rcases hval with rfl | ⟨b, rfl, _⟩ <;> rfl
  · obtain ⟨_, v', hv', hk⟩ := hin
    cases hv.symm.trans hv'
    rcases hk with ⟨_, _, h⟩ | ⟨_, _, h⟩ | ⟨_, _, h⟩ | ⟨_, _, h⟩ | ⟨_, _, h⟩ | ⟨_, _, h⟩ | ⟨_, _, h⟩
    iterate 3 rcases h with rfl | ⟨_, _, rfl, _⟩ <;> rfl
    iterate 4 rcases h with rfl | ⟨_, _, rfl, _⟩ <;> rfl

def CAR.idOf (H : Heap) (b : Nat) : Int := (xidOf H b).getD 0

open CAR in
section
variable (H : Heap) (fss : List (Int × Nat)) (na : Int → Nat) (l : List Nat) (h : ∀ b ∈ l, Resolves H fss na b)
include h

theorem idToks : l.map (idTok H) = (l.map (idOf H)).map showInt := by
  rw [List.map_map]
  refine List.map_congr_left fun b hb => ?_
  obtain ⟨x, hx, _⟩ := h b hb
  simp only [idTok, idOf, hx, Function.comp, Option.getD_some]

theorem fs_resolve :
    resolveIds fss (splitWs (joinSp (l.map (idTok H)))) = .ok (l.map (fun b => na (idOf H b))) := by
  rw [idToks H fss na l h]
  refine resolveIds_showIds fss _ _ ?_
  induction l with
  | nil => exact .nil
  | cons b rest ih =>
    refine .cons ?_ (ih fun c hc => h c (List.mem_cons_of_mem _ hc))
    obtain ⟨x, hx, hlk⟩ := h b List.mem_cons_self
    simp only [idOf, hx, Option.getD_some]
    exact hlk

theorem fs_elemsExp :
    Val.refs ((l.map (fun b => na (idOf H b))).map some) = elemsExp H na (.refs (l.map some)) := by
  show _ = Val.refs ((l.map some).map (fun r => r.bind (fun b => (xidOf H b).map na)))
  rw [List.map_map, List.map_map]
  congr 1
  refine List.map_congr_left fun b hb => ?_
  obtain ⟨x, hx, _⟩ := h b hb
  simp only [Function.comp, Option.bind_some, idOf, hx, Option.map_some, Option.getD_some]

theorem fs_headExp : (l.map Val.ref).map (headExp H na) = (l.map (fun b => na (idOf H b))).map Val.ref := by
  rw [List.map_map, List.map_map]
  refine List.map_congr_left fun b hb => ?_
  obtain ⟨x, hx, _⟩ := h b hb
  simp only [Function.comp, headExp, idOf, hx, Option.getD_some]

end

theorem CG1.xidStr_idTok {H : Heap} {b : Nat} (h : RefOk H b) : xidStr H b = .ok (idTok H b) := by
  have hx := h.1
  unfold idTok xidOf at *
  unfold xidStr
  cases hb : H[b]? with
  | none => rw [hb] at hx; cases hx
  | some ob =>
    rw [hb] at hx
    simp only [Option.bind_some] at hx ⊢
    cases hxx : ob.xid with
    | none => rw [hxx] at hx
    | some x => rfl

theorem CG1.refIds_ok (H : Heap) : ∀ l : List Nat, (∀ b ∈ l, RefOk H b) →
    refIds H (l.map some) = .ok (l.map (idTok H))
  | [], _ => rfl
  | b :: l, h => by
    simp only [List.map_cons, refIds, xidStr_idTok (h b List.mem_cons_self),
      refIds_ok H l (fun y hy => h y (List.mem_cons_of_mem _ hy)), bind, Except.bind, pure, Except.pure]

theorem CG1.showPrimArray_ok {r : String} {ev : Val} (h : PrimElems r ev) :
    ev ≠ .none ∧ ∃ s : String, showPrimArray r ev = .ok s := by
  rcases h with rfl | ⟨_, l, rfl⟩ | ⟨_, l, rfl, _⟩ | ⟨_, l, rfl⟩ | ⟨_, l, rfl, _⟩
  · exact ⟨nofun, _, rfl⟩
  iterate 2
    refine ⟨nofun, ?_⟩
    simp only [showPrimArray]
    split <;> exact ⟨_, rfl⟩
  iterate 2 exact ⟨nofun, _, rfl⟩

theorem CAR.primElems_list {ty : String} {ev : Val} (h : PrimElems ty ev) : isListV ev = true := by
  rcases h with rfl | ⟨_, l, rfl⟩ | ⟨_, l, rfl, _⟩ | ⟨_, l, rfl⟩ | ⟨_, l, rfl, _⟩ <;> rfl

theorem CAR.show_ints_nil (ty : String) : showPrimArray ty (.ints []) = .ok "" := by
  simp only [showPrimArray]
  split <;> rfl

/-- the attribute of a primitive array (not StringArray) is read back as the expected `elements`: per element kind the
    round trip of `Properties/C01`, the empty list of any kind coming back as `[]` -/
theorem prim_inverse (H : Heap) (na : Int → Nat) {ty : String} {ev : Val} {s : String} (hty : PrimArrTy ty)
    (hev : PrimElems ty ev) (hs : showPrimArray ty ev = .ok s) :
    parsePrimArrayStr ty s = .ok (elemsExp H na ev) := by
  have hempty : ∀ ev', showPrimArray ty ev' = .ok "" → showPrimArray ty ev' = .ok s →
      parsePrimArrayStr ty s = .ok (.refs []) := by
    intro ev' h1 h2
    cases h1.symm.trans h2
    refine emptyArray_roundtrip ty ?_
    rcases hty with (rfl | rfl | rfl) | rfl | rfl | (rfl | rfl) <;> simp
  rcases hev with rfl | ⟨hi, l, rfl⟩ | ⟨hb, l, rfl, hr⟩ | ⟨hb, l, rfl⟩ | ⟨hf, l, rfl, htok⟩
  · exact hempty _ rfl hs
  · cases l with
    | nil => exact hempty _ (CAR.show_ints_nil ty) hs
    | cons i l => exact intArray_roundtrip ty hi (i :: l) (List.cons_ne_nil _ _) s hs
  · cases l with
    | nil => exact hempty _ (CAR.show_ints_nil ty) hs
    | cons i l =>
      subst hb
      -- the bytes are natural numbers below 256
      have hl : (i :: l) = ((i :: l).map Int.toNat).map Int.ofNat := by
        rw [List.map_map]
        conv => lhs; rw [← List.map_id (i :: l)]
        refine List.map_congr_left fun b hb => ?_
        exact (Int.toNat_of_nonneg (hr b hb).1).symm
      have hlt : ∀ b ∈ (i :: l).map Int.toNat, b < 256 := by
        intro b hb
        obtain ⟨c, hc, rfl⟩ := List.mem_map.1 hb
        have := hr c hc
        omega
      show parsePrimArrayStr "uima.cas.ByteArray" s = .ok (.ints (i :: l))
      rw [hl] at hs ⊢
      exact byteArray_roundtrip _ hlt (by simp) s hs
  · cases l with
    | nil => exact hempty _ rfl hs
    | cons i l => subst hb; exact boolArray_roundtrip (i :: l) (List.cons_ne_nil _ _) s hs
  · cases l with
    | nil => exact hempty _ rfl hs
    | cons i l => exact floatArray_roundtrip ty hf (i :: l) htok (List.cons_ne_nil _ _) s hs

namespace CIL

theorem mapM_ok_inv {α β} (f : α → Except Err β) (g : α → β) (l : List α) (r : List β)
    (h : ∀ x ∈ l, f x = .ok (g x)) (hr : l.mapM f = .ok r) : r = l.map g := by
  induction l generalizing r with
  | nil => cases hr; rfl
  | cons x l ih =>
    rw [List.mapM_cons, h x List.mem_cons_self] at hr
    cases hl : l.mapM f with
    | error e => rw [hl] at hr; cases hr
    | ok r' =>
      rw [hl] at hr; cases hr
      rw [List.map_cons, ih r' (fun y hy => h y (List.mem_cons_of_mem _ hy)) hl]

end CIL

section
variable (K : Consts) (ts : TypeSystem) (tsIdx ci' : Nat) (sofas : List (Int × PSofa)) (fss : List (Int × Nat))
  (hpX : Heap) (a : Nat) (ty : String) (f : Feature) (o1 : Obj)

/-- nothing was written for a feature that is neither primitive nor the sofa -/
theorem postFeature_none (hname : f.name ≠ "sofa") (hprim : isPrimitive K ts f.range = false)
    (h1 : hpX[a]? = some o1) (h2 : alistGet? o1.slots f.name = some .none) :
    postFeature K ts tsIdx ci' sofas fss hpX a ty false f = .ok hpX := by
  unfold postFeature
  simp only [slot_getD_eq h1 h2, beq_eq_false_iff_ne.2 hname, Bool.false_eq_true, if_false, hprim]
  split
  · rfl
  · split
    · rfl
    · split <;> rfl

/-- the inlined StringArray / StringList was built in the first pass already (child elements) -/
theorem postFeature_built (addr : Nat) (hname : f.name ≠ "sofa") (hprim : isPrimitive K ts f.range = false)
    (hty : isPrimitiveArray K ty = false) (hr : (isPrimitiveArray K f.range || isPrimitiveList K f.range) = true)
    (hm : f.multi.getD false = false)
    (h1 : hpX[a]? = some o1) (h2 : alistGet? o1.slots f.name = some (.ref addr)) :
    postFeature K ts tsIdx ci' sofas fss hpX a ty false f = .ok hpX := by
  unfold postFeature
  simp only [slot_getD_eq h1 h2, beq_eq_false_iff_ne.2 hname, Bool.false_eq_true, if_false, hprim, hty, hm, Bool.false_and,
    Bool.not_false, Bool.and_true]
  cases hpa : isPrimitiveArray K f.range
  · rw [hpa, Bool.false_or] at hr
    simp only [hr, Bool.false_eq_true, if_false, if_true]; rfl
  · simp only [if_true]; rfl

end

theorem StepX.of_step {hpX hpY : Heap} {a : Nat} {n : String} {w : Val} (h : Step hpX hpY a n w) :
    StepX hpX hpY a n w :=
  ⟨[], fun _ h => (by cases h), by rw [List.append_nil]; exact h⟩

theorem StepX.ext {hpX hpY : Heap} {a : Nat} {n : String} {w : Val} (h : StepX hpX hpY a n w) : Ext hpX hpY a := by
  obtain ⟨t, _, hlen, hframe, _⟩ := h
  exact ⟨by rw [hlen, List.length_append]; omega, fun b hb hne => by
    rw [hframe b hne, List.getElem?_append_left hb]⟩

theorem StepX.toFrz {hpX hpY : Heap} {a : Nat} {n : String} {w : Val} {o' : Obj} (h : StepX hpX hpY a n w)
    (h1 : hpX[a]? = some o') (hx : o'.xid ≠ none) : Frz hpX hpY :=
  h.ext.toFrz h1 hx

/-- new objects without id are appended, then the slot is set to refer to one of them: they are all still there -/
theorem build_set {hpX : Heap} {a : Nat} {o : Obj} {n : String} {w : Val} (nodes : List Obj) (l : Nat)
    (ho : hpX[a]? = some o) (hx : o.xid ≠ none) (hw : alistGet? o.slots n = some w)
    (hn : ∀ ob ∈ nodes, ob.xid = none) :
    ∃ hpY, Heap.setSlot (hpX ++ nodes) a n (.ref l) = .ok hpY ∧ StepX hpX hpY a n (.ref l) ∧
      Frz (hpX ++ nodes) hpY := by
  have ho2 : (hpX ++ nodes)[a]? = some o := by
    rw [List.getElem?_append_left (List.getElem?_eq_some_iff.mp ho).1]; exact ho
  obtain ⟨hpY, h1, h2⟩ := setSlot_step (.ref l) ho2 hw
  refine ⟨hpY, h1, ⟨nodes, hn, h2⟩, ?_⟩
  rw [Heap.setSlot_existing _ ho2 hw] at h1
  cases h1
  exact Frz.set ho2 hx

/-- the second pass on feature `f` of the new object at `a'` (old object `o`, old value `v`; `isStr`: the structure is a
    StringArray) succeeds, by a step `StepX`, and leaves `Slot2` -/
def PostDone (K : Consts) (ts : TypeSystem) (cass : List Cas) (H : Heap) (na : Int → Nat) (tsIdx ci' : Nat)
    (sofas : List (Int × PSofa)) (fss : List (Int × Nat)) (isStr : Bool) (hpX : Heap) (a' : Nat) (o : Obj) (f : Feature)
    (v : Val) : Prop :=
  ∃ (hpY : Heap) (w' : Val), postFeature K ts tsIdx ci' sofas fss hpX a' o.ty isStr f = .ok hpY ∧
    StepX hpX hpY a' f.name w' ∧ Slot2 K ts cass H na ci' hpY o f.name v w'

/-- how the second pass meets feature `f` of the old object `o` (value `v`): the slot of the counterpart `o'` (at `a'` in
    `hpX`) holds `w`, as the first pass left it.  The loop over the features hands this to every step. -/
structure Meets (K : Consts) (ts : TypeSystem) (cass : List Cas) (H hpX : Heap) (o : Obj) (f : Feature) (a' : Nat)
    (o' : Obj) (v w : Val) : Prop where
  new : hpX[a']? = some o'
  xid : o'.xid ≠ none
  old : alistGet? o.slots f.name = some v
  slot : alistGet? o'.slots f.name = some w
  s1 : Slot1 K ts cass H hpX o f.name v w

section
variable {K : Consts} {ts : TypeSystem} {cass : List Cas} {H : Heap} {na : Int → Nat} {tsIdx ci' : Nat}
  {sofas : List (Int × PSofa)} {fss : List (Int × Nat)} {isStr : Bool} {hpX : Heap} {a' : Nat} {o o' : Obj} {f : Feature}
  {v w : Val} (m : Meets K ts cass H hpX o f a' o' v w)
include m

theorem Meets.same (hpf : postFeature K ts tsIdx ci' sofas fss hpX a' o.ty isStr f = .ok hpX)
    (hs2 : Slot2 K ts cass H na ci' hpX o f.name v w) : PostDone K ts cass H na tsIdx ci' sofas fss isStr hpX a' o f v :=
  ⟨hpX, w, hpf, .of_step (Step.same m.new m.slot), hs2⟩

theorem Meets.set {w' : Val}
    (hpf : postFeature K ts tsIdx ci' sofas fss hpX a' o.ty isStr f = Heap.setSlot hpX a' f.name w')
    (hs2 : ∀ hpY, Slot2 K ts cass H na ci' hpY o f.name v w') :
    PostDone K ts cass H na tsIdx ci' sofas fss isStr hpX a' o f v := by
  obtain ⟨hpY, hset, hstep⟩ := setSlot_step w' m.new m.slot
  exact ⟨hpY, w', hpf.trans hset, .of_step hstep, hs2 hpY⟩

theorem Meets.build {nodes : List Obj} {l : Nat}
    (hpf : postFeature K ts tsIdx ci' sofas fss hpX a' o.ty isStr f = Heap.setSlot (hpX ++ nodes) a' f.name (.ref l))
    (hn : ∀ ob ∈ nodes, ob.xid = none)
    (hs2 : ∀ hpY, Frz (hpX ++ nodes) hpY → Slot2 K ts cass H na ci' hpY o f.name v (.ref l)) :
    PostDone K ts cass H na tsIdx ci' sofas fss isStr hpX a' o f v := by
  obtain ⟨hpY, h1, h2, h3⟩ := build_set nodes l m.new m.xid m.slot hn
  exact ⟨hpY, .ref l, hpf.trans h1, h2, hs2 hpY h3⟩

theorem Meets.none {t : TypeRec} (ht : find? ts o.ty = some t) (hf : f ∈ allFeatures t) (hnd : (ctorFields t).Nodup)
    (n1 : f.name ≠ "xmiID") (n2 : f.name ≠ "type") (hname : f.name ≠ "sofa") (hprim : isPrimitive K ts f.range = false)
    (e : v = .none) : PostDone K ts cass H na tsIdx ci' sofas fss false hpX a' o f v := by
  subst e
  cases m.s1.none ht hf hnd n1 n2 m.old
  exact m.same (postFeature_none K ts tsIdx ci' sofas fss hpX a' o.ty f o' hname hprim m.new m.slot) (Slot2.none _)

end

end Cassis.Xmi
