/-
Non-vacuity of `Properties/C03DocJson.lean` and `Properties/C03DocWrite.lean` on the instance `Xmi.Demo` of
`Proofs/InstancesFlat.lean` (`(0, 2)` indexed, `(2, 3)` only referenced, over `a😀b`) and on a second one with a type
`x.Span` under TOP that has integer features `begin` / `end` of its own.
-/
import CassisModel.Proofs.RoundTripJsonDemo
import CassisModel.Proofs.OffsetsDocSaved
import CassisModel.Proofs.Offsets
import CassisModel.Proofs.OffsetsDocJsonReader

namespace Cassis.OffsetsDoc.Demo
open Cassis Cassis.TS Cassis.Xmi Cassis.Json Cassis.Traverse Cassis.Xmi.Demo Cassis.OffsetsDoc Cassis.Lex

/-! ### the oracle on the text `a😀b` -/

example : extOffset txt 0 = 0 ∧ extOffset txt 1 = 1 ∧ extOffset txt 2 = 3 ∧ extOffset txt 3 = 4 := by decide
example : extOffset txt (-1) = -1 ∧ extOffset txt 9 = 9 := by decide

def jSofa : JFs :=
  { id := some 1, ty := SOFA,
    feats := [("sofaNum", .int 1), ("sofaID", .str "_InitialView"), ("mimeType", .str "text/plain"),
              ("sofaString", .str (docText txt))] }
def s0 : RState := { cas := Cas.empty, heap := [] }

theorem jSofa_ok : (parseSofa 0 s0 jSofa).toOption.isSome = true := by decide +kernel
theorem jSofa_id : sofaIdOf jSofa = some "_InitialView" := by decide +kernel
theorem jSofa_text : (jSofa.feats.find? (fun p => p.1 == "sofaString")).map (·.2) = some (.str (docText txt)) := rfl
theorem txt_scalar : ∀ c ∈ txt, Offsets.IsScalar c := by decide

def viewL : View := (Cas.getViewRec casL "_InitialView").getD default

theorem tok_find : find? demoTS' "x.Tok" = some tokRec := offsetsDemo_evals.tokFind
theorem tok_getType : getType demoTS' "x.Tok" = .ok tokRec := TS.getType_of_find tok_find
theorem tok_begin : fBegin ∈ allFeatures tokRec := offsetsDemo_evals.tokBegin
theorem tok_end : fEnd ∈ allFeatures tokRec := offsetsDemo_evals.tokEnd
theorem tok_ann : isInstanceOf demoTS' "x.Tok" ANNOTATION = true := offsetsDemo_evals.tokAnn
theorem tok_noarr : isPrimitiveArray K "x.Tok" = false ∧ "x.Tok" ≠ FS_ARRAY := by decide +kernel
theorem int_prim : isPrimitive K demoTS' "uima.cas.Integer" = true := offsetsDemo_evals.intPrim
theorem int_super : superOf demoTS' "uima.cas.Integer" = some TOP := offsetsDemo_evals.intSuper

theorem viewL_get : Cas.getViewRec casL "_InitialView" = some viewL := by decide +kernel
theorem viewL_text : viewL.sofa.text = some txt := by decide +kernel
theorem viewL_conv : viewL.sofa.conv = some (Offsets.table txt) := by decide +kernel
theorem sofaL_ok : SofaConvOk viewL.sofa := by
  intro t ht
  rw [viewL_text] at ht
  cases ht
  exact Or.inl viewL_conv

theorem allFs_json {doc : JDoc} {st : St} (h : saveJson K demoTS' [casL] 0 hpL .none = .ok (doc, st)) :
    st.allFs = [(2, 0), (3, 1)] :=
  (Json.Demo.save_stJ h).2

theorem allFs_xmi {doc : XDoc} {st : St} (h : saveXmi K demoTS' [casL] 0 hpL = .ok (doc, st)) :
    st.allFs = [(2, 0), (3, 1)] :=
  (save_st h).2

theorem saveJson_ok : ∃ doc st, saveJson K demoTS' [casL] 0 hpL .none = .ok (doc, st) :=
  let ⟨r, hr, _⟩ := Det.ok_of_toOption_map Json.Demo.save_litJ
  ⟨r.1, r.2, hr⟩

theorem saveXmi_ok : ∃ doc st, saveXmi K demoTS' [casL] 0 hpL = .ok (doc, st) :=
  let ⟨r, hr, _⟩ := Det.ok_of_toOption_map save_lit
  ⟨r.1, r.2, hr⟩

/-! ### a structure that is not an annotation, with integer features `begin` / `end` of its own -/

theorem span_find : find? tsP "x.Span" = some spanRec := offsetsDemo_evals.spanFind
theorem span_getType : getType tsP "x.Span" = .ok spanRec := TS.getType_of_find span_find
theorem span_begin : gBegin ∈ allFeatures spanRec := offsetsDemo_evals.spanBegin
theorem span_notann : isInstanceOf tsP "x.Span" ANNOTATION = false := offsetsDemo_evals.spanNotAnn
theorem span_noarr : isPrimitiveArray K "x.Span" = false ∧ "x.Span" ≠ FS_ARRAY := by decide +kernel
theorem intP_super : superOf tsP "uima.cas.Integer" = some TOP := offsetsDemo_evals.intSuper_tsP

theorem saveP_json : (saveJson K tsP [casP] 0 hpP .none).toOption.map (fun r => r.2.allFs) = some [(3, 0)] :=
  offsetsDemo_evals.allFsJson
theorem saveP_xmi : (saveXmi K tsP [casP] 0 hpP).toOption.map (fun r => r.2.allFs) = some [(3, 0)] :=
  offsetsDemo_evals.allFsXmi

/-! ### the text is replaced: the written offsets follow the new text -/

/-- in memory `(0, 2)` and `(2, 3)`; over `a😀b` the documents carry `(0, 3)`, `(3, 4)`, over `😀😀b` they carry
    `(0, 4)`, `(4, 5)` -/
example : ((saveXmi K demoTS' [casL] 0 hpL).toOption.map (fun r => (r.1.filter (·.ty == "x.Tok")).map (·.attrs))) =
    some [[("xmi:id", "2"), ("n", "7"), ("next", "3"), ("begin", "0"), ("end", "3"), ("sofa", "1")],
          [("xmi:id", "3"), ("next", "2"), ("begin", "3"), ("end", "4"), ("sofa", "1")]] := offsetsDemo_evals.attrs
example : ((saveXmi K demoTS' [casR] 0 hpL).toOption.map (fun r => (r.1.filter (·.ty == "x.Tok")).map (·.attrs))) =
    some [[("xmi:id", "2"), ("n", "7"), ("next", "3"), ("begin", "0"), ("end", "4"), ("sofa", "1")],
          [("xmi:id", "3"), ("next", "2"), ("begin", "4"), ("end", "5"), ("sofa", "1")]] := offsetsDemo_evals.attrs_casR

end Cassis.OffsetsDoc.Demo
