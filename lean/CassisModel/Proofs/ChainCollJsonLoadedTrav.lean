/-
C16 with collections, the converse chain: the heap the JSON reader builds simulates the written one on the collected
structures (`hsim_of_relJ`, `ChainCollJsonCore.lean`), so whatever a traversal pushes from a written structure it pushes,
as counterparts, from the loaded one — for any options (`JLd.succs_copy`).  With the options `{}` of the XMI writer: the
traversal of the loaded CAS succeeds without touching the heap and what it collects satisfies `LOkC` (`JLd.traversal`);
every structure the XMI writer would collect from the CAS written first (`stx`: the traversal without the inlined
collection objects, on the heap after the JSON writer's id assignment) is one of the structures the JSON writer collected,
and its counterpart is collected by the XMI writer from the loaded CAS (`JLd.complete`).
-/
import CassisModel.Proofs.ChainCollJsonLoadedFrag
import CassisModel.Properties.C04

namespace Cassis.ChainC
open Cassis.TS Cassis.Traverse Cassis.Xmi Cassis.Json Cassis.Json.CC

section
variable {K : Consts} {ts : TypeSystem} {c : Cas} {ci : Nat} {H : Heap} {L : List (Int × Nat)} {ci' : Nat}
  {ld : Json.Loaded}

theorem JLd.succs_copy (x : JLd K ts c ci H L ci' ld) {op : Opts} {q : Int × Nat} (hq : q ∈ L) {t : TypeRec}
    {ps : List Nat} {n : Nat} (h : nodeSuccs K ts op H [] (H.length + 1) q.2 t = .ok (ps, n)) :
    ∃ ps', nodeSuccs K ts op ld.heap [] (ld.heap.length + 1) (naOf H L q.1) t = .ok (ps', n) ∧ PRel (Cp H L) ps ps' :=
  let ⟨ps', h', hl⟩ := nodeSuccs_lrel (hsim_of_relJ x.lok.closed x.lok.closedE x.rel) ⟨q, hq, rfl, rfl⟩ (by have := len_lt x.rel hq; omega) h
  ⟨ps', h', hl.prel⟩

/-- **the traversal of the XMI writer on the CAS loaded from JSON** -/
theorem JLd.traversal (x : JLd K ts c ci H L ci' ld) (hnx : 0 < ld.cas.nextXid) :
    ∃ st2 : St, findAllFs K ts {} ld.heap ld.cas.nextXid (defaultSeeds ld.cas) = .ok st2 ∧ st2.heap = ld.heap ∧
      (∀ r ∈ st2.allFs, ∃ q ∈ L, r = (q.1, naOf H L q.1)) ∧
      LOkC K ts ld.cas ci' ld.heap (sortById st2.allFs) := by
  obtain ⟨st2, hfa, hheap, hsub⟩ := findAllFs_ok_of_closed_ids K ts {} ld.heap ld.cas.nextXid (defaultSeeds ld.cas)
    (fun a => ∃ q ∈ L, a = naOf H L q.1) (fun a ha => x.ldViews.seed_fwd ha)
    (by
      rintro a ⟨q, hq, rfl⟩
      obtain ⟨o, t, ps, n, ho, ht, hnode, _⟩ := CT.nodeSuccs_coll (x.collx q hq)
      obtain ⟨ps', hns, hps⟩ := x.succs_copy hq hnode
      obtain ⟨o0, o', ho0, ho', hty, _⟩ := x.obj hq
      rw [ho] at ho0; cases ho0
      exact ⟨o', t, ps', n, ho', by rw [hty]; exact getType_of_find ht, hns, fun b hb =>
        let ⟨_, _, q', hq', _, e⟩ := hps.2 b hb; ⟨q', hq', e⟩⟩)
    (by
      rintro a ⟨q, hq, rfl⟩
      rw [x.rel.xid hq]
      nofun)
    (by
      rintro a b ⟨q, hq, rfl⟩ ⟨q', hq', rfl⟩ h
      rw [x.rel.xid hq, x.rel.xid hq'] at h
      rw [Option.some.inj h])
  have hall : ∀ r ∈ st2.allFs, ∃ q ∈ L, r = (q.1, naOf H L q.1) := by
    intro r hr
    obtain ⟨q, hq, hr2⟩ := hsub r hr
    have h1 := findAllFs_ids K ts {} ld.heap _ _ st2 hnx hfa r.1 r.2 hr
    rw [hheap, hr2, x.rel.xid hq] at h1
    exact ⟨q, hq, Prod.ext (Option.some.inj h1.1).symm hr2⟩
  have hnz : ∀ q ∈ L, xidOf st2.heap (naOf H L q.1) ≠ some 0 := fun q hq => by
    rw [hheap]; exact (x.refOk_new hq).2
  refine ⟨st2, hfa, hheap, hall, ?_⟩
  have := lokC_of_findAllFs (ci := ci') hfa hnx
    (fun r hr => by obtain ⟨q, hq, rfl⟩ := hall r hr; rw [hheap]; exact x.coll_new hq)
    (fun a ha => by obtain ⟨q, hq, rfl⟩ := x.ldViews.seed_fwd ha; exact hnz q hq)
    (fun r hr b hb => by
      -- a target of a counterpart is pushed from it, hence the counterpart of something pushed from the written structure
      obtain ⟨q, hq, rfl⟩ := hall r hr
      rw [hheap] at hb
      obtain ⟨o, t, ps, n, ho, ht, hnode, _⟩ := CT.nodeSuccs_coll (x.collx q hq)
      obtain ⟨ps', hns, hps⟩ := x.succs_copy hq hnode
      obtain ⟨o1, t1, ps1, n1, ho1, ht1, hnode1, hm1⟩ := CT.nodeSuccs_coll (x.coll_new (ci' := ci') hq)
      obtain ⟨o0, o', ho0, ho', hty, _⟩ := x.obj hq
      rw [ho] at ho0; cases ho0
      rw [ho'] at ho1; cases ho1
      rw [hty, ht] at ht1; cases ht1
      rw [hns] at hnode1; cases hnode1
      obtain ⟨_, _, q', hq', _, rfl⟩ := hps.2 b (hm1 b hb)
      exact hnz q' hq')
  rw [hheap] at this
  exact this

end

theorem JLd.complete {K : Consts} {ts : TypeSystem} {c : Cas} {ci : Nat} {H : Heap} {L : List (Int × Nat)} {ci' : Nat}
    {ld : Json.Loaded} (x : JLd K ts c ci H L ci' ld) {nx : Int} (hnx : 0 < nx) {stx : St}
    (hxfa : findAllFs K ts {} H nx (defaultSeeds c) = .ok stx)
    (hnx2 : 0 < ld.cas.nextXid) {st2 : St}
    (hfa2 : findAllFs K ts {} ld.heap ld.cas.nextXid (defaultSeeds ld.cas) = .ok st2) (hheap2 : st2.heap = ld.heap)
    (hL2 : LOkC K ts ld.cas ci' ld.heap (sortById st2.allFs)) :
    ∀ q ∈ stx.allFs, q ∈ L ∧ (q.1, naOf H L q.1) ∈ sortById st2.allFs := by
  have shx : SameShape H stx.heap := (findAllFs_inv K ts {} H nx _ stx hxfa).1.shape
  -- a counterpart that is collected is collected under the id of the written structure
  have hid : ∀ q ∈ L, naOf H L q.1 ∈ st2.allFs.map (·.2) → (q.1, naOf H L q.1) ∈ sortById st2.allFs := by
    intro q hq hm
    obtain ⟨y, hy⟩ := mem_sorted_of_addr hm
    have h1 := (hL2.ids _ hy).1
    rw [show ((y, naOf H L q.1) : Int × Nat).2 = naOf H L q.1 from rfl, x.rel.xid hq] at h1
    have e : q.1 = y := Option.some.inj h1
    rw [← e] at hy
    exact hy
  have hnz : ∀ q ∈ L, xidOf st2.heap (naOf H L q.1) ≠ some 0 := fun q hq => by
    rw [hheap2]; exact (x.refOk_new hq).2
  have key : ∀ a, Reach K ts {} stx.heap (H.length + 1) (defaultSeeds c) a →
      ∃ y : Int, (y, a) ∈ L ∧ (y, naOf H L y) ∈ sortById st2.allFs := by
    intro a hr
    induction hr with
    | seed a hs =>
      obtain ⟨nv, hnv, ha⟩ := List.mem_flatMap.mp (show a ∈ defaultSeeds c from hs)
      obtain ⟨e, he, rfl⟩ := List.mem_map.mp ha
      obtain ⟨y, hy⟩ := x.lok.members nv hnv e he
      exact ⟨y, hy, hid _ hy (findAllFs_complete K ts {} ld.heap _ _ st2 hnx2 hfa2 (naOf H L y)
        (.seed _ (x.ldViews.seed_bwd hy hs)) (hnz _ hy))⟩
    | step a b _ _ hsucc ih =>
      -- the successor is pushed from `a`, so its counterpart is pushed from the counterpart of `a`
      obtain ⟨ya, hq, ihq⟩ := ih
      rw [succsOf_shape K ts {} shx] at hsucc
      obtain ⟨o, t, ps, n, ho, ht, hnode, _⟩ := CT.nodeSuccs_coll (x.collx _ hq)
      rw [succsOf_eq K ts {} ho (Cassis.TS.getType_of_find ht) hnode] at hsucc
      obtain ⟨ps', hns, hps⟩ := x.succs_copy hq hnode
      obtain ⟨_, hb', q', hq', rfl, rfl⟩ := hps.1 b hsucc
      obtain ⟨o0, o', ho0, ho', hty, _⟩ := x.obj hq
      rw [ho] at ho0; cases ho0
      refine ⟨q'.1, hq', hid q' hq' (findAllFs_closed K ts {} ld.heap _ _ st2 hnx2 hfa2 ya _ _ (mem_sortById.mp ihq) ?_
        (hnz q' hq'))⟩
      rw [hheap2, succsOf_eq K ts {} ho' (by rw [hty]; exact Cassis.TS.getType_of_find ht) hns]
      exact hb'
  intro q hq
  obtain ⟨y, hyl, hy2⟩ := key q.2 (findAllFs_sound K ts {} H nx _ stx hnx hxfa q.2 (List.mem_map.mpr ⟨q, hq, rfl⟩))
  have h1 := (findAllFs_ids K ts {} H nx _ stx hnx hxfa q.1 q.2 hq).1
  rw [shx.xidOf (x.lok.ids _ hyl).1] at h1
  cases Option.some.inj h1
  exact ⟨hyl, hy2⟩

end Cassis.ChainC
