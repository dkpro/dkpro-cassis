/-
Lemmas about the merge loop of `Model/Merge.lean`.

One step of the loop is `declSuper` (what happens to the hierarchy: create, keep, re-parent or fail) followed by
`addOwnFeatures` (`processDecl_eq`); the loops are folds of that step, and a predicate kept by one step is kept by the
loop (`addOwnFeatures_inv`, `mergeRound_inv`, `mergeLoop_inv`, `mergeDecls_inv`).  With these: the registered names only
grow (`RegLe`) and every declaration ends up merged (`mergeLoop_complete`); `relink` as list surgery that keeps
"parents first" (`topoFrom`), so that a step keeps `Consistent` (`consistent_processDecl`); no call exhausts its fuel
(`…_ne_fuel`), so the loop ends by progress alone (`merge_terminates_aux`).  Last, copies of the merge functions
parametric in the push function (`mergeDeclsG`, `mergeDecls_eq_S`), through which closed instances are evaluated.
-/
import CassisModel.Model.Merge
import CassisModel.Proofs.Features

namespace Cassis.TS

/-- the hierarchy half of `processDecl`: the type system before the declared features are merged -/
def declSuper (K : Consts) (ts : TypeSystem) (d : Decl) : Except Err TypeSystem :=
  match find? ts d.name with
  | none => createType K ts d.name d.super d.descr
  | some ex =>
    if d.super = ex.super.getD "" then .ok ts
    else match getType ts (ex.super.getD ""), getType ts d.super with
      | .ok _, .ok _ =>
        if subsumes ts (ex.super.getD "") d.super then reparent ts d.name (ex.super.getD "") d.super
        else if subsumes ts d.super (ex.super.getD "") then .ok ts
        else .error .valueError
      | _, _ => .error .typeNotFound

theorem processDecl_eq (K : Consts) (s : MState) (d : Decl) :
    processDecl K s d = (do
      let ts1 ← declSuper K s.ts d
      let ts2 ← addOwnFeatures ts1 d.name d.own
      pure { ts := ts2, merged := if s.merged.contains d.name then s.merged else s.merged ++ [d.name] }) := by
  simp only [processDecl, declSuper, hasExact, bind, Except.bind, pure, Except.pure, throw, throwThe,
    MonadExceptOf.throw, bne_iff_ne, ne_eq, ite_not]
  cases find? s.ts d.name with
  | none => simp only [Option.isSome_none, Bool.not_false, if_true]
  | some ex =>
    simp only [Option.isSome_some, Bool.not_true, Bool.false_eq_true, if_false]
    split
    · rfl
    · cases getType s.ts (ex.super.getD "") <;> cases getType s.ts d.super <;> try rfl
      simp only
      split
      · rfl
      · split <;> rfl

theorem processDecl_ok_iff {K : Consts} {s s' : MState} {d : Decl} :
    processDecl K s d = .ok s' ↔ ∃ ts1, declSuper K s.ts d = .ok ts1 ∧
      addOwnFeatures ts1 d.name d.own = .ok s'.ts ∧
      s'.merged = if s.merged.contains d.name then s.merged else s.merged ++ [d.name] := by
  rw [processDecl_eq]
  simp only [bind, Except.bind, pure, Except.pure]
  constructor
  · intro h
    split at h
    · cases h
    · split at h
      · cases h
      · cases h; exact ⟨_, ‹_›, ‹_›, rfl⟩
  · rintro ⟨ts1, h1, h2, h3⟩
    rw [h1]; simp only
    rw [h2]; simp only
    rw [← h3]

theorem declSuper_new {K : Consts} {ts : TypeSystem} {d : Decl} (hn : hasExact ts d.name = false) :
    declSuper K ts d = createType K ts d.name d.super d.descr := by
  rw [declSuper, find?_none_of_not_has hn]

theorem declSuper_same {K : Consts} {ts : TypeSystem} {d : Decl} {ex : TypeRec}
    (he : find? ts d.name = some ex) (hs : ex.super = some d.super) : declSuper K ts d = .ok ts := by
  simp only [declSuper, he, hs, Option.getD_some, if_true]

theorem declSuper_cases {K : Consts} {ts ts1 : TypeSystem} {d : Decl} (h : declSuper K ts d = .ok ts1) :
    (hasExact ts d.name = false ∧ createType K ts d.name d.super d.descr = .ok ts1) ∨
    ∃ ex, find? ts d.name = some ex ∧
      ((d.super = ex.super.getD "" ∧ ts1 = ts) ∨
       (d.super ≠ ex.super.getD "" ∧ subsumes ts (ex.super.getD "") d.super = true ∧
          reparent ts d.name (ex.super.getD "") d.super = .ok ts1) ∨
       (d.super ≠ ex.super.getD "" ∧ subsumes ts (ex.super.getD "") d.super = false ∧
          subsumes ts d.super (ex.super.getD "") = true ∧ ts1 = ts)) := by
  unfold declSuper at h
  split at h
  · rename_i hf
    exact Or.inl ⟨by simp only [hasExact, hf, Option.isSome_none], h⟩
  · rename_i ex hf
    refine Or.inr ⟨ex, hf, ?_⟩
    split at h
    · cases h; exact Or.inl ⟨‹_›, rfl⟩
    · rename_i hne
      split at h
      · split at h
        · exact Or.inr (Or.inl ⟨hne, ‹_›, h⟩)
        · split at h
          · cases h; exact Or.inr (Or.inr ⟨hne, Bool.eq_false_iff.mpr ‹¬ _›, ‹_›, rfl⟩)
          · cases h
      · cases h

theorem declSuper_diff {K : Consts} {ts : TypeSystem} {d : Decl} {ex : TypeRec} {exSup : String}
    (he : find? ts d.name = some ex) (hs : ex.super = some exSup) (hne : d.super ≠ exSup)
    (r1 : hasExact ts exSup = true) (r2 : hasExact ts d.super = true) :
    declSuper K ts d =
      if subsumes ts exSup d.super then reparent ts d.name exSup d.super
      else if subsumes ts d.super exSup then .ok ts else .error .valueError := by
  obtain ⟨t1, ht1⟩ := (hasExact_iff_find _ _).mp r1
  obtain ⟨t2, ht2⟩ := (hasExact_iff_find _ _).mp r2
  simp only [declSuper, he, hs, Option.getD_some, if_neg hne, getType_of_find ht1, getType_of_find ht2]

section
variable {K : Consts} {ts : TypeSystem} {d : Decl} {ex : TypeRec} {c : String}
  (he : find? ts d.name = some ex) (hs : ex.super = some c) (hne : d.super ≠ c)
  (r1 : hasExact ts c = true) (r2 : hasExact ts d.super = true)
include he hs hne r1 r2

theorem declSuper_noop (h1 : subsumes ts c d.super = false) (h2 : subsumes ts d.super c = true) :
    declSuper K ts d = .ok ts := by
  rw [declSuper_diff he hs hne r1 r2, h1, h2]; rfl

theorem declSuper_reparent (h1 : subsumes ts c d.super = true) :
    declSuper K ts d = reparent ts d.name c d.super := by
  rw [declSuper_diff he hs hne r1 r2, h1]; rfl
end


theorem declSuper_ok {K : Consts} {ts ts1 : TypeSystem} {d : Decl} (h : declSuper K ts d = .ok ts1) :
    (hasExact ts d.name = false ∧ createType K ts d.name d.super d.descr = .ok ts1) ∨
    ∃ ex, find? ts d.name = some ex ∧ (ts1 = ts ∨
      (d.super ≠ ex.super.getD "" ∧ subsumes ts (ex.super.getD "") d.super = true ∧
        reparent ts d.name (ex.super.getD "") d.super = .ok ts1)) := by
  rcases declSuper_cases h with h | ⟨ex, he, ⟨_, e⟩ | h | ⟨_, _, _, e⟩⟩
  · exact Or.inl h
  · exact Or.inr ⟨ex, he, Or.inl e⟩
  · exact Or.inr ⟨ex, he, Or.inr h⟩
  · exact Or.inr ⟨ex, he, Or.inl e⟩

theorem processDecl_ok (K : Consts) (s s' : MState) (d : Decl) (h : processDecl K s d = .ok s') :
    s'.merged = (if s.merged.contains d.name then s.merged else s.merged ++ [d.name]) ∧
    ((hasExact s.ts d.name = false ∧ ∃ ts1, createType K s.ts d.name d.super d.descr = .ok ts1 ∧
        addOwnFeatures ts1 d.name d.own = .ok s'.ts) ∨
     (∃ ex, find? s.ts d.name = some ex ∧
        (addOwnFeatures s.ts d.name d.own = .ok s'.ts ∨
         (d.super ≠ ex.super.getD "" ∧ ∃ ts1, reparent s.ts d.name (ex.super.getD "") d.super = .ok ts1 ∧
            addOwnFeatures ts1 d.name d.own = .ok s'.ts)))) := by
  obtain ⟨ts1, h1, h2, h3⟩ := processDecl_ok_iff.mp h
  refine ⟨h3, ?_⟩
  rcases declSuper_ok h1 with ⟨hn, hc⟩ | ⟨ex, he, rfl | ⟨hne, _, hr⟩⟩
  · exact Or.inl ⟨hn, ts1, hc, h2⟩
  · exact Or.inr ⟨ex, he, Or.inl h2⟩
  · exact Or.inr ⟨ex, he, Or.inr ⟨hne, ts1, hr, h2⟩⟩

theorem reparent_ok_iff {ts ts' : TypeSystem} {name oldSup newSup : String} :
    reparent ts name oldSup newSup = .ok ts' ↔
      subsumes ts name newSup = false ∧ ∃ ns, find? ts newSup = some ns ∧
        inheritFrom (relink ts name oldSup newSup) name (allFeatures ns) = .ok ts' := by
  unfold reparent
  cases hs : subsumes ts name newSup with
  | true => simp
  | false =>
    cases hns : find? ts newSup with
    | none => simp
    | some ns => simp

theorem reparent_ok (ts ts' : TypeSystem) (name oldSup newSup : String)
    (h : reparent ts name oldSup newSup = .ok ts') :
    subsumes ts name newSup = false ∧ ∃ ns, find? ts newSup = some ns ∧
      inheritFrom (relink ts name oldSup newSup) name (allFeatures ns) = .ok ts' :=
  reparent_ok_iff.mp h

/-- a successful `reparent` of a registered name: the new supertype is registered and not below the name -/
theorem reparent_not_anc {ts ts' : TypeSystem} {name oldSup newSup : String} (hc : Consistent ts)
    (hregn : hasExact ts name = true) (h : reparent ts name oldSup newSup = .ok ts') :
    hasExact ts newSup = true ∧ ¬ Anc ts name newSup := by
  obtain ⟨hs, ns, hns, _⟩ := reparent_ok_iff.mp h
  have hreg : hasExact ts newSup = true := (hasExact_iff_find _ _).mpr ⟨ns, hns⟩
  refine ⟨hreg, fun ha => ?_⟩
  rw [(subsumes_iff_ancestor ts hc name newSup hregn hreg).mpr ha] at hs
  cases hs

theorem addOwnFeatures_inv {P : TypeSystem → Prop} {name : String}
    (step : ∀ ts ts' f, P ts → addFeature ts name f = .ok ts' → P ts') :
    ∀ (fs : List Feature) (ts ts' : TypeSystem), P ts → addOwnFeatures ts name fs = .ok ts' → P ts' := by
  intro fs
  induction fs with
  | nil => intro ts ts' hp h; cases h; exact hp
  | cons f fs ih =>
    intro ts ts' hp h
    simp only [addOwnFeatures] at h
    split at h
    · cases h
    · exact ih _ ts' (step _ _ _ hp ‹_›) h

theorem mergeRound_inv {K : Consts} {P : MState → Prop} : ∀ (ds : List Decl),
    (∀ d ∈ ds, ∀ s s', P s → processDecl K s d = .ok s' → P s') →
    ∀ (s s' : MState) (n n' : Nat), P s → mergeRound K ds s n = .ok (s', n') → P s' := by
  intro ds
  induction ds with
  | nil => intro _ s s' n n' hp h; cases h; exact hp
  | cons d ds ih =>
    intro step s s' n n' hp h
    have ih := ih (fun d' hd' => step d' (List.mem_cons_of_mem _ hd'))
    simp only [mergeRound] at h
    split at h
    · split at h
      · cases h
      · exact ih _ s' _ n' (step d List.mem_cons_self _ _ hp ‹_›) h
    · exact ih s s' n n' hp h

theorem mergeLoop_inv {K : Consts} {P : MState → Prop} (decls : List Decl)
    (step : ∀ d ∈ decls, ∀ s s', P s → processDecl K s d = .ok s' → P s') :
    ∀ (fuel : Nat) (s s' : MState), P s → mergeLoop K decls fuel s = .ok s' → P s' := by
  intro fuel
  induction fuel with
  | zero => intro s s' _ h; cases h
  | succ fuel ih =>
    intro s s' hp h
    simp only [mergeLoop] at h
    split at h
    · cases h
    · have hp1 := mergeRound_inv decls step s _ 0 _ hp ‹_›
      split at h
      · cases h; exact hp1
      · exact ih _ s' hp1 h

theorem mergeDecls_ok (K : Consts) (base ts' : TypeSystem) (decls : List Decl)
    (h : mergeDecls K base decls = .ok ts') :
    ∃ s', mergeLoop K decls (decls.length + 1) { ts := base, merged := [] } = .ok s' ∧ s'.ts = ts' := by
  unfold mergeDecls at h
  split at h
  · cases h
  · rename_i s' hs; cases h; exact ⟨s', hs, rfl⟩

theorem mergeDecls_inv {K : Consts} (P : TypeSystem → Prop) {base ts' : TypeSystem} {decls : List Decl}
    (step : ∀ d ∈ decls, ∀ s s', P s.ts → processDecl K s d = .ok s' → P s'.ts)
    (hp : P base) (h : mergeDecls K base decls = .ok ts') : P ts' := by
  obtain ⟨s', hs, rfl⟩ := mergeDecls_ok K base ts' decls h
  exact mergeLoop_inv (P := fun s => P s.ts) decls step _ _ s' hp hs

/-! ### Registered names only grow -/

def names (ts : TypeSystem) : List String := ts.types.map (·.name)

theorem hasExact_iff_names (ts : TypeSystem) (x : String) : hasExact ts x = true ↔ x ∈ names ts :=
  hasExact_iff_mem ts x

theorem names_setRec (ts : TypeSystem) (r : TypeRec) : names (setRec ts r) = names ts := by
  unfold names setRec
  simp only [List.map_map]
  apply List.map_congr_left
  intro x _
  simp only [Function.comp]
  split
  · rename_i h; exact (by simpa using h : x.name = r.name).symm
  · rfl

theorem frame_names : FeatFrame (fun _ => True) (fun a b => names b = names a) :=
  ⟨⟨fun _ => rfl, fun h1 h2 => h2.trans h1, fun ts _ _ _ _ _ => names_setRec ts _⟩, fun ts _ _ _ _ _ => names_setRec ts _⟩

section
variable {A : Feature → Prop} {Rel : TypeSystem → TypeSystem → Prop}

theorem FeatFrame.addOwnFeatures (F : FeatFrame A Rel) (name : String) : ∀ (fs : List Feature) (ts ts' : TypeSystem),
    (∀ f ∈ fs, A { f with domain := name }) → addOwnFeatures ts name fs = .ok ts' → Rel ts ts'
  | [], ts, ts', _, h => by cases h; exact F.refl _
  | f :: fs, ts, ts', hA, h => by
    simp only [Cassis.TS.addOwnFeatures] at h
    split at h
    · cases h
    · exact F.trans (F.addFeature (hA f List.mem_cons_self) ‹_›)
        (F.addOwnFeatures name fs _ ts' (fun g hg => hA g (List.mem_cons_of_mem _ hg)) h)

theorem PushFrame.inheritFrom (F : PushFrame A Rel) (name : String) : ∀ (fs : List Feature) (ts ts' : TypeSystem),
    (∀ f ∈ fs, A f) → inheritFrom ts name fs = .ok ts' → Rel ts ts'
  | [], ts, ts', _, h => by cases h; exact F.refl _
  | f :: fs, ts, ts', hA, h => by
    simp only [Cassis.TS.inheritFrom] at h
    split at h
    · cases h
    · split at h
      · cases h
      · exact F.trans (F.push (hA f List.mem_cons_self) _ _ _ _ ‹_›)
          (F.inheritFrom name fs _ ts' (fun g hg => hA g (List.mem_cons_of_mem _ hg)) h)

end

/-- the record rewrite of `relink` -/
def relinkRec (name oldSup newSup : String) (t : TypeRec) : TypeRec :=
  if t.name == name then { t with super := some newSup }
  else if t.name == oldSup && t.name == newSup then t
  else if t.name == oldSup then { t with children := t.children.filter (· != name) }
  else if t.name == newSup then { t with children := t.children ++ [name] }
  else t

theorem relinkRec_eq (name oldSup newSup : String) (t : TypeRec) :
    ∃ cs, relinkRec name oldSup newSup t =
      { t with super := if t.name = name then some newSup else t.super, children := cs } := by
  unfold relinkRec
  by_cases h : t.name = name
  · exact ⟨t.children, by simp [h]⟩
  · simp only [beq_iff_eq, h, if_false]
    split
    · exact ⟨_, rfl⟩
    · split
      · exact ⟨_, rfl⟩
      · split <;> exact ⟨_, rfl⟩

@[simp] theorem relinkRec_name (name oldSup newSup : String) (t : TypeRec) :
    (relinkRec name oldSup newSup t).name = t.name := by
  obtain ⟨_, e⟩ := relinkRec_eq name oldSup newSup t
  rw [e]

theorem relinkRec_super (name oldSup newSup : String) (t : TypeRec) :
    (relinkRec name oldSup newSup t).super = if t.name = name then some newSup else t.super := by
  obtain ⟨_, e⟩ := relinkRec_eq name oldSup newSup t
  rw [e]

@[simp] theorem relinkRec_own (c a x : String) (t : TypeRec) : (relinkRec c a x t).own = t.own := by
  simp only [relinkRec, apply_ite TypeRec.own, ite_self]

@[simp] theorem relinkRec_inh (c a x : String) (t : TypeRec) : (relinkRec c a x t).inh = t.inh := by
  simp only [relinkRec, apply_ite TypeRec.inh, ite_self]

theorem allFeatures_relinkRec (c a x : String) (t : TypeRec) : allFeatures (relinkRec c a x t) = allFeatures t := by
  unfold allFeatures
  rw [relinkRec_own, relinkRec_inh]

theorem relinkRec_super_self (name oldSup newSup : String) (t : TypeRec) (h : t.name = name) :
    (relinkRec name oldSup newSup t).super = some newSup := by
  rw [relinkRec_super, if_pos h]

theorem relink_types (ts : TypeSystem) (name oldSup newSup : String) :
    (relink ts name oldSup newSup).types =
      (ts.types.map (relinkRec name oldSup newSup)).filter (fun t => !((descendantsOf ts name).contains t.name)) ++
      (ts.types.map (relinkRec name oldSup newSup)).filter (fun t => (descendantsOf ts name).contains t.name) := rfl

theorem relink_perm (ts : TypeSystem) (name oldSup newSup : String) :
    (relink ts name oldSup newSup).types.Perm (ts.types.map (relinkRec name oldSup newSup)) := by
  rw [relink_types]
  have := List.filter_append_perm (fun t : TypeRec => !((descendantsOf ts name).contains t.name))
    (ts.types.map (relinkRec name oldSup newSup))
  simpa only [Bool.not_not] using this

theorem names_relink_perm (ts : TypeSystem) (name oldSup newSup : String) :
    (names (relink ts name oldSup newSup)).Perm (names ts) := by
  simpa [names, Function.comp_def] using (relink_perm ts name oldSup newSup).map (·.name)

def RegLe (ts ts' : TypeSystem) : Prop := ∀ x, hasExact ts x = true → hasExact ts' x = true

theorem RegLe.refl (ts : TypeSystem) : RegLe ts ts := fun _ h => h
theorem RegLe.trans {a b c : TypeSystem} (h1 : RegLe a b) (h2 : RegLe b c) : RegLe a c :=
  fun x h => h2 x (h1 x h)

theorem RegLe.of_names {ts ts' : TypeSystem} (h : names ts' = names ts) : RegLe ts ts' := by
  intro x hx
  rw [hasExact_iff_names] at hx ⊢
  rw [h]; exact hx

theorem RegLe.of_perm {ts ts' : TypeSystem} (h : (names ts').Perm (names ts)) : RegLe ts ts' := by
  intro x hx
  rw [hasExact_iff_names] at hx ⊢
  exact h.mem_iff.mpr hx

theorem createType_reg (K : Consts) (ts ts' : TypeSystem) (n s : String) (d : Option String)
    (h : createType K ts n s d = .ok ts') : RegLe ts ts' ∧ hasExact ts' n = true := by
  obtain ⟨sup, new1, _, _, hinh, rfl⟩ := createType_inv K ts ts' n s d h
  have hn1 : new1.name = n := by
    have := inheritAll_tr _ _ _ hinh
    rw [tr_eq_iff] at this
    exact this.1
  generalize (if sup.children.contains n then sup else { sup with children := sup.children ++ [n] }) = sup'
  have hs : names (setRec ts sup') = names ts := names_setRec ts sup'
  unfold putRec
  split
  · rename_i hx
    have : names (setRec (setRec ts sup') new1) = names ts := (names_setRec _ _).trans hs
    refine ⟨RegLe.of_names this, ?_⟩
    rw [hn1] at hx
    exact RegLe.of_names (names_setRec _ new1) n hx
  · have : names { setRec ts sup' with types := (setRec ts sup').types ++ [new1] } = names ts ++ [n] := by
      rw [← hs, ← hn1]; simp [names]
    constructor
    · intro x hx
      rw [hasExact_iff_names] at hx ⊢
      rw [this]; exact List.mem_append_left _ hx
    · rw [hasExact_iff_names, this]; simp

theorem reparent_reg (ts ts' : TypeSystem) (name oldSup newSup : String)
    (h : reparent ts name oldSup newSup = .ok ts') : RegLe ts ts' := by
  obtain ⟨_, ns, _, hi⟩ := reparent_ok ts ts' name oldSup newSup h
  exact (RegLe.of_perm (names_relink_perm ts name oldSup newSup)).trans
    (RegLe.of_names (frame_names.inheritFrom name _ _ ts' (fun _ _ => trivial) hi))

theorem declSuper_reg {K : Consts} {ts ts1 : TypeSystem} {d : Decl} (h : declSuper K ts d = .ok ts1) :
    RegLe ts ts1 ∧ hasExact ts1 d.name = true := by
  rcases declSuper_ok h with ⟨_, hc⟩ | ⟨ex, he, rfl | ⟨_, _, hr⟩⟩
  · exact createType_reg K _ _ _ _ _ hc
  · exact ⟨RegLe.refl _, (hasExact_iff_find _ _).mpr ⟨ex, he⟩⟩
  · have hr := reparent_reg _ _ _ _ _ hr
    exact ⟨hr, hr _ ((hasExact_iff_find _ _).mpr ⟨ex, he⟩)⟩

theorem processDecl_reg (K : Consts) (s s' : MState) (d : Decl) (h : processDecl K s d = .ok s') :
    RegLe s.ts s'.ts ∧ hasExact s'.ts d.name = true := by
  obtain ⟨ts1, h1, h2, _⟩ := processDecl_ok_iff.mp h
  obtain ⟨r1, r2⟩ := declSuper_reg h1
  have r3 := RegLe.of_names (frame_names.addOwnFeatures _ _ _ _ (fun _ _ => trivial) h2)
  exact ⟨r1.trans r3, r3 _ r2⟩

theorem processDecl_mem_merged {K : Consts} {s s' : MState} {d : Decl} (h : processDecl K s d = .ok s')
    (x : String) : x ∈ s'.merged ↔ x ∈ s.merged ∨ x = d.name := by
  obtain ⟨_, _, _, hm⟩ := processDecl_ok_iff.mp h
  rw [hm]
  split
  · rename_i hc
    have : d.name ∈ s.merged := by simpa using hc
    exact ⟨Or.inl, fun h => h.elim id (· ▸ this)⟩
  · simp

theorem processDecl_merged (K : Consts) (s s' : MState) (d : Decl) (h : processDecl K s d = .ok s') :
    (∀ x ∈ s.merged, x ∈ s'.merged) ∧ d.name ∈ s'.merged :=
  ⟨fun x hx => (processDecl_mem_merged h x).mpr (Or.inl hx), (processDecl_mem_merged h _).mpr (Or.inr rfl)⟩

/-- one pass: the declarations it skips were not ready when it began, the others are merged, and `n' - n` counts
    the latter -/
theorem mergeRound_merged (K : Consts) : ∀ (ds : List Decl) (s s' : MState) (n n' : Nat),
    mergeRound K ds s n = .ok (s', n') →
      (∀ x ∈ s.merged, x ∈ s'.merged) ∧
      ∃ skipped : List Decl, n' + skipped.length = n + ds.length ∧
        (∀ d ∈ skipped, d ∈ ds ∧ K.predefined.contains d.super = false ∧ d.super ∉ s.merged) ∧
        (∀ d ∈ ds, d ∈ skipped ∨ d.name ∈ s'.merged) := by
  intro ds
  induction ds with
  | nil =>
    intro s s' n n' h
    cases h
    exact ⟨fun _ hx => hx, [], rfl, nofun, nofun⟩
  | cons d ds ih =>
    intro s s' n n' h
    simp only [mergeRound] at h
    split at h
    · split at h
      · cases h
      · rename_i s1 hp
        obtain ⟨r1, sk, r2, r3, r4⟩ := ih s1 s' (n + 1) n' h
        obtain ⟨p1, p2⟩ := processDecl_merged K s s1 d hp
        refine ⟨fun x hx => r1 x (p1 x hx), sk, by simp only [List.length_cons]; omega, ?_, ?_⟩
        · intro x hx
          obtain ⟨a, b, c⟩ := r3 x hx
          exact ⟨List.mem_cons_of_mem _ a, b, fun hm => c (p1 _ hm)⟩
        · intro x hx
          rcases List.mem_cons.mp hx with rfl | hx
          · exact Or.inr (r1 _ p2)
          · exact r4 x hx
    · rename_i hready
      simp only [Bool.or_eq_true, not_or, Bool.not_eq_true] at hready
      have hready : K.predefined.contains d.super = false ∧ d.super ∉ s.merged :=
        ⟨hready.1, by simpa using hready.2⟩
      obtain ⟨r1, sk, r2, r3, r4⟩ := ih s s' n n' h
      refine ⟨r1, d :: sk, by simp only [List.length_cons]; omega, ?_, ?_⟩
      · intro x hx
        rcases List.mem_cons.mp hx with rfl | hx
        · exact ⟨List.mem_cons_self, hready⟩
        · obtain ⟨a, b⟩ := r3 x hx
          exact ⟨List.mem_cons_of_mem _ a, b⟩
      · intro x hx
        rcases List.mem_cons.mp hx with rfl | hx
        · exact Or.inl List.mem_cons_self
        · exact (r4 x hx).imp (List.mem_cons_of_mem _) id

/-- the loop ends with a pass that skips nothing -/
theorem mergeLoop_complete (K : Consts) (decls : List Decl) : ∀ (fuel : Nat) (s s' : MState),
    mergeLoop K decls fuel s = .ok s' → ∀ d ∈ decls, d.name ∈ s'.merged := by
  intro fuel
  induction fuel with
  | zero => intro s s' h; cases h
  | succ fuel ih =>
    intro s s' h
    simp only [mergeLoop] at h
    split at h
    · cases h
    · rename_i s1 n hr
      split at h
      · rename_i hn
        obtain ⟨_, sk, r2, _, r4⟩ := mergeRound_merged K decls s s1 0 n hr
        cases h
        have : sk = [] := List.eq_nil_of_length_eq_zero (by simp only [beq_iff_eq] at hn; omega)
        subst this
        exact fun d hd => (r4 d hd).resolve_left nofun
      · exact ih s1 s' h

theorem nodup_relink (ts : TypeSystem) (name oldSup newSup : String)
    (hn : (ts.types.map (·.name)).Nodup) :
    ((relink ts name oldSup newSup).types.map (·.name)).Nodup :=
  (names_relink_perm ts name oldSup newSup).nodup_iff.mpr hn


/-! ### "parents first", in a form suited to list surgery -/

def topoFrom : List String → List TypeRec → Prop
  | _, [] => True
  | seen, t :: l => (∀ s, t.super = some s → s ∈ seen) ∧ topoFrom (seen ++ [t.name]) l

theorem mem_take_names (l : List TypeRec) (i : Nat) (s : String) :
    s ∈ (l.take i).map (·.name) ↔ ∃ j, j < i ∧ ∃ (hj : j < l.length), (l[j]).name = s := by
  simp only [List.mem_map, List.mem_take_iff_getElem]
  constructor
  · rintro ⟨t, ⟨j, hj, rfl⟩, rfl⟩
    exact ⟨j, by omega, by omega, rfl⟩
  · rintro ⟨j, hji, hj, rfl⟩
    exact ⟨_, ⟨j, by omega, rfl⟩, rfl⟩

theorem topoFrom_iff_idx : ∀ (l : List TypeRec) (seen : List String),
    topoFrom seen l ↔ ∀ i (h : i < l.length) s, (l[i]).super = some s →
      s ∈ seen ∨ ∃ j, j < i ∧ ∃ (hj : j < l.length), (l[j]).name = s := by
  simp only [← mem_take_names, ← List.mem_append]
  intro l
  induction l with
  | nil => intro seen; simp [topoFrom]
  | cons t l ih =>
    intro seen
    simp only [topoFrom, ih]
    constructor
    · rintro ⟨h0, hr⟩ i hi s hs
      cases i with
      | zero => simpa using h0 s (by simpa using hs)
      | succ i => simpa using hr i (by simpa using hi) s (by simpa using hs)
    · intro H
      refine ⟨fun s hs => by simpa using H 0 (by simp) s (by simpa using hs), fun i hi s hs => ?_⟩
      simpa using H (i + 1) (by simpa using hi) s (by simpa using hs)
theorem topoFrom_append : ∀ (A B : List TypeRec) (seen : List String),
    topoFrom seen A → topoFrom (seen ++ A.map (·.name)) B → topoFrom seen (A ++ B) := by
  intro A
  induction A with
  | nil => intro B seen _ h; simpa using h
  | cons a A ih =>
    intro B seen hA hB
    simp only [topoFrom] at hA
    simp only [List.cons_append, topoFrom]
    refine ⟨hA.1, ih B _ hA.2 ?_⟩
    simpa using hB

theorem topoFrom_filter_map (f : TypeRec → TypeRec) (hf : ∀ t, (f t).name = t.name) (q : String → Bool) :
    ∀ (L : List TypeRec) (seen seen' : List String), topoFrom seen L →
      (∀ x ∈ seen, q x = true → x ∈ seen') →
      (∀ t ∈ L, q t.name = true → ∀ s, (f t).super = some s → (t.super = some s ∧ q s = true) ∨ s ∈ seen') →
      topoFrom seen' ((L.filter (fun t => q t.name)).map f) := by
  intro L
  induction L with
  | nil => intro _ _ _ _ _; simp [topoFrom]
  | cons t L ih =>
    intro seen seen' hT hsub H
    simp only [topoFrom] at hT
    obtain ⟨h1, h2⟩ := hT
    by_cases hq : q t.name = true
    · rw [List.filter_cons_of_pos (by simpa using hq)]
      simp only [List.map_cons, topoFrom, hf]
      constructor
      · intro s hs
        rcases H t (List.mem_cons_self) hq s hs with ⟨hts, hqs⟩ | hm
        · exact hsub s (h1 s hts) hqs
        · exact hm
      · apply ih (seen ++ [t.name]) (seen' ++ [t.name]) h2
        · intro x hx hqx
          rcases List.mem_append.mp hx with hx | hx
          · exact List.mem_append_left _ (hsub x hx hqx)
          · exact List.mem_append_right _ hx
        · intro t' ht' hq' s hs
          rcases H t' (List.mem_cons_of_mem _ ht') hq' s hs with h | h
          · exact Or.inl h
          · exact Or.inr (List.mem_append_left _ h)
    · rw [List.filter_cons_of_neg (by simpa using hq)]
      apply ih (seen ++ [t.name]) seen' h2
      · intro x hx hqx
        rcases List.mem_append.mp hx with hx | hx
        · exact hsub x hx hqx
        · simp at hx; subst hx; exact absurd hqx hq
      · intro t' ht' hq' s hs
        exact H t' (List.mem_cons_of_mem _ ht') hq' s hs


theorem relinkRec_children (name oldSup newSup : String) (t : TypeRec) (b : String)
    (h1 : name ≠ oldSup) (h2 : name ≠ newSup) (h3 : oldSup ≠ newSup) :
    b ∈ (relinkRec name oldSup newSup t).children ↔
      (b ∈ t.children ∧ ¬(t.name = oldSup ∧ b = name)) ∨ (t.name = newSup ∧ b = name) := by
  unfold relinkRec
  by_cases hn : t.name = name
  · have e1 : t.name ≠ oldSup := by rw [hn]; exact h1
    have e2 : t.name ≠ newSup := by rw [hn]; exact h2
    simp [hn, h1, h2]
  · by_cases ho : t.name = oldSup
    · have e2 : t.name ≠ newSup := by rw [ho]; exact h3
      have : oldSup ≠ name := fun e => h1 e.symm
      simp [ho, this, h3]
    · by_cases hs : t.name = newSup
      · have : newSup ≠ name := fun e => h2 e.symm
        have : newSup ≠ oldSup := fun e => h3 e.symm
        simp [*]
      · simp [hn, ho, hs]

theorem relinkRec_childNodup (name oldSup newSup : String) (t : TypeRec)
    (hnd : t.children.Nodup) (hnew : t.name = newSup → name ∉ t.children) :
    (relinkRec name oldSup newSup t).children.Nodup := by
  unfold relinkRec
  split
  · exact hnd
  · split
    · exact hnd
    · split
      · exact List.Pairwise.filter _ hnd
      · split
        · rename_i h
          have hn := hnew (by simpa using h)
          simp only
          refine List.nodup_append.mpr ⟨hnd, by simp, ?_⟩
          intro a ha b hb e
          simp at hb; subst hb; subst e; exact hn ha
        · exact hnd


theorem find?_relink (ts : TypeSystem) (name oldSup newSup x : String) (hn : (ts.types.map (·.name)).Nodup) :
    find? (relink ts name oldSup newSup) x = (find? ts x).map (relinkRec name oldSup newSup) := by
  have hn' : (({ ts with types := ts.types.map (relinkRec name oldSup newSup) } : TypeSystem).types.map
      (·.name)).Nodup := by
    simpa [Function.comp_def] using hn
  rw [find?_perm _ { ts with types := ts.types.map (relinkRec name oldSup newSup) }
    (relink_perm ts name oldSup newSup) (((relink_perm ts name oldSup newSup).map (·.name)).nodup_iff.mpr hn') x]
  exact find_map_of_name ts ts.redeclared _ (relinkRec_name name oldSup newSup) x

/-- The field that takes work is the last one (`topo`: parents precede children in the list of records): `relink` leaves
    the records that are not descendants of `name` in their order and moves `name` with its descendants to the end,
    hence behind `newSup`. -/
theorem consistent_relink (ts : TypeSystem) (name oldSup newSup : String) (ex : TypeRec)
    (hc : Consistent ts) (hex : find? ts name = some ex) (hsup : ex.super = some oldSup)
    (hne : oldSup ≠ newSup) (hreg : hasExact ts newSup = true) (hna : ¬ Anc ts name newSup) :
    Consistent (relink ts name oldSup newSup) := by
  have hregn : hasExact ts name = true := (hasExact_iff_find _ _).mpr ⟨ex, hex⟩
  have hself : Anc ts name name := Anc.refl name hregn
  have h2 : name ≠ newSup := fun e => hna (e ▸ hself)
  have hrego : hasExact ts oldSup = true := hc.superReg ex (find?_mem hex) oldSup hsup
  have h1 : name ≠ oldSup := fun e => not_anc_of_super hc hex hsup (e ▸ hself)
  have hfind := fun x => find?_relink ts name oldSup newSup x hc.nodup
  have hmem : ∀ t, t ∈ (relink ts name oldSup newSup).types ↔
      ∃ t0 ∈ ts.types, relinkRec name oldSup newSup t0 = t := by
    intro t
    rw [(relink_perm ts name oldSup newSup).mem_iff, List.mem_map]
  have hhas : ∀ x, hasExact (relink ts name oldSup newSup) x = hasExact ts x := by
    intro x; unfold hasExact; rw [hfind]; simp
  have hnotchild : ∀ t, find? ts newSup = some t → name ∉ t.children := by
    intro t ht hm
    obtain ⟨tb, htb, hs⟩ := (hc.link newSup name).mp ⟨t, ht, hm⟩
    rw [hex] at htb; cases htb
    rw [hsup] at hs; cases hs; exact hne rfl
  have hsubmem : ∀ x, (descendantsOf ts name).contains x = true ↔ Anc ts name x := by
    intro x
    rw [List.contains_iff_mem]
    exact descendants_eq_closure ts hc name x hregn
  refine ⟨nodup_relink ts name oldSup newSup hc.nodup, ?_, ?_, ?_, ?_, ?_, ?_⟩
  · obtain ⟨t, ht, hts⟩ := hc.topRoot
    refine ⟨relinkRec name oldSup newSup t, by rw [hfind, ht]; rfl, ?_⟩
    rw [relinkRec_super]
    have : t.name ≠ name := by
      intro e
      rw [find?_name ht] at e
      rw [← e, ht] at hex; cases hex
      rw [hts] at hsup; cases hsup
    simp only [this, if_false]; exact hts
  · intro t ht hs
    obtain ⟨t0, ht0, rfl⟩ := (hmem t).mp ht
    rw [relinkRec_super] at hs
    rw [relinkRec_name]
    split at hs
    · cases hs
    · exact hc.onlyRoot t0 ht0 hs
  · intro t ht s hs
    obtain ⟨t0, ht0, rfl⟩ := (hmem t).mp ht
    rw [relinkRec_super] at hs
    rw [hhas]
    split at hs
    · cases hs; exact hreg
    · exact hc.superReg t0 ht0 s hs
  · intro a b
    have hchild : (∃ ta, find? (relink ts name oldSup newSup) a = some ta ∧ b ∈ ta.children) ↔
        ∃ ta, find? ts a = some ta ∧ ((b ∈ ta.children ∧ ¬(a = oldSup ∧ b = name)) ∨ (a = newSup ∧ b = name)) := by
      rw [hfind]
      cases hfa : find? ts a with
      | none => simp
      | some ta => simp [relinkRec_children name oldSup newSup ta b h1 h2 hne, find?_name hfa]
    have hsuper : (∃ tb, find? (relink ts name oldSup newSup) b = some tb ∧ tb.super = some a) ↔
        ∃ tb, find? ts b = some tb ∧ (if b = name then some newSup else tb.super) = some a := by
      rw [hfind]
      cases hfb : find? ts b with
      | none => simp
      | some tb => simp [relinkRec_super, find?_name hfb]
    rw [hchild, hsuper]
    by_cases hb : b = name
    · subst hb
      simp only [if_true, Option.some.injEq, and_true]
      constructor
      · rintro ⟨ta, hta, ⟨hm, hno⟩ | h⟩
        · obtain ⟨tb, htb, hs⟩ := (hc.link a b).mp ⟨ta, hta, hm⟩
          rw [hex] at htb; cases htb
          rw [hsup] at hs
          exact absurd (Option.some.inj hs).symm hno
        · exact ⟨ex, hex, h.symm⟩
      · rintro ⟨_, _, rfl⟩
        obtain ⟨tn, htn⟩ := (hasExact_iff_find _ _).mp hreg
        exact ⟨tn, htn, Or.inr rfl⟩
    · simp only [hb, if_false, and_false, not_false_eq_true, and_true, or_false]
      exact hc.link a b
  · intro t ht
    obtain ⟨t0, ht0, rfl⟩ := (hmem t).mp ht
    apply relinkRec_childNodup _ _ _ _ (hc.childNodup t0 ht0)
    intro e
    apply hnotchild t0
    rw [← e]; exact find?_of_mem hc.nodup ht0
  · have hT : topoFrom [] ts.types := by
      rw [topoFrom_iff_idx]
      intro i hi s hs
      exact Or.inr (hc.topo i hi s hs)
    have key : topoFrom [] (relink ts name oldSup newSup).types := by
      rw [relink_types, List.filter_map, List.filter_map]
      have e1 : ((fun t : TypeRec => !(descendantsOf ts name).contains t.name) ∘ relinkRec name oldSup newSup) =
          (fun t => (fun x => !(descendantsOf ts name).contains x) t.name) := by
        funext t; simp
      have e2 : ((fun t : TypeRec => (descendantsOf ts name).contains t.name) ∘ relinkRec name oldSup newSup) =
          (fun t => (fun x => (descendantsOf ts name).contains x) t.name) := by
        funext t; simp
      rw [e1, e2]
      apply topoFrom_append
      · refine topoFrom_filter_map _ (relinkRec_name name oldSup newSup)
          (fun x => !(descendantsOf ts name).contains x) ts.types [] [] hT ?_ ?_
        · intro x hx; cases hx
        · intro t ht hq s hs
          left
          have hq' : ¬ Anc ts name t.name := by
            intro h
            have := (hsubmem t.name).mpr h
            simp only [this, Bool.not_true] at hq
            cases hq
          have hnn : t.name ≠ name := fun e => hq' (e ▸ hself)
          rw [relinkRec_super] at hs
          simp only [hnn, if_false] at hs
          refine ⟨hs, ?_⟩
          cases hd : (descendantsOf ts name).contains s with
          | false => rfl
          | true =>
            exfalso
            apply hq'
            exact Anc.step name t.name s t (find?_of_mem hc.nodup ht) hs ((hsubmem s).mp hd)
      · refine topoFrom_filter_map _ (relinkRec_name name oldSup newSup)
          (fun x => (descendantsOf ts name).contains x) ts.types [] _ hT ?_ ?_
        · intro x hx; cases hx
        · intro t ht hq s hs
          have hq' : Anc ts name t.name := (hsubmem t.name).mp hq
          rw [relinkRec_super] at hs
          split at hs
          · cases hs
            right
            simp only [List.nil_append, List.map_map]
            obtain ⟨tn, htn⟩ := (hasExact_iff_find _ _).mp hreg
            refine List.mem_map.mpr ⟨tn, List.mem_filter.mpr ⟨find?_mem htn, ?_⟩, ?_⟩
            · rw [find?_name htn]
              cases hd : (descendantsOf ts name).contains newSup with
              | false => rfl
              | true => exact absurd ((hsubmem newSup).mp hd) hna
            · simp only [Function.comp, relinkRec_name]; exact find?_name htn
          · rename_i hnn
            left
            refine ⟨hs, ?_⟩
            rcases hq'.inv (find?_of_mem hc.nodup ht) with e | ⟨s', hs', ha⟩
            · exact absurd e.symm hnn
            · rw [hs] at hs'; cases hs'
              exact (hsubmem s).mpr ha
    rw [topoFrom_iff_idx] at key
    intro i hi s hs
    rcases key i hi s hs with h | h
    · cases h
    · exact h


theorem consistent_addOwnFeatures (ts ts' : TypeSystem) (name : String) (fs : List Feature)
    (hc : Consistent ts) (h : addOwnFeatures ts name fs = .ok ts') : Consistent ts' :=
  consistent_of_skel (frame_skel.addOwnFeatures name fs ts ts' (fun _ _ => trivial) h hc.nodup) hc

theorem subsumes_top (ts : TypeSystem) (b : String) : subsumes ts TOP b = true := by
  unfold subsumes; simp

theorem consistent_reparent (ts ts' : TypeSystem) (name oldSup newSup : String) (ex : TypeRec)
    (hc : Consistent ts) (hex : find? ts name = some ex) (ho : oldSup = ex.super.getD "")
    (hne : newSup ≠ oldSup) (h : reparent ts name oldSup newSup = .ok ts') : Consistent ts' := by
  obtain ⟨hs, _, _, hi⟩ := reparent_ok ts ts' name oldSup newSup h
  have hregn : hasExact ts name = true := (hasExact_iff_find _ _).mpr ⟨ex, hex⟩
  obtain ⟨hreg, hna⟩ := reparent_not_anc hc hregn h
  have hsup : ex.super = some oldSup := by
    cases hsx : ex.super with
    | some o => rw [ho, hsx]; rfl
    | none =>
      have := hc.onlyRoot ex (find?_mem hex) hsx
      rw [find?_name hex] at this
      rw [this, subsumes_top] at hs; cases hs
  have hc1 := consistent_relink ts name oldSup newSup ex hc hex hsup (fun e => hne e.symm) hreg hna
  exact consistent_of_skel (frame_skel.inheritFrom name _ _ ts' (fun _ _ => trivial) hi hc1.nodup) hc1

theorem consistent_declSuper {K : Consts} {ts ts1 : TypeSystem} {d : Decl} (hc : Consistent ts)
    (h : declSuper K ts d = .ok ts1) : Consistent ts1 := by
  rcases declSuper_ok h with ⟨hx, hct⟩ | ⟨ex, he, rfl | ⟨hne, _, hr⟩⟩
  · exact consistent_createType K _ _ _ _ _ hc hx hct
  · exact hc
  · exact consistent_reparent _ _ _ _ _ ex hc he rfl hne hr

theorem consistent_processDecl (K : Consts) (s s' : MState) (d : Decl) (hc : Consistent s.ts)
    (h : processDecl K s d = .ok s') : Consistent s'.ts := by
  obtain ⟨ts1, h1, h2, _⟩ := processDecl_ok_iff.mp h
  exact consistent_addOwnFeatures _ _ _ _ (consistent_declSuper hc h1) h2

/-! ### `pushInherited` never exhausts the fuel `|types| + 1` (also on inconsistent tables) -/

theorem filter_length_le {α : Type} (p p' : α → Bool) (l : List α)
    (h : ∀ x ∈ l, p' x = true → p x = true) : (l.filter p').length ≤ (l.filter p).length := by
  rw [← List.countP_eq_length_filter, ← List.countP_eq_length_filter]
  exact List.countP_mono_left h

theorem filter_length_lt {α : Type} (p p' : α → Bool) (l : List α)
    (hsub : ∀ x ∈ l, p' x = true → p x = true) (hex : ∃ x ∈ l, p x = true ∧ p' x = false) :
    (l.filter p').length < (l.filter p).length := by
  obtain ⟨x, hx, hpx, hpx'⟩ := hex
  obtain ⟨l1, l2, rfl⟩ := List.append_of_mem hx
  have h1 := filter_length_le p p' l1 (fun y hy => hsub y (List.mem_append_left _ hy))
  have h2 := filter_length_le p p' l2
    (fun y hy => hsub y (List.mem_append_right _ (List.mem_cons_of_mem _ hy)))
  simp only [List.filter_append, List.filter_cons, hpx, hpx', if_true, Bool.false_eq_true, if_false,
    List.length_append, List.length_cons]
  omega

/-- the type named `x` would still accept `f` as a new inherited feature -/
def freshAt (f : Feature) (ts : TypeSystem) (x : String) : Bool :=
  match find? ts x with
  | some t => addCheck t f true == .fresh
  | none => false

def freshCount (f : Feature) (ts : TypeSystem) : Nat := ((names ts).filter (freshAt f ts)).length

theorem freshCount_le (f : Feature) (ts : TypeSystem) : freshCount f ts ≤ ts.types.length := by
  unfold freshCount
  have := List.length_filter_le (freshAt f ts) (names ts)
  simpa [names] using this

theorem addCheck_after (t : TypeRec) (f : Feature) : addCheck { t with inh := t.inh ++ [f] } f true ≠ .fresh :=
  fun h => addCheck_fresh h (by simp [fnames, scope])

theorem pushInherited_fuel (f : Feature) (fuel : Nat) (ts : TypeSystem) (cs : List String) :
    freshCount f ts < fuel →
      pushInherited f fuel ts cs ≠ .error .outOfFuel ∧
      ∀ ts', pushInherited f fuel ts cs = .ok ts' → ∀ x, freshAt f ts' x = true → freshAt f ts x = true := by
  fun_induction pushInherited f fuel ts cs with
  | case1 => intro h; omega
  | case2 => intro _; exact ⟨nofun, fun ts' h => by cases h; exact fun _ hx => hx⟩
  | case3 _ _ _ _ _ ih => exact ih
  | case4 => intro _; exact ⟨nofun, nofun⟩
  | case5 _ _ _ _ _ _ _ ih => exact ih
  | case6 fuel ts c cs t hf hchk ts1 ih2 ih1 =>
    intro hlt
    have hcn : t.name = c := find?_name hf
    -- at `c` the feature is fresh before and not after; elsewhere nothing changes
    have hc1 : freshAt f ts1 c = false := by
      have hself : find? ts1 c = some { t with inh := t.inh ++ [f] } := find?_setRec_eq ts _ t hcn hf
      simpa [freshAt, hself] using addCheck_after t f
    have hsub1 : ∀ x, freshAt f ts1 x = true → freshAt f ts x = true := by
      intro x hx
      by_cases hxc : x = c
      · rw [hxc, hc1] at hx; cases hx
      · unfold freshAt at hx ⊢
        rwa [find?_setRec_ne ts { t with inh := t.inh ++ [f] } (x := x) (hcn ▸ hxc)] at hx
    have hlt1 : freshCount f ts1 < freshCount f ts := by
      unfold freshCount
      rw [names_setRec]
      refine filter_length_lt _ _ _ (fun x _ => hsub1 x)
        ⟨c, (hasExact_iff_names ts c).mp ((hasExact_iff_find _ _).mpr ⟨t, hf⟩), ?_, hc1⟩
      simp [freshAt, hf, hchk]
    obtain ⟨a1, a2⟩ := ih2 (by omega)
    cases h2 : pushInherited f fuel ts1 t.children with
    | error e =>
      simp only [bind, Except.bind]
      exact ⟨fun h => by cases h; exact a1 h2, nofun⟩
    | ok ts2 =>
      have b2 := a2 ts2 h2
      have hlt2 : freshCount f ts2 < fuel + 1 := by
        have : freshCount f ts2 ≤ freshCount f ts1 := by
          unfold freshCount
          rw [frame_names.push trivial fuel ts1 _ ts2 h2]
          exact filter_length_le _ _ _ (fun x _ => b2 x)
        omega
      obtain ⟨c1, c2⟩ := ih1 ts2 hlt2
      simp only [bind, Except.bind]
      exact ⟨c1, fun ts' h x hx => hsub1 x (b2 x (c2 ts' h x hx))⟩

theorem pushInherited_ne_fuel (f : Feature) (ts : TypeSystem) (cs : List String) :
    pushInherited f (ts.types.length + 1) ts cs ≠ .error .outOfFuel :=
  (pushInherited_fuel f _ ts cs (by have := freshCount_le f ts; omega)).1

@[simp] theorem length_setRec (ts : TypeSystem) (r : TypeRec) : (setRec ts r).types.length = ts.types.length := by
  simp [setRec]

theorem addFeature_ne_fuel (ts : TypeSystem) (dom : String) (f : Feature) :
    addFeature ts dom f ≠ .error .outOfFuel := by
  unfold addFeature
  split
  · nofun
  · split
    · nofun
    · nofun
    · split
      · nofun
      · rename_i t _ _ _ _
        have := pushInherited_ne_fuel f (setRec ts { t with own := t.own ++ [f] }) t.children
        rwa [length_setRec] at this

theorem addOwnFeatures_ne_fuel (name : String) : ∀ (fs : List Feature) (ts : TypeSystem),
    addOwnFeatures ts name fs ≠ .error .outOfFuel := by
  intro fs
  induction fs with
  | nil => nofun
  | cons f fs ih =>
    intro ts h
    simp only [addOwnFeatures] at h
    split at h
    · cases h; exact addFeature_ne_fuel _ _ _ ‹_›
    · exact ih _ h

theorem inheritFrom_ne_fuel (name : String) : ∀ (fs : List Feature) (ts : TypeSystem),
    inheritFrom ts name fs ≠ .error .outOfFuel := by
  intro fs
  induction fs with
  | nil => nofun
  | cons f fs ih =>
    intro ts h
    simp only [inheritFrom] at h
    split at h
    · cases h
    · split at h
      · cases h; exact pushInherited_ne_fuel _ _ _ ‹_›
      · exact ih _ h

theorem inheritAll_err : ∀ (fs : List Feature) (t : TypeRec) (e : Err), inheritAll fs t = .error e →
    e = .valueError := by
  intro fs
  induction fs with
  | nil => intro t e h; simp only [inheritAll] at h; cases h
  | cons f fs ih =>
    intro t e h
    simp only [inheritAll] at h
    split at h
    · cases h; rfl
    · exact ih _ e h
    · exact ih _ e h

theorem createType_ne_fuel (K : Consts) (ts : TypeSystem) (n s : String) (d : Option String) :
    createType K ts n s d ≠ .error .outOfFuel := by
  intro h
  unfold createType at h
  simp only [bind, Except.bind, throw, throwThe, MonadExceptOf.throw, pure, Except.pure] at h
  split at h
  · cases h
  · split at h
    · cases h
    · split at h
      · rename_i e he
        cases h
        have := getType_err _ _ _ he; cases this
      · split at h
        · cases h
        · split at h
          · rename_i e he
            cases h
            have := inheritAll_err _ _ _ he; cases this
          · cases h

theorem reparent_ne_fuel (ts : TypeSystem) (name oldSup newSup : String) :
    reparent ts name oldSup newSup ≠ .error .outOfFuel := by
  unfold reparent
  split
  · intro h; cases h
  · split
    · intro h; cases h
    · exact inheritFrom_ne_fuel _ _ _

theorem declSuper_ne_fuel (K : Consts) (ts : TypeSystem) (d : Decl) : declSuper K ts d ≠ .error .outOfFuel := by
  unfold declSuper
  split
  · exact createType_ne_fuel _ _ _ _ _
  · split
    · nofun
    · split
      · split
        · exact reparent_ne_fuel _ _ _ _
        · split <;> nofun
      · nofun

theorem processDecl_ne_fuel (K : Consts) (s : MState) (d : Decl) :
    processDecl K s d ≠ .error .outOfFuel := by
  rw [processDecl_eq]
  simp only [bind, Except.bind, pure, Except.pure]
  intro h
  split at h
  · cases h; exact declSuper_ne_fuel _ _ _ ‹_›
  · split at h
    · cases h; exact addOwnFeatures_ne_fuel _ _ _ ‹_›
    · cases h

theorem mergeRound_ne_fuel (K : Consts) : ∀ (ds : List Decl) (s : MState) (n : Nat),
    mergeRound K ds s n ≠ .error .outOfFuel := by
  intro ds
  induction ds with
  | nil => nofun
  | cons d ds ih =>
    intro s n h
    simp only [mergeRound] at h
    split at h
    · split at h
      · cases h; exact processDecl_ne_fuel K s d ‹_›
      · exact ih _ _ h
    · exact ih _ _ h

/-- a round that does not process everything merges a new declared name: follow the supertypes up from a skipped
    declaration until one is merged in this round -/
theorem mergeRound_progress (K : Consts) (decls : List Decl) (s s' : MState) (n : Nat)
    (hclosed : ∀ d ∈ decls, K.predefined.contains d.super = true ∨ d.super ∈ decls.map (·.name))
    (rank : String → Nat)
    (hrank : ∀ d ∈ decls, K.predefined.contains d.super = false → rank d.super < rank d.name)
    (h : mergeRound K decls s 0 = .ok (s', n)) (hn : n ≠ decls.length) :
    ∃ x ∈ decls.map (·.name), x ∈ s'.merged ∧ x ∉ s.merged := by
  obtain ⟨_, sk, r2, r3, r4⟩ := mergeRound_merged K decls s s' 0 n h
  obtain ⟨d0, hd0⟩ : ∃ d0, d0 ∈ sk := by
    cases sk with
    | nil => simp only [List.length_nil] at r2; omega
    | cons d0 _ => exact ⟨d0, List.mem_cons_self⟩
  have key : ∀ k, ∀ d ∈ sk, rank d.name ≤ k → ∃ x ∈ decls.map (·.name), x ∈ s'.merged ∧ x ∉ s.merged := by
    intro k
    induction k with
    | zero =>
      intro d hd hk
      obtain ⟨hd, hp, _⟩ := r3 d hd
      have := hrank d hd hp
      omega
    | succ k ih =>
      intro d hd hk
      obtain ⟨hd, hp, hm⟩ := r3 d hd
      have hr := hrank d hd hp
      rcases hclosed d hd with hpre | hdecl
      · rw [hp] at hpre; cases hpre
      · obtain ⟨d', hd', hname⟩ := List.mem_map.mp hdecl
        rcases r4 d' hd' with hsk | hin
        · exact ih d' hsk (by rw [hname]; omega)
        · exact ⟨d.super, hdecl, hname ▸ hin, hm⟩
  exact key _ d0 hd0 (Nat.le_refl _)

/-- number of declared names (with repetitions) not yet merged -/
def unmerged (decls : List Decl) (s : MState) : Nat :=
  ((decls.map (·.name)).filter (fun x => !(s.merged.contains x))).length

theorem mergeLoop_fuel (K : Consts) (decls : List Decl)
    (hclosed : ∀ d ∈ decls, K.predefined.contains d.super = true ∨ d.super ∈ decls.map (·.name))
    (rank : String → Nat)
    (hrank : ∀ d ∈ decls, K.predefined.contains d.super = false → rank d.super < rank d.name) :
    ∀ (fuel : Nat) (s : MState), unmerged decls s < fuel → mergeLoop K decls fuel s ≠ .error .outOfFuel := by
  intro fuel
  induction fuel with
  | zero => intro s h; omega
  | succ fuel ih =>
    intro s hlt
    simp only [mergeLoop]
    split
    · rename_i e he
      intro heq
      cases heq
      exact mergeRound_ne_fuel K decls s 0 he
    · rename_i s1 n hr
      split
      · intro h; cases h
      · rename_i hn
        have hn' : n ≠ decls.length := by simpa using hn
        obtain ⟨x, hx, hin, hnot⟩ := mergeRound_progress K decls s s1 n hclosed rank hrank hr hn'
        obtain ⟨r1, _⟩ := mergeRound_merged K decls s s1 0 n hr
        apply ih s1
        have : unmerged decls s1 < unmerged decls s := by
          unfold unmerged
          apply filter_length_lt
          · intro y _ hy
            simp only [Bool.not_eq_true', List.contains_eq_mem, decide_eq_false_iff_not] at hy ⊢
            exact fun hm => hy (r1 y hm)
          · refine ⟨x, hx, ?_, ?_⟩
            · simpa using hnot
            · simpa using hin
        omega

theorem merge_terminates_aux (K : Consts) (base : TypeSystem) (decls : List Decl)
    (hclosed : ∀ d ∈ decls, K.predefined.contains d.super = true ∨ d.super ∈ decls.map (·.name))
    (hacyc : ∃ rank : String → Nat, ∀ d ∈ decls, K.predefined.contains d.super = false →
      rank d.super < rank d.name) :
    mergeDecls K base decls ≠ .error .outOfFuel := by
  obtain ⟨rank, hrank⟩ := hacyc
  have hlt : unmerged decls { ts := base, merged := [] } < decls.length + 1 := by
    unfold unmerged
    exact Nat.lt_succ_of_le (Nat.le_trans (List.length_filter_le _ _) (by simp))
  have := mergeLoop_fuel K decls hclosed rank hrank _ _ hlt
  unfold mergeDecls
  split
  · rename_i e he
    intro h; cases h; exact this he
  · intro h; cases h


/-! ### Copies of the merge functions, parametric in the push function

`pushInherited` is defined by well-founded recursion, which the kernel cannot unfold; instantiating the
copies with the structural `pushS` makes closed instances decidable by evaluation. -/

abbrev PushFn := Feature → Nat → TypeSystem → List String → R TypeSystem

def addFeatureG (push : PushFn) (ts : TypeSystem) (domain : String) (f : Feature) : R TypeSystem :=
  match find? ts domain with
  | none => .error .typeNotFound
  | some t =>
    match addCheck t f false with
    | .conflict => .error .valueError
    | .same => .ok ts
    | .fresh =>
      if descendantConflict ts domain f then .error .valueError
      else
        let ts1 := setRec ts { t with own := t.own ++ [f] }
        push f (ts.types.length + 1) ts1 t.children

def addOwnFeaturesG (push : PushFn) (ts : TypeSystem) (name : String) : List Feature → Except Err TypeSystem
  | [] => .ok ts
  | f :: fs =>
    match addFeatureG push ts name { f with domain := name } with
    | .error e => .error e
    | .ok ts' => addOwnFeaturesG push ts' name fs

def inheritFromG (push : PushFn) (ts : TypeSystem) (name : String) : List Feature → Except Err TypeSystem
  | [] => .ok ts
  | f :: fs =>
    if subtreeClash ts name f then .error .valueError
    else
      match push f (ts.types.length + 1) ts [name] with
      | .error e => .error e
      | .ok ts' => inheritFromG push ts' name fs

def reparentG (push : PushFn) (ts : TypeSystem) (name oldSup newSup : String) : Except Err TypeSystem :=
  if subsumes ts name newSup then .error .valueError
  else
    match find? ts newSup with
    | none => .error .typeNotFound
    | some ns =>
      let ts1 := relink ts name oldSup newSup
      inheritFromG push ts1 name (allFeatures ns)

def processDeclG (push : PushFn) (K : Consts) (s : MState) (d : Decl) : Except Err MState := do
  let ts1 ←
    if !(hasExact s.ts d.name) then do
      let ts' ← createType K s.ts d.name d.super d.descr
      addOwnFeaturesG push ts' d.name d.own
    else do
      let ex ← match find? s.ts d.name with
        | some t => pure t
        | none => throw .typeNotFound
      let exSup := ex.super.getD ""
      let ts' ←
        if d.super != exSup then
          match getType s.ts exSup, getType s.ts d.super with
          | .ok _, .ok _ =>
            if subsumes s.ts exSup d.super then reparentG push s.ts d.name exSup d.super
            else if subsumes s.ts d.super exSup then pure s.ts
            else throw .valueError
          | _, _ => throw .typeNotFound
        else pure s.ts
      addOwnFeaturesG push ts' d.name d.own
  pure { ts := ts1, merged := if s.merged.contains d.name then s.merged else s.merged ++ [d.name] }

def mergeRoundG (push : PushFn) (K : Consts) : List Decl → MState → Nat → Except Err (MState × Nat)
  | [], s, n => .ok (s, n)
  | d :: ds, s, n =>
    if K.predefined.contains d.super || s.merged.contains d.super then
      match processDeclG push K s d with
      | .error e => .error e
      | .ok s' => mergeRoundG push K ds s' (n + 1)
    else mergeRoundG push K ds s n

def mergeLoopG (push : PushFn) (K : Consts) (decls : List Decl) : Nat → MState → Except Err MState
  | 0, _ => .error .outOfFuel
  | fuel+1, s =>
    match mergeRoundG push K decls s 0 with
    | .error e => .error e
    | .ok (s', n) => if n == decls.length then .ok s' else mergeLoopG push K decls fuel s'

def mergeDeclsG (push : PushFn) (K : Consts) (base : TypeSystem) (decls : List Decl) : Except Err TypeSystem :=
  match mergeLoopG push K decls (decls.length + 1) { ts := base, merged := [] } with
  | .error e => .error e
  | .ok s => .ok s.ts

theorem addFeature_eq_G (ts : TypeSystem) (dom : String) (f : Feature) :
    addFeature ts dom f = addFeatureG pushInherited ts dom f := rfl

theorem addOwnFeatures_eq_G (name : String) : ∀ (fs : List Feature) (ts : TypeSystem),
    addOwnFeatures ts name fs = addOwnFeaturesG pushInherited ts name fs := by
  intro fs
  induction fs with
  | nil => intro ts; rfl
  | cons f fs ih =>
    intro ts
    simp only [addOwnFeatures, addOwnFeaturesG, ih, addFeature_eq_G]
    rfl

theorem inheritFrom_eq_G (name : String) : ∀ (fs : List Feature) (ts : TypeSystem),
    inheritFrom ts name fs = inheritFromG pushInherited ts name fs := by
  intro fs
  induction fs with
  | nil => intro ts; rfl
  | cons f fs ih =>
    intro ts
    simp only [inheritFrom, inheritFromG, ih]
    rfl

theorem reparent_eq_G (ts : TypeSystem) (name oldSup newSup : String) :
    reparent ts name oldSup newSup = reparentG pushInherited ts name oldSup newSup := by
  simp only [reparent, reparentG, inheritFrom_eq_G]
  rfl

theorem processDecl_eq_G (K : Consts) (s : MState) (d : Decl) :
    processDecl K s d = processDeclG pushInherited K s d := by
  simp only [processDecl, processDeclG, addOwnFeatures_eq_G, reparent_eq_G]
  rfl

theorem mergeRound_eq_G (K : Consts) : ∀ (ds : List Decl) (s : MState) (n : Nat),
    mergeRound K ds s n = mergeRoundG pushInherited K ds s n := by
  intro ds
  induction ds with
  | nil => intro s n; rfl
  | cons d ds ih =>
    intro s n
    simp only [mergeRound, mergeRoundG, ih, processDecl_eq_G]
    rfl

theorem mergeLoop_eq_G (K : Consts) (decls : List Decl) : ∀ (fuel : Nat) (s : MState),
    mergeLoop K decls fuel s = mergeLoopG pushInherited K decls fuel s := by
  intro fuel
  induction fuel with
  | zero => intro s; rfl
  | succ fuel ih =>
    intro s
    simp only [mergeLoop, mergeLoopG, ih, mergeRound_eq_G]
    rfl

theorem pushInherited_eq_pushS_fn : (pushInherited : PushFn) = pushS := by
  funext f fuel ts cs
  exact pushInherited_eq_pushS f fuel ts cs

theorem mergeDecls_eq_S (K : Consts) (base : TypeSystem) (decls : List Decl) :
    mergeDecls K base decls = mergeDeclsG pushS K base decls := by
  rw [← pushInherited_eq_pushS_fn]
  simp only [mergeDecls, mergeDeclsG, mergeLoop_eq_G]
  rfl

end Cassis.TS
