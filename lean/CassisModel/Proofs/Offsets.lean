/-
Offset conversion between code points and UTF-16 code units (`Model/Offsets.lean`): the table of prefix sums of the
widths has no duplicates (`table_nodup`), so the two lookups invert each other; `utf16Decode` undoes `utf16Encode` on
scalar values.
-/
import CassisModel.Model.Offsets

namespace Cassis.Offsets

/-- `IsScalar` is a decidable arithmetic condition (needed by the closed `decide` instances) -/
instance (cp : Nat) : Decidable (IsScalar cp) :=
  inferInstanceAs (Decidable (cp < 0xD800 ∨ (0xE000 ≤ cp ∧ cp < 0x110000)))

theorem width_pos (c : Nat) : 1 ≤ width c := by
  unfold width; split <;> omega

theorem width_pos_of_mem {cps : List Nat} : ∀ w ∈ cps.map width, 1 ≤ w := by
  intro w hw
  rw [List.mem_map] at hw
  obtain ⟨c, _, rfl⟩ := hw
  exact width_pos c

theorem accum_length (ws : List Nat) (a : Nat) : (accum ws a).length = ws.length + 1 := by
  induction ws generalizing a with
  | nil => simp [accum]
  | cons w ws ih => simp [accum, ih]

theorem accum_get (ws : List Nat) (a i : Nat) (h : i ≤ ws.length) :
    (accum ws a)[i]? = some (a + (ws.take i).sum) := by
  induction ws generalizing a i with
  | nil => simp at h; subst h; simp [accum]
  | cons w ws ih =>
    cases i with
    | zero => simp [accum]
    | succ i =>
      simp at h
      simp [accum, ih _ _ h]; omega

theorem table_get (cps : List Nat) (i : Nat) (h : i ≤ cps.length) :
    (table cps)[i]? = some (((cps.map width).take i).sum) := by
  have := accum_get (cps.map width) 0 i (by simpa using h)
  simpa [table] using this

theorem table_length (cps : List Nat) : (table cps).length = cps.length + 1 := by
  simp [table, accum_length]

theorem p2e_eq_sum (cps : List Nat) (i : Nat) (h : i ≤ cps.length) :
    p2e cps i = ((cps.map width).take i).sum := by
  simp [p2e, p2eTab, table_get cps i h]

theorem take_sum_lt (ws : List Nat) (hpos : ∀ w ∈ ws, 1 ≤ w) (i j : Nat) (hij : i < j)
    (hj : j ≤ ws.length) : (ws.take i).sum < (ws.take j).sum := by
  induction ws generalizing i j with
  | nil => simp at hj; omega
  | cons w ws ih =>
    cases j with
    | zero => omega
    | succ j =>
      have hw : 1 ≤ w := hpos w (by simp)
      have hpos' : ∀ w ∈ ws, 1 ≤ w := fun x hx => hpos x (by simp [hx])
      simp at hj
      cases i with
      | zero => simp; omega
      | succ i =>
        have := ih hpos' i j (by omega) hj
        simp; omega

theorem take_sum_bmp (cps : List Nat) (hb : ∀ c ∈ cps, c < 0x10000) (i : Nat)
    (h : i ≤ cps.length) : ((cps.map width).take i).sum = i := by
  induction cps generalizing i with
  | nil => simp at h; subst h; simp
  | cons c cs ih =>
    cases i with
    | zero => simp
    | succ i =>
      have hc : c < 0x10000 := hb c (by simp)
      have hb' : ∀ c ∈ cs, c < 0x10000 := fun x hx => hb x (by simp [hx])
      have hi : i ≤ cs.length := by simpa using h
      have hw : width c = 1 := by simp [width, hc]
      have := ih hb' i hi
      simp only [List.map_cons, List.take_succ_cons, List.sum_cons, hw, this]
      omega

theorem accum_ge (ws : List Nat) (a x : Nat) (hx : x ∈ accum ws a) : a ≤ x := by
  induction ws generalizing a with
  | nil => simp [accum] at hx; omega
  | cons w ws ih =>
    simp only [accum, List.mem_cons] at hx
    cases hx with
    | inl h => omega
    | inr h => have := ih _ h; omega

theorem accum_nodup (ws : List Nat) (hpos : ∀ w ∈ ws, 1 ≤ w) (a : Nat) : (accum ws a).Nodup := by
  induction ws generalizing a with
  | nil => simp [accum]
  | cons w ws ih =>
    have hw : 1 ≤ w := hpos w (by simp)
    have hpos' : ∀ w ∈ ws, 1 ≤ w := fun x hx => hpos x (by simp [hx])
    simp only [accum, List.nodup_cons]
    refine ⟨?_, ih hpos' _⟩
    intro hmem
    have := accum_ge ws (a + w) a hmem
    omega

theorem table_nodup (cps : List Nat) : (table cps).Nodup :=
  accum_nodup (cps.map width) width_pos_of_mem 0

theorem lookupLastAux_not_mem (keys : List Nat) (k s : Nat) (best : Option Nat) (h : k ∉ keys) :
    lookupLastAux keys k s best = best := by
  induction keys generalizing s best with
  | nil => rfl
  | cons x xs ih =>
    have hx : ¬ x = k := fun e => h (by simp [e])
    have hxs : k ∉ xs := fun e => h (by simp [e])
    simp only [lookupLastAux, if_neg hx]
    exact ih _ _ hxs

theorem lookupLastAux_get (keys : List Nat) (hnd : keys.Nodup) (k s idx : Nat) (best : Option Nat)
    (h : keys[idx]? = some k) : lookupLastAux keys k s best = some (s + idx) := by
  induction keys generalizing s best idx with
  | nil => simp at h
  | cons x xs ih =>
    rw [List.nodup_cons] at hnd
    cases idx with
    | zero =>
      have hx : x = k := by simpa using h
      subst hx
      simp only [lookupLastAux, if_true]
      rw [lookupLastAux_not_mem xs x (s + 1) (some s) hnd.1]
      rfl
    | succ idx =>
      have h' : xs[idx]? = some k := by simpa using h
      simp only [lookupLastAux]
      rw [ih hnd.2 (s + 1) idx _ h']
      congr 1; omega

theorem lookupLast_get (keys : List Nat) (hnd : keys.Nodup) (k idx : Nat)
    (h : keys[idx]? = some k) : lookupLast keys k = some idx := by
  unfold lookupLast
  rw [lookupLastAux_get keys hnd k 0 idx none h]
  congr 1; omega

theorem lookupLast_not_mem (keys : List Nat) (k : Nat) (h : k ∉ keys) : lookupLast keys k = none :=
  lookupLastAux_not_mem keys k 0 none h

theorem e2p_of_get (cps : List Nat) (i j : Nat) (h : (table cps)[i]? = some j) : e2p cps j = i := by
  simp [e2p, e2pTab, lookupLast_get (table cps) (table_nodup cps) j i h]

theorem p2e_of_get (cps : List Nat) (i j : Nat) (h : (table cps)[i]? = some j) : p2e cps i = j := by
  simp [p2e, p2eTab, h]

theorem encodeCp_length (c : Nat) : (encodeCp c).length = width c := by
  unfold encodeCp width
  split <;> simp

theorem utf16Encode_nil : utf16Encode [] = [] := rfl

theorem utf16Encode_cons (c : Nat) (l : List Nat) :
    utf16Encode (c :: l) = encodeCp c ++ utf16Encode l := by
  simp [utf16Encode]

theorem utf16Encode_append (xs ys : List Nat) :
    utf16Encode (xs ++ ys) = utf16Encode xs ++ utf16Encode ys := by
  simp [utf16Encode]

theorem utf16Encode_length (l : List Nat) : (utf16Encode l).length = (l.map width).sum := by
  induction l with
  | nil => rfl
  | cons c l ih =>
    rw [utf16Encode_cons, List.length_append, encodeCp_length, ih]
    simp

theorem utf16Decode_encodeCp_append (c : Nat) (hc : IsScalar c) (rest : List Nat) :
    utf16Decode (encodeCp c ++ rest) = c :: utf16Decode rest := by
  unfold IsScalar at hc
  unfold encodeCp
  by_cases hlt : c < 0x10000
  · rw [if_pos hlt]
    cases rest with
    | nil => simp [utf16Decode]
    | cons v r =>
      have hcond : ¬ (0xD800 ≤ c ∧ c < 0xDC00 ∧ 0xDC00 ≤ v ∧ v < 0xE000) := by omega
      simp only [List.cons_append, List.nil_append, utf16Decode, if_neg hcond]
  · rw [if_neg hlt]
    have hcond : 0xD800 ≤ 0xD800 + (c - 0x10000) / 0x400 ∧ 0xD800 + (c - 0x10000) / 0x400 < 0xDC00 ∧
        0xDC00 ≤ 0xDC00 + (c - 0x10000) % 0x400 ∧ 0xDC00 + (c - 0x10000) % 0x400 < 0xE000 := by
      omega
    have harith : 0x10000 + (0xD800 + (c - 0x10000) / 0x400 - 0xD800) * 0x400 +
        (0xDC00 + (c - 0x10000) % 0x400 - 0xDC00) = c := by omega
    simp only [List.cons_append, List.nil_append, utf16Decode, if_pos hcond, harith]

theorem utf16Decode_encode (l : List Nat) (hs : ∀ c ∈ l, IsScalar c) :
    utf16Decode (utf16Encode l) = l := by
  induction l with
  | nil => simp [utf16Encode_nil, utf16Decode]
  | cons c l ih =>
    have hc : IsScalar c := hs c (by simp)
    have hs' : ∀ c ∈ l, IsScalar c := fun x hx => hs x (by simp [hx])
    rw [utf16Encode_cons, utf16Decode_encodeCp_append c hc, ih hs']

theorem slice_append3 {α} (A B C : List α) : slice (A ++ B ++ C) A.length (A ++ B).length = B := by
  unfold slice
  rw [List.take_left' rfl, List.drop_left' rfl]

theorem take_eq_take_append_slice {α} (l : List α) (b e : Nat) (hbe : b ≤ e) :
    l.take e = l.take b ++ slice l b e := by
  unfold slice
  have h1 : (l.take e).take b = l.take b := by
    rw [List.take_take, Nat.min_eq_left hbe]
  rw [← h1, List.take_append_drop]

theorem split3 {α} (l : List α) (b e : Nat) (hbe : b ≤ e) :
    l = l.take b ++ slice l b e ++ l.drop e := by
  rw [← take_eq_take_append_slice l b e hbe, List.take_append_drop]

theorem mem_slice {α} {l : List α} {b e : Nat} {x : α} (h : x ∈ slice l b e) : x ∈ l :=
  List.mem_of_mem_take (List.mem_of_mem_drop h)

theorem SofaText.set_conv (s : SofaText) (v : Option (List Nat)) :
    ∀ t, (s.set v).text = some t → (s.set v).conv = some (table t) := by
  intro t ht
  simp only [SofaText.set] at ht ⊢
  subst ht
  rfl

theorem foldl_set_invariant (vs : List (Option (List Nat))) (s : SofaText)
    (hinv : ∀ t, s.text = some t → s.conv = some (table t)) :
    ∀ t, (vs.foldl SofaText.set s).text = some t →
      (vs.foldl SofaText.set s).conv = some (table t) :=
  List.foldlRecOn (motive := fun s => ∀ t, s.text = some t → s.conv = some (table t)) vs _ hinv
    fun s _ v _ => SofaText.set_conv s v

end Cassis.Offsets
