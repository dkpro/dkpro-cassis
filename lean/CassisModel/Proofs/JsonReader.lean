/-
The JSON reader (`Model/Json.lean`) in normal form: what every statement about it starts from.  `parseFs` is the type lookup
followed by named stages (`parseFs_eq`, `parseFsWith`), `parseSofa` is `viewFor` followed by `sofaTail`, and each of the six
loops (`parseById`, `sofaPass`, `fsPass`, `fixUps`, `addJMembers`, `viewsPass`) is `List.foldlM` of a named step over the
elements it looks at.  Two rules for a fold in `Except`, neither of them here, then serve every statement about a successful
run (`Det.foldlM_inv` of `Lists.lean`: an invariant, which may speak of the elements done so far) and about two runs side by
side (`ESim.foldlM` of `JsonReaderSimHeap.lean`): what is left to prove is one step.  The type name an element is looked
up under, `fsTypeName`, is defined in `Spec/ReaderSim.lean`, whose statement needs it.
-/
import CassisModel.Spec.JsonDoc
import CassisModel.Spec.ReaderSim
import CassisModel.Proofs.Cas

namespace Cassis.Json

/-! ### the id table (`lookup`, `setFs`) -/

theorem lookup_nil (i : Int) : lookup [] i = none := rfl

theorem lookup_cons (k : Int) (w : Val) (l : List (Int × Val)) (i : Int) :
    lookup ((k, w) :: l) i = if k = i then some w else lookup l i := by
  unfold lookup
  rw [List.find?_cons]
  by_cases h : k = i
  · simp [h]
  · have : (k == i) = false := by simpa using h
    simp [this, h]

theorem lookup_append (A B : List (Int × Val)) (i : Int) :
    lookup (A ++ B) i = match lookup A i with | some v => some v | none => lookup B i := by
  induction A with
  | nil => rfl
  | cons p A ih =>
    obtain ⟨k, w⟩ := p
    rw [List.cons_append, lookup_cons, lookup_cons]
    by_cases h : k = i
    · rw [if_pos h, if_pos h]
    · rw [if_neg h, if_neg h]; exact ih

theorem lookup_none_of_not_mem (l : List (Int × Val)) (i : Int) (h : i ∉ l.map (·.1)) : lookup l i = none := by
  induction l with
  | nil => rfl
  | cons p l ih =>
    obtain ⟨k, w⟩ := p
    simp only [List.map_cons, List.mem_cons, not_or] at h
    rw [lookup_cons, if_neg (fun e => h.1 e.symm)]
    exact ih h.2

theorem lookup_of_mem_nodup (l : List (Int × Val)) (hnd : (l.map (·.1)).Nodup) (i : Int) (v : Val) (h : (i, v) ∈ l) :
    lookup l i = some v := by
  induction l with
  | nil => cases h
  | cons p l ih =>
    obtain ⟨k, w⟩ := p
    rw [List.map_cons, List.nodup_cons] at hnd
    rw [lookup_cons]
    rcases List.mem_cons.mp h with e | h'
    · cases e; rw [if_pos rfl]
    · have : k ≠ i := by
        intro e; apply hnd.1; rw [e]; exact List.mem_map_of_mem (f := (·.1)) h'
      rw [if_neg this]; exact ih hnd.2 h'

theorem lookup_mem {l : List (Int × Val)} {i : Int} {v : Val} (h : lookup l i = some v) : (i, v) ∈ l := by
  unfold lookup at h
  cases hf : l.find? (fun p => p.1 == i) with
  | none => rw [hf] at h; cases h
  | some q =>
    rw [hf] at h
    cases h
    have hk : q.1 = i := by simpa using List.find?_some hf
    have := List.mem_of_find?_eq_some hf
    rw [← hk]
    exact this

theorem mem_setFs {l : List (Int × Val)} {k : Int} {v : Val} {q : Int × Val} (h : q ∈ setFs l k v) :
    q ∈ l ∨ q = (k, v) := by
  induction l with
  | nil => exact Or.inr (List.mem_singleton.mp h)
  | cons p rest ih =>
    obtain ⟨k', w⟩ := p
    unfold setFs at h
    split at h
    · rcases List.mem_cons.mp h with h | h
      · exact Or.inr h
      · exact Or.inl (List.mem_cons_of_mem _ h)
    · rcases List.mem_cons.mp h with h | h
      · exact Or.inl (h ▸ List.mem_cons_self)
      · rcases ih h with h | h
        · exact Or.inl (List.mem_cons_of_mem _ h)
        · exact Or.inr h

theorem setFs_self (l : List (Int × Val)) (k : Int) (v : Val) : (k, v) ∈ setFs l k v := by
  induction l with
  | nil => exact List.mem_singleton.mpr rfl
  | cons p rest ih =>
    obtain ⟨k', w⟩ := p
    unfold setFs
    split
    · exact List.mem_cons_self
    · exact List.mem_cons_of_mem _ ih

theorem setFs_keys (l : List (Int × Val)) (k : Int) (v : Val) (i : Int) (h : i ∈ l.map (·.1)) :
    i ∈ (setFs l k v).map (·.1) := by
  induction l with
  | nil => cases h
  | cons p rest ih =>
    obtain ⟨k', w⟩ := p
    unfold setFs
    split
    · rename_i hk
      rcases List.mem_cons.mp h with h | h
      · have : k' = k := by simpa using hk
        rw [h]
        show k' ∈ k :: _
        rw [this]
        exact List.mem_cons_self
      · exact List.mem_cons_of_mem _ h
    · rcases List.mem_cons.mp h with h | h
      · rw [h]; exact List.mem_cons_self
      · exact List.mem_cons_of_mem _ (ih h)

theorem setFs_key_self (l : List (Int × Val)) (k : Int) (v : Val) : k ∈ (setFs l k v).map (·.1) :=
  List.mem_map.mpr ⟨(k, v), setFs_self l k v, rfl⟩

theorem setFs_new (l : List (Int × Val)) (i : Int) (v : Val) (h : i ∉ l.map (·.1)) :
    setFs l i v = l ++ [(i, v)] := by
  induction l with
  | nil => rfl
  | cons p rest ih =>
    obtain ⟨k, w⟩ := p
    simp only [List.map_cons, List.mem_cons, not_or] at h
    have hk : (k == i) = false := by simpa using fun e => h.1 (Eq.symm e)
    simp only [setFs, hk, Bool.false_eq_true, if_false, ih h.2, List.cons_append]

/-! ### a view that was just written -/

theorem setViewRec_setViewRec (c : Cas) (n : String) (v v' : View) :
    Cas.setViewRec (Cas.setViewRec c n v) n v' = Cas.setViewRec c n v' := by
  unfold Cas.setViewRec
  simp only [alistSet_alistSet]

theorem updSofa_get {c : Cas} {n : String} {l : Bool} {v : View} (h : Cas.getViewRec c n = some v) (f : Sofa → Sofa) :
    Cas.updSofa c { view := n, lenient := l } f = .ok (Cas.setViewRec c n { v with sofa := f v.sofa }) := by
  unfold Cas.updSofa Cas.cur
  simp only [h, bind, Except.bind, pure, Except.pure]

theorem updSofa_set (c : Cas) (n : String) (l : Bool) (v : View) (f : Sofa → Sofa) :
    Cas.updSofa (Cas.setViewRec c n v) { view := n, lenient := l } f
      = .ok (Cas.setViewRec c n { v with sofa := f v.sofa }) := by
  rw [updSofa_get (Cas.getViewRec_set_same c n v), setViewRec_setViewRec]

theorem cur_set (c : Cas) (n : String) (l : Bool) (v : View) :
    Cas.cur (Cas.setViewRec c n v) { view := n, lenient := l } = .ok v :=
  Cas.cur_of_get (Cas.getViewRec_set_same c n v)

open Cassis.TS Cassis.Offsets

/-! ### one structure: `parseFs` in normal form -/

/-- the three filters of the reader on the members of an element -/
def plainP (p : String × JV) : Bool := !(p.1.startsWith "@") && !(p.1.startsWith "#") && !(p.1.startsWith "%")
def refP (p : String × JV) : Bool := p.1.startsWith "@"
def numP (p : String × JV) : Bool := p.1.startsWith "#"

/-- the keyword argument of a plain member -/
def kw (p : String × JV) : String × Val := (renameReserved p.1, valOfJV p.2)

/-- what `%ELEMENTS` adds to the constructor call: the keyword argument `elements` of a primitive array, the deferred
    entry of an FSArray, nothing for any other type -/
def elemArgs (K : Consts) (t : TypeRec) (addr : Nat) (el : Option JV) (kwargs0 : List (String × Val))
    (ds : List Deferred) : Except Err (List (String × Val) × List Deferred) :=
  if isPrimitiveArray K t.name then
    match parsePrimArray t.name el with
    | .error e => .error e
    | .ok ev => .ok (kwargs0 ++ [("elements", ev)], ds)
  else if t.name == FS_ARRAY then
    let ids := match el with
      | some (.refs l) => l
      | some (.ints l) => l.map some
      | _ => []
    .ok (kwargs0, ds ++ [{ addr := addr, slot := "elements", target := none, elems := some ids }])
  else .ok (kwargs0, ds)

theorem elemArgs_name {K : Consts} {t t' : TypeRec} (hn : t'.name = t.name) (addr : Nat) (el : Option JV)
    (kwargs0 : List (String × Val)) (ds : List Deferred) :
    elemArgs K t' addr el kwargs0 ds = elemArgs K t addr el kwargs0 ds := by
  unfold elemArgs
  rw [hn]

theorem elemArgs_deferred {K : Consts} {t : TypeRec} {addr : Nat} {el : Option JV} {kwargs0 kwargs : List (String × Val)}
    {ds d0 : List Deferred} (h : elemArgs K t addr el kwargs0 ds = .ok (kwargs, d0)) :
    d0 = ds ∨ ∃ ids, d0 = ds ++ [{ addr := addr, slot := "elements", target := none, elems := some ids }] := by
  unfold elemArgs at h
  split at h
  · split at h <;> cases h
    exact Or.inl rfl
  · split at h <;> cases h
    · exact Or.inr ⟨_, rfl⟩
    · exact Or.inl rfl

/-- the conversion of the offsets at the end of `parseFs` -/
def convStep (isAnn : Bool) (cas : Cas) (heap1 : Heap) (addr : Nat) : Except Err Heap :=
  if isAnn then
    match Xmi.slot heap1 addr "sofa" with
    | some (.sofa _ vn) =>
      match Cas.getViewRec cas vn with
      | some view => Xmi.convertOffsets view.sofa.conv heap1 addr
      | none => .error .attributeError
    | _ => .error .attributeError
  else .ok heap1

theorem convStep_false (cas : Cas) (heap1 : Heap) (addr : Nat) : convStep false cas heap1 addr = .ok heap1 := rfl

theorem convStep_of_view {cas : Cas} {heap1 : Heap} {addr cI : Nat} {vn : String} {view : View}
    (hs : Xmi.slot heap1 addr "sofa" = some (.sofa cI vn)) (hv : Cas.getViewRec cas vn = some view) :
    convStep true cas heap1 addr = Xmi.convertOffsets view.sofa.conv heap1 addr := by
  unfold convStep
  rw [if_pos rfl, hs]
  dsimp only
  rw [hv]

theorem convStep_ok {isAnn : Bool} {cas : Cas} {heap1 heap : Heap} {addr : Nat}
    (h : convStep isAnn cas heap1 addr = .ok heap) :
    if isAnn then
      ∃ (cI : Nat) (vn : String) (view : View), Xmi.slot heap1 addr "sofa" = some (.sofa cI vn) ∧
        Cas.getViewRec cas vn = some view ∧ Xmi.convertOffsets view.sofa.conv heap1 addr = .ok heap
    else heap = heap1 := by
  unfold convStep at h
  split
  · rw [if_pos ‹_›] at h
    split at h
    · split at h
      · exact ⟨_, _, _, ‹_›, ‹_›, h⟩
      · cases h
    · cases h
  · rw [if_neg ‹_›] at h
    exact (Except.ok.inj h).symm

/-- `parseFs` after the type lookup, stage by stage: the type record and the answer to "is it an annotation type" are
    parameters -/
def parseFsWith (K : Consts) (t : TypeRec) (isAnn : Bool) (tsIdx : Nat) (s : RState) (j : JFs) : Except Err RState :=
  match j.id with
  | none => .error .typeError
  | some x =>
    match parseNums (j.feats.filter numP) with
    | .error e => .error e
    | .ok nums =>
      match elemArgs K t s.heap.length j.elements ((j.feats.filter plainP).map kw ++ nums) s.deferred with
      | .error e => .error e
      | .ok (kwargs, d0) =>
        match construct t tsIdx (some x) kwargs with
        | .error e => .error e
        | .ok o =>
          match resolveRefs renameReserved s.fss s.heap.length (j.feats.filter refP) (s.heap ++ [o], d0) with
          | .error e => .error e
          | .ok (heap1, d) =>
            match convStep isAnn s.cas heap1 s.heap.length with
            | .error e => .error e
            | .ok heap =>
              .ok { s with heap := heap, fss := setFs s.fss x (.ref s.heap.length), deferred := d,
                           maxId := max s.maxId x }

theorem parseFs_eq (K : Consts) (ts : TypeSystem) (tsIdx : Nat) (s : RState) (j : JFs) :
    parseFs K ts tsIdx s j =
      match getTypeExact ts (fsTypeName j) with
      | .error e => .error e
      | .ok t => parseFsWith K t (isInstanceOf ts t.name ANNOTATION) tsIdx s j := by
  unfold parseFs parseFsWith fsTypeName elemArgs convStep numP plainP refP kw
  rfl

theorem parseFs_ok_iff {K : Consts} {ts : TypeSystem} {tsIdx : Nat} {s s' : RState} {j : JFs} :
    parseFs K ts tsIdx s j = .ok s' ↔
      ∃ t x nums kwargs d0 o heap1 d heap, getTypeExact ts (fsTypeName j) = .ok t ∧ j.id = some x ∧
        parseNums (j.feats.filter numP) = .ok nums ∧
        elemArgs K t s.heap.length j.elements ((j.feats.filter plainP).map kw ++ nums) s.deferred = .ok (kwargs, d0) ∧
        construct t tsIdx (some x) kwargs = .ok o ∧
        resolveRefs renameReserved s.fss s.heap.length (j.feats.filter refP) (s.heap ++ [o], d0) = .ok (heap1, d) ∧
        convStep (isInstanceOf ts t.name ANNOTATION) s.cas heap1 s.heap.length = .ok heap ∧
        s' = { s with heap := heap, fss := setFs s.fss x (.ref s.heap.length), deferred := d,
                      maxId := max s.maxId x } := by
  rw [parseFs_eq]
  unfold parseFsWith
  constructor
  · intro h
    split at h
    · cases h
    · rename_i t ht
      split at h
      · cases h
      · rename_i x hid
        split at h
        · cases h
        · rename_i nums h1
          split at h
          · cases h
          · rename_i kwargs d0 h2
            split at h
            · cases h
            · rename_i o h3
              split at h
              · cases h
              · rename_i heap1 d h4
                split at h
                · cases h
                · rename_i heap h5
                  exact ⟨t, x, nums, kwargs, d0, o, heap1, d, heap, ht, hid, h1, h2, h3, h4, h5, (Except.ok.inj h).symm⟩
  · rintro ⟨t, x, nums, kwargs, d0, o, heap1, d, heap, ht, hid, h1, h2, h3, h4, h5, rfl⟩
    simp only [ht, hid, h1, h2, h3, h4, h5]

theorem parseFs_of_stages {K : Consts} {ts : TypeSystem} {tsIdx : Nat} {s : RState} {j : JFs} {t : TypeRec} {x : Int}
    {nums kwargs : List (String × Val)} {d0 d : List Deferred} {o : Obj} {heap1 heap : Heap}
    (ht : getTypeExact ts (fsTypeName j) = .ok t) (hid : j.id = some x)
    (h1 : parseNums (j.feats.filter numP) = .ok nums)
    (h2 : elemArgs K t s.heap.length j.elements ((j.feats.filter plainP).map kw ++ nums) s.deferred = .ok (kwargs, d0))
    (h3 : construct t tsIdx (some x) kwargs = .ok o)
    (h4 : resolveRefs renameReserved s.fss s.heap.length (j.feats.filter refP) (s.heap ++ [o], d0) = .ok (heap1, d))
    (h5 : convStep (isInstanceOf ts t.name ANNOTATION) s.cas heap1 s.heap.length = .ok heap) :
    parseFs K ts tsIdx s j =
      .ok { s with heap := heap, fss := setFs s.fss x (.ref s.heap.length), deferred := d, maxId := max s.maxId x } :=
  parseFs_ok_iff.mpr ⟨t, x, nums, kwargs, d0, o, heap1, d, heap, ht, hid, h1, h2, h3, h4, h5, rfl⟩

/-! ### one sofa element -/

def jget (j : JFs) (k : String) : Option JV := (j.feats.find? (fun p => p.1 == k)).map (·.2)

def numOf (j : JFs) : Option Int := match jget j "sofaNum" with | some (.int n) => some n | _ => none

/-- `_get_or_create_view`: the initial view takes the id (and the sofaNum, if given) of the element, an existing view is
    taken as it is, a new view is created with the id and sofaNum of the element -/
def viewFor (c : Cas) (name : String) (fsId : Int) (num : Option Int) : Except Err Cas :=
  if name == Cas.INITIAL_VIEW then
    Cas.updSofa c { view := name, lenient := false } (fun so => { so with xid := fsId, sofaNum := num.getD so.sofaNum })
  else if (Cas.getViewRec c name).isSome then .ok c
  else match Cas.createView c { view := Cas.INITIAL_VIEW, lenient := false } name (some fsId) num with
    | .error e => .error e
    | .ok (c', _) => .ok c'

/-- the second half of `parseSofa`: the sofa is registered under the id it carries at the end -/
def sofaTail (s : RState) (ci : Nat) (name : String) (c1 : Cas) (text : Option (List Nat))
    (m u : Option String) (arr : Val) : Except Err RState :=
  (Cas.setSofaString c1 { view := name, lenient := false } text).bind fun c2 =>
  (Cas.setSofaMime c2 { view := name, lenient := false } m).bind fun c3 =>
  (Cas.setSofaUri c3 { view := name, lenient := false } u).bind fun c4 =>
  (Cas.setSofaArray c4 { view := name, lenient := false } arr).bind fun c5 =>
  (Cas.cur c5 { view := name, lenient := false }).bind fun v =>
    .ok { s with cas := c5, fss := setFs s.fss v.sofa.xid (.sofa ci name),
                 maxId := max s.maxId v.sofa.xid, maxNum := max s.maxNum v.sofa.sofaNum }

theorem parseSofa_eq (ci : Nat) (s : RState) (j : JFs) :
    parseSofa ci s j =
      match j.id, sofaIdOf j with
      | some fsId, some name =>
        (viewFor s.cas name fsId (numOf j)).bind fun c1 =>
          sofaTail s ci name c1
            (match jget j "sofaString" with | some (.str t) => some (t.toList.map Char.toNat) | _ => none)
            (match jget j "mimeType" with | some (.str m) => some m | _ => none)
            (match jget j "sofaURI" with | some (.str m) => some m | _ => none)
            (match jget j "@sofaArray" with | some (.int i) => (lookup s.fss i).getD .none | _ => .none)
      | _, _ => .error .typeError := by
  unfold parseSofa sofaIdOf
  cases j.id with
  | none => rfl
  | some fsId =>
    dsimp only [bind, Except.bind, pure, Except.pure]
    generalize (j.feats.find? (fun p => p.1 == "sofaID")).map (·.2) = x
    cases x with
    | none => rfl
    | some v =>
      cases v
      case str name =>
        dsimp only
        unfold viewFor sofaTail Cas.setSofaString Cas.setSofaMime Cas.setSofaUri Cas.setSofaArray numOf jget
        by_cases hi : (name == Cas.INITIAL_VIEW) = true
        · rw [if_pos hi, if_pos hi]; rfl
        · rw [if_neg hi, if_neg hi]
          by_cases he : (Cas.getViewRec s.cas name).isSome = true
          · rw [if_pos he, if_pos he]; rfl
          · rw [if_neg he, if_neg he]
            cases Cas.createView s.cas { view := Cas.INITIAL_VIEW, lenient := false } name (some fsId) _ <;> rfl
      all_goals rfl

/-- the sofa data `parseSofa` installs in the view it was handed -/
def tailView (v : View) (text : Option (List Nat)) (m u : Option String) (a : Val) : View :=
  { v with sofa := { v.sofa with text := text, conv := createMapping v.sofa.conv text, mime := m, uri := u, arr := a } }

theorem sofaTail_eq {c1 : Cas} {name : String} {v1 : View} (hv : Cas.getViewRec c1 name = some v1) (s : RState) (ci : Nat)
    (text : Option (List Nat)) (m u : Option String) (a : Val) :
    sofaTail s ci name c1 text m u a =
      .ok { s with cas := Cas.setViewRec c1 name (tailView v1 text m u a),
                   fss := setFs s.fss v1.sofa.xid (.sofa ci name),
                   maxId := max s.maxId v1.sofa.xid, maxNum := max s.maxNum v1.sofa.sofaNum } := by
  unfold sofaTail Cas.setSofaString Cas.setSofaMime Cas.setSofaUri Cas.setSofaArray
  simp only [updSofa_get hv, updSofa_set, cur_set, Except.bind]
  rfl

/-! ### the pieces of the last two passes -/

/-- the value a deferred entry stores -/
def fixVal (fss : List (Int × Val)) (d : Deferred) : Val :=
  match d.elems with
  | some ids => .refs (ids.map (fun oi => match oi.bind (lookup fss) with
      | some (.ref a) => some a
      | _ => none))
  | none => (d.target.bind (lookup fss)).getD .none

/-- the first-seen `sofa` value of member `m` (at address `a`) and the updated record -/
def jOwnOf (m : Int) (a : Nat) (v : VState) : Option Val × List (Int × Option Val) :=
  match v.memberSofas.find? (fun q => q.1 == m) with
  | some q => (q.2, v.memberSofas)
  | none => (Traverse.slot v.heap a "sofa", v.memberSofas ++ [(m, Traverse.slot v.heap a "sofa")])

/-- the reader writes the first-seen `sofa` value back -/
def jWriteBack (own : Option Val) (heap' : Heap) (a : Nat) : Except Err Heap :=
  match own with
  | some w => if w != .none then Heap.setSlot heap' a "sofa" w else .ok heap'
  | none => .ok heap'

theorem jWriteBack_ok {own : Option Val} {hp hp' : Heap} {a : Nat} (h : jWriteBack own hp a = .ok hp') :
    hp' = hp ∨ ∃ w, Heap.setSlot hp a "sofa" w = .ok hp' := by
  unfold jWriteBack at h
  split at h
  · split at h
    · exact Or.inr ⟨_, h⟩
    · exact Or.inl (Except.ok.inj h).symm
  · exact Or.inl (Except.ok.inj h).symm

/-- one member of one view: indexed, then its first-seen `sofa` value is written back -/
def addJMember1 (ts : TypeSystem) (ci : Nat) (h : Handle) (m : Int) (a : Nat) (v : VState) : Except Err VState :=
  match Cas.add ts ci v.cas v.heap h a true with
  | .error e => .error e
  | .ok (c', heap') =>
    match jWriteBack (jOwnOf m a v).1 heap' a with
    | .error e => .error e
    | .ok heap'' => .ok { cas := c', heap := heap'', memberSofas := (jOwnOf m a v).2 }

theorem addJMember1_ok {ts : TypeSystem} {ci : Nat} {h : Handle} {m : Int} {a : Nat} {v v' : VState}
    (hm : addJMember1 ts ci h m a v = .ok v') :
    ∃ heap', Cas.add ts ci v.cas v.heap h a true = .ok (v'.cas, heap') ∧
      jWriteBack (jOwnOf m a v).1 heap' a = .ok v'.heap := by
  unfold addJMember1 at hm
  split at hm
  · cases hm
  · rename_i c' heap' hadd
    split at hm
    · cases hm
    · rename_i heap'' hwb
      cases hm
      exact ⟨heap', hadd, hwb⟩

/-! ### the loops as folds

Three of the equations (`sofaPass_eq`, `fixUps_eq`, `viewsPass_eq`) are proved by `show (match named_piece with …) = _`: a
`match` written here never matches the model's syntactically, but it is definitionally equal to it. -/

theorem fsPass_eq (K : Consts) (ts : TypeSystem) (tsIdx : Nat) : ∀ (l : List JFs) (s : RState),
    fsPass K ts tsIdx l s = (l.filter (fun j => j.ty != SOFA)).foldlM (parseFs K ts tsIdx) s
  | [], _ => rfl
  | j :: l, s => by
    rw [fsPass]
    by_cases h : (j.ty != SOFA) = true
    · rw [if_pos h, List.filter_cons_of_pos (p := fun j : JFs => j.ty != SOFA) h, List.foldlM_cons]
      cases parseFs K ts tsIdx s j with
      | error e => rfl
      | ok s' => exact fsPass_eq K ts tsIdx l s'
    · rw [if_neg h, List.filter_cons_of_neg (p := fun j : JFs => j.ty != SOFA) h]
      exact fsPass_eq K ts tsIdx l s

theorem parseById_eq (K : Consts) (ts : TypeSystem) (tsIdx : Nat) (i : Int) : ∀ (l : List JFs) (s : RState),
    parseById K ts tsIdx i l s = (l.filter (fun j => j.id == some i)).foldlM (parseFs K ts tsIdx) s
  | [], _ => rfl
  | j :: l, s => by
    rw [parseById]
    by_cases h : (j.id == some i) = true
    · rw [if_pos h, List.filter_cons_of_pos (p := fun j : JFs => j.id == some i) h, List.foldlM_cons]
      cases parseFs K ts tsIdx s j with
      | error e => rfl
      | ok s' => exact parseById_eq K ts tsIdx i l s'
    · rw [if_neg h, List.filter_cons_of_neg (p := fun j : JFs => j.id == some i) h]
      exact parseById_eq K ts tsIdx i l s

/-- a byte array the sofa element refers to is parsed first, unless it is registered already -/
def sofaPre (K : Consts) (ts : TypeSystem) (tsIdx : Nat) (all : List JFs) (s : RState) (j : JFs) : Except Err RState :=
  match jget j "@sofaArray" with
  | some (.int i) => if (lookup s.fss i).isNone then parseById K ts tsIdx i all s else .ok s
  | _ => .ok s

/-- one sofa element of the first pass -/
def sofaStep (K : Consts) (ts : TypeSystem) (tsIdx ci : Nat) (all : List JFs) (s : RState) (j : JFs) :
    Except Err RState :=
  (sofaPre K ts tsIdx all s j).bind fun s1 => parseSofa ci s1 j

theorem sofaPass_eq (K : Consts) (ts : TypeSystem) (tsIdx ci : Nat) (all : List JFs) : ∀ (l : List JFs) (s : RState),
    sofaPass K ts tsIdx ci all l s = (l.filter (fun j => j.ty == SOFA)).foldlM (sofaStep K ts tsIdx ci all) s
  | [], _ => rfl
  | j :: l, s => by
    rw [sofaPass]
    by_cases h : (j.ty == SOFA) = true
    · rw [if_pos h, List.filter_cons_of_pos (p := fun j : JFs => j.ty == SOFA) h, List.foldlM_cons]
      show (match sofaPre K ts tsIdx all s j with
        | .error e => .error e
        | .ok s1 => match parseSofa ci s1 j with
          | .error e => .error e
          | .ok s2 => sofaPass K ts tsIdx ci all l s2) = (sofaPre K ts tsIdx all s j).bind _ >>= _
      cases sofaPre K ts tsIdx all s j with
      | error e => rfl
      | ok s1 =>
        show (match parseSofa ci s1 j with
          | .error e => .error e
          | .ok s2 => sofaPass K ts tsIdx ci all l s2) = parseSofa ci s1 j >>= _
        cases parseSofa ci s1 j with
        | error e => rfl
        | ok s2 => exact sofaPass_eq K ts tsIdx ci all l s2
    · rw [if_neg h, List.filter_cons_of_neg (p := fun j : JFs => j.ty == SOFA) h]
      exact sofaPass_eq K ts tsIdx ci all l s

theorem sofaStep_ok {K : Consts} {ts : TypeSystem} {tsIdx ci : Nat} {all : List JFs} {s r : RState} {j : JFs}
    (h : sofaStep K ts tsIdx ci all s j = .ok r) :
    ∃ s1, (s1 = s ∨ ∃ i, parseById K ts tsIdx i all s = .ok s1) ∧ parseSofa ci s1 j = .ok r := by
  obtain ⟨s1, h1, h2⟩ := Det.bind_ok h
  refine ⟨s1, ?_, h2⟩
  unfold sofaPre at h1
  split at h1
  · split at h1
    · exact Or.inr ⟨_, h1⟩
    · cases h1; exact Or.inl rfl
  · cases h1; exact Or.inl rfl

theorem fixUps_eq (fss : List (Int × Val)) : ∀ (ds : List Deferred) (hp : Heap),
    fixUps fss ds hp = ds.foldlM (fun hp d => Heap.setSlot hp d.addr d.slot (fixVal fss d)) hp
  | [], _ => rfl
  | d :: ds, hp => by
    rw [fixUps, List.foldlM_cons]
    show (match Heap.setSlot hp d.addr d.slot (fixVal fss d) with
      | .error e => Except.error e
      | .ok heap' => fixUps fss ds heap') = _
    cases Heap.setSlot hp d.addr d.slot (fixVal fss d) with
    | error e => rfl
    | ok hp' => exact fixUps_eq fss ds hp'

/-- one entry of a member list -/
def memberStep (ts : TypeSystem) (ci : Nat) (h : Handle) (fss : List (Int × Val)) (v : VState) (m : Int) :
    Except Err VState :=
  match lookup fss m with
  | some (.ref a) => addJMember1 ts ci h m a v
  | some _ => .error .attributeError
  | none => .error .keyError

theorem addJMembers_eq (ts : TypeSystem) (ci : Nat) (h : Handle) (fss : List (Int × Val)) :
    ∀ (ms : List Int) (v : VState), addJMembers ts ci h fss ms v = ms.foldlM (memberStep ts ci h fss) v
  | [], _ => by rw [addJMembers]; rfl
  | m :: ms, v => by
    rw [List.foldlM_cons]
    unfold memberStep
    cases hl : lookup fss m with
    | none => rw [addJMembers]; simp only [hl]; rfl
    | some w =>
      cases w
      case ref a =>
        have e : addJMembers ts ci h fss (m :: ms) v =
            match Cas.add ts ci v.cas v.heap h a true with
            | .error e => .error e
            | .ok (c', heap') =>
              match jWriteBack (jOwnOf m a v).1 heap' a with
              | .error e => .error e
              | .ok heap'' =>
                addJMembers ts ci h fss ms { cas := c', heap := heap'', memberSofas := (jOwnOf m a v).2 } := by
          rw [addJMembers]
          simp only [hl]
          unfold jOwnOf jWriteBack
          cases v.memberSofas.find? (fun q => q.1 == m) <;> rfl
        rw [e]
        show _ = addJMember1 ts ci h m a v >>= _
        unfold addJMember1
        cases Cas.add ts ci v.cas v.heap h a true with
        | error e => rfl
        | ok r =>
          dsimp only
          cases jWriteBack (jOwnOf m a v).1 r.2 a with
          | error e => rfl
          | ok hp => exact addJMembers_eq ts ci h fss ms _
      all_goals (rw [addJMembers]; simp only [hl]; rfl)

/-- the view an entry of `%VIEWS` names is created unless it exists -/
def viewEnsure (c : Cas) (name : String) (lenient : Bool) : Except Err Cas :=
  if (Cas.getViewRec c name).isNone then
    match Cas.createView c { view := Cas.INITIAL_VIEW, lenient := lenient } name none none with
    | .error e => Except.error e
    | .ok (c', _) => .ok c'
  else .ok c

/-- one entry of `%VIEWS` -/
def viewStep (ts : TypeSystem) (ci : Nat) (lenient : Bool) (fss : List (Int × Val)) (v : VState) (jv : JView) :
    Except Err VState :=
  (viewEnsure v.cas jv.name lenient).bind fun c =>
    addJMembers ts ci { view := jv.name, lenient := lenient } fss jv.members { v with cas := c }

theorem viewsPass_eq (ts : TypeSystem) (ci : Nat) (lenient : Bool) (fss : List (Int × Val)) :
    ∀ (l : List JView) (v : VState), viewsPass ts ci lenient fss l v = l.foldlM (viewStep ts ci lenient fss) v
  | [], _ => by rw [viewsPass]; rfl
  | jv :: l, v => by
    rw [viewsPass, List.foldlM_cons]
    show (match viewEnsure v.cas jv.name lenient with
      | .error e => .error e
      | .ok c => match addJMembers ts ci { view := jv.name, lenient := lenient } fss jv.members { v with cas := c } with
        | .error e => .error e
        | .ok v' => viewsPass ts ci lenient fss l v') = (viewEnsure v.cas jv.name lenient).bind _ >>= _
    cases viewEnsure v.cas jv.name lenient with
    | error e => rfl
    | ok c =>
      show (match addJMembers ts ci { view := jv.name, lenient := lenient } fss jv.members { v with cas := c } with
        | .error e => .error e
        | .ok v' => viewsPass ts ci lenient fss l v') = addJMembers ts ci _ fss jv.members { v with cas := c } >>= _
      cases addJMembers ts ci { view := jv.name, lenient := lenient } fss jv.members { v with cas := c } with
      | error e => rfl
      | ok v' => exact viewsPass_eq ts ci lenient fss l v'

/-! ### the whole reader: its five stages -/

theorem loadTs_false (K : Consts) (ts : TypeSystem) (doc : JDoc) : loadTs K ts false doc = .ok ts := rfl

/-- the reader is its five stages in a row; `loadJson_ok` and `loadJson_of_passes` are this equation for one successful run -/
theorem loadJson_eq (K : Consts) (tsArg : TypeSystem) (tsIdx ci : Nat) (lenient mergeTs : Bool) (hp : Heap) (doc : JDoc) :
    loadJson K tsArg tsIdx ci lenient mergeTs hp doc =
      (loadTs K tsArg mergeTs doc).bind fun ts =>
      (sofaPass K ts tsIdx ci doc.fss doc.fss { cas := Cas.empty, heap := hp }).bind fun s1 =>
      (fsPass K ts tsIdx doc.fss s1).bind fun s =>
      (fixUps s.fss s.deferred s.heap).bind fun heap =>
      (viewsPass ts ci lenient s.fss doc.views
        { cas := { s.cas with nextXid := s.maxId + 1, nextSofaNum := s.maxNum + 1 }, heap := heap }).map fun v =>
      { ts := ts, cas := v.cas, heap := v.heap } := by
  unfold loadJson
  cases loadTs K tsArg mergeTs doc with
  | error e => rfl
  | ok ts =>
    dsimp only [Except.bind]
    cases sofaPass K ts tsIdx ci doc.fss doc.fss { cas := Cas.empty, heap := hp } with
    | error e => rfl
    | ok s1 =>
      dsimp only
      cases fsPass K ts tsIdx doc.fss s1 with
      | error e => rfl
      | ok s =>
        dsimp only
        cases fixUps s.fss s.deferred s.heap with
        | error e => rfl
        | ok heap =>
          dsimp only
          cases viewsPass ts ci lenient s.fss doc.views
            { cas := { s.cas with nextXid := s.maxId + 1, nextSofaNum := s.maxNum + 1 }, heap := heap } <;> rfl
theorem loadJson_ok {K : Consts} {tsArg : TypeSystem} {tsIdx ci : Nat} {lenient mergeTs : Bool} {hp : Heap} {doc : JDoc}
    {ld : Loaded} (h : loadJson K tsArg tsIdx ci lenient mergeTs hp doc = .ok ld) :
    ∃ (ts : TypeSystem) (s1 s : RState) (heap : Heap) (v : VState),
      loadTs K tsArg mergeTs doc = .ok ts ∧
      sofaPass K ts tsIdx ci doc.fss doc.fss { cas := Cas.empty, heap := hp } = .ok s1 ∧
      fsPass K ts tsIdx doc.fss s1 = .ok s ∧ fixUps s.fss s.deferred s.heap = .ok heap ∧
      viewsPass ts ci lenient s.fss doc.views
        { cas := { s.cas with nextXid := s.maxId + 1, nextSofaNum := s.maxNum + 1 }, heap := heap } = .ok v ∧
      ld = { ts := ts, cas := v.cas, heap := v.heap } := by
  unfold loadJson at h
  split at h
  · cases h
  · rename_i ts hts
    split at h
    · cases h
    · rename_i s1 hs1
      split at h
      · cases h
      · rename_i s hs
        split at h
        · cases h
        · rename_i heap hfix
          dsimp only at h
          split at h
          · cases h
          · rename_i v hvp
            cases h
            exact ⟨ts, s1, s, heap, v, hts, hs1, hs, hfix, hvp, rfl⟩

theorem loadJson_of_passes {K : Consts} {tsArg ts : TypeSystem} {tsIdx ci : Nat} {lenient mergeTs : Bool} {hp heap : Heap}
    {doc : JDoc} {s1 s : RState} {v : VState} (hts : loadTs K tsArg mergeTs doc = .ok ts)
    (hs1 : sofaPass K ts tsIdx ci doc.fss doc.fss { cas := Cas.empty, heap := hp } = .ok s1)
    (hs : fsPass K ts tsIdx doc.fss s1 = .ok s) (hfix : fixUps s.fss s.deferred s.heap = .ok heap)
    (hvp : viewsPass ts ci lenient s.fss doc.views
      { cas := { s.cas with nextXid := s.maxId + 1, nextSofaNum := s.maxNum + 1 }, heap := heap } = .ok v) :
    loadJson K tsArg tsIdx ci lenient mergeTs hp doc = .ok { ts := ts, cas := v.cas, heap := v.heap } := by
  unfold loadJson
  rw [hts]
  dsimp only
  rw [hs1]
  dsimp only
  rw [hs]
  dsimp only
  rw [hfix]
  dsimp only
  rw [hvp]

end Cassis.Json
