/-
What a loaded CAS (`LdCtx`, `ChainDefs.lean`) satisfies: it is traversed successfully under any options, the traversal
collects exactly the loaded structures under the ids of the written ones, and the hypotheses of the round-trip theorems
(`LOk`, `MembersOk`, `JsonFs`, members with sofa and ids) carry over from the CAS that was written.
-/
import CassisModel.Proofs.ChainDefs

namespace Cassis.Chain
open Cassis.TS Cassis.Traverse Cassis.Xmi Cassis.Json

section
variable {K : Consts} {ts : TypeSystem} {c : Cas} {ci : Nat} {H : Heap} {L : List (Int × Nat)} {na : Int → Nat}
  {c' : Cas} {ci' : Nat} {H' : Heap}

theorem LdCtx.moved (x : LdCtx K ts c ci H L na c' ci' H') (op op' : Opts) (lf : Nat) :
    Moved K ts ts op op' H lf H' L na := moved_of_flat x.lok x.rel x.flat' lf

theorem LdCtx.traversal (x : LdCtx K ts c ci H L na c' ci' H') (op : Opts) :
    ∃ st' : St, findAllFs K ts op H' c'.nextXid (defaultSeeds c') = .ok st' ∧ st'.heap = H' ∧
      ∀ r ∈ st'.allFs, ∃ q ∈ L, r.2 = na q.1 :=
  (x.moved op op 0).traversal _ (fun _ ha => x.ldViews.seed_fwd ha)

/-- `op` are the options of the first writer, `op'` those of the second -/
theorem LdCtx.sorted {op op' : Opts} {hp : Heap} {st st' : St}
    (hnx : 0 < c.nextXid) (hfa : findAllFs K ts op hp c.nextXid (defaultSeeds c) = .ok st)
    (x : LdCtx K ts c ci st.heap (sortById st.allFs) na c' ci' H')
    (hnx' : 0 < c'.nextXid)
    (hfa' : findAllFs K ts op' H' c'.nextXid (defaultSeeds c') = .ok st') (hheap : st'.heap = H')
    (hS : ∀ r ∈ st'.allFs, ∃ q ∈ sortById st.allFs, r.2 = na q.1) :
    st'.allFs.Perm (st.allFs.map (fun q => (q.1, na q.1))) ∧
    sortById st'.allFs = newL na (sortById st.allFs) := by
  obtain ⟨st'', h1, _, hperm, hsort⟩ := Moved.sorted hnx hfa (x.moved op op' _) (fun _ ha => x.ldViews.seed_fwd ha)
    (fun _ _ hx ha => x.ldViews.seed_bwd hx ha) hnx'
  rw [hfa'] at h1
  cases h1
  exact ⟨hperm, hsort⟩

theorem mem_newL {na : Int → Nat} {L : List (Int × Nat)} {q' : Int × Nat} :
    q' ∈ newL na L ↔ ∃ q ∈ L, q' = (q.1, na q.1) := by
  unfold newL
  rw [List.mem_map]
  constructor
  · rintro ⟨q, hq, rfl⟩; exact ⟨q, hq, rfl⟩
  · rintro ⟨q, hq, rfl⟩; exact ⟨q, hq, rfl⟩

theorem LdCtx.lok' (x : LdCtx K ts c ci H L na c' ci' H') : LOk K ts c' ci' H' (newL na L) := by
  refine ⟨?_, ?_, ?_, ?_, ?_⟩
  · intro q' hq'
    obtain ⟨q, hq, rfl⟩ := mem_newL.mp hq'
    exact x.flat' q hq
  · intro q' hq'
    obtain ⟨q, hq, rfl⟩ := mem_newL.mp hq'
    exact ⟨x.rel.xid hq, (x.lok.ids q hq).2⟩
  · have : (newL na L).map (·.1) = L.map (·.1) := by
      unfold newL; rw [List.map_map]; rfl
    rw [this]; exact x.lok.nodup
  · intro q' hq' o ho n b hb
    obtain ⟨q, hq, rfl⟩ := mem_newL.mp hq'
    obtain ⟨q2, hq2, rfl⟩ := rel_succ_fwd x.lok x.rel hq ho hb
    exact ⟨q2.1, x.rel.xid hq2, mem_newL.mpr ⟨q2, hq2, rfl⟩⟩
  · intro nv' hnv' e' he'
    obtain ⟨_, _, _, e, _, i, hi, hei⟩ := x.ldViews.entry hnv' he'
    exact ⟨i, mem_newL.mpr ⟨(i, e.oid), hi, by rw [hei]⟩⟩

theorem LdCtx.membersOk' (x : LdCtx K ts c ci H L na c' ci' H') (h : MembersOk c H) : MembersOk c' H' :=
  x.ldViews.membersOk_rel x.rel (fun _ _ => ⟨fun _ => rfl, rfl⟩) h

theorem LdCtx.mem_sofa' (x : LdCtx K ts c ci H L na c' ci' H')
    (h : ∀ nv ∈ c.views, ∀ e ∈ Index.all nv.2.idx, Xmi.slot H e.oid "sofa" ≠ some .none) :
    ∀ nv ∈ c'.views, ∀ e ∈ Index.all nv.2.idx, Xmi.slot H' e.oid "sofa" ≠ some .none :=
  x.ldViews.mem_sofa x.rel (fun q hq => .inl (genFs_of_flatFs (x.lok.flat q hq))) (fun _ _ => nofun) h

theorem LdCtx.mem_ids' (x : LdCtx K ts c ci H L na c' ci' H') :
    ∀ nv ∈ c'.views, ∀ e ∈ Index.all nv.2.idx, (xidOf H' e.oid).isSome = true :=
  x.ldViews.members_transfer (P := fun _ => True) (P' := fun a => (xidOf H' a).isSome = true)
    (fun q hq _ => by rw [x.rel.xid hq]; rfl) (fun _ _ _ _ => trivial)

theorem LdCtx.json' (x : LdCtx K ts c ci H L na c' ci' H') (h : ∀ q ∈ L, JsonFs ts H q.2) :
    ∀ q ∈ newL na L, JsonFs ts H' q.2 := by
  intro q' hq'
  obtain ⟨q, hq, rfl⟩ := mem_newL.mp hq'
  intro o' t ho' ht
  obtain ⟨o, o2, ho, ho2, hor⟩ := x.rel q hq
  rw [show H'[((q.1, na q.1) : Int × Nat).2]? = H'[na q.1]? from rfl] at ho'
  rw [ho'] at ho2; cases ho2
  rw [hor.1] at ht ⊢
  exact h q hq o t ho ht

theorem LdCtx.sofaRange' (x : LdCtx K ts c ci H L na c' ci' H')
    (h : ∀ q ∈ L, ∀ o t, H[q.2]? = some o → find? ts o.ty = some t → ∀ f ∈ allFeatures t, SofaRangeOk K ts o f) :
    ∀ q ∈ newL na L, ∀ o t, H'[q.2]? = some o → find? ts o.ty = some t → ∀ f ∈ allFeatures t, SofaRangeOk K ts o f := by
  intro q' hq'
  obtain ⟨q, hq, rfl⟩ := mem_newL.mp hq'
  intro o' t ho' ht f hf
  obtain ⟨o, o2, ho, ho2, hor⟩ := x.rel q hq
  rw [show H'[((q.1, na q.1) : Int × Nat).2]? = H'[na q.1]? from rfl] at ho'
  rw [ho'] at ho2; cases ho2
  rw [hor.1] at ht
  intro hn hne
  apply h q hq o t ho ht f hf hn
  intro h0
  apply hne
  rw [hor.slot f.name]
  cases hv : alistGet? o.slots f.name with
  | none => rfl
  | some v =>
    rw [hv] at h0
    simp only [Option.getD_some] at h0
    subst h0
    rfl

theorem LdCtx.dis' (x : LdCtx K ts c ci H L na c' ci' H')
    (h : ∀ q ∈ L, ∀ nv ∈ c.views, q.1 ≠ nv.2.sofa.xid) :
    ∀ q ∈ newL na L, ∀ nv ∈ c'.views, q.1 ≠ nv.2.sofa.xid := by
  intro q' hq' nv' hnv'
  obtain ⟨q, hq, rfl⟩ := mem_newL.mp hq'
  obtain ⟨nv, hnv, hr⟩ := x.views.all2.bwd nv' hnv'
  rw [hr.2.2.1]
  exact h q hq nv hnv

theorem LdCtx.content (x : LdCtx K ts c ci H L na c' ci' H') :
    ∀ q ∈ L, ∃ (o o' : Obj), H[q.2]? = some o ∧ H'[na q.1]? = some o' ∧ o'.ty = o.ty ∧ o'.xid = some q.1 ∧
      ∀ t : TypeRec, find? ts o.ty = some t → ∀ f ∈ allFeatures t,
        featContent H' (na q.1) f.name = featContent H q.2 f.name :=
  fun q hq =>
    let ⟨o, o', ho, ho', hty, hx, _⟩ := x.rel q hq
    ⟨o, o', ho, ho', hty, hx, fun _ ht _ hf => featContent_of_rel x.lok x.rel hq ho ht hf⟩

end

end Cassis.Chain
