/-
`inheritFrom`, `relink` and `reparent` against the weakened invariant `WInv` (`Proofs/MergeFeatInvPush.lean`):
after `relink` the re-parented type `r` still has the inherited features of its old supertype (`WInv` with
`L` = the effective features of the old supertype); `inheritFrom` appends the effective features of the new supertype;
the old supertype being an ancestor of the new one, `L` is absorbed and `FeatInv` holds again.  Hence every step of the
loop, and every successful merge, keeps `Consistent ∧ FeatInv` (C11), also when a type is re-parented with its subtypes.
-/
import CassisModel.Properties.C11
import CassisModel.Proofs.Merge
import CassisModel.Proofs.MergeFeatInvPush

namespace Cassis.TS

theorem wInv_inheritFrom (r a : String) : ∀ (fs : List Feature) (ts ts' : TypeSystem) (L : List Feature) (tr : TypeRec),
    Consistent ts → WInv ts r L → find? ts r = some tr → tr.super = some a →
    (∀ f ∈ fs, ∀ g ∈ L ++ fs, g.name = f.name → featureEq g f = true) →
    inheritFrom ts r fs = .ok ts' →
    WInv ts' r (L ++ fs) ∧ skel ts' = skel ts ∧ (∀ x, ¬ Anc ts r x → find? ts' x = find? ts x) := by
  intro fs
  induction fs with
  | nil =>
    intro ts ts' L tr _ hw _ _ _ h
    simp only [inheritFrom] at h
    cases h
    rw [List.append_nil]
    exact ⟨hw, rfl, fun _ _ => rfl⟩
  | cons f fs ih =>
    intro ts ts' L tr hc hw htr hsr hco h
    simp only [inheritFrom] at h
    split at h
    · cases h
    · rename_i hclash
      have hdc : subtreeClash ts r f = false := by simpa using hclash
      split at h
      · cases h
      · rename_i ts1 hpush
        have hT : PushTarget ts r f ts1 :=
          pushTarget_of_push _ hc htr hsr (fun y hy => hw.downOK hc hy) hpush
        have hw1 : WInv ts1 r (L ++ [f]) :=
          wInv_of_pushTarget hc hw htr hsr hdc
            (fun g hg e => hco f List.mem_cons_self g (List.mem_append_left _ hg) e) hT
        have hc1 : Consistent ts1 := consistent_of_skel hT.skel hc
        obtain ⟨tr1, htr1, he1⟩ := find?_transfer hT.skel.symm htr
        rw [tr_eq_iff] at he1
        have hsr1 : tr1.super = some a := by rw [he1.2.1]; exact hsr
        obtain ⟨hw2, hsk2, hun2⟩ := ih ts1 ts' (L ++ [f]) tr1 hc1 hw1 htr1 hsr1
          (by
            intro f' hf' g hg e
            apply hco f' (List.mem_cons_of_mem _ hf') g _ e
            rw [List.append_assoc] at hg
            exact hg) h
        refine ⟨?_, hsk2.trans hT.skel, ?_⟩
        · rw [List.append_assoc] at hw2; exact hw2
        · intro x hx
          have hx1 : ¬ Anc ts1 r x := fun h' => hx ((anc_skel_iff hT.skel r x).mp h')
          rw [hun2 x hx1, hT.untouched hx]

theorem wInv_relink (ts : TypeSystem) (name oldSup newSup : String) (ex pa : TypeRec)
    (hc : Consistent ts) (hf : FeatInv ts) (hex : find? ts name = some ex) (hsup : ex.super = some oldSup)
    (hpa : find? ts oldSup = some pa) :
    WInv (relink ts name oldSup newSup) name (allFeatures pa) := by
  have hfind := fun y => find?_relink ts name oldSup newSup y hc.nodup
  have hmem : ∀ t, t ∈ (relink ts name oldSup newSup).types →
      ∃ t0 ∈ ts.types, relinkRec name oldSup newSup t0 = t := by
    intro t ht
    rw [(relink_perm ts name oldSup newSup).mem_iff, List.mem_map] at ht
    exact ht
  have hsrc : ∀ s ps, find? (relink ts name oldSup newSup) s = some ps →
      ∃ ps0, find? ts s = some ps0 ∧ ps = relinkRec name oldSup newSup ps0 := by
    intro s ps h
    rw [hfind] at h
    cases h0 : find? ts s with
    | none => rw [h0] at h; cases h
    | some ps0 =>
      rw [h0] at h
      exact ⟨ps0, rfl, (Option.some.inj h).symm⟩
  refine ⟨?_, ?_, ?_, ?_, ?_, ?_, ?_, ?_⟩
  · intro t ht
    obtain ⟨t0, ht0, rfl⟩ := hmem t ht
    rw [relinkRec_own]; exact hf.ownNodup t0 ht0
  · intro t ht
    obtain ⟨t0, ht0, rfl⟩ := hmem t ht
    rw [relinkRec_inh]; exact hf.inhNodup t0 ht0
  · intro t ht
    obtain ⟨t0, ht0, rfl⟩ := hmem t ht
    rw [relinkRec_own, relinkRec_inh]; exact hf.compat t0 ht0
  · intro t ht hnr s ps hs hps n
    obtain ⟨t0, ht0, rfl⟩ := hmem t ht
    obtain ⟨ps0, hps0, rfl⟩ := hsrc s ps hps
    rw [relinkRec_name] at hnr
    rw [relinkRec_super, if_neg hnr] at hs
    rw [relinkRec_inh, allFeatures_relinkRec]
    exact hf.inherit t0 ht0 s ps0 hs hps0 n
  · intro t ht hnr s ps hs hps
    obtain ⟨t0, ht0, rfl⟩ := hmem t ht
    obtain ⟨ps0, hps0, rfl⟩ := hsrc s ps hps
    rw [relinkRec_name] at hnr
    rw [relinkRec_super, if_neg hnr] at hs
    rw [relinkRec_inh, allFeatures_relinkRec]
    exact hf.inheritEq t0 ht0 s ps0 hs hps0
  · intro t ht hs
    obtain ⟨t0, ht0, rfl⟩ := hmem t ht
    rw [relinkRec_super] at hs
    split at hs
    · cases hs
    · rw [relinkRec_inh]; exact hf.rootInh t0 ht0 hs
  · intro t ht n
    obtain ⟨t0, ht0, rfl⟩ := hsrc name t ht
    have e0 : t0 = ex := by rw [hex] at ht0; exact (Option.some.inj ht0).symm
    rw [e0, relinkRec_inh]
    exact hf.inherit ex (find?_mem hex) oldSup pa hsup hpa n
  · intro t ht
    obtain ⟨t0, ht0, rfl⟩ := hsrc name t ht
    have e0 : t0 = ex := by rw [hex] at ht0; exact (Option.some.inj ht0).symm
    rw [e0, relinkRec_inh]
    exact hf.inheritEq ex (find?_mem hex) oldSup pa hsup hpa

/-- **re-parenting a type — with its whole subtree — below a descendant of its supertype keeps the feature
    bookkeeping invariant** -/
theorem featInv_reparent (ts ts' : TypeSystem) (name oldSup newSup : String) (ex : TypeRec)
    (hc : Consistent ts) (hf : FeatInv ts) (hex : find? ts name = some ex) (hsup : ex.super = some oldSup)
    (hne : newSup ≠ oldSup) (hanc : Anc ts oldSup newSup)
    (h : reparent ts name oldSup newSup = .ok ts') : FeatInv ts' := by
  obtain ⟨_, ns, hns, hi⟩ := reparent_ok ts ts' name oldSup newSup h
  have hregn : hasExact ts name = true := (hasExact_iff_find _ _).mpr ⟨ex, hex⟩
  obtain ⟨hreg, hna⟩ := reparent_not_anc hc hregn h
  obtain ⟨pa, hpa⟩ := (hasExact_iff_find ts oldSup).mp (hc.superReg ex (find?_mem hex) oldSup hsup)
  have hc1 := consistent_relink ts name oldSup newSup ex hc hex hsup (fun e => hne e.symm) hreg hna
  have hw1 := wInv_relink ts name oldSup newSup ex pa hc hf hex hsup hpa
  have hfind := fun y => find?_relink ts name oldSup newSup y hc.nodup
  have hex1 : find? (relink ts name oldSup newSup) name = some (relinkRec name oldSup newSup ex) := by
    rw [hfind, hex]; rfl
  have hsup1 : (relinkRec name oldSup newSup ex).super = some newSup :=
    relinkRec_super_self name oldSup newSup ex (find?_name hex)
  have hns1 : find? (relink ts name oldSup newSup) newSup = some (relinkRec name oldSup newSup ns) := by
    rw [hfind, hns]; rfl
  have hco : ∀ f ∈ allFeatures ns, ∀ g ∈ allFeatures pa ++ allFeatures ns, g.name = f.name →
      featureEq g f = true := by
    intro f hfm g hg e
    have hcoh := hf.coherent (find?_mem hns)
    rcases List.mem_append.mp hg with hg | hg
    · obtain ⟨g', hg', hgg, _⟩ := chain_down hf hanc hpa hns g (allFeatures_sub hg)
      have := hcoh g' hg' f (allFeatures_sub hfm) ((featureEq_name hgg).trans e)
      exact featureEq_trans (featureEq_symm hgg) this
    · exact hcoh g (allFeatures_sub hg) f (allFeatures_sub hfm) e
  obtain ⟨hw, hsk, hun⟩ := wInv_inheritFrom name newSup (allFeatures ns) _ ts' (allFeatures pa) _ hc1 hw1 hex1 hsup1
    hco hi
  have hc' : Consistent ts' := consistent_of_skel hsk hc1
  have hnot1 : ¬ Anc (relink ts name oldSup newSup) name newSup := not_anc_of_super hc1 hex1 hsup1
  have hns' : find? ts' newSup = some (relinkRec name oldSup newSup ns) := by rw [hun newSup hnot1]; exact hns1
  have hname : ∀ t ∈ ts'.types, t.name = name → find? ts' name = some t ∧ t.super = some newSup := by
    intro t ht hn
    have h1 := find?_of_mem hc'.nodup ht
    rw [hn] at h1
    obtain ⟨t1, ht1, he⟩ := find?_transfer hsk h1
    rw [tr_eq_iff] at he
    rw [hex1] at ht1; cases ht1
    exact ⟨h1, by rw [← he.2.1]; exact hsup1⟩
  refine ⟨hw.ownNodup, hw.inhNodup, hw.compat, ?_, ?_, hw.rootInh⟩
  · intro t ht s ps hss hps n
    by_cases hn : t.name = name
    · obtain ⟨h1, h2⟩ := hname t ht hn
      have es : s = newSup := by rw [hss] at h2; exact Option.some.inj h2
      subst es
      have eps : ps = relinkRec name oldSup s ns := by rw [hns'] at hps; exact (Option.some.inj hps).symm
      subst eps
      rw [hw.top t h1 n, allFeatures_relinkRec, fnames_append, List.mem_append]
      constructor
      · rintro (h | h)
        · exact inherited_down ts hf oldSup s pa ns hanc hpa hns n h
        · exact h
      · intro h; exact Or.inr h
    · exact hw.inherit t ht hn s ps hss hps n
  · intro t ht s ps hss hps g hg f hfm e
    by_cases hn : t.name = name
    · obtain ⟨h1, h2⟩ := hname t ht hn
      have es : s = newSup := by rw [hss] at h2; exact Option.some.inj h2
      subst es
      have eps : ps = relinkRec name oldSup s ns := by rw [hns'] at hps; exact (Option.some.inj hps).symm
      subst eps
      rw [allFeatures_relinkRec] at hfm
      exact hw.topEq t h1 g hg f (List.mem_append_right _ hfm) e
    · exact hw.inheritEq t ht hn s ps hss hps g hg f hfm e


theorem inv_addOwnFeatures (name : String) (fs : List Feature) (ts ts' : TypeSystem)
    (hi : Consistent ts ∧ FeatInv ts) (h : addOwnFeatures ts name fs = .ok ts') : Consistent ts' ∧ FeatInv ts' :=
  addOwnFeatures_inv (P := fun t => Consistent t ∧ FeatInv t)
    (fun t t' f ⟨hc, hf⟩ h1 =>
      ⟨consistent_addFeature t t' name f hc h1, featInv_addFeature t t' name f hc hf h1⟩) fs ts ts' hi h

theorem inv_processDecl (K : Consts) (s s' : MState) (d : Decl) (hi : Consistent s.ts ∧ FeatInv s.ts)
    (h : processDecl K s d = .ok s') : Consistent s'.ts ∧ FeatInv s'.ts := by
  obtain ⟨hc, hf⟩ := hi
  obtain ⟨ts1, h1, h2, _⟩ := processDecl_ok_iff.mp h
  refine inv_addOwnFeatures _ _ _ _ ⟨consistent_declSuper hc h1, ?_⟩ h2
  rcases declSuper_ok h1 with ⟨hx, hct⟩ | ⟨ex, he, rfl | ⟨hne, hsub, hr⟩⟩
  · exact featInv_createType K _ _ _ _ _ hc hf hx hct
  · exact hf
  · -- the re-parenting branch is entered with the old supertype an ancestor of the new one
    obtain ⟨hs, ns, hns, _⟩ := reparent_ok _ _ _ _ _ hr
    have hsup : ex.super = some (ex.super.getD "") := by
      cases hsx : ex.super with
      | some o => rfl
      | none =>
        have := hc.onlyRoot ex (find?_mem he) hsx
        rw [find?_name he] at this
        rw [this, subsumes_top] at hs; cases hs
    have hanc : Anc s.ts (ex.super.getD "") d.super :=
      (subsumes_iff_ancestor s.ts hc _ _ (hc.superReg ex (find?_mem he) _ hsup)
        ((hasExact_iff_find _ _).mpr ⟨ns, hns⟩)).mp hsub
    exact featInv_reparent _ _ _ _ _ ex hc hf he hsup hne hanc hr

end Cassis.TS
