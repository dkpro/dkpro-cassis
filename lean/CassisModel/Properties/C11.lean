/-
C11 — Effective features = own + all ancestors', whatever the order of creation.

`FeatInv` (Spec/Features.lean) states the bookkeeping invariant; it holds for the regenerated built-in
table, is preserved by `create_type` and `create_feature` (hence by every history), and yields the
statements of the property: effective names = own ∪ parent's effective names, one definition per name,
visibility on all current and future descendants, constructor fields = effective names, identical
redefinition is a no-op, a conflicting one raises in either order of definition.
-/
import CassisModel.Proofs.Features
import CassisModel.Properties.C10
import CassisModel.Proofs.Heap

namespace Cassis.TS

/-! ### The invariant holds initially and is preserved -/

theorem featInv_createType (K : Consts) (ts ts' : TypeSystem) (n s : String) (d : Option String)
    (hc : Consistent ts) (hf : FeatInv ts) (hnew : hasExact ts n = false)
    (h : createType K ts n s d = .ok ts') : FeatInv ts' := by
  obtain ⟨sup, _, hsm, _, C⟩ := createType_created K ts ts' n s d hc hf hnew h
  exact C.featInv hc hf hsm rfl rfl rfl

theorem featInv_addFeature (ts ts' : TypeSystem) (dom : String) (f : Feature)
    (hc : Consistent ts) (hf : FeatInv ts) (h : addFeature ts dom f = .ok ts') : FeatInv ts' := by
  rcases addFeature_step hc hf h with rfl | ⟨t, ht, h1, h2, hdc, hT⟩
  · exact hf
  · exact featInv_of_target hc hf ht h1 h2 hdc hT

theorem featInv_createFeature (ts ts' : TypeSystem) (dom name range : String) (elem descr : Option String)
    (multi : Option Bool) (hc : Consistent ts) (hf : FeatInv ts)
    (h : createFeature ts dom name range elem descr multi = .ok ts') : FeatInv ts' := by
  obtain ⟨d, _, _, _, _, _, h'⟩ := createFeature_ok ts ts' dom name range elem descr multi h
  exact featInv_addFeature ts ts' d.name _ hc hf h'

theorem inv_createType (K : Consts) (ts ts' : TypeSystem) (n s : String) (d : Option String)
    (h : Consistent ts ∧ FeatInv ts) (hn : hasExact ts n = false) (hts : createType K ts n s d = .ok ts') :
    Consistent ts' ∧ FeatInv ts' :=
  ⟨consistent_createType K ts ts' n s d h.1 hn hts, featInv_createType K ts ts' n s d h.1 h.2 hn hts⟩

theorem inv_createFeature (ts ts' : TypeSystem) (dom n r : String) (e d : Option String) (m : Option Bool)
    (h : Consistent ts ∧ FeatInv ts) (hts : createFeature ts dom n r e d m = .ok ts') :
    Consistent ts' ∧ FeatInv ts' :=
  ⟨consistent_createFeature ts ts' dom n r e d m h.1 hts, featInv_createFeature ts ts' dom n r e d m h.1 h.2 hts⟩

theorem featInv_builtins : FeatInv Gen.builtinTS ∧ FeatInv Gen.builtinTSNoDoc :=
  have h := builtins_of_init (inv_createType Gen.consts) inv_createFeature inv_init
  ⟨h.1.2, h.2.2⟩

/-- **every type system reachable through the API satisfies both invariants** -/
theorem featInv_history (K : Consts) (ops : List TsOp) :
    Consistent (ops.foldl (applyOp K) Gen.builtinTS) ∧ FeatInv (ops.foldl (applyOp K) Gen.builtinTS) :=
  history_induction K (inv_createType K) inv_createFeature ops _ ⟨consistent_builtins.1, featInv_builtins.1⟩

/-- effective feature names = own ∪ effective names of the supertype -/
theorem effective_names (ts : TypeSystem) (hf : FeatInv ts) (t ps : TypeRec) (s : String)
    (ht : t ∈ ts.types) (hs : t.super = some s) (hps : find? ts s = some ps) (n : String) :
    n ∈ fnames (allFeatures t) ↔ n ∈ fnames t.own ∨ n ∈ fnames (allFeatures ps) := by
  rw [mem_fnames_allFeatures, hf.inherit t ht s ps hs hps n]

/-- no type exposes two definitions under one name -/
theorem effective_names_nodup (ts : TypeSystem) (hf : FeatInv ts) (t : TypeRec) (ht : t ∈ ts.types) :
    (fnames (allFeatures t)).Nodup :=
  effective_names_nodup_aux ts hf t ht

/-- a feature of a type is a feature of every (current) descendant -/
theorem inherited_down (ts : TypeSystem) (hf : FeatInv ts) (a b : String) (ta tb : TypeRec)
    (hab : Anc ts a b) (hta : find? ts a = some ta) (htb : find? ts b = some tb) (n : String)
    (hn : n ∈ fnames (allFeatures ta)) : n ∈ fnames (allFeatures tb) := by
  rw [mem_fnames_allFeatures, ← List.mem_append, ← fnames_append] at hn ⊢
  obtain ⟨g, hg, e⟩ := mem_fnames.mp hn
  obtain ⟨g', hg', hgg, _⟩ := chain_down hf hab hta htb g hg
  exact mem_fnames.mpr ⟨g', hg', (featureEq_name hgg).trans e⟩

/-- **a feature added to a type is visible on the type and on every descendant**, is found by name and
    is a constructor field there -/
theorem feature_visible_everywhere (ts ts' : TypeSystem) (dom : String) (f : Feature)
    (hc : Consistent ts) (hf : FeatInv ts) (h : addFeature ts dom f = .ok ts')
    (d : String) (td : TypeRec) (hd : Anc ts' dom d) (htd : find? ts' d = some td) :
    f.name ∈ fnames (allFeatures td) ∧ f.name ∈ ctorFields td ∧ (getFeature td f.name).isSome = true := by
  have hf' : FeatInv ts' := featInv_addFeature ts ts' dom f hc hf h
  obtain ⟨tdom', htdom'⟩ := (hasExact_iff_find ts' dom).mp hd.left_reg
  have hdom : f.name ∈ fnames (allFeatures tdom') := by
    rw [mem_fnames_allFeatures]
    obtain ⟨t, ht, ⟨hchk, rfl⟩ | ⟨hchk, hdc, hpush⟩⟩ := addFeature_cases h
    · rw [ht] at htdom'; cases htdom'
      obtain ⟨g, hg, hgn, _⟩ := addCheck_same hchk
      rw [← List.mem_append, ← fnames_append, ← hgn]
      exact mem_fnames_of_mem hg
    · obtain ⟨t', ht', h1, _, _⟩ := (addFeature_target hc hf ht hpush).recs dom t ht
      rw [htdom'] at ht'; cases ht'
      left
      rw [h1 rfl]
      simp [fnames]
  have hall := inherited_down ts' hf' dom d tdom' td hd htdom' htd f.name hdom
  exact ⟨hall, hall, getFeature_isSome ((mem_fnames_allFeatures td f.name).mp hall)⟩

/-- a subtype created later inherits everything its supertype has at that moment -/
theorem future_descendants_inherit (K : Consts) (ts ts' : TypeSystem) (n s : String) (d : Option String)
    (hc : Consistent ts) (hf : FeatInv ts) (hnew : hasExact ts n = false)
    (h : createType K ts n s d = .ok ts') (sup new : TypeRec)
    (hsup : getType ts s = .ok sup) (hnw : find? ts' n = some new) :
    ∀ m, m ∈ fnames (allFeatures new) ↔ m ∈ fnames (allFeatures sup) := by
  obtain ⟨sup', hsup', _, _, C⟩ := createType_created K ts ts' n s d hc hf hnew h
  obtain rfl : sup = sup' := Except.ok.inj (hsup.symm.trans hsup')
  obtain rfl := Option.some.inj (C.new.symm.trans hnw)
  intro m
  rw [mem_fnames_allFeatures]
  simp [fnames]

/-- identical redefinition adds nothing -/
theorem redefine_identical_noop (ts : TypeSystem) (dom : String) (t : TypeRec) (f : Feature)
    (ht : find? ts dom = some t) (hs : addCheck t f false = .same) : addFeature ts dom f = .ok ts := by
  rw [addFeature_eq f ht, hs]

/-- a different definition below an existing one (ancestor defined first) raises `ValueError` -/
theorem conflict_with_ancestor (ts : TypeSystem) (hf : FeatInv ts) (a b : String) (ta tb : TypeRec)
    (hab : Anc ts a b) (hta : find? ts a = some ta) (htb : find? ts b = some tb)
    (g : Feature) (hg : g ∈ allFeatures ta) (f : Feature) (hn : f.name = g.name) (hne : featureEq g f = false) :
    addFeature ts b f = .error .valueError := by
  obtain ⟨g', hg', hgg, _⟩ := chain_down hf hab hta htb g (allFeatures_sub hg)
  have hne' : featureEq g' f = false := by
    cases h : featureEq g' f with
    | false => rfl
    | true => rw [featureEq_trans (featureEq_symm hgg) h] at hne; cases hne
  exact addFeature_conflict htb
    (addCheck_false_conflict hf (find?_mem htb) hg' ((featureEq_name hgg).trans hn.symm) hne')

/-- a different definition above an existing one (descendant defined first) raises `ValueError` -/
theorem conflict_with_descendant (ts : TypeSystem) (hc : Consistent ts) (hf : FeatInv ts) (a b : String) (ta tb : TypeRec)
    (hab : Anc ts a b) (hne' : a ≠ b) (hta : find? ts a = some ta) (htb : find? ts b = some tb)
    (g : Feature) (hg : g ∈ tb.own) (f : Feature) (hn : f.name = g.name) (hne : featureEq g f = false) :
    addFeature ts a f = .error .valueError := by
  cases hchk : addCheck ta f false with
  | conflict => exact addFeature_conflict hta hchk
  | same =>
    exfalso
    obtain ⟨g1, hg1, hg1n, hg1f⟩ := addCheck_same hchk
    obtain ⟨g', hg', hgg, _⟩ := chain_down hf hab hta htb g1 hg1
    have h1 : featureEq g g' = true :=
      hf.coherent (find?_mem htb) g (List.mem_append_left _ hg) g' hg'
        (hn.symm.trans (hg1n.symm.trans (featureEq_name hgg).symm))
    rw [featureEq_trans (featureEq_trans h1 hgg) hg1f] at hne; cases hne
  | fresh =>
    have hreg : hasExact ts a = true := (hasExact_iff_find ts a).mpr ⟨ta, hta⟩
    have hdc : descendantConflict ts a f = true := by
      unfold descendantConflict
      rw [List.any_eq_true]
      refine ⟨b, (descendants_eq_closure ts hc a b hreg).mpr hab, ?_⟩
      have hfind : tb.own.find? (·.name == f.name) = some g := by
        rw [hn]; exact find_name_of_mem (hf.ownNodup tb (find?_mem htb)) hg
      have hba : (b != a) = true := by simpa using fun e => hne' e.symm
      simp only [htb, hfind, hne, hba, Bool.not_false, Bool.and_self]
    rw [addFeature_eq f hta, hchk]
    simp only [hdc, if_true]

/-- instances accept exactly the effective feature names as keywords -/
theorem construct_ok_iff (t : TypeRec) (ti : Nat) (xid : Option Int) (kw : List (String × Val)) :
    (∃ o, construct t ti xid kw = .ok o) ↔ ∀ p ∈ kw, p.1 ∈ fnames (allFeatures t) :=
  ⟨fun ⟨_, h⟩ => (construct_eq_ok.mp h).1, fun h => ⟨_, construct_eq_ok.mpr ⟨h, rfl⟩⟩⟩

theorem construct_slots (t : TypeRec) (ti : Nat) (xid : Option Int) (kw : List (String × Val)) (o : Obj)
    (h : construct t ti xid kw = .ok o) (n : String) :
    (alistGet? o.slots n).isSome = true ↔ n ∈ fnames (allFeatures t) := by
  rw [(construct_eq_ok.mp h).2]
  exact (alistGet?_map_isSome (fun m => (alistGet? kw m).getD Val.none) _ _).trans List.mem_eraseDups

/-! An evaluated instance: the effective features of DocumentAnnotation in the built-in table -/
example : ∃ t, find? Gen.builtinTS "uima.tcas.DocumentAnnotation" = some t ∧
    fnames (allFeatures t) = ["language", "begin", "end", "sofa"] := by
  have h := builtin_evals.docAnnFeatures
  cases hf : find? Gen.builtinTS "uima.tcas.DocumentAnnotation" with
  | none => rw [hf] at h; cases h
  | some t => rw [hf] at h; exact ⟨t, rfl, Option.some.inj h⟩

end Cassis.TS
