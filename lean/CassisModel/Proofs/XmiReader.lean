/-
The XMI reader (`Model/Xmi.lean`), function by function: what a successful call of `parseFsElem`, `postFeature`, … does to
the heap and the tables (the step `step1` of the first pass is in `XmiLookups.lean`; the list builders and one step of the
second pass with the types of what they build in `XmiBuilders.lean`), and each loop as a loop with an invariant
(`postAll_inv`, `buildViews_inv`, `rehome_inv`, `convertReferenced_inv`; `pass1_inv` stands with `step1`).  The model writes
the bodies of two loops inline; they are named here: `addMember1` (with `memberOwn`) is one step of `addMembers`
(`addMembers_cons`), `viewCas` is the part of `buildView` before the members and `membersOf` the members it then adds
(`buildView_eq`).  What a pass does to the heap is said with one relation, `HExt R N` (`HeapStep.lean`): the old objects are
related by `R`, the new ones satisfy `N`; passes compose by `HExt.comp`.  The invariants of the three passes
(`XmiLoadInvariance.lean`, `XmiReseed.lean`, `OffsetsDocXmiReader.lean`) are derived from these statements.
-/
import CassisModel.Proofs.XmiCodec
import CassisModel.Proofs.XmiLookups
import CassisModel.Proofs.XmiBuilders
import CassisModel.Proofs.Cas
import CassisModel.Proofs.Heap
import CassisModel.Proofs.TypeSystem
import CassisModel.Properties.C08
import CassisModel.Proofs.XmiOffsets
import CassisModel.Proofs.HeapStep

namespace Cassis.Xmi
open Cassis.TS

/-- every feature the second pass will visit has a slot -/
def SlotsOK (ts : TypeSystem) (o : Obj) : Prop :=
  ∀ t, getType ts o.ty = .ok t → ∀ f ∈ allFeatures t, (alistGet? o.slots f.name).isSome = true

open Cassis.ChainC

/-- what a successful `parseFsElem` does, as the invariants of the passes use it: the heap is extended by objects without
    id (the arrays and lists of child elements) and, at the returned address, the structure itself: under the id of the
    element, of a registered type, with a slot for every feature of that type -/
def FsRes (ts : TypeSystem) (hp : Heap) (r : Heap × Int × Nat) : Prop :=
  ∃ o : Obj, HExt Eq (fun ob => ob.xid = none ∨ ob.xid = some r.2.1) hp r.1 ∧ r.1[r.2.2]? = some o ∧
    o.xid = some r.2.1 ∧ SlotsOK ts o ∧ containsType ts o.ty = true

theorem parseFsElem_ok (K : Consts) (ts : TypeSystem) (tsIdx : Nat) (hp : Heap) (e : XElem) :
    OkP (FsRes ts hp) (parseFsElem K ts tsIdx hp e) := by
  rw [CG1.parseFsElem_eq]
  refine .bind fun t ht => ?_
  have hf : find? ts e.ty = some t := getTypeExact_ok_iff.mp ht
  have hn : t.name = e.ty := find?_name hf
  -- the end: the structure is constructed and appended
  have fin : ∀ (acc : Heap × List (String × Val)) (idV : Int), HExt Eq NoId hp acc.1 →
      OkP (FsRes ts hp)
        (construct t tsIdx (some idV) acc.2 >>= fun o => pure (acc.1 ++ [o], idV, acc.1.length)) := by
    refine fun acc idV hk => .bind fun o ho => .pure ?_
    obtain ⟨hty, hx⟩ := Cas.construct_ok ho
    refine ⟨o, ?_, List.getElem?_concat_length, hx, ?_, ?_⟩
    · exact hk.comp (.append (fun _ => rfl) fun ob hob => .inr (List.mem_singleton.mp hob ▸ hx))
        (fun _ _ _ => Eq.trans) (fun _ _ hb r => .inl (r ▸ hb)) fun _ h => h
    · intro t' ht' f hf'
      rw [hty, hn, getType_of_find hf] at ht'
      cases ht'
      cases (construct_eq_ok.mp ho).2
      exact (alistGet?_map_isSome _ _ _).2 (List.mem_eraseDups.mpr (List.mem_map_of_mem hf'))
    · rw [hty, hn]
      unfold containsType
      split
      · exact (hasExact_iff_find ts _).mpr ⟨t, hf⟩
      · rw [getType_of_find hf]
  have more : ∀ {acc : Heap} {ext : List Obj}, HExt Eq NoId hp acc → (∀ ob ∈ ext, ob.xid = none) →
      HExt Eq NoId hp (acc ++ ext) :=
    fun hk hext => hk.trans (.append (fun _ => rfl) hext) (fun _ _ _ => Eq.trans) fun _ _ hb r => r ▸ hb
  dsimp only
  split
  · refine .bind fun idV _ => .bind fun merged _ => .ite (fun _ => .bind fun acc hacc => ?_) fun _ =>
      .bind fun acc hacc => fin acc idV ?_
    · cases hacc
      exact fin _ idV (.refl (fun _ => rfl) hp)
    -- the loop over the child elements appends collection objects without id
    refine (?_ : OkP (fun acc : Heap × List (String × Val) => HExt Eq NoId hp acc.1) _) acc hacc
    refine foldlM_okp (fun acc p hinv => ?_) _ _ (.refl (fun _ => rfl) hp)
    unfold CG1.kidStep
    dsimp only
    split
    · refine .bind fun f' _ => .ite (fun _ => .pure ?_) fun _ => .ite (fun _ => .bind fun r hr => .pure ?_) fun _ =>
        .pure hinv
      · exact more hinv fun ob hob => by rw [List.mem_singleton.mp hob]
      · obtain ⟨_, nodes, _, _, he, hid, _⟩ := buildPrimList_vlist hr
        rw [he]
        exact more hinv hid
    · exact .bind fun f' hf' => by cases hf'
  · exact .bind fun idV h => by cases h

/-- the first pass registers structures that have whatever follows from `FsRes` -/
theorem pass1_fssAll {Q : Int → Obj → Prop} {K : Consts} {ts : TypeSystem} {tsIdx : Nat} {b : Bool}
    (hQ : ∀ i o, o.xid = some i → SlotsOK ts o → containsType ts o.ty = true → Q i o) (d : XDoc) (s s' : Pass1)
    (h : pass1 K ts tsIdx b d s = .ok s') (hs : FssAll Q s.fss s.heap) : FssAll Q s'.fss s'.heap := by
  refine pass1_inv K ts tsIdx b (fun s => FssAll Q s.fss s.heap) ?_ d s s' h hs
  intro e s s' h hg
  rcases step1_ok h with ⟨_, p, _, rfl⟩ | ⟨_, ⟨_, v, _, rfl⟩ | ⟨_, ⟨hp', i, a, hp, rfl⟩ | rfl⟩⟩
  · exact hg
  · exact hg
  · obtain ⟨o, hX, hat, hx, hsl, hc⟩ := parseFsElem_ok K ts tsIdx s.heap e _ hp
    intro q hq
    rcases mem_alistSetI hq with hq | rfl
    · exact hg.of_hExt hX (fun _ _ _ e h => e ▸ h) q hq
    · exact ⟨o, hat, hQ _ _ hx hsl hc⟩
  · exact hg

/-! ### second pass: ids, types and slots of existing objects are kept, new objects carry no id -/

def XRel (o o' : Obj) : Prop :=
  o'.ty = o.ty ∧ o'.xid = o.xid ∧ ∀ n, (alistGet? o.slots n).isSome = true → (alistGet? o'.slots n).isSome = true

theorem XRel.refl (o : Obj) : XRel o o := ⟨rfl, rfl, fun _ h => h⟩

theorem XRel.trans {a b c : Obj} (x : XRel a b) (y : XRel b c) : XRel a c :=
  ⟨y.1.trans x.1, y.2.1.trans x.2.1, fun n h => y.2.2 n (x.2.2 n h)⟩

abbrev XExt : Heap → Heap → Prop := HExt XRel NoId

theorem XExt.trans {a b c : Heap} (x : XExt a b) (y : XExt b c) : XExt a c :=
  HExt.trans x y (fun _ _ _ => XRel.trans) fun _ _ hb r => r.2.1.trans hb

theorem alistSet_isSome {β} (l : List (String × β)) (k : String) (v : β) (n : String)
    (h : (alistGet? l n).isSome = true) : (alistGet? (alistSet l k v) n).isSome = true := by
  by_cases hn : n = k
  · subst hn; rw [alistGet?_set_same]; rfl
  · rw [alistGet?_set_other _ _ _ _ hn]; exact h

theorem postFeature_x (K : Consts) (ts : TypeSystem) (tsIdx ci : Nat) (sofas : List (Int × PSofa))
    (fss : List (Int × Nat)) (hp : Heap) (a : Nat) (tyName : String) (isStrArr : Bool) (f : Feature) (o : Obj)
    (ho : hp[a]? = some o) (hs : (alistGet? o.slots f.name).isSome = true) :
    OkP (XExt hp) (postFeature K ts tsIdx ci sofas fss hp a tyName isStrArr f) := by
  intro hp' h
  rcases ChainC.postFeature_shape (K := K) hp' h with rfl | ⟨ext, v, hext, hset, _⟩
  · exact .refl XRel.refl _
  refine XExt.trans (.append XRel.refl hext) ?_
  have hoX : (hp ++ ext)[a]? = some o := by
    rw [List.getElem?_append_left (List.getElem?_eq_some_iff.mp ho).1]; exact ho
  obtain ⟨o1, ho1, hc⟩ := Heap.setSlot_ok_cases _ hp' a f.name v hset
  rw [hoX] at ho1
  cases ho1
  -- the slot exists, so `setSlot` does not fall back to the `xmiID` case
  rcases hc with ⟨w, _, rfl⟩ | ⟨hnone, _, _⟩
  · exact .set XRel.refl hoX ⟨rfl, rfl, fun m hm => alistSet_isSome _ _ _ _ hm⟩
  · rw [hnone] at hs
    cases hs

theorem SlotsOK.ext {ts : TypeSystem} {o o' : Obj} (h : SlotsOK ts o) (hty : o'.ty = o.ty)
    (hs : ∀ n, (alistGet? o.slots n).isSome = true → (alistGet? o'.slots n).isSome = true) : SlotsOK ts o' := by
  intro t ht f hf
  rw [hty] at ht
  exact hs _ (h t ht f hf)

/-- the second pass, as a loop: `J` is kept by every `postFeature` on a registered structure for a feature of its type;
    `R` relates the heaps, is reflexive and transitive and keeps the type of every object (the loop reads the features of
    the type once per structure) -/
theorem postAll_inv {K : Consts} {ts : TypeSystem} {tsIdx ci : Nat} {sofas : List (Int × PSofa)} {fss : List (Int × Nat)}
    (J : Heap → Prop) (R : Heap → Heap → Prop) (hr : ∀ hp, R hp hp) (ht : ∀ a b c, R a b → R b c → R a c)
    (hty : ∀ (hp hp' : Heap) (a : Nat) (o : Obj), R hp hp' → hp[a]? = some o → ∃ o' : Obj, hp'[a]? = some o' ∧ o'.ty = o.ty)
    (hstep : ∀ (hp : Heap) (q : Int × Nat) (o : Obj) (t : TypeRec) (f : Feature) (hp' : Heap), q ∈ fss →
      hp[q.2]? = some o → getType ts o.ty = .ok t → f ∈ allFeatures t → J hp →
      postFeature K ts tsIdx ci sofas fss hp q.2 o.ty (isInstanceOf ts o.ty STRING_ARRAY) f = .ok hp' → J hp' ∧ R hp hp') :
    ∀ (es : List (Int × Nat)) (hp hp' : Heap), (∀ q ∈ es, q ∈ fss) → J hp →
      postAll K ts tsIdx ci sofas fss es hp = .ok hp' → J hp' ∧ R hp hp' := by
  -- the features of one structure
  have feats : ∀ (q : Int × Nat) (ty : String) (t : TypeRec), q ∈ fss → getType ts ty = .ok t →
      ∀ (fs : List Feature), (∀ f ∈ fs, f ∈ allFeatures t) → ∀ (hp hp' : Heap) (o : Obj), hp[q.2]? = some o → o.ty = ty →
        J hp → postFeatures K ts tsIdx ci sofas fss q.2 ty (isInstanceOf ts ty STRING_ARRAY) fs hp = .ok hp' →
        J hp' ∧ R hp hp' := by
    intro q ty t hq hgt fs
    induction fs with
    | nil => intro _ hp hp' o _ _ hJ h; rw [postFeatures] at h; cases h; exact ⟨hJ, hr _⟩
    | cons f fs ih =>
      intro hfs hp hp' o ho hoty hJ h
      rw [postFeatures] at h
      obtain ⟨hp1, h1, h2⟩ := Det.bind_ok h
      subst hoty
      obtain ⟨j1, r1⟩ := hstep hp q o t f hp1 hq ho hgt (hfs f List.mem_cons_self) hJ h1
      obtain ⟨o1, ho1, e1⟩ := hty _ _ _ _ r1 ho
      obtain ⟨j2, r2⟩ := ih (fun g hg => hfs g (List.mem_cons_of_mem _ hg)) hp1 hp' o1 ho1 e1 j1 h2
      exact ⟨j2, ht _ _ _ r1 r2⟩
  intro es
  induction es with
  | nil => intro hp hp' _ hJ h; rw [postAll] at h; cases h; exact ⟨hJ, hr _⟩
  | cons q rest ih =>
    intro hp hp' hsub hJ h
    obtain ⟨i, a⟩ := q
    rw [postAll] at h
    cases ho' : hp[a]? with
    | none => rw [ho'] at h; cases h
    | some o =>
    rw [ho'] at h
    obtain ⟨o1, ho1, h⟩ := Det.bind_ok h
    cases ho1
    obtain ⟨t, hgt, h⟩ := Det.bind_ok h
    obtain ⟨hp1, h1, h2⟩ := Det.bind_ok h
    obtain ⟨j1, r1⟩ := feats (i, a) o.ty t (hsub _ List.mem_cons_self) hgt _ (fun _ h => h) hp hp1 o ho' rfl hJ h1
    obtain ⟨j2, r2⟩ := ih hp1 hp' (fun q hq => hsub q (List.mem_cons_of_mem _ hq)) j1 h2
    exact ⟨j2, ht _ _ _ r1 r2⟩

theorem postAll_x (K : Consts) (ts : TypeSystem) (tsIdx ci : Nat) (sofas : List (Int × PSofa))
    (fss : List (Int × Nat)) (hp : Heap) (hall : FssAll (fun _ o => SlotsOK ts o) fss hp) :
    OkP (XExt hp) (postAll K ts tsIdx ci sofas fss fss hp) := by
  intro hp' h
  refine (postAll_inv (K := K) (FssAll (fun _ o => SlotsOK ts o) fss) XExt (HExt.refl XRel.refl)
    (fun _ _ _ => XExt.trans) (fun _ _ a o r ho => let ⟨o', ho', e, _⟩ := r.old a o ho; ⟨o', ho', e⟩) ?_ fss hp hp'
    (fun _ h => h) hall h).2
  intro hp q o t f hp1 hq ho hgt hf hJ h1
  obtain ⟨o0, ho0, hs0⟩ := hJ q hq
  rw [ho] at ho0
  cases ho0
  have hx := postFeature_x K ts tsIdx ci sofas fss hp q.2 _ _ f o ho (hs0 t hgt f hf) hp1 h1
  exact ⟨hJ.of_hExt hx fun _ _ _ r h => h.ext r.1 r.2.2, hx⟩

theorem lookupFs_mem {fss : List (Int × Nat)} {i : Int} {a : Nat} (h : lookupFs fss i = .ok a) :
    ∃ q ∈ fss, q.2 = a := by
  unfold lookupFs at h
  split at h
  · rename_i p hf
    cases h
    exact ⟨p, List.mem_of_find?_eq_some hf, rfl⟩
  · cases h

/-- the member's own sofa value (first seen) and the updated record of them -/
def memberOwn (m : Int) (a : Nat) (b : Build) : Option Val × List (Int × Val) :=
  match b.memberSofas.find? (fun q => q.1 == m) with
  | some q => (some q.2, b.memberSofas)
  | none =>
    match slot b.heap a "sofa" with
    | some v => (some v, b.memberSofas ++ [(m, v)])
    | none => (none, b.memberSofas)

def addMember1 (ts : TypeSystem) (ci : Nat) (h : Handle) (conv : Offsets.Conv) (sofas : List (Int × PSofa))
    (fss : List (Int × Nat)) (m : Int) (b : Build) : Except Err Build :=
  match lookupFs fss m with
  | .error e => .error e
  | .ok a =>
    match b.heap[a]? with
    | none => .error .attributeError
    | some o =>
      let r : Except Err (Heap × List Int) :=
        if (!(b.converted.contains m) && isInstanceOf ts o.ty ANNOTATION) = true then
          match convertOffsets (ownConv sofas conv (memberOwn m a b).1) b.heap a with
          | .error e => .error e
          | .ok hp' => .ok (hp', b.converted ++ [m])
        else .ok (b.heap, b.converted)
      match r with
      | .error e => .error e
      | .ok (hp1, cv1) =>
        match Cas.add ts ci b.cas hp1 h a true with
        | .error e => .error e
        | .ok (c', hp2) => .ok { cas := c', heap := hp2, converted := cv1, memberSofas := (memberOwn m a b).2 }

theorem addMembers_nil (ts : TypeSystem) (ci : Nat) (h : Handle) (conv : Offsets.Conv) (sofas : List (Int × PSofa))
    (L : List Int) (fss : List (Int × Nat)) (b : Build) : addMembers ts ci h conv sofas L fss [] b = .ok b := by
  rw [addMembers]

theorem addMembers_cons (ts : TypeSystem) (ci : Nat) (h : Handle) (conv : Offsets.Conv) (sofas : List (Int × PSofa))
    (L : List Int) (fss : List (Int × Nat)) (m : Int) (ms : List Int) (b : Build) :
    addMembers ts ci h conv sofas L fss (m :: ms) b =
      if L.contains m then addMembers ts ci h conv sofas L fss ms b
      else (addMember1 ts ci h conv sofas fss m b).bind (addMembers ts ci h conv sofas L fss ms) := by
  rw [addMembers]
  unfold addMember1 memberOwn
  split
  · rfl
  · cases lookupFs fss m with
    | error e => rfl
    | ok a =>
      dsimp only
      cases b.heap[a]? with
      | none => rfl
      | some o =>
        dsimp only
        -- the member's own sofa value: one of three shapes; in each the two sides agree branch by branch
        have fin : ∀ (ms' : List (Int × Val)) (r : Except Err (Heap × List Int)),
            (match r with
              | .error e => Except.error e
              | .ok (hp1, cv1) =>
                match Cas.add ts ci b.cas hp1 h a true with
                | .error e => .error e
                | .ok (c', hp2) =>
                  addMembers ts ci h conv sofas L fss ms { cas := c', heap := hp2, converted := cv1, memberSofas := ms' }) =
            ((match r with
              | .error e => Except.error e
              | .ok (hp1, cv1) =>
                match Cas.add ts ci b.cas hp1 h a true with
                | .error e => .error e
                | .ok (c', hp2) => .ok { cas := c', heap := hp2, converted := cv1, memberSofas := ms' } :
              Except Err Build).bind (addMembers ts ci h conv sofas L fss ms)) := by
          intro ms' r
          cases r with
          | error e => rfl
          | ok p =>
            dsimp only
            cases Cas.add ts ci b.cas p.1 h a true <;> rfl
        cases b.memberSofas.find? (fun q => q.1 == m) with
        | some q => exact fin _ _
        | none => cases slot b.heap a "sofa" <;> exact fin _ _

/-- the part of `buildView` before the members: it does not look at the leniency flag -/
def viewCas (s : PSofa) (c : Cas) : Except Err Cas :=
  let h0 : Handle := { view := Cas.INITIAL_VIEW, lenient := false }
  let h : Handle := { view := s.sofaID, lenient := false }
  let c1 : Except Err Cas :=
    if s.sofaID == Cas.INITIAL_VIEW then
      Cas.updSofa c h0 (fun so => { so with xid := s.xid, sofaNum := s.num })
    else
      match Cas.createView c h0 s.sofaID (some s.xid) (some s.num) with
      | .error e => .error e
      | .ok (c', _) => .ok c'
  match c1 with
  | .error e => .error e
  | .ok c1 =>
    Cas.updSofa c1 h (fun so => { so with text := s.text.map (fun t => t.toList.map Char.toNat), conv := convOfText s.text, mime := s.mime })

/-- a successful `viewCas`: the initial view gets the id and number of the sofa, or a view is added with them; then
    text, converter and MIME type are set -/
theorem viewCas_ok {s : PSofa} {c c2 : Cas} (h : viewCas s c = .ok c2) : ∃ c1 : Cas,
    (s.sofaID = Cas.INITIAL_VIEW ∧ Cas.updSofa c { view := Cas.INITIAL_VIEW, lenient := false }
        (fun so => { so with xid := s.xid, sofaNum := s.num }) = .ok c1 ∨
      (Cas.getViewRec c s.sofaID).isSome = false ∧ c1 = Cas.addView c s.sofaID (some s.xid) (some s.num)) ∧
    Cas.updSofa c1 { view := s.sofaID, lenient := false }
      (fun so => { so with text := s.text.map (fun t => t.toList.map Char.toNat), conv := convOfText s.text,
                           mime := s.mime }) = .ok c2 := by
  unfold viewCas at h
  dsimp only at h
  split at h
  · cases h
  · rename_i c1 h1
    refine ⟨c1, ?_, h⟩
    split at h1
    · exact .inl ⟨eq_of_beq ‹_›, h1⟩
    · split at h1
      · cases h1
      · rename_i hcv
        cases h1
        unfold Cas.createView at hcv
        split at hcv
        · cases hcv
        · cases hcv
          exact .inr ⟨Bool.not_eq_true _ ▸ ‹_›, rfl⟩

def membersOf (views : List (Int × PView)) (s : PSofa) : List Int :=
  match views.find? (fun q => q.1 == s.xid) with
  | some q => q.2.members
  | none => []

theorem buildView_eq (ts : TypeSystem) (ci : Nat) (lenient : Bool) (p : Pass1) (s : PSofa) (b : Build) :
    buildView ts ci lenient p s b =
      match viewCas s b.cas with
      | .error e => .error e
      | .ok c2 => addMembers ts ci { view := s.sofaID, lenient := lenient } (convOfText s.text) p.sofas p.lenientIds p.fss
          (membersOf p.views s) { b with cas := c2 } := by
  unfold buildView viewCas membersOf
  dsimp only
  have e1 : ∀ (c : Cas) (v : String) (f : Sofa → Sofa),
      Cas.updSofa c { view := v, lenient := lenient } f = Cas.updSofa c { view := v, lenient := false } f :=
    fun _ _ _ => rfl
  simp only [e1]
  by_cases hv : (s.sofaID == Cas.INITIAL_VIEW) = true
  · rw [if_pos hv, if_pos hv]
    generalize Cas.updSofa b.cas { view := Cas.INITIAL_VIEW, lenient := false } _ = X
    cases X <;> rfl
  · rw [if_neg hv, if_neg hv]
    unfold Cas.createView
    by_cases hs : (Cas.getViewRec b.cas s.sofaID).isSome = true
    · rw [if_pos hs, if_pos hs]
    · rw [if_neg hs, if_neg hs]
      rfl

/-- what a successful `addMember1` does: the member is looked up; an annotation that was not converted yet has its
    offsets converted; then the structure is added to the index of the view -/
theorem addMember1_ok {ts : TypeSystem} {ci : Nat} {h : Handle} {conv : Offsets.Conv} {sofas : List (Int × PSofa)}
    {fss : List (Int × Nat)} {m : Int} {b b' : Build} (hb : addMember1 ts ci h conv sofas fss m b = .ok b') :
    ∃ (a : Nat) (o : Obj) (hp1 : Heap), lookupFs fss m = .ok a ∧ b.heap[a]? = some o ∧
      (hp1 = b.heap ∨ isInstanceOf ts o.ty ANNOTATION = true ∧ ∃ cv, convertOffsets cv b.heap a = .ok hp1) ∧
      Cas.add ts ci b.cas hp1 h a true = .ok (b'.cas, b'.heap) := by
  unfold addMember1 at hb
  split at hb
  · cases hb
  · rename_i a hl
    split at hb
    · cases hb
    · rename_i o ho
      dsimp only at hb
      split at hb
      · cases hb
      · rename_i hp1 cv1 hr
        split at hb
        · cases hb
        · rename_i c' hp2 hadd
          cases hb
          refine ⟨a, o, hp1, hl, ho, ?_, hadd⟩
          split at hr
          · rename_i hi
            split at hr
            · cases hr
            · rename_i hp' hc
              cases hr
              exact Or.inr ⟨(Bool.and_eq_true_iff.mp hi).2, _, hc⟩
          · cases hr
            exact Or.inl rfl

/-! ### frames of the third pass: no new object, every object is related to its successor -/

def PlainRel (ts : TypeSystem) (o o' : Obj) : Prop :=
  o'.ty = o.ty ∧
    (isInstanceOf ts o.ty ANNOTATION = false → ∀ n, n ≠ "sofa" → alistGet? o'.slots n = alistGet? o.slots n)

/-- all objects keep their type; objects that are not annotations keep every slot but `sofa` -/
def PlainKeep (ts : TypeSystem) (hp hp' : Heap) : Prop := Frame (PlainRel ts) hp hp'

theorem PlainRel.refl (ts : TypeSystem) (o : Obj) : PlainRel ts o o := ⟨rfl, fun _ _ _ => rfl⟩

theorem PlainKeep.refl (ts : TypeSystem) (hp : Heap) : PlainKeep ts hp hp := HExt.refl (PlainRel.refl ts) hp

theorem PlainKeep.trans {ts : TypeSystem} {a b c : Heap} (h1 : PlainKeep ts a b) (h2 : PlainKeep ts b c) :
    PlainKeep ts a c :=
  Frame.trans (fun _ _ _ r1 r2 =>
    ⟨r2.1.trans r1.1, fun hna n hn => by rw [r2.2 (by rw [r1.1]; exact hna) n hn, r1.2 hna n hn]⟩) h1 h2

theorem plainKeep_setSlot {ts : TypeSystem} {hp hp' : Heap} {a : Nat} {n : String} {v : Val}
    (h : Heap.setSlot hp a n v = .ok hp')
    (hc : n = "sofa" ∨ ∃ o, hp[a]? = some o ∧ isInstanceOf ts o.ty ANNOTATION = true) : PlainKeep ts hp hp' := by
  obtain ⟨o, ho, hcase⟩ := Heap.setSlot_ok_cases hp hp' a n v h
  rcases hcase with ⟨w, _, rfl⟩ | ⟨_, _, x, rfl⟩
  · refine HExt.set (PlainRel.refl ts) ho ⟨rfl, fun hna m hm => ?_⟩
    rcases hc with rfl | ⟨o2, ho2, hann⟩
    · exact alistGet?_set_other _ _ _ _ hm
    · rw [ho] at ho2
      cases ho2
      rw [hann] at hna
      cases hna
  · exact HExt.set (PlainRel.refl ts) ho ⟨rfl, fun _ _ _ => rfl⟩

theorem plainKeep_convert {ts : TypeSystem} {conv : Offsets.Conv} {hp hp' : Heap} {a : Nat} {o : Obj}
    (ho : hp[a]? = some o) (hann : isInstanceOf ts o.ty ANNOTATION = true)
    (h : convertOffsets conv hp a = .ok hp') : PlainKeep ts hp hp' :=
  convertOffsets_inv (PlainKeep ts hp) (fun _ _ _ _ _ _ hs k => by
    obtain ⟨o1, ho1, hty1, _⟩ := k.old a o ho
    exact k.trans (plainKeep_setSlot hs (Or.inr ⟨o1, ho1, by rw [hty1]; exact hann⟩))) (.refl _ _) h

theorem plainKeep_add {ts : TypeSystem} {cas : Nat} {c c' : Cas} {hp hp' : Heap} {h : Handle} {addr : Nat} {keep : Bool}
    (hadd : Cas.add ts cas c hp h addr keep = .ok (c', hp')) : PlainKeep ts hp hp' := by
  obtain ⟨hlen, hoth, o, o', ho, ho', hty, hsl, _⟩ := Cas.add_heap ts cas c c' hp hp' h addr keep hadd
  exact HExt.at' (PlainRel.refl ts) hlen hoth ho ho' ⟨hty, fun _ n hn => hsl n hn⟩

theorem addMember1_plain {ts : TypeSystem} {ci : Nat} {h : Handle} {conv : Offsets.Conv} {sofas : List (Int × PSofa)}
    {fss : List (Int × Nat)} {m : Int} {b b' : Build} (hb : addMember1 ts ci h conv sofas fss m b = .ok b') :
    PlainKeep ts b.heap b'.heap := by
  obtain ⟨a, o, hp1, _, ho, hc, hadd⟩ := addMember1_ok hb
  rcases hc with rfl | ⟨hann, cv, hc⟩
  · exact plainKeep_add hadd
  · exact (plainKeep_convert ho hann hc).trans (plainKeep_add hadd)

theorem addMembers_inv {ts : TypeSystem} {ci : Nat} {h : Handle} {conv : Offsets.Conv} {sofas : List (Int × PSofa)}
    {L : List Int} {fss : List (Int × Nat)} (J : Build → Prop)
    (hmem : ∀ m b b', addMember1 ts ci h conv sofas fss m b = .ok b' → J b → J b') :
    ∀ (ms : List Int) (b b' : Build), addMembers ts ci h conv sofas L fss ms b = .ok b' → J b → J b' := by
  intro ms
  induction ms with
  | nil => intro b b' hb hJ; rw [addMembers_nil] at hb; cases hb; exact hJ
  | cons m ms ih =>
    intro b b' hb hJ
    rw [addMembers_cons] at hb
    split at hb
    · exact ih b b' hb hJ
    · obtain ⟨b1, h1, h2⟩ := Det.bind_ok hb
      exact ih b1 b' h2 (hmem m b b1 h1 hJ)

theorem buildView_inv {ts : TypeSystem} {ci : Nat} {lenient : Bool} {p : Pass1} (J : Build → Prop)
    (hview : ∀ (s : PSofa) (b : Build) (c2 : Cas), viewCas s b.cas = .ok c2 → J b → J { b with cas := c2 })
    (hmem : ∀ h conv m b b', addMember1 ts ci h conv p.sofas p.fss m b = .ok b' → J b → J b')
    {s : PSofa} {b b' : Build} (hb : buildView ts ci lenient p s b = .ok b') (hJ : J b) : J b' := by
  rw [buildView_eq] at hb
  split at hb
  · cases hb
  · rename_i c2 hv
    exact addMembers_inv J (hmem _ _) _ _ b' hb (hview s b c2 hv hJ)

theorem buildView_plain {ts : TypeSystem} {ci : Nat} {lenient : Bool} {p : Pass1} {s : PSofa} {b b' : Build}
    (hb : buildView ts ci lenient p s b = .ok b') : PlainKeep ts b.heap b'.heap :=
  buildView_inv (fun x => PlainKeep ts b.heap x.heap) (fun _ _ _ _ h => h)
    (fun _ _ _ _ _ h1 hJ => hJ.trans (addMember1_plain h1)) hb (PlainKeep.refl _ _)

/-- `J done b`: the state is `b` when the sofas `done` have got their views -/
theorem buildViews_inv {ts : TypeSystem} {ci : Nat} {lenient : Bool} {p : Pass1} {l : List (Int × PSofa)}
    (J : List (Int × PSofa) → Build → Prop)
    (hstep : ∀ done q b b', q ∈ l → buildView ts ci lenient p q.2 b = .ok b' → J done b → J (done ++ [q]) b')
    {b b' : Build} (hb : buildViews ts ci lenient p l b = .ok b') (hJ : J [] b) : J l b' := by
  suffices ∀ rest done b, done ++ rest = l → buildViews ts ci lenient p rest b = .ok b' → J done b → J l b' from
    this l [] b rfl hb hJ
  intro rest
  induction rest with
  | nil => intro done b e hb hJ; rw [buildViews] at hb; cases hb; rw [← e, List.append_nil]; exact hJ
  | cons q rest ih =>
    intro done b e hb hJ
    obtain ⟨i, s⟩ := q
    rw [buildViews] at hb
    split at hb
    · cases hb
    · rename_i b1 h1
      exact ih (done ++ [(i, s)]) b1 (by rw [List.append_assoc]; exact e) hb
        (hstep done (i, s) b b1 (e ▸ List.mem_append_right _ List.mem_cons_self) h1 hJ)

/-- `rehome` only sets `sofa` slots -/
theorem rehome_inv (J : Heap → Prop)
    (hset : ∀ (hp : Heap) (a : Nat) (v : Val) (hp' : Heap), Heap.setSlot hp a "sofa" v = .ok hp' → J hp → J hp')
    (fss : List (Int × Nat)) :
    ∀ (l : List (Int × Val)) (hp hp' : Heap), rehome fss l hp = .ok hp' → J hp → J hp' := by
  intro l
  induction l with
  | nil => intro hp hp' h hJ; rw [rehome] at h; cases h; exact hJ
  | cons q rest ih =>
    intro hp hp' h hJ
    obtain ⟨m, v⟩ := q
    unfold rehome at h
    split at h
    · split at h
      · cases h
      · split at h
        · cases h
        · rename_i hp1 hs
          exact ih hp1 hp' h (hset _ _ _ _ hs hJ)
    · exact ih hp hp' h hJ

/-- `convertReferenced` only converts the offsets of annotations -/
theorem convertReferenced_inv {ts : TypeSystem} (J : Heap → Prop)
    (hconv : ∀ (hp : Heap) (a : Nat) (o : Obj) (cv : Offsets.Conv) (hp' : Heap), hp[a]? = some o →
      isInstanceOf ts o.ty ANNOTATION = true → convertOffsets cv hp a = .ok hp' → J hp → J hp')
    (p : Pass1) (converted : List Int) :
    ∀ (l : List (Int × Nat)) (hp hp' : Heap), convertReferenced ts p converted l hp = .ok hp' → J hp → J hp' := by
  intro l
  induction l with
  | nil => intro hp hp' h hJ; rw [convertReferenced] at h; cases h; exact hJ
  | cons q rest ih =>
    intro hp hp' h hJ
    obtain ⟨i, a⟩ := q
    rw [convertReferenced] at h
    split at h
    · exact ih hp hp' h hJ
    · split at h
      · cases h
      · rename_i o ho
        split at h
        · rename_i hann
          split at h
          · split at h
            · split at h
              · cases h
              · rename_i hp1 hc
                exact ih hp1 hp' h (hconv _ _ _ _ _ ho hann hc hJ)
            · exact ih hp hp' h hJ
          · exact ih hp hp' h hJ
        · exact ih hp hp' h hJ

theorem buildCas_ok {K : Consts} {ts : TypeSystem} {ci : Nat} {lenient : Bool} {p : Pass1} {hp : Heap} {ld : Loaded}
    (h : buildCas K ts ci lenient p hp = .ok ld) :
    ∃ (b : Build) (hpR : Heap), buildViews ts ci lenient p p.sofas { cas := Cas.empty, heap := hp } = .ok b ∧
      rehome p.fss b.memberSofas b.heap = .ok hpR ∧ convertReferenced ts p b.converted p.fss hpR = .ok ld.heap ∧
      ld.cas = { b.cas with nextXid := p.maxId + 1, nextSofaNum := p.maxNum + 1 } := by
  unfold buildCas at h
  split at h
  · cases h
  · rename_i b hb
    split at h
    · cases h
    · rename_i hpR hre
      dsimp only at h
      split at h
      · cases h
      · rename_i heap hcr
        cases h
        exact ⟨b, hpR, hb, hre, hcr, rfl⟩

theorem loadXmi_ok {K : Consts} {ts : TypeSystem} {tsIdx ci : Nat} {lenient : Bool} {hp : Heap} {doc : XDoc}
    {ld : Loaded} (h : loadXmi K ts tsIdx ci lenient hp doc = .ok ld) :
    ∃ (p : Pass1) (hp2 : Heap), pass1 K ts tsIdx lenient doc { heap := hp } = .ok p ∧
      postAll K ts tsIdx ci p.sofas p.fss p.fss p.heap = .ok hp2 ∧ buildCas K ts ci lenient p hp2 = .ok ld := by
  unfold loadXmi at h
  obtain ⟨p, h1, h⟩ := Det.bind_ok h
  obtain ⟨hp2, h2, h⟩ := Det.bind_ok h
  exact ⟨p, hp2, h1, h2, h⟩

/-- what the first two passes hand to the third: the second pass kept type, id and slots of every object and made only
    objects without id; every registered structure sits in the heap under its id and has a registered type -/
theorem passes12 {K : Consts} {ts : TypeSystem} {tsIdx ci : Nat} {b : Bool} {hp hp2 : Heap} {doc : XDoc} {p : Pass1}
    (h1 : pass1 K ts tsIdx b doc { heap := hp } = .ok p)
    (h2 : postAll K ts tsIdx ci p.sofas p.fss p.fss p.heap = .ok hp2) :
    XExt p.heap hp2 ∧ FssAll (fun i o => o.xid = some i ∧ containsType ts o.ty = true) p.fss hp2 := by
  have hX : XExt p.heap hp2 :=
    postAll_x K ts tsIdx ci p.sofas p.fss p.heap (pass1_fssAll (fun _ _ _ h _ => h) doc _ p h1 nofun) hp2 h2
  exact ⟨hX, (pass1_fssAll (fun _ _ hx _ hc => ⟨hx, hc⟩) doc _ p h1 nofun).of_hExt hX
    fun _ _ _ r h => ⟨r.2.1.trans h.1, r.1 ▸ h.2⟩⟩

end Cassis.Xmi
