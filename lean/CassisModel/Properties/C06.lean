/-
C06 — select / select_all return exactly the indexed instances of a type subtree.

Refinement: after any history of index operations, each view's concrete index (`Model/Index.lean`,
sorted per-type lists in a dictionary) represents exactly the abstract bag of `(type, entry)` pairs of
`Spec/Index.lean` (`add` = insert into the bag, `remove` = erase or raise, other views untouched), and
`select` over the descendant names of a type returns — as a permutation, whatever the set iteration
order — exactly the pairs whose type lies in the subtree (`Anc`, via C10).
-/
import CassisModel.Proofs.Index
import CassisModel.Properties.C10
import CassisModel.Proofs.Lists

namespace Cassis.Index

theorem keysNodup_add (idx : Idx) (ty : String) (x : Entry) (h : KeysNodup idx) : KeysNodup (add idx ty x) :=
  alistSet_keys_nodup idx ty _ h

theorem allSorted_add (idx : Idx) (ty : String) (x : Entry) (h : AllSorted idx) : AllSorted (add idx ty x) :=
  allSorted_alistSet idx ty _ h (insert_sorted (h ty))

theorem pairs_add_perm (idx : Idx) (ty : String) (x : Entry) (h : KeysNodup idx) :
    (pairs (add idx ty x)).Perm ((ty, x) :: pairs idx) :=
  pairs_alistSet_add idx ty x _ (insert_perm x (get idx ty))

/-- removing something that is not indexed (under that type, in this view) raises … -/
theorem rem_none_iff (idx : Idx) (ty : String) (x : Entry) (h : KeysNodup idx) :
    rem idx ty x = none ↔ (ty, x) ∉ pairs idx := by
  rw [rem_none_iff_not_mem, mem_pairs_iff idx ty x h]

/-- … and a successful remove takes out exactly one occurrence, keeping everything else -/
theorem rem_some_perm (idx idx' : Idx) (ty : String) (x : Entry) (h : KeysNodup idx)
    (hr : rem idx ty x = some idx') :
    (pairs idx).Perm ((ty, x) :: pairs idx') ∧ KeysNodup idx' ∧ (AllSorted idx → AllSorted idx') := by
  obtain ⟨hm, rfl⟩ := (rem_some_iff idx idx' ty x).mp hr
  refine ⟨?_, ?_, ?_⟩
  · exact pairs_alistSet_rem idx ty x _ (List.perm_cons_erase hm)
  · exact alistSet_keys_nodup idx ty _ h
  · intro hs
    exact allSorted_alistSet idx ty _ hs (erase_sorted (hs ty))

/-- `select_all` is the whole bag -/
theorem all_eq_pairs (idx : Idx) : all idx = (pairs idx).map (·.2) := by
  induction idx with
  | nil => rfl
  | cons p rest ih =>
    obtain ⟨k, v⟩ := p
    rw [pairs_cons, List.map_append, ← ih, List.map_map]
    have hid : ((fun p : String × Entry => p.2) ∘ fun x => (k, x)) = id := rfl
    rw [hid, List.map_id]
    simp only [all, List.flatMap_cons]

/-- `select` over a duplicate-free set of names, in any order, returns exactly the pairs filed under
    those names: none missing, none twice, none from other types -/
theorem selectNames_perm (idx : Idx) (names : List String) (hk : KeysNodup idx) (hn : names.Nodup) :
    (selectNames idx names).Perm (((pairs idx).filter (fun p => names.contains p.1)).map (·.2)) := by
  unfold selectNames
  induction idx with
  | nil =>
    have : names.flatMap (get []) = [] := by
      rw [List.flatMap_eq_nil_iff]
      intro n _
      rfl
    rw [this, pairs_nil]
    exact List.Perm.refl _
  | cons p rest ih =>
    obtain ⟨k, v⟩ := p
    unfold KeysNodup at hk
    rw [List.map_cons, List.nodup_cons] at hk
    have ih' := ih hk.2
    rw [pairs_cons, List.filter_append, List.map_append, filter_map_key]
    by_cases hkn : k ∈ names
    · simp only [hkn, if_true]
      have hperm : names.Perm (k :: names.erase k) := List.perm_cons_erase hkn
      have hnd : (k :: names.erase k).Nodup := hperm.nodup_iff.mp hn
      rw [List.nodup_cons] at hnd
      have h1 : (names.erase k).flatMap (get ((k, v) :: rest)) = (names.erase k).flatMap (get rest) := by
        apply Det.flatMap_congr
        intro n hnm
        rw [get_cons]
        have : ¬ k = n := fun e => hnd.1 (e ▸ hnm)
        simp [this]
      have h2 : (k :: names.erase k).flatMap (get rest) = (names.erase k).flatMap (get rest) := by
        rw [List.flatMap_cons, get_of_not_mem rest k hk.1, List.nil_append]
      refine (hperm.flatMap_right _).trans ?_
      rw [List.flatMap_cons, get_cons]
      simp only [if_true]
      apply List.Perm.append_left
      rw [h1, ← h2]
      exact ((hperm.flatMap_right _).symm).trans ih'
    · simp only [hkn, if_false, List.nil_append]
      have h1 : names.flatMap (get ((k, v) :: rest)) = names.flatMap (get rest) := by
        apply Det.flatMap_congr
        intro n hnm
        rw [get_cons]
        have : ¬ k = n := fun e => hkn (e ▸ hnm)
        simp [this]
      rw [h1]
      exact ih'

/-- the result is a concatenation of per-type chunks, each in non-decreasing `(begin, end)` order -/
theorem selectNames_chunks_sorted (idx : Idx) (names : List String) (hs : AllSorted idx) :
    selectNames idx names = names.flatMap (get idx) ∧ ∀ n ∈ names, SortedBE (get idx n) := by
  refine ⟨rfl, ?_⟩
  intro n _
  exact Sorted.sortedBE (hs n)

/-- the representation invariant relating a concrete and an abstract state -/
def Rep (c : Views) (a : SpecViews) : Prop :=
  (c.map (·.1)) = (a.map (·.1)) ∧
  ∀ v, match viewIdx c v, specView a v with
    | some idx, some bag => KeysNodup idx ∧ AllSorted idx ∧ (pairs idx).Perm bag
    | none, none => True
    | _, _ => False

theorem rep_init : Rep initViews initSpec:= by
  refine ⟨rfl, ?_⟩
  intro v
  by_cases hv : "_InitialView" = v
  · have h1 : viewIdx initViews v = some [] := by simp [viewIdx, initViews, alistGet?, hv]
    have h2 : specView initSpec v = some [] := by simp [specView, initSpec, alistGet?, hv]
    rw [h1, h2]
    exact ⟨keysNodup_nil, allSorted_nil, List.Perm.refl _⟩
  · have h1 : viewIdx initViews v = none := by simp [viewIdx, initViews, alistGet?, hv]
    have h2 : specView initSpec v = none := by simp [specView, initSpec, alistGet?, hv]
    rw [h1, h2]
    trivial

theorem rep_set (c : Views) (a : SpecViews) (v : String) (idx : Idx) (bag : List (String × Entry))
    (h : Rep c a) (hk : KeysNodup idx) (hs : AllSorted idx) (hp : (pairs idx).Perm bag) :
    Rep (alistSet c v idx) (alistSet a v bag) := by
  obtain ⟨hkeys, hv⟩ := h
  refine ⟨alistSet_keys_congr c a v idx bag hkeys, ?_⟩
  intro w
  by_cases hw : w = v
  · subst hw
    simp only [viewIdx, specView, alistGet?_set_same]
    exact ⟨hk, hs, hp⟩
  · simp only [viewIdx, specView, alistGet?_set_other _ _ _ _ hw]
    exact hv w

theorem Rep.view {c : Views} {a : SpecViews} (h : Rep c a) (v : String) :
    (viewIdx c v = none ∧ specView a v = none) ∨
    ∃ idx bag, viewIdx c v = some idx ∧ specView a v = some bag ∧ KeysNodup idx ∧ AllSorted idx ∧ (pairs idx).Perm bag := by
  have hv := h.2 v
  cases hi : viewIdx c v <;> cases hb : specView a v <;> rw [hi, hb] at hv
  · exact .inl ⟨rfl, rfl⟩
  · exact hv.elim
  · exact hv.elim
  · exact .inr ⟨_, _, rfl, rfl, hv⟩

theorem rep_step (c : Views) (a : SpecViews) (op : IOp) (h : Rep c a) : Rep (istep c op) (sstep a op) := by
  cases op with
  | add v ty x =>
    rcases h.view v with ⟨hi, hb⟩ | ⟨idx, bag, hi, hb, hk, hs, hp⟩ <;> simp only [istep, sstep, hi, hb]
    · exact h
    · exact rep_set c a v _ _ h (keysNodup_add idx ty x hk) (allSorted_add idx ty x hs)
        ((pairs_add_perm idx ty x hk).trans (hp.cons _))
  | remove v ty x =>
    rcases h.view v with ⟨hi, hb⟩ | ⟨idx, bag, hi, hb, hk, hs, hp⟩
    · simp only [istep, sstep, hi, hb]; exact h
    -- the index raises iff the bag does
    cases hr : rem idx ty x with
    | none =>
      have hc : ¬ (bag.contains (ty, x) = true) := fun hc =>
        (rem_none_iff idx ty x hk).mp hr (hp.mem_iff.mpr (List.contains_iff_mem.mp hc))
      simp only [istep, sstep, hi, hb, hr, hc]
      exact h
    | some idx' =>
      obtain ⟨hp', hk', hs'⟩ := rem_some_perm idx idx' ty x hk hr
      have hm : (ty, x) ∈ bag := hp.mem_iff.mp (hp'.mem_iff.mpr (by simp))
      simp only [istep, sstep, hi, hb, hr, List.contains_iff_mem.mpr hm, if_true]
      exact rep_set c a v _ _ h hk' (hs' hs) (hp'.symm.trans (hp.trans (List.perm_cons_erase hm))).cons_inv
  | createView v =>
    rcases h.view v with ⟨hi, hb⟩ | ⟨idx, bag, hi, hb, _⟩ <;> simp only [istep, sstep, hi, hb]
    · exact rep_set c a v [] [] h keysNodup_nil allSorted_nil (List.Perm.refl _)
    · exact h

/-- **refinement for every history** -/
theorem rep_history (ops : List IOp) : Rep (ops.foldl istep initViews) (ops.foldl sstep initSpec) :=
  List.foldl_rel rep_init fun op _ c a => rep_step c a op

/-- frame: an operation on view `v` leaves the abstract bag of every other view unchanged -/
theorem sstep_frame (a : SpecViews) (op : IOp) (w : String)
    (hw : match op with | .add v _ _ => v ≠ w | .remove v _ _ => v ≠ w | .createView v => v ≠ w) :
    specView (sstep a op) w = specView a w := by
  cases op with
  | add v ty x =>
    have hw' : w ≠ v := fun e => hw e.symm
    simp only [sstep]
    split
    · exact alistGet?_set_other _ _ _ _ hw'
    · rfl
  | remove v ty x =>
    have hw' : w ≠ v := fun e => hw e.symm
    simp only [sstep]
    split
    · split
      · exact alistGet?_set_other _ _ _ _ hw'
      · rfl
    · rfl
  | createView v =>
    have hw' : w ≠ v := fun e => hw e.symm
    simp only [sstep]
    split
    · rfl
    · exact alistGet?_set_other _ _ _ _ hw'

/-- after any history, `select` over a duplicate-free list of names returns, up to order, the entries of the
    abstract bag of the view filed under those names; the names are any list, no type system is involved -/
theorem selectNames_history (ops : List IOp) (names : List String) (hnd : names.Nodup)
    (isSub : String → Bool) (hsub : ∀ n, isSub n = true ↔ n ∈ names)
    (v : String) (idx : Idx) (bag : List (String × Entry))
    (hi : viewIdx (ops.foldl istep initViews) v = some idx)
    (hb : specView (ops.foldl sstep initSpec) v = some bag) :
    (selectNames idx names).Perm ((bag.filter (fun p => isSub p.1)).map (·.2)) := by
  have hv := (rep_history ops).2 v
  rw [hi, hb] at hv
  obtain ⟨hk, _, hperm⟩ := hv
  have hf : (pairs idx).filter (fun p => names.contains p.1) = (pairs idx).filter (fun p => isSub p.1) :=
    List.filter_congr fun p _ => by rw [Bool.eq_iff_iff, List.contains_iff_mem, hsub]
  exact (hf ▸ selectNames_perm idx names hk hnd).trans ((hperm.filter _).map _)

/-- **C06**: after any history, for any consistent type system and any registered type `T`, `select(T)` on
    view `v` — whatever order the descendant-name set is iterated in (`names` is any permutation of
    `descendantsOf ts T`) — is a permutation of the entries of the abstract bag of `v` whose type is `T` or
    a transitive subtype of it. -/
theorem select_history (ops : List IOp) (ts : TS.TypeSystem) (hc : TS.Consistent ts) (T : String)
    (hT : TS.hasExact ts T = true) (names : List String) (hp : names.Perm (TS.descendantsOf ts T))
    (isSub : String → Bool) (hsub : ∀ n, isSub n = true ↔ TS.Anc ts T n)
    (v : String) (idx : Idx) (bag : List (String × Entry))
    (hi : viewIdx (ops.foldl istep initViews) v = some idx)
    (hb : specView (ops.foldl sstep initSpec) v = some bag) :
    (selectNames idx names).Perm ((bag.filter (fun p => isSub p.1)).map (·.2)) :=
  selectNames_history ops names (hp.nodup_iff.mpr (TS.descendants_nodup ts hc T)) isSub
    (fun n => by rw [hsub n, hp.mem_iff, TS.descendants_eq_closure ts hc T n hT]) v idx bag hi hb

/-! Non-vacuity: a concrete history (test) -/
example : viewIdx ([IOp.add "_InitialView" "x.T" ⟨1,2,0⟩, .createView "v2", .add "v2" "x.T" ⟨0,1,1⟩,
    .remove "_InitialView" "x.T" ⟨1,2,0⟩, .remove "v2" "x.U" ⟨0,1,1⟩].foldl istep initViews) "v2"
    = some [("x.T", [⟨0,1,1⟩])] := by decide

end Cassis.Index
