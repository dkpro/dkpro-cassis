/-
Round trip with collections, layer G1 of `RoundTripColl_NOTES.md`: the first pass on one general structure (`gen_elem1`).  The
element is what the writer emits feature by feature (`renderFs_gen`), and the object the reader builds from it holds in
every slot what `Read1` says (`parse_gen`); nothing is interpreted here.
Writer layer: `RoundTripCollElemWriter.lean`; reader layer: `RoundTripCollElemReader.lean`; shared definitions:
`RoundTripCollElemDefs.lean`.
-/
import CassisModel.Proofs.RoundTripCollElemDefs
import CassisModel.Proofs.RoundTripCollElemWriter
import CassisModel.Proofs.RoundTripCollElemReader

namespace Cassis.Xmi.CG1
open Cassis.TS Cassis.Traverse

theorem renderFeatures_gen (K : Consts) (ts : TypeSystem) (cass : List Cas) (H : Heap) (a : Nat) (isAnn : Bool) :
    ∀ (fs : List Feature),
      (∀ f ∈ fs, ∃ av ks, renderFeature K ts cass H a isAnn f = .ok (featOut f av ks)) →
      renderFeatures K ts cass H a isAnn fs =
        .ok (gAttrs xmlName (fAttr K ts cass H a isAnn) fs, gKids xmlName (fKids K ts cass H a isAnn) fs)
  | [], _ => rfl
  | f :: fs, h => by
    obtain ⟨av, ks, hr⟩ := h f List.mem_cons_self
    rw [renderFeatures, hr, renderFeatures_gen K ts cass H a isAnn fs (fun g hg => h g (List.mem_cons_of_mem _ hg))]
    show _ = Except.ok ((match fAttr K ts cass H a isAnn f with | some s => [(xmlName f, s)] | none => []) ++
        gAttrs xmlName (fAttr K ts cass H a isAnn) fs,
      (fKids K ts cass H a isAnn f).map (fun e => (xmlName f, e)) ++ gKids xmlName (fKids K ts cass H a isAnn) fs)
    rw [fAttr_of hr, fKids_of hr]
    rfl

theorem renderFs_gen (K : Consts) (ts : TypeSystem) (cass : List Cas) (H : Heap) (a : Nat) (x : Int)
    (o : Obj) (t : TypeRec) (ho : H[a]? = some o) (ht : find? ts o.ty = some t)
    (hx : o.xid = some x) (hpa : isPrimitiveArray K o.ty = false) (hfa : o.ty ≠ FS_ARRAY)
    (hf : ∀ f ∈ allFeatures t, ∃ av ks,
      renderFeature K ts cass H a (isInstanceOf ts o.ty ANNOTATION) f = .ok (featOut f av ks)) :
    renderFs K ts cass H a = .ok (gElem xmlName o.ty x (fAttr K ts cass H a (isInstanceOf ts o.ty ANNOTATION))
      (fKids K ts cass H a (isInstanceOf ts o.ty ANNOTATION)) (allFeatures t)) := by
  have hgt : getType ts o.ty = .ok t := by unfold getType; rw [ht]
  have hfa' : (o.ty == FS_ARRAY) = false := by simp [hfa]
  unfold renderFs
  simp only [ho, pure, Except.pure, bind, Except.bind, hpa, hfa', Bool.or_self, Bool.false_eq_true, if_false, hgt,
    renderFeatures_gen K ts cass H a _ (allFeatures t) hf, hx]
  rfl

end Cassis.Xmi.CG1

namespace Cassis.Xmi
open Cassis.TS Cassis.Traverse CG1

theorem gen_elem1 (K : Consts) (ts : TypeSystem) (cass : List Cas) (ci : Nat) (c : Cas) (H : Heap) (tsIdx : Nat)
    (hc : cass[ci]? = some c) : Elem1Stmt K ts cass H tsIdx (GenFs K ts c ci H) := by
  intro a x hgen hid
  obtain ⟨o, t, ho, ht, g⟩ := genFs_iff.mp hgen
  have hox : o.xid = some x := by
    exact (xidOf_eq ho).symm.trans hid
  have hAnn : AnnSofa cass (isInstanceOf ts o.ty ANNOTATION) o := by
    intro h
    obtain ⟨vn, v, hs, hv⟩ := g.ann_sofa h
    exact ⟨ci, vn, v, hs, by rw [hc]; exact hv⟩
  let ca := fAttr K ts cass H a (isInstanceOf ts o.ty ANNOTATION)
  let ck := fKids K ts cass H a (isInstanceOf ts o.ty ANNOTATION)
  -- every feature is written, with a contribution of the shape the reader expects
  have hsh : ∀ f ∈ allFeatures t, (∃ av ks,
      renderFeature K ts cass H a (isInstanceOf ts o.ty ANNOTATION) f = .ok (featOut f av ks)) ∧
      Shape K f (ca f) (ck f) := by
    intro f hf
    obtain ⟨av, ks, hr, hS⟩ := feat_shape hc ho hAnn (g.feat f hf)
    refine ⟨⟨av, ks, hr⟩, ?_⟩
    show Shape K f (fAttr K ts cass H a _ f) (fKids K ts cass H a _ f)
    rw [fAttr_of hr, fKids_of hr]
    exact hS
  refine ⟨o, gElem xmlName o.ty x ca ck (allFeatures t), ho, ?_, g.notSofa, g.notView, fun hpCur => ?_⟩
  · exact renderFs_gen K ts cass H a x o t ho ht hox g.notPrimArr g.notFsArr (fun f hf => (hsh f hf).1)
  · obtain ⟨ext, o1, hparse, hext, hty, hxid, hkeys, hslot⟩ :=
      parse_gen K ts tsIdx t x o.ty xmlName ca ck (getTypeExact_of_find ht) g.notPrimArr g.nodup (fun f hf => (hsh f hf).2) (fun f hf =>
        have S := (hsh f hf).2
        ⟨renRes_xmlName f S.res S.names.2.1 S.names.2.2, fun he => S.names.1
          ((xmlName_eq_iff f S.res ID (by decide) (by decide) (by decide) (by decide)).mp he)⟩) hpCur
    refine ⟨ext, o1, hparse, hext, by rw [hty, g.name], hxid, by rw [hkeys, g.keys], fun n v hv => ?_⟩
    obtain ⟨f, hf, rfl⟩ := g.slot_feature hv
    obtain ⟨w, hw, hR⟩ := hslot f hf
    refine ⟨w, hw, fun hl => ?_, fun _ => ⟨a, t, f, ho, ht, hf, rfl, hAnn, hR.frz (Frz.append _ _)⟩⟩
    rw [(g.feat f hf).notList hv] at hl; cases hl

end Cassis.Xmi
