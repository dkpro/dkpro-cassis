/-
The traversal of a second heap that holds a copy of the structures a first traversal collected (`Moved`): it succeeds
(the copies are a `Closed` set with ids, `findAllFs_ok_of_closed_ids` of `Reach.lean`) and collects exactly the copies,
under the same ids (`Moved.findAllFs`).  Nothing here depends on a fragment or on how the seeds are obtained; the two
traversals may run with different options and under different type systems.  The last section: the successor
computation under a simulation of heaps (`HSim`, `nodeSuccs_lrel`), a source of `Moved` that needs no fragment.
-/
import CassisModel.Proofs.Traverse
import CassisModel.Proofs.Reach
import CassisModel.Proofs.Lists
import CassisModel.Properties.C04

namespace Cassis.Traverse
open Cassis.TS

/-- `L` lists structures of the heap `H` with their ids; the structure with id `x` has a copy at `na x` in the heap
    `hp'`: it carries the id `x`, its successors (type system `ts'`, options `o'`) compute and are copies, and the copy of a
    successor (computed in `H` under `ts` with the options `o` and the list budget `lf`) is a successor of the copy -/
structure Moved (K : Consts) (ts ts' : TypeSystem) (o o' : Opts) (H : Heap) (lf : Nat) (hp' : Heap)
    (L : List (Int × Nat)) (na : Int → Nat) : Prop where
  xid : ∀ q ∈ L, xidOf hp' (na q.1) = some q.1
  node : ∀ q ∈ L, ∃ (ob : Obj) (t : TypeRec) (ps : List Nat) (n : Nat), hp'[na q.1]? = some ob ∧
    getType ts' ob.ty = .ok t ∧ nodeSuccs K ts' o' hp' [] (hp'.length + 1) (na q.1) t = .ok (ps, n) ∧
    ∀ b ∈ ps, ∃ q' ∈ L, b = na q'.1
  succ : ∀ (xa : Int) (a : Nat) (xb : Int) (b : Nat), (xa, a) ∈ L → (xb, b) ∈ L → b ∈ succsOf K ts o H lf a →
    na xb ∈ succsOf K ts' o' hp' (hp'.length + 1) (na xa)

section
variable {K : Consts} {ts ts' : TypeSystem} {o o' : Opts} {H hp' : Heap} {lf : Nat} {L : List (Int × Nat)}
  {na : Int → Nat}

theorem Moved.closed (m : Moved K ts ts' o o' H lf hp' L na) : Closed K ts' o' hp' (fun b => ∃ q ∈ L, b = na q.1) := by
  rintro a ⟨q, hq, rfl⟩
  exact m.node q hq

theorem Moved.ids (m : Moved K ts ts' o o' H lf hp' L na) (a : Nat) : (∃ q ∈ L, a = na q.1) → xidOf hp' a ≠ none := by
  rintro ⟨q, hq, rfl⟩
  rw [m.xid q hq]
  nofun

theorem Moved.inj (m : Moved K ts ts' o o' H lf hp' L na) (a b : Nat) :
    (∃ q ∈ L, a = na q.1) → (∃ q ∈ L, b = na q.1) → xidOf hp' a = xidOf hp' b → a = b := by
  rintro ⟨q, hq, rfl⟩ ⟨q', hq', rfl⟩ h
  rw [m.xid q hq, m.xid q' hq'] at h
  rw [Option.some.inj h]

/-- the traversal of the copies succeeds, leaves the heap alone and collects exactly the copies, under the same ids.
    `L` names the structures the first traversal collected; its ids need not be those of the first traversal. -/
theorem Moved.findAllFs {hp : Heap} {nx nx' : Int} {seeds seeds' : List Nat} {st : St}
    (hnx : 0 < nx) (hfa : findAllFs K ts o hp nx seeds = .ok st)
    (hL : ∀ a, a ∈ st.allFs.map (·.2) ↔ ∃ x, (x, a) ∈ L) (hnd : (L.map (·.1)).Nodup) (hne0 : ∀ q ∈ L, q.1 ≠ 0)
    (m : Moved K ts ts' o o' st.heap (hp.length + 1) hp' L na)
    (hfwd : ∀ a ∈ seeds', ∃ q ∈ L, a = na q.1) (hbwd : ∀ x a, (x, a) ∈ L → a ∈ seeds → na x ∈ seeds')
    (hnx' : 0 < nx') :
    ∃ st' : St, Traverse.findAllFs K ts' o' hp' nx' seeds' = .ok st' ∧ st'.heap = hp' ∧
      st'.allFs.Perm (L.map (fun q => (q.1, na q.1))) := by
  obtain ⟨st', hfa', hheap, hS⟩ := findAllFs_ok_of_closed_ids K ts' o' hp' nx' seeds' _ hfwd m.closed m.ids m.inj
  refine ⟨st', hfa', hheap, ?_⟩
  have inv' := (findAllFs_inv K ts' o' hp' nx' _ st' hfa').1
  have hreach : ∀ a, Reach K ts o st.heap (hp.length + 1) seeds a → ∀ x, (x, a) ∈ L →
      Reach K ts' o' hp' (hp'.length + 1) seeds' (na x) := by
    intro a hr
    induction hr with
    | seed a hs => exact fun x hx => Reach.seed _ (hbwd x a hx hs)
    | step a b hra hnull hsucc ih =>
      intro xb hxb
      obtain ⟨xa, hqa⟩ := (hL a).mp (findAllFs_complete K ts o hp nx _ st hnx hfa a hra hnull)
      refine Reach.step (na xa) (na xb) (ih xa hqa) ?_ (m.succ xa a xb b hqa hxb hsucc)
      rw [m.xid _ hqa]
      exact fun h => hne0 _ hqa (Option.some.inj h)
  have hnd' : (L.map (fun q => (q.1, na q.1))).Nodup := by
    apply Det.nodup_of_nodup_map (·.1)
    rw [List.map_map]
    exact hnd
  rw [List.perm_ext_iff_of_nodup (Det.nodup_of_nodup_map _ _ inv'.nodupK) hnd']
  rintro ⟨x, b⟩
  constructor
  · intro hr
    obtain ⟨q, hq, hb⟩ := hS _ hr
    have h1 := inv'.link x b hr
    rw [hheap, show b = na q.1 from hb, m.xid q hq] at h1
    cases h1
    exact List.mem_map.mpr ⟨q, hq, by rw [show b = na q.1 from hb]⟩
  · intro hm
    obtain ⟨q, hq, heq⟩ := List.mem_map.mp hm
    cases heq
    have hxq : xidOf st'.heap (na q.1) = some q.1 := by rw [hheap]; exact m.xid q hq
    have hmem := findAllFs_complete K ts' o' hp' nx' _ st' hnx' hfa' (na q.1)
      (by rw [hheap]
          exact hreach q.2 (findAllFs_sound K ts o hp nx _ st hnx hfa q.2 ((hL q.2).mpr ⟨q.1, hq⟩)) q.1 hq)
      (by rw [hxq]; exact fun h => hne0 q hq (Option.some.inj h))
    obtain ⟨⟨y, b⟩, hr, hb⟩ := List.mem_map.mp hmem
    simp only at hb
    subst hb
    have := inv'.link y _ hr
    rw [hxq] at this
    cases this
    exact hr

/-- `Moved.findAllFs` when `L` is, up to order, what the first traversal collected -/
theorem Moved.findAllFs_collected {hp : Heap} {nx nx' : Int} {seeds seeds' : List Nat} {st : St}
    (hnx : 0 < nx) (hfa : Traverse.findAllFs K ts o hp nx seeds = .ok st) (hL : L.Perm st.allFs)
    (m : Moved K ts ts' o o' st.heap (hp.length + 1) hp' L na)
    (hfwd : ∀ a ∈ seeds', ∃ q ∈ L, a = na q.1) (hbwd : ∀ x a, (x, a) ∈ L → a ∈ seeds → na x ∈ seeds')
    (hnx' : 0 < nx') :
    ∃ st' : St, Traverse.findAllFs K ts' o' hp' nx' seeds' = .ok st' ∧ st'.heap = hp' ∧
      st'.allFs.Perm (st.allFs.map (fun q => (q.1, na q.1))) := by
  obtain ⟨st', hfa', hheap, hperm⟩ := m.findAllFs hnx hfa
    (fun a => by
      rw [List.mem_map]
      exact ⟨fun ⟨q, hq, e⟩ => ⟨q.1, hL.mem_iff.mpr (by rw [← e]; exact hq)⟩, fun ⟨x, hx⟩ => ⟨(x, a), hL.mem_iff.mp hx, rfl⟩⟩)
    ((hL.map (·.1)).nodup_iff.mpr (findAllFs_inv K ts o hp nx _ st hfa).1.nodupK)
    (fun q hq => (findAllFs_ids K ts o hp nx _ st hnx hfa q.1 q.2 (hL.mem_iff.mp hq)).2) hfwd hbwd hnx'
  exact ⟨st', hfa', hheap, hperm.trans (hL.map _)⟩

end

theorem Moved.traversal {K : Consts} {ts : TypeSystem} {o : Opts} {H hp' : Heap} {lf : Nat} {L : List (Int × Nat)}
    {na : Int → Nat} (m : Moved K ts ts o o H lf hp' L na) (nx' : Int) {seeds' : List Nat}
    (hfwd : ∀ a ∈ seeds', ∃ q ∈ L, a = na q.1) :
    ∃ st' : St, Traverse.findAllFs K ts o hp' nx' seeds' = .ok st' ∧ st'.heap = hp' ∧
      ∀ r ∈ st'.allFs, ∃ q ∈ L, r.2 = na q.1 :=
  findAllFs_ok_of_closed_ids K ts o hp' nx' seeds' _ hfwd m.closed m.ids m.inj

/-! ### the successor computation under a simulation of heaps

Two heaps whose structures correspond through a relation `R` on addresses — a loaded heap against the written one; `R` need
not be a function: the XMI reader makes one copy of a shared inlined collection per owner — push corresponding successors,
for any options and without any assumption on the shape of the structures. -/

/-- every push of one side has a counterpart among the pushes of the other -/
def PRel (R : Nat → Nat → Prop) (ps ps' : List Nat) : Prop :=
  (∀ b ∈ ps, ∃ b' ∈ ps', R b b') ∧ ∀ b' ∈ ps', ∃ b ∈ ps, R b b'

theorem PRel.nil {R : Nat → Nat → Prop} : PRel R [] [] := ⟨nofun, nofun⟩

theorem PRel.one {R : Nat → Nat → Prop} {b b' : Nat} (h : R b b') : PRel R [b] [b'] :=
  ⟨fun _ hx => ⟨b', List.mem_singleton.mpr rfl, List.mem_singleton.mp hx ▸ h⟩,
   fun _ hx => ⟨b, List.mem_singleton.mpr rfl, List.mem_singleton.mp hx ▸ h⟩⟩

theorem PRel.append {R : Nat → Nat → Prop} {p1 p1' p2 p2' : List Nat} (h1 : PRel R p1 p1') (h2 : PRel R p2 p2') :
    PRel R (p1 ++ p2) (p1' ++ p2') := by
  refine ⟨fun b hb => ?_, fun b' hb' => ?_⟩
  · rcases List.mem_append.mp hb with hb | hb
    · obtain ⟨b', hb', hr⟩ := h1.1 b hb; exact ⟨b', List.mem_append_left _ hb', hr⟩
    · obtain ⟨b', hb', hr⟩ := h2.1 b hb; exact ⟨b', List.mem_append_right _ hb', hr⟩
  · rcases List.mem_append.mp hb' with hb' | hb'
    · obtain ⟨b, hb, hr⟩ := h1.2 b' hb'; exact ⟨b, List.mem_append_left _ hb, hr⟩
    · obtain ⟨b, hb, hr⟩ := h2.2 b' hb'; exact ⟨b, List.mem_append_right _ hb, hr⟩

/-- the pushes of the two sides correspond one by one, in their order -/
inductive LRel (R : Nat → Nat → Prop) : List Nat → List Nat → Prop
  | nil : LRel R [] []
  | cons {b b' : Nat} {ps ps' : List Nat} : R b b' → LRel R ps ps' → LRel R (b :: ps) (b' :: ps')

theorem LRel.one {R : Nat → Nat → Prop} {b b' : Nat} (h : R b b') : LRel R [b] [b'] := .cons h .nil

theorem LRel.append {R : Nat → Nat → Prop} {p1 p1' p2 p2' : List Nat} (h1 : LRel R p1 p1') (h2 : LRel R p2 p2') :
    LRel R (p1 ++ p2) (p1' ++ p2') := by
  induction h1 with
  | nil => exact h2
  | cons h _ ih => exact .cons h ih

theorem LRel.prel {R : Nat → Nat → Prop} {ps ps' : List Nat} (h : LRel R ps ps') : PRel R ps ps' := by
  induction h with
  | nil => exact .nil
  | cons h _ ih => exact (PRel.one h).append ih

theorem LRel.map_of_graph {R : Nat → Nat → Prop} {φ : Nat → Nat} (hR : ∀ b b', R b b' → b' = φ b) {ps ps' : List Nat}
    (h : LRel R ps ps') : ps' = ps.map φ := by
  induction h with
  | nil => rfl
  | cons h _ ih => rw [List.map_cons, ← hR _ _ h, ← ih]

/-- how the value `w` of a slot of the copy relates to the value `v` of the original, as far as the traversal looks:
    a reference corresponds to a reference to a related structure, `None` stays `None`, and nothing else becomes a
    reference (a string may become `None`, an empty list of integers an empty list of references) -/
structure VSim (R : Nat → Nat → Prop) (v w : Val) : Prop where
  none : v = .none → w = .none
  ref : ∀ b, v = .ref b → ∃ b', w = .ref b' ∧ R b b'
  nonref : (∀ b, v ≠ .ref b) → ∀ b', w ≠ .ref b'

/-- related structures have corresponding slots, and the non-null `elements` of related structures correspond one by one -/
structure HSim (R : Nat → Nat → Prop) (H H' : Heap) : Prop where
  slots : ∀ a a', R a a' → ∀ n, (slot H a n = none → slot H' a' n = none) ∧
    ∀ v, slot H a n = some v → ∃ w, slot H' a' n = some w ∧ VSim R v w
  elems : ∀ a a', R a a' → LRel R (elemsPush H [] (slot H a "elements")) (elemsPush H' [] (slot H' a' "elements"))

section
variable {R : Nat → Nat → Prop} {H H' : Heap}

theorem VSim.none_self : VSim R .none .none := ⟨fun _ => rfl, nofun, fun _ => nofun⟩

theorem HSim.getD (h : HSim R H H') {a a' : Nat} (hr : R a a') (n : String) :
    VSim R ((slot H a n).getD .none) ((slot H' a' n).getD .none) := by
  obtain ⟨h1, h2⟩ := h.slots a a' hr n
  cases hs : slot H a n with
  | none => rw [h1 hs]; exact .none_self
  | some v =>
    obtain ⟨w, hw, hv⟩ := h2 v hs
    rw [hw]; exact hv

theorem refHead_sim {v w : Val} (h : VSim R v w) : LRel R (refHead v) (refHead w) := by
  by_cases hr : ∃ t, v = .ref t
  · obtain ⟨t, rfl⟩ := hr
    obtain ⟨t', rfl, hrt⟩ := h.ref t rfl
    exact .one hrt
  · have e1 : refHead v = [] := by cases v <;> first | rfl | exact absurd ⟨_, rfl⟩ hr
    have e2 : refHead w = [] := by
      cases w <;> first | rfl | exact absurd rfl (h.nonref (fun b e => hr ⟨b, e⟩) _)
    rw [e1, e2]; exact .nil

/-- the spine of a copy: as long, and the heads correspond as far as they are references -/
theorem Spine.sim (h : HSim R H H') {v : Val} {vs : List Val} (hs : Spine H v vs) : ∀ {w : Val}, VSim R v w →
    ∃ ws, Spine H' w ws ∧ ws.length = vs.length ∧ LRel R (vs.flatMap refHead) (ws.flatMap refHead) := by
  induction hs with
  | @stop v h0 =>
    intro w hv
    refine ⟨[], ?_, rfl, .nil⟩
    by_cases hr : ∃ a, v = .ref a
    · obtain ⟨a, rfl⟩ := hr
      obtain ⟨a', rfl, hra⟩ := hv.ref a rfl
      exact .stop fun _ e => by cases e; exact (h.slots a a' hra "head").1 (h0 a rfl)
    · exact .of_nonref H' (hv.nonref fun b e => hr ⟨b, e⟩)
  | @node a hd vs h1 _ ih =>
    intro w hv
    obtain ⟨a', rfl, hra⟩ := hv.ref a rfl
    obtain ⟨hd', hhd', hvd⟩ := (h.slots a a' hra "head").2 hd h1
    obtain ⟨ws, hws, hl, hps⟩ := ih (h.getD hra "tail")
    exact ⟨hd' :: ws, .node hhd' hws, congrArg (· + 1) hl, (refHead_sim hvd).append hps⟩

theorem walkList_sim (h : HSim R H H') {f f' : Nat} {v w : Val} {ps : List Nat} {n : Nat} (hf : f ≤ f') (hv : VSim R v w)
    (hw : walkList H [] f v = some (ps, n)) : ∃ ps', walkList H' [] f' w = some (ps', n) ∧ LRel R ps ps' := by
  obtain ⟨vs, hs, hlt⟩ := walkList_some hw
  rw [walkList_spine_nil hs hlt] at hw
  cases hw
  obtain ⟨ws, hws, hl, hps⟩ := hs.sim h hv
  exact ⟨_, hl ▸ walkList_spine_nil hws (by omega), hps⟩

/-- **one feature**: a successful successor computation on the original succeeds on the copy (with at least the list
    budget of the original), and the pushes correspond -/
theorem featureSuccs_sim {K : Consts} {ts : TypeSystem} {o : Opts} (h : HSim R H H') {a a' : Nat} (hr : R a a')
    {f f' : Nat} (hf : f ≤ f') {ft : Feature} {ps : List Nat} {n : Nat}
    (hs : featureSuccs K ts o H [] f a ft = .ok (ps, n)) :
    ∃ ps', featureSuccs K ts o H' [] f' a' ft = .ok (ps', n) ∧ LRel R ps ps' := by
  have nil' : ∀ {x : Except Err (List Nat × Nat)}, x = .ok ([], 0) → (.ok ([], 0) : Except Err (List Nat × Nat)) = .ok (ps, n) →
      ∃ ps', x = .ok (ps', n) ∧ LRel R ps ps' := by
    intro x hx e; cases e; exact ⟨[], hx, .nil⟩
  by_cases hn : ft.name = "sofa"
  · rw [featureSuccs_skip (.inl hn)] at hs
    exact nil' (featureSuccs_skip (.inl hn)) hs
  cases hpr : isPrimitive K ts ft.range with
  | true =>
    rw [featureSuccs_skip (.inr (.inl hpr))] at hs
    exact nil' (featureSuccs_skip (.inr (.inl hpr))) hs
  | false =>
  obtain ⟨g1, g2⟩ := h.slots a a' hr ft.name
  cases hv : slot H a ft.name with
  | none =>
    rw [featureSuccs_skip (.inr (.inr (.inl hv)))] at hs
    exact nil' (featureSuccs_skip (.inr (.inr (.inl (g1 hv))))) hs
  | some v =>
  obtain ⟨w, hw, hvw⟩ := g2 v hv
  by_cases hvn : v = .none
  · subst hvn
    rw [featureSuccs_skip (.inr (.inr (.inr hv)))] at hs
    exact nil' (featureSuccs_skip (.inr (.inr (.inr (by rw [hw, hvw.none rfl]))))) hs
  rw [featureSuccs_val hn hpr hv hvn] at hs
  by_cases hvr : ∃ b, v = .ref b
  · obtain ⟨b, rfl⟩ := hvr
    obtain ⟨b', rfl, hrb⟩ := hvw.ref b rfl
    rw [featureSuccs_val hn hpr hw nofun]
    by_cases hl : looksThrough K o ft = true
    · rw [if_pos hl] at hs ⊢
      by_cases h1 : ft.range = FS_ARRAY
      · rw [if_pos h1] at hs ⊢
        cases hs
        exact ⟨_, rfl, h.elems b b' hrb⟩
      · rw [if_neg h1] at hs ⊢
        by_cases h2 : ft.range = FS_LIST
        · rw [if_pos h2] at hs ⊢
          cases hwl : walkList H [] f (.ref b) with
          | none => rw [hwl] at hs; cases hs
          | some r =>
            rw [hwl] at hs
            cases hs
            obtain ⟨ps', hw', hps⟩ := walkList_sim h hf hvw hwl
            rw [hw']
            exact ⟨ps', rfl, hps⟩
        · rw [if_neg h2] at hs ⊢
          exact nil' rfl hs
    · rw [if_neg hl] at hs ⊢
      simp only [seenId_nil, Bool.false_eq_true, if_false] at hs ⊢
      cases hs
      exact ⟨[b'], rfl, .one hrb⟩
  · -- a value that is neither `None` nor a reference is accepted only where a feature is looked through, and pushes nothing
    have hnr : ∀ b, v ≠ .ref b := fun b e => hvr ⟨b, e⟩
    have hnr' : ∀ b', w ≠ .ref b' := hvw.nonref hnr
    by_cases hl : looksThrough K o ft = true
    · rw [if_pos hl] at hs
      by_cases h1 : ft.range = FS_ARRAY
      · rw [if_pos h1] at hs
        cases v <;> first | exact absurd rfl (hnr _) | cases hs
      · rw [if_neg h1] at hs
        have hps : (.ok ([], 0) : Except Err (List Nat × Nat)) = .ok (ps, n) ∧ (ft.range = FS_LIST → f ≠ 0) := by
          by_cases h2 : ft.range = FS_LIST
          · rw [if_pos h2] at hs
            cases hwl : walkList H [] f v with
            | none => rw [hwl] at hs; cases hs
            | some r =>
              obtain ⟨vs, hsp, hlt⟩ := walkList_some hwl
              cases hsp.nonref hnr
              rw [walkList_spine_nil hsp hlt] at hs
              exact ⟨hs, fun _ => by omega⟩
          · rw [if_neg h2] at hs; exact ⟨hs, fun e => absurd e h2⟩
        by_cases hwn : w = .none
        · exact nil' (featureSuccs_skip (.inr (.inr (.inr (hwn ▸ hw))))) hps.1
        · rw [featureSuccs_val hn hpr hw hwn, if_pos hl, if_neg h1]
          refine nil' ?_ hps.1
          by_cases h2 : ft.range = FS_LIST
          · rw [if_pos h2, walkList_spine_nil (.of_nonref H' hnr') (by have := hps.2 h2; show 0 < f'; omega)]
            rfl
          · rw [if_neg h2]
    · rw [if_neg hl] at hs
      cases v <;> first | exact absurd rfl (hnr _) | cases hs

theorem featuresSuccs_sim {K : Consts} {ts : TypeSystem} {o : Opts} (h : HSim R H H') {a a' : Nat} (hr : R a a')
    {f f' : Nat} (hf : f ≤ f') : ∀ (fs : List Feature) (ps : List Nat) (n : Nat),
    featuresSuccs K ts o H [] f a fs = .ok (ps, n) →
    ∃ ps', featuresSuccs K ts o H' [] f' a' fs = .ok (ps', n) ∧ LRel R ps ps'
  | [], ps, n, hs => by
    cases hs
    exact ⟨[], rfl, .nil⟩
  | ft :: fs, ps, n, hs => by
    rw [featuresSuccs_cons] at hs ⊢
    cases h1 : featureSuccs K ts o H [] f a ft with
    | error e => rw [h1] at hs; cases hs
    | ok r1 =>
      cases h2 : featuresSuccs K ts o H [] f a fs with
      | error e => rw [h1, h2] at hs; cases hs
      | ok r2 =>
        rw [h1, h2] at hs
        cases hs
        obtain ⟨p1', e1, q1⟩ := featureSuccs_sim h hr hf h1
        obtain ⟨p2', e2, q2⟩ := featuresSuccs_sim h hr hf fs r2.1 r2.2 h2
        rw [e1, e2]
        exact ⟨_, rfl, q1.append q2⟩

/-- **the successors of a structure**: what the original pushes (against the empty visited map), the copy pushes too,
    related structure by related structure and in the same order -/
theorem nodeSuccs_lrel {K : Consts} {ts : TypeSystem} {o : Opts} (h : HSim R H H') {a a' : Nat} (hr : R a a')
    {f f' : Nat} (hf : f ≤ f') {t : TypeRec} {ps : List Nat} {n : Nat}
    (hs : nodeSuccs K ts o H [] f a t = .ok (ps, n)) :
    ∃ ps', nodeSuccs K ts o H' [] f' a' t = .ok (ps', n) ∧ LRel R ps ps' := by
  by_cases h1 : t.super = some ARRAY_BASE
  · rw [nodeSuccs_array h1] at hs ⊢
    cases hs
    refine ⟨_, rfl, ?_⟩
    split
    · exact h.elems a a' hr
    · exact .nil
  · rw [nodeSuccs_of_not_array h1] at hs ⊢
    exact featuresSuccs_sim h hr hf _ ps n hs

end

end Cassis.Traverse
