/-
C13 — "merging any type systems yields a consistent type system (C10/C11: one tree, features inherited from the final
ancestors)": the C11 half.

`merge_consistent` (`Properties/C13.lean`) is the C10 half: a successful merge yields one tree.  Here: a successful merge
yields a type system that satisfies `FeatInv` (`Spec/Features.lean`, the invariant of C11): for every type, the inherited
features are — by name and by definition (`Feature.__eq__`) — exactly the effective features of its *final* supertype,
own and inherited features carry one definition per name, and the root inherits nothing.  This holds for *every*
declaration list (no closedness, acyclicity or user-type hypothesis is needed: those only matter for termination and
success), and in particular for the merges that re-parent a type **together with its subtypes** below a more specific
supertype (`reparent` / `relink` / `inheritFrom` / `pushInherited`), which `Properties/C13Perm.lean` excludes.

Consequences stated below: effective features = own + the final supertype's effective features, one definition per
name, and every feature of a type is a feature of all its descendants in the merged type system.
-/
import CassisModel.Properties.C10
import CassisModel.Properties.C11
import CassisModel.Properties.C13
import CassisModel.Proofs.MergeFeatInv
import CassisModel.Proofs.MergeFeatInvDemo

namespace Cassis.TS

/-- re-parenting a type — with its whole subtree — below a descendant `newSup` of its present supertype `oldSup` keeps
    the feature invariant (the re-parenting branch of the merge loop is entered exactly with `oldSup` an ancestor of
    `newSup`) -/
theorem reparent_featInv (ts ts' : TypeSystem) (name oldSup newSup : String) (ex : TypeRec)
    (hc : Consistent ts) (hf : FeatInv ts) (hex : find? ts name = some ex) (hsup : ex.super = some oldSup)
    (hne : newSup ≠ oldSup) (hanc : Anc ts oldSup newSup)
    (h : reparent ts name oldSup newSup = .ok ts') : FeatInv ts' :=
  featInv_reparent ts ts' name oldSup newSup ex hc hf hex hsup hne hanc h

/-- one step of the merge loop keeps both invariants -/
theorem processDecl_featInv (K : Consts) (s s' : MState) (d : Decl) (hc : Consistent s.ts) (hf : FeatInv s.ts)
    (h : processDecl K s d = .ok s') : Consistent s'.ts ∧ FeatInv s'.ts :=
  inv_processDecl K s s' d ⟨hc, hf⟩ h

/-- **a successful merge keeps the feature invariant**, whatever is declared -/
theorem merge_featInv_general (K : Consts) (base ts' : TypeSystem) (decls : List Decl)
    (hc : Consistent base) (hf : FeatInv base) (h : mergeDecls K base decls = .ok ts') : FeatInv ts' :=
  (mergeDecls_inv (fun t => Consistent t ∧ FeatInv t) (fun d _ s s' => inv_processDecl K s s' d) ⟨hc, hf⟩ h).2

/-- **every successful merge from the built-in type system yields a type system satisfying `FeatInv`** (and
    `Consistent`) -/
theorem merge_featInv (decls : List Decl) (ts' : TypeSystem)
    (h : mergeDecls Gen.consts Gen.builtinTS decls = .ok ts') : Consistent ts' ∧ FeatInv ts' :=
  ⟨merge_consistent Gen.consts Gen.builtinTS ts' decls consistent_builtins.1 h,
   merge_featInv_general Gen.consts Gen.builtinTS ts' decls consistent_builtins.1 featInv_builtins.1 h⟩

/-- … in terms of `merge_typesystems(*inputs)` -/
theorem merge_inputs_featInv (inputs : List TypeSystem) (ts' : TypeSystem)
    (h : merge Gen.consts Gen.builtinTS inputs = .ok ts') : Consistent ts' ∧ FeatInv ts' :=
  merge_featInv _ ts' h

/-- "features inherited from the final ancestors": in the merged type system the effective feature names of a type are
    its own plus the effective feature names of its (final) supertype, no name is exposed twice, and a type below `a`
    exposes every feature name of `a` -/
theorem merge_effective_features (decls : List Decl) (ts' : TypeSystem)
    (h : mergeDecls Gen.consts Gen.builtinTS decls = .ok ts') :
    (∀ t ∈ ts'.types, ∀ s ps, t.super = some s → find? ts' s = some ps →
      ∀ n, n ∈ fnames (allFeatures t) ↔ n ∈ fnames t.own ∨ n ∈ fnames (allFeatures ps)) ∧
    (∀ t ∈ ts'.types, (fnames (allFeatures t)).Nodup) ∧
    (∀ a b ta tb, Anc ts' a b → find? ts' a = some ta → find? ts' b = some tb →
      ∀ n ∈ fnames (allFeatures ta), n ∈ fnames (allFeatures tb)) :=
  have hf := (merge_featInv decls ts' h).2
  ⟨fun t ht s ps hs hps n => effective_names ts' hf t ps s ht hs hps n,
   fun t ht => effective_names_nodup ts' hf t ht,
   fun a b ta tb hab hta htb n hn => inherited_down ts' hf a b ta tb hab hta htb n hn⟩

/-! Non-vacuity: `demoSub` (`Proofs/InstancesMerge.lean`) re-parents `x.X` with children `x.Y`, `x.Z` and grandchild
`x.W` from `uima.tcas.Annotation` to `x.M2`; the merge succeeds in both orders (so the theorem applies), and fails in
both orders when `x.W` defines a feature of the new supertype chain differently. -/

theorem demoSub_featInv : ∃ ts, mergeDecls Gen.consts Gen.builtinTS demoSub = .ok ts ∧ FeatInv ts ∧
    (∃ t, find? ts "x.X" = some t ∧ t.super = some "x.M2" ∧ t.children = ["x.Y", "x.Z"]) := by
  obtain ⟨t, ht, e⟩ := Option.map_eq_some_iff.mp demoSub_result.1
  obtain ⟨ts, hts, hx⟩ := Option.bind_eq_some_iff.mp ht
  have h := Det.ok_of_toOption hts
  exact ⟨ts, h, merge_featInv_general Gen.consts Gen.builtinTS ts demoSub consistent_builtins.1 featInv_builtins.1 h,
    t, hx, (Prod.mk.inj e).1, (Prod.mk.inj e).2⟩

end Cassis.TS

#print axioms Cassis.TS.merge_featInv
#print axioms Cassis.TS.merge_featInv_general
#print axioms Cassis.TS.merge_inputs_featInv
#print axioms Cassis.TS.merge_effective_features
#print axioms Cassis.TS.reparent_featInv
#print axioms Cassis.TS.demoSub_featInv
