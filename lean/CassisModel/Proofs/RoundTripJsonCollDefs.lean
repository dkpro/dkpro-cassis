/-
Shared definitions of the proof of the JSON round trip with collections (`Properties/C02RoundTripColl.lean`), on top of those
for general structures (`RoundTripJsonDefs.lean`, `RoundTripJsonParseFs.lean`, `RoundTripJsonPass.lean`; notation `H`, `L`,
`ci'` as there, `B` the base heap, `naOf B L` the new addresses).  Every collection object is a structure of its own in JSON,
so the only new kind of object is the array object: its `elements` slot holds a raw list, which the reader restores at once
(primitive arrays) or through a deferred entry (`elems`) resolved by `fixUps` (FSArray).
In the order of the file: what a slot value becomes (`exp3J`, `E3J`; `plainV` tells the raw lists from the rest), the state
between `fsPass` and `fixUps` (`PendJ`, `ObjPendJ`, `DefEntry`, extending `Pend`, `ObjPendG`, `DefRef` by the deferred
elements), what is known of the collected structures (`LOkJ`, with `ClosedE` for the elements of FSArrays), and the element
written for one of them (`elemOfJ`, for an array object `arrJFs`) by the kind of the structure.
-/
import CassisModel.Spec.RoundTripJsonCollFrag
import CassisModel.Proofs.RoundTripJsonPass

namespace Cassis.Json
open Cassis.TS Cassis.Traverse Cassis.Xmi

/-- the new `elements` for old `elements`: references at their new addresses (null stays null), an empty list of
    any kind comes back as the empty list of references (Python's `[]`) -/
def elemsExpJ (H : Heap) (na : Int → Nat) : Val → Val
  | .refs l => .refs (l.map (fun r => r.bind (fun b => (xidOf H b).map na)))
  | .ints l => if l.isEmpty then .refs [] else .ints l
  | .bools l => if l.isEmpty then .refs [] else .bools l
  | .floats l => if l.isEmpty then .refs [] else .floats l
  | .strs l => if l.isEmpty then .refs [] else .strs l
  | _ => .none

/-- slot value after the reader is done: `exp3`, and raw element lists -/
def exp3J (H : Heap) (na : Int → Nat) (ci' : Nat) (v : Val) : Val :=
  match v with
  | .refs _ | .ints _ | .floats _ | .bools _ | .strs _ => elemsExpJ H na v
  | _ => exp3 H na ci' v

def E3J (H : Heap) (na : Int → Nat) (ci' : Nat) (_o : Obj) : String → Val → Val :=
  fun _ v => exp3J H na ci' v

/-- a value that is not a raw element list -/
def plainV : Val → Bool
  | .refs _ | .ints _ | .floats _ | .bools _ | .strs _ => false
  | _ => true

/-- a value a slot of a collected structure may hold: anything but a non-feature attribute -/
def CC.noAttr : Val → Bool
  | .attr _ => false
  | _ => true

theorem JFeatOk.scalar {K : Consts} {ts : TypeSystem} {c : Cas} {ci : Nat} {H : Heap} {isAnn : Bool} {o : Obj}
    {f : Feature} (h : JFeatOk K ts c ci H isAnn o f) {v : Val} (hv : alistGet? o.slots f.name = some v) :
    plainV v = true ∧ CC.noAttr v = true := by
  obtain ⟨_, _, _, _, _, v', hv', hc⟩ := h
  rw [hv] at hv'; cases hv'
  rcases hc with ⟨_, ⟨vn, e, _⟩ | ⟨e, _⟩⟩ | ⟨_, _, e | ⟨_, i, e⟩ | ⟨_, s, e⟩ | ⟨_, b, e⟩ | ⟨_, t', e⟩⟩ |
      ⟨_, _, _, _, _, e | ⟨b, e, _⟩⟩ <;> subst e <;> exact ⟨rfl, rfl⟩

theorem JPrimElems.list {ty : String} {ev : Val} (h : JPrimElems ty ev) : plainV ev = false ∧ CC.noAttr ev = true := by
  rcases h with e | ⟨_, l, e⟩ | ⟨_, l, e⟩ | ⟨_, _, ⟨l, e⟩ | ⟨l, e⟩ | ⟨l, e⟩⟩ <;> subst e <;> exact ⟨rfl, rfl⟩

theorem CC.ObjRel.slot_mapJ {H : Heap} {na : Int → Nat} {ci' : Nat} {o o' : Obj} {x : Int}
    (h : ObjRel (E3J H na ci' o) o o' x) (n : String) :
    alistGet? o'.slots n = (alistGet? o.slots n).map (exp3J H na ci') := h.slot n

theorem exp3J_plain (H : Heap) (na : Int → Nat) (ci' : Nat) (v : Val) (h : plainV v = true) :
    exp3J H na ci' v = exp3 H na ci' v := by
  cases v <;> first | rfl | cases h

/-- the deferred entry the reader makes for the elements `l` of the FSArray at `addr` -/
def elemsDef (H : Heap) (addr : Nat) (l : List (Option Nat)) : Deferred :=
  { addr := addr, slot := "elements", target := none, elems := some (l.map (refOf H)) }

/-- the slot `n` (old value `v`) waits for a deferred reference or for the deferred elements -/
def PendJ (H : Heap) (addr : Nat) (ds : List Deferred) (n : String) (v : Val) : Prop :=
  Pend H addr ds n v ∨ ∃ l : List (Option Nat), v = .refs l ∧ n = "elements" ∧ elemsDef H addr l ∈ ds

/-- the new object `o'` at `addr` stands for `o`: every slot holds its final value or waits for a deferred entry -/
def ObjPendJ (H : Heap) (na : Int → Nat) (ci' : Nat) (addr : Nat) (ds : List Deferred) (o o' : Obj) (x : Int) : Prop :=
  ObjPendG (exp3J H na ci') (PendJ H) addr ds o o' x

/-- a deferred entry of the object at `addr` that stands for `o` -/
def DefEntry (H : Heap) (addr : Nat) (o : Obj) (d : Deferred) : Prop :=
  DefRef H addr o d ∨ ∃ l : List (Option Nat), d = elemsDef H addr l ∧ alistGet? o.slots "elements" = some (.refs l)

theorem ObjPendJ.mono {H : Heap} {na : Int → Nat} {ci' addr : Nat} {ds ds' : List Deferred} {o o' : Obj} {x : Int}
    (h : ObjPendJ H na ci' addr ds o o' x) (hs : ∀ d ∈ ds, d ∈ ds') : ObjPendJ H na ci' addr ds' o o' x := by
  obtain ⟨h1, h2, h3, h4⟩ := h
  refine ⟨h1, h2, h3, fun n v hv => ?_⟩
  rcases h4 n v hv with h | ⟨b, y, e1, e2, e3⟩ | ⟨l, e1, e2, e3⟩
  · exact Or.inl h
  · exact Or.inr (Or.inl ⟨b, y, e1, e2, hs _ e3⟩)
  · exact Or.inr (Or.inr ⟨l, e1, e2, hs _ e3⟩)

/-- closure of the collected structures under the elements of FSArrays -/
def ClosedE (H : Heap) (L : List (Int × Nat)) : Prop :=
  ∀ q ∈ L, ∀ (o : Obj), H[q.2]? = some o → ∀ l : List (Option Nat), alistGet? o.slots "elements" = some (.refs l) →
    ∀ b : Nat, some b ∈ l → ∃ x : Int, xidOf H b = some x ∧ (x, b) ∈ L

/-- what the proof needs to know about the collected structures (cf. `LOk`) -/
structure LOkJ (K : Consts) (ts : TypeSystem) (c : Cas) (ci : Nat) (H : Heap) (L : List (Int × Nat)) : Prop where
  coll : ∀ q ∈ L, JCollFs K ts c ci H q.2
  ids : ∀ q ∈ L, xidOf H q.2 = some q.1 ∧ q.1 ≠ 0
  nodup : (L.map (·.1)).Nodup
  closed : ClosedL H L
  closedE : ClosedE H L
  /-- every indexed structure is collected -/
  members : ∀ nv ∈ c.views, ∀ e ∈ Index.all nv.2.idx, ∃ x : Int, (x, e.oid) ∈ L

/-- what is fixed during the second pass -/
structure GCtxJ (K : Consts) (ts : TypeSystem) (cass : List Cas) (c : Cas) (ci : Nat) (hp H : Heap)
    (L : List (Int × Nat)) : Prop where
  hc : cass[ci]? = some c
  wf : RTWf c hp
  lok : LOkJ K ts c ci H L
  dis : ∀ q ∈ L, ∀ nv ∈ c.views, q.1 ≠ nv.2.sofa.xid

/-- `%ELEMENTS` of the array object `o` -/
def arrElemsJ (H : Heap) (o : Obj) : Option JV :=
  match arrayElements H o.ty (alistGet? o.slots "elements") with
  | .ok el => el
  | .error _ => none

/-- the element written for an array object -/
def arrJFs (H : Heap) (x : Int) (o : Obj) : JFs := { id := some x, ty := o.ty, elements := arrElemsJ H o }

/-- the element written for the collected structure `q` -/
def elemOfJ (K : Consts) (ts : TypeSystem) (cass : List Cas) (H : Heap) (q : Int × Nat) : JFs :=
  match H[q.2]? with
  | some o =>
    if isPrimitiveArray K o.ty || o.ty == FS_ARRAY then arrJFs H q.1 o
    else
      match find? ts o.ty with
      | some t => genJFs ts cass H q.1 o t
      | none => default
  | none => default

/-! ### the element written for a collected structure, by the kind of the structure -/

section
variable {K : Consts} {ts : TypeSystem} {cass : List Cas} {c : Cas} {ci : Nat} {H : Heap}

/-- an array object of the fragment passes the test by which `elemOfJ` takes its array branch -/
theorem jarr_cond {a : Nat} {o : Obj} (hfl : JArrFs K ts H a) (ho : H[a]? = some o) :
    (isPrimitiveArray K o.ty || o.ty == FS_ARRAY) = true := by
  obtain ⟨t, f, ev, _, g⟩ := hfl.at ho
  rcases g.kind with ⟨h1, _⟩ | ⟨_, h2, _⟩
  · rw [h1]; simp
  · rw [h2]; rfl

theorem elemOfJ_gen (q : Int × Nat) (o : Obj) (t : TypeRec) (ho : H[q.2]? = some o) (ht : find? ts o.ty = some t)
    (hpa : isPrimitiveArray K o.ty = false) (hfa : o.ty ≠ FS_ARRAY) :
    elemOfJ K ts cass H q = genJFs ts cass H q.1 o t := by
  unfold elemOfJ
  rw [ho]
  dsimp only
  rw [hpa, beq_false_of_ne hfa, if_neg (by decide), ht]

theorem elemOfJ_arr (q : Int × Nat) (o : Obj) (ho : H[q.2]? = some o)
    (h : (isPrimitiveArray K o.ty || o.ty == FS_ARRAY) = true) : elemOfJ K ts cass H q = arrJFs H q.1 o := by
  unfold elemOfJ
  rw [ho]
  dsimp only
  rw [if_pos h]

theorem elemOfJ_cases {L : List (Int × Nat)} (hL : LOkJ K ts c ci H L) (q : Int × Nat) (hq : q ∈ L) :
    (∃ o t, H[q.2]? = some o ∧ find? ts o.ty = some t ∧ JGenFs K ts c ci H q.2 ∧
      elemOfJ K ts cass H q = genJFs ts cass H q.1 o t ∧ o.ty ≠ SOFA) ∨
    (∃ o, H[q.2]? = some o ∧ JArrFs K ts H q.2 ∧ elemOfJ K ts cass H q = arrJFs H q.1 o ∧ o.ty ≠ SOFA) := by
  rcases (hL.coll q hq).1 with hg | ha
  · obtain ⟨o, t, ho, ht, g⟩ := jgenFs_iff.mp hg
    exact Or.inl ⟨o, t, ho, ht, hg, elemOfJ_gen q o t ho ht g.notPrimArr g.notFsArr, g.notSofa⟩
  · obtain ⟨o, t, f, ev, ho, _, g⟩ := ha.obj
    exact Or.inr ⟨o, ho, ha, elemOfJ_arr q o ho (jarr_cond ha ho), g.notSofa⟩

theorem elemOfJ_notSofa {L : List (Int × Nat)} (hL : LOkJ K ts c ci H L) (q : Int × Nat) (hq : q ∈ L) :
    (elemOfJ K ts cass H q).ty ≠ SOFA := by
  rcases elemOfJ_cases (cass := cass) hL q hq with ⟨o, t, _, _, _, he, hns⟩ | ⟨o, _, _, he, hns⟩ <;>
    (rw [he]; exact hns)

end

/-! ### the elements of an array object: writer, then reader -/

theorem prim_rt (H : Heap) (na : Int → Nat) (ty : String) (ev : Val) (h4 : ty ≠ FS_ARRAY) (h : JPrimElems ty ev) :
    ∃ el, arrayElements H ty (some ev) = .ok el ∧ parsePrimArray ty el = .ok (elemsExpJ H na ev) := by
  rcases h with rfl | ⟨hb, l, rfl⟩ | ⟨hf, l, rfl⟩ | ⟨hb, hf, h⟩
  · exact ⟨none, rfl, rfl⟩
  · subst hb
    exact primElems_ints H _ l (by simp) h4
  · exact primElems_floats H ty l hf
  · have h1 : (ty == "uima.cas.ByteArray") = false := beq_false_of_ne hb
    have h3 : (ty == "uima.cas.DoubleArray" || ty == "uima.cas.FloatArray") = false := by
      cases e1 : ty == "uima.cas.DoubleArray" with
      | true => exact absurd (Or.inr (eq_of_beq e1)) hf
      | false =>
        cases e2 : ty == "uima.cas.FloatArray" with
        | true => exact absurd (Or.inl (eq_of_beq e2)) hf
        | false => rfl
    rcases h with ⟨l, rfl⟩ | ⟨l, rfl⟩ | ⟨l, rfl⟩
    · exact primElems_ints H ty l h3 h4
    · exact primElems_bools H ty l h1 h3 h4
    · exact primElems_strs H ty l h1 h3 h4

theorem exp3J_prim (H : Heap) (na : Int → Nat) (ci' : Nat) (ty : String) (ev : Val) (h : JPrimElems ty ev) :
    exp3J H na ci' ev = elemsExpJ H na ev := by
  rcases h with rfl | ⟨_, l, rfl⟩ | ⟨_, l, rfl⟩ | ⟨_, _, ⟨l, rfl⟩ | ⟨l, rfl⟩ | ⟨l, rfl⟩⟩ <;> rfl

theorem arrayElements_fs (H : Heap) (l : List (Option Nat)) :
    ∃ el, arrayElements H FS_ARRAY (some (.refs l)) = .ok el ∧
      (match el with
        | some (.refs l) => l
        | some (.ints l) => l.map some
        | _ => []) = l.map (refOf H) := by
  cases l with
  | nil => exact ⟨none, rfl, rfl⟩
  | cons a l =>
    refine ⟨some (.refs ((a :: l).map (refOf H))), ?_, rfl⟩
    unfold arrayElements
    have e1 : (FS_ARRAY == "uima.cas.ByteArray") = false := by simp [FS_ARRAY]
    have e2 : (FS_ARRAY == "uima.cas.DoubleArray" || FS_ARRAY == "uima.cas.FloatArray") = false := by simp [FS_ARRAY]
    simp only [e1, e2, Bool.false_eq_true, if_false, BEq.rfl, if_true]

theorem arrElemsJ_eq {H : Heap} {o : Obj} {ev : Val} {el : Option JV} (hs : o.slots = [("elements", ev)])
    (h : arrayElements H o.ty (some ev) = .ok el) : arrElemsJ H o = el := by
  unfold arrElemsJ
  rw [hs, alistGet?_cons_self, h]

theorem arrayElements_ok {K : Consts} {ts : TypeSystem} {hp : Heap} {a : Nat} (h : JArrFs K ts hp a) {o : Obj}
    (ho : hp[a]? = some o) : ∃ el, arrayElements hp o.ty (alistGet? o.slots "elements") = .ok el := by
  obtain ⟨t, f, ev, _, g⟩ := h.at ho
  rw [g.slots, alistGet?_cons_self]
  rcases g.kind with ⟨hty, _, l, rfl⟩ | ⟨hnf, _, hp_⟩
  · obtain ⟨el, he, _⟩ := arrayElements_fs hp l
    exact ⟨el, hty ▸ he⟩
  · obtain ⟨el, he, _⟩ := prim_rt hp (fun _ => 0) o.ty ev hnf hp_
    exact ⟨el, he⟩

end Cassis.Json
