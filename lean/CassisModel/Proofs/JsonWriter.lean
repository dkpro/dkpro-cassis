/-
The writer of the JSON codec model (`Model/Json.lean`).  First the three encodings with the reader's decoding, which
cancels them: float values (`parseFloatValue` of `floatElem`), the elements of a primitive array (`primElems_*`:
`parsePrimArray` of `arrayElements`), the `<element>[]` form of array ranges.  Then the writer alone: one structure
(`renderFs_eq`) and `saveJson` (`saveJson_ok_iff`) in normal form, the sort of the type records and the records written per
mode.  The reader's passes are in `JsonReader.lean`.
-/
import CassisModel.Model.Json
import CassisModel.Spec.Closure
import CassisModel.Proofs.XmiCodec

namespace Cassis.Json
open Cassis.TS

theorem isSpecialFloat_cases (t : String) (h : isSpecialFloat t = true) :
    t = "NaN" ∨ t = "Infinity" ∨ t = "-Infinity" := by
  unfold isSpecialFloat at h
  simp only [Bool.or_eq_true, beq_iff_eq] at h
  rcases h with (h | h) | h
  · exact Or.inl h
  · exact Or.inr (Or.inl h)
  · exact Or.inr (Or.inr h)

theorem parseFloatValue_special_aux (t : String) (h : isSpecialFloat t = true) :
    parseFloatValue (floatElem t) = .ok (.float t) := by
  rcases isSpecialFloat_cases t h with rfl | rfl | rfl <;> rfl

theorem floatElem_roundtrip_aux (t : String) : parseFloatValue (floatElem t) = .ok (.float t) := by
  cases h : isSpecialFloat t with
  | true => exact parseFloatValue_special_aux t h
  | false =>
    unfold floatElem
    rw [h]
    rfl

/-! ### arrays

The elements of a primitive array, written and read back.  An empty array of any kind is written without
`%ELEMENTS` and comes back as Python's `[]`. -/

theorem primElems_ints (hp : Heap) (ty : String) (l : List Int)
    (h3 : (ty == "uima.cas.DoubleArray" || ty == "uima.cas.FloatArray") = false) (h4 : ty ≠ FS_ARRAY) :
    ∃ el, arrayElements hp ty (some (.ints l)) = .ok el ∧
      parsePrimArray ty el = .ok (if l.isEmpty then .refs [] else .ints l) := by
  have e4 : (ty == FS_ARRAY) = false := beq_false_of_ne h4
  have e3 : (ty == "uima.cas.FloatArray" || ty == "uima.cas.DoubleArray") = false := Bool.or_comm _ _ ▸ h3
  cases l with
  | nil =>
    refine ⟨none, ?_, rfl⟩
    unfold arrayElements
    cases (ty == "uima.cas.ByteArray") <;> simp only [h3, e4, Bool.false_eq_true, if_false, if_true]
  | cons a l =>
    refine ⟨some (.ints (a :: l)), ?_, ?_⟩
    · unfold arrayElements
      cases (ty == "uima.cas.ByteArray") <;> simp only [h3, e4, Bool.false_eq_true, if_false, if_true]
    · unfold parsePrimArray
      simp only [e3, Bool.false_eq_true, if_false, valOfJV]
      rfl

theorem primElems_bools (hp : Heap) (ty : String) (l : List Bool) (h1 : (ty == "uima.cas.ByteArray") = false)
    (h3 : (ty == "uima.cas.DoubleArray" || ty == "uima.cas.FloatArray") = false) (h4 : ty ≠ FS_ARRAY) :
    ∃ el, arrayElements hp ty (some (.bools l)) = .ok el ∧
      parsePrimArray ty el = .ok (if l.isEmpty then .refs [] else .bools l) := by
  have e4 : (ty == FS_ARRAY) = false := beq_false_of_ne h4
  have e3 : (ty == "uima.cas.FloatArray" || ty == "uima.cas.DoubleArray") = false := Bool.or_comm _ _ ▸ h3
  cases l with
  | nil =>
    refine ⟨none, ?_, rfl⟩
    unfold arrayElements
    simp only [h1, h3, e4, Bool.false_eq_true, if_false]
  | cons a l =>
    refine ⟨some (.bools (a :: l)), ?_, ?_⟩
    · unfold arrayElements
      simp only [h1, h3, e4, Bool.false_eq_true, if_false]
    · unfold parsePrimArray
      simp only [e3, Bool.false_eq_true, if_false, valOfJV]
      rfl

theorem primElems_strs (hp : Heap) (ty : String) (l : List (Option String)) (h1 : (ty == "uima.cas.ByteArray") = false)
    (h3 : (ty == "uima.cas.DoubleArray" || ty == "uima.cas.FloatArray") = false) (h4 : ty ≠ FS_ARRAY) :
    ∃ el, arrayElements hp ty (some (.strs l)) = .ok el ∧
      parsePrimArray ty el = .ok (if l.isEmpty then .refs [] else .strs l) := by
  have e4 : (ty == FS_ARRAY) = false := beq_false_of_ne h4
  have e3 : (ty == "uima.cas.FloatArray" || ty == "uima.cas.DoubleArray") = false := Bool.or_comm _ _ ▸ h3
  cases l with
  | nil =>
    refine ⟨none, ?_, rfl⟩
    unfold arrayElements
    simp only [h1, h3, e4, Bool.false_eq_true, if_false]
  | cons a l =>
    refine ⟨some (.strs (a :: l)), ?_, ?_⟩
    · unfold arrayElements
      simp only [h1, h3, e4, Bool.false_eq_true, if_false]
    · unfold parsePrimArray
      simp only [e3, Bool.false_eq_true, if_false, valOfJV]
      rfl

theorem primElems_floats (hp : Heap) (ty : String) (l : List String)
    (hty : ty = "uima.cas.FloatArray" ∨ ty = "uima.cas.DoubleArray") :
    ∃ el, arrayElements hp ty (some (.floats l)) = .ok el ∧
      parsePrimArray ty el = .ok (if l.isEmpty then .refs [] else .floats l) := by
  have hty' : (ty == "uima.cas.ByteArray") = false ∧
      (ty == "uima.cas.DoubleArray" || ty == "uima.cas.FloatArray") = true ∧
      (ty == "uima.cas.FloatArray" || ty == "uima.cas.DoubleArray") = true := by
    rcases hty with rfl | rfl <;> exact ⟨by decide, by decide, by decide⟩
  obtain ⟨e1, e2, e3⟩ := hty'
  cases l with
  | nil =>
    refine ⟨none, ?_, rfl⟩
    unfold arrayElements
    simp only [e1, e2, Bool.false_eq_true, if_false, if_true]
  | cons a l =>
    refine ⟨some (.flts ((a :: l).map floatElem)), ?_, ?_⟩
    · unfold arrayElements
      simp only [e1, e2, Bool.false_eq_true, if_false, if_true]
    · unfold parsePrimArray
      simp only [List.map_cons, e3, if_true]
      rw [← List.map_cons, Det.mapM_ok_of_section _ floatElem]
      · rfl
      · intro t
        simp only [floatElem_roundtrip_aux, bind, Except.bind, pure, Except.pure]

/-! ### ranges in the embedded type system -/

theorem brackets_endsWith (e : String) : (e ++ "[]").endsWith "[]" = true := by
  unfold String.endsWith
  rw [String.Slice.endsWith_string_iff]
  simp [String.toList_append]

theorem brackets_dropLast2 (e : String) : String.ofList ((e ++ "[]").toList.dropLast.dropLast) = e := by
  simp [String.toList_append]

/-- the two generated tables on the primitive array types: each is an array type, and the array type of its element
    type is the type itself -/
theorem primArray_table : ∀ n ∈ Gen.consts.primArrays, Gen.consts.arrays.contains n = true ∧
    arrayTypeNameFor (((Gen.elementTypeNameTable.find? (fun p => p.1 == n)).map (·.2)).getD
      Gen.elementTypeNameDefault) = n := by
  decide +kernel

/-! ### one structure: the writer in normal form -/

/-- first stage of `renderFeature`: offsets of annotations are mapped -/
def stage1 (cass : List Cas) (hp : Heap) (a : Nat) (f : Feature) (name : String) (v : Val) : Except Err Val :=
  if f.domain == ANNOTATION && (name == "begin" || name == "end") then
    match Xmi.slot hp a "sofa" with
    | some (.sofa ci vn) =>
      match (cass[ci]?).bind (fun c => Cas.getViewRec c vn) with
      | some view =>
        match v with
        | .int i => pure (Val.int (if i < 0 then i else (Offsets.pythonToExternal view.sofa.conv i.toNat : Nat)))
        | other => pure other
      | none => throw .attributeError
    | _ => throw .attributeError
  else pure v

/-- second stage: the member -/
def stage2 (K : Consts) (ts : TypeSystem) (cass : List Cas) (hp : Heap) (f : Feature) (name : String) (v : Val) :
    Except Err (List (String × JV)) :=
  if f.range == "uima.cas.Double" || f.range == "uima.cas.Float" then
    match v with
    | .float t => if isSpecialFloat t then pure [("#" ++ name, .str t)] else pure [(name, .flt t)]
    | .int i => pure [(name, .int i)]
    | _ => throw .typeError
  else if isPrimitive K ts f.range then do
    let jv ← primJV v
    pure [(name, jv)]
  else
    match v with
    | .ref t => pure [("@" ++ name, match idOf hp t with | some i => .int i | none => .null)]
    | .sofa ci vn =>
      match (cass[ci]?).bind (fun c => Cas.getViewRec c vn) with
      | some view => pure [("@" ++ name, .int view.sofa.xid)]
      | none => throw .attributeError
    | _ => throw .attributeError

theorem renderFeature_eq (K : Consts) (ts : TypeSystem) (cass : List Cas) (hp : Heap) (a : Nat) (f : Feature) :
    renderFeature K ts cass hp a f =
      if f.name == "xmiID" || f.name == "type" then .ok []
      else
        let name := if f.reserved then String.ofList f.name.toList.dropLast else f.name
        let v := (Xmi.slot hp a f.name).getD .none
        if v == .none then .ok []
        else (stage1 cass hp a f name v).bind (stage2 K ts cass hp f name) := by
  unfold renderFeature stage1
  by_cases h1 : (f.name == "xmiID" || f.name == "type") = true
  · rw [if_pos h1, if_pos h1]; rfl
  · rw [if_neg h1, if_neg h1]
    dsimp only
    generalize (if f.reserved = true then String.ofList f.name.toList.dropLast else f.name) = name
    generalize (Xmi.slot hp a f.name).getD Val.none = v
    by_cases h2 : (v == Val.none) = true
    · rw [if_pos h2, if_pos h2]; rfl
    · rw [if_neg h2, if_neg h2]
      by_cases h3 : (f.domain == ANNOTATION && (name == "begin" || name == "end")) = true
      · rw [if_pos h3, if_pos h3]
        cases Xmi.slot hp a "sofa" with
        | none => rfl
        | some w =>
          cases w <;> try rfl
          rename_i ci vn
          dsimp only
          cases (cass[ci]?.bind fun c => c.getViewRec vn) with
          | none => rfl
          | some view => cases v <;> rfl
      · rw [if_neg h3, if_neg h3]; rfl

theorem renderFeatures_eq (K : Consts) (ts : TypeSystem) (cass : List Cas) (hp : Heap) (a : Nat) (fs : List Feature) :
    renderFeatures K ts cass hp a fs = (fs.mapM (renderFeature K ts cass hp a)).map List.flatten := by
  induction fs with
  | nil => rfl
  | cons f fs ih =>
    rw [renderFeatures, ih, List.mapM_cons]
    cases renderFeature K ts cass hp a f with
    | error e => rfl
    | ok x => cases fs.mapM (renderFeature K ts cass hp a) <;> rfl

theorem renderFs_eq (K : Consts) (ts : TypeSystem) (cass : List Cas) (hp : Heap) (a : Nat) :
    renderFs K ts cass hp a =
      match hp[a]? with
      | none => .error .attributeError
      | some o =>
        if isPrimitiveArray K o.ty || o.ty == FS_ARRAY then
          (arrayElements hp o.ty (alistGet? o.slots "elements")).map fun el => { id := o.xid, ty := o.ty, elements := el }
        else (getType ts o.ty).bind fun t =>
          (renderFeatures K ts cass hp a (allFeatures t)).map fun fs => { id := o.xid, ty := o.ty, feats := fs } := by
  unfold renderFs Xmi.slot Traverse.slot
  cases ho : hp[a]? with
  | none => rfl
  | some o =>
    simp only [bind, Except.bind, pure, Except.pure, Option.bind_some]
    split
    · cases arrayElements hp o.ty (alistGet? o.slots "elements") <;> rfl
    · cases getType ts o.ty with
      | error e => rfl
      | ok t => cases renderFeatures K ts cass hp a (allFeatures t) <;> rfl

/-! ### the ids of the written elements -/

/-- the writer's `idOf` and the traversal's `xidOf` are one function under two names -/
theorem idOf_eq_xidOf (H : Heap) (b : Nat) : idOf H b = Traverse.xidOf H b := rfl

theorem renderFs_id (K : Consts) (ts : TypeSystem) (cass : List Cas) (hp : Heap) (a : Nat) (e : JFs)
    (h : renderFs K ts cass hp a = .ok e) : ∃ o, hp[a]? = some o ∧ e.id = o.xid := by
  rw [renderFs_eq] at h
  cases ho : hp[a]? with
  | none => rw [ho] at h; cases h
  | some o =>
    rw [ho] at h
    refine ⟨o, rfl, ?_⟩
    dsimp only at h
    split at h
    · obtain ⟨_, _, rfl⟩ := Det.map_ok h
      rfl
    · obtain ⟨t, _, h⟩ := Det.bind_ok h
      obtain ⟨_, _, rfl⟩ := Det.map_ok h
      rfl

theorem renderFs_xid {K : Consts} {ts : TypeSystem} {cass : List Cas} {hp : Heap} {a : Nat} {e : JFs}
    (h : renderFs K ts cass hp a = .ok e) : e.id = Traverse.xidOf hp a := by
  obtain ⟨o, ho, hid⟩ := renderFs_id K ts cass hp a e h
  rw [Traverse.xidOf_eq ho, hid]

theorem renderAll_eq_mapM (K : Consts) (ts : TypeSystem) (cass : List Cas) (hp : Heap) (l : List (Int × Nat)) :
    renderAll K ts cass hp l = l.mapM (fun p => renderFs K ts cass hp p.2) := by
  induction l with
  | nil => rfl
  | cons p ps ih => rw [renderAll, ih, List.mapM_cons]

theorem renderAll_ids (K : Consts) (ts : TypeSystem) (cass : List Cas) (hp : Heap) (l : List (Int × Nat))
    (es : List JFs) (h : renderAll K ts cass hp l = .ok es)
    (hl : ∀ p ∈ l, Traverse.xidOf hp p.2 = some p.1) :
    es.map (·.id) = l.map (fun p => some p.1) :=
  Det.mapM_ok_map (renderAll_eq_mapM K ts cass hp l ▸ h) fun p hp' _ hr => (renderFs_xid hr).trans (hl p hp')

/-! ### the sort of the type records -/

theorem insertByName_isInsert : Det.IsInsert (fun p q : TypeRec => p.name ≤ q.name) insertByName :=
  ⟨fun _ => rfl, fun _ _ _ => rfl⟩

theorem sortByName_perm (l : List TypeRec) : (sortByName l).Perm l := insertByName_isInsert.foldr_perm l

theorem sortByName_sorted (l : List TypeRec) : (sortByName l).Pairwise (fun p q => p.name ≤ q.name) :=
  insertByName_isInsert.foldr_sorted (fun _ _ => String.le_total _ _) (fun _ _ _ => String.le_trans) l

theorem mem_sortByName (x : TypeRec) (l : List TypeRec) : x ∈ sortByName l ↔ x ∈ l := (sortByName_perm l).mem_iff

/-! ### `saveJson` in normal form

The views and the sofas (with the sofa byte arrays) are rendered from the heap `saveJson` is handed, before the traversal
assigns the missing ids; the collected structures and the `%TYPES` section after it. -/

/-- the view records of the document -/
def jviewOf (hp : Heap) (p : String × View) : JView :=
  { name := p.2.sofa.sofaID, sofa := some p.2.sofa.xid,
    members := Xmi.sortInts ((Index.all p.2.idx).filterMap (fun e => idOf hp e.oid)) }

/-- the records `saveJson` writes in mode FULL -/
def fullRecs (K : Consts) (o : TypeSystem) : List TypeRec :=
  (sortByName (getTypes K o false)).filter (fun t => t.name != DOCUMENT_ANNOTATION)

theorem mem_fullRecs (K : Consts) (o : TypeSystem) (t : TypeRec) :
    t ∈ fullRecs K o ↔ t ∈ o.types ∧ K.predefined.contains t.name = false ∧ t.name ≠ DOCUMENT_ANNOTATION := by
  unfold fullRecs getTypes
  simp only [Bool.false_eq_true, if_false, List.mem_filter, mem_sortByName, Bool.not_eq_true', bne_iff_ne, ne_eq]
  exact and_assoc

/-- the names `saveJson` closes over in mode MINIMAL -/
def minNames (K : Consts) (ts : TypeSystem) (st : Traverse.St) : List String :=
  let used := ((Xmi.sortById st.allFs).filterMap (fun p => (st.heap[p.2]?).map (·.ty))).eraseDups
  closureStep K ts [] (closureFuel ts used) used

/-- the records `saveJson` writes in mode MINIMAL -/
def minRecs (K : Consts) (ts : TypeSystem) (st : Traverse.St) : List TypeRec :=
  (sortByName ((minNames K ts st).filterMap (find? ts))).filter (fun t => t.name != DOCUMENT_ANNOTATION)

theorem mem_minRecs {K : Consts} {o : TypeSystem} {st : Traverse.St} {t : TypeRec} :
    t ∈ minRecs K o st ↔ t.name ≠ DOCUMENT_ANNOTATION ∧ ∃ n ∈ minNames K o st, find? o n = some t := by
  unfold minRecs
  rw [List.mem_filter, mem_sortByName, List.mem_filterMap, bne_iff_ne]
  exact and_comm

/-- the records `saveJson` hands to the `%TYPES` writer -/
def modeRecs (K : Consts) (ts : TypeSystem) (st : Traverse.St) : Mode → Option (List TypeRec)
  | .none => none
  | .full => some (fullRecs K ts)
  | .minimal => some (minRecs K ts st)

theorem modeRecs_congr (K : Consts) (ts : TypeSystem) {st st' : Traverse.St} (hh : st'.heap = st.heap)
    (ha : st'.allFs = st.allFs) (m : Mode) : modeRecs K ts st' m = modeRecs K ts st m := by
  cases m with
  | minimal => unfold modeRecs minRecs minNames; rw [hh, ha]
  | _ => rfl

open Cassis.Traverse Cassis.Xmi

/-- one step of the sofa loop: the sofa byte array (if any), then the sofa -/
def saveSofaStep (K : Consts) (ts : TypeSystem) (cass : List Cas) (hp : Heap) (acc : List JFs) (p : String × View) :
    Except Err (List JFs) := do
  let arr ← match p.2.sofa.arr with
    | .ref a => do let e ← renderFs K ts cass hp a; pure [e]
    | _ => pure []
  pure (acc ++ arr ++ [renderSofa hp p.2.sofa])

/-- what one view contributes to the sofa part: the sofa byte array (if any), then the sofa -/
def sofaPart (K : Consts) (ts : TypeSystem) (cass : List Cas) (hp : Heap) (p : String × View) : Except Err (List JFs) :=
  match p.2.sofa.arr with
  | .ref a => (renderFs K ts cass hp a).map fun e => [e, renderSofa hp p.2.sofa]
  | _ => .ok [renderSofa hp p.2.sofa]

theorem saveSofaStep_eq (K : Consts) (ts : TypeSystem) (cass : List Cas) (hp : Heap) (acc : List JFs) (p : String × View) :
    saveSofaStep K ts cass hp acc p = (sofaPart K ts cass hp p).map (acc ++ ·) := by
  unfold saveSofaStep sofaPart
  split
  · rename_i a _
    cases renderFs K ts cass hp a with
    | error e => rfl
    | ok e => exact congrArg Except.ok (List.append_assoc acc [e] _)
  · exact congrArg Except.ok (by rw [List.append_nil])

theorem sofaFold_eq (K : Consts) (ts : TypeSystem) (cass : List Cas) (hp : Heap) (l : List (String × View))
    (acc : List JFs) :
    l.foldlM (saveSofaStep K ts cass hp) acc = (l.mapM (sofaPart K ts cass hp)).map (acc ++ ·.flatten) := by
  induction l generalizing acc with
  | nil => exact congrArg Except.ok (List.append_nil acc).symm
  | cons p l ih =>
    rw [List.foldlM_cons, List.mapM_cons, saveSofaStep_eq]
    cases sofaPart K ts cass hp p with
    | error e => rfl
    | ok part =>
      show l.foldlM (saveSofaStep K ts cass hp) (acc ++ part) = _
      rw [ih]
      cases l.mapM (sofaPart K ts cass hp) with
      | error e => rfl
      | ok parts => exact congrArg Except.ok (by simp only [List.flatten_cons, List.append_assoc])

theorem saveJson_eq (K : Consts) (ts : TypeSystem) (cass : List Cas) (ci : Nat) (c : Cas) (hp : Heap) (mode : Mode)
    (hc : cass[ci]? = some c) :
    saveJson K ts cass ci hp mode =
      (c.views.mapM (sofaPart K ts cass hp)).bind fun parts =>
        (findAllFs K ts { includeInlinable := true } hp c.nextXid (defaultSeeds c)).bind fun st =>
          (renderAll K ts cass st.heap (sortById st.allFs)).bind fun es =>
            (renderTypes K (modeRecs K ts st mode)).bind fun decls =>
              .ok ({ types := decls, fss := parts.flatten ++ es, views := c.views.map (jviewOf hp) }, st) := by
  unfold saveJson
  rw [hc]
  show (c.views.foldlM (saveSofaStep K ts cass hp) []).bind _ = _
  rw [sofaFold_eq]
  cases c.views.mapM (sofaPart K ts cass hp) <;> cases mode <;> rfl

theorem saveJson_ok_iff {K : Consts} {ts : TypeSystem} {cass : List Cas} {ci : Nat} {hp : Heap} {mode : Mode}
    {doc : JDoc} {st : Traverse.St} :
    saveJson K ts cass ci hp mode = .ok (doc, st) ↔ ∃ c parts es decls, cass[ci]? = some c ∧
      c.views.mapM (sofaPart K ts cass hp) = .ok parts ∧
      findAllFs K ts { includeInlinable := true } hp c.nextXid (defaultSeeds c) = .ok st ∧
      renderAll K ts cass st.heap (sortById st.allFs) = .ok es ∧
      renderTypes K (modeRecs K ts st mode) = .ok decls ∧
      doc = { types := decls, fss := parts.flatten ++ es, views := c.views.map (jviewOf hp) } := by
  constructor
  · intro h
    cases hc : cass[ci]? with
    | none => unfold saveJson at h; rw [hc] at h; cases h
    | some c =>
      rw [saveJson_eq K ts cass ci c hp mode hc] at h
      obtain ⟨parts, h1, h⟩ := Det.bind_ok h
      obtain ⟨st', h2, h⟩ := Det.bind_ok h
      obtain ⟨es, h3, h⟩ := Det.bind_ok h
      obtain ⟨decls, h4, h⟩ := Det.bind_ok h
      cases h
      exact ⟨c, parts, es, decls, rfl, h1, h2, h3, h4, rfl⟩
  · rintro ⟨c, parts, es, decls, hc, h1, h2, h3, h4, rfl⟩
    rw [saveJson_eq K ts cass ci c hp mode hc, h1]
    show (findAllFs K ts { includeInlinable := true } hp c.nextXid (defaultSeeds c)).bind _ = _
    rw [h2]
    show (renderAll K ts cass st.heap (sortById st.allFs)).bind _ = _
    rw [h3]
    show (renderTypes K (modeRecs K ts st mode)).bind _ = _
    rw [h4]
    rfl

theorem saveJson_ok_inv {K : Consts} {ts : TypeSystem} {cass : List Cas} {ci : Nat} {c : Cas} {hp : Heap}
    {mode : Mode} {doc : JDoc} {st : Traverse.St} (hc : cass[ci]? = some c)
    (h : saveJson K ts cass ci hp mode = .ok (doc, st)) :
    ∃ (parts : List (List JFs)) (fsElems : List JFs) (decls : Option (List JType)),
      c.views.mapM (sofaPart K ts cass hp) = .ok parts ∧
      findAllFs K ts { includeInlinable := true } hp c.nextXid (defaultSeeds c) = .ok st ∧
      renderAll K ts cass st.heap (sortById st.allFs) = .ok fsElems ∧
      renderTypes K (modeRecs K ts st mode) = .ok decls ∧
      doc = { types := decls, fss := parts.flatten ++ fsElems, views := c.views.map (jviewOf hp) } := by
  obtain ⟨c', parts, es, decls, hc', r⟩ := saveJson_ok_iff.mp h
  cases hc.symm.trans hc'
  exact ⟨parts, es, decls, r⟩

theorem sofaParts_noArr {K : Consts} {ts : TypeSystem} {cass : List Cas} {hp : Heap} :
    ∀ (l : List (String × View)), (∀ nv ∈ l, nv.2.sofa.arr = .none) →
      l.mapM (sofaPart K ts cass hp) = .ok (l.map fun p => [renderSofa hp p.2.sofa])
  | [], _ => rfl
  | p :: l, h => by
    rw [List.mapM_cons, sofaParts_noArr l (fun nv hnv => h nv (List.mem_cons_of_mem _ hnv))]
    unfold sofaPart
    rw [h p List.mem_cons_self]
    rfl

theorem saveJson_parts {K : Consts} {ts : TypeSystem} {cass : List Cas} {ci : Nat} {c : Cas} {hp : Heap} {mode : Mode}
    {doc : JDoc} {st : St} (hc : cass[ci]? = some c) (harr : ∀ nv ∈ c.views, nv.2.sofa.arr = .none)
    (h : saveJson K ts cass ci hp mode = .ok (doc, st)) :
    findAllFs K ts { includeInlinable := true } hp c.nextXid (defaultSeeds c) = .ok st ∧
    ∃ fsElems : List JFs, renderAll K ts cass st.heap (sortById st.allFs) = .ok fsElems ∧
      doc.fss = c.views.map (fun p => renderSofa hp p.2.sofa) ++ fsElems ∧
      doc.views = c.views.map (jviewOf hp) ∧ renderTypes K (modeRecs K ts st mode) = .ok doc.types := by
  obtain ⟨parts, es, decls, h1, h2, h3, h4, rfl⟩ := saveJson_ok_inv hc h
  rw [sofaParts_noArr c.views harr] at h1
  cases h1
  exact ⟨h2, es, h3, by rw [Det.flatten_map_singleton], rfl, h4⟩

/-- converse of `saveJson_parts` without embedded type system -/
theorem saveJson_of_parts {K : Consts} {ts : TypeSystem} {cass : List Cas} {ci : Nat} {c : Cas} {hp : Heap}
    {st : St} {fsElems : List JFs} (hc : cass[ci]? = some c) (harr : ∀ nv ∈ c.views, nv.2.sofa.arr = .none)
    (hfa : findAllFs K ts { includeInlinable := true } hp c.nextXid (defaultSeeds c) = .ok st)
    (hr : renderAll K ts cass st.heap (sortById st.allFs) = .ok fsElems) :
    saveJson K ts cass ci hp .none =
      .ok ({ types := none, fss := c.views.map (fun p => renderSofa hp p.2.sofa) ++ fsElems,
             views := c.views.map (jviewOf hp) }, st) :=
  saveJson_ok_iff.mpr ⟨c, _, fsElems, none, hc, sofaParts_noArr c.views harr, hfa, hr, rfl,
    by rw [Det.flatten_map_singleton]⟩

theorem saveJson_elem {K : Consts} {ts : TypeSystem} {cass : List Cas} {ci : Nat} {hp : Heap} {mode : Mode}
    {doc : JDoc} {st : Traverse.St} (h : saveJson K ts cass ci hp mode = .ok (doc, st)) {p : Int × Nat}
    (hp' : p ∈ st.allFs) : ∃ e ∈ doc.fss, renderFs K ts cass st.heap p.2 = .ok e := by
  obtain ⟨c, parts, es, decls, _, _, _, hr, _, rfl⟩ := saveJson_ok_iff.mp h
  rw [renderAll_eq_mapM] at hr
  obtain ⟨e, he, hre⟩ := (Det.mapM_ok_mem hr).1 p ((sortById_perm_aux st.allFs).mem_iff.mpr hp')
  exact ⟨e, List.mem_append_right _ he, hre⟩

end Cassis.Json
