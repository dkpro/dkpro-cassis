/-
C20 across the JSON round trip, whole format: the two default traversals `cas_to_comparable_text` runs — on the original
heap `hp` (result `std`; it assigns ids of its own, in its own order, to the structures it collects) and on the loaded
heap `HF` — against the structures `L` the JSON writer collected (in `H`, the heap after *its* id assignment).

* `DCtx.sub`: the default traversal of the original collects structures of `L` only;
* `DCtx.key`: in the heap it leaves behind, a collected structure shares its id with no other structure of `L`;
* `DCtx.moved`, `DCtx.traversal`: what the default traversal of the original collects, listed under the ids of the JSON
  writer, has a copy in the loaded heap (`Traverse.Moved`): the default traversal of the loaded CAS succeeds without
  touching the heap and collects exactly the counterparts.
-/
import CassisModel.Proofs.ComparableIsoJsonColl
import CassisModel.Proofs.ComparableIsoFlat
import CassisModel.Properties.C04

namespace Cassis.Comparable
open Cassis.TS Cassis.Traverse Cassis.Xmi Cassis.Json Cassis.Json.CC

/-- the situation after `saveJson` (`H`, `L`), `loadJson` (`HF`, `c'`) and the default traversal of the original (`std`) -/
structure DCtx (K : Consts) (ts : TypeSystem) (c : Cas) (ci : Nat) (hp H : Heap) (L : List (Int × Nat)) (ci' : Nat)
    (HF : Heap) (c' : Cas) (std : St) : Prop where
  jw : JW K ts c ci H L ci' HF
  wf : RTWf c hp
  shape : SameShape hp H
  views : ViewsRelJ H (naOf H L) c.views c'.views
  run : findAllFs K ts {} hp c.nextXid (defaultSeeds c) = .ok std

section
variable {K : Consts} {ts : TypeSystem} {c : Cas} {ci : Nat} {hp H : Heap} {L : List (Int × Nat)} {ci' : Nat}
  {HF : Heap} {c' : Cas} {std : St}

theorem JW.succsOf_inL (x : JW K ts c ci H L ci' HF) {q : Int × Nat} (hq : q ∈ L) {lf b : Nat}
    (hb : b ∈ succsOf K ts {} H (lf + 1) q.2) : InL H L b := by
  obtain ⟨_, _, ps, n, _, _, hn, hbp⟩ := mem_succsOf hb
  obtain ⟨_, _, hfwd, _⟩ := x.sim_node hq (Nat.le_refl _) hn
  obtain ⟨q', hq', rfl, _⟩ := hfwd b hbp
  exact x.inL hq'

theorem DCtx.shapeD (X : DCtx K ts c ci hp H L ci' HF c' std) : SameShape hp std.heap :=
  (findAllFs_inv K ts {} hp c.nextXid _ std X.run).1.shape

theorem DCtx.len (X : DCtx K ts c ci hp H L ci' HF c' std) : H.length = hp.length := X.shape.1

theorem DCtx.succs_H (X : DCtx K ts c ci hp H L ci' HF c' std) (lf a : Nat) :
    succsOf K ts {} std.heap lf a = succsOf K ts {} H lf a := by
  rw [succsOf_shape K ts {} X.shapeD, succsOf_shape K ts {} X.shape]

theorem DCtx.fut (X : DCtx K ts c ci hp H L ci' HF c' std) : Fut hp c.nextXid std.heap std.nextXid :=
  findAllFs_fut K ts {} hp c.nextXid _ std X.run

theorem DCtx.nonnull (X : DCtx K ts c ci hp H L ci' HF c' std) (a : Nat) : xidOf std.heap a ≠ some 0 := by
  have hfut := X.fut
  intro h
  cases hx : xidOf hp a with
  | none =>
    have := hfut.fresh a 0 hx h
    have := X.wf.next_pos
    omega
  | some y =>
    rw [hfut.shape.xidOf hx] at h
    cases h
    obtain ⟨ob, hob, hx⟩ := xidOf_some hx
    have := X.wf.ids_pos a ob 0 hob hx
    omega

theorem DCtx.reach_inL (X : DCtx K ts c ci hp H L ci' HF c' std) {a : Nat}
    (hr : Reach K ts {} std.heap (hp.length + 1) (defaultSeeds c) a) : InL H L a := by
  induction hr with
  | seed a hs =>
    obtain ⟨nv, hnv, e, he, rfl⟩ := mem_defaultSeeds_iff.mp hs
    obtain ⟨y, hy⟩ := X.jw.lok.members nv hnv e he
    exact ⟨y, (X.jw.lok.ids _ hy).1, hy⟩
  | step a b _ _ hsucc ih =>
    obtain ⟨q, hq, rfl, _⟩ := inL_pair ih
    rw [X.succs_H] at hsucc
    exact X.jw.succsOf_inL hq hsucc

theorem DCtx.sub (X : DCtx K ts c ci hp H L ci' HF c' std) {a : Nat} (ha : a ∈ std.allFs.map (·.2)) : InL H L a :=
  X.reach_inL (findAllFs_sound K ts {} hp c.nextXid _ std X.wf.next_pos X.run a ha)

theorem DCtx.succ_ok (X : DCtx K ts c ci hp H L ci' HF c' std) {a : Nat} (ha : a ∈ std.allFs.map (·.2)) :
    ∃ (o : Obj) (t : TypeRec) (ps : List Nat) (n : Nat), H[a]? = some o ∧ getType ts o.ty = .ok t ∧
      nodeSuccs K ts {} H [] (hp.length + 1) a t = .ok (ps, n) := by
  obtain ⟨p, hp1, rfl⟩ := List.mem_map.mp ha
  obtain ⟨ob, t, r, hob, ht, hn⟩ :=
    (findAllFs_collected X.wf.next_pos X.run).cinv.succ p.1 p.2 hp1
  obtain ⟨o, ho, hty, _⟩ := X.shape.2 p.2 ob hob
  refine ⟨o, t, r.1, r.2, ho, by rw [hty]; exact ht, ?_⟩
  rw [nodeSuccs_nil_eq K ts {} H hp (fun a n => X.shape.slot a n)]
  exact hn

theorem DCtx.key (X : DCtx K ts c ci hp H L ci' HF c' std) {q : Int × Nat} (hq : q ∈ L) {b : Nat}
    (hb : b ∈ std.allFs.map (·.2)) (h : xidOf std.heap b = xidOf std.heap q.2) : b = q.2 := by
  obtain ⟨inv, _⟩ := findAllFs_inv K ts {} hp c.nextXid _ std X.run
  have cinv := (findAllFs_collected X.wf.next_pos X.run).cinv
  have hfut := X.fut
  have hbelow := (idsBelow_iff hp c.nextXid).mp X.wf.ids_below
  obtain ⟨p, hp1, rfl⟩ := List.mem_map.mp hb
  have hxb : xidOf std.heap p.2 = some p.1 := inv.link p.1 p.2 hp1
  rw [hxb] at h
  by_cases hqa : q.2 ∈ std.allFs.map (·.2)
  · obtain ⟨p', hp1', hp2'⟩ := List.mem_map.mp hqa
    have hxq : xidOf std.heap p'.2 = some p'.1 := inv.link p'.1 p'.2 hp1'
    rw [← hp2', hxq] at h
    have e : p.1 = p'.1 := Option.some.inj h
    rw [Det.inj_of_nodup_map (·.1) _ inv.nodupK hp1 hp1' e, hp2']
  · -- `q.2` is not collected: it keeps its old id, which is below the generator
    have hold : xidOf hp q.2 = some p.1 := by rw [← cinv.untouched q.2 hqa]; exact h.symm
    have hlt := hbelow q.2 p.1 hold
    cases hxp : xidOf hp p.2 with
    | none =>
      have := hfut.fresh p.2 p.1 hxp hxb
      omega
    | some y =>
      have e : y = p.1 := by
        have := hfut.shape.xidOf hxp
        rw [hxb] at this
        exact (Option.some.inj this).symm
      subst e
      -- both carry the id in `hp`, hence in `H`, where the ids of `L` are pairwise different
      have h1 : xidOf H p.2 = some p.1 := X.shape.xidOf hxp
      have h2 : xidOf H q.2 = some p.1 := X.shape.xidOf hold
      obtain ⟨q', hq', hq2', hx'⟩ := inL_pair (X.sub hb)
      rw [h1] at hx'
      have e1 : q'.1 = q.1 := by
        have := (X.jw.lok.ids q hq).1
        rw [h2] at this
        rw [← Option.some.inj hx', Option.some.inj this]
      rw [← hq2', Det.inj_of_nodup_map (·.1) L X.jw.lok.nodup hq' hq e1]

theorem DCtx.seed_fwd (X : DCtx K ts c ci hp H L ci' HF c' std) {a : Nat} (ha : a ∈ defaultSeeds c') :
    ∃ q ∈ L, a = naOf H L q.1 ∧ q.2 ∈ defaultSeeds c :=
  seeds_fwd_of X.jw.lok.ids X.jw.lok.members (viewsMembers_of_relJ X.views).2 ha

theorem DCtx.seed_bwd (X : DCtx K ts c ci hp H L ci' HF c' std) {q : Int × Nat} (hq : q ∈ L)
    (ha : q.2 ∈ defaultSeeds c) : naOf H L q.1 ∈ defaultSeeds c' :=
  seeds_bwd_of X.jw.lok.ids (viewsMembers_of_relJ X.views).1 hq ha

theorem DCtx.collected_of_reach (X : DCtx K ts c ci hp H L ci' HF c' std) {a : Nat}
    (hr : Reach K ts {} std.heap (hp.length + 1) (defaultSeeds c) a) : a ∈ std.allFs.map (·.2) :=
  findAllFs_complete K ts {} hp c.nextXid _ std X.wf.next_pos X.run a hr (X.nonnull a)

/-- the structures the default traversal collects, under the ids of the JSON writer -/
def DCtx.coll (_ : DCtx K ts c ci hp H L ci' HF c' std) : List (Int × Nat) :=
  L.filter (fun q => decide (q.2 ∈ std.allFs.map (·.2)))

theorem DCtx.mem_coll (X : DCtx K ts c ci hp H L ci' HF c' std) {q : Int × Nat} :
    q ∈ X.coll ↔ q ∈ L ∧ q.2 ∈ std.allFs.map (·.2) := by
  unfold DCtx.coll
  rw [List.mem_filter, decide_eq_true_iff]

theorem DCtx.succs_both (X : DCtx K ts c ci hp H L ci' HF c' std) {q : Int × Nat} (hq : q ∈ X.coll) :
    ∃ (o' : Obj) (t : TypeRec) (ps' : List Nat) (n : Nat), HF[naOf H L q.1]? = some o' ∧ getType ts o'.ty = .ok t ∧
      nodeSuccs K ts {} HF [] (HF.length + 1) (naOf H L q.1) t = .ok (ps', n) ∧
      (∀ b ∈ succsOf K ts {} std.heap (hp.length + 1) q.2, ∃ q' ∈ X.coll, q'.2 = b ∧ naOf H L q'.1 ∈ ps') ∧
      ∀ b' ∈ ps', ∃ q' ∈ X.coll, b' = naOf H L q'.1 := by
  obtain ⟨hq, ha⟩ := X.mem_coll.mp hq
  obtain ⟨o, t, ps, n, ho, ht, hn⟩ := X.succ_ok ha
  obtain ⟨o1, o', ho1, ho', hty, _⟩ := X.jw.obj hq
  rw [ho] at ho1; cases ho1
  have hle : hp.length + 1 ≤ HF.length + 1 := by
    have := len_lt X.jw.rel hq
    have := X.len
    omega
  obtain ⟨ps', hn', hfwd, hbwd⟩ := X.jw.sim_node hq hle hn
  have hs : succsOf K ts {} std.heap (hp.length + 1) q.2 = ps := by
    rw [X.succs_H]; exact succsOf_eq K ts {} ho ht hn
  -- a successor of a collected structure is collected
  have hcl : ∀ b ∈ ps, b ∈ std.allFs.map (·.2) := by
    intro b hb
    obtain ⟨p, hp1, hp2⟩ := List.mem_map.mp ha
    exact findAllFs_closed K ts {} hp c.nextXid _ std X.wf.next_pos X.run p.1 q.2 b (by rw [← hp2]; exact hp1)
      (by rw [hs]; exact hb) (X.nonnull b)
  refine ⟨o', t, ps', n, ho', by rw [hty]; exact ht, hn', fun b hb => ?_, fun b' hb' => ?_⟩
  · rw [hs] at hb
    obtain ⟨q', hq', e, h'⟩ := hfwd b hb
    exact ⟨q', X.mem_coll.mpr ⟨hq', e ▸ hcl b hb⟩, e, h'⟩
  · obtain ⟨q', hq', hb, e⟩ := hbwd b' hb'
    exact ⟨q', X.mem_coll.mpr ⟨hq', hcl _ hb⟩, e⟩

theorem DCtx.moved (X : DCtx K ts c ci hp H L ci' HF c' std) :
    Moved K ts ts {} {} std.heap (hp.length + 1) HF X.coll (naOf H L) where
  xid q hq := X.jw.rel.xid (X.mem_coll.mp hq).1
  node q hq := by
    obtain ⟨o', t, ps', n, ho', ht, hn', _, hbwd⟩ := X.succs_both hq
    exact ⟨o', t, ps', n, ho', ht, hn', hbwd⟩
  succ xa a xb b ha hb hsucc := by
    obtain ⟨o', t, ps', n, ho', ht, hn', hfwd, _⟩ := X.succs_both ha
    obtain ⟨q', hq', e, h'⟩ := hfwd b hsucc
    rw [X.jw.addr_inj (X.mem_coll.mp hq').1 (X.mem_coll.mp hb).1 e] at h'
    rw [succsOf_eq K ts {} ho' ht hn']
    exact h'

theorem DCtx.traversal (X : DCtx K ts c ci hp H L ci' HF c' std) (hnx : 0 < c'.nextXid) :
    ∃ st' : St, findAllFs K ts {} HF c'.nextXid (defaultSeeds c') = .ok st' ∧ st'.heap = HF ∧
      (st'.allFs.map (·.2)).Perm ((std.allFs.map (·.2)).map (phiOf H (naOf H L))) := by
  have hcol : ∀ a, a ∈ std.allFs.map (·.2) ↔ ∃ x, (x, a) ∈ X.coll := fun a =>
    ⟨fun ha => let ⟨q, hq, e, _⟩ := inL_pair (X.sub ha); ⟨q.1, e ▸ X.mem_coll.mpr ⟨hq, e ▸ ha⟩⟩,
     fun ⟨_, hx⟩ => (X.mem_coll.mp hx).2⟩
  have hndL : (X.coll.map (·.1)).Nodup := (List.filter_sublist.map _).nodup X.jw.lok.nodup
  obtain ⟨st', hfa, hheap, hperm⟩ := X.moved.findAllFs X.wf.next_pos X.run hcol hndL
    (fun q hq => (X.jw.lok.ids q (X.mem_coll.mp hq).1).2)
    (fun a ha => by
      obtain ⟨q, hq, rfl, hs⟩ := X.seed_fwd ha
      exact ⟨q, X.mem_coll.mpr ⟨hq, X.collected_of_reach (.seed _ hs)⟩, rfl⟩)
    (fun x a hx ha => X.seed_bwd (X.mem_coll.mp hx).1 ha) hnx
  refine ⟨st', hfa, hheap, ?_⟩
  have hp2 : (X.coll.map (·.2)).Perm (std.allFs.map (·.2)) := by
    rw [List.perm_ext_iff_of_nodup
      (Det.nodup_map_of_inj (Det.nodup_of_nodup_map (·.1) _ hndL) fun q hq q' hq' e =>
        X.jw.addr_inj (X.mem_coll.mp hq).1 (X.mem_coll.mp hq').1 e)
      (findAllFs_inv K ts {} hp c.nextXid _ std X.run).1.nodupA]
    intro a
    rw [hcol a, List.mem_map]
    exact ⟨fun ⟨q, hq, e⟩ => ⟨q.1, e ▸ hq⟩, fun ⟨x, hx⟩ => ⟨(x, a), hx, rfl⟩⟩
  have h1 := hperm.map (·.2)
  rw [List.map_map, show X.coll.map ((·.2) ∘ fun q => (q.1, naOf H L q.1)) = (X.coll.map (·.2)).map (phiOf H (naOf H L)) by
    rw [List.map_map]; exact List.map_congr_left fun q hq => (X.jw.phi (X.mem_coll.mp hq).1).symm] at h1
  exact h1.trans (hp2.map _)

end

end Cassis.Comparable
