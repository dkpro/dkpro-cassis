/-
Evaluated tests and counterexamples for `Properties/C20Iso.lean`.

* `isoFails`: an executable rendering of `Iso` (the list of failing clauses) (`Spec/ComparableIso.lean`) for experiments (not used by any proof);
* `xmiRun` / `jsonRun`: the save/load round trip of the models followed by the two renderings, with `isoFails` for the
  id-induced address map — the candidate statements `renderFrom_iso`, `render_xmi_roundtrip_flat`,
  `render_json_roundtrip_flat` evaluated on instances before they were proved;
* the counterexamples that justify the shape of `Iso` (`cx_key`, `cx_stale_id`; `cx_depth` recorded an artefact of the model's former recursion budget and is now a positive test) and the one that shows why the
  round-trip corollaries of `Properties/C20Iso.lean` stop at the flat fragment (`cx_strarray_empty`; the whole format:
  `Properties/C20IsoColl.lean`, `Spec/ComparableIsoCollCheck.lean`).  The corollaries `render_xmi_roundtrip_flat` /
  `render_json_roundtrip_flat` have no hypothesis beyond those of `xmi_roundtrip_flat` / `json_roundtrip_flat` and
  `Distinct` (the XMI one even drops `hdis`), so there is no further hypothesis to justify.

The evaluated results are quoted in the comments next to each `#eval`.
-/
import CassisModel.Spec.ComparableIso
import CassisModel.Spec.RoundTripCollCheck
import CassisModel.Spec.RoundTripJson
import CassisModel.Model.Json

namespace Cassis.Comparable
open Cassis.TS Cassis.Traverse

/-! ### Boolean versions -/

def Cell.beq : Cell → Cell → Bool
  | .none, .none => true
  | .int i, .int j => i == j
  | .float s, .float t => s == t
  | .bool a, .bool b => a == b
  | .str s, .str t => s == t
  | .text s, .text t => s == t
  | .list l, .list m => go l m
  | _, _ => false
where
  go : List Cell → List Cell → Bool
    | [], [] => true
    | a :: l, b :: m => Cell.beq a b && go l m
    | _, _ => false

def rowsBeq : List (List Cell) → List (List Cell) → Bool
  | [], [] => true
  | r :: rs, u :: us => Cell.beq (.list r) (.list u) && rowsBeq rs us
  | _, _ => false

def secsBeq : List Section → List Section → Bool
  | [], [] => true
  | s :: ss, t :: ts => s.tyName == t.tyName && s.header == t.header && rowsBeq s.rows t.rows && secsBeq ss ts
  | _, _ => false

def exBeq {α β} (eq : α → β → Bool) : Except Err α → Except Err β → Bool
  | .ok a, .ok b => eq a b
  | .error e, .error e' => e == e'
  | _, _ => false

def sameCellB (v v' : Val) : Bool :=
  match plainCell v, plainCell v' with
  | some c, some c' => Cell.beq c c'
  | _, _ => false

def emptyListB (v : Val) : Bool :=
  v == .refs [] || v == .ints [] || v == .floats [] || v == .bools [] || v == .strs []

def sameKeyB (hp hp' : Heap) (addrs : List Nat) (φ : Nat → Nat) (a a' : Nat) : Bool :=
  addrs.all (fun b => decide (xidOf hp b = xidOf hp a) == decide (xidOf hp' (φ b) = xidOf hp' a'))

def refsRelB (R : Nat → Nat → Bool) : List (Option Nat) → List (Option Nat) → Bool
  | [], [] => true
  | none :: l, none :: l' => refsRelB R l l'
  | some a :: l, some a' :: l' => R a a' && refsRelB R l l'
  | _, _ => false

def elemRelB (S : Val → Val → Bool) (s s' : Option Val) : Bool :=
  match s, s' with
  | none, none => true
  | some v, some v' => if v == .none || v' == .none then v == .none && v' == .none else S v v'
  | _, _ => false

def valRelB (K : Consts) (hp hp' : Heap) (R : Nat → Nat → Bool) : Nat → Val → Val → Bool
  | 0, v, v' => sameCellB v v'
  | d+1, v, v' =>
    sameCellB v v' || (emptyListB v && emptyListB v') ||
    match v, v' with
    | .ref a, .ref a' =>
      if isArrayFs K hp a then
        isArrayFs K hp' a' && elemRelB (valRelB K hp hp' R d) (slot hp a "elements") (slot hp' a' "elements")
      else !isArrayFs K hp' a' && R a a'
    | .refs l, .refs l' => refsRelB (fun a a' => valRelB K hp hp' R d (.ref a) (.ref a')) l l'
    | _, _ => false

def slotNames (hp : Heap) (a : Nat) : List String := match hp[a]? with | some o => o.slots.map (·.1) | none => []

/-- a depth that covers every acyclic nesting of arrays in either heap (`Iso.slots` asks for *some* depth) -/
def checkDepth (hp hp' : Heap) : Nat := 2 * max hp.length hp'.length + 2

/-- `Iso`, conjunct by conjunct (the list of the conjuncts that fail; `[]` = isomorphic) -/
def isoFails (K : Consts) (cass cass' : List Cas) (hp hp' : Heap) (indexed indexed' addrs addrs' : List Nat)
    (φ : Nat → Nat) : List String :=
  (if (addrs.map φ).isPerm addrs' then [] else ["bij"]) ++
  (if addrs'.eraseDups.length == addrs'.length then [] else ["nodup"]) ++
  (if addrs.all (fun a => indexed.contains a == indexed'.contains (φ a)) then [] else ["idx"]) ++
  (if addrs.all (fun a => tyOf hp' (φ a) == tyOf hp a) then [] else ["ty"]) ++
  (if addrs.all (fun a => sameKeyB hp hp' addrs φ a (φ a)) then [] else ["key"]) ++
  (if addrs.all (fun a => exBeq (· == ·) (viewTag cass' hp' (φ a)) (viewTag cass hp a)) then [] else ["view"]) ++
  (if addrs.all (fun a => !isAnnot hp a ||
      exBeq (· == ·) (Cas.coveredText cass' hp' (φ a)) (Cas.coveredText cass hp a)) then [] else ["covered"]) ++
  (if addrs.all (fun a => ((slotNames hp a ++ slotNames hp' (φ a)).filter (· != "sofa")).all (fun n =>
      valRelB K hp hp' (sameKeyB hp hp' addrs φ) (checkDepth hp hp')
        ((slot hp a n).getD .none) ((slot hp' (φ a) n).getD .none))) then [] else ["slots"]) ++
  (if addrs.all (fun a => !isArrayFs K hp a ||
      (slot hp' (φ a) "elements").isSome == (slot hp a "elements").isSome) then [] else ["elems"])

def distinctB (hp : Heap) (addrs : List Nat) : Bool :=
  addrs.all (fun a => addrs.all (fun b => a == b || tyOf hp a != tyOf hp b ||
    (isAnnot hp a && isAnnot hp b && (beginOf hp a != beginOf hp b || endOf hp a != endOf hp b))))

/-- the address map induced by the ids: the collected structure of `hp'` that carries the id `a` carries in `hp`
    (`hp`: the heap the *writer* has assigned ids in) -/
def phiById (hp hp' : Heap) (addrs' : List Nat) (a : Nat) : Nat :=
  (addrs'.find? (fun a' => xidOf hp' a' == xidOf hp a)).getD 0

/-! ### the round trips, evaluated -/

structure Run where
  distinct : Bool
  isoFails : List String
  sameFrom : Bool          -- the two `renderFrom` results agree
  same : Bool              -- the two `render` results agree (same table or same exception)
  ok : Bool                -- … and are tables
deriving Repr

def mkRun (K : Consts) (ts : TypeSystem) (c c' : Cas) (hp hid hpL : Heap) : Except Err Run := do
  let st ← findAllFs K ts {} hp c.nextXid (defaultSeeds c)
  let st' ← findAllFs K ts {} hpL c'.nextXid (defaultSeeds c')
  let addrs := st.allFs.map (·.2)
  let addrs' := st'.allFs.map (·.2)
  let φ := phiById hid st'.heap addrs'
  let r := render K ts [c] 0 hp {} (fun _ => 0) none
  let r' := render K ts [c, c'] 1 hpL {} (fun _ => 0) none
  pure { distinct := distinctB st.heap addrs,
         isoFails := isoFails K [c] [c, c'] st.heap st'.heap (defaultSeeds c) (defaultSeeds c') addrs addrs' φ,
         sameFrom := exBeq secsBeq
           (renderFrom K ts [c] st.heap {} (fun _ => 0) (defaultSeeds c) addrs)
           (renderFrom K ts [c, c'] st'.heap {} (fun a => a) (defaultSeeds c') addrs'),
         same := exBeq (fun a b => secsBeq a.1 b.1) r r',
         ok := match r with | .ok _ => true | .error _ => false }

/-- `load_cas_from_xmi(cas.to_xmi())`, then both renderings -/
def xmiRun (K : Consts) (ts : TypeSystem) (c : Cas) (hp : Heap) : Except Err Run := do
  let (doc, st) ← Xmi.saveXmi K ts [c] 0 hp
  let ld ← Xmi.loadXmi K ts 0 1 false st.heap doc
  mkRun K ts c ld.cas hp st.heap ld.heap

/-- `load_cas_from_json(cas.to_json())` (no embedded type system), then both renderings -/
def jsonRun (K : Consts) (ts : TypeSystem) (c : Cas) (hp : Heap) : Except Err Run := do
  let (doc, st) ← Json.saveJson K ts [c] 0 hp .none
  let ld ← Json.loadJson K ts 0 1 false false st.heap doc
  mkRun K ts c ld.cas hp st.heap ld.heap

/-- the first differing cells of two tables (for the reports) -/
def diffSecs (a b : List Section) : List String :=
  if a.length != b.length then ["#sections"] else
  (a.zip b).flatMap fun (s, t) =>
    if s.tyName != t.tyName || s.header != t.header then [s!"header {s.tyName}"] else
    if s.rows.length != t.rows.length then [s!"#rows {s.tyName}"] else
    (s.rows.zip t.rows).flatMap fun (r, u) =>
      ((s.header.zip (r.zip u)).filter (fun (_, c, d) => !Cell.beq c d)).map
        (fun (h, c, d) => s!"{s.tyName}.{h}: {reprStr c} / {reprStr d}")

end Cassis.Comparable

/-! ## Evaluated instances and counterexamples -/

namespace Cassis.Comparable.IsoCheck
open Cassis.TS Cassis.Traverse Cassis.Xmi Cassis.Xmi.CollDemo

/-! ### the candidate statements on instances (evaluated before the proofs were written)

`ResDemo.flatTs/flatCas/flatHp`: the flat instance of `Spec/RoundTripCollCheck.lean` (two `x.F` annotations over `a😀b`
referring to each other, one indexed).  `CollDemo`: the instance with every collection kind. -/

-- flat, XMI and JSON: isomorphic, same table — `{ distinct := true, isoFails := [], sameFrom := true, same := true, ok := true }`
#eval xmiRun K ResDemo.flatTs ResDemo.flatCas ResDemo.flatHp
#eval jsonRun K ResDemo.flatTs ResDemo.flatCas ResDemo.flatHp
-- the table of the flat instance (both sides):
-- x.F | <ANCHOR> <COVERED_TEXT> begin end self_ type_
--     | F[0-2]*@_InitialView  "a😀"  0 2 7      F[2-3]@_InitialView
--     | F[2-3]@_InitialView   "b"    2 3 <NULL> F[0-2]*@_InitialView
#eval (render K ResDemo.flatTs [ResDemo.flatCas] 0 ResDemo.flatHp {} (fun _ => 0) none).map (·.1)

/-- **`cx_strarray_empty`** — the instance with collections: the XMI round trip is *not* an isomorphism and the table
    changes, in exactly one cell: the inlined StringArray `sa = ['a b', '', None, 'c']` comes back as
    `['a b', None, None, 'c']` (`''` and null are the same in XMI: `<sa></sa>` = `<sa/>`), rendered
    `['a b', '<NULL>', '<NULL>', 'c']` instead of `['a b', '', '<NULL>', 'c']`.
    Replayed on `/repo`: `cas_to_comparable_text` differs across `load_cas_from_xmi(cas.to_xmi())` —
    ```
    ts = TypeSystem(); T = ts.create_type("x.Doc", "uima.tcas.Annotation")
    ts.create_feature(T, "sa", "uima.cas.StringArray"); SA = ts.get_type("uima.cas.StringArray")
    cas = Cas(ts, sofa_string="abc"); cas.add(T(begin=0, end=1, sa=SA(elements=["a b", "", None, "c"])))
    cas_to_comparable_text(cas) == cas_to_comparable_text(load_cas_from_xmi(cas.to_xmi(), typesystem=ts))   # False
    ```
    (`"['a b', '', '<NULL>', 'c']"` against `"['a b', '<NULL>', '<NULL>', 'c']"`; the JSON round trip keeps the text). -/
def cx_strarray_empty := xmiRun K ts cas hp
-- `{ distinct := true, isoFails := ["slots"], sameFrom := false, same := false, ok := true }`
#eval cx_strarray_empty
/-- … and without the empty string element everything agrees (all collection kinds, inlined and shared; the inlined
    arrays of the loaded CAS are new objects without ids: compared by content) -/
def ok_coll := xmiRun K ts cas (hp.set 9 (arr "uima.cas.StringArray" (.strs [some "a b", none, some "c"])))
-- `{ distinct := true, isoFails := [], sameFrom := true, same := true, ok := true }`
#eval ok_coll
/-- the JSON round trip of the instance (JSON keeps `''` and null apart) -/
def ok_coll_json := jsonRun K ts cas hp
-- `{ distinct := true, isoFails := [], sameFrom := true, same := true, ok := true }`
#eval ok_coll_json

/-! ### why `Iso` asks what it asks -/

def fObj (xid : Option Int) (self : Val) (peer : Val) (b e : Int) : Obj :=
  { ty := "x.F", ts := 0, xid := xid, slots := [("self_", self), ("type_", peer)] ++ tailSlots b e }

/-- both sides of an experiment with the identity as address map: (failing conjuncts of `Iso`, tables equal?) -/
def pair (ts : TypeSystem) (h h' : Heap) (addrs : List Nat) : List String × Bool :=
  (isoFails K [ResDemo.flatCas] [ResDemo.flatCas] h h' [0] [0] addrs addrs id,
   exBeq secsBeq (renderFrom K ts [ResDemo.flatCas] h {} (fun _ => 0) [0] addrs)
     (renderFrom K ts [ResDemo.flatCas] h' {} (fun _ => 0) [0] addrs))

/-- **`cx_key`** — ids need not be preserved, but their coincidences must: two collected structures with different ids
    on one side, with the same id on the other.  The anchor map is keyed by id, the second structure overwrites the
    anchor of the first: every lookup of either gives `F[2-3]…`.  (`["key", "slots"], false`: the references between the
    two are unrelated as well) -/
def cx_key := pair ResDemo.flatTs
  [fObj (some 2) (.int 7) (.ref 1) 0 2, fObj (some 3) .none (.ref 0) 2 3]
  [fObj (some 5) (.int 7) (.ref 1) 0 2, fObj (some 5) .none (.ref 0) 2 3] [0, 1]
#eval cx_key
/-- … whereas a renumbering that keeps the coincidences is fine, whatever the ids (`[], true`) -/
def ok_key := pair ResDemo.flatTs
  [fObj (some 2) (.int 7) (.ref 1) 0 2, fObj (some 3) .none (.ref 0) 2 3]
  [fObj (some 9) (.int 7) (.ref 1) 0 2, fObj none .none (.ref 0) 2 3] [0, 1]
#eval ok_key

/-- **`cx_stale_id`** — a reference to a structure that is *not* collected (possible only when seeds are given) is
    rendered as `None`, unless the target carries the id of a collected structure: then it is rendered as that
    structure's anchor.  So such references are related by `SameKey` as well, not ignored.  (`["slots"], false`) -/
def cx_stale_id := pair ResDemo.flatTs
  [fObj (some 2) (.int 7) (.ref 1) 0 2, fObj (some 3) .none .none 2 3]
  [fObj (some 2) (.int 7) (.ref 1) 0 2, fObj (some 2) .none .none 2 3] [0]
#eval cx_stale_id
/-- both targets uncollected with ids that no collected structure carries: related (`sameKey_fresh`) (`[], true`) -/
def ok_fresh := pair ResDemo.flatTs
  [fObj (some 2) (.int 7) (.ref 1) 0 2, fObj (some 3) .none .none 2 3]
  [fObj (some 2) (.int 7) (.ref 1) 0 2, fObj none .none .none 2 3] [0]
#eval ok_fresh

def docObj (fsa : Val) : Obj :=
  { ty := "x.Doc", ts := 0, xid := some 2, slots := [("n", .none), ("next", .none)] ++
      (noColl.map (fun p => if p.1 == "fsa" then (p.1, fsa) else p)) ++ tailSlots 0 2 }

def nested : Heap :=
  [ docObj (.ref 1), arr "uima.cas.FSArray" (.refs [some 2]), arr "uima.cas.FSArray" (.refs [some 3]),
    arr "uima.cas.FSArray" (.refs []) ]

/-- **`cx_depth`** (repaired, now a positive test) — the budget of the model's `renderVal` used to be `|heap| + 1` while
    every level of array nesting costs two units: `x.Doc.fsa = [[[]]]` in a heap of four objects exhausted it
    (`RuntimeError`), the same content in a heap with three more (unrelated) objects did not — the two sides of an
    isomorphism differed.  The model's budget is now `2 * |heap| + 2`, enough for every acyclic nesting, as in the
    implementation (whose only limit is the interpreter's recursion limit): both sides render `[[[]]]`, and the two heaps
    are isomorphic (`Iso.slots` asks for some nesting depth, no longer for one bounded by the heap sizes).  (`([], true), true, true`) -/
def cx_depth := (pair ts nested (nested ++ [arr "uima.cas.IntegerArray" .none, arr "uima.cas.IntegerArray" .none,
    arr "uima.cas.IntegerArray" .none]) [0],
  (renderFrom K ts [ResDemo.flatCas] nested {} (fun _ => 0) [0] [0]).toOption.isSome,
  (renderFrom K ts [ResDemo.flatCas] (nested ++ [arr "uima.cas.IntegerArray" .none, arr "uima.cas.IntegerArray" .none,
    arr "uima.cas.IntegerArray" .none]) {} (fun _ => 0) [0] [0]).toOption.isSome)
#eval cx_depth
#guard cx_depth.1.1.isEmpty && cx_depth.1.2 && cx_depth.2.1 && cx_depth.2.2
/-- a cycle of arrays still exhausts the budget, on both sides alike (Python: `RecursionError` on both) -/
def cyc_depth :=
  let cyc := nested.set 3 (arr "uima.cas.FSArray" (.refs [some 1]))
  ((renderFrom K ts [ResDemo.flatCas] cyc {} (fun _ => 0) [0] [0]).toOption.isSome,
   (renderFrom K ts [ResDemo.flatCas] (cyc ++ [arr "uima.cas.IntegerArray" .none]) {} (fun _ => 0) [0] [0]).toOption.isSome)
#guard cyc_depth == (false, false)

/-- all of the above at once -/
def allRuns : List (String × String) :=
  [ ("cx_strarray_empty", reprStr cx_strarray_empty), ("ok_coll", reprStr ok_coll), ("ok_coll_json", reprStr ok_coll_json),
    ("cx_key", reprStr cx_key), ("ok_key", reprStr ok_key), ("cx_stale_id", reprStr cx_stale_id),
    ("ok_fresh", reprStr ok_fresh), ("cx_depth", reprStr cx_depth) ]

end Cassis.Comparable.IsoCheck
