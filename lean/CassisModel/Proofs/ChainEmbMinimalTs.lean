/-
C02 and C16 with an embedded type system that is only a part of the original (mode MINIMAL): what the type system `loadTs`
rebuilds from the `%TYPES` section of a MINIMAL document has to do with the original (`json_minimal_ts_part`):
* it agrees with the original (`PartOn`) on the names a fresh type system or the written records declare (`regNames`),
  a list closed under supertypes and ranges of effective features that contains the type of every collected structure;
* hence (`typeAgree_of_part`) the JSON reader's questions about the `%TYPE`s of the document, which are among these names,
  are answered alike (`TypeAgree`; `json_minimal_ts_agree` of C02 is this conjunct).
That it also agrees with the original on `multipleReferencesAllowed` and the reserved flag is `multiRes_of_recs`
(`Proofs/ChainEmbRebuiltFlags.lean`).
-/
import CassisModel.Proofs.ChainEmbTsLe
import CassisModel.Proofs.EmbeddedTsMinimal

namespace Cassis.ChainE
open Cassis.TS Cassis.Json

/-- the names a fresh type system or the records `R` declare -/
def regNames (R : List TypeRec) : List String := Gen.builtinTS.types.map (·.name) ++ R.map (·.name)

theorem mem_regNames {R : List TypeRec} {x : String} : x ∈ regNames R ↔ RegName R x := by
  unfold regNames RegName
  rw [List.mem_append, ← hasExact_iff_mem, List.mem_map]

theorem builtin_ranges : ∀ t ∈ Gen.builtinTS.types, ∀ f ∈ t.own ++ t.inh, hasExact Gen.builtinTS f.range = true := by
  intro t ht f hf
  obtain ⟨t1, ht1, hf1⟩ := inhAnc_builtin.ownIn_rec ht hf
  exact (built_builtins.1.ownOK t1 ht1 f hf1).1

theorem range_builtin {o : TypeSystem} (ho : UserBuilt o) {n : String} (hb : hasExact Gen.builtinTS n = true)
    {t : TypeRec} (ht : find? o n = some t) {f : Feature} (hf : f ∈ allFeatures t) :
    hasExact Gen.builtinTS f.range = true := by
  have hi0 : EInv o Gen.builtinTS :=
    ⟨consistent_builtins.1, featInv_builtins.1, sub_builtin ho.hist, Grow.refl _ _, likeIn_builtin ho.hist⟩
  have hR0 : RecsOk o [] := by
    refine ⟨?_, ?_, ?_⟩ <;> intro t h <;> cases h
  obtain ⟨tb, htb, hc⟩ := eff_cover ho hi0 hR0 (fun t h => by cases h) (Or.inl hb) ht
  obtain ⟨g, hg, hgf⟩ := hc f (allFeatures_sub hf)
  have hr : g.range = f.range := ((featureEq_iff g f).mp hgf).2.2.1
  rw [← hr]
  exact builtin_ranges tb (find?_mem htb) g hg

theorem range_min {o : TypeSystem} (ho : UserBuilt o) (st : Traverse.St)
    {r : TypeRec} (hr : r ∈ minRecs Gen.consts o st) {f : Feature} (hf : f ∈ allFeatures r) :
    RegName (minRecs Gen.consts o st) f.range := by
  obtain ⟨_, n, hn, hfn⟩ := mem_minRecs.mp hr
  have hcov := ((minNames_closed o st n hn r hfn).2 f hf).1
  apply regName_of_covered hcov
  obtain ⟨t1, ht1, hf1⟩ := ho.inhAnc.ownIn_rec (find?_mem hfn) (allFeatures_sub hf)
  exact (ho.built.ownOK t1 ht1 f hf1).1

theorem part_find {o emb m : TypeSystem} (ho : UserBuilt o) (hi : EInv o emb) {R : List TypeRec}
    (hR : RecsOk o R)
    (hcov : ∀ t ∈ R, ∃ t', find? emb t.name = some t' ∧ ∀ f ∈ t.own, ∃ g ∈ eff t', featureEq g f = true)
    (hsame : SameTs emb m) (n : String) (hn : RegName R n) :
    ∃ t tm, find? o n = some t ∧ find? m n = some tm ∧ tm.super = t.super ∧
      ((allFeatures tm).map featKey).Perm ((allFeatures t).map featKey) := by
  have hreg : hasExact o n = true := by
    rcases hn with hb | ⟨r, hr, hrn⟩
    · exact ho.hist.grow.reg n hb
    · rw [← hrn]
      exact (hasExact_iff_mem o _).mpr (List.mem_map.mpr ⟨r, (hR.mem hr).1, rfl⟩)
  obtain ⟨t, ht⟩ := (hasExact_iff_find _ _).mp hreg
  obtain ⟨te, hte, hc⟩ := eff_cover ho hi hR hcov hn ht
  obtain ⟨to, hto, hr⟩ := hi.sub n te hte
  rw [ht] at hto; cases hto
  have hperm := keys_perm_of_cover t te hc hr.feats
  rcases sameTs_find hsame n with ⟨h1, _⟩ | ⟨te0, tm, h1, h2, hd⟩
  · rw [hte] at h1; cases h1
  · rw [hte] at h1; cases h1
    exact ⟨t, tm, ht, h2, by rw [hd.2.1, hr.super], hd.2.2.2.2.trans hperm⟩

theorem null_builtin : hasExact Gen.builtinTS Cassis.Xmi.NULL_T = true := by decide +kernel

theorem json_minimal_ts_part (ops : List TsOp)
    (hu : UserOnlyNoDoc Gen.consts ops)
    (hw : Writable Gen.consts (ops.foldl (applyOp Gen.consts) Gen.builtinTS))
    (hpc : NoPercentNames (ops.foldl (applyOp Gen.consts) Gen.builtinTS))
    (cass : List Cas) (ci : Nat) (c : Cas) (hp : Heap) (doc : JDoc) (st : Traverse.St)
    (hc : cass[ci]? = some c) (harr : ∀ nv ∈ c.views, nv.2.sofa.arr = .none)
    (hsave : saveJson Gen.consts (ops.foldl (applyOp Gen.consts) Gen.builtinTS) cass ci hp .minimal = .ok (doc, st))
    (hreg : ∀ q ∈ st.allFs, ∀ ob : Obj, st.heap[q.2]? = some ob →
      (find? (ops.foldl (applyOp Gen.consts) Gen.builtinTS) ob.ty).isSome = true ∧ ob.ty.endsWith "[]" = false) :
    ∃ (ts' : TypeSystem) (N : List String), loadTs Gen.consts Gen.builtinTS true doc = .ok ts' ∧
      Consistent (ops.foldl (applyOp Gen.consts) Gen.builtinTS) ∧ Consistent ts' ∧
      (∀ j ∈ doc.fss, TypeAgree (ops.foldl (applyOp Gen.consts) Gen.builtinTS) ts' (fsTypeName j)) ∧
      PartOn N (ops.foldl (applyOp Gen.consts) Gen.builtinTS) ts' ∧
      (∀ q ∈ st.allFs, ∀ ob : Obj, st.heap[q.2]? = some ob → ob.ty ∈ N) ∧
      Cassis.Xmi.NULL_T ∈ N := by
  have ho := userBuilt_of_history ops hu.1 hu.2
  generalize ops.foldl (applyOp Gen.consts) Gen.builtinTS = o at hw hpc hsave hreg ho ⊢
  have hR := recsOk_min ho st
  obtain ⟨emb, m, hl, hi, hcov, hsame, hcm, _⟩ := loadTs_recs ho hw hpc hR (saveJson_types hpc hsave rfl)
  have hpart : PartOn (regNames (minRecs Gen.consts o st)) o m := by
    intro n hn
    rw [mem_regNames] at hn
    obtain ⟨t, tm, h1, h2, h3, h4⟩ := part_find ho hi hR hcov hsame n hn
    refine ⟨t, tm, h1, h2, h3, h4, ?_, ?_⟩
    · intro s hs
      exact mem_regNames.mpr (regName_super ho.hist hR hn h1 hs)
    · intro f hf
      rw [mem_regNames]
      rcases hn with hb | ⟨r, hr, hrn⟩
      · exact Or.inl (range_builtin ho hb h1 hf)
      · have hro : find? o r.name = some r :=
          find?_of_mem ho.built.cons.nodup (hR.mem hr).1
        rw [hrn, h1] at hro; cases hro
        exact range_min ho st hr hf
  refine ⟨m, regNames (minRecs Gen.consts o st), hl, ho.built.cons, hcm, fun j hj => ?_, hpart, ?_, ?_⟩
  · exact typeAgree_of_part hpart ho.built.cons hcm
      (mem_regNames.mpr (minimal_fss_names cass ci c hp doc st hc harr hsave hreg j hj))
  · exact fun q hq ob hob => mem_regNames.mpr (regName_collected hq hob (hreg q hq ob hob).1)
  · exact mem_regNames.mpr (Or.inl null_builtin)

end Cassis.ChainE
