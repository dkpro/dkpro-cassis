/-
Round trip with collections, layer F of `RoundTripColl_NOTES.md`: one collected structure and its loaded counterpart (`Loc`,
from `HeapRel … E3c`, `CollsAt` and `LOkC` by `loc_of`).  `Loc.none/ref/inl/arrAt/listAt/ref_inv` say what a loaded slot
holds, by the shape of the written value; from them
* the loaded structure refers to the counterparts of what the written one refers to (`Loc.ft_fwd/ft_bwd` per feature, by
  the three shapes of `CT.FT`; `Loc.target_fwd/target_bwd` per structure);
* the content (`featContentC`, `Spec/RoundTripColl.lean`) of every feature is the same on both sides (`CF.content_eq`,
  kind by kind along the fragment).
Then the hinge between the second and the third pass: the addresses of the inlined collections read off the heap (`iaOf`)
turn `Obj2` into the function form `E2c` (`obj2_to_E2c`).
-/
import CassisModel.Proofs.RoundTripCollDefs
import CassisModel.Proofs.RoundTripCollTrav

namespace Cassis.Xmi
open Cassis.TS Cassis.Traverse

section
variable {K : Consts} {ts : TypeSystem} {c c' : Cas} {ci ci' : Nat} {H hpL : Heap}
  {L : List (Int × Nat)} {na : Int → Nat} {ia : Int → String → Nat} {q : Int × Nat} {o o' : Obj} {t : TypeRec}
  {isAnn : Bool} {f : Feature}

theorem collFeat_kind (hcf : CollFeat K ts c ci H isAnn o f) (hi : isInline K f = true) :
    (f.range = FS_ARRAY → isArray K f.range = true) ∧ (f.range = FS_LIST → isArray K f.range = false) := by
  rcases hcf with hflat | ⟨_, hsh | hinl⟩
  · obtain ⟨_, _, _, _, _, _, _, a8, a9, _⟩ := hflat
    exact ⟨fun e => absurd e a8, fun e => absurd e a9⟩
  · rw [CT.isInline_shared hsh.1] at hi; cases hi
  · obtain ⟨_, v, _, hk⟩ := hinl
    rcases hk with ⟨hr, rk, _⟩ | ⟨hr, rk, _⟩ | ⟨hr, rk, _⟩ | ⟨hr, rk, _⟩ | ⟨hr, rk, _⟩ | ⟨hr, rk, _⟩ | ⟨hr, rk, _⟩
    · exact ⟨fun _ => rk.arr, fun e => absurd e (primArrTy_ne hr (by simp))⟩
    · exact ⟨fun _ => rk.arr, fun e => absurd e (CT.otherKind_ne (.inl hr)).2⟩
    · exact ⟨fun _ => rk.arr, fun e => absurd (hr.symm.trans e) (by simp [FS_ARRAY, FS_LIST])⟩
    · exact ⟨fun e => absurd e (CT.otherKind_ne (.inr (.inl hr))).1, fun _ => rk.arr⟩
    · exact ⟨fun e => absurd e (CT.otherKind_ne (.inr (.inr (.inl hr)))).1, fun _ => rk.arr⟩
    · exact ⟨fun e => absurd e (CT.otherKind_ne (.inr (.inr (.inr hr)))).1, fun _ => rk.arr⟩
    · exact ⟨fun e => absurd (hr.symm.trans e) (by simp [FS_ARRAY, FS_LIST]), fun _ => rk.arr⟩

/-- what the fragment says about a type, as far as the lemmas on `Loc` need it: distinct feature names, and the
    array/list classification of the two ranges the traversal looks through -/
def KindOk (K : Consts) (t : TypeRec) : Prop :=
  (ctorFields t).Nodup ∧ ∀ f ∈ allFeatures t, isInline K f = true →
    (f.range = FS_ARRAY → isArray K f.range = true) ∧ (f.range = FS_LIST → isArray K f.range = false)

theorem kindOk_of_coll (hc : CollFs K ts c ci H q.2) (ho : H[q.2]? = some o) (ht : find? ts o.ty = some t) :
    KindOk K t := by
  rcases hc with hg | ha
  · have g := hg.at ho ht
    exact ⟨g.nodup, fun f hf => collFeat_kind (g.feat f hf)⟩
  · obtain ⟨t1, f, _, ht1, ar⟩ := ha.at ho
    cases ht.symm.trans ht1
    refine ⟨by unfold ctorFields; rw [ar.feats]; exact List.pairwise_singleton _ _, fun g hg _ => ?_⟩
    rw [ar.feats] at hg
    cases List.mem_singleton.mp hg
    exact ⟨fun e => absurd (ar.frange.symm.trans e) (by simp [TOP, FS_ARRAY]),
      fun e => absurd (ar.frange.symm.trans e) (by simp [TOP, FS_LIST])⟩

/-- one collected structure (`o` at `q.2` in the written heap `H`, of type `t`) and its loaded counterpart (`o'` at
    `na q.1` in the loaded heap `hpL`) -/
structure Loc (K : Consts) (ts : TypeSystem) (c : Cas) (ci : Nat) (H : Heap) (L : List (Int × Nat)) (na : Int → Nat)
    (ia : Int → String → Nat) (ci' : Nat) (hpL : Heap) (q : Int × Nat) (o o' : Obj) (t : TypeRec) : Prop where
  hL : LOkC K ts c ci H L
  hxid : ∀ q ∈ L, xidOf hpL (na q.1) = some q.1
  hcolls : CollsAt K ts H L na ia hpL
  hq : q ∈ L
  ho : H[q.2]? = some o
  ho' : hpL[na q.1]? = some o'
  hty : o'.ty = o.ty
  hkeys : o'.slots.map (·.1) = o.slots.map (·.1)
  hslots : ∀ n v, alistGet? o.slots n = some v → alistGet? o'.slots n = some (E3c K ts H na ia ci' o n v)
  ht : find? ts o.ty = some t

theorem loc_of (hL : LOkC K ts c ci H L) (hrel : HeapRel H L na (E3c K ts H na ia ci') hpL)
    (hcolls : CollsAt K ts H L na ia hpL) {q : Int × Nat} (hq : q ∈ L) :
    ∃ (o o' : Obj) (t : TypeRec), Loc K ts c ci H L na ia ci' hpL q o o' t := by
  obtain ⟨o, o', ho, ho', hty, _, hkeys, hslots⟩ := hrel q hq
  obtain ⟨t, ht⟩ := (hL.coll q hq).type ho
  exact ⟨o, o', t, hL, fun q hq => hrel.xid hq, hcolls, hq, ho, ho', hty, hkeys, hslots, ht⟩

theorem Loc.ox' (h : Loc K ts c ci H L na ia ci' hpL q o o' t) : o'.xid = some q.1 :=
  (xidOf_eq h.ho').symm.trans (h.hxid q h.hq)

theorem Loc.kind (h : Loc K ts c ci H L na ia ci' hpL q o o' t) : KindOk K t :=
  kindOk_of_coll (h.hL.coll q h.hq) h.ho h.ht

theorem Loc.ox (h : Loc K ts c ci H L na ia ci' hpL q o o' t) : o.xid = some q.1 := by
  have := (h.hL.ids q h.hq).1
  exact (xidOf_eq h.ho).symm.trans this

/-- a target of the written structure is collected, and its loaded counterpart carries its id -/
theorem Loc.res (h : Loc K ts c ci H L na ia ci' hpL q o o' t) {b : Nat} (hb : Target K ts H q.2 b) :
    ∃ x, xidOf H b = some x ∧ (x, b) ∈ L ∧ xidOf hpL (na x) = some x ∧ x ≠ 0 := by
  obtain ⟨x, hx, hxl⟩ := h.hL.closed q h.hq b hb
  exact ⟨x, hx, hxl, h.hxid _ hxl, (h.hL.ids _ hxl).2⟩

theorem Loc.idOf (h : Loc K ts c ci H L na ia ci' hpL q o o' t) {x : Int} {b : Nat} (hx : (x, b) ∈ L) :
    xidOf H b = some x := (h.hL.ids _ hx).1

theorem Loc.ref (h : Loc K ts c ci H L na ia ci' hpL q o o' t) {f : Feature}
    (hf : f ∈ allFeatures t) (hni : isInline K f = false) {b : Nat} (hv : alistGet? o.slots f.name = some (.ref b)) :
    ∃ x, xidOf H b = some x ∧ (x, b) ∈ L ∧ xidOf hpL (na x) = some x ∧ x ≠ 0 ∧
      alistGet? o'.slots f.name = some (.ref (na x)) := by
  obtain ⟨x, hx, hxl, hx', hx0⟩ := h.res ⟨o, t, h.ho, h.ht, .inl ⟨f, hf, hni, hv⟩⟩
  refine ⟨x, hx, hxl, hx', hx0, ?_⟩
  rw [h.hslots _ _ hv]
  have hinl : inlineSlot K ts o f.name = false := (CF.inlineSlot_eq (K := K) h.ht h.kind.1 hf).trans hni
  simp only [E3c_ref hinl, exp3, hx]

/-- the slot of an inlined collection feature: the loaded slot holds the address `ia q.1 f.name`, where the reader put
    the array (`ArrAt`) or the list (`ListAt`) -/
theorem Loc.inl (h : Loc K ts c ci H L na ia ci' hpL q o o' t)
    (hf : f ∈ allFeatures t) (hi : isInline K f = true) {cc : Nat} (hv : alistGet? o.slots f.name = some (.ref cc)) :
    alistGet? o'.slots f.name = some (.ref (ia q.1 f.name)) ∧
    ( (isArray K f.range = true ∧ ∃ ev : Val, slot H cc "elements" = some ev ∧
        ArrAt hpL (ia q.1 f.name) (elemsExp H na ev))
    ∨ (isArray K f.range = false ∧ ∃ hs : List Val, collectList H (H.length + 1) (.ref cc) = .ok hs ∧
        ListAt hpL (ia q.1 f.name) (hs.map (headExp H na)) ∧ hs.length < hpL.length) ) := by
  have hinl : inlineSlot K ts o f.name = true := (CF.inlineSlot_eq (K := K) h.ht h.kind.1 hf).trans hi
  refine ⟨by rw [h.hslots _ _ hv, E3c_inl hinl h.ox], ?_⟩
  obtain ⟨t', f', ht', hf', hn', hdisj⟩ := h.hcolls q h.hq o h.ho f.name cc hv hinl
  rw [h.ht] at ht'; cases ht'
  cases Det.inj_of_nodup_map Feature.name _ h.kind.1 hf' hf hn'
  exact hdisj

theorem Loc.arrAt (h : Loc K ts c ci H L na ia ci' hpL q o o' t)
    (hf : f ∈ allFeatures t) (hi : isInline K f = true) (ha : isArray K f.range = true) {cc : Nat} {ev : Val}
    (hv : alistGet? o.slots f.name = some (.ref cc)) (hev : slot H cc "elements" = some ev) :
    ∃ c' : Nat, alistGet? o'.slots f.name = some (.ref c') ∧ ArrAt hpL c' (elemsExp H na ev) := by
  obtain ⟨hv', ⟨_, ev', hev', hat⟩ | ⟨hno, _⟩⟩ := h.inl hf hi hv
  · rw [hev] at hev'; cases hev'
    exact ⟨_, hv', hat⟩
  · rw [ha] at hno; cases hno

theorem Loc.listAt (h : Loc K ts c ci H L na ia ci' hpL q o o' t)
    (hf : f ∈ allFeatures t) (hi : isInline K f = true) (ha : isArray K f.range = false) {cc : Nat} {hs : List Val}
    (hv : alistGet? o.slots f.name = some (.ref cc)) (hcl : collectList H (H.length + 1) (.ref cc) = .ok hs) :
    ∃ c' : Nat, alistGet? o'.slots f.name = some (.ref c') ∧ ListAt hpL c' (hs.map (headExp H na)) ∧
      collectList hpL (hpL.length + 1) (.ref c') = .ok (hs.map (headExp H na)) := by
  obtain ⟨hv', ⟨hyes, _⟩ | ⟨_, hs', hcl', hat, hlen⟩⟩ := h.inl hf hi hv
  · rw [ha] at hyes; cases hyes
  · rw [hcl] at hcl'; cases hcl'
    exact ⟨_, hv', hat, collectList_spine hat.spine _ (by rw [List.length_map]; omega)⟩

theorem Loc.none (h : Loc K ts c ci H L na ia ci' hpL q o o' t) {n : String}
    (hv : alistGet? o.slots n = some .none) : alistGet? o'.slots n = some .none := by
  rw [h.hslots _ _ hv]; rfl

theorem Loc.ref_inv (h : Loc K ts c ci H L na ia ci' hpL q o o' t) {n : String} {b' : Nat}
    (hb : alistGet? o'.slots n = some (.ref b')) : ∃ cc, alistGet? o.slots n = some (.ref cc) := by
  obtain ⟨v, hv⟩ := alistGet?_of_keys o.slots o'.slots n _ h.hkeys.symm hb
  have he := h.hslots _ _ hv
  rw [hb] at he
  by_cases hr : ∃ cc, v = .ref cc
  · obtain ⟨cc, rfl⟩ := hr
    exact ⟨cc, hv⟩
  · exact absurd (Option.some.inj he).symm (E3c_noref (fun b e => hr ⟨b, e⟩) b')

/-! ### the targets of the loaded structure are the counterparts of the targets of the written one -/

theorem headExp_ref {h0 : Val} {b' : Nat} (e : headExp H na h0 = .ref b') :
    ∃ b x, h0 = .ref b ∧ xidOf H b = some x ∧ b' = na x := by
  cases h0 with
  | ref b =>
    cases hx : xidOf H b with
    | none => simp [headExp, hx] at e
    | some x => simp only [headExp, hx, Val.ref.injEq] at e; exact ⟨b, x, rfl, hx, e.symm⟩
  | str s => simp only [headExp, strHead] at e; split at e <;> cases e
  | _ => cases e

theorem elemsExp_mem {ev : Val} {l' : List (Option Nat)} {b' : Nat} (e : elemsExp H na ev = .refs l')
    (hm : some b' ∈ l') : ∃ l b x, ev = .refs l ∧ some b ∈ l ∧ xidOf H b = some x ∧ b' = na x := by
  cases ev with
  | refs l =>
    cases e
    obtain ⟨r, hrm, hre⟩ := List.mem_map.mp hm
    cases r with
    | none => cases hre
    | some b =>
      cases hx : xidOf H b with
      | none => simp [hx] at hre
      | some x =>
        simp only [Option.bind_some, hx, Option.map_some, Option.some.injEq] at hre
        exact ⟨l, b, x, rfl, hrm, hx, hre.symm⟩
  | ints l | bools l | floats l | strs l => cases l <;> cases e <;> cases hm
  | _ => cases e

theorem Loc.ft_fwd (h : Loc K ts c ci H L na ia ci' hpL q o o' t)
    (hf : f ∈ allFeatures t)
    {b' : Nat} (hb : CT.FT K hpL o' f b') : ∃ q' ∈ L, b' = na q'.1 := by
  rcases hb with ⟨hni, hv'⟩ | ⟨hi, hr, c1, l', hv', hl', hmem⟩ | ⟨hi, hr, c1, hs', hv', hcl', hmem⟩
  · obtain ⟨cc, hv⟩ := h.ref_inv hv'
    obtain ⟨x, _, hxl, _, _, hv''⟩ := h.ref hf hni hv
    rw [hv'] at hv''; cases hv''
    exact ⟨_, hxl, rfl⟩
  · obtain ⟨cc, hv⟩ := h.ref_inv hv'
    obtain ⟨hv'', ⟨_, ev, hev, hat⟩ | ⟨hna, _⟩⟩ := h.inl hf hi hv
    · rw [hv'] at hv''; cases hv''
      rw [show Traverse.slot hpL _ "elements" = _ from slot_arrAt hat] at hl'
      obtain ⟨l, b, x, rfl, hbl, hx, rfl⟩ := elemsExp_mem (Option.some.inj hl') hmem
      obtain ⟨x', hx', hxl, _⟩ := h.res ⟨o, t, h.ho, h.ht, .inr (.inl ⟨f, hf, hi, hr, cc, l, hv, hev, hbl⟩)⟩
      rw [hx] at hx'; cases hx'
      exact ⟨_, hxl, rfl⟩
    · rw [(h.kind.2 f hf hi).1 hr] at hna; cases hna
  · obtain ⟨cc, hv⟩ := h.ref_inv hv'
    obtain ⟨hv'', ⟨ha, _⟩ | ⟨_, hs, hcl, hat, hlen⟩⟩ := h.inl hf hi hv
    · rw [(h.kind.2 f hf hi).2 hr] at ha; cases ha
    · rw [hv'] at hv''; cases hv''
      rw [collectList_spine hat.spine _ (by rw [List.length_map]; omega)] at hcl'
      cases hcl'
      obtain ⟨h0, hh0, e⟩ := List.mem_map.mp hmem
      obtain ⟨b, x, rfl, hx, rfl⟩ := headExp_ref e
      obtain ⟨x', hx', hxl, _⟩ := h.res ⟨o, t, h.ho, h.ht, .inr (.inr (.inl ⟨f, hf, hi, hr, cc, hs, hv, hcl, hh0⟩))⟩
      rw [hx] at hx'; cases hx'
      exact ⟨_, hxl, rfl⟩

theorem Loc.ft_bwd (h : Loc K ts c ci H L na ia ci' hpL q o o' t)
    (hf : f ∈ allFeatures t)
    {b : Nat} {x : Int} (hb : CT.FT K H o f b) (hx : (x, b) ∈ L) : CT.FT K hpL o' f (na x) := by
  have hxb := h.idOf hx
  rcases hb with ⟨hni, hv⟩ | ⟨hi, hr, cc, l, hv, hl, hmem⟩ | ⟨hi, hr, cc, hs, hv, hcl, hmem⟩
  · obtain ⟨x', h1, _, _, _, hv'⟩ := h.ref hf hni hv
    rw [hxb] at h1; cases h1
    exact .inl ⟨hni, hv'⟩
  · obtain ⟨hv', ⟨_, ev, hev, hat⟩ | ⟨hna, _⟩⟩ := h.inl hf hi hv
    · rw [show Xmi.slot H cc "elements" = _ from hl] at hev; cases hev
      refine .inr (.inl ⟨hi, hr, _, _, hv', slot_arrAt hat, List.mem_map.mpr ⟨some b, hmem, ?_⟩⟩)
      simp only [Option.bind_some, hxb, Option.map_some]
    · rw [(h.kind.2 f hf hi).1 hr] at hna; cases hna
  · obtain ⟨hv', ⟨ha, _⟩ | ⟨_, hs', hcl', hat, hlen⟩⟩ := h.inl hf hi hv
    · rw [(h.kind.2 f hf hi).2 hr] at ha; cases ha
    · rw [hcl] at hcl'; cases hcl'
      refine .inr (.inr ⟨hi, hr, _, _, hv', collectList_spine hat.spine _ (by rw [List.length_map]; omega),
        List.mem_map.mpr ⟨.ref b, hmem, ?_⟩⟩)
      simp only [headExp, hxb]

theorem Loc.target_fwd (h : Loc K ts c ci H L na ia ci' hpL q o o' t) {b' : Nat}
    (hb : Target K ts hpL (na q.1) b') : ∃ q' ∈ L, b' = na q'.1 := by
  rcases (CT.target_iff h.ho' (by rw [h.hty]; exact h.ht)).mp hb with ⟨f, hf, hft⟩ | ⟨hfs, l', hl', hm⟩
  · exact h.ft_fwd hf hft
  · obtain ⟨v, hv⟩ := alistGet?_of_keys o.slots o'.slots _ _ h.hkeys.symm hl'
    have he := h.hslots _ _ hv
    rw [hl'] at he
    obtain ⟨l, b, x, rfl, hbl, hx, rfl⟩ := elemsExp_mem (E3c_refs (Option.some.inj he).symm) hm
    obtain ⟨x', hx', hxl, _⟩ := h.res ⟨o, t, h.ho, h.ht, .inr (.inr (.inr ⟨by rw [← h.hty]; exact hfs, l, hv, hbl⟩))⟩
    rw [hx] at hx'; cases hx'
    exact ⟨_, hxl, rfl⟩

theorem Loc.target_bwd (h : Loc K ts c ci H L na ia ci' hpL q o o' t) {b : Nat} {x : Int}
    (hb : Target K ts H q.2 b) (hx : (x, b) ∈ L) : Target K ts hpL (na q.1) (na x) := by
  have ht' : find? ts o'.ty = some t := by rw [h.hty]; exact h.ht
  rcases (CT.target_iff h.ho h.ht).mp hb with ⟨f, hf, hft⟩ | ⟨hfs, l, hl, hm⟩
  · exact (CT.target_iff h.ho' ht').mpr (.inl ⟨f, hf, h.ft_bwd hf hft hx⟩)
  · refine (CT.target_iff h.ho' ht').mpr (.inr ⟨by rw [h.hty]; exact hfs, _, (h.hslots _ _ hl).trans (congrArg some (E3c_list rfl)), ?_⟩)
    refine List.mem_map.mpr ⟨some b, hm, ?_⟩
    simp only [Option.bind_some, h.idOf hx, Option.map_some]

end

namespace CF

theorem elemVals_elemsExp (H hpL : Heap) (na : Int → Nat) (ev : Val)
    (h : ∀ l, ev = .refs l → ∀ r ∈ l, ∃ b x, r = some b ∧ xidOf H b = some x ∧ xidOf hpL (na x) = some x) :
    elemVals hpL (elemsExp H na ev) = elemVals H ev := by
  cases ev with
  | refs l =>
    simp only [elemsExp, elemVals, List.map_map]
    apply List.map_congr_left
    intro r hr
    obtain ⟨b, x, rfl, h1, h2⟩ := h l rfl r hr
    simp only [Function.comp, Option.bind_some, h1, Option.map_some, h2]
  | ints l => cases l <;> rfl
  | bools l => cases l <;> rfl
  | floats l => cases l <;> rfl
  | strs l =>
    cases l with
    | nil => rfl
    | cons e l =>
      rw [elemsExp_strs H na (List.cons_ne_nil e l)]
      simp only [elemVals, List.map_map]
      apply List.map_congr_left
      intro r _
      simp only [Function.comp, normTxt]
      cases r with
      | none => rfl
      | some s =>
        by_cases hs : s = ""
        · subst hs; rfl
        · have : (some s == some "") = false := by simpa using hs
          simp only [this, Bool.false_eq_true, if_false]
  | _ => rfl

theorem headVal_headExp (H hpL : Heap) (na : Int → Nat) (isStr : Bool) (h : Val)
    (hstr : ∀ s, h = .str s → isStr = true)
    (href : ∀ b, h = .ref b → ∃ x, xidOf H b = some x ∧ xidOf hpL (na x) = some x) :
    headVal hpL isStr (headExp H na h) = headVal H isStr h := by
  cases h with
  | ref b =>
    obtain ⟨x, h1, h2⟩ := href b rfl
    simp only [headExp, h1, headVal, h2]
  | str s =>
    have := hstr s rfl
    subst this
    by_cases hs : s = ""
    · subst hs; rfl
    · have e : (s == "") = false := by simpa using hs
      simp only [headExp, strHead, e, Bool.false_eq_true, if_false, headVal, Bool.true_and]
  | _ => rfl

theorem isArray_top (K : Consts) : isArray K TOP = false := by simp [isArray]
theorem isList_top (K : Consts) : isList K TOP = false := by simp [isList]

theorem cvalOf_exp3_plain (H hpL : Heap) (na : Int → Nat) (ci' : Nat) (v : Val) (h1 : ∀ c, v ≠ .ref c)
    (h2 : isListV v = false) (h3 : ∀ tag, v ≠ .attr tag) : cvalOf hpL (exp3 H na ci' v) = cvalOf H v := by
  cases v <;> first | rfl | exact absurd rfl (h1 _) | exact absurd rfl (h3 _) | cases h2

theorem cvalOf_list {hp : Heap} {v : Val} (h : isListV v = true) : cvalOf hp v = .elems (elemVals hp v) := by
  cases v <;> first | rfl | cases h

theorem isListV_elemsExp (H : Heap) (na : Int → Nat) {ev : Val} (h : isListV ev = true) :
    isListV (elemsExp H na ev) = true := by
  cases ev with
  | refs l => rfl
  | ints l | bools l | floats l | strs l => cases l <;> rfl
  | _ => cases h

theorem cvalOf_elems (H hpL : Heap) (na : Int → Nat) (ev : Val) (hl : isListV ev = true)
    (h : ∀ l, ev = .refs l → ∀ r ∈ l, ∃ b x, r = some b ∧ xidOf H b = some x ∧ xidOf hpL (na x) = some x) :
    cvalOf hpL (elemsExp H na ev) = cvalOf H ev := by
  rw [cvalOf_list (isListV_elemsExp H na hl), cvalOf_list hl, elemVals_elemsExp H hpL na ev h]

section
variable {K : Consts} {ts : TypeSystem} {H hpL : Heap} {na : Int → Nat} {ia : Int → String → Nat} {ci' : Nat}

theorem content_plain (o : Obj) (f : Feature) (v : Val) (h1 : ∀ c, v ≠ .ref c) (h2 : isListV v = false)
    (h3 : ∀ tag, v ≠ .attr tag) :
    contentOf K hpL f (E3c K ts H na ia ci' o f.name v) = contentOf K H f v := by
  have hn : ∀ c, exp3 H na ci' v ≠ .ref c := by
    cases v <;> first | (intro c hc; cases hc) | exact absurd rfl (h1 _) | cases h2
  rw [E3c_flat ⟨h2, fun b e => absurd e (h1 b)⟩, contentOf_nonref K hpL f _ hn, contentOf_nonref K H f v h1]
  exact cvalOf_exp3_plain H hpL na ci' v h1 h2 h3

theorem content_inl_arr (f : Feature) (c c' : Nat) (hi : isInline K f = true) (ha : isArray K f.range = true)
    (ev : Val) (hev : slot H c "elements" = some ev) (hat : ArrAt hpL c' (elemsExp H na ev))
    (hrefs : ∀ l, ev = .refs l → ∀ r ∈ l, ∃ b y, r = some b ∧ xidOf H b = some y ∧ xidOf hpL (na y) = some y) :
    contentOf K hpL f (.ref c') = contentOf K H f (.ref c) := by
  rw [contentOf_arr K hpL f _ hi ha, contentOf_arr K H f _ hi ha, hev, slot_arrAt hat]
  simp only [Option.getD_some]
  rw [elemVals_elemsExp H hpL na ev hrefs]

theorem content_inl_list (f : Feature) (c c' : Nat) (hi : isInline K f = true) (ha : isArray K f.range = false)
    (hs : List Val) (hcol : collectList H (H.length + 1) (.ref c) = .ok hs)
    (hcol' : collectList hpL (hpL.length + 1) (.ref c') = .ok (hs.map (headExp H na)))
    (hstr : ∀ h ∈ hs, ∀ s, h = .str s → (f.range == STRING_LIST) = true)
    (href : ∀ h ∈ hs, ∀ b, h = .ref b → ∃ y, xidOf H b = some y ∧ xidOf hpL (na y) = some y) :
    contentOf K hpL f (.ref c') = contentOf K H f (.ref c) := by
  rw [contentOf_list K hpL f _ hi ha, contentOf_list K H f _ hi ha]
  rw [listVals_spine _ (collectList_ok hcol).1 _ (collectList_ok hcol).2,
    listVals_spine _ (collectList_ok hcol').1 _ (collectList_ok hcol').2]
  rw [List.map_map]
  congr 1
  apply List.map_congr_left
  intro h hh
  exact headVal_headExp H hpL na _ h (hstr h hh) (href h hh)

end

theorem primElems_refs {r : String} {ev : Val} (h : PrimElems r ev) {l : List (Option Nat)} (e : ev = .refs l) : l = [] := by
  subst e
  rcases h with h | ⟨_, l', h⟩ | ⟨_, l', h, _⟩ | ⟨_, l', h⟩ | ⟨_, l', h, _⟩
  · cases h; rfl
  all_goals cases h

theorem strElems_refs {ev : Val} (h : StrElems ev) {l : List (Option Nat)} (e : ev = .refs l) : l = [] := by
  subst e
  rcases h with h | ⟨l', h⟩
  · cases h; rfl
  · cases h

/-- the content of every feature of a collected structure is the same in the written and in the loaded heap: by cases on
    `hL.coll` (a general structure: per feature flat / shared / inlined, kind by kind; an array object: its three shapes),
    each case through one of the four local facts `plain`, `refc`, `arrCase`, `listCase` stated inside the proof -/
theorem content_eq {K : Consts} {ts : TypeSystem} {c : Cas} {ci : Nat} {H : Heap} {L : List (Int × Nat)} {na : Int → Nat}
    {ia : Int → String → Nat} {ci' : Nat} {hpL : Heap} {q : Int × Nat} {o o' : Obj} {t : TypeRec}
    (h : Loc K ts c ci H L na ia ci' hpL q o o' t) {f : Feature} (hf : f ∈ allFeatures t) :
    featContentC K hpL (na q.1) f = featContentC K H q.2 f := by
  have ho := h.ho
  have ht := h.ht
  have hres : ∀ b, Target K ts H q.2 b → ∃ x, xidOf H b = some x ∧ xidOf hpL (na x) = some x :=
    fun b hb => let ⟨x, hx, _, hx', _⟩ := h.res hb; ⟨x, hx, hx'⟩
  rcases h.hL.coll q h.hq with hgen | harr
  · have g := hgen.at ho ht
    have plain : ∀ v, alistGet? o.slots f.name = some v → (∀ c, v ≠ .ref c) → isListV v = false → (∀ tag, v ≠ .attr tag) →
        featContentC K hpL (na q.1) f = featContentC K H q.2 f := by
      intro v hv h1 h2 h3
      rw [featContentC_of h.ho' (h.hslots _ _ hv), featContentC_of ho hv]
      exact content_plain o f v h1 h2 h3
    have refc : ∀ b, alistGet? o.slots f.name = some (.ref b) → isInline K f = false →
        featContentC K hpL (na q.1) f = featContentC K H q.2 f := by
      intro b hv hni
      obtain ⟨x, h1, _, h2, _, hv'⟩ := h.ref hf hni hv
      rw [featContentC_of h.ho' hv', featContentC_of ho hv, contentOf_notInline K hpL f _ hni,
        contentOf_notInline K H f _ hni]
      simp only [cvalOf, h1, h2]
    rcases g.feat f hf with hflat | ⟨_, hsh | hin⟩
    · obtain ⟨v, hv⟩ := hflat.slot
      rcases hflat.val_cases hv with rfl | ⟨_, rfl⟩ | ⟨_, rfl⟩ | ⟨_, rfl⟩ | ⟨_, rfl⟩ | ⟨_, rfl⟩ | ⟨b, rfl, _, _, ha, hl⟩
      rotate_right
      · exact refc b hv (isInline_of_range ha hl)
      all_goals exact plain _ hv (by intro c h; cases h) rfl (by intro c h; cases h)
    · obtain ⟨hm, _, _, _, _, _, v, hv, hval⟩ := hsh
      rcases hval with rfl | ⟨b, rfl, _⟩
      · exact plain _ hv (by intro c h; cases h) rfl (by intro c h; cases h)
      · exact refc b hv (CT.isInline_shared hm)
    · have hi := hin.isInline
      obtain ⟨hm, v, hv, hkind⟩ := hin
      have arrCase : ∀ (P : Val → Prop), isArray K f.range = true → InlArr H P v →
          (∀ cc ev, v = .ref cc → slot H cc "elements" = some ev → P ev → ∀ l, ev = .refs l → ∀ r ∈ l,
            ∃ b y, r = some b ∧ xidOf H b = some y ∧ xidOf hpL (na y) = some y) →
          featContentC K hpL (na q.1) f = featContentC K H q.2 f := by
        intro P harr hia hrefs
        rcases hia with rfl | ⟨cc, ev, rfl, hev, hP⟩
        · exact plain _ hv (by intro c h; cases h) rfl (by intro c h; cases h)
        · obtain ⟨c', hv', hat⟩ := h.arrAt hf hi harr hv hev
          rw [featContentC_of h.ho' hv', featContentC_of ho hv]
          exact content_inl_arr f cc c' hi harr ev hev hat (hrefs cc ev rfl hev hP)
      have listCase : ∀ (P : List Val → Prop), isArray K f.range = false → InlList H P v →
          (∀ hs, P hs → ∀ h ∈ hs, ∀ s, h = .str s → (f.range == STRING_LIST) = true) →
          (∀ cc hs, v = .ref cc → collectList H (H.length + 1) (.ref cc) = .ok hs → P hs → ∀ h ∈ hs, ∀ b, h = .ref b →
            ∃ y, xidOf H b = some y ∧ xidOf hpL (na y) = some y) →
          featContentC K hpL (na q.1) f = featContentC K H q.2 f := by
        intro P harr hil hstr href
        rcases hil with rfl | ⟨cc, hs, rfl, hcol, hP⟩
        · exact plain _ hv (by intro c h; cases h) rfl (by intro c h; cases h)
        · obtain ⟨c', hv', _, hcol'⟩ := h.listAt hf hi harr hv hcol
          rw [featContentC_of h.ho' hv', featContentC_of ho hv]
          exact content_inl_list f cc c' hi harr hs hcol hcol' (hstr hs hP) (href cc hs rfl hcol hP)
      rcases hkind with ⟨_, rk, hia⟩ | ⟨_, rk, hia⟩ | ⟨hr, rk, hia⟩ | ⟨_, rk, hil⟩ | ⟨_, rk, hil⟩ | ⟨hr, rk, hil⟩ |
        ⟨hr, rk, hil⟩
      · refine arrCase _ rk.arr hia (fun cc ev _ _ hP l e r hr => ?_)
        rw [primElems_refs hP e] at hr; cases hr
      · refine arrCase _ rk.arr hia (fun cc ev _ _ hP l e r hr => ?_)
        rw [strElems_refs hP e] at hr; cases hr
      · refine arrCase _ rk.arr hia (fun cc ev hvc hev hP l e r hmem => ?_)
        obtain ⟨l', e', hok⟩ := hP
        rw [e'] at e; cases e
        obtain ⟨b, hb, rfl⟩ := List.mem_map.mp hmem
        obtain ⟨y, h1, h2⟩ := hres b ⟨o, t, ho, ht, .inr (.inl ⟨f, hf, hi, hr, cc, l'.map some,
          by rw [← hvc]; exact hv, by rw [← e']; exact hev, List.mem_map_of_mem hb⟩)⟩
        exact ⟨b, y, rfl, h1, h2⟩
      · refine listCase _ rk.arr hil (fun hs hP h hh s e => ?_) (fun cc hs _ _ hP h hh b e => ?_)
        · obtain ⟨i, hi⟩ := hP h hh; rw [hi] at e; cases e
        · obtain ⟨i, hi⟩ := hP h hh; rw [hi] at e; cases e
      · refine listCase _ rk.arr hil (fun hs hP h hh s e => ?_) (fun cc hs _ _ hP h hh b e => ?_)
        · obtain ⟨i, hi, _⟩ := hP h hh; rw [hi] at e; cases e
        · obtain ⟨i, hi, _⟩ := hP h hh; rw [hi] at e; cases e
      · refine listCase _ rk.arr hil (fun hs hP h hh s e => ?_) (fun cc hs _ _ hP h hh b e => ?_)
        · rw [hr]; exact beq_self_eq_true _
        · rcases hP.2 h hh with h0 | ⟨s, h0⟩ <;> (rw [h0] at e; cases e)
      · refine listCase _ rk.arr hil (fun hs hP h hh s e => ?_) (fun cc hs hvc hcol hP h hh b e => ?_)
        · obtain ⟨b, hb, _⟩ := hP h hh; rw [hb] at e; cases e
        · subst e
          obtain ⟨y, h1, h2⟩ := hres b ⟨o, t, ho, ht, .inr (.inr (.inl ⟨f, hf, hi, hr, cc, hs,
            by rw [← hvc]; exact hv, hcol, hh⟩))⟩
          exact ⟨y, h1, h2⟩
  · obtain ⟨t2, f2, ev, ht2, g⟩ := harr.at ho
    cases ht.symm.trans ht2
    rw [g.feats] at hf
    have : f = f2 := by simpa using hf
    subst this
    have hv : alistGet? o.slots f.name = some ev := by rw [g.slots, g.fname]; simp [alistGet?]
    have hni : isInline K f = false :=
      isInline_of_range (by rw [g.frange]; exact isArray_top K) (by rw [g.frange]; exact isList_top K)
    rw [featContentC_of h.ho' (h.hslots _ _ hv), featContentC_of ho hv, contentOf_notInline K hpL f _ hni,
      contentOf_notInline K H f _ hni]
    have none_case : ev = .none → cvalOf hpL (E3c K ts H na ia ci' o f.name ev) = cvalOf H ev := by
      intro e; subst e; rfl
    have list_case : isListV ev = true → (∀ l, ev = .refs l → ∀ r ∈ l, ∃ b y, r = some b ∧ xidOf H b = some y ∧
        xidOf hpL (na y) = some y) → cvalOf hpL (E3c K ts H na ia ci' o f.name ev) = cvalOf H ev := by
      intro hl hrefs
      rw [E3c_list hl]
      exact cvalOf_elems H hpL na ev hl hrefs
    rcases g.kind with ⟨hty, _, _, hev⟩ | ⟨_, _, hev⟩ | ⟨_, _, _, hev⟩
    · rcases hev with e | ⟨l', e', hok⟩
      · exact none_case e
      · subst e'
        refine list_case rfl (fun l e r hr => ?_)
        cases e
        obtain ⟨b, hb, rfl⟩ := List.mem_map.mp hr
        obtain ⟨y, h1, h2⟩ := hres b ⟨o, t, ho, ht, .inr (.inr (.inr ⟨hty, l'.map some,
          by rw [← g.fname]; exact hv, List.mem_map_of_mem hb⟩))⟩
        exact ⟨b, y, rfl, h1, h2⟩
    · rcases hev with e | ⟨l', e⟩
      · subst e; exact list_case rfl (fun l e r hr => by cases e; cases hr)
      · subst e; exact list_case rfl (fun l e r hr => by cases e)
    · rcases hev with e | hP
      · exact none_case e
      · have hl : isListV ev = true := by
          rcases hP with h | ⟨_, l', h⟩ | ⟨_, l', h, _⟩ | ⟨_, l', h⟩ | ⟨_, l', h, _⟩ <;> (subst h; rfl)
        refine list_case hl (fun l e r hr => ?_)
        rw [primElems_refs hP e] at hr; cases hr

theorem content_of_rel {K : Consts} {ts : TypeSystem} {c : Cas} {ci : Nat} {H : Heap} {L : List (Int × Nat)}
    {na : Int → Nat} {ia : Int → String → Nat} {ci' : Nat} {hpL : Heap} (hL : LOkC K ts c ci H L)
    (hrel : HeapRel H L na (E3c K ts H na ia ci') hpL) (hcolls : CollsAt K ts H L na ia hpL) {q : Int × Nat}
    (hq : q ∈ L) :
    ∃ (o o' : Obj), H[q.2]? = some o ∧ hpL[na q.1]? = some o' ∧ o'.ty = o.ty ∧ o'.xid = some q.1 ∧
      ∀ t : TypeRec, find? ts o.ty = some t → ∀ f ∈ allFeatures t,
        featContentC K hpL (na q.1) f = featContentC K H q.2 f := by
  obtain ⟨o, o', t, h⟩ := loc_of hL hrel hcolls hq
  exact ⟨o, o', h.ho, h.ho', h.hty, h.ox', fun t' ht' f hf => by
    cases h.ht.symm.trans ht'
    exact content_eq h hf⟩

end CF

/-- the address of the collection inlined in slot `n` of the structure with id `x`, read off the heap -/
def iaOf (hp2 : Heap) (na : Int → Nat) (x : Int) (n : String) : Nat :=
  match slot hp2 (na x) n with
  | some (.ref a) => a
  | _ => 0

/-- `E2c` looks at `ia` only in the slot of an inlined collection -/
theorem E2c_congr {K : Consts} {ts : TypeSystem} {cass : List Cas} {H : Heap} {na : Int → Nat}
    {ia ia' : Int → String → Nat} {ci' : Nat} {o : Obj} {n : String} {v : Val}
    (h : ∀ c, v = .ref c → inlineSlot K ts o n = true → ia (o.xid.getD 0) n = ia' (o.xid.getD 0) n) :
    E2c K ts cass H na ia ci' o n v = E2c K ts cass H na ia' ci' o n v := by
  cases v <;> first | rfl | skip
  simp only [E2c]
  split
  · rename_i hi; rw [h _ rfl hi]
  · rfl

theorem obj2_to_E2c {K : Consts} {ts : TypeSystem} {cass : List Cas} {c : Cas} {ci : Nat} {H : Heap}
    {L : List (Int × Nat)} {na : Int → Nat} {ci' : Nat} {hp2 : Heap} (hL : LOkC K ts c ci H L)
    (hrel : HeapRelP H L na (Obj2 K ts cass H na ci' hp2) hp2) :
    HeapRel H L na (E2c K ts cass H na (iaOf hp2 na) ci') hp2 ∧ CollsAt K ts H L na (iaOf hp2 na) hp2 ∧
      CollsNew K ts H L (iaOf hp2 na) hp2 := by
  -- the address `iaOf` reads off the slot of an inlined collection is the one `Slot2` speaks of
  have hia : ∀ q ∈ L, ∀ (o o2 : Obj), H[q.2]? = some o → hp2[na q.1]? = some o2 → ∀ n cc w addr,
      alistGet? o2.slots n = some w → w = E2c K ts cass H na (fun _ _ => addr) ci' o n (.ref cc) →
      inlineSlot K ts o n = true → iaOf hp2 na q.1 n = addr := by
    intro q _ o o2 _ ho2 n cc w addr hw he hi
    unfold iaOf
    rw [Xmi.slot_of ho2 n, hw, he, E2c_inl hi]
  have hat : ∀ q ∈ L, ∀ (o : Obj), H[q.2]? = some o → ∀ (n : String) (cc : Nat), alistGet? o.slots n = some (.ref cc) →
      inlineSlot K ts o n = true → InlAt K ts H na hp2 o n cc (iaOf hp2 na q.1 n) ∧
        ∀ (t : TypeRec) (f : Feature), find? ts o.ty = some t → f ∈ allFeatures t → f.name = n →
          ChainC.NewFor K hp2 f.range (iaOf hp2 na q.1 n) := by
    intro q hq o ho n cc hv hi
    obtain ⟨o', o2, ho', ho2, _, _, _, hslots⟩ := hrel q hq
    cases ho.symm.trans ho'
    obtain ⟨w, hw, addr, he, hat⟩ := hslots n _ hv
    rw [hia q hq o o2 ho ho2 n cc w addr hw he hi]
    exact hat cc rfl hi
  refine ⟨?_, fun q hq o ho n cc hv hi => (hat q hq o ho n cc hv hi).1, fun q hq o ho n cc hv hi => (hat q hq o ho n cc hv hi).2⟩
  · intro q hq
    obtain ⟨o, o2, ho, ho2, hty, hx, hkeys, hslots⟩ := hrel q hq
    have hox : o.xid = some q.1 := by
      have := (hL.ids q hq).1
      exact (xidOf_eq ho).symm.trans this
    refine ⟨o, o2, ho, ho2, hty, hx, hkeys, fun n v hv => ?_⟩
    obtain ⟨w, hw, addr, he, _⟩ := hslots n v hv
    rw [hw, he]
    refine congrArg some (E2c_congr fun cc hc hi => ?_)
    subst hc
    rw [hox, Option.getD_some, hia q hq o o2 ho ho2 n cc w addr hw he hi]

end Cassis.Xmi
