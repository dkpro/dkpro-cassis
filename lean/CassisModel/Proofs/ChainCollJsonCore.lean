/-
C16 with collections (namespace `ChainC`: the conversion chains over the whole format), two facts about the JSON reader
in the form the compositions need.

`json_roundtrip_coll_weak`: the reader (`json_read_coll`) for a document that is *described* (sofas of the views, the
elements `elemOfJ` of the collected structures, the view records), with the hypotheses the composition can supply: `LOkJ`
is a hypothesis, the well-formedness of the views is stated against an arbitrary heap `hp0`.  That the writer succeeds on
such structures is `Json.renderFs_collJ`.

`hsim_of_relJ`: the heap the reader builds simulates the written one (`HSim`, `TraverseCopy.lean`) along `Cp`, "a collected
structure and its counterpart": references and FSArray elements of a collected structure lead to collected structures
(`ClosedL`, `ClosedE`), and `exp3J` maps them to their counterparts.  The traversals of the loaded CAS
(`ChainCollJsonLoadedTrav.lean`, `ComparableIsoJsonColl.lean`) start from it.
-/
import CassisModel.Proofs.RoundTripJsonColl
import CassisModel.Proofs.TraverseCopy
import CassisModel.Proofs.RoundTripJsonCollContent

namespace Cassis.ChainC
open Cassis.TS Cassis.Traverse Cassis.Xmi Cassis.Json

/-- the conclusions of `json_roundtrip_coll` the composition uses -/
theorem json_roundtrip_coll_weak (K : Consts) (ts : TypeSystem) (cass : List Cas) (ci : Nat) (c : Cas) (hp0 H : Heap)
    (L : List (Int × Nat)) (tsIdx ci' : Nat) (doc : JDoc)
    (hc : cass[ci]? = some c) (hwf : RTWf c hp0) (hL : LOkJ K ts c ci H L)
    (hdis : ∀ q ∈ L, ∀ nv ∈ c.views, q.1 ≠ nv.2.sofa.xid)
    (hmem : ∀ nv ∈ c.views, ∀ e ∈ Index.all nv.2.idx, Xmi.slot H e.oid "sofa" ≠ some .none)
    (hmok : MembersOk c H)
    (hdfss : doc.fss = c.views.map (fun p => Json.renderSofa hp0 p.2.sofa) ++ L.map (elemOfJ K ts cass H))
    (hdviews : doc.views = c.views.map (jviewH H)) :
    ∃ (ld : Json.Loaded) (fss : List (Int × Val)),
      loadJson K ts tsIdx ci' false false H doc = .ok ld ∧
      (∀ q ∈ L, ∃ (a' : Nat) (o o' : Obj), Json.lookup fss q.1 = some (.ref a') ∧
          H[q.2]? = some o ∧ ld.heap[a']? = some o' ∧ o'.ty = o.ty ∧ o'.xid = some q.1 ∧
          ∀ t : TypeRec, find? ts o.ty = some t → ∀ f ∈ allFeatures t,
            featContentC K ld.heap a' f = featContentC K H q.2 f) ∧
      ld.cas.views.map (viewContent ld.heap) = c.views.map (viewContent H) := by
  obtain ⟨ld, _, hload, _, hrel, _, hviews, _⟩ :=
    json_read_coll ⟨hc, hwf, hL, hdis⟩ H tsIdx ci' doc hdfss hdviews hmem hmok
  refine ⟨ld, sofaEntries ci' c.views ++ fsEntries (naOf H L) L, hload, fun q hq => ?_, hviews⟩
  obtain ⟨o, o', ho, ho', hty, hx, _, _⟩ := hrel q hq
  exact ⟨naOf H L q.1, o, o', lookup_entries ci' _ _ hL.nodup hq (hdis q hq), ho, ho', hty, hx, fun t ht f hf =>
    content_collJ K ts c ci H L ci' ld.heap hL hrel (Nat.le_of_lt (CC.len_lt hrel hq)) q hq o t ho ht f hf⟩

/-- a collected structure and its counterpart in the heap the JSON reader builds -/
def Cp (H : Heap) (L : List (Int × Nat)) (b b' : Nat) : Prop := ∃ q ∈ L, q.2 = b ∧ b' = naOf H L q.1

/-- what the JSON reader makes of the collected structures simulates them; of `L` only its closure under references and
    FSArray elements is used -/
theorem hsim_of_relJ {H HF : Heap} {L : List (Int × Nat)} {ci' : Nat} (hcl : ClosedL H L) (hclE : ClosedE H L)
    (hrel : HeapRel H L (naOf H L) (E3J H (naOf H L) ci') HF) : HSim (Cp H L) H HF := by
  have key : ∀ q ∈ L, ∀ {n : String} {v : Val}, Xmi.slot H q.2 n = some v →
      (∀ b, v = .ref b → ∃ q' ∈ L, q'.2 = b ∧ xidOf H b = some q'.1) ∧
      (∀ l, n = "elements" → v = .refs l → ∀ b, some b ∈ l → ∃ q' ∈ L, q'.2 = b ∧ xidOf H b = some q'.1) := by
    intro q hq n v h
    obtain ⟨o, ho, hv⟩ := Xmi.slot_obj h
    refine ⟨?_, ?_⟩
    · rintro b rfl
      obtain ⟨y, hy, hyl⟩ := hcl q hq o ho n b hv
      exact ⟨(y, b), hyl, rfl, hy⟩
    · rintro l rfl rfl b hb
      obtain ⟨y, hy, hyl⟩ := hclE q hq o ho l hv b hb
      exact ⟨(y, b), hyl, rfl, hy⟩
  refine ⟨?_, ?_⟩
  · rintro _ _ ⟨q, hq, rfl, rfl⟩ n
    have e : Traverse.slot HF (naOf H L q.1) n = (Traverse.slot H q.2 n).map (exp3J H (naOf H L) ci') :=
      CC.slot_new hrel hq n
    rw [e]
    refine ⟨fun h => by rw [h]; rfl, fun v hv => ⟨_, by rw [hv]; rfl, ?_, ?_, ?_⟩⟩
    · rintro rfl; rfl
    · rintro b rfl
      obtain ⟨q', hq', hb, hy⟩ := (key q hq hv).1 b rfl
      exact ⟨_, CC.exp3J_ref hy, q', hq', hb, rfl⟩
    · exact CC.exp3J_not_ref H _ ci' v
  · rintro _ _ ⟨q, hq, rfl, rfl⟩
    have e : Traverse.slot HF (naOf H L q.1) "elements" = (Traverse.slot H q.2 "elements").map (exp3J H (naOf H L) ci') :=
      CC.slot_new hrel hq "elements"
    rw [e]
    cases hv : Traverse.slot H q.2 "elements" with
    | none => exact .nil
    | some v =>
      cases v with
      | refs l =>
        have hl := (key q hq hv).2 l rfl rfl
        show LRel (Cp H L) (refsToPush H [] l)
          (refsToPush HF [] (l.map (fun r => r.bind fun b => (xidOf H b).map (naOf H L))))
        clear hv e
        induction l with
        | nil => exact .nil
        | cons r l ih =>
          have ih := ih (fun b hb => hl b (List.mem_cons_of_mem _ hb))
          cases r with
          | none =>
            unfold refsToPush at ih ⊢
            simpa only [List.map_cons, Option.bind_none, List.filterMap_cons_none] using ih
          | some b =>
            obtain ⟨q', hq', e1, hy⟩ := hl b List.mem_cons_self
            unfold refsToPush at ih ⊢
            simp only [List.map_cons, Option.bind_some, hy, Option.map_some, List.filterMap_cons, seenId_nil,
              Bool.false_eq_true, if_false] at ih ⊢
            exact .cons ⟨q', hq', e1, rfl⟩ ih
      | ints l | bools l | floats l | strs l => cases l <;> exact .nil
      | ref a => simp only [Option.map_some, exp3J, exp3]; cases xidOf H a <;> exact .nil
      | _ => exact .nil

end Cassis.ChainC
