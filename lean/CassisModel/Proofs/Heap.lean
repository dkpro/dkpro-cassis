/-
The primitives of the heap (`Model/Heap.lean`).  Feature paths, for C18: `getPath.go` over appended paths, `follow`,
`setPath`, `setSlot`.  `construct` in normal form (`construct_eq`).  The accessors `slot`, `xidOf` of the traversal at
an address that holds an object, and after a `set`.
-/
import CassisModel.Spec.Heap
import CassisModel.Model.Traverse

namespace Cassis.Heap

theorem go_nil (RA : List String) (ext : Val → String → Val) (h : Heap) (cur : Val) :
    getPath.go RA ext h cur [] = cur := by
  simp only [getPath.go]

theorem go_cons_of_none (RA : List String) (ext : Val → String → Val) (h : Heap) (cur : Val)
    (p : String) (ps : List String) (hv : stepGet RA ext h cur p = .none) :
    getPath.go RA ext h cur (p :: ps) = .none := by
  simp only [getPath.go, hv]

theorem go_cons_of_ne (RA : List String) (ext : Val → String → Val) (h : Heap) (cur v : Val)
    (p : String) (ps : List String) (hv : stepGet RA ext h cur p = v) (hne : v ≠ .none) :
    getPath.go RA ext h cur (p :: ps) = getPath.go RA ext h v ps := by
  cases v <;> simp_all [getPath.go]

theorem go_singleton (RA : List String) (ext : Val → String → Val) (h : Heap) (cur : Val) (p : String) :
    getPath.go RA ext h cur [p] = stepGet RA ext h cur p := by
  by_cases hv : stepGet RA ext h cur p = .none
  · rw [go_cons_of_none RA ext h cur p [] hv, hv]
  · rw [go_cons_of_ne RA ext h cur _ p [] rfl hv, go_nil]

theorem go_append_of_none (RA : List String) (ext : Val → String → Val) (h : Heap)
    (pre post : List String) (cur : Val) (hne : pre ≠ [])
    (hp : getPath.go RA ext h cur pre = .none) :
    getPath.go RA ext h cur (pre ++ post) = .none := by
  induction pre generalizing cur with
  | nil => exact absurd rfl hne
  | cons p ps ih =>
    rw [List.cons_append]
    by_cases hv : stepGet RA ext h cur p = .none
    · exact go_cons_of_none RA ext h cur p _ hv
    · rw [go_cons_of_ne RA ext h cur _ p _ rfl hv]
      rw [go_cons_of_ne RA ext h cur _ p _ rfl hv] at hp
      by_cases hps : ps = []
      · subst hps
        rw [go_nil] at hp
        exact absurd hp hv
      · exact ih _ hps hp

theorem go_append_of_ne (RA : List String) (ext : Val → String → Val) (h : Heap)
    (pre post : List String) (cur v : Val)
    (hp : getPath.go RA ext h cur pre = v) (hv : v ≠ .none) :
    getPath.go RA ext h cur (pre ++ post) = getPath.go RA ext h v post := by
  induction pre generalizing cur with
  | nil =>
    rw [go_nil] at hp
    rw [List.nil_append, hp]
  | cons p ps ih =>
    rw [List.cons_append]
    by_cases hs : stepGet RA ext h cur p = .none
    · rw [go_cons_of_none RA ext h cur p _ hs] at hp
      exact absurd hp.symm hv
    · rw [go_cons_of_ne RA ext h cur _ p _ rfl hs]
      rw [go_cons_of_ne RA ext h cur _ p _ rfl hs] at hp
      exact ih _ hp

theorem stepGet_none (RA : List String) (ext : Val → String → Val) (hext : ∀ p, ext .none p = .none)
    (h : Heap) (p : String) : stepGet RA ext h .none p = .none := by
  simp only [stepGet, hext]

theorem follow_none (RA : List String) (ext : Val → String → Val) (hext : ∀ p, ext .none p = .none)
    (h : Heap) (parts : List String) : follow RA ext h .none parts = .none := by
  induction parts with
  | nil => rfl
  | cons p ps ih =>
    unfold follow at ih ⊢
    rw [List.foldl_cons, stepGet_none RA ext hext h p]
    exact ih

theorem go_eq_follow (RA : List String) (ext : Val → String → Val) (hext : ∀ p, ext .none p = .none)
    (h : Heap) (parts : List String) (cur : Val) :
    getPath.go RA ext h cur parts = follow RA ext h cur parts := by
  induction parts generalizing cur with
  | nil => rw [go_nil]; rfl
  | cons p ps ih =>
    have hf : follow RA ext h cur (p :: ps) = follow RA ext h (stepGet RA ext h cur p) ps := by
      unfold follow; rw [List.foldl_cons]
    rw [hf]
    by_cases hv : stepGet RA ext h cur p = .none
    · rw [go_cons_of_none RA ext h cur p _ hv, hv, follow_none RA ext hext h ps]
    · rw [go_cons_of_ne RA ext h cur _ p _ rfl hv]
      exact ih _

theorem go_snoc (RA : List String) (ext : Val → String → Val) (hext : ∀ p, ext .none p = .none)
    (h : Heap) (pre : List String) (p : String) (cur : Val) :
    getPath.go RA ext h cur (pre ++ [p]) = stepGet RA ext h (getPath.go RA ext h cur pre) p := by
  by_cases hv : getPath.go RA ext h cur pre = .none
  · by_cases hpre : pre = []
    · subst hpre
      rw [List.nil_append, go_singleton, go_nil]
    · rw [go_append_of_none RA ext h pre [p] cur hpre hv, hv, stepGet_none RA ext hext h p]
  · rw [go_append_of_ne RA ext h pre [p] cur _ rfl hv, go_singleton]

theorem setPath_singleton (RA : List String) (ext : Val → String → Val) (h : Heap) (a : Nat)
    (last : String) (v : Val) :
    setPath RA ext h a [last] v = setSlot h a last v := by
  simp [setPath]

theorem setPath_snoc (RA : List String) (ext : Val → String → Val) (h : Heap) (a : Nat)
    (pre : List String) (last : String) (v : Val) (hne : pre ≠ []) :
    setPath RA ext h a (pre ++ [last]) v =
      match getPath RA ext h a pre with
      | .ref t => setSlot h t last v
      | _ => .error .attributeError := by
  have hrev : (pre ++ [last]).reverse = last :: pre.reverse := by
    simp
  unfold setPath
  rw [hrev]
  cases hr : pre.reverse with
  | nil =>
    exact absurd (List.reverse_eq_nil_iff.mp hr) hne
  | cons x xs =>
    have hpre : (x :: xs).reverse = pre := by rw [← hr, List.reverse_reverse]
    simp only [hpre]
    cases getPath RA ext h a pre <;> rfl

theorem setSlot_error_of_unknown (h : Heap) (t : Nat) (last : String) (v : Val) (hl : last ≠ "xmiID")
    (hslot : ∀ o, h[t]? = some o → alistGet? o.slots last = none) :
    setSlot h t last v = .error .attributeError := by
  unfold setSlot
  cases ho : h[t]? with
  | none => rfl
  | some o =>
    have hx : (last == "xmiID") = false := by simpa using hl
    simp only [hslot o ho, hx]
    rfl

theorem setSlot_existing {hp : Heap} {a : Nat} {o : Obj} {n : String} {w : Val} (v : Val) (ha : hp[a]? = some o)
    (hw : alistGet? o.slots n = some w) :
    setSlot hp a n v = .ok (hp.set a { o with slots := alistSet o.slots n v }) := by
  unfold setSlot
  rw [ha]
  dsimp only
  rw [hw]

theorem setSlot_ok_cases (h h' : Heap) (t : Nat) (name : String) (v : Val)
    (hs : setSlot h t name v = .ok h') :
    ∃ o, h[t]? = some o ∧
      ((∃ w, alistGet? o.slots name = some w ∧ h' = h.set t { o with slots := alistSet o.slots name v }) ∨
       (alistGet? o.slots name = none ∧ name = "xmiID" ∧ ∃ x, h' = h.set t { o with xid := x })) := by
  unfold setSlot at hs
  cases ho : h[t]? with
  | none => rw [ho] at hs; cases hs
  | some o =>
    simp only [ho] at hs
    refine ⟨o, rfl, ?_⟩
    cases hg : alistGet? o.slots name with
    | some w =>
      simp only [hg, Except.ok.injEq] at hs
      exact Or.inl ⟨w, rfl, hs.symm⟩
    | none =>
      simp only [hg] at hs
      by_cases hx : name = "xmiID"
      · refine Or.inr ⟨rfl, hx, ?_⟩
        have hb : (name == "xmiID") = true := by simpa using hx
        simp only [hb, if_true] at hs
        cases v with
        | int i => simp only [Except.ok.injEq] at hs; exact ⟨some i, hs.symm⟩
        | none => simp only [Except.ok.injEq] at hs; exact ⟨Option.none, hs.symm⟩
        | _ => cases hs
      · have hb : (name == "xmiID") = false := by simpa using hx
        simp only [hb] at hs
        cases hs

theorem lt_length_of_getElem?_eq_some {α} {l : List α} {i : Nat} {x : α} (hx : l[i]? = some x) :
    i < l.length :=
  (List.getElem?_eq_some_iff.mp hx).1

end Cassis.Heap

namespace Cassis
open Cassis.TS

/-- the object `construct` makes: a slot per constructor field, the keyword's value or `None` -/
def constructed (t : TypeRec) (tsIdx : Nat) (xid : Option Int) (kw : List (String × Val)) : Obj :=
  { ty := t.name, ts := tsIdx, xid := xid,
    slots := (ctorFields t).eraseDups.map (fun n => (n, (alistGet? kw n).getD .none)) }

/-- **`construct` in normal form**: every keyword has to be a field -/
theorem construct_eq (t : TypeRec) (tsIdx : Nat) (xid : Option Int) (kw : List (String × Val)) :
    construct t tsIdx xid kw =
      if ∀ p ∈ kw, p.1 ∈ ctorFields t then .ok (constructed t tsIdx xid kw) else .error .typeError := by
  have e : (kw.any fun p => !((ctorFields t).eraseDups.contains p.1)) = true ↔ ¬ ∀ p ∈ kw, p.1 ∈ ctorFields t := by
    simp only [List.any_eq_true, Bool.not_eq_true', List.contains_eq_mem, decide_eq_false_iff_not, List.mem_eraseDups,
      Classical.not_forall, exists_prop]
  unfold construct
  by_cases h : ∀ p ∈ kw, p.1 ∈ ctorFields t
  · rw [if_pos h, if_neg (fun c => e.mp c h)]; rfl
  · rw [if_neg h, if_pos (e.mpr h)]

theorem construct_eq_ok {t : TypeRec} {tsIdx : Nat} {xid : Option Int} {kw : List (String × Val)} {o : Obj} :
    construct t tsIdx xid kw = .ok o ↔ (∀ p ∈ kw, p.1 ∈ ctorFields t) ∧ o = constructed t tsIdx xid kw := by
  rw [construct_eq]
  split
  · rename_i h; exact ⟨fun e => ⟨h, by cases e; rfl⟩, fun e => e.2 ▸ rfl⟩
  · rename_i h; exact ⟨nofun, fun e => absurd e.1 h⟩

theorem constructed_keys (t : TypeRec) (tsIdx : Nat) (xid : Option Int) (kw : List (String × Val)) :
    (constructed t tsIdx xid kw).slots.map (·.1) = (ctorFields t).eraseDups := by
  unfold constructed
  simp only [List.map_map]
  exact List.map_id' _

end Cassis

namespace Cassis.Traverse

theorem slot_eq {hp : Heap} {a : Nat} {ob : Obj} (hob : hp[a]? = some ob) (n : String) :
    slot hp a n = alistGet? ob.slots n := by
  unfold slot; rw [hob]; rfl

theorem slot_some {hp : Heap} {a : Nat} {n : String} {v : Val} (h : slot hp a n = some v) :
    ∃ o, hp[a]? = some o ∧ alistGet? o.slots n = some v := by
  unfold slot at h
  cases ho : hp[a]? with
  | none => rw [ho] at h; cases h
  | some o => rw [ho] at h; exact ⟨o, rfl, h⟩

theorem xidOf_eq {hp : Heap} {a : Nat} {ob : Obj} (hob : hp[a]? = some ob) : xidOf hp a = ob.xid := by
  unfold xidOf; rw [hob]; rfl

theorem xidOf_some {hp : Heap} {a : Nat} {x : Int} (h : xidOf hp a = some x) :
    ∃ ob, hp[a]? = some ob ∧ ob.xid = some x := by
  unfold xidOf at h
  cases hob : hp[a]? with
  | none => rw [hob] at h; cases h
  | some ob => rw [hob] at h; exact ⟨ob, rfl, h⟩

theorem slot_set_xid {hp : Heap} {a : Nat} {ob : Obj} (h : hp[a]? = some ob) (y : Option Int) (b : Nat)
    (n : String) : slot (hp.set a { ob with xid := y }) b n = slot hp b n := by
  unfold slot
  by_cases hab : a = b
  · subst hab
    rw [List.getElem?_set_self (List.getElem?_eq_some_iff.mp h).1, h]
    rfl
  · rw [List.getElem?_set_ne hab]

theorem xidOf_set_self {hp : Heap} {a : Nat} {ob : Obj} (h : hp[a]? = some ob) (y : Option Int) :
    xidOf (hp.set a { ob with xid := y }) a = y := by
  have hlt : a < hp.length := (List.getElem?_eq_some_iff.mp h).1
  unfold xidOf
  rw [List.getElem?_set_self hlt]
  rfl

theorem xidOf_set_ne {hp : Heap} {a b : Nat} (ob' : Obj) (hab : a ≠ b) :
    xidOf (hp.set a ob') b = xidOf hp b := by
  unfold xidOf
  rw [List.getElem?_set_ne hab]

end Cassis.Traverse
