/-
The members of a written view, for the third pass of both readers: a member id belongs to a collected structure
(`member_of_pview`), and the index of the loaded view gives the member ids back (`members_back`).
-/
import CassisModel.Proofs.RoundTripDefs
import CassisModel.Proofs.XmiCodec
import CassisModel.Properties.C14
import CassisModel.Proofs.Lists

namespace Cassis.Xmi.RTB
open Cassis.Traverse

/-- a member id of a view is the id of a collected structure that the old index holds -/
theorem member_of_pview {c : Cas} {H : Heap} {L : List (Int × Nat)}
    (hids : ∀ q ∈ L, xidOf H q.2 = some q.1 ∧ q.1 ≠ 0)
    (hmem : ∀ nv ∈ c.views, ∀ e ∈ Index.all nv.2.idx, ∃ x : Int, (x, e.oid) ∈ L)
    {nv : String × View} (hnv : nv ∈ c.views) {m : Int} (hm : m ∈ (pviewOf H nv).members) :
    ∃ e ∈ Index.all nv.2.idx, (m, e.oid) ∈ L := by
  obtain ⟨e, he, hx⟩ := List.mem_filterMap.mp (mem_sortInts.mp hm)
  obtain ⟨x, hx'⟩ := hmem nv hnv e he
  cases ((hids _ hx').1.symm.trans hx)
  exact ⟨e, he, hx'⟩

/-- the index of the loaded view holds the members of the written one at their new addresses, where they carry their
    ids: the loaded view has the member ids of the written one -/
theorem members_back {H HF : Heap} {na : Int → Nat} {nv : String × View} {idx' : Index.Idx}
    (hx : ∀ m ∈ (pviewOf H nv).members, xidOf HF (na m) = some m)
    (h : ((Index.all idx').map (·.oid)).Perm ((pviewOf H nv).members.map na)) :
    sortInts ((Index.all idx').filterMap (fun e => xidOf HF e.oid)) = (pviewOf H nv).members := by
  have e2 := h.filterMap (xidOf HF)
  rw [List.filterMap_map, List.filterMap_map, Det.filterMap_eq_map_of (xidOf HF ∘ na) id _ hx, List.map_id] at e2
  -- the members are themselves a `sortInts`
  exact sortInts_perm_invariant _ _ (e2.trans (sortInts_perm _))

end Cassis.Xmi.RTB
