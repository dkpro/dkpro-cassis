/-
The declaration lists of the C13 demos (`MergePermDemo`, `MergePermLeafDemo`, `MergePermSubtreeDemo`, `MergeFeatInvDemo`),
the Boolean tests of the hypotheses of the order-independence theorems, and everything that is evaluated on them, as ONE
statement `Facts.merge`: the kernel keeps what it has computed only within one declaration, and any evaluation over the
built-in type system first pays for decoding and comparing its type names.  One structure of named facts
(`Facts.<module>`) per module that uses them.
-/
import CassisModel.Spec.MergePermSub
import CassisModel.Spec.Features
import CassisModel.Proofs.Merge

namespace Cassis.TS

/-! ### `Proofs/MergePermDemo.lean` (`closedUserB` and `demoFeat` serve the later sections too) -/

/-- `ClosedDecls` (with the rank function as witness) and `UserDecls`: the first three conjuncts of `permHypsB`, and what
    `competeHypsB` and `subHypsB` begin with -/
def closedUserB (K : Consts) (rank : String → Nat) (decls : List Decl) : Bool :=
  decls.all (fun d => K.predefined.contains d.super || (decls.map (·.name)).contains d.super) &&
  decls.all (fun d => K.predefined.contains d.super || decide (rank d.super < rank d.name)) &&
  decls.all (fun d => !(K.predefined.contains d.name) && decide ('.' ∈ d.name.toList))

/-- Boolean test of the hypotheses of `merge_perm_one_super`, for a given rank function -/
def permHypsB (K : Consts) (rank : String → Nat) (decls : List Decl) : Bool :=
  decls.all (fun d => K.predefined.contains d.super || (decls.map (·.name)).contains d.super) &&
  decls.all (fun d => K.predefined.contains d.super || decide (rank d.super < rank d.name)) &&
  decls.all (fun d => !(K.predefined.contains d.name) && decide ('.' ∈ d.name.toList)) &&
  decls.all (fun d => decls.all (fun d' => d.name != d'.name || d.super == d'.super))

def demoRank (n : String) : Nat :=
  if n == "x.A" then 1 else if n == "x.B" then 2 else if n == DOCUMENT_ANNOTATION then 2 else 0

def demoFeat (n r : String) : Feature := { name := n, domain := "", range := r }

def demoP : List Decl := [
  { name := "x.A", super := ANNOTATION, own := [demoFeat "f" "uima.cas.Integer"] },
  { name := "x.B", super := "x.A", own := [demoFeat "g" "uima.cas.String"] },
  { name := DOCUMENT_ANNOTATION, super := "x.A", own := [demoFeat "h" "x.B"] },
  { name := "x.B", super := "x.A", own := [demoFeat "f" "uima.cas.Integer"] },
  { name := "x.A", super := ANNOTATION, descr := some "again", own := [demoFeat "k" "uima.cas.FSArray"] } ]

def demoQ : List Decl := demoP ++ [{ name := "x.B", super := "x.A", own := [demoFeat "f" "uima.cas.String"] }]

/-! ### `Proofs/MergeFeatInvDemo.lean`; `demoSub` also for `Proofs/MergePermSubtreeDemo.lean` and `Properties/C13PermSub.lean` -/

/-- `x.X` (children `x.Y`, `x.Z`; grandchild `x.W`) is declared below `uima.tcas.Annotation` and below `x.M2`
    (`x.M2 < x.M1 < uima.tcas.Annotation`); `x.Y` repeats `m2` of `x.M2`, `x.W` repeats `m1` of `x.M1` -/
def demoSub : List Decl := [
  { name := "x.M1", super := ANNOTATION, own := [demoFeat "m1" "uima.cas.Integer", demoFeat "c" "uima.cas.Integer"] },
  { name := "x.M2", super := "x.M1", own := [demoFeat "m2" "uima.cas.Integer"] },
  { name := "x.X", super := ANNOTATION, own := [demoFeat "x" "uima.cas.Integer"] },
  { name := "x.Y", super := "x.X", own := [demoFeat "y" "uima.cas.Integer", demoFeat "m2" "uima.cas.Integer"] },
  { name := "x.Z", super := "x.X", own := [demoFeat "z" "uima.cas.Integer"] },
  { name := "x.W", super := "x.Y", own := [demoFeat "w" "uima.cas.Integer", demoFeat "m1" "uima.cas.Integer"] },
  { name := "x.X", super := "x.M2", own := [demoFeat "x2" "uima.cas.Integer"] } ]

/-- `demoSub` with `x.W` defining `c` (a feature of `x.M1`) differently -/
def demoSubClash : List Decl :=
  demoSub ++ [{ name := "x.W", super := "x.Y", own := [demoFeat "c" "uima.cas.String"] }]

/-! ### `Proofs/MergePermLeafDemo.lean` -/

/-- Boolean test of the hypotheses of `merge_perm_leaf_compete`, for a given rank function -/
def competeHypsB (K : Consts) (rank : String → Nat) (decls : List Decl) : Bool :=
  closedUserB K rank decls &&
  decls.all (fun d => d.name != DOCUMENT_ANNOTATION || d.super == ANNOTATION) &&
  decls.all (fun d => decls.all (fun d' => d.name != d'.name || d.super == d'.super ||
    (decls.all (fun e => e.super != d.name) && !(K.finalTypes.contains d.super))))

def demoRankX (n : String) : Nat :=
  if n == "x.A" then 1 else if n == "x.B" then 2 else if n == "x.X" then 3 else 0

/-- `x.X` is declared below `x.A`, below its subtype `x.B` and below `uima.tcas.Annotation` -/
def demoX : List Decl := [
  { name := "x.A", super := ANNOTATION, own := [demoFeat "f" "uima.cas.Integer"] },
  { name := "x.X", super := "x.A", own := [demoFeat "g" "uima.cas.String"] },
  { name := "x.B", super := "x.A", own := [demoFeat "h" "x.X"] },
  { name := "x.X", super := "x.B", own := [demoFeat "f" "uima.cas.Integer"] },
  { name := "x.X", super := ANNOTATION, descr := some "again", own := [demoFeat "k" "uima.cas.FSArray"] } ]

/-- a pair of declarations the hypothesis on final types excludes -/
def demoFinal : List Decl := [{ name := "x.X", super := "uima.cas.ArrayBase" }, { name := "x.X", super := "uima.cas.IntegerArray" }]

/-! ### `Proofs/MergePermSubtreeDemo.lean` -/

/-- `StableCompete` from a certificate: a list `S` of names that contains every competing supertype, is closed under
    declared supertypes, and contains no name with competing supertypes -/
def stableCertB (decls : List Decl) (S : List String) : Bool :=
  decls.all (fun d => !(competingB decls d.name) || S.contains d.super) &&
  decls.all (fun e => !(S.contains e.name) || S.contains e.super) &&
  S.all (fun a => !(competingB decls a))

/-- Boolean test of the hypotheses of `merge_perm_subtree_compete`, for a given rank function and certificate -/
def subHypsB (K : Consts) (rank : String → Nat) (S : List String) (decls : List Decl) : Bool :=
  closedUserB K rank decls &&
  decls.all (fun d => d.name != DOCUMENT_ANNOTATION || d.super == ANNOTATION) &&
  decls.all (fun d => !(competingB decls d.name) || !(K.finalTypes.contains d.super)) &&
  stableCertB decls S

def demoSubRank (n : String) : Nat :=
  if n == "x.M1" then 1 else if n == "x.M2" then 2 else if n == "x.X" then 3 else if n == "x.Y" then 4
  else if n == "x.Z" then 4 else if n == "x.W" then 5 else 0

def demoSubCert : List String := [ANNOTATION, "x.M2", "x.M1"]

/-- `demoM6a ++ demoM6b` is the witness of finding M6 (`known_findings.json`): `x.A` is declared below `x.B` and below
    `uima.tcas.Annotation`; `x.C`, the declared supertype of `x.B`, is declared below `uima.cas.TOP` and below
    `uima.tcas.Annotation` -/
def demoM6a : List Decl := [{ name := "x.C", super := TOP }, { name := "x.B", super := "x.C" }, { name := "x.A", super := "x.B" }]

def demoM6b : List Decl := [{ name := "x.A", super := ANNOTATION }, { name := "x.C", super := ANNOTATION },
  { name := "x.B", super := "x.C" }]

end Cassis.TS

namespace Cassis.Facts
open Cassis.TS

structure MergePermDemo : Prop where
  hypsP : permHypsB Gen.consts demoRank demoP = true
  hypsQ : permHypsB Gen.consts demoRank demoQ = true
  mergeP : (mergeDeclsG pushS Gen.consts Gen.builtinTS demoP).toOption.isSome = true
  mergePrev : (mergeDeclsG pushS Gen.consts Gen.builtinTS demoP.reverse).toOption.isSome = true
  /-- the merge re-parents the document annotation type -/
  docAnnSuper : ((mergeDeclsG pushS Gen.consts Gen.builtinTS demoP).toOption.bind
    (fun ts => find? ts DOCUMENT_ANNOTATION)).map (·.super) = some (some "x.A")
  failsQ : (mergeDeclsG pushS Gen.consts Gen.builtinTS demoQ).toOption.isSome = false
  failsQrev : (mergeDeclsG pushS Gen.consts Gen.builtinTS demoQ.reverse).toOption.isSome = false

instance : Decidable MergePermDemo :=
  decidable_of_iff' _ ⟨fun s => And.intro s.hypsP <| And.intro s.hypsQ <| And.intro s.mergeP <| And.intro s.mergePrev <|
      And.intro s.docAnnSuper <| And.intro s.failsQ s.failsQrev,
    fun h => ⟨h.1, h.2.1, h.2.2.1, h.2.2.2.1, h.2.2.2.2.1, h.2.2.2.2.2.1, h.2.2.2.2.2.2⟩⟩

structure MergeFeatInvDemo : Prop where
  subX : ((mergeDeclsG pushS Gen.consts Gen.builtinTS demoSub).toOption.bind (fun ts => find? ts "x.X")).map
    (fun t => (t.super, t.children)) = some (some "x.M2", ["x.Y", "x.Z"])
  subW : ((mergeDeclsG pushS Gen.consts Gen.builtinTS demoSub).toOption.bind (fun ts => find? ts "x.W")).map
    (fun t => (fnames t.own, fnames t.inh)) =
      some (["w", "m1"], ["y", "m2", "x", "begin", "end", "sofa", "m1", "c", "x2"])
  mergeSubRev : (mergeDeclsG pushS Gen.consts Gen.builtinTS demoSub.reverse).toOption.isSome = true
  failsClash : (mergeDeclsG pushS Gen.consts Gen.builtinTS demoSubClash).toOption.isSome = false
  failsClashRev : (mergeDeclsG pushS Gen.consts Gen.builtinTS demoSubClash.reverse).toOption.isSome = false

instance : Decidable MergeFeatInvDemo :=
  decidable_of_iff' _ ⟨fun s => And.intro s.subX <| And.intro s.subW <| And.intro s.mergeSubRev <|
      And.intro s.failsClash s.failsClashRev,
    fun h => ⟨h.1, h.2.1, h.2.2.1, h.2.2.2.1, h.2.2.2.2⟩⟩

structure MergePermLeafDemo : Prop where
  hypsX : competeHypsB Gen.consts demoRankX demoX = true
  mergeX : (mergeDeclsG pushS Gen.consts Gen.builtinTS demoX).toOption.isSome = true
  mergeXrev : (mergeDeclsG pushS Gen.consts Gen.builtinTS demoX.reverse).toOption.isSome = true
  superX : ((mergeDeclsG pushS Gen.consts Gen.builtinTS demoX).toOption.bind (fun ts => find? ts "x.X")).map (·.super)
    = some (some "x.B")
  superXrev : ((mergeDeclsG pushS Gen.consts Gen.builtinTS demoX.reverse).toOption.bind
    (fun ts => find? ts "x.X")).map (·.super) = some (some "x.B")
  mergeFinal : (mergeDeclsG pushS Gen.consts Gen.builtinTS demoFinal).toOption.isSome = true
  failsFinalRev : (mergeDeclsG pushS Gen.consts Gen.builtinTS demoFinal.reverse).toOption.isSome = false

instance : Decidable MergePermLeafDemo :=
  decidable_of_iff' _ ⟨fun s => And.intro s.hypsX <| And.intro s.mergeX <| And.intro s.mergeXrev <| And.intro s.superX <|
      And.intro s.superXrev <| And.intro s.mergeFinal s.failsFinalRev,
    fun h => ⟨h.1, h.2.1, h.2.2.1, h.2.2.2.1, h.2.2.2.2.1, h.2.2.2.2.2.1, h.2.2.2.2.2.2⟩⟩

structure MergePermSubtreeDemo : Prop where
  hypsSub : subHypsB Gen.consts demoSubRank demoSubCert demoSub = true
  hypsClash : subHypsB Gen.consts demoSubRank demoSubCert demoSubClash = true
  /-- the order-dependent pair of finding M6 -/
  failsM6ab : (mergeDeclsG pushS Gen.consts Gen.builtinTS (demoM6a ++ demoM6b)).toOption.isSome = false
  mergeM6ba : (mergeDeclsG pushS Gen.consts Gen.builtinTS (demoM6b ++ demoM6a)).toOption.isSome = true

instance : Decidable MergePermSubtreeDemo :=
  decidable_of_iff' _ ⟨fun s => And.intro s.hypsSub <| And.intro s.hypsClash <| And.intro s.failsM6ab s.mergeM6ba,
    fun h => ⟨h.1, h.2.1, h.2.2.1, h.2.2.2⟩⟩

theorem merge : MergePermDemo ∧ MergeFeatInvDemo ∧ MergePermLeafDemo ∧ MergePermSubtreeDemo := by
  decide +kernel

end Cassis.Facts

namespace Cassis.TS

theorem mergePermDemo_evals : Facts.MergePermDemo := Facts.merge.1
theorem mergeFeatInvDemo_evals : Facts.MergeFeatInvDemo := Facts.merge.2.1
theorem mergePermLeafDemo_evals : Facts.MergePermLeafDemo := Facts.merge.2.2.1
theorem mergePermSubtreeDemo_evals : Facts.MergePermSubtreeDemo := Facts.merge.2.2.2

end Cassis.TS
