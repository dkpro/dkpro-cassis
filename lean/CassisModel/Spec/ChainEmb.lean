/-
Specification-side definition for C16 with the JSON-embedded type system, chain JSON → CAS → XMI → CAS
(`Properties/C16ChainEmbedded.lean`): what the XMI codec consults of a feature beyond what `SameTs` compares.

`SameTs` (`Spec/MergeSelf.lean`; the relation `json_full_ts_same` establishes between a type system and the type system
rebuilt from the `%TYPES` section of its FULL document) compares the effective features of a type up to `Feature.__eq__`:
name, description, range, element type.  It does not compare `multipleReferencesAllowed` — which decides whether the XMI
writer inlines an array / list or writes it as a structure of its own — nor the reserved-name flag (`self` / `type`).
-/
import CassisModel.Model.TypeSystem

namespace Cassis.ChainE
open Cassis.TS

/-- effective features of the same name under the same type name agree on the reserved-name flag and — when the range
    is an array or list type, the only case in which the codec looks at it — on `multipleReferencesAllowed` (absent =
    false).  Stated over the registries, so that it is decidable. -/
def MultiResAgree (K : Consts) (ts ts' : TypeSystem) : Prop :=
  ∀ t ∈ ts.types, ∀ t' ∈ ts'.types, t'.name = t.name → ∀ f ∈ allFeatures t, ∀ f' ∈ allFeatures t',
    f'.name = f.name → f'.reserved = f.reserved ∧
      ((isArray K f.range = true ∨ isList K f.range = true) → f'.multi.getD false = f.multi.getD false)

instance (K : Consts) (ts ts' : TypeSystem) : Decidable (MultiResAgree K ts ts') := by
  unfold MultiResAgree; infer_instance

/-- a sufficient condition on the ORIGINAL type system (`Proofs/ChainEmbProvenance.lean, Proofs/ChainEmbRebuiltFlags.lean`): own features of the same name, on
    whatever types (built-in types included), agree on the reserved-name flag, and on `multipleReferencesAllowed` as soon
    as one of them has an array or list range.  It excludes in particular that a type and one of its ancestors declare
    the same feature with different flags (`RedefDemo`). -/
def FlagCoherent (K : Consts) (ts : TypeSystem) : Prop :=
  ∀ t1 ∈ ts.types, ∀ t2 ∈ ts.types, ∀ g1 ∈ t1.own, ∀ g2 ∈ t2.own, g1.name = g2.name →
    g2.reserved = g1.reserved ∧
      ((isArray K g1.range = true ∨ isList K g1.range = true) → g2.multi.getD false = g1.multi.getD false)

instance (K : Consts) (ts : TypeSystem) : Decidable (FlagCoherent K ts) := by
  unfold FlagCoherent; infer_instance

end Cassis.ChainE
