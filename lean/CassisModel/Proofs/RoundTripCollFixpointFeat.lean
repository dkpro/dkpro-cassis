/-
Fixpoint of the XMI round trip with collections, per feature, in the setting `Loc` (`RoundTripCollContent.lean`: one
collected structure and its loaded counterpart, what a loaded slot holds, the targets): the loaded feature is in the
fragment again and rendered identically (`FeatNew`) — kind by kind along `CollFeat` (`feat_new`).  `fix_feat` puts this
together with `Loc.ft_fwd/ft_bwd` (`FeatFix`).
-/
import CassisModel.Proofs.RoundTripCollContent
import CassisModel.Proofs.RoundTripCollFixpointVals
import CassisModel.Proofs.RoundTripMoved

namespace Cassis.Xmi.CFX
open Cassis.TS Cassis.Traverse

/-- what the writer needs of the CAS on both sides -/
structure RCtx (cass cass' : List Cas) (c c' : Cas) (ci ci' : Nat) (hp H : Heap) (na : Int → Nat) (isAnn : Bool)
    (o : Obj) : Prop where
  hc : cass[ci]? = some c
  hc' : cass'[ci']? = some c'
  hwf : RTWf c hp
  hviews : ViewsRel H na c c'
  hann : isAnn = true → AnnOk c ci o

/-- feature `f` of the loaded structure against that of the written one: in the fragment again, rendered identically, and
    referring exactly to the counterparts of what the written feature refers to -/
structure FeatFix (K : Consts) (ts : TypeSystem) (cass cass' : List Cas) (c' : Cas) (ci' : Nat) (H hpL : Heap)
    (L : List (Int × Nat)) (na : Int → Nat) (a a' : Nat) (isAnn : Bool) (o o' : Obj) (f : Feature) : Prop where
  coll : CollFeat K ts c' ci' hpL isAnn o' f
  render : renderFeature K ts cass' hpL a' isAnn f = renderFeature K ts cass H a isAnn f
  fwd : ∀ b', CT.FT K hpL o' f b' → ∃ q' ∈ L, b' = na q'.1
  bwd : ∀ b x, CT.FT K H o f b → (x, b) ∈ L → CT.FT K hpL o' f (na x)

/-- the part of `FeatFix` that depends on the kind of the feature: in the fragment again, and — given what the writer
    needs of the two CASes — rendered identically -/
structure FeatNew (K : Consts) (ts : TypeSystem) (c c' : Cas) (ci ci' : Nat) (H hpL : Heap) (na : Int → Nat)
    (a a' : Nat) (isAnn : Bool) (o o' : Obj) (f : Feature) : Prop where
  coll : CollFeat K ts c' ci' hpL isAnn o' f
  render : ∀ {cass cass' : List Cas} {hp : Heap}, RCtx cass cass' c c' ci ci' hp H na isAnn o →
    renderFeature K ts cass' hpL a' isAnn f = renderFeature K ts cass H a isAnn f

section
variable {K : Consts} {ts : TypeSystem} {cass cass' : List Cas} {c c' : Cas} {ci ci' : Nat} {hp H hpL : Heap}
  {L : List (Int × Nat)} {na : Int → Nat} {ia : Int → String → Nat} {q : Int × Nat} {o o' : Obj} {t : TypeRec}
  {isAnn : Bool} {f : Feature}

/-! ### in the fragment again and rendered alike, kind by kind -/

theorem RCtx.annSofa (r : RCtx cass cass' c c' ci ci' hp H na isAnn o) : AnnSofa cass isAnn o := by
  intro h
  obtain ⟨vn, v, _, _, _, hs, hv, _⟩ := r.hann h
  exact ⟨ci, vn, v, hs, by rw [r.hc]; exact hv⟩

theorem RCtx.annSofa' (r : RCtx cass cass' c c' ci ci' hp H na isAnn o)
    (h : Loc K ts c ci H L na ia ci' hpL q o o' t) : AnnSofa cass' isAnn o' := by
  intro hA
  obtain ⟨vn, v, _, _, _, hs, hv, _⟩ := r.hann hA
  obtain ⟨v', hv', _⟩ := viewsRelL_get _ _ vn v r.hviews hv
  refine ⟨ci', vn, v', ?_, by rw [r.hc']; exact hv'⟩
  rw [h.hslots _ _ hs]; rfl

theorem ann_new (h : Loc K ts c ci H L na ia ci' hpL q o o' t) (hviews : ViewsRel H na c c')
    (hann : AnnOk c ci o) : AnnOk c' ci' o' :=
  hann.copy h.hslots (fun _ => rfl) (fun _ _ => rfl) (viewsRel_get_text hviews)

theorem render_unset (h : Loc K ts c ci H L na ia ci' hpL q o o' t) (hname : NameOk f)
    (hv : alistGet? o.slots f.name = some .none) :
    renderFeature K ts cass' hpL (na q.1) isAnn f = renderFeature K ts cass H q.2 isAnn f := by
  rw [renderFeature_none K ts cass' hpL _ isAnn f hname.2.1 hname.2.2.1 (by rw [Xmi.slot_of h.ho', h.none hv]; rfl),
    renderFeature_none K ts cass H _ isAnn f hname.2.1 hname.2.2.1 (by rw [Xmi.slot_of h.ho, hv]; rfl)]

theorem fix_flat (h : Loc K ts c ci H L na ia ci' hpL q o o' t) (hviews : ViewsRel H na c c')
    (hf : f ∈ allFeatures t) (hflat : FlatFeat K ts c ci H isAnn o f) :
    FeatNew K ts c c' ci ci' H hpL na q.2 (na q.1) isAnn o o' f := by
  -- the loaded value: a reference held by a flat feature is not inlined, so `E3c` is `exp3` here
  have hslot : ∀ w, alistGet? o.slots f.name = some w → alistGet? o'.slots f.name = some (exp3 H na ci' w) := by
    intro w hw
    have hp := hflat.plain hw
    rw [h.hslots _ _ hw, E3c_flat ⟨hp.2, fun b e => (CF.inlineSlot_eq h.ht h.kind.1 hf).trans (hp.1 b e)⟩]
  have href : ∀ b, alistGet? o.slots f.name = some (.ref b) →
      ∃ x, xidOf H b = some x ∧ xidOf hpL (na x) = some x ∧ x ≠ 0 := by
    intro b hb
    obtain ⟨x, h1, _, h3, h4, _⟩ := h.ref hf (CT.flat_ref_notInline hflat hb).2.2 hb
    exact ⟨x, h1, h3, h4⟩
  have hflat' : FlatFeat K ts c' ci' hpL isAnn o' f := flatFeat_new (viewsRel_get_text hviews) hflat hslot href
  refine ⟨.inl hflat', fun r => ?_⟩
  rw [renderFeature_flat K ts _ c' ci' hpL (na q.1) isAnn f o' r.hc' h.ho' hflat' (r.annSofa' h),
    renderFeature_flat K ts _ c ci H q.2 isAnn f o r.hc h.ho hflat r.annSofa,
    flatTok_new r.hc r.hc' r.hwf r.hviews (fun vn hs => by rw [h.hslots _ _ hs]; rfl) r.hann hflat hslot href]

theorem fix_shared (h : Loc K ts c ci H L na ia ci' hpL q o o' t)
    (hf : f ∈ allFeatures t) (hname : NameOk f) (hsh : SharedFeat K ts H o f) :
    FeatNew K ts c c' ci ci' H hpL na q.2 (na q.1) isAnn o o' f := by
  obtain ⟨hm, hal, hp, hb1, hb2, hb3, v, hv, hval⟩ := hsh
  have hni := CT.isInline_shared (K := K) hm
  rcases hval with rfl | ⟨b, rfl, hok⟩
  · exact ⟨.inr ⟨hname, .inl ⟨hm, hal, hp, hb1, hb2, hb3, .none, h.none hv, .inl rfl⟩⟩, fun _ => render_unset h hname hv⟩
  · obtain ⟨x, h1, h2, h3, h4, hv'⟩ := h.ref hf hni hv
    have hok' : RefOk hpL (na x) := refOk_new h3 h4
    refine ⟨.inr ⟨hname, .inl ⟨hm, hal, hp, hb1, hb2, hb3, .ref (na x), hv', .inr ⟨_, rfl, hok'⟩⟩⟩, fun r => ?_⟩
    rw [CG1.render_shared_ref K ts _ hpL _ isAnn f o' (na x) h.ho' hname hm hv' hok' hp ⟨hb1, hb2, hb3⟩
        (r.annSofa' h),
      CG1.render_shared_ref K ts _ H _ isAnn f o b h.ho hname hm hv hok hp ⟨hb1, hb2, hb3⟩ r.annSofa,
      idTok_new h1 h3]

theorem fix_primarr (h : Loc K ts c ci H L na ia ci' hpL q o o' t)
    (hf : f ∈ allFeatures t) (hname : NameOk f) (hm : f.multi.getD false = false) (hi : isInline K f = true) {v : Val}
    (hv : alistGet? o.slots f.name = some v) (hr : PrimArrTy f.range)
    (rk : RangeKind K ts f.range true false true false false false) (hvv : InlArr H (PrimElems f.range) v) :
    FeatNew K ts c c' ci ci' H hpL na q.2 (na q.1) isAnn o o' f := by
  rcases hvv with rfl | ⟨cc, ev, rfl, hev, hP⟩
  · exact ⟨.inr ⟨hname, .inr ⟨hm, .none, h.none hv, .inl ⟨hr, rk, .inl rfl⟩⟩⟩, fun _ => render_unset h hname hv⟩
  · obtain ⟨c1, hv', hat⟩ := h.arrAt hf hi rk.arr hv hev
    have hev' := slot_arrAt hat
    have hP' := primElems_exp H na hP
    obtain ⟨hne, s, hsp⟩ := CG1.showPrimArray_ok hP
    obtain ⟨hne', _, _⟩ := CG1.showPrimArray_ok hP'
    have hsp' : showPrimArray f.range (elemsExp H na ev) = .ok s := by rw [showPrimArray_exp H na hP, hsp]
    refine ⟨.inr ⟨hname, .inr ⟨hm, .ref c1, hv', .inl ⟨hr, rk, .inr ⟨c1, _, rfl, hev', hP'⟩⟩⟩⟩, fun r => ?_⟩
    rw [CG1.render_primarr K ts _ hpL _ isAnn f o' c1 _ s h.ho' hname hm hv' rk.strArr rk.strList rk.primArr
        hev' hne' hsp' (r.annSofa' h),
      CG1.render_primarr K ts _ H _ isAnn f o cc ev s h.ho hname hm hv rk.strArr rk.strList rk.primArr
        hev hne hsp r.annSofa]

theorem fix_strarr (h : Loc K ts c ci H L na ia ci' hpL q o o' t)
    (hf : f ∈ allFeatures t) (hname : NameOk f) (hm : f.multi.getD false = false) (hi : isInline K f = true) {v : Val}
    (hv : alistGet? o.slots f.name = some v) (hr : f.range = STRING_ARRAY)
    (rk : RangeKind K ts f.range true false true false true false) (hvv : InlArr H StrElems v) :
    FeatNew K ts c c' ci ci' H hpL na q.2 (na q.1) isAnn o o' f := by
  rcases hvv with rfl | ⟨cc, ev, rfl, hev, hP⟩
  · exact ⟨.inr ⟨hname, .inr ⟨hm, .none, h.none hv, .inr (.inl ⟨hr, rk, .inl rfl⟩)⟩⟩, fun _ => render_unset h hname hv⟩
  · obtain ⟨c1, hv', hat⟩ := h.arrAt hf hi rk.arr hv hev
    have hev' := slot_arrAt hat
    refine ⟨.inr ⟨hname, .inr ⟨hm, .ref c1, hv', .inr (.inl ⟨hr, rk, .inr ⟨c1, _, rfl, hev', strElems_exp H na hP⟩⟩)⟩⟩,
      @fun cass cass' _ r => ?_⟩
    have hempty : (ev = .refs [] ∨ ev = .strs []) →
        renderFeature K ts cass' hpL (na q.1) isAnn f = renderFeature K ts cass H q.2 isAnn f := by
      intro hemp
      have hemp' : elemsExp H na ev = .refs [] ∨ elemsExp H na ev = .strs [] := by
        rcases hemp with rfl | rfl <;> exact .inl rfl
      rw [CG1.render_strarr_empty K ts _ hpL _ isAnn f o' c1 _ h.ho' hname hm hv' rk.strArr hev' hemp'
          (r.annSofa' h),
        CG1.render_strarr_empty K ts _ H _ isAnn f o cc ev h.ho hname hm hv rk.strArr hev hemp r.annSofa]
    rcases hP with he | ⟨l, rfl⟩
    · exact hempty (.inl he)
    · cases l with
      | nil => exact hempty (.inr rfl)
      | cons e l =>
        have hev'' : slot hpL c1 "elements" = some (.strs ((e :: l).map normTxt)) := hev'
        rw [CG1.render_strarr_cons K ts _ hpL _ isAnn f o' c1 _ h.ho' hname hm hv' rk.strArr hev''
            (by simp) (r.annSofa' h),
          CG1.render_strarr_cons K ts _ H _ isAnn f o cc _ h.ho hname hm hv rk.strArr hev (List.cons_ne_nil _ _)
            r.annSofa]
        rw [List.map_map]
        congr 2
        apply List.map_congr_left
        intro e' _
        simp only [Function.comp, normTxt_idem]

theorem fix_fsarr (h : Loc K ts c ci H L na ia ci' hpL q o o' t)
    (hf : f ∈ allFeatures t) (hname : NameOk f) (hm : f.multi.getD false = false) (hi : isInline K f = true) {v : Val}
    (hv : alistGet? o.slots f.name = some v) (hr : f.range = FS_ARRAY)
    (rk : RangeKind K ts f.range false false true false false false) (hvv : InlArr H (FsElems H) v) :
    FeatNew K ts c c' ci ci' H hpL na q.2 (na q.1) isAnn o o' f := by
  rcases hvv with rfl | ⟨cc, ev, rfl, hev, l, rfl, hok⟩
  · exact ⟨.inr ⟨hname, .inr ⟨hm, .none, h.none hv, .inr (.inr (.inl ⟨hr, rk, .inl rfl⟩))⟩⟩,
      fun _ => render_unset h hname hv⟩
  · obtain ⟨c1, hv', hat⟩ := h.arrAt hf hi rk.arr hv hev
    have hev' := slot_arrAt hat
    have hres : Resolved H hpL L na l := fun b hb =>
      h.res ⟨o, t, h.ho, h.ht, .inr (.inl ⟨f, hf, hi, hr, cc, l.map some, hv, hev, List.mem_map_of_mem hb⟩)⟩
    obtain ⟨hok', htok⟩ := hres.new
    rw [fs_exp H na l (fun b hb => (hres b hb).imp (fun x hx => hx.1))] at hev'
    refine ⟨.inr ⟨hname, .inr ⟨hm, .ref c1, hv', .inr (.inr (.inl ⟨hr, rk,
      .inr ⟨c1, _, rfl, hev', _, rfl, hok'⟩⟩))⟩⟩, fun r => ?_⟩
    rw [CG1.render_fsarr K ts _ hpL _ isAnn f o' c1 _ _ h.ho' hname hm hv' rk.strArr rk.strList rk.primArr
        rk.primList hr hev' (CG1.refIds_ok hpL _ hok') (r.annSofa' h),
      CG1.render_fsarr K ts _ H _ isAnn f o cc _ _ h.ho hname hm hv rk.strArr rk.strList rk.primArr
        rk.primList hr hev (CG1.refIds_ok H l hok) r.annSofa, htok]

theorem fix_primlist (h : Loc K ts c ci H L na ia ci' hpL q o o' t)
    (hf : f ∈ allFeatures t) (hname : NameOk f) (hm : f.multi.getD false = false) (hi : isInline K f = true) {v : Val}
    (hv : alistGet? o.slots f.name = some v)
    (rk : RangeKind K ts f.range false true false true false false) {P : List Val → Prop}
    (hvv : InlList H P v)
    (hprim : ∀ hs, P hs → ∀ x ∈ hs, (∃ i : Int, x = .int i) ∨ (∃ t : String, x = .float t))
    (mk : ∀ w, alistGet? o'.slots f.name = some w → InlList hpL P w → InlineFeat K ts hpL o' f) :
    FeatNew K ts c c' ci ci' H hpL na q.2 (na q.1) isAnn o o' f := by
  rcases hvv with rfl | ⟨cc, hs, rfl, hcl, hP⟩
  · exact ⟨.inr ⟨hname, .inr (mk _ (h.none hv) (.inl rfl))⟩, fun _ => render_unset h hname hv⟩
  · obtain ⟨c1, hv', _, hcl'⟩ := h.listAt hf hi rk.arr hv hcl
    rw [headExp_prim H na hs (hprim hs hP)] at hcl'
    have htoks : hs.mapM showPrim = .ok (hs.map CG1.primTok) :=
      Det.mapM_ok_of_forall _ _ hs (by
        intro x hx
        rcases hprim hs hP x hx with ⟨i, rfl⟩ | ⟨t', rfl⟩ <;> rfl)
    refine ⟨.inr ⟨hname, .inr (mk _ hv' (.inr ⟨c1, hs, rfl, hcl', hP⟩))⟩, fun r => ?_⟩
    rw [CG1.render_primlist K ts _ hpL _ isAnn f o' c1 hs _ h.ho' hname hm hv' rk.strArr rk.strList rk.primArr
        rk.primList hcl' htoks (r.annSofa' h),
      CG1.render_primlist K ts _ H _ isAnn f o cc hs _ h.ho hname hm hv rk.strArr rk.strList rk.primArr
        rk.primList hcl htoks r.annSofa]

theorem fix_strlist (h : Loc K ts c ci H L na ia ci' hpL q o o' t)
    (hf : f ∈ allFeatures t) (hname : NameOk f) (hm : f.multi.getD false = false) (hi : isInline K f = true) {v : Val}
    (hv : alistGet? o.slots f.name = some v) (hr : f.range = STRING_LIST)
    (rk : RangeKind K ts f.range false true false true false true)
    (hvv : InlList H (fun hs => hs ≠ [] ∧ ∀ h ∈ hs, h = .none ∨ ∃ s : String, h = .str s) v) :
    FeatNew K ts c c' ci ci' H hpL na q.2 (na q.1) isAnn o o' f := by
  rcases hvv with rfl | ⟨cc, hs, rfl, hcl, hne, hP⟩
  · exact ⟨.inr ⟨hname, .inr ⟨hm, .none, h.none hv, .inr (.inr (.inr (.inr (.inr (.inl ⟨hr, rk, .inl rfl⟩)))))⟩⟩,
      fun _ => render_unset h hname hv⟩
  · obtain ⟨c1, hv', _, hcl'⟩ := h.listAt hf hi rk.arr hv hcl
    rw [headExp_strs H na hs hP] at hcl'
    have hP' : ∀ x ∈ hs.map strHead, x = .none ∨ ∃ s : String, x = .str s := by
      intro x hx
      obtain ⟨y, hy, rfl⟩ := List.mem_map.mp hx
      exact strHead_ok y (hP y hy)
    have hne' : hs.map strHead ≠ [] := fun e => hne (List.map_eq_nil_iff.mp e)
    refine ⟨.inr ⟨hname, .inr ⟨hm, .ref c1, hv', .inr (.inr (.inr (.inr (.inr (.inl
      ⟨hr, rk, .inr ⟨c1, _, rfl, hcl', hne', hP'⟩⟩)))))⟩⟩, fun r => ?_⟩
    rw [CG1.render_strlist K ts _ hpL _ isAnn f o' c1 _ h.ho' hname hm hv' rk.strArr rk.strList hcl' hP'
        (r.annSofa' h),
      CG1.render_strlist K ts _ H _ isAnn f o cc hs h.ho hname hm hv rk.strArr rk.strList hcl hP r.annSofa]
    rw [List.map_map]
    congr 2
    apply List.map_congr_left
    intro x _
    simp only [Function.comp, kidTxt_strHead]

theorem fix_fslist (h : Loc K ts c ci H L na ia ci' hpL q o o' t)
    (hf : f ∈ allFeatures t) (hname : NameOk f) (hm : f.multi.getD false = false) (hi : isInline K f = true) {v : Val}
    (hv : alistGet? o.slots f.name = some v) (hr : f.range = FS_LIST)
    (rk : RangeKind K ts f.range false false false true false false)
    (hvv : InlList H (fun hs => ∀ h ∈ hs, ∃ b : Nat, h = .ref b ∧ RefOk H b) v) :
    FeatNew K ts c c' ci ci' H hpL na q.2 (na q.1) isAnn o o' f := by
  rcases hvv with rfl | ⟨cc, hs, rfl, hcl, hP⟩
  · exact ⟨.inr ⟨hname, .inr ⟨hm, .none, h.none hv, .inr (.inr (.inr (.inr (.inr (.inr ⟨hr, rk, .inl rfl⟩)))))⟩⟩,
      fun _ => render_unset h hname hv⟩
  · obtain ⟨bs, rfl, _⟩ := Det.exists_eq_map hP
    obtain ⟨c1, hv', _, hcl'⟩ := h.listAt hf hi rk.arr hv hcl
    have hres : Resolved H hpL L na bs := fun b hb =>
      h.res ⟨o, t, h.ho, h.ht, .inr (.inr (.inl ⟨f, hf, hi, hr, cc, bs.map Val.ref, hv, hcl,
        List.mem_map_of_mem hb⟩))⟩
    obtain ⟨hok', htok⟩ := hres.new
    rw [headExp_refs H na bs (fun b hb => (hres b hb).imp (fun x hx => hx.1))] at hcl'
    have hP' : ∀ x ∈ (bs.map (fun b => na (CAR.idOf H b))).map Val.ref, ∃ b : Nat, x = .ref b ∧ RefOk hpL b := by
      intro x hx
      obtain ⟨b', hb', rfl⟩ := List.mem_map.mp hx
      exact ⟨b', rfl, hok' b' hb'⟩
    refine ⟨.inr ⟨hname, .inr ⟨hm, .ref c1, hv', .inr (.inr (.inr (.inr (.inr (.inr
      ⟨hr, rk, .inr ⟨c1, _, rfl, hcl', hP'⟩⟩)))))⟩⟩, fun r => ?_⟩
    rw [CG1.render_fslist K ts _ hpL _ isAnn f o' c1 _ h.ho' hname hm hv' rk.strArr rk.strList rk.primArr
        rk.primList hr hcl' hP' (r.annSofa' h),
      CG1.render_fslist K ts _ H _ isAnn f o cc _ h.ho hname hm hv rk.strArr rk.strList rk.primArr
        rk.primList hr hcl hP r.annSofa]
    have htok' : ((bs.map (fun b => na (CAR.idOf H b))).map Val.ref).map (CG1.refTok hpL)
        = (bs.map Val.ref).map (CG1.refTok H) := by
      simp only [List.map_map] at htok ⊢; exact htok
    rw [htok']

theorem feat_new (h : Loc K ts c ci H L na ia ci' hpL q o o' t) (hviews : ViewsRel H na c c')
    (hf : f ∈ allFeatures t) (hcf : CollFeat K ts c ci H isAnn o f) :
    FeatNew K ts c c' ci ci' H hpL na q.2 (na q.1) isAnn o o' f := by
  rcases hcf with hflat | ⟨hname, hsh | hinl⟩
  · exact fix_flat h hviews hf hflat
  · exact fix_shared h hf hname hsh
  · have hi := hinl.isInline
    obtain ⟨hm, v, hv, hcase⟩ := hinl
    rcases hcase with ⟨hr, rk, hvv⟩ | ⟨hr, rk, hvv⟩ | ⟨hr, rk, hvv⟩ | ⟨hr, rk, hvv⟩ | ⟨hr, rk, hvv⟩ | ⟨hr, rk, hvv⟩ |
      ⟨hr, rk, hvv⟩
    · exact fix_primarr h hf hname hm hi hv hr rk hvv
    · exact fix_strarr h hf hname hm hi hv hr rk hvv
    · exact fix_fsarr h hf hname hm hi hv hr rk hvv
    · exact fix_primlist h hf hname hm hi hv rk hvv (fun hs hP x hx => .inl (hP x hx))
        (fun w hw hil => ⟨hm, w, hw, .inr (.inr (.inr (.inl ⟨hr, rk, hil⟩)))⟩)
    · exact fix_primlist h hf hname hm hi hv rk hvv (fun hs hP x hx => .inr ((hP x hx).imp (fun t' ht' => ht'.1)))
        (fun w hw hil => ⟨hm, w, hw, .inr (.inr (.inr (.inr (.inl ⟨hr, rk, hil⟩))))⟩)
    · exact fix_strlist h hf hname hm hi hv hr rk hvv
    · exact fix_fslist h hf hname hm hi hv hr rk hvv

theorem fix_feat (h : Loc K ts c ci H L na ia ci' hpL q o o' t)
    (r : RCtx cass cass' c c' ci ci' hp H na isAnn o)
    (hf : f ∈ allFeatures t) (hcf : CollFeat K ts c ci H isAnn o f) :
    FeatFix K ts cass cass' c' ci' H hpL L na q.2 (na q.1) isAnn o o' f :=
  have n := feat_new (isAnn := isAnn) h r.hviews hf hcf
  ⟨n.coll, n.render r, fun _ hb' => h.ft_fwd hf hb',
    fun _ _ hb hx => h.ft_bwd hf hb hx⟩

end

end Cassis.Xmi.CFX
