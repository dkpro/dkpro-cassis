/-
Specification-side definitions for order independence of `merge_typesystems` (C13) with names declared
with competing supertypes (`Properties/C13Perm.lean`).
-/
import CassisModel.Spec.MergePerm

namespace Cassis.TS

/-- `n` is declared with (at least) two different supertypes -/
def Competing (decls : List Decl) (n : String) : Prop :=
  ∃ d ∈ decls, ∃ d' ∈ decls, d.name = n ∧ d'.name = n ∧ d.super ≠ d'.super

/-- a name declared with competing supertypes has no declared subtype.  Consequently every declared *supertype* — in
    particular every competing supertype and every ancestor of one — is declared with one supertype throughout, so it
    sits at its final place as soon as it is registered and `subsumes` on the partially merged tree agrees with the
    final tree.  (Finding M6 needs a name with competing supertypes that has a declared subtype: there `x.C` competes
    for `uima.cas.TOP` / `uima.tcas.Annotation` and is the supertype of `x.B`.) -/
def LeafCompete (decls : List Decl) : Prop :=
  ∀ n, Competing decls n → ∀ e ∈ decls, e.super ≠ n

/-- no competing supertype is inheritance final (inputs built through the API never declare a type below a final one;
    the re-parenting branch does not check this, `create_type` does) -/
def CompeteNonFinal (K : Consts) (decls : List Decl) : Prop :=
  ∀ d ∈ decls, Competing decls d.name → K.finalTypes.contains d.super = false

/-- the declarations of the document annotation type agree with what a fresh type system registers -/
def BaseAgree (decls : List Decl) : Prop :=
  ∀ d ∈ decls, d.name = DOCUMENT_ANNOTATION → d.super = ANNOTATION

end Cassis.TS
