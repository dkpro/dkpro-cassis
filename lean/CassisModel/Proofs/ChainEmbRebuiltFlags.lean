/-
C16 with an embedded type system: the type system `loadTs` rebuilds from the `%TYPES` section agrees with the original on
`multipleReferencesAllowed` and the reserved flag (`MultiResAgree`) — what the chain JSON → CAS → XMI → CAS needs beyond
`json_full_ts_same` — when the original `o` is API-built and `FlagCoherent` (`Spec/ChainEmb.lean`; decidable, about the
ORIGINAL type system only).

Proof: every effective feature of `o` IS an own feature of some type of `o` (`InhAnc`, from the history); every feature
record of the rebuilt type system is LIKE an own feature of `o` (`RecsP (LikeIn o)`, carried through the reader of the
`%TYPES` section and the merge: `loadTs_recs`); `FlagCoherent` compares the two.

Under the LOCAL condition `FlagCoherentChain` (`Spec/ChainEmbLocal.lean`; the lemmas behind `multiRes_of_flagCoherentChain`,
`Properties/C16ChainEmbedded3.lean`), `MultiResAgree o m` follows from `FlagCoherentChain o` and a provenance invariant that
knows the ANCESTOR relation:
* `InhAnc`: every inherited record of a type is an own record of a strict ancestor (in `o` and in `m`),
* `OwnLike o m`: every own record of a type of `m` agrees in name, `multipleReferencesAllowed` and reserved flag with
  an own record of the type of `o` of the same name,
* `SameTs o m`, `Consistent`, `FeatInv o`.
The step (`like_anc`): in a `FlagCoherentChain` type system an effective feature agrees with every own record of the same
name of every ancestor.
-/
import CassisModel.Proofs.ChainEmbProvenance
import CassisModel.Proofs.EmbeddedTs
import CassisModel.Spec.ChainEmb
import CassisModel.Properties.C11
import CassisModel.Spec.ChainEmbLocal
import CassisModel.Proofs.ChainEmbTsLe

namespace Cassis.ChainE
open Cassis.TS Cassis.Json

theorem multiRes_of_like {o m : TypeSystem} (ho : InhAnc o) (hm : RecsP (LikeIn o) m)
    (hfc : FlagCoherent Gen.consts o) : MultiResAgree Gen.consts o m := by
  intro t ht t' ht' _ f hf f' hf' hn
  obtain ⟨t1, ht1, hf1⟩ := ho.ownIn_rec ht (allFeatures_sub hf)
  obtain ⟨g, ⟨t2, ht2, hg2⟩, k1, k2, k3⟩ := hm.all ht' hf'
  obtain ⟨c1, c2⟩ := hfc t1 ht1 t2 ht2 f hf1 g hg2 (by rw [← k1, hn])
  exact ⟨by rw [k3, c1], fun hc => by rw [k2, c2 hc]⟩

/-- `R`: the written records of `o` — all user records in a FULL document, the closure of the used types in a MINIMAL one -/
theorem multiRes_of_recs {o m : TypeSystem} (ho : UserBuilt o) (hw : Writable Gen.consts o)
    (hpc : NoPercentNames o) (hfc : FlagCoherent Gen.consts o) {R : List TypeRec}
    (hR : RecsOk o R) {doc : JDoc} (hdoc : doc.types = some (R.map (renderTypeDecl0 Gen.consts)))
    (hl : loadTs Gen.consts Gen.builtinTS true doc = .ok m) : MultiResAgree Gen.consts o m := by
  obtain ⟨_, m', hl', _, _, _, _, hlike⟩ := loadTs_recs ho hw hpc hR hdoc
  cases hl.symm.trans hl'
  exact multiRes_of_like ho.inhAnc hlike hfc

end Cassis.ChainE

namespace Cassis.ChainE
open Cassis.TS

/-- own records of `m` are like own records of the type of `o` of the same name -/
def OwnLike (o m : TypeSystem) : Prop :=
  ∀ t' ∈ m.types, ∀ r ∈ t'.own, ∃ t, find? o t'.name = some t ∧
    ∃ g ∈ t.own, r.name = g.name ∧ r.multi = g.multi ∧ r.reserved = g.reserved

theorem like_own_inh {K : Consts} {o : TypeSystem} (hfo : FeatInv o) (hfc : FlagCoherentChain K o) {t : TypeRec}
    (ht : t ∈ o.types) {g h : Feature} (hg : g ∈ t.own) (hh : h ∈ t.inh) (e : h.name = g.name) : FeatLike K g h := by
  obtain ⟨c1, c2⟩ := hfc t ht g hg h hh e
  have := (featureEq_iff g h).mp (hfo.compat t ht g hg h hh e.symm)
  exact ⟨e, this.2.2.1.symm, c2, c1⟩

/-- **in a `FlagCoherentChain` type system, an effective feature agrees with every own record of the same name of
    every ancestor** -/
theorem like_anc {K : Consts} {o : TypeSystem} (hco : Consistent o) (hfo : FeatInv o) (hao : InhAnc o)
    (hfc : FlagCoherentChain K o) : ∀ t ∈ o.types,
    ∀ f ∈ allFeatures t, ∀ a ta, Anc o a t.name → find? o a = some ta →
      ∀ g ∈ ta.own, g.name = f.name → FeatLike K g f := by
  suffices h : ∀ b, hasExact o b = true → ∀ t, find? o b = some t → ∀ f ∈ allFeatures t, ∀ a ta, Anc o a b →
      find? o a = some ta → ∀ g ∈ ta.own, g.name = f.name → FeatLike K g f from
    fun t ht => h t.name ((hasExact_iff_mem o _).mpr (List.mem_map_of_mem ht)) t (find?_of_mem hco.nodup ht)
  refine hco.rec_up fun b t hfb ih t' ht' f hf a ta hab hta g hg hn => ?_
  rw [hfb] at ht'; cases ht'
  have htm : t ∈ o.types := find?_mem hfb
  have hfm := List.mem_append.mp (allFeatures_sub hf)
  by_cases hne : a = b
  · -- `g` is an own record of the type itself
    rw [hne, hfb] at hta; cases hta
    rcases hfm with h0 | h0
    · rw [Det.inj_of_nodup_map Feature.name _ (hfo.ownNodup _ htm) h0 hg hn.symm]; exact .refl K g
    · exact like_own_inh hfo hfc htm hg h0 hn.symm
  · -- `g` is an own record of a strict ancestor
    cases hsup : t.super with
    | none => exact absurd hab (not_anc_of_root hfb hsup hne)
    | some s =>
      have has : Anc o a s := (anc_step_iff hfb hsup hne).mp hab
      obtain ⟨ps, hps⟩ := (hasExact_iff_find o s).mp has.right_reg
      -- the effective feature of that name of the supertype
      have hne' : f.name ∈ fnames (allFeatures ps) := by
        apply inherited_down o hfo a s ta _ has hta hps
        rw [mem_fnames_allFeatures]
        exact Or.inl (mem_fnames.mpr ⟨g, hg, hn⟩)
      obtain ⟨e, he, hen⟩ := mem_fnames.mp hne'
      have heg : FeatLike K g e := ih s hsup ps hps e he a ta has hta g hg (hn.trans hen.symm)
      -- the inherited record of that name
      have hni : f.name ∈ fnames t.inh := by
        rw [hfo.inherit _ htm s _ hsup hps]; exact hne'
      obtain ⟨h, hh, hhn⟩ := mem_fnames.mp hni
      obtain ⟨c, tc, hcne, hcb, hfc', hhc⟩ := hao _ htm h hh
      rw [find?_name hfb] at hcne hcb
      have hcs : Anc o c s := (anc_step_iff hfb hsup hcne).mp hcb
      have heh : FeatLike K h e := ih s hsup ps hps e he c tc hcs hfc' h hhc (hhn.trans hen.symm)
      have hhg : FeatLike K g h := heg.trans heh.symm
      rcases hfm with h0 | h0
      · exact hhg.trans (like_own_inh hfo hfc htm h0 hh hhn).symm
      · rw [Det.inj_of_nodup_map Feature.name _ (hfo.inhNodup _ htm) h0 hh hhn.symm]; exact hhg

end Cassis.ChainE
