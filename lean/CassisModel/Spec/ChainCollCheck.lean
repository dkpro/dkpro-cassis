/-
C16 with collections: the conversion chain XMI → CAS → JSON → CAS evaluated on the model, a computable test for the
hypotheses of `chain_xmi_json_coll` (`Properties/C16ChainColl.lean`), and the two evaluated counterexamples that
force the hypotheses `harr` (array objects carry an element list, (J1) of `Spec/RoundTripJsonCollFrag.lean`) and `htys`
(`CollTypesOk`, `Spec/ChainCollFrag.lean`).

This file imports specification files only.
-/
import CassisModel.Spec.ChainCollFrag
import CassisModel.Spec.RoundTripJsonCollCheck

namespace Cassis.Json
open Cassis.TS Cassis.Traverse Cassis.Xmi

/-- the features of the structures collected by the first writer whose content differs at the end of the chain
    `saveXmi` / `loadXmi` / `saveJson … .none` / `loadJson … false false` (`none`: the structure is missing or of another
    type; `(0, "views")`: the views differ); `.error`: a writer or a reader raised.  The id map of the last reader is
    recomputed with its first two passes. -/
def chainDiffsXJ (K : Consts) (ts : TypeSystem) (cass : List Cas) (ci : Nat) (hp : Heap) (tsIdx : Nat) :
    Except Err (List (Int × Option String)) := do
  let (doc, st) ← saveXmi K ts cass ci hp
  let ld1 ← loadXmi K ts tsIdx cass.length false st.heap doc
  let (docj, st2) ← saveJson K ts (cass ++ [ld1.cas]) cass.length ld1.heap .none
  let s1 ← sofaPass K ts tsIdx (cass.length + 1) docj.fss docj.fss { cas := Cas.empty, heap := st2.heap }
  let s ← fsPass K ts tsIdx docj.fss s1
  let ld ← loadJson K ts tsIdx (cass.length + 1) false false st2.heap docj
  let c ← match cass[ci]? with | some c => pure c | none => throw .keyError
  let viewsOk := decide (ld.cas.views.map (viewContent ld.heap) = c.views.map (viewContent st.heap))
  let ds := st.allFs.flatMap (fun q =>
    match lookup s.fss q.1, st.heap[q.2]? with
    | some (.ref a'), some o =>
      match ld.heap[a']?, find? ts o.ty with
      | some o', some t =>
        if o'.ty == o.ty && o'.xid == some q.1 then
          (allFeatures t).filterMap (fun f =>
            if CVal.beq (featContentC K ld.heap a' f) (featContentC K st.heap q.2 f) then none else some (q.1, some f.name))
        else [(q.1, none)]
      | _, _ => [(q.1, none)]
    | _, _ => [(q.1, none)])
  pure (if viewsOk then ds else (0, some "views") :: ds)

/-- hypothesis `hsr`: a feature named `sofa` that holds a value has a range the JSON writer takes for a reference -/
def sofaRangeB (K : Consts) (ts : TypeSystem) (hp : Heap) (a : Nat) : Bool :=
  match hp[a]? with
  | none => true
  | some o =>
    match find? ts o.ty with
    | none => true
    | some t =>
      (allFeatures t).all (fun f => decide (f.name ≠ "sofa") ||
        decide ((alistGet? o.slots f.name).getD .none = .none) ||
        (decide (f.range ≠ "uima.cas.Double") && decide (f.range ≠ "uima.cas.Float") && !isPrimitive K ts f.range))

/-- hypothesis `harr` (`ArrElemsSome`) -/
def arrElemsSomeB (hp : Heap) (a : Nat) : Bool :=
  match hp[a]? with
  | none => true
  | some o => decide (o.slots ≠ [("elements", Val.none)])

/-- the hypotheses of `chain_xmi_json_coll` without `harr` and `htys` -/
def chainBaseB (K : Consts) (ts : TypeSystem) (cass : List Cas) (ci : Nat) (hp : Heap) : Bool :=
  collAppliesB K ts cass ci hp &&
  match saveXmi K ts cass ci hp with
  | .error _ => false
  | .ok (_, st) => st.allFs.all (fun q => jsonOkB ts st.heap q.2 && sofaRangeB K ts st.heap q.2)

/-- every hypothesis of `chain_xmi_json_coll` holds for the CAS `cass[ci]` over the heap `hp` -/
def chainCollAppliesB (K : Consts) (ts : TypeSystem) (cass : List Cas) (ci : Nat) (hp : Heap) : Bool :=
  chainBaseB K ts cass ci hp && collTypesOkB K ts &&
  match saveXmi K ts cass ci hp with
  | .error _ => false
  | .ok (_, st) => st.allFs.all (fun q => arrElemsSomeB st.heap q.2)

/-! ### the converse chain JSON → CAS → XMI → CAS -/

/-- the features of the structures the XMI writer collects from the CAS written first (`stx`) whose content differs at
    the end of the chain `saveJson … .none` / `loadJson … false false` / `saveXmi` / `loadXmi`; the two numbers are the
    numbers of structures collected by the JSON writer and by the XMI writer -/
def chainDiffsJX (K : Consts) (ts : TypeSystem) (cass : List Cas) (ci : Nat) (hp : Heap) (tsIdx : Nat) :
    Except Err (List (Int × Option String) × Nat × Nat) := do
  let (docj, st) ← saveJson K ts cass ci hp .none
  let ld1 ← loadJson K ts tsIdx cass.length false false st.heap docj
  let (docx, st2) ← saveXmi K ts (cass ++ [ld1.cas]) cass.length ld1.heap
  let p2 ← pass1 K ts tsIdx false docx { heap := st2.heap }
  let ld ← loadXmi K ts tsIdx (cass.length + 1) false st2.heap docx
  let c ← match cass[ci]? with | some c => pure c | none => throw .keyError
  let stx ← findAllFs K ts {} st.heap c.nextXid (defaultSeeds c)
  let viewsOk := decide (ld.cas.views.map (viewContent ld.heap) = c.views.map (viewContent st.heap))
  let ds := stx.allFs.flatMap (fun q =>
    match lookupFs p2.fss q.1, st.heap[q.2]? with
    | .ok a', some o =>
      match ld.heap[a']?, find? ts o.ty with
      | some o', some t =>
        if o'.ty == o.ty && o'.xid == some q.1 then
          (allFeatures t).filterMap (fun f =>
            if CVal.beq (featContentC K ld.heap a' f) (featContentC K st.heap q.2 f) then none else some (q.1, some f.name))
        else [(q.1, none)]
      | _, _ => [(q.1, none)]
    | _, _ => [(q.1, none)])
  pure (if viewsOk then ds else (0, some "views") :: ds, st.allFs.length, stx.allFs.length)

/-- every hypothesis of `chain_json_xmi_coll` holds for the CAS `cass[ci]` over the heap `hp` -/
def chainJXAppliesB (K : Consts) (ts : TypeSystem) (cass : List Cas) (ci : Nat) (hp : Heap) : Bool :=
  match cass[ci]? with
  | none => false
  | some c =>
    match saveJson K ts cass ci hp .none with
    | .error _ => false
    | .ok (_, st) =>
      rtWfB c hp && nullOkB ts &&
      st.allFs.all (fun q => collFsB K ts c ci st.heap q.2 && jsonOkB ts st.heap q.2 && arrElemsSomeB st.heap q.2) &&
      memberIdsB c hp && disjointB st.allFs c && memSofaB c st.heap && membersOkB c st.heap &&
      match findAllFs K ts {} st.heap c.nextXid (defaultSeeds c) with
      | .ok _ => true
      | .error _ => false

/-! ## The instance `CollDemo` and its variations -/

namespace ChainDemo
open Cassis.Xmi.CollDemo Cassis.Xmi.ResDemo

/-- `run ts h` = (the hypotheses other than `harr` / `htys`, all hypotheses, the differences at the end of the
    chain) on the demo CAS over the heap `h` with the type system `ts` -/
def run (ts' : TypeSystem) (h : Heap) : Bool × Bool × String :=
  (chainBaseB K ts' [cas] 0 h, chainCollAppliesB K ts' [cas] 0 h, showDiffs (chainDiffsXJ K ts' [cas] 0 h 0))

/-- the instance itself: `(true, true, "ok []")` -/
def ok_demo := run ts hp

/-- **counterexample for `harr`**: a shared IntegerArray / FSArray object with `elements = None`.  The XMI reader
    restores `None`, the JSON writer omits `%ELEMENTS`, the JSON reader makes `[]` of that: the content of the feature
    `elements` of the array object (id 5 / 4) is `.none` at the start and `.elems []` at the end.
    `(true, false, "ok [(5, elements)]")`, `(true, false, "ok [(4, elements)]")` -/
def cx_obj_elements_none := run ts (hp.set 24 (arr "uima.cas.IntegerArray" .none))
def cx_obj_elements_none_fs := run ts (hp.set 23 (arr "uima.cas.FSArray" .none))

/-- the demo type system without the type `n` -/
def tsWithout (n : String) : TypeSystem := { ts with types := ts.types.filter (fun t => t.name != n) }

/-- the demo heap without the shared lists (they are structures of the node types) -/
def hpNoSharedLists : Heap := setSlot0 (setSlot0 (setSlot0 hp "mfl" .none) "mil" .none) "msl" .none

/-- **counterexample for `htys`**: a type system without one of the list-node types; the inlined lists of the CAS are
    not structures of their own in XMI, the reader makes their nodes by name, the JSON writer looks the type up.
    `(true, false, "error TypeNotFoundError")` each; with the full type system `(true, true, "ok []")` -/
def cx_missing_node_type := run (tsWithout "uima.cas.NonEmptyIntegerList") hpNoSharedLists
def cx_missing_empty_node_type := run (tsWithout "uima.cas.EmptyFSList") hpNoSharedLists
def ok_no_shared_lists := run ts hpNoSharedLists

/-- null and `""` inside string arrays and lists, inlined and shared (XMI identifies them, `featContentC` as well);
    empty arrays of every representation; empty inlined lists; an inlined array shared by two features or inlined and
    shared at once: `(true, true, "ok []")` each -/
def ok_variations : List (Bool × Bool × String) :=
  [ run ts (hp.set 9 (arr "uima.cas.StringArray" (.strs [none, some "", none]))),
    run ts (hp.set 9 (arr "uima.cas.StringArray" (.refs []))),
    run ts (hp.set 25 (arr "uima.cas.StringArray" (.strs [none, some ""]))),
    run ts (hp.set 25 (arr "uima.cas.StringArray" (.refs []))),
    run ts (hp.set 25 (arr "uima.cas.StringArray" (.strs []))),
    run ts (hp.set 24 (arr "uima.cas.IntegerArray" (.refs []))),
    run ts (hp.set 24 (arr "uima.cas.IntegerArray" (.ints []))),
    run ts (hp.set 2 (arr "uima.cas.IntegerArray" (.refs []))),
    run ts (setSlot0 (setSlot0 (setSlot0 hp "il" (.ref 15)) "fsl" (.ref 12)) "fl" (.ref 19)),
    run ts (setSlot0 hp "sha" (.ref 2)),
    run ts (setSlot0 hp "mia" (.ref 2)),
    run ts (hp.set 22 (node "uima.cas.NonEmptyStringList" .none (.ref 20))),
    run ts (hp.set 31 (node "uima.cas.NonEmptyStringList" .none (.ref 30))),
    run ts (hp.set 31 (node "uima.cas.NonEmptyStringList" (.str "") (.ref 30))) ]

/-- the converse chain on the demo CAS over the heap `h`: (`chainJXAppliesB`, differences, structures collected by the
    JSON writer, by the XMI writer) -/
def runJX (h : Heap) : Bool × String :=
  (chainJXAppliesB K ts [cas] 0 h, match chainDiffsJX K ts [cas] 0 h 0 with
    | .ok (l, a, b) => s!"ok {l.map (fun (d : Int × Option String) => (d.1, d.2.getD "?"))} {a} {b}"
    | .error e => s!"error {e}")

/-- the instance itself: `(true, "ok [] 32 11")` — 32 structures in the JSON document, 11 of them in the XMI document -/
def okjx_demo := runJX hp

/-- variations (null and `""`, empty arrays and lists, inlined arrays shared): `(true, "ok [] …")` each -/
def okjx_variations : List (Bool × String) :=
  [ runJX (hp.set 9 (arr "uima.cas.StringArray" (.strs [none, some "", none]))),
    runJX (hp.set 25 (arr "uima.cas.StringArray" (.strs [none, some ""]))),
    runJX (hp.set 24 (arr "uima.cas.IntegerArray" (.refs []))),
    runJX (hp.set 2 (arr "uima.cas.IntegerArray" (.refs []))),
    runJX (setSlot0 (setSlot0 (setSlot0 hp "il" (.ref 15)) "fsl" (.ref 12)) "fl" (.ref 19)),
    runJX (setSlot0 hp "sha" (.ref 2)),
    runJX (setSlot0 hp "mia" (.ref 2)),
    runJX (hp.set 22 (node "uima.cas.NonEmptyStringList" .none (.ref 20))),
    runJX (hp.set 31 (node "uima.cas.NonEmptyStringList" (.str "") (.ref 30))) ]

/-- (J1) is needed in this direction as well (it is a hypothesis of the JSON round trip): a shared IntegerArray object
    with `elements = None` — `(false, "ok [(19, elements)] 32 11")` -/
def cxjx_obj_elements_none := runJX (hp.set 24 (arr "uima.cas.IntegerArray" .none))

-- (true, true, "ok []"):
#eval ok_demo
-- (true, false, "ok [(5, elements)]"), (true, false, "ok [(4, elements)]"):
#eval (cx_obj_elements_none, cx_obj_elements_none_fs)
-- (true, false, "error TypeNotFoundError") twice, (true, true, "ok []"):
#eval (cx_missing_node_type, cx_missing_empty_node_type, ok_no_shared_lists)
-- true:
#eval ok_variations.all (fun r => r.1 && r.2.1 && r.2.2 == "ok []")
-- (true, "ok [] 32 11"), true, (false, "ok [(19, elements)] 32 11"):
#eval (okjx_demo, okjx_variations.all (fun r => r.1 && r.2.startsWith "ok [] "), cxjx_obj_elements_none)

end ChainDemo

end Cassis.Json
