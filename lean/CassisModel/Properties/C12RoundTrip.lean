/-
C12 — the descriptor round trip as ONE statement, for every declaration order.

For every type system built through the API (any history of `create_type` / `create_feature` that declares features on
user types other than DocumentAnnotation) in which no type re-declares a feature it inherits (`NoShadow`, see
`Spec/TsXmlRoundTrip.lean` and finding X12) and no user type name or feature name carries surrounding whitespace
(`StrippedNames`, see below): let `d` be the descriptor `to_xml` emits.  Then **every permutation** `d'` of
its declarations (subtypes before supertypes, features referring to later types)

* loads (`load_typesystem` succeeds),
* to a type system that declares the same under every name: same supertype, same description (trimmed), the same own
  features in the same order with the same range, element type, multiple-references flag and description, the same
  children and the same effective features (`SameXml`),
* and re-emitting the loaded type system reproduces the descriptor (`to_xml (load d') = d` with descriptions trimmed) —
  in particular the result does not depend on the declaration order.

`tsxml_roundtrip_redeclared`: the same when the permuted descriptor additionally redeclares built-in types exactly as the
library defines them, and/or DocumentAnnotation as the library defines it (the re-emitted descriptor then starts with
those redeclarations, sorted by name).  `tsxml_roundtrip_docann`: the special case of a redeclared DocumentAnnotation.

WHY THE HYPOTHESES `hnt`, `hnd` (`tsxml_roundtrip_redeclared`).  With only `hpre` about `pre` (every entry is the built-in
definition of a predefined name, `builtinEntry` of `Proofs/TsXmlNoPad.lean`, or `docEntry`) the statement is FALSE of the
model and of the implementation alike (evaluated in `Spec/TsXmlRoundTripCheck.lean`, `counterTop`, `counterDup`; Python
agrees on both):

* `pre = [builtinEntry "uima.cas.TOP"]` (= `{ name := "uima.cas.TOP", super := "" }`): the load fails with `KeyError`
  (the empty supertype name resolves to nothing) — hence `hnt`;
* `pre = [e, e]` for an entry with features, e.g. `uima.cas.ArrayBase` (or `uima.cas.Sofa`): the features of the two
  declarations accumulate and the comparison with the built-in definition raises `ValueError` — hence `hnd`
  (featureless entries such as `uima.cas.String` may in fact be repeated; not covered).

WHY THE HYPOTHESIS `hsn : StrippedNames Gen.consts ts` (all three statements).  The reader
(`TypeSystemDeserializer`, `_get_elem_as_str`) strips surrounding whitespace from EVERY text it reads — type name,
supertype name, feature name, range, element type, descriptions — and so does the model (`normalize` =
strip every text, then key the declarations by name).  Neither `create_type` / `create_feature` nor the writer strip.
Without `hsn` the three statements are FALSE of the model and of the implementation alike (evaluated in
`Spec/TsXmlRoundTripCheck.lean`: `counterPadType`, `counterPadFeat`, `hPadRef`; Python agrees):

* history `[create_type(" x.A ")]`: `to_xml` writes `<name> x.A </name>`, the reload declares `x.A`; `SameXml` fails at
  both names and the re-emitted descriptor names `x.A`, not `" x.A "`;
* history `[create_type("x.B"), create_feature("x.B", " f ", "uima.cas.String")]`: the reload has the feature `f`
  (and `" self"` comes back as the reserved feature `self_`).

`StrippedNames` is the weakest hypothesis of this kind: it speaks about user type names and the written names of own
features of user types only (each of them is needed, by the two counterexamples); supertype, range and element type
names are resolved by the API and therefore names of registered types (`registered_stripped`).  The trimming of
descriptions is visible in the conclusion (`trimT`).

DocumentAnnotation is not a predefined name: the alternative `e = docEntry` in `hpre` lets the descriptor redeclare it.
-/
import CassisModel.Proofs.TsXmlRoundTrip
import CassisModel.Proofs.TsXmlRoundTripDemo

namespace Cassis.TsXml
open Cassis.TS

theorem tsxml_roundtrip (ops : List TsOp) (h : UserOnlyNoDoc Gen.consts ops)
    (hns : NoShadow (ops.foldl (applyOp Gen.consts) Gen.builtinTS))
    (hsn : StrippedNames Gen.consts (ops.foldl (applyOp Gen.consts) Gen.builtinTS))
    (d d' : Descriptor) (hd : toDescriptor Gen.consts (ops.foldl (applyOp Gen.consts) Gen.builtinTS) = .ok d)
    (hp : d'.Perm d) :
    ∃ ts', load Gen.consts d' = .ok ts' ∧
      SameXml (ops.foldl (applyOp Gen.consts) Gen.builtinTS) ts' ∧
      toDescriptor Gen.consts ts' = .ok (d.map trimT) := by
  obtain ⟨ts', preOut, h1, h2, h3, h4, _⟩ := tsxml_roundtrip_core (userBuilt_of_history ops h.1 h.2) hns hsn d d' [] hd
    (fun e he => by cases he) (fun e he => by cases he) List.nodup_nil (by simpa using hp)
  refine ⟨ts', h1, h2, ?_⟩
  have : preOut = [] := by
    have h5 : preOut.map (·.name) = [] := by rw [h4]; decide
    exact List.map_eq_nil_iff.mp h5
  rw [h3, this, List.nil_append]

theorem tsxml_roundtrip_redeclared (ops : List TsOp) (h : UserOnlyNoDoc Gen.consts ops)
    (hns : NoShadow (ops.foldl (applyOp Gen.consts) Gen.builtinTS))
    (hsn : StrippedNames Gen.consts (ops.foldl (applyOp Gen.consts) Gen.builtinTS))
    (d d' pre : Descriptor) (hd : toDescriptor Gen.consts (ops.foldl (applyOp Gen.consts) Gen.builtinTS) = .ok d)
    (hpre : ∀ e ∈ pre, (Gen.consts.predefined.contains e.name = true ∧ builtinEntry e.name = some e) ∨ e = docEntry)
    (hnt : ∀ e ∈ pre, e.name ≠ TOP) (hnd : pre.Nodup)
    (hp : d'.Perm (pre ++ d)) :
    ∃ ts' preOut, load Gen.consts d' = .ok ts' ∧
      SameXml (ops.foldl (applyOp Gen.consts) Gen.builtinTS) ts' ∧
      toDescriptor Gen.consts ts' = .ok (preOut ++ d.map trimT) ∧
      preOut.map (·.name) = sortStrs (pre.map (·.name)).eraseDups ∧
      ∀ e ∈ preOut, builtinEntry e.name = some e ∨ e = docEntry :=
  tsxml_roundtrip_core (userBuilt_of_history ops h.1 h.2) hns hsn d d' pre hd hpre hnt hnd hp

/-- a descriptor that declares DocumentAnnotation itself: it is remembered and written first -/
theorem tsxml_roundtrip_docann (ops : List TsOp) (h : UserOnlyNoDoc Gen.consts ops)
    (hns : NoShadow (ops.foldl (applyOp Gen.consts) Gen.builtinTS))
    (hsn : StrippedNames Gen.consts (ops.foldl (applyOp Gen.consts) Gen.builtinTS))
    (d d' : Descriptor) (hd : toDescriptor Gen.consts (ops.foldl (applyOp Gen.consts) Gen.builtinTS) = .ok d)
    (hp : d'.Perm (docEntry :: d)) :
    ∃ ts', load Gen.consts d' = .ok ts' ∧
      SameXml (ops.foldl (applyOp Gen.consts) Gen.builtinTS) ts' ∧
      toDescriptor Gen.consts ts' = .ok (docEntry :: d.map trimT) := by
  obtain ⟨ts', preOut, h1, h2, h3, h4, h5⟩ := tsxml_roundtrip_core (userBuilt_of_history ops h.1 h.2) hns hsn d d' [docEntry] hd
    (fun e he => Or.inr (List.mem_singleton.mp he))
    (fun e he => by rw [List.mem_singleton.mp he]; decide) (by simp) hp
  refine ⟨ts', h1, h2, ?_⟩
  have h6 : preOut.map (·.name) = [DOCUMENT_ANNOTATION] := by rw [h4]; decide
  cases preOut with
  | nil => cases h6
  | cons e rest =>
    cases rest with
    | cons e2 rest2 => simp at h6
    | nil =>
      simp only [List.map_cons, List.map_nil, List.cons.injEq, and_true] at h6
      rcases h5 e List.mem_cons_self with hb | rfl
      · rw [builtinEntry, h6, find?_none_of_not_has builtin_doc_step.1] at hb
        cases hb
      · exact h3

/-! Non-vacuity: the history `Demo.demoOps` (a chain whose emitted descriptor lists the subtype first, a padded and an
empty description, a feature named `self`, an array feature with an element type declared later; no
padded name: `Demo.demo_stripped`) satisfies all hypotheses (`Proofs/TsXmlRoundTripDemo.lean`); `Demo.demoD'` is another order of its descriptor, and
`Demo.demoPre` redeclares DocumentAnnotation, FSArray, ArrayBase and Annotation. -/
example : ∃ ts', load Gen.consts Demo.demoD' = .ok ts' ∧
    SameXml (Demo.demoOps.foldl (applyOp Gen.consts) Gen.builtinTS) ts' ∧
    toDescriptor Gen.consts ts' = .ok (Demo.demoD.map trimT) :=
  tsxml_roundtrip Demo.demoOps Demo.demo_user Demo.demo_noShadow Demo.demo_stripped Demo.demoD Demo.demoD' Demo.demo_descriptor
    Demo.demo_perm

example : ∃ ts' preOut, load Gen.consts (Demo.demoD' ++ Demo.demoPre) = .ok ts' ∧
    SameXml (Demo.demoOps.foldl (applyOp Gen.consts) Gen.builtinTS) ts' ∧
    toDescriptor Gen.consts ts' = .ok (preOut ++ Demo.demoD.map trimT) ∧
    preOut.map (·.name) = sortStrs (Demo.demoPre.map (·.name)).eraseDups ∧
    ∀ e ∈ preOut, builtinEntry e.name = some e ∨ e = docEntry :=
  tsxml_roundtrip_redeclared Demo.demoOps Demo.demo_user Demo.demo_noShadow Demo.demo_stripped Demo.demoD (Demo.demoD' ++ Demo.demoPre)
    Demo.demoPre Demo.demo_descriptor Demo.demo_pre Demo.demo_pre_notop Demo.demo_pre_nodup
    ((List.perm_append_comm).trans (List.Perm.append_left _ Demo.demo_perm))

example : ∃ ts', load Gen.consts (docEntry :: Demo.demoD') = .ok ts' ∧
    SameXml (Demo.demoOps.foldl (applyOp Gen.consts) Gen.builtinTS) ts' ∧
    toDescriptor Gen.consts ts' = .ok (docEntry :: Demo.demoD.map trimT) :=
  tsxml_roundtrip_docann Demo.demoOps Demo.demo_user Demo.demo_noShadow Demo.demo_stripped Demo.demoD
    (docEntry :: Demo.demoD') Demo.demo_descriptor (List.Perm.cons _ Demo.demo_perm)

end Cassis.TsXml

namespace Cassis.TsXml.Demo
open Cassis.TS Cassis.TsXml

/-- the first two of the three statements applied to the example, as theorems -/
theorem demo_roundtrip :
    ∃ ts', load Gen.consts demoD' = .ok ts' ∧
      SameXml (demoOps.foldl (applyOp Gen.consts) Gen.builtinTS) ts' ∧
      toDescriptor Gen.consts ts' = .ok (demoD.map trimT) :=
  tsxml_roundtrip demoOps demo_user demo_noShadow demo_stripped demoD demoD' demo_descriptor demo_perm

theorem demo_redeclared :
    ∃ ts' preOut, load Gen.consts (demoD' ++ demoPre) = .ok ts' ∧
      SameXml (demoOps.foldl (applyOp Gen.consts) Gen.builtinTS) ts' ∧
      toDescriptor Gen.consts ts' = .ok (preOut ++ demoD.map trimT) ∧
      preOut.map (·.name) = sortStrs (demoPre.map (·.name)).eraseDups ∧
      ∀ e ∈ preOut, (find? Gen.builtinTSNoDoc e.name).map renderType = some e ∨ e = docEntry :=
  tsxml_roundtrip_redeclared demoOps demo_user demo_noShadow demo_stripped demoD (demoD' ++ demoPre) demoPre demo_descriptor
    demo_pre demo_pre_notop demo_pre_nodup
    ((List.perm_append_comm).trans (List.Perm.append_left _ demo_perm))

end Cassis.TsXml.Demo

#print axioms Cassis.TsXml.tsxml_roundtrip
#print axioms Cassis.TsXml.tsxml_roundtrip_redeclared
#print axioms Cassis.TsXml.tsxml_roundtrip_docann
