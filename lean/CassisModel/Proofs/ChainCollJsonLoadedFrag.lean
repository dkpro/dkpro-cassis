/-
C16 with collections, the converse chain JSON → CAS → XMI → CAS: what `loadJson` makes of a written document (`JLd`:
`HeapRel … E3J`, every collected structure — collection objects included — has its counterpart with the slots mapped by
`exp3J`), and the XMI fragment `CollFs` for the counterparts in the loaded CAS (`JLd.feat_new`, `JLd.coll_new`).
-/
import CassisModel.Proofs.ChainCollJsonCore
import CassisModel.Proofs.ChainDefs

namespace Cassis.ChainC
open Cassis.TS Cassis.Traverse Cassis.Xmi Cassis.Json Cassis.Json.CC

/-- what is known about the CAS `ld` loaded from the JSON document written for `c` (heap `H`, collected structures `L`,
    all of them in the XMI fragment) -/
structure JLd (K : Consts) (ts : TypeSystem) (c : Cas) (ci : Nat) (H : Heap) (L : List (Int × Nat)) (ci' : Nat)
    (ld : Json.Loaded) : Prop where
  lok : LOkJ K ts c ci H L
  collx : ∀ q ∈ L, CollFs K ts c ci H q.2
  rel : HeapRel H L (naOf H L) (E3J H (naOf H L) ci') ld.heap
  views : ViewsRelJ H (naOf H L) c.views ld.cas.views

theorem primElems_expJ {r : String} {ev : Val} (H : Heap) (na : Int → Nat) (ci' : Nat) (hP : PrimElems r ev) :
    PrimElems r (exp3J H na ci' ev) := by
  rcases hP with rfl | ⟨h1, l, rfl⟩ | ⟨h1, l, rfl, h2⟩ | ⟨h1, l, rfl⟩ | ⟨h1, l, rfl, h2⟩
  · exact .inl rfl
  · cases l with
    | nil => exact .inl rfl
    | cons i l => exact .inr (.inl ⟨h1, _, rfl⟩)
  · cases l with
    | nil => exact .inl rfl
    | cons i l => exact .inr (.inr (.inl ⟨h1, _, rfl, h2⟩))
  · cases l with
    | nil => exact .inl rfl
    | cons i l => exact .inr (.inr (.inr (.inl ⟨h1, _, rfl⟩)))
  · cases l with
    | nil => exact .inl rfl
    | cons i l => exact .inr (.inr (.inr (.inr ⟨h1, _, rfl, h2⟩)))

theorem strElems_expJ {ev : Val} (H : Heap) (na : Int → Nat) (ci' : Nat) (hP : StrElems ev) :
    StrElems (exp3J H na ci' ev) := by
  rcases hP with rfl | ⟨l, rfl⟩
  · exact .inl rfl
  · cases l with
    | nil => exact .inl rfl
    | cons i l => exact .inr ⟨_, rfl⟩

section
variable {K : Consts} {ts : TypeSystem} {c : Cas} {ci : Nat} {H : Heap} {L : List (Int × Nat)} {ci' : Nat}
  {ld : Json.Loaded}

theorem JLd.ldViews (x : JLd K ts c ci H L ci' ld) : Chain.LdViews c H L (naOf H L) ld.cas :=
  ⟨.of_json x.views, x.lok.members, x.lok.ids⟩

theorem JLd.slot_ref (x : JLd K ts c ci H L ci' ld) {q : Int × Nat} (hq : q ∈ L) {n : String} {b : Nat}
    (h : Xmi.slot H q.2 n = some (.ref b)) : ∃ q' ∈ L, q'.2 = b ∧ xidOf H b = some q'.1 := by
  obtain ⟨o, ho, hv⟩ := Xmi.slot_obj h
  obtain ⟨y, hy, hyl⟩ := x.lok.closed q hq o ho n b hv
  exact ⟨(y, b), hyl, rfl, hy⟩

theorem JLd.spine_heads (x : JLd K ts c ci H L ci' ld) {q : Int × Nat} (hq : q ∈ L) {vs : List Val}
    (h : Spine H (.ref q.2) vs) (b : Nat) (hb : Val.ref b ∈ vs) : ∃ q2 ∈ L, q2.2 = b ∧ xidOf H b = some q2.1 := by
  obtain ⟨_, ⟨q', hq', rfl⟩, hh⟩ := h.heads (tail_in x.lok) (fun _ e => by cases e; exact ⟨q, hq, rfl⟩) _ hb
  exact x.slot_ref hq' hh

theorem JLd.view_some (x : JLd K ts c ci H L ci' ld) {vn : String} {w : View} (h : Cas.getViewRec c vn = some w) :
    ∃ w', Cas.getViewRec ld.cas vn = some w' ∧ w'.sofa = w.sofa :=
  (viewsRelJ_get _ _ vn w x.views h).imp fun _ h => ⟨h.1, h.2.2.1⟩

theorem exp3J_plain' (H : Heap) (na : Int → Nat) (ci' : Nat) (v : Val) (h1 : ∀ b, v ≠ .ref b) (h2 : isListV v = false) :
    exp3J H na ci' v = exp3 H na ci' v := by
  cases v <;> first | rfl | cases h2

theorem JLd.obj (x : JLd K ts c ci H L ci' ld) {q : Int × Nat} (hq : q ∈ L) :
    ∃ o o', H[q.2]? = some o ∧ ld.heap[naOf H L q.1]? = some o' ∧ o'.ty = o.ty ∧ o'.xid = some q.1 ∧
      o'.slots.map (·.1) = o.slots.map (·.1) ∧
      ∀ n v, alistGet? o.slots n = some v → alistGet? o'.slots n = some (exp3J H (naOf H L) ci' v) := by
  obtain ⟨o, o', ho, ho', h1, h2, h3, h4⟩ := x.rel q hq
  exact ⟨o, o', ho, ho', h1, h2, h3, h4⟩

theorem JLd.refOk_new (x : JLd K ts c ci H L ci' ld) {q' : Int × Nat} (hq' : q' ∈ L) :
    RefOk ld.heap (naOf H L q'.1) := by
  rw [RefOk, x.rel.xid hq']
  exact ⟨rfl, fun e => (x.lok.ids q' hq').2 (Option.some.inj e)⟩

theorem JLd.fsElems_expJ (x : JLd K ts c ci H L ci' ld) {q' : Int × Nat} (hq' : q' ∈ L) {o2 : Obj}
    (ho2 : H[q'.2]? = some o2) {l : List Nat} (hel2 : alistGet? o2.slots "elements" = some (.refs (l.map some))) :
    FsElems ld.heap (exp3J H (naOf H L) ci' (.refs (l.map some))) := by
  have hmem : ∀ b ∈ l, ∃ q2 ∈ L, q2.2 = b ∧ xidOf H b = some q2.1 := by
    intro b hbl
    obtain ⟨y, hy, hyl⟩ := x.lok.closedE q' hq' o2 ho2 _ hel2 b (List.mem_map_of_mem hbl)
    exact ⟨(y, b), hyl, rfl, hy⟩
  refine ⟨l.map (fun b => naOf H L ((xidOf H b).getD 0)), ?_, ?_⟩
  · simp only [exp3J, elemsExpJ, List.map_map]
    congr 1
    apply List.map_congr_left
    intro b hbl
    obtain ⟨q2, _, _, hy⟩ := hmem b hbl
    simp only [Function.comp, Option.bind_some, hy, Option.map_some, Option.getD_some]
  · intro b' hb'
    obtain ⟨b, hbl, rfl⟩ := List.mem_map.mp hb'
    obtain ⟨q2, hq2, _, hy⟩ := hmem b hbl
    rw [hy]
    exact x.refOk_new hq2

theorem JLd.feat_new (x : JLd K ts c ci H L ci' ld) {q : Int × Nat} (hq : q ∈ L) {o o' : Obj} (ho : H[q.2]? = some o)
    (hslots : ∀ n v, alistGet? o.slots n = some v → alistGet? o'.slots n = some (exp3J H (naOf H L) ci' v))
    {isAnn : Bool} {f : Feature} (hcf : CollFeat K ts c ci H isAnn o f) :
    CollFeat K ts ld.cas ci' ld.heap isAnn o' f := by
  have slotq : ∀ n v, alistGet? o.slots n = some v → Xmi.slot H q.2 n = some v :=
    fun n v hv => (Xmi.slot_of ho n).trans hv
  rcases hcf with hflat | ⟨hname, hsh | hin⟩
  · obtain ⟨a1, a2, a3, a4, a5, a6, a7, a8, a9, a10, a11, v, hv, hd⟩ := hflat
    refine .inl ⟨a1, a2, a3, a4, a5, a6, a7, a8, a9, a10, a11, _, hslots _ _ hv, ?_⟩
    rcases hd with ⟨hn, hs⟩ | ⟨hn, hp, hs⟩ | ⟨hn, hp, ha, hl, hb1, hb2, hb3, hs⟩
    · left
      refine ⟨hn, ?_⟩
      rcases hs with ⟨vn, rfl, hsome⟩ | ⟨rfl, hA⟩
      · left
        refine ⟨vn, rfl, ?_⟩
        cases hg : Cas.getViewRec c vn with
        | none => rw [hg] at hsome; cases hsome
        | some w =>
          obtain ⟨w', hw', _⟩ := x.view_some hg
          rw [hw']; rfl
      · right
        exact ⟨rfl, hA⟩
    · have he : exp3J H (naOf H L) ci' v = v := by
        rcases hs with rfl | ⟨_, i, rfl⟩ | ⟨_, s, rfl⟩ | ⟨_, b, rfl⟩ | ⟨_, t, rfl⟩ <;> rfl
      rw [he]
      exact .inr (.inl ⟨hn, hp, hs⟩)
    · right; right
      refine ⟨hn, hp, ha, hl, hb1, hb2, hb3, ?_⟩
      rcases hs with rfl | ⟨b, rfl, _, _⟩
      · left; rfl
      · right
        obtain ⟨q', hq', _, hy⟩ := x.slot_ref hq (slotq _ _ hv)
        refine ⟨naOf H L q'.1, exp3J_ref hy, (x.refOk_new hq').1, (x.refOk_new hq').2⟩
  · obtain ⟨hm, hal, hp, r1, r2, r3, v, hv, hval⟩ := hsh
    refine .inr ⟨hname, .inl ⟨hm, hal, hp, r1, r2, r3, _, hslots _ _ hv, ?_⟩⟩
    rcases hval with rfl | ⟨b, rfl, _⟩
    · exact .inl rfl
    · obtain ⟨q', hq', _, hy⟩ := x.slot_ref hq (slotq _ _ hv)
      exact .inr ⟨naOf H L q'.1, exp3J_ref hy, x.refOk_new hq'⟩
  · obtain ⟨hm, v, hv, hkind⟩ := hin
    refine .inr ⟨hname, .inr ⟨hm, _, hslots _ _ hv, ?_⟩⟩
    have arrCase : ∀ (P P' : Val → Prop), InlArr H P v →
        (∀ cc ev, v = .ref cc → ∀ q' ∈ L, q'.2 = cc → Xmi.slot H cc "elements" = some ev → P ev →
          P' (exp3J H (naOf H L) ci' ev)) →
        InlArr ld.heap P' (exp3J H (naOf H L) ci' v) := by
      intro P P' hia hP
      rcases hia with rfl | ⟨cc, ev, rfl, hev, hPe⟩
      · exact .inl rfl
      · obtain ⟨q', hq', hb, hy⟩ := x.slot_ref hq (slotq _ _ hv)
        refine .inr ⟨naOf H L q'.1, _, exp3J_ref hy, ?_, hP cc ev rfl q' hq' hb hev hPe⟩
        rw [slot_new x.rel hq' "elements", hb, hev]
        rfl
    have listCase : ∀ (P P' : List Val → Prop), InlList H P v →
        (∀ cc hs, v = .ref cc → ∀ q' ∈ L, q'.2 = cc → collectList H (H.length + 1) (.ref cc) = .ok hs → P hs →
          P' (hs.map (exp3J H (naOf H L) ci'))) →
        InlList ld.heap P' (exp3J H (naOf H L) ci' v) := by
      intro P P' hil hP
      rcases hil with rfl | ⟨cc, hs, rfl, hcol, hPh⟩
      · exact .inl rfl
      · obtain ⟨q', hq', hb, hy⟩ := x.slot_ref hq (slotq _ _ hv)
        refine .inr ⟨naOf H L q'.1, _, exp3J_ref hy, ?_, hP cc hs rfl q' hq' hb hcol hPh⟩
        rw [exp3J_ref hy]
        have hc1 : collectList H (H.length + 1) (.ref q'.2) = .ok hs := by rw [hb]; exact hcol
        exact collectList_spine (spine_new x.lok x.rel hq' (collectList_ok hc1).1) _
          (by rw [List.length_map]; have := len_lt x.rel hq'; have := (collectList_ok hc1).2; omega)
    rcases hkind with ⟨hr, rk, hia⟩ | ⟨hr, rk, hia⟩ | ⟨hr, rk, hia⟩ | ⟨hr, rk, hil⟩ | ⟨hr, rk, hil⟩ | ⟨hr, rk, hil⟩ |
      ⟨hr, rk, hil⟩
    · exact .inl ⟨hr, rk, arrCase _ _ hia (fun cc ev _ q' hq' hb hev hP => primElems_expJ H _ ci' hP)⟩
    · exact .inr (.inl ⟨hr, rk, arrCase _ _ hia (fun cc ev _ q' hq' hb hev hP => strElems_expJ H _ ci' hP)⟩)
    · refine .inr (.inr (.inl ⟨hr, rk, arrCase _ _ hia (fun cc ev _ q' hq' hb hev hP => ?_)⟩))
      obtain ⟨l, rfl, hok⟩ := hP
      obtain ⟨o2, ho2, hel2⟩ := Xmi.slot_obj (hb ▸ hev)
      exact x.fsElems_expJ hq' ho2 hel2
    · refine .inr (.inr (.inr (.inl ⟨hr, rk, listCase _ _ hil (fun cc hs _ q' hq' hb hcol hP h hh => ?_)⟩)))
      obtain ⟨h0, hh0, rfl⟩ := List.mem_map.mp hh
      obtain ⟨i, rfl⟩ := hP h0 hh0
      exact ⟨i, rfl⟩
    · refine .inr (.inr (.inr (.inr (.inl ⟨hr, rk, listCase _ _ hil (fun cc hs _ q' hq' hb hcol hP h hh => ?_)⟩))))
      obtain ⟨h0, hh0, rfl⟩ := List.mem_map.mp hh
      obtain ⟨t', rfl, htok⟩ := hP h0 hh0
      exact ⟨t', rfl, htok⟩
    · refine .inr (.inr (.inr (.inr (.inr (.inl ⟨hr, rk, listCase _ _ hil (fun cc hs _ q' hq' hb hcol hP => ?_)⟩)))))
      refine ⟨fun e => hP.1 (List.map_eq_nil_iff.mp e), fun h hh => ?_⟩
      obtain ⟨h0, hh0, rfl⟩ := List.mem_map.mp hh
      rcases hP.2 h0 hh0 with rfl | ⟨s, rfl⟩
      · exact .inl rfl
      · exact .inr ⟨s, rfl⟩
    · refine .inr (.inr (.inr (.inr (.inr (.inr ⟨hr, rk, listCase _ _ hil (fun cc hs _ q' hq' hb hcol hP h hh => ?_)⟩)))))
      obtain ⟨h0, hh0, rfl⟩ := List.mem_map.mp hh
      obtain ⟨b, rfl, _⟩ := hP h0 hh0
      -- the head is referenced by a collected list node
      have hc1 : collectList H (H.length + 1) (.ref q'.2) = .ok hs := by rw [hb]; exact hcol
      obtain ⟨q2, hq2, _, hy⟩ := x.spine_heads hq' (collectList_ok hc1).1 b hh0
      exact ⟨naOf H L q2.1, exp3J_ref hy, x.refOk_new hq2⟩

/-- **the counterparts are in the XMI fragment** -/
theorem JLd.coll_new (x : JLd K ts c ci H L ci' ld) {q : Int × Nat} (hq : q ∈ L) :
    CollFs K ts ld.cas ci' ld.heap (naOf H L q.1) := by
  obtain ⟨o, o', ho, ho', hty, hx, hkeys, hslots⟩ := x.obj hq
  rcases x.collx q hq with hg | hA
  · obtain ⟨o1, t, ho1, ht, g⟩ := genFs_iff.mp hg
    cases ho.symm.trans ho1
    exact .inl (genFs_iff.mpr ⟨o', t, ho', hty ▸ ht, g.copy hty hkeys (fun f _ => x.feat_new hq ho hslots)
      fun h => h.copy (E := fun _ => exp3J H (naOf H L) ci') hslots (fun _ => rfl) (fun _ _ => rfl)
        fun vn v hv => (x.view_some hv).imp fun _ h => ⟨h.1, congrArg Sofa.text h.2⟩⟩)
  · obtain ⟨t, f, ev, ht, g⟩ := hA.at ho
    have hel : alistGet? o.slots "elements" = some ev := by rw [g.slots]; simp [alistGet?]
    have hsl' : o'.slots = [("elements", exp3J H (naOf H L) ci' ev)] := by
      apply eq_single_of_keys
      · rw [hkeys, g.slots]; rfl
      · exact hslots _ _ hel
    refine .inr ⟨o', t, f, exp3J H (naOf H L) ci' ev, ho', ?_⟩
    rw [hty]
    refine ⟨ht, g.name, g.arrBase, g.feats, g.fname, g.frange, g.fres, hsl', g.notAnn, ?_⟩
    rcases g.kind with ⟨g1, g2, g3, hev⟩ | ⟨g1, g2, hev⟩ | ⟨g1, g2, g3, hev⟩
    · refine .inl ⟨g1, g2, g3, ?_⟩
      rcases hev with rfl | ⟨l, rfl, _⟩
      · exact .inl rfl
      · exact .inr (x.fsElems_expJ hq ho hel)
    · exact .inr (.inl ⟨g1, g2, strElems_expJ H _ ci' hev⟩)
    · refine .inr (.inr ⟨g1, g2, g3, ?_⟩)
      rcases hev with rfl | hP
      · exact .inl rfl
      · exact .inr (primElems_expJ H _ ci' hP)

end

end Cassis.ChainC
