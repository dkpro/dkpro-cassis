/-
The XMI round trip on the flat fragment (`xmi_core_flat`), read off the round trip of the whole format
(`xmi_passes_coll`) through `RoundTripFlatOfColl`: the collected structures of a flat CAS satisfy `LOkC`, and the
relation the reader leaves, stated with `E3c`, is the flat one (`E3`).
-/
import CassisModel.Proofs.RoundTripColl
import CassisModel.Proofs.RoundTripFlatOfColl

namespace Cassis.Xmi
open Cassis.TS Cassis.Traverse

/-- the three passes of the reader on a written document whose structures are flat; the last clause is the bound the
    reseeded generator leaves above the sofa ids -/
theorem xmi_core_flat (K : Consts) (ts : TypeSystem) (cass : List Cas) (ci : Nat) (c : Cas) (hp : Heap)
    (tsIdx ci' : Nat) (doc : XDoc) (st : St)
    (hc : cass[ci]? = some c) (hwf : RTWf c hp) (hnull : NullOk ts)
    (hsave : saveXmi K ts cass ci hp = .ok (doc, st))
    (hflat : ∀ q ∈ st.allFs, FlatFs K ts c ci st.heap q.2)
    (hmem : ∀ nv ∈ c.views, ∀ e ∈ Index.all nv.2.idx, slot st.heap e.oid "sofa" ≠ some .none)
    (hmok : MembersOk c st.heap) :
    ∃ (na : Int → Nat) (p : Pass1) (ld : Loaded),
      pass1 K ts tsIdx false doc { heap := st.heap } = .ok p ∧
      loadXmi K ts tsIdx ci' false st.heap doc = .ok ld ∧
      LOk K ts c ci st.heap (sortById st.allFs) ∧
      NaOk st.heap.length (sortById st.allFs) na ∧
      P1W c st.heap (sortById st.allFs) na p ∧
      HeapRel st.heap (sortById st.allFs) na (E3 st.heap na ci') ld.heap ∧
      ld.cas.views.map (viewContent ld.heap) = c.views.map (viewContent st.heap) ∧
      ViewsRel st.heap na c ld.cas ∧
      ∀ nv ∈ c.views, nv.2.sofa.xid < ld.cas.nextXid := by
  have hL := lok_of_findAllFs hwf (saveXmi_findAllFs hc hsave) hflat
  obtain ⟨na, p, _, ld, hp1, _, hload, hna, hp1w, _, r⟩ :=
    xmi_passes_coll K ts cass ci c hp hp tsIdx ci' doc st hc hwf hnull hsave (lokC_of_lok hL) hmem hmok
  exact ⟨na, p, ld, hp1, hload, hL, hna, hp1w, r.rel.flat_of_coll hL.flat, r.content, viewsRelL_iff_all2.mpr r.views,
    fun nv hnv => (r.sofas_below nv hnv).1⟩

end Cassis.Xmi
