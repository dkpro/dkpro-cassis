/-
C16 with an embedded type system, the chain JSON → CAS → XMI → CAS, assembly (`chain_json_xmi_emb_core`): the JSON document
carries its type system (any mode), is loaded whatever type system `tsArg` is supplied, the original not being needed
(`loadJson K tsArg … true …`: the type system `ts'` is rebuilt from the `%TYPES` section), and the loaded CAS is written
to XMI and read back under the REBUILT type system `ts'`.

The first half is that of `chain_json_xmi_coll` for the NONE document and the original type system: the CAS `ld0` the
reader makes under `ts`.  The CAS `ld1` loaded under `ts'` is the same CAS over the same heap up to slot order
(`emb_load_of_none_load`), its objects have their slots in the order of `ts'` (`loadJson_slotsOk`), so the traversal and
the fragment carry over (`traversal_le`, `Proofs/ChainEmbTransfer.lean`), and the second half is `xmi_roundtrip_coll_weak`
under `ts'`.
Slot order: every object the JSON reader makes carries one slot per constructor field of its type, *in the order of the type
system the reader runs with* (`SlotsOk`, `Proofs/ChainEmbTransfer.lean`); the reader makes objects through the constructor of
the type `get_type` answers (`construct`) and afterwards only sets existing slots (`Heap.setSlot`, `Cas.add`), which keeps
type and slot names (`KSame`, `Proofs/HeapStep.lean`); `Ids.KExt` says both of a later heap, and `Ids.loadJson_kext`
(`Proofs/JsonIdsLoad.lean`) of the loaded one.
What the proof needs of `ts` and `ts'`: `TypeAgree` on the `%TYPE`s of the document (what the JSON reader consults) and
`TsLe` in both directions on a set of names that contains the types of the collected structures.
-/
import CassisModel.Proofs.ChainEmbTransfer
import CassisModel.Proofs.JsonIdsLoad
import CassisModel.Proofs.ChainCollJsonXmi
import CassisModel.Proofs.RoundTripCollLoaded
import CassisModel.Proofs.RoundTripJsonEmbedded

namespace Cassis.ChainE
open Cassis.TS Cassis.Json

/-- the objects `loadJson` makes have their slots in constructor order (`SlotsOk`, from `Ids.loadJson_kext`), when every type
    name is registered once -/
theorem loadJson_slotsOk {K : Consts} {ts : TypeSystem} {tsIdx ci : Nat} {lenient : Bool} {hp : Heap} {doc : JDoc}
    {ld : Loaded} (hn : (ts.types.map (·.name)).Nodup) (h : loadJson K ts tsIdx ci lenient false hp doc = .ok ld)
    {a : Nat} (ha : hp.length ≤ a) : SlotsOk ts ld.heap a := by
  intro o t ho ht
  obtain ⟨t1, ht1, hty, hk⟩ := (Ids.loadJson_kext h).new a o ha ho
  have e : find? ts o.ty = some t1 := by rw [hty]; exact find?_of_mem hn ht1
  rw [ht] at e
  cases e
  exact hk

open Cassis.Xmi

theorem featContentC_like (K : Consts) (hp : Heap) (a : Nat) {f f' : Feature} (hl : FeatLike K f f') :
    featContentC K hp a f' = featContentC K hp a f := by
  unfold featContentC
  rw [isInline_like hl, hl.1, hl.2.1]

theorem membersOk_sim {c : Cas} {hp hp' : Heap} (hh : HeapSim hp hp') : MembersOk c hp → MembersOk c hp' :=
  MembersOk.transport fun nv hnv => ⟨nv, hnv, fun e he => ⟨e, he, fun _ ho =>
    let ⟨x', g2, gx⟩ := hh.get_some ho
    ⟨x', g2, gx.1, fun k hk => ⟨k, (Cas.entryOf_congr (gx.2.2.2.2 _) (gx.2.2.2.2 _) _).trans hk, rfl⟩⟩⟩⟩

end Cassis.ChainE

namespace Cassis
open Cassis.TS Cassis.Traverse Cassis.Xmi Cassis.ChainC Cassis.ChainE

/-- **the composition step**: JSON (any mode) → CAS loaded with any supplied type system `tsArg` → XMI written and read
    under the rebuilt type system → CAS, for a rebuilt type system `ts'` that answers the JSON reader like the original on the
    `%TYPE`s of the document (`TypeAgree`) and the XMI codec on a set `N` of type names that contains the types of the
    collected structures (`TsLe` in both directions) -/
theorem chain_json_xmi_emb_core (K : Consts) (N : String → Prop) (ts ts' tsArg : TypeSystem) (mode : Json.Mode)
    (cass : List Cas) (ci : Nat) (c : Cas) (hp : Heap) (tsIdx : Nat) (docj : Json.JDoc) (st stx : St)
    (hc : cass[ci]? = some c) (hwf : RTWf c hp)
    (hsave : Json.saveJson K ts cass ci hp mode = .ok (docj, st))
    (hlts : Json.loadTs K tsArg true docj = .ok ts')
    (hag : ∀ j ∈ docj.fss, Json.TypeAgree ts ts' (Json.fsTypeName j))
    (hle : TsLe K N ts ts') (hle' : TsLe K N ts' ts) (hN : ∀ q ∈ st.allFs, TyOn N st.heap q.2)
    (hnull' : NullOk ts') (hnd' : (ts'.types.map (·.name)).Nodup)
    (hcoll : ∀ q ∈ st.allFs, CollFs K ts c ci st.heap q.2)
    (hjson : ∀ q ∈ st.allFs, Json.JsonFs ts st.heap q.2)
    (harr : ∀ q ∈ st.allFs, Json.ArrElemsSome st.heap q.2)
    (hids : ∀ nv ∈ c.views, ∀ e ∈ Index.all nv.2.idx, (xidOf hp e.oid).isSome = true)
    (hdis : ∀ q ∈ st.allFs, ∀ nv ∈ c.views, q.1 ≠ nv.2.sofa.xid)
    (hmem : ∀ nv ∈ c.views, ∀ e ∈ Index.all nv.2.idx, Xmi.slot st.heap e.oid "sofa" ≠ some .none)
    (hmok : MembersOk c st.heap)
    (hx : findAllFs K ts {} st.heap c.nextXid (defaultSeeds c) = .ok stx) :
    ∃ (ld1 : Json.Loaded) (docx : XDoc) (st2 : St) (p2 : Pass1) (ld2 : Xmi.Loaded),
      Json.loadJson K tsArg tsIdx cass.length false true st.heap docj = .ok ld1 ∧ ld1.ts = ts' ∧
      saveXmi K ts' (cass ++ [ld1.cas]) cass.length ld1.heap = .ok (docx, st2) ∧
      pass1 K ts' tsIdx false docx { heap := st2.heap } = .ok p2 ∧
      loadXmi K ts' tsIdx (cass.length + 1) false st2.heap docx = .ok ld2 ∧
      ld2.cas.views.map (viewContent ld2.heap) = c.views.map (viewContent st.heap) ∧
      (∀ q ∈ stx.allFs, ∃ (a2 : Nat) (o o2 : Obj), lookupFs p2.fss q.1 = .ok a2 ∧
          st.heap[q.2]? = some o ∧ ld2.heap[a2]? = some o2 ∧ o2.ty = o.ty ∧ o2.xid = some q.1 ∧
          ∀ t : TypeRec, find? ts o.ty = some t → ∀ f ∈ allFeatures t,
            featContentC K ld2.heap a2 f = featContentC K st.heap q.2 f) := by
  -- the NONE document (same structures, views, ids) and the CAS `ld0` the reader makes of it under `ts`
  obtain ⟨doc0, hsave0, hf0, hv0⟩ := Json.saveJson_to_none_aux K ts cass ci hp mode docj st hsave
  obtain ⟨ld0, hload0, x, hvc1, hnx2, hwf0⟩ :=
    chain_json_xmi_coll_half K ts cass ci c hp tsIdx doc0 st hc hwf hsave0 hcoll hjson harr hids hdis hmem hmok
  obtain ⟨st20, hfa20, hheap20, hall20, hL20⟩ := x.traversal hnx2
  have hcomp := x.complete hwf.next_pos hx hnx2 hfa20 hheap20 hL20
  -- the CAS loaded without the original type system: the same CAS, the same heap up to slot order
  obtain ⟨ld1, hload1, hlt1, hcas1, hsim⟩ :=
    Json.emb_load_of_none_load K ts ts' tsArg tsIdx cass.length false st.heap docj doc0 ld0 hlts hag hf0 hv0 hload0
  have hload1' : Json.loadJson K ts' tsIdx cass.length false false st.heap docj = .ok ld1 := by
    rw [← Json.loadJson_merge_eq K tsArg ts' tsIdx cass.length false st.heap docj hlts]
    exact hload1
  have hN20 : ∀ r ∈ st20.allFs, TyOn N ld0.heap r.2 := by
    intro r hr o' ho'
    obtain ⟨q, hq, rfl⟩ := hall20 r hr
    obtain ⟨o, o2, ho, ho2, hty, _⟩ := x.obj hq
    rw [ho2] at ho'; cases ho'
    rw [hty]
    exact hN q (mem_sortById.mp hq) o ho
  have hslots : ∀ r ∈ st20.allFs, SlotsOk ts' ld1.heap r.2 := by
    intro r hr
    obtain ⟨q, _, rfl⟩ := hall20 r hr
    exact loadJson_slotsOk hnd' hload1' (Nat.le_add_right _ _)
  -- its traversal under the rebuilt type system, and the document
  obtain ⟨st2, hfa2, hheap2, hsort, hL2⟩ :=
    traversal_le hle hle' hsim hnx2 hfa20 hheap20 hL20 hslots hN20
  have hc' : (cass ++ [ld1.cas])[cass.length]? = some ld1.cas := List.getElem?_concat_length
  rw [← hcas1] at hfa2 hL2 hwf0
  rw [← hsort] at hL2
  obtain ⟨docx, hsave2⟩ := saveXmi_of_lokC tsIdx hc' hfa2 hheap2 hL2
  -- the second half: the XMI round trip under `ts'`
  have hmem1 : ∀ nv ∈ ld1.cas.views, ∀ e ∈ Index.all nv.2.idx, Xmi.slot st2.heap e.oid "sofa" ≠ some .none := by
    rw [hheap2, hcas1, slot_sim hsim]
    exact x.mem_sofa hmem
  have hmok1 : MembersOk ld1.cas st2.heap := by
    rw [hheap2, hcas1]
    exact membersOk_sim hsim (x.membersOk hmok)
  obtain ⟨p2, ld2, hp2, hload2, hfs2, hvc2⟩ :=
    xmi_roundtrip_coll_weak K ts' (cass ++ [ld1.cas]) cass.length ld1.cas [] ld1.heap tsIdx (cass.length + 1) _ st2
      hc' hwf0 hnull' hsave2 (by rw [hheap2]; exact hL2) hmem1 hmok1
  refine ⟨ld1, _, st2, p2, ld2, hload1, hlt1, hsave2, hp2, hload2, ?_, ?_⟩
  · rw [hvc2, hheap2, hcas1, ← hvc1]
    apply List.map_congr_left
    intro nv _
    exact Json.viewContent_sim hsim nv
  · intro q hq0
    obtain ⟨hq, hq2⟩ := hcomp q hq0
    rw [← hsort] at hq2
    obtain ⟨o, o', ho, ho', hty, _, _, _⟩ := x.obj hq
    obtain ⟨a2, o1, o2, hlk, ho1, ho2, hty2, hx2, hfc2⟩ := hfs2 _ hq2
    -- the object under `ts'` is the object under `ts` up to slot order
    have ho1' : ld1.heap[Json.naOf st.heap (sortById st.allFs) q.1]? = some o1 := by rw [← hheap2]; exact ho1
    have hty1 : o1.ty = o'.ty := by
      rcases hsim.get (Json.naOf st.heap (sortById st.allFs) q.1) with ⟨g1, _⟩ | ⟨y, y', g1, g2, gy⟩
      · rw [g1] at ho'; cases ho'
      · rw [g1] at ho'; cases ho'
        rw [g2] at ho1'; cases ho1'
        exact gy.1
    refine ⟨a2, o, o2, hlk, ho, ho2, hty2.trans (hty1.trans hty), hx2, ?_⟩
    intro t ht f hf
    obtain ⟨t', ht', _, _, _, hfwd, _⟩ := hle.find _ t (hN q (mem_sortById.mp hq) o ho) ht
    obtain ⟨f', hf', hl⟩ := hfwd f hf
    rw [← featContentC_like K ld2.heap a2 hl, hfc2 t' (by rw [hty1, hty]; exact ht') f' hf', hheap2,
      featContentC_like K ld1.heap _ hl, Json.featContentC_sim K hsim]
    exact Json.content_collJ K ts c ci st.heap (sortById st.allFs) cass.length ld0.heap x.lok x.rel
      (Nat.le_of_lt (Json.CC.len_lt x.rel hq)) q hq o t ho ht f hf

end Cassis
