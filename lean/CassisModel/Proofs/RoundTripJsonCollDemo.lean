/-
Non-vacuity of `json_roundtrip_coll`: the test `jcollAppliesB` (`Spec/RoundTripJsonCollCheck.lean`) answers `true` on the
instance `CollDemo` of `Spec/RoundTripCollCheck.lean`; the kernel evaluates the whole test, `saveJson` and `jsonOkB`
(`String.endsWith` / `startsWith`) included (`Facts.coll` in `Proofs/InstancesColl.lean`).
-/
import CassisModel.Proofs.RoundTripJsonCollCheckSound
import CassisModel.Proofs.InstancesColl

namespace Cassis.Json
open Cassis.Traverse Cassis.Xmi

theorem jcollDemo_applies : jcollAppliesB CollDemo.K CollDemo.ts [CollDemo.cas] 0 CollDemo.hp = true :=
  jcollDemo_evals.applies

theorem jcollDemo_hyps :
    ∃ (c : Cas) (doc : JDoc) (st : Traverse.St), [CollDemo.cas][0]? = some c ∧
      saveJson CollDemo.K CollDemo.ts [CollDemo.cas] 0 CollDemo.hp .none = .ok (doc, st) ∧ RTWf c CollDemo.hp ∧
      (∀ q ∈ st.allFs, JCollFs CollDemo.K CollDemo.ts c 0 st.heap q.2) ∧
      (∀ nv ∈ c.views, ∀ e ∈ Index.all nv.2.idx, (xidOf CollDemo.hp e.oid).isSome = true) ∧
      (∀ q ∈ st.allFs, ∀ nv ∈ c.views, q.1 ≠ nv.2.sofa.xid) ∧
      (∀ nv ∈ c.views, ∀ e ∈ Index.all nv.2.idx, Xmi.slot st.heap e.oid "sofa" ≠ some .none) ∧
      MembersOk c st.heap :=
  jcollAppliesB_hyps _ _ _ _ _ jcollDemo_applies

example : JCollDemo.cxj_demo.1 = true := by simp only [JCollDemo.cxj_demo, JCollDemo.run, jcollDemo_applies]
-- the test is not constantly true: (J1), (J2) are rejected; the two variations below them are no restriction
example : JCollDemo.cxj_obj_elements_none.1 = false := jcollDemo_evals.j1_objElementsNone   -- (J1)
example : JCollDemo.cxj_cyclic_spine.1 = false := jcollDemo_evals.j2_cyclicSpine        -- (J2)
example : JCollDemo.okj_fsarray_null.1 = true := jcollDemo_evals.okFsarrayNull
example : JCollDemo.okj_inline_strlist_empty.1 = true := jcollDemo_evals.okInlineStrlistEmpty

/-! ### reserved names: instances with a feature declared as `self` / `type` (`ResDemo`) -/

theorem jresDemo_applies_self_prim :
    jcollAppliesB CollDemo.K (ResDemo.resTs "n" "self_") [CollDemo.cas] 0 (ResDemo.resHp "n" "self_") = true :=
  jcollDemo_evals.resSelfPrim

theorem jresDemo_applies_type_ref :
    jcollAppliesB CollDemo.K (ResDemo.resTs "next" "type_") [CollDemo.cas] 0 (ResDemo.resHp "next" "type_") = true :=
  jcollDemo_evals.resTypeRef

example : jcollAppliesB CollDemo.K (ResDemo.resTs "sa" "type_") [CollDemo.cas] 0 (ResDemo.resHp "sa" "type_") = true :=
  jcollDemo_evals.resTypeKids

/-- all hypotheses of `json_roundtrip_coll` hold on an instance with the reserved feature `type_` (a reference, written
    under the key `@type`) -/
theorem jresDemo_hyps :
    ∃ (c : Cas) (doc : JDoc) (st : Traverse.St), [CollDemo.cas][0]? = some c ∧
      saveJson CollDemo.K (ResDemo.resTs "next" "type_") [CollDemo.cas] 0 (ResDemo.resHp "next" "type_") .none = .ok (doc, st) ∧
      RTWf c (ResDemo.resHp "next" "type_") ∧
      (∀ q ∈ st.allFs, JCollFs CollDemo.K (ResDemo.resTs "next" "type_") c 0 st.heap q.2) ∧
      (∀ nv ∈ c.views, ∀ e ∈ Index.all nv.2.idx, (xidOf (ResDemo.resHp "next" "type_") e.oid).isSome = true) ∧
      (∀ q ∈ st.allFs, ∀ nv ∈ c.views, q.1 ≠ nv.2.sofa.xid) ∧
      (∀ nv ∈ c.views, ∀ e ∈ Index.all nv.2.idx, Xmi.slot st.heap e.oid "sofa" ≠ some .none) ∧
      MembersOk c st.heap :=
  jcollAppliesB_hyps _ _ _ _ _ jresDemo_applies_type_ref

end Cassis.Json
