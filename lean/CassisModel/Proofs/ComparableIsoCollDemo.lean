/-
Non-vacuity for `Properties/C20IsoColl.lean`: the test `renderCollAppliesB` answers `true` (evaluated by the kernel) on
the instance `IsoCollCheck.good` — the instance `CollDemo` of `Spec/RoundTripCollCheck.lean` (every collection kind,
inlined and shared) without the empty string element of its inlined StringArray — hence every hypothesis of
`render_xmi_roundtrip_coll` holds there.
-/
import CassisModel.Proofs.ComparableIsoCollCheckSound
import CassisModel.Proofs.RoundTripCollDemo

namespace Cassis.Comparable
open Cassis.Traverse Cassis.Xmi

theorem collGood_applies :
    renderCollAppliesB CollDemo.K CollDemo.ts [CollDemo.cas] 0 IsoCollCheck.good = true :=
  isoCollDemo_evals.goodApplies

/-- the test is not constantly true: the instance with the empty string element is rejected -/
theorem collDemo_rejected :
    renderCollAppliesB CollDemo.K CollDemo.ts [CollDemo.cas] 0 CollDemo.hp = false :=
  isoCollDemo_evals.demoRejected

theorem collGood_hyps :
    ∃ (c : Cas) (doc : XDoc) (st : Traverse.St), [CollDemo.cas][0]? = some c ∧
      saveXmi CollDemo.K CollDemo.ts [CollDemo.cas] 0 IsoCollCheck.good = .ok (doc, st) ∧
      RTWf c IsoCollCheck.good ∧ NullOk CollDemo.ts ∧
      (∀ q ∈ st.allFs, CollFs CollDemo.K CollDemo.ts c 0 st.heap q.2) ∧
      (∀ nv ∈ c.views, ∀ e ∈ Index.all nv.2.idx, Xmi.slot st.heap e.oid "sofa" ≠ some .none) ∧
      MembersOk c st.heap ∧
      Distinct st.heap (st.allFs.map (·.2)) ∧ NodeTysNotArr CollDemo.K ∧
      (∀ q ∈ st.allFs, InlOk CollDemo.K CollDemo.ts st.heap (st.allFs.map (·.2)) q.2) :=
  renderCollAppliesB_hyps _ _ _ _ _ collGood_applies

end Cassis.Comparable
