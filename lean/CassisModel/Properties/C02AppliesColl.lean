/-
C02, applicability of the end-to-end theorem with collections — a computable test for the hypotheses of
`json_roundtrip_coll` (`Properties/C02RoundTripColl.lean`).

`jcollAppliesB K ts cass ci hp` (`Spec/RoundTripJsonCollCheck.lean`) is a Boolean function of the inputs of `saveJson`: it
runs `saveJson … .none` and evaluates one Boolean checker per hypothesis of `json_roundtrip_coll`:

* `rtWfB`      — `RTWf c hp`,
* `jcollFsB`   — `JCollFs K ts c ci st.heap a` for every collected structure (`Spec/RoundTripJsonCollFrag.lean`;
                 `jgenFsB` / `jarrFsB` for the two kinds of structure, `jsonOkB` for `JsonFs`),
* `memberIdsB` — `hids` (every indexed structure carries an id in the heap handed to the writer),
* `disjointB`  — `hdis` (structure ids differ from sofa ids),
* `memSofaB`   — `hmem` (no indexed structure has `sofa = None`),
* `membersOkB` — `MembersOk c st.heap`.

Each checker is proved sound in `Proofs/RoundTripCheckSound.lean` / `Proofs/RoundTripJsonCollCheckSound.lean`.  Hence, whenever the
compiled model answers `true` for a generated CAS, the JSON round-trip theorem with collections applies to that CAS
(`jcollAppliesB_sound`).  Non-vacuity: `jcollDemo_applies` (`Proofs/RoundTripJsonCollDemo.lean`) — the test answers `true`
(evaluated by the kernel) on the instance `CollDemo` of `Spec/RoundTripCollCheck.lean`, which has an inlined feature of
every primitive array type, an inlined FSArray, FSList, IntegerList, FloatList, StringList, and shared (multi) FSArray,
IntegerArray, StringArray, FSList, IntegerList, StringList features — 32 structures in the document.
-/
import CassisModel.Properties.C02RoundTripColl
import CassisModel.Proofs.RoundTripJsonCollCheckSound
import CassisModel.Proofs.RoundTripJsonCollDemo

namespace Cassis.Json
open Cassis.TS Cassis.Xmi

/-- whenever the Boolean test says so, the round-trip theorem applies: writing and reading back succeed and preserve
    the structures (ids, types, the content of every feature, inlined collections compared by their elements) and
    the views -/
theorem jcollAppliesB_sound (K : Consts) (ts : TypeSystem) (cass : List Cas) (ci : Nat) (hp : Heap) (tsIdx ci' : Nat)
    (h : jcollAppliesB K ts cass ci hp = true) :
    ∃ (c : Cas) (doc : JDoc) (st : Traverse.St) (ld : Loaded) (fss : List (Int × Val)),
      cass[ci]? = some c ∧ saveJson K ts cass ci hp .none = .ok (doc, st) ∧
      loadJson K ts tsIdx ci' false false st.heap doc = .ok ld ∧
      (∀ q ∈ st.allFs, ∃ (a' : Nat) (o o' : Obj), lookup fss q.1 = some (.ref a') ∧
          st.heap[q.2]? = some o ∧ ld.heap[a']? = some o' ∧ o'.ty = o.ty ∧ o'.xid = some q.1 ∧
          ∀ t : TypeRec, find? ts o.ty = some t → ∀ f ∈ allFeatures t,
            featContentC K ld.heap a' f = featContentC K st.heap q.2 f) ∧
      ld.cas.views.map (viewContent ld.heap) = c.views.map (viewContent st.heap) := by
  obtain ⟨c, doc, st, hc, hs, hwf, hf, hi, hd, hm, hmo⟩ := jcollAppliesB_hyps K ts cass ci hp h
  obtain ⟨ld, fss, hl, _, hfs, _, hv, _⟩ :=
    json_roundtrip_coll K ts cass ci c hp tsIdx ci' doc st hc hwf hs hf hi hd hm hmo
  exact ⟨c, doc, st, ld, fss, hc, hs, hl, hfs, hv⟩

/-- non-vacuity: the test answers `true` on an instance with inlined arrays of every primitive kind, an inlined
    FSArray, FSList, IntegerList, FloatList and StringList, and shared (multi) arrays and lists -/
example : jcollAppliesB CollDemo.K CollDemo.ts [CollDemo.cas] 0 CollDemo.hp = true := jcollDemo_applies

/-- … so the conclusion of the theorem holds for it -/
example : ∃ (doc : JDoc) (st : Traverse.St) (ld : Loaded),
    saveJson CollDemo.K CollDemo.ts [CollDemo.cas] 0 CollDemo.hp .none = .ok (doc, st) ∧
    loadJson CollDemo.K CollDemo.ts 0 1 false false st.heap doc = .ok ld ∧
    ld.cas.views.map (viewContent ld.heap) = CollDemo.cas.views.map (viewContent st.heap) := by
  obtain ⟨c, doc, st, ld, _, hc, hs, hl, _, hv⟩ :=
    jcollAppliesB_sound CollDemo.K CollDemo.ts [CollDemo.cas] 0 CollDemo.hp 0 1 jcollDemo_applies
  cases hc
  exact ⟨doc, st, ld, hs, hl, hv⟩

#eval jcollAppliesB CollDemo.K CollDemo.ts [CollDemo.cas] 0 CollDemo.hp

#print axioms json_roundtrip_coll
#print axioms jcollFs_of_collFs
#print axioms jcollAppliesB_sound
#print axioms jcollDemo_applies

end Cassis.Json
