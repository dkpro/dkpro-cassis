/-
C13 — order (and grouping) independence of `merge_typesystems`, as a theorem, on the part of the input space where nothing
competes for a supertype.

`merge K base inputs` works on the concatenation of the inputs' declarations, so *grouping* independence holds by
construction (`merge_grouping`), and *order* independence is invariance under permutations of the declaration list — which
is more than permuting whole inputs.

`merge_perm_one_super`: for closed, acyclic declaration lists of user types in which every name is declared with one and the
same supertype throughout (`OneSuper`; features may be spread over the declarations in any way, repeated, added to a
supertype by a later input, …), any two orders of the declarations either both fail or both succeed, and then yield the
same types with the same supertypes, children and effective features (`SameHier`).

`merge_perm_leaf_compete`: the same when names are declared with *different* supertypes, as long as such names have no
declared subtypes, their supertypes are not final and the document annotation type is declared where a fresh type system
has it.  A name with competing supertypes that has declared subtypes (the re-parenting of a whole subtree) is the subject
of `Properties/C13PermSub.lean`; all three statements are instances of `merge_perm_movable`
(`Proofs/MergePermMain.lean`).
-/
import CassisModel.Proofs.MergePermMain
import CassisModel.Proofs.MergePermDemo
import CassisModel.Proofs.MergePermLeafDemo

namespace Cassis.TS

/-- grouping is irrelevant: only the concatenation of the declarations matters -/
theorem merge_grouping (K : Consts) (base : TypeSystem) (xs ys : List (List TypeSystem)) (h : xs.flatten = ys.flatten) :
    merge K base xs.flatten = merge K base ys.flatten := by rw [h]

theorem merge_perm_one_super (decls decls' : List Decl) (hp : decls.Perm decls')
    (hc : ClosedDecls Gen.consts decls) (hu : UserDecls Gen.consts decls) (h1 : OneSuper decls) :
    match mergeDecls Gen.consts Gen.builtinTS decls, mergeDecls Gen.consts Gen.builtinTS decls' with
    | .ok ts, .ok ts' => SameHier ts ts'
    | .error _, .error _ => True
    | _, _ => False :=
  merge_perm_movable decls decls' hp hc hu (stable_of_oneSuper hc hu h1).1 (stable_of_oneSuper hc hu h1).2

/-- **Competing supertypes on leaves.**  Names may be declared with different supertypes (the merge
    then moves the type below the most specific one, or raises `ValueError` if two of them are incomparable), provided

    * `LeafCompete`: a name declared with competing supertypes has no declared subtype.  Hence every declared supertype —
      every competing supertype and each of its ancestors — is declared with one supertype throughout, sits at its final
      place as soon as it is registered, and `subsumes` on the partially merged tree agrees with the final tree.  This is
      what excludes finding M6 ("merge success depends on order when an ancestor of a competing supertype is itself
      pending"): its witness has `x.C` declared below `uima.cas.TOP` and below `uima.tcas.Annotation` *and* as the
      supertype of `x.B`, a competing supertype of `x.A`.
    * `CompeteNonFinal`: no competing supertype is inheritance final.  Needed: `[x.X < uima.cas.ArrayBase,
      x.X < uima.cas.IntegerArray]` merges in this order (the re-parenting branch does not check finality) and raises in
      the other (`create_type` does), evaluated in `Proofs/MergePermLeafDemo.lean` (`demoFinal`).  Not reachable through the
      API, which refuses to create a type below a final one.
    * `BaseAgree`: the document annotation type is declared, if at all, below `uima.tcas.Annotation` (where a fresh type
      system has it).  Used here only to make the names that may move exactly the competing ones
      (`movable_eq_competing`); the general `merge_perm_movable` (`Proofs/MergePermMain.lean`) does without it: it treats
      the document annotation type declared elsewhere as one more name that may move (`Stable` is then asked of those
      names), and `merge_perm_one_super` covers it when nothing else competes.

    The leaf condition is a special case of `StableCompete`: the case where the name with competing supertypes has
    declared subtypes is `merge_perm_subtree_compete` (`Properties/C13PermSub.lean`). -/
theorem merge_perm_leaf_compete (decls decls' : List Decl) (hp : decls.Perm decls')
    (hc : ClosedDecls Gen.consts decls) (hu : UserDecls Gen.consts decls) (hb : BaseAgree decls)
    (hl : LeafCompete decls) (hnf : CompeteNonFinal Gen.consts decls) :
    match mergeDecls Gen.consts Gen.builtinTS decls, mergeDecls Gen.consts Gen.builtinTS decls' with
    | .ok ts, .ok ts' => SameHier ts ts'
    | .error _, .error _ => True
    | _, _ => False :=
  merge_perm_movable decls decls' hp hc hu (stable_of_stableCompete hu hb (stableCompete_of_leaf hl)) hnf

end Cassis.TS

#print axioms Cassis.TS.merge_perm_one_super
#print axioms Cassis.TS.merge_perm_leaf_compete
#print axioms Cassis.TS.merge_grouping
