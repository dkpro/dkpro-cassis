/-
C03, written-document level, both formats — what the documents `saveXmi` / `saveJson` produce carry for `begin` / `end`.

The round-trip theorems say that loading restores the offsets; these theorems say WHAT the document carries, as
statements about the writers' output that do not depend on the round-trip fragments.

* The oracle `extOffset t i` (`Spec/OffsetsDoc.lean`): for `0 ≤ i ≤ |t|` the UTF-16 length of the prefix of `i` code
  points of `t` (`extOffset_inside'`); a negative offset and an offset beyond the text are carried as they are
  (`extOffset_neg'`, `extOffset_beyond'`: the `if i < 0 then i` of the model and the converter's `KeyError` branch; the
  real code does the same, with a warning — replayed on `/repo`).
* Which converter: the one of the view the structure's `sofa` slot names (of whatever CAS of the world), and it belongs
  to the CURRENT text of that view (`SofaConvOk`): in every state reachable by the client operations, whatever the
  history of `sofa_string = …` assignments (`convIs_history`, `convOk_run`, `setSofaString_conv`), and in every CAS a
  loader returns (`loadXmi_convOk`, `Json.loadJson_convIs`).  Nothing is claimed for a sofa without text: assigning
  `None` to a sofa that had a text leaves the old table in place (`createMapping c none = c`; the real code too), so
  the documents then carry offsets converted by the table of the text that is gone, and no `sofaString`.
* Per feature (`Xmi.renderFeature_offset` here, `Json.renderFeature_offset` in `C03DocJson.lean`) and per structure of the
  saved document (`saveXmi_annotation_offsets`, `saveJson_annotation_offsets`): the attribute token (`showInt`) / the
  member (`.int`) written for `begin` / `end` of an annotation is `extOffset t i`.
* `saveXmi_nonannotation_plain`, `saveJson_nonannotation_plain`: integer features named `begin` / `end` of a structure
  that is not an annotation (XMI: whose type is not a subtype of `uima.tcas.Annotation`; JSON: features not declared by
  `uima.tcas.Annotation`) are written unchanged; the XMI reader does not convert them either
  (`loadXmi_nonannotation_plain`).

The XMI writer tests the range of a feature for the collection kinds before it looks at the value; `IntFeat K ts f`
(`Spec/OffsetsDoc.lean`) says that `f` is an integer feature in that sense; it holds for the four built-in integer
ranges with the generated constants (`intFeat_builtin`).
-/
import CassisModel.Proofs.OffsetsDocSaved
import CassisModel.Properties.C03DocJson
import CassisModel.Proofs.OffsetsDocXmiReader
import CassisModel.Proofs.OffsetsDocDemo

namespace Cassis.OffsetsDoc
open Cassis.Offsets Cassis.TS Cassis.Cas

/-! ### the oracle -/

theorem extOffset_inside' (t : List Nat) (i : Nat) (h : i ≤ t.length) :
    extOffset t (i : Int) = Int.ofNat (utf16Encode (t.take i)).length :=
  extOffset_inside_aux t i h

theorem extOffset_neg' (t : List Nat) (i : Int) (h : i < 0) : extOffset t i = i := extOffset_neg_aux t i h

theorem extOffset_beyond' (t : List Nat) (i : Int) (h : (t.length : Int) < i) : extOffset t i = i :=
  extOffset_beyond_aux t i h

/-- both writers compute `if i < 0 then i else pythonToExternal conv i`; with a converter that belongs to the text
    this is the oracle -/
theorem writer_formula_is_oracle (s : Sofa) (t : List Nat) (ht : s.text = some t) (hok : SofaConvOk s) (i : Int) :
    (if i < 0 then i else ((pythonToExternal s.conv i.toNat : Nat) : Int)) = extOffset t i :=
  conv_ext s t ht hok i

/-! ### the converter belongs to the current text -/

/-- after `cas.sofa_string = t` the view has the text `t` and the table of `t`, whatever it had before -/
theorem setSofaString_conv (c c' : Cas) (h : Handle) (t : List Nat) (hs : setSofaString c h (some t) = .ok c') :
    ∃ v', getViewRec c' h.view = some v' ∧ v'.sofa.text = some t ∧ v'.sofa.conv = some (table t) := by
  obtain ⟨v, v', _, hv', ht, hc, _⟩ := setSofaString_reads c c' h (some t) hs
  exact ⟨v', hv', ht, hc⟩

/-- **every reachable state**: after any history of client operations on a new CAS (views created, structures added
    and removed, texts assigned and REPLACED, …) the converter of every sofa with text is the table of its current text -/
theorem convIs_history (K : Consts) (ts : TypeSystem) (lenient : Bool) (ops : List COp) :
    ConvIs (ops.foldl (cstep K ts) (init lenient)).cas :=
  history_ind (P := fun s => ConvIs s.cas)
    (fun _ _ => eff_allSofas fresh_convIs (fun t s _ => setText_convIs t s) (fun _ _ h => h) (fun _ _ h => h) (fun _ _ h => h))
    K ts ops _ (allSofas_empty fresh_convIs)

/-- client operations keep `ConvOk` from any state that satisfies it, e.g. a loaded CAS -/
theorem convOk_run (K : Consts) (ts : TypeSystem) (ops : List COp) (s : CState) (h : ConvOk s.cas) :
    ConvOk (ops.foldl (cstep K ts) s).cas :=
  history_ind (P := fun s => ConvOk s.cas)
    (fun _ _ => eff_allSofas fresh_convOk (fun t s _ => (setText_convIs t s).ok) (fun _ _ h => h) (fun _ _ h => h)
      (fun _ _ h => h)) K ts ops s h

theorem convIs_convOk (c : Cas) (h : ConvIs c) : ConvOk c := fun nv hnv => (h nv hnv).ok

/-- every CAS the XMI loader returns satisfies `ConvOk` (for the empty text the XMI reader installs no converter) -/
theorem loadXmi_convOk (K : Consts) (ts : TypeSystem) (tsIdx ci : Nat) (lenient : Bool) (hp : Heap) (doc : Xmi.XDoc)
    (ld : Xmi.Loaded) (h : Xmi.loadXmi K ts tsIdx ci lenient hp doc = .ok ld) : ConvOk ld.cas :=
  Xmi.loadXmi_allSofas fresh_convOk (fun _ _ _ hs t ht => hs t ht) (fun so t m _ => Xmi.convOfText_ok so t m) h

/-- non-vacuity (an evaluated history): text `ab`, then replaced by `a😀b`: the converter is the table of `a😀b` -/
example : ((([COp.setSofaString 0 (some [97, 98]), .setSofaString 0 (some [97, 0x1F600, 98])].foldl
    (cstep Gen.consts Gen.builtinTS) (init true)).cas.views.map (fun nv => (nv.2.sofa.text, nv.2.sofa.conv)))) =
    [(some [97, 0x1F600, 98], some [0, 1, 3, 4])] := by decide +kernel

/-- the boundary of the claim (model = code, replayed on `/repo`): the text `a😀b` of the demo CAS is replaced by `None`;
    the old table stays (`SofaConvOk` says nothing about a sofa without text), the document carries `(0, 3)`, `(3, 4)`
    for the in-memory `(0, 2)`, `(2, 3)` and no `sofaString`, so it is read back as `(0, 3)`, `(3, 4)` -/
example :
    let casN := match setSofaString Xmi.Demo.casL { view := "_InitialView", lenient := false } none with
      | .ok c => c | .error _ => Xmi.Demo.casL
    casN.views.map (fun nv => (nv.2.sofa.text, nv.2.sofa.conv)) = [(none, some [0, 1, 3, 4])] ∧
    ((Xmi.saveXmi Xmi.Demo.K Xmi.Demo.demoTS' [casN] 0 Xmi.Demo.hpL).toOption.bind (fun r =>
      (Xmi.loadXmi Xmi.Demo.K Xmi.Demo.demoTS' 0 1 true r.2.heap r.1).toOption.map (fun ld =>
        [3, 4].map (fun k => (Traverse.slot ld.heap k "begin", Traverse.slot ld.heap k "end"))))) =
      some [(some (.int 0), some (.int 3)), (some (.int 3), some (.int 4))] := writeRead_evals.textNone

end Cassis.OffsetsDoc

namespace Cassis.Xmi
open Cassis.Offsets Cassis.TS Cassis.OffsetsDoc Cassis.Lex Cassis.Traverse

/-! ### XMI, per feature -/

/-- the four built-in integer types, declared directly under TOP, with the generated constants -/
theorem intFeat_builtin (ts : TypeSystem) (f : Feature) (hres : f.reserved = false)
    (hr : isIntRange f.range = true) (hsup : superOf ts f.range = some TOP) : IntFeat Gen.consts ts f := by
  have hlen : ∃ m, ts.types.length = m + 1 := by
    unfold superOf find? at hsup
    cases hts : ts.types with
    | nil => rw [hts] at hsup; cases hsup
    | cons x xs => exact ⟨xs.length, rfl⟩
  obtain ⟨m, hm⟩ := hlen
  have hinst : ∀ p : String, f.range ≠ p → TOP ≠ p → isInstanceOf ts f.range p = false := by
    intro p h1 h2
    unfold isInstanceOf
    rw [hm]
    have hnt : f.range ≠ TOP := by rcases isIntRange_cases hr with h | h | h | h <;> rw [h] <;> simp [TOP]
    show (if (f.range == p) = true then true else if (f.range == TOP) = true then false
      else isInstanceOfAux ts p (m + 1) (superOf ts f.range)) = false
    rw [if_neg (by simpa using h1), if_neg (by simpa using hnt), hsup]
    show (if (TOP == p) = true then true else if (TOP == TOP) = true then false else _) = false
    rw [if_neg (by simpa using h2), if_pos (by decide)]
  refine ⟨hres, hr, ?_, ?_, ?_, ?_, ?_⟩
  · unfold isPrimitive
    rw [hm]
    rcases isIntRange_cases hr with h | h | h | h <;> rw [h] <;> rfl
  · rcases isIntRange_cases hr with h | h | h | h <;> rw [h] <;> simp [isPrimitiveArray, Gen.consts, TOP]
  · rcases isIntRange_cases hr with h | h | h | h <;> rw [h] <;> simp [isPrimitiveList, Gen.consts, TOP]
  · apply hinst
    · rcases isIntRange_cases hr with h | h | h | h <;> rw [h] <;> simp [STRING_ARRAY]
    · simp [TOP, STRING_ARRAY]
  · apply hinst
    · rcases isIntRange_cases hr with h | h | h | h <;> rw [h] <;> simp [STRING_LIST]
    · simp [TOP, STRING_LIST]

/-- **the attribute written for `begin` / `end` of an annotation is the token of the oracle** (`isAnn = true`: the type
    of the structure is a subtype of `uima.tcas.Annotation`, `renderFs`) -/
theorem renderFeature_offset (K : Consts) (ts : TypeSystem) (cass : List Cas) (hp : Heap) (a : Nat) (f : Feature)
    (ci : Nat) (vn : String) (c : Cas) (view : View) (t : List Nat) (i : Int)
    (hf : IntFeat K ts f) (hname : f.name = "begin" ∨ f.name = "end")
    (hsofa : slot hp a "sofa" = some (.sofa ci vn)) (hc : cass[ci]? = some c)
    (hv : Cas.getViewRec c vn = some view) (ht : view.sofa.text = some t) (hok : SofaConvOk view.sofa)
    (hval : slot hp a f.name = some (.int i)) :
    renderFeature K ts cass hp a true f = .ok ([(f.name, showInt (extOffset t i))], []) := by
  obtain ⟨o, ho, hvo⟩ := slot_obj hval
  obtain ⟨o', ho', hso⟩ := slot_obj hsofa
  rw [ho] at ho'
  cases ho'
  have hview : (cass[ci]?).bind (fun c => Cas.getViewRec c vn) = some view := by rw [hc]; exact hv
  have hns : f.name ≠ "sofa" := by rcases hname with h | h <;> rw [h] <;> decide
  rw [renderFeature_int K ts cass hp a true f o i ho (IntFeat.noColl hf hname) hvo hns hf.2.1 hf.2.2.1
    (fun _ => ⟨ci, vn, view, hso, hview⟩), xmlName_of_not_reserved f hf.1]
  rw [extInt_mapped hname hso hview, conv_ext view.sofa t ht hok i]

/-- **the clause on non-annotations of C03 (properties.jsonl), XMI**: for a structure whose type is not a subtype of Annotation (`isAnn = false`)
    an integer feature named `begin` / `end` is written unchanged -/
theorem renderFeature_plain (K : Consts) (ts : TypeSystem) (cass : List Cas) (hp : Heap) (a : Nat) (f : Feature)
    (i : Int) (hf : IntFeat K ts f) (hname : f.name = "begin" ∨ f.name = "end")
    (hval : slot hp a f.name = some (.int i)) :
    renderFeature K ts cass hp a false f = .ok ([(f.name, showInt i)], []) := by
  obtain ⟨o, ho, hvo⟩ := slot_obj hval
  have hns : f.name ≠ "sofa" := by rcases hname with h | h <;> rw [h] <;> decide
  rw [renderFeature_int K ts cass hp a false f o i ho (IntFeat.noColl hf hname) hvo hns hf.2.1 hf.2.2.1
    (fun h => by cases h), xmlName_of_not_reserved f hf.1]
  rfl

/-- non-vacuity: `end = 2` of the indexed `x.Tok` over `a😀b` is written as `"3"` -/
example : renderFeature Demo.K Demo.demoTS' [Demo.casL] Demo.hpL 0 true OffsetsDoc.Demo.fEnd = .ok ([("end", "3")], []) :=
  renderFeature_offset Demo.K Demo.demoTS' [Demo.casL] Demo.hpL 0 OffsetsDoc.Demo.fEnd 0 "_InitialView" Demo.casL
    OffsetsDoc.Demo.viewL Demo.txt 2 (intFeat_builtin _ _ rfl rfl OffsetsDoc.Demo.int_super) (Or.inr rfl)
    (by decide +kernel) rfl OffsetsDoc.Demo.viewL_get OffsetsDoc.Demo.viewL_text OffsetsDoc.Demo.sofaL_ok
    (by decide +kernel)

/-! ### XMI, the saved document -/

/-- the element written for a collected structure (not an array): it carries the id and the type, and every feature of
    the type contributes the attributes and child elements `renderFeature` returns for it, read from the slots the
    structure has in the heap given to the writer -/
theorem saveXmi_element (K : Consts) (ts : TypeSystem) (cass : List Cas) (ci : Nat) (hp : Heap)
    (doc : XDoc) (st : St) (hs : saveXmi K ts cass ci hp = .ok (doc, st))
    (p : Int × Nat) (hp' : p ∈ st.allFs) (o : Obj) (ho : hp[p.2]? = some o)
    (hna : isPrimitiveArray K o.ty = false) (hnf : o.ty ≠ FS_ARRAY) (tr : TypeRec) (htr : getType ts o.ty = .ok tr) :
    ∃ e ∈ doc, attr e ID = some (showInt p.1) ∧ e.ty = o.ty ∧ (∀ n, slot st.heap p.2 n = alistGet? o.slots n) ∧
      (∀ f ∈ allFeatures tr, ∃ out, renderFeature K ts cass st.heap p.2 (isInstanceOf ts o.ty ANNOTATION) f = .ok out ∧
        (∀ m ∈ out.1, m ∈ e.attrs) ∧ ∀ m ∈ out.2, m ∈ e.kids) ∧
      (∀ m ∈ e.attrs, m.1 = ID ∨ ∃ f ∈ allFeatures tr, ∃ out,
        renderFeature K ts cass st.heap p.2 (isInstanceOf ts o.ty ANNOTATION) f = .ok out ∧ m ∈ out.1) := by
  obtain ⟨c, _, _, hfind, _⟩ := saveXmi_ok_iff.mp hs
  obtain ⟨o', ho', hty, hxid, hslots⟩ := collected_obj hfind hp' ho
  obtain ⟨e, he, hre⟩ := saveXmi_elem hs hp'
  obtain ⟨tr', as, ks, htr', hety, hattrs, hkids, hfe⟩ :=
    renderFs_struct hre ho' (by rw [hty]; exact hna) (by rw [hty]; exact hnf)
  rw [hty] at htr' hfe
  rw [htr] at htr'
  cases htr'
  obtain ⟨m1, m2⟩ := renderFeatures_members K ts cass st.heap p.2 _ _ _ hfe
  refine ⟨e, he, ?_, by rw [hety, hty], hslots, ?_, ?_⟩
  · exact attr_id_head (by rw [hattrs, hxid])
  · intro f hf
    obtain ⟨out, hout, h1, h2⟩ := m1 f hf
    refine ⟨out, hout, ?_, ?_⟩
    · intro m hm; rw [hattrs]; exact List.mem_cons_of_mem _ (h1 m hm)
    · intro m hm; rw [hkids]; exact h2 m hm
  · intro m hm
    rw [hattrs] at hm
    rcases List.mem_cons.mp hm with rfl | hm
    · exact Or.inl rfl
    · exact Or.inr (m2 m hm)

/-- a feature contributes at most one attribute, under the name it is written with -/
theorem renderFeature_attr (K : Consts) (ts : TypeSystem) (cass : List Cas) (hp : Heap) (a : Nat) (isAnn : Bool)
    (f : Feature) (out : List (String × String) × List (String × Option String))
    (h : renderFeature K ts cass hp a isAnn f = .ok out) :
    out.1 = [] ∨ ∃ s, out.1 = [(xmlName f, s)] :=
  renderFeature_oneAttr K ts cass hp a isAnn f out h

/-- **nothing else is carried, XMI**: every attribute named `begin` / `end` of the element written for a collected
    structure is the single attribute that a feature of its type, written under that name, contributes (its value is
    then given by `renderFeature_offset` / `renderFeature_plain`) -/
theorem saveXmi_offset_attrs (K : Consts) (ts : TypeSystem) (cass : List Cas) (ci : Nat) (hp : Heap)
    (doc : XDoc) (st : St) (hs : saveXmi K ts cass ci hp = .ok (doc, st))
    (p : Int × Nat) (hp' : p ∈ st.allFs) (o : Obj) (ho : hp[p.2]? = some o)
    (hna : isPrimitiveArray K o.ty = false) (hnf : o.ty ≠ FS_ARRAY) (tr : TypeRec) (htr : getType ts o.ty = .ok tr) :
    ∃ e ∈ doc, attr e ID = some (showInt p.1) ∧ e.ty = o.ty ∧ (∀ n, slot st.heap p.2 n = alistGet? o.slots n) ∧
      ∀ m ∈ e.attrs, (m.1 = "begin" ∨ m.1 = "end") →
        ∃ f ∈ allFeatures tr, xmlName f = m.1 ∧ ∃ out,
          renderFeature K ts cass st.heap p.2 (isInstanceOf ts o.ty ANNOTATION) f = .ok out ∧ out.1 = [m] := by
  obtain ⟨e, he, hid, hty, hslots, _, m2⟩ := saveXmi_element K ts cass ci hp doc st hs p hp' o ho hna hnf tr htr
  refine ⟨e, he, hid, hty, hslots, ?_⟩
  intro m hm hn
  rcases m2 m hm with hidm | ⟨f, hf, out, hout, hmo⟩
  · exfalso
    rw [hidm] at hn
    revert hn
    decide
  · rcases renderFeature_attr K ts cass st.heap p.2 _ f out hout with h0 | ⟨s, h1⟩
    · rw [h0] at hmo; cases hmo
    · rw [h1] at hmo
      have : m = (xmlName f, s) := List.mem_singleton.mp hmo
      subst this
      exact ⟨f, hf, rfl, out, hout, h1⟩

/-- **written document, XMI**: for every structure `p` the writer collected whose type is a subtype of Annotation and
    whose `sofa` slot names a view (of any CAS of the world) with text `t`: the element written for it carries, for the
    integer feature `f` named `begin` / `end` with value `i` in memory, the attribute `showInt (extOffset t i)` — the
    UTF-16 prefix length w.r.t. the current text of THAT view -/
theorem saveXmi_annotation_offsets (K : Consts) (ts : TypeSystem) (cass : List Cas) (ci : Nat) (hp : Heap)
    (doc : XDoc) (st : St) (hs : saveXmi K ts cass ci hp = .ok (doc, st))
    (p : Int × Nat) (hp' : p ∈ st.allFs) (o : Obj) (ho : hp[p.2]? = some o)
    (hna : isPrimitiveArray K o.ty = false) (hnf : o.ty ≠ FS_ARRAY) (tr : TypeRec) (htr : getType ts o.ty = .ok tr)
    (hann : isInstanceOf ts o.ty ANNOTATION = true)
    (f : Feature) (hf : f ∈ allFeatures tr) (hif : IntFeat K ts f) (hname : f.name = "begin" ∨ f.name = "end")
    (cj : Nat) (vn : String) (c' : Cas) (view : View) (t : List Nat) (i : Int)
    (hsofa : alistGet? o.slots "sofa" = some (.sofa cj vn)) (hc : cass[cj]? = some c')
    (hv : Cas.getViewRec c' vn = some view) (ht : view.sofa.text = some t) (hok : SofaConvOk view.sofa)
    (hval : alistGet? o.slots f.name = some (.int i)) :
    ∃ e ∈ doc, attr e ID = some (showInt p.1) ∧ e.ty = o.ty ∧ (f.name, showInt (extOffset t i)) ∈ e.attrs := by
  obtain ⟨e, he, hid, hty, hslots, m1, _⟩ := saveXmi_element K ts cass ci hp doc st hs p hp' o ho hna hnf tr htr
  obtain ⟨out, hout, hmem, _⟩ := m1 f hf
  rw [hann, renderFeature_offset K ts cass st.heap p.2 f cj vn c' view t i hif hname
    (by rw [hslots]; exact hsofa) hc hv ht hok (by rw [hslots]; exact hval)] at hout
  cases hout
  exact ⟨e, he, hid, hty, hmem _ List.mem_cons_self⟩

/-- **the clause on non-annotations of C03 (properties.jsonl), written document, XMI** -/
theorem saveXmi_nonannotation_plain (K : Consts) (ts : TypeSystem) (cass : List Cas) (ci : Nat) (hp : Heap)
    (doc : XDoc) (st : St) (hs : saveXmi K ts cass ci hp = .ok (doc, st))
    (p : Int × Nat) (hp' : p ∈ st.allFs) (o : Obj) (ho : hp[p.2]? = some o)
    (hna : isPrimitiveArray K o.ty = false) (hnf : o.ty ≠ FS_ARRAY) (tr : TypeRec) (htr : getType ts o.ty = .ok tr)
    (hann : isInstanceOf ts o.ty ANNOTATION = false)
    (f : Feature) (hf : f ∈ allFeatures tr) (hif : IntFeat K ts f) (hname : f.name = "begin" ∨ f.name = "end")
    (i : Int) (hval : alistGet? o.slots f.name = some (.int i)) :
    ∃ e ∈ doc, attr e ID = some (showInt p.1) ∧ e.ty = o.ty ∧ (f.name, showInt i) ∈ e.attrs := by
  obtain ⟨e, he, hid, hty, hslots, m1, _⟩ := saveXmi_element K ts cass ci hp doc st hs p hp' o ho hna hnf tr htr
  obtain ⟨out, hout, hmem, _⟩ := m1 f hf
  rw [hann, renderFeature_plain K ts cass st.heap p.2 f i hif hname (by rw [hslots]; exact hval)] at hout
  cases hout
  exact ⟨e, he, hid, hty, hmem _ List.mem_cons_self⟩

/-- non-vacuity: the demo CAS over `a😀b`; the `x.Tok` that is only referenced (id 3, `begin = 2`) is written with
    `begin="3"` -/
example : ∃ doc st, saveXmi Demo.K Demo.demoTS' [Demo.casL] 0 Demo.hpL = .ok (doc, st) ∧
    ∃ e ∈ doc, attr e ID = some "3" ∧ e.ty = "x.Tok" ∧ ("begin", "3") ∈ e.attrs := by
  obtain ⟨doc, st, hs⟩ := OffsetsDoc.Demo.saveXmi_ok
  refine ⟨doc, st, hs, ?_⟩
  exact saveXmi_annotation_offsets Demo.K Demo.demoTS' [Demo.casL] 0 Demo.hpL doc st hs (3, 1)
    (by rw [OffsetsDoc.Demo.allFs_xmi hs]; decide) _ rfl OffsetsDoc.Demo.tok_noarr.1 OffsetsDoc.Demo.tok_noarr.2
    _ OffsetsDoc.Demo.tok_getType OffsetsDoc.Demo.tok_ann OffsetsDoc.Demo.fBegin OffsetsDoc.Demo.tok_begin
    (intFeat_builtin _ _ rfl rfl OffsetsDoc.Demo.int_super) (Or.inl rfl) 0 "_InitialView" Demo.casL
    OffsetsDoc.Demo.viewL Demo.txt 2 rfl rfl OffsetsDoc.Demo.viewL_get OffsetsDoc.Demo.viewL_text
    OffsetsDoc.Demo.sofaL_ok rfl

/-- non-vacuity: `x.Span` under TOP with its own `begin = 2` over the same text: written as `begin="2"` -/
example : ∃ doc st, saveXmi Demo.K OffsetsDoc.Demo.tsP [OffsetsDoc.Demo.casP] 0 OffsetsDoc.Demo.hpP = .ok (doc, st) ∧
    ∃ e ∈ doc, attr e ID = some "3" ∧ e.ty = "x.Span" ∧ ("begin", "2") ∈ e.attrs := by
  obtain ⟨⟨doc, st⟩, h, hall⟩ := Det.ok_of_toOption_map OffsetsDoc.Demo.saveP_xmi
  refine ⟨doc, st, h, ?_⟩
  exact saveXmi_nonannotation_plain Demo.K _ _ 0 _ doc st h (3, 0) (by rw [hall]; decide) _ rfl
      OffsetsDoc.Demo.span_noarr.1 OffsetsDoc.Demo.span_noarr.2 _ OffsetsDoc.Demo.span_getType
      OffsetsDoc.Demo.span_notann OffsetsDoc.Demo.gBegin OffsetsDoc.Demo.span_begin
      (intFeat_builtin _ _ rfl rfl OffsetsDoc.Demo.intP_super) (Or.inl rfl) 2 rfl

/-! ### XMI, the reader never converts a structure that is not an annotation

(the JSON counterpart is the last clause of `Json.parseFs_converts` together with `Json.viewsPass_keeps_offsets`, `Properties/C03DocJson.lean`) -/

/-- offsets are converted in the third pass of the XMI loader only (`buildCas`: the members of the views, `rehome`, the
    annotations that are only referenced); a structure whose type is not a subtype of Annotation leaves that pass with
    every slot but `sofa` as it entered it — integer features named `begin` / `end` included -/
theorem loadXmi_nonannotation_plain (K : Consts) (ts : TypeSystem) (tsIdx ci : Nat) (lenient : Bool) (hp : Heap)
    (doc : XDoc) (ld : Loaded) (h : loadXmi K ts tsIdx ci lenient hp doc = .ok ld) :
    ∃ (p : Pass1) (hp2 : Heap), pass1 K ts tsIdx lenient doc { heap := hp } = .ok p ∧
      postAll K ts tsIdx ci p.sofas p.fss p.fss p.heap = .ok hp2 ∧
      ∀ (a : Nat) (o : Obj), hp2[a]? = some o → isInstanceOf ts o.ty ANNOTATION = false →
        ∀ n, n ≠ "sofa" → Traverse.slot ld.heap a n = alistGet? o.slots n := by
  obtain ⟨p, hp2, hp1, hpost, h⟩ := loadXmi_ok h
  refine ⟨p, hp2, hp1, hpost, ?_⟩
  intro a o ho hna n hn
  obtain ⟨o', ho', _, hs⟩ := (buildCas_plain h).old a o ho
  rw [Traverse.slot_eq ho']
  exact hs hna n hn

/-- evaluated: the XMI document of the demo CAS (annotations written as `(0, 3)`, `(3, 4)`) and the one of the `x.Span`
    instance (written as `(2, 3)`) are read back with the in-memory offsets; the loaded structures follow the
    `cas:NULL` object in the heap -/
example : ((saveXmi Demo.K Demo.demoTS' [Demo.casL] 0 Demo.hpL).toOption.bind (fun r =>
    (loadXmi Demo.K Demo.demoTS' 0 1 true r.2.heap r.1).toOption.map (fun ld =>
      [3, 4].map (fun k => (Traverse.slot ld.heap k "begin", Traverse.slot ld.heap k "end"))))) =
    some [(some (.int 0), some (.int 2)), (some (.int 2), some (.int 3))] := writeRead_evals.demo

example : ((saveXmi Demo.K OffsetsDoc.Demo.tsP [OffsetsDoc.Demo.casP] 0 OffsetsDoc.Demo.hpP).toOption.bind (fun r =>
    (loadXmi Demo.K OffsetsDoc.Demo.tsP 0 1 true r.2.heap r.1).toOption.map (fun ld =>
      [2].map (fun k => (Traverse.slot ld.heap k "begin", Traverse.slot ld.heap k "end"))))) =
    some [(some (.int 2), some (.int 3))] := writeRead_evals.span

end Cassis.Xmi

namespace Cassis.Json
open Cassis.Offsets Cassis.TS Cassis.OffsetsDoc Cassis.Traverse

/-! ### JSON (the per-feature statement for annotations is `Json.renderFeature_offset`, `C03DocJson.lean`) -/

/-- **the clause on non-annotations of C03 (properties.jsonl), JSON, per feature**: a feature that `uima.tcas.Annotation` does not declare is
    never converted, whatever its name -/
theorem renderFeature_plain (K : Consts) (ts : TypeSystem) (cass : List Cas) (hp : Heap) (a : Nat) (f : Feature)
    (i : Int) (hdom : f.domain ≠ ANNOTATION) (hname : xmlName f = "begin" ∨ xmlName f = "end")
    (hval : Xmi.slot hp a f.name = some (.int i)) :
    (isPrimitive K ts f.range = true ∨ f.range = "uima.cas.Double" ∨ f.range = "uima.cas.Float" →
      renderFeature K ts cass hp a f = .ok [(xmlName f, .int i)]) ∧
    (∀ out, renderFeature K ts cass hp a f = .ok out → out = [(xmlName f, .int i)]) := by
  rw [renderFeature_eq, name_of_xmlName_offset f hname]
  simp only [Bool.false_eq_true, if_false, hval, Option.getD_some, xmlName_def]
  have hne : ¬ ((Val.int i == Val.none) = true) := by simp
  rw [if_neg hne]
  have hst1 : stage1 cass hp a f (xmlName f) (.int i) = .ok (.int i) := by
    unfold stage1
    have : (f.domain == ANNOTATION) = false := by simpa using hdom
    rw [this]
    rfl
  rw [hst1]
  exact stage2_int K ts cass hp f (xmlName f) i

/-- the element written for a collected structure (not an array): its members are exactly what `renderFeature` returns
    for the features of the type, read from the slots the structure has in the heap given to the writer -/
theorem saveJson_element (K : Consts) (ts : TypeSystem) (cass : List Cas) (ci : Nat) (hp : Heap) (mode : Mode)
    (doc : JDoc) (st : St) (hs : saveJson K ts cass ci hp mode = .ok (doc, st))
    (p : Int × Nat) (hp' : p ∈ st.allFs) (o : Obj) (ho : hp[p.2]? = some o)
    (hna : isPrimitiveArray K o.ty = false) (hnf : o.ty ≠ FS_ARRAY) (tr : TypeRec) (htr : getType ts o.ty = .ok tr) :
    ∃ j ∈ doc.fss, j.id = some p.1 ∧ j.ty = o.ty ∧ (∀ n, Xmi.slot st.heap p.2 n = alistGet? o.slots n) ∧
      (∀ f ∈ allFeatures tr, ∃ out, renderFeature K ts cass st.heap p.2 f = .ok out ∧ ∀ m ∈ out, m ∈ j.feats) ∧
      (∀ m ∈ j.feats, ∃ f ∈ allFeatures tr, ∃ out, renderFeature K ts cass st.heap p.2 f = .ok out ∧ m ∈ out) := by
  obtain ⟨c, _, _, _, _, _, hfind, _⟩ := saveJson_ok_iff.mp hs
  obtain ⟨o', ho', hty, hxid, hslots⟩ := collected_obj hfind hp' ho
  obtain ⟨j, hj, hrj⟩ := saveJson_elem hs hp'
  obtain ⟨tr', htr', hid, hjty, hfe⟩ := renderFs_struct hrj ho' (by rw [hty]; exact hna) (by rw [hty]; exact hnf)
  rw [hty, htr] at htr'
  cases htr'
  obtain ⟨m1, m2⟩ := renderFeatures_members K ts cass st.heap p.2 _ _ hfe
  exact ⟨j, hj, by rw [hid, hxid], by rw [hjty, hty], hslots, m1, m2⟩

/-- **nothing else is carried, JSON**: every member named `begin` / `end` of the element written for a collected
    structure is the single member that a feature of its type, written under that name, contributes (its value is then
    given by the second clauses of `renderFeature_offset` / `renderFeature_plain`) -/
theorem saveJson_offset_members (K : Consts) (ts : TypeSystem) (cass : List Cas) (ci : Nat) (hp : Heap)
    (mode : Mode) (doc : JDoc) (st : St) (hs : saveJson K ts cass ci hp mode = .ok (doc, st))
    (p : Int × Nat) (hp' : p ∈ st.allFs) (o : Obj) (ho : hp[p.2]? = some o)
    (hna : isPrimitiveArray K o.ty = false) (hnf : o.ty ≠ FS_ARRAY) (tr : TypeRec) (htr : getType ts o.ty = .ok tr) :
    ∃ j ∈ doc.fss, j.id = some p.1 ∧ j.ty = o.ty ∧ (∀ n, Xmi.slot st.heap p.2 n = alistGet? o.slots n) ∧
      ∀ m ∈ j.feats, (m.1 = "begin" ∨ m.1 = "end") →
        ∃ f ∈ allFeatures tr, xmlName f = m.1 ∧ renderFeature K ts cass st.heap p.2 f = .ok [m] := by
  obtain ⟨j, hj, hid, hty, hslots, _, m2⟩ := saveJson_element K ts cass ci hp mode doc st hs p hp' o ho hna hnf tr htr
  refine ⟨j, hj, hid, hty, hslots, ?_⟩
  intro m hm hn
  obtain ⟨f, hf, out, hout, hmo⟩ := m2 m hm
  obtain ⟨h1, h2⟩ := renderFeature_offset_member K ts cass st.heap p.2 f out hout m hmo hn
  rw [h2] at hout
  exact ⟨f, hf, h1, hout⟩

/-- **written document, JSON** (every mode): for every structure `p` the writer collected whose `sofa` slot names a
    view with text `t`: the element written for it carries, for the feature `f` of `uima.tcas.Annotation` written as
    `begin` / `end` with value `i` in memory, the member `.int (extOffset t i)` -/
theorem saveJson_annotation_offsets (K : Consts) (ts : TypeSystem) (cass : List Cas) (ci : Nat) (hp : Heap)
    (mode : Mode) (doc : JDoc) (st : St) (hs : saveJson K ts cass ci hp mode = .ok (doc, st))
    (p : Int × Nat) (hp' : p ∈ st.allFs) (o : Obj) (ho : hp[p.2]? = some o)
    (hna : isPrimitiveArray K o.ty = false) (hnf : o.ty ≠ FS_ARRAY) (tr : TypeRec) (htr : getType ts o.ty = .ok tr)
    (f : Feature) (hf : f ∈ allFeatures tr) (hdom : f.domain = ANNOTATION)
    (hname : xmlName f = "begin" ∨ xmlName f = "end")
    (cj : Nat) (vn : String) (c' : Cas) (view : View) (t : List Nat) (i : Int)
    (hsofa : alistGet? o.slots "sofa" = some (.sofa cj vn)) (hc : cass[cj]? = some c')
    (hv : Cas.getViewRec c' vn = some view) (ht : view.sofa.text = some t) (hok : SofaConvOk view.sofa)
    (hval : alistGet? o.slots f.name = some (.int i)) :
    ∃ j ∈ doc.fss, j.id = some p.1 ∧ j.ty = o.ty ∧ (xmlName f, JV.int (extOffset t i)) ∈ j.feats := by
  obtain ⟨j, hj, hid, hty, hslots, m1, _⟩ := saveJson_element K ts cass ci hp mode doc st hs p hp' o ho hna hnf tr htr
  obtain ⟨out, hout, hmem⟩ := m1 f hf
  have := (renderFeature_offset K ts cass st.heap p.2 f cj vn c' view t i hdom hname
    (by rw [hslots]; exact hsofa) hc hv ht hok (by rw [hslots]; exact hval)).2 out hout
  subst this
  exact ⟨j, hj, hid, hty, hmem _ List.mem_cons_self⟩

/-- **the clause on non-annotations of C03 (properties.jsonl), written document, JSON** -/
theorem saveJson_nonannotation_plain (K : Consts) (ts : TypeSystem) (cass : List Cas) (ci : Nat) (hp : Heap)
    (mode : Mode) (doc : JDoc) (st : St) (hs : saveJson K ts cass ci hp mode = .ok (doc, st))
    (p : Int × Nat) (hp' : p ∈ st.allFs) (o : Obj) (ho : hp[p.2]? = some o)
    (hna : isPrimitiveArray K o.ty = false) (hnf : o.ty ≠ FS_ARRAY) (tr : TypeRec) (htr : getType ts o.ty = .ok tr)
    (f : Feature) (hf : f ∈ allFeatures tr) (hdom : f.domain ≠ ANNOTATION)
    (hname : xmlName f = "begin" ∨ xmlName f = "end") (i : Int)
    (hval : alistGet? o.slots f.name = some (.int i)) :
    ∃ j ∈ doc.fss, j.id = some p.1 ∧ j.ty = o.ty ∧ (xmlName f, JV.int i) ∈ j.feats := by
  obtain ⟨j, hj, hid, hty, hslots, m1, _⟩ := saveJson_element K ts cass ci hp mode doc st hs p hp' o ho hna hnf tr htr
  obtain ⟨out, hout, hmem⟩ := m1 f hf
  have := (renderFeature_plain K ts cass st.heap p.2 f i hdom hname (by rw [hslots]; exact hval)).2 out hout
  subst this
  exact ⟨j, hj, hid, hty, hmem _ List.mem_cons_self⟩

/-- non-vacuity: the referenced-only `x.Tok` (id 3, `begin = 2` over `a😀b`) is written with `"begin": 3` -/
example : ∃ doc st, saveJson Xmi.Demo.K Xmi.Demo.demoTS' [Xmi.Demo.casL] 0 Xmi.Demo.hpL .none = .ok (doc, st) ∧
    ∃ j ∈ doc.fss, j.id = some 3 ∧ j.ty = "x.Tok" ∧ ("begin", JV.int 3) ∈ j.feats := by
  obtain ⟨doc, st, hs⟩ := OffsetsDoc.Demo.saveJson_ok
  refine ⟨doc, st, hs, ?_⟩
  exact saveJson_annotation_offsets Xmi.Demo.K Xmi.Demo.demoTS' [Xmi.Demo.casL] 0 Xmi.Demo.hpL .none doc st hs (3, 1)
    (by rw [OffsetsDoc.Demo.allFs_json hs]; decide) _ rfl OffsetsDoc.Demo.tok_noarr.1 OffsetsDoc.Demo.tok_noarr.2
    _ OffsetsDoc.Demo.tok_getType OffsetsDoc.Demo.fBegin OffsetsDoc.Demo.tok_begin rfl (Or.inl rfl)
    0 "_InitialView" Xmi.Demo.casL OffsetsDoc.Demo.viewL Xmi.Demo.txt 2 rfl rfl OffsetsDoc.Demo.viewL_get
    OffsetsDoc.Demo.viewL_text OffsetsDoc.Demo.sofaL_ok rfl

/-- non-vacuity: `x.Span` under TOP with its own `begin = 2` over the same text: written as `"begin": 2` -/
example : ∃ doc st, saveJson Xmi.Demo.K OffsetsDoc.Demo.tsP [OffsetsDoc.Demo.casP] 0 OffsetsDoc.Demo.hpP .none = .ok (doc, st) ∧
    ∃ j ∈ doc.fss, j.id = some 3 ∧ j.ty = "x.Span" ∧ ("begin", JV.int 2) ∈ j.feats := by
  obtain ⟨⟨doc, st⟩, h, hall⟩ := Det.ok_of_toOption_map OffsetsDoc.Demo.saveP_json
  refine ⟨doc, st, h, ?_⟩
  exact saveJson_nonannotation_plain Xmi.Demo.K _ _ 0 _ .none doc st h (3, 0) (by rw [hall]; decide) _ rfl
      OffsetsDoc.Demo.span_noarr.1 OffsetsDoc.Demo.span_noarr.2 _ OffsetsDoc.Demo.span_getType
      OffsetsDoc.Demo.gBegin OffsetsDoc.Demo.span_begin (by decide) (Or.inl rfl) 2 rfl

end Cassis.Json

#print axioms Cassis.OffsetsDoc.writer_formula_is_oracle
#print axioms Cassis.OffsetsDoc.setSofaString_conv
#print axioms Cassis.OffsetsDoc.convIs_history
#print axioms Cassis.OffsetsDoc.convOk_run
#print axioms Cassis.OffsetsDoc.loadXmi_convOk
#print axioms Cassis.Xmi.intFeat_builtin
#print axioms Cassis.Xmi.renderFeature_offset
#print axioms Cassis.Xmi.renderFeature_plain
#print axioms Cassis.Xmi.saveXmi_element
#print axioms Cassis.Xmi.renderFeature_attr
#print axioms Cassis.Xmi.saveXmi_offset_attrs
#print axioms Cassis.Xmi.saveXmi_annotation_offsets
#print axioms Cassis.Xmi.saveXmi_nonannotation_plain
#print axioms Cassis.Xmi.loadXmi_nonannotation_plain
#print axioms Cassis.Json.renderFeature_plain
#print axioms Cassis.Json.saveJson_element
#print axioms Cassis.Json.saveJson_offset_members
#print axioms Cassis.Json.saveJson_annotation_offsets
#print axioms Cassis.Json.saveJson_nonannotation_plain
