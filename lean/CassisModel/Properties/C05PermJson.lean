/-
C05 — loading depends on what a document says, not on the order of its entries (JSON, flat fragment).

The JSON counterpart of `C05Perm.lean` (`xmi_load_perm_flat`).  For a document written by `saveJson` for a CAS in the
flat fragment (the hypotheses of `json_roundtrip_flat`, `Properties/C02RoundTrip.lean`), *every* document `doc'` whose
`%FEATURE_STRUCTURES` list is a permutation of the written one (structures before the structures they refer to or after
them, sofas anywhere — also behind the structures and members that refer to them) and whose `%VIEWS` entries are a
permutation of the written ones loads, and loads to the same content as the round-trip theorem states for `doc` itself:

* the reader registers exactly the written ids (`s.fss`, the id-keyed map of the reader after its two passes over
  `%FEATURE_STRUCTURES`, which are part of the statement);
* every written structure is found under its id, with the same type and the same content of every feature
  (`featContent`: primitives by value, references by the id of the target, the sofa reference by the view name); every
  sofa id is mapped to its view;
* the same views with the same sofa data and member ids (`viewContent`), as a *permutation* of the written views with
  the initial view first: the reader creates the views in the order of the sofas in the document (`_InitialView`
  exists from the start), so the order of `Cas.views` follows the order of the sofas in `doc'`, not the written order
  (`SofaPass.sofaPass_anyOrder`; evaluated on the instance below: the reversed document yields `_InitialView, v3, v2`;
  the Python code behaves in the same way);
* the generators are reseeded above every id and sofa number.

`doc'.types` is arbitrary: the configuration of the round-trip theorem (`merge_typesystem = False`, the type system
supplied) does not read it.  The identity permutation is `json_roundtrip_flat`.  Key order inside a JSON object,
whitespace and escaping do not exist in the abstract documents of the model (the `json` module's business) and are
exercised per run.
-/
import CassisModel.Properties.C05PermJsonColl
import CassisModel.Properties.C02RoundTripColl
import CassisModel.Proofs.RoundTripFlatOfColl
import CassisModel.Proofs.LoadPermJsonDemo

namespace Cassis.Json
open Cassis.TS Cassis.Traverse Cassis.Xmi

/-- **entry-order independence of the JSON reader** -/
theorem json_load_perm_flat (K : Consts) (ts : TypeSystem) (cass : List Cas) (ci : Nat) (c : Cas) (hp : Heap)
    (tsIdx ci' : Nat) (doc doc' : JDoc) (st : St)
    (hc : cass[ci]? = some c) (hwf : RTWf c hp)
    (hsave : saveJson K ts cass ci hp .none = .ok (doc, st))
    (hflat : ∀ q ∈ st.allFs, FlatFs K ts c ci st.heap q.2)
    (hjson : ∀ q ∈ st.allFs, JsonFs ts st.heap q.2)
    (hids : ∀ nv ∈ c.views, ∀ e ∈ Index.all nv.2.idx, (xidOf hp e.oid).isSome = true)
    (hdis : ∀ q ∈ st.allFs, ∀ nv ∈ c.views, q.1 ≠ nv.2.sofa.xid)
    (hmem : ∀ nv ∈ c.views, ∀ e ∈ Index.all nv.2.idx, Xmi.slot st.heap e.oid "sofa" ≠ some .none)
    (hmok : MembersOk c st.heap)
    (hpf : doc'.fss.Perm doc.fss) (hpv : doc'.views.Perm doc.views) :
    ∃ (s1 s : RState) (ld' : Loaded),
      -- the two passes over `%FEATURE_STRUCTURES` and the whole reader succeed
      sofaPass K ts tsIdx ci' doc'.fss doc'.fss { cas := Cas.empty, heap := st.heap } = .ok s1 ∧
      fsPass K ts tsIdx doc'.fss s1 = .ok s ∧
      loadJson K ts tsIdx ci' false false st.heap doc' = .ok ld' ∧ ld'.ts = ts ∧
      -- the reader registered exactly the written ids
      (s.fss.map (·.1)).Perm (c.views.map (·.2.sofa.xid) ++ (sortById st.allFs).map (·.1)) ∧
      -- the same structures under the same ids
      (∀ q ∈ st.allFs, ∃ (a' : Nat) (o o' : Obj), lookup s.fss q.1 = some (.ref a') ∧
          st.heap[q.2]? = some o ∧ ld'.heap[a']? = some o' ∧ o'.ty = o.ty ∧ o'.xid = some q.1 ∧
          ∀ t : TypeRec, find? ts o.ty = some t → ∀ f ∈ allFeatures t,
            featContent ld'.heap a' f.name = featContent st.heap q.2 f.name) ∧
      (∀ nv ∈ c.views, lookup s.fss nv.2.sofa.xid = some (.sofa ci' nv.1)) ∧
      -- the same views (the initial view first)
      (ld'.cas.views.map (viewContent ld'.heap)).Perm (c.views.map (viewContent st.heap)) ∧
      (ld'.cas.views.head?).map (·.1) = some Cas.INITIAL_VIEW ∧
      -- generators reseeded
      (∀ q ∈ st.allFs, q.1 < ld'.cas.nextXid) ∧
      (∀ nv ∈ c.views, nv.2.sofa.xid < ld'.cas.nextXid ∧ nv.2.sofa.sofaNum < ld'.cas.nextSofaNum) :=
  by
  -- the flat fragment is part of the whole format; there the deep content of a feature determines the flat one
  obtain ⟨s1, s, ld', h1, h2, hload, hts, hreg, hcont, rest⟩ :=
    json_load_perm_coll K ts cass ci c hp tsIdx ci' doc doc' st hc hwf hsave
      (fun q hq => jcollFs_of_flatFs K ts c ci st.heap q.2 (hflat q hq) (hjson q hq)) hids hdis hmem hmok hpf hpv
  refine ⟨s1, s, ld', h1, h2, hload, hts, hreg, fun q hq => ?_, rest⟩
  obtain ⟨a', o, o', hl, ho, ho', hty, hx, hc⟩ := hcont q hq
  exact ⟨a', o, o', hl, ho, ho', hty, hx, fun t ht f hf => flatFs_content (hflat q hq) ho ht hf (hc t ht f hf)⟩

/-! ### Non-vacuity

The instance `PermDemo` of `Proofs/InstancesFlat.lean`: the type system of `Xmi.Demo` (annotation type `x.Tok` with an
Integer and a reference feature), a CAS with THREE views (`_InitialView` over `a😀b`, `v2` over `😀bc`, `v3` over `d`),
five `x.Tok` structures (references across views, a cycle, a self reference, one structure that is only reachable and
gets its id from the writer).  All hypotheses hold (`PermDemo.demoP_hyps`, kernel evaluation of sound Boolean checkers),
and the written document with `%FEATURE_STRUCTURES` REVERSED (all structures before the sofas they name, every structure
before the one it refers to or after it, `v3` before `v2` before `_InitialView`) and `%VIEWS` REVERSED is a permutation
of it, so the theorem applies: the reversed document loads, to the same view content.  The order of the loaded views is
`_InitialView, v3, v2` (`PermDemo.reversed_view_order`), i.e. NOT the written order: "permutation, initial view first"
cannot be strengthened to equality of the lists. -/

example : ∃ (doc : JDoc) (st : St),
    saveJson PermDemo.K PermDemo.tsP [PermDemo.casP] 0 PermDemo.hpP .none = .ok (doc, st) ∧
    [PermDemo.casP][0]? = some PermDemo.casP ∧ RTWf PermDemo.casP PermDemo.hpP ∧
    (∀ q ∈ st.allFs, FlatFs PermDemo.K PermDemo.tsP PermDemo.casP 0 st.heap q.2) ∧
    (∀ q ∈ st.allFs, JsonFs PermDemo.tsP st.heap q.2) ∧
    (∀ nv ∈ PermDemo.casP.views, ∀ e ∈ Index.all nv.2.idx, (xidOf PermDemo.hpP e.oid).isSome = true) ∧
    (∀ q ∈ st.allFs, ∀ nv ∈ PermDemo.casP.views, q.1 ≠ nv.2.sofa.xid) ∧
    (∀ nv ∈ PermDemo.casP.views, ∀ e ∈ Index.all nv.2.idx, Xmi.slot st.heap e.oid "sofa" ≠ some .none) ∧
    MembersOk PermDemo.casP st.heap := PermDemo.demoP_hyps

/-- the theorem applied to the instance and the reversed document -/
example : ∃ (doc : JDoc) (st : St) (s1 s : RState) (ld' : Loaded),
    saveJson PermDemo.K PermDemo.tsP [PermDemo.casP] 0 PermDemo.hpP .none = .ok (doc, st) ∧
    doc.fss.reverse.Perm doc.fss ∧ doc.views.reverse.Perm doc.views ∧
    sofaPass PermDemo.K PermDemo.tsP 0 1 doc.fss.reverse doc.fss.reverse { cas := Cas.empty, heap := st.heap } = .ok s1 ∧
    fsPass PermDemo.K PermDemo.tsP 0 doc.fss.reverse s1 = .ok s ∧
    loadJson PermDemo.K PermDemo.tsP 0 1 false false st.heap
      { doc with fss := doc.fss.reverse, views := doc.views.reverse } = .ok ld' ∧
    (s.fss.map (·.1)).Perm (PermDemo.casP.views.map (·.2.sofa.xid) ++ (sortById st.allFs).map (·.1)) ∧
    (ld'.cas.views.map (viewContent ld'.heap)).Perm (PermDemo.casP.views.map (viewContent st.heap)) ∧
    (ld'.cas.views.head?).map (·.1) = some Cas.INITIAL_VIEW := by
  obtain ⟨doc, st, hs, hc, hwf, hf, hj, hi, hd, hm, hmo⟩ := PermDemo.demoP_hyps
  obtain ⟨s1, s, ld', h1, h2, hl, _, hids, _, _, hv, hh, _⟩ :=
    json_load_perm_flat PermDemo.K PermDemo.tsP [PermDemo.casP] 0 PermDemo.casP PermDemo.hpP 0 1 doc
      { doc with fss := doc.fss.reverse, views := doc.views.reverse } st
      hc hwf hs hf hj hi hd hm hmo (List.reverse_perm _) (List.reverse_perm _)
  exact ⟨doc, st, s1, s, ld', hs, List.reverse_perm _, List.reverse_perm _, h1, h2, hl, hids, hv, hh⟩

#print axioms json_load_perm_flat
#print axioms PermDemo.demoP_hyps
#print axioms PermDemo.reversed_view_order

end Cassis.Json
