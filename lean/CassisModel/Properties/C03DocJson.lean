/-
C03, document level, JSON — offsets are code points in memory and UTF-16 code units in a JSON document.

The JSON counterpart of `Properties/C03Doc.lean`.

* Writer (`Json.renderFeature`): the value of a feature declared by `uima.tcas.Annotation` (`f.domain`) and written under
  the name `begin` / `end` goes through `pythonToExternal` of the converter of the view the structure's `sofa` slot names.
  With a converter that belongs to the text of that view (`SofaConvOk`, `Spec/OffsetsDoc.lean`; holds in every
  reachable state, `Properties/C03DocWrite.lean`) the member written is the oracle `extOffset t i`: the UTF-16 length
  of the prefix of `i` code points for an offset inside the text, the offset itself when it is negative or beyond
  the text (the converter's `KeyError` branch; the real code does the same and warns).
* Reader: `parseSofa` applies the sofa *setter* to the `sofaString` member, so the reader's converter is the setter's
  (`parseSofa_conv`, also for the empty text — unlike the XMI reader, which installs no converter then).  Every
  annotation is converted when its element is parsed (`parseFs`), with the converter of the view its `sofa` member
  names, whether or not it is a member of a view (`parseFs_converts`); the views pass (`viewsPass`, which indexes the
  members) changes no slot but `sofa` (`viewsPass_keeps_offsets`).  Reader ∘ writer is the identity on every offset
  inside the text (`json_offset_roundtrip`, on heap objects `json_convertOffsets_restores`, `parseFs_restores`).

Note (model = code; two runs that tell them apart are described in the header of `Properties/C02RoundTrip.lean`): the JSON
*writer* decides by the declaring type of the feature (`f.domain = uima.tcas.Annotation`), the JSON *reader* (and both XMI
sides) by the type of the structure (`is_instance_of(fs.type, Annotation)`).  The two agree on every type system made through the API: `begin`/`end` of
an annotation type are the features inherited from `uima.tcas.Annotation`.
-/
import CassisModel.Proofs.OffsetsDocWriters
import CassisModel.Proofs.OffsetsDocJsonReader
import CassisModel.Proofs.OffsetsDocDemo

namespace Cassis.Json
open Cassis.Offsets Cassis.TS Cassis.OffsetsDoc

/-! ### the reader's converter -/

/-- the converter the JSON reader installs for a sofa element with `sofaString = docText t` is the table the sofa
    setter builds for `t` (counterpart of `Xmi.convOfText_docText`; the empty text included) -/
theorem parseSofa_conv (ci : Nat) (s s' : RState) (j : JFs) (n : String) (t : List Nat)
    (hs : ∀ c ∈ t, IsScalar c) (hn : sofaIdOf j = some n)
    (ht : (j.feats.find? (fun p => p.1 == "sofaString")).map (·.2) = some (.str (Xmi.docText t)))
    (h : parseSofa ci s j = .ok s') :
    ∃ v : View, Cas.getViewRec s'.cas n = some v ∧ v.sofa.text = some t ∧
      v.sofa.conv = createMapping none (some t) := by
  obtain ⟨name, hname, ⟨w, hw, hwt, hwc⟩, _⟩ := parseSofa_text ci s s' j h
  rw [hn] at hname
  cases hname
  rw [ht] at hwt
  dsimp only at hwt
  rw [Xmi.docText_toList t hs] at hwt
  exact ⟨w, hw, hwt, hwc t hwt⟩

/-- non-vacuity: the sofa element written for the text `a😀b`, parsed into the empty CAS -/
example : ∃ s', parseSofa 0 Demo.s0 Demo.jSofa = .ok s' ∧
    ∃ v : View, Cas.getViewRec s'.cas "_InitialView" = some v ∧ v.sofa.conv = some [0, 1, 3, 4] := by
  cases h : parseSofa 0 Demo.s0 Demo.jSofa with
  | error e => have := Demo.jSofa_ok; rw [h] at this; cases this
  | ok s' =>
    obtain ⟨v, hv, _, hc⟩ := parseSofa_conv 0 _ s' _ _ _ Demo.txt_scalar Demo.jSofa_id Demo.jSofa_text h
    exact ⟨s', rfl, v, hv, hc⟩

/-- every CAS the JSON loader returns: the converter of every sofa with text is the table of that text -/
theorem loadJson_convIs (K : Consts) (tsArg : TypeSystem) (tsIdx ci : Nat) (lenient mergeTs : Bool) (hp : Heap)
    (doc : JDoc) (ld : Loaded) (h : loadJson K tsArg tsIdx ci lenient mergeTs hp doc = .ok ld) : ConvIs ld.cas :=
  loadJson_allSofas K tsArg tsIdx ci lenient mergeTs hp doc ld keeps_convIs fresh_convIs
    (fun t s _ => setText_convIs t s) h

/-! ### what the writer emits -/

/-- **the member written for `begin` / `end` of an annotation is the oracle**: `f` is declared by
    `uima.tcas.Annotation` and written under the name `begin` / `end` (`xmlName`: the stored name, without the
    underscore of a reserved name), the `sofa` slot of the structure names a view with text `t` whose converter belongs
    to `t`, the slot of `f` holds the integer `i`.  Then the writer emits exactly the member `(name, extOffset t i)`:
    it does when the range is primitive (first clause), and whenever it succeeds it emits nothing else (second clause). -/
theorem renderFeature_offset (K : Consts) (ts : TypeSystem) (cass : List Cas) (hp : Heap) (a : Nat) (f : Feature)
    (ci : Nat) (vn : String) (c : Cas) (view : View) (t : List Nat) (i : Int)
    (hdom : f.domain = ANNOTATION) (hname : xmlName f = "begin" ∨ xmlName f = "end")
    (hsofa : Xmi.slot hp a "sofa" = some (.sofa ci vn)) (hc : cass[ci]? = some c)
    (hv : Cas.getViewRec c vn = some view) (ht : view.sofa.text = some t) (hok : SofaConvOk view.sofa)
    (hval : Xmi.slot hp a f.name = some (.int i)) :
    (isPrimitive K ts f.range = true ∨ f.range = "uima.cas.Double" ∨ f.range = "uima.cas.Float" →
      renderFeature K ts cass hp a f = .ok [(xmlName f, .int (extOffset t i))]) ∧
    (∀ out, renderFeature K ts cass hp a f = .ok out → out = [(xmlName f, .int (extOffset t i))]) := by
  rw [renderFeature_eq, name_of_xmlName_offset f hname]
  simp only [Bool.false_eq_true, if_false, hval, Option.getD_some, xmlName_def]
  have hne : ¬ ((Val.int i == Val.none) = true) := by simp
  rw [if_neg hne]
  have hcond : (f.domain == ANNOTATION && (xmlName f == "begin" || xmlName f == "end")) = true := by
    rw [hdom]
    rcases hname with h | h <;> rw [h] <;> decide
  have hst1 : stage1 cass hp a f (xmlName f) (.int i) = .ok (.int (extOffset t i)) := by
    unfold stage1
    rw [if_pos hcond, hsofa]
    dsimp only
    rw [hc]
    have e : ((some c).bind fun c => Cas.getViewRec c vn) = some view := hv
    rw [e]
    dsimp only
    rw [conv_ext view.sofa t ht hok i]
    rfl
  rw [hst1]
  exact stage2_int K ts cass hp f (xmlName f) (extOffset t i)

/-- the JSON counterpart of `Xmi.written_offset_is_utf16`, as a statement about the writer: for a code-point offset
    `b` inside the text the member carries the number of UTF-16 code units before it -/
theorem written_offset_is_utf16 (K : Consts) (ts : TypeSystem) (cass : List Cas) (hp : Heap) (a : Nat) (f : Feature)
    (ci : Nat) (vn : String) (c : Cas) (view : View) (t : List Nat) (b : Nat)
    (hdom : f.domain = ANNOTATION) (hname : xmlName f = "begin" ∨ xmlName f = "end")
    (hprim : isPrimitive K ts f.range = true)
    (hsofa : Xmi.slot hp a "sofa" = some (.sofa ci vn)) (hc : cass[ci]? = some c)
    (hv : Cas.getViewRec c vn = some view) (ht : view.sofa.text = some t) (hok : SofaConvOk view.sofa)
    (hval : Xmi.slot hp a f.name = some (.int (b : Nat))) (hb : b ≤ t.length) :
    renderFeature K ts cass hp a f = .ok [(xmlName f, .int (Int.ofNat (utf16Encode (t.take b)).length))] := by
  rw [← extOffset_inside_aux t b hb]
  exact (renderFeature_offset K ts cass hp a f ci vn c view t b hdom hname hsofa hc hv ht hok hval).1 (Or.inl hprim)

/-- non-vacuity: the referenced-only `x.Tok` at address 1 has `begin = 2` over `a😀b`; the member written is `3` -/
example : renderFeature Xmi.Demo.K Xmi.Demo.demoTS' [Xmi.Demo.casL] Xmi.Demo.hpL 1 Demo.fBegin = .ok [("begin", .int 3)] :=
  written_offset_is_utf16 Xmi.Demo.K Xmi.Demo.demoTS' [Xmi.Demo.casL] Xmi.Demo.hpL 1 Demo.fBegin 0 "_InitialView"
    Xmi.Demo.casL Demo.viewL Xmi.Demo.txt 2 rfl (Or.inl rfl) Demo.int_prim (by decide +kernel) rfl Demo.viewL_get
    Demo.viewL_text Demo.sofaL_ok (by decide +kernel) (by decide)

/-! ### reader ∘ writer -/

/-- **offset round trip through a JSON document**: the reader's converter (the setter's table for the text read from the
    `sofaString` member, whatever converter `c0` the sofa had before) maps the written offset back, for every offset
    inside the text, the empty text included -/
theorem json_offset_roundtrip (t : List Nat) (hs : ∀ c ∈ t, IsScalar c) (c0 : Conv) (i : Nat) (hi : i ≤ t.length) :
    externalToPython (createMapping c0 (some ((Xmi.docText t).toList.map Char.toNat)))
      (pythonToExternal (createMapping none (some t)) i) = i := by
  rw [Xmi.docText_toList t hs]
  show e2p t (p2e t i) = i
  exact e2p_p2e t i hi

/-- `json_offset_roundtrip` on heap objects, with the converter of the view (`parseSofa_conv`) -/
theorem json_convertOffsets_restores (t : List Nat) (view : View)
    (hconv : view.sofa.conv = createMapping none (some t)) (hp : Heap) (a : Nat) (o : Obj)
    (b e : Nat) (hb : b ≤ t.length) (he : e ≤ t.length) (ha : hp[a]? = some o)
    (hsb : alistGet? o.slots "begin" = some (.int (pythonToExternal (createMapping none (some t)) b : Nat)))
    (hse : alistGet? o.slots "end" = some (.int (pythonToExternal (createMapping none (some t)) e : Nat))) :
    ∃ hp' : Heap, Xmi.convertOffsets view.sofa.conv hp a = .ok hp' ∧
      Traverse.slot hp' a "begin" = some (.int b) ∧ Traverse.slot hp' a "end" = some (.int e) := by
  obtain ⟨hp', h1, h2, h3⟩ := Xmi.convertOffsets_nat view.sofa.conv hp a o _ _ ha hsb hse
  refine ⟨hp', h1, ?_, ?_⟩
  · rw [h2, hconv]
    show some (Val.int ((e2p t (p2e t b) : Nat) : Int)) = _
    rw [e2p_p2e t b hb]
  · rw [h3, hconv]
    show some (Val.int ((e2p t (p2e t e) : Nat) : Int)) = _
    rw [e2p_p2e t e he]

example : ∃ hp', Xmi.convertOffsets Demo.viewL.sofa.conv
      [{ ty := "x.Tok", ts := 0, xid := some 3, slots := [("begin", .int 3), ("end", .int 4)] }] 0 = .ok hp' ∧
    Traverse.slot hp' 0 "begin" = some (.int 2) ∧ Traverse.slot hp' 0 "end" = some (.int 3) :=
  json_convertOffsets_restores Xmi.Demo.txt Demo.viewL Demo.viewL_conv _ 0 _ 2 3 (by decide) (by decide) rfl rfl rfl

/-- **where the JSON reader converts**: when the element of a structure is parsed — not when it is indexed.  The
    structure is constructed from the members (`construct`), its references that can be resolved at once are set
    (`resolveRefs`, among them `sofa`), giving the heap `heap1`; if the type is an annotation type the offsets are then
    converted with the converter of the view the `sofa` slot names, else the heap is left as it is.  This is the path
    of members of views and of annotations that are only referenced alike. -/
theorem parseFs_converts (K : Consts) (ts : TypeSystem) (tsIdx : Nat) (s s' : RState) (j : JFs)
    (h : parseFs K ts tsIdx s j = .ok s') :
    ∃ (t : TypeRec) (fsId : Int) (o : Obj) (kwargs : List (String × Val)) (d0 d : List Deferred) (heap1 : Heap),
      getType ts (if j.ty.endsWith "[]" then arrayTypeNameFor j.ty else j.ty) = .ok t ∧ j.id = some fsId ∧
      construct t tsIdx (some fsId) kwargs = .ok o ∧
      resolveRefs renameReserved s.fss s.heap.length (j.feats.filter (fun p => p.1.startsWith "@"))
        (s.heap ++ [o], d0) = .ok (heap1, d) ∧
      s'.cas = s.cas ∧
      (isInstanceOf ts t.name ANNOTATION = true →
        ∃ (cI : Nat) (vn : String) (view : View), Xmi.slot heap1 s.heap.length "sofa" = some (.sofa cI vn) ∧
          Cas.getViewRec s.cas vn = some view ∧
          Xmi.convertOffsets view.sofa.conv heap1 s.heap.length = .ok s'.heap) ∧
      (isInstanceOf ts t.name ANNOTATION = false → s'.heap = heap1) := by
  obtain ⟨t, fsId, nums, kwargs, d0, o, heap1, d, heap, ht, hid, _, _, ho, hres, h5, rfl⟩ := parseFs_ok_iff.mp h
  have hconv := convStep_ok h5
  refine ⟨t, fsId, o, kwargs, d0, d, heap1, getType_of_getTypeExact ht, hid, ho, hres, rfl, ?_, ?_⟩
  · intro hann
    rw [if_pos hann] at hconv
    exact hconv
  · intro hann
    rw [if_neg (by rw [hann]; exact Bool.false_ne_true)] at hconv
    exact hconv

/-- **reader ∘ writer on a parsed annotation**: if before the conversion the `begin`/`end` slots held the offsets
    written for `b`, `e` over the text `t` of the view the `sofa` slot names (whose converter is the one `parseSofa`
    installed), the parsed structure has `begin = b`, `end = e`; a structure that is not an annotation is not converted -/
theorem parseFs_restores (K : Consts) (ts : TypeSystem) (tsIdx : Nat) (s s' : RState) (j : JFs)
    (h : parseFs K ts tsIdx s j = .ok s') :
    ∃ (t0 : TypeRec) (heap1 : Heap),
      getType ts (if j.ty.endsWith "[]" then arrayTypeNameFor j.ty else j.ty) = .ok t0 ∧
      (isInstanceOf ts t0.name ANNOTATION = true →
        ∃ (cI : Nat) (vn : String) (view : View), Xmi.slot heap1 s.heap.length "sofa" = some (.sofa cI vn) ∧
          Cas.getViewRec s.cas vn = some view ∧
          ∀ (t : List Nat) (b e : Nat), view.sofa.conv = createMapping none (some t) → b ≤ t.length → e ≤ t.length →
            Xmi.slot heap1 s.heap.length "begin" = some (.int (pythonToExternal (createMapping none (some t)) b : Nat)) →
            Xmi.slot heap1 s.heap.length "end" = some (.int (pythonToExternal (createMapping none (some t)) e : Nat)) →
            Xmi.slot s'.heap s.heap.length "begin" = some (.int b) ∧
            Xmi.slot s'.heap s.heap.length "end" = some (.int e)) ∧
      (isInstanceOf ts t0.name ANNOTATION = false → s'.heap = heap1) := by
  obtain ⟨t0, fsId, o, kwargs, d0, d, heap1, ht0, _, _, _, _, hA, hN⟩ := parseFs_converts K ts tsIdx s s' j h
  refine ⟨t0, heap1, ht0, ?_, hN⟩
  intro hann
  obtain ⟨cI, vn, view, hsl, hview, hcv⟩ := hA hann
  refine ⟨cI, vn, view, hsl, hview, ?_⟩
  intro t b e hconv hb he hsb hse
  obtain ⟨ob, hob, hsb'⟩ := Xmi.slot_obj hsb
  obtain ⟨ob', hob', hse'⟩ := Xmi.slot_obj hse
  rw [hob] at hob'
  cases hob'
  obtain ⟨hp', h1, h2, h3⟩ := json_convertOffsets_restores t view hconv heap1 _ ob b e hb he hob hsb' hse'
  rw [hcv] at h1
  cases h1
  exact ⟨h2, h3⟩

/-- the views pass indexes the members; it changes no slot but `sofa` of any object: offsets are not converted again -/
theorem viewsPass_keeps_offsets (ts : TypeSystem) (ci : Nat) (lenient : Bool) (fss : List (Int × Val))
    (l : List JView) (v v' : VState) (h : viewsPass ts ci lenient fss l v = .ok v') :
    ∀ (a : Nat) (n : String), n ≠ "sofa" → Traverse.slot v'.heap a n = Traverse.slot v.heap a n :=
  viewsPass_slotsKeep ts ci lenient fss l v v' h

/-! ### end-to-end instance: the document written for the demo CAS (offsets `(0, 3)` and `(3, 4)` over `a😀b`) is read
back with the in-memory offsets; the loaded structures sit at addresses 2 (the indexed `x.Tok`) and 3 (the one that
is only referenced) -/
example : ((saveJson Xmi.Demo.K Xmi.Demo.demoTS' [Xmi.Demo.casL] 0 Xmi.Demo.hpL .none).toOption.bind (fun r =>
    (loadJson Xmi.Demo.K Xmi.Demo.demoTS' 0 1 true false r.2.heap r.1).toOption.map (fun ld =>
      [2, 3].map (fun k => (Traverse.slot ld.heap k "begin", Traverse.slot ld.heap k "end"))))) =
    some [(some (.int 0), some (.int 2)), (some (.int 2), some (.int 3))] :=
  demoReadBack_evals

end Cassis.Json

#print axioms Cassis.Json.parseSofa_conv
#print axioms Cassis.Json.loadJson_convIs
#print axioms Cassis.Json.renderFeature_offset
#print axioms Cassis.Json.written_offset_is_utf16
#print axioms Cassis.Json.json_offset_roundtrip
#print axioms Cassis.Json.json_convertOffsets_restores
#print axioms Cassis.Json.parseFs_converts
#print axioms Cassis.Json.parseFs_restores
#print axioms Cassis.Json.viewsPass_keeps_offsets
