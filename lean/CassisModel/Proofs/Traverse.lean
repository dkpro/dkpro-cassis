/-
The worklist traversal `findAllFs` (`Model/Traverse.lean`): one iteration, the loop, its bound (C15).

`step` looks up the popped object, skips the NULL object, settles the id (`assignId`) and visits (`visit`); `step_cases`
says what a successful iteration does.  What it does to ids is one step of `Fut`, the relation between heap and generator
at two moments of a run (`HeapStep.fut`, `step_fut`, `Iter.fut`).  The loop invariant `Inv` is a potential,
`pushes + pending(unvisited) ≤ Σ outdeg` (`push_le_outdeg` of `TraverseSuccs.lean`), together with the count
`pops + |open| = seeds + pushes`.  The potential shows that the budget of `findAllFs` is never what stops the loop
(`Inv.openl_nil`); after that the loop is `Iter`, the successful iterations without fuel: `run_ok`, `run_error`
(a failing run fails in an iteration), `findAllFs_ok_iff_iter`.  `findAllFs_inv` hands `Inv` out at the end of a run (the
C15 bound and the writers read its fields).  What the traversal collects and when it succeeds is `Proofs/Reach.lean`.
-/
import CassisModel.Proofs.TraverseSuccs

namespace Cassis.Traverse
open Cassis.TS

/-- the id under which the popped object is visited: its own, or the next generated one -/
def assignId (o : Opts) (s : St) (a : Nat) (ob : Obj) : Except Err (Int × St) :=
  match ob.xid with
  | some x => pure (x, s)
  | none =>
    if o.generateIds then
      pure (s.nextXid, { s with nextXid := s.nextXid + 1,
                                heap := s.heap.set a { ob with xid := some s.nextXid } })
    else throw .valueError

/-- the visit proper: unless `a` is collected already, collect it under `x` and push its successors -/
def visit (K : Consts) (ts : TypeSystem) (o : Opts) (fuel : Nat) (s : St) (a : Nat) (ob : Obj) (x : Int) :
    Except Err St :=
  match s.allFs.find? (fun p => p.1 == x) with
  | some (_, b) => if b == a then pure s else throw .valueError
  | none => do
    let s := { s with allFs := s.allFs ++ [(x, a)] }
    let t ← getType ts ob.ty
    let (ps, n) ← nodeSuccs K ts o s.heap s.allFs fuel a t
    return { s with openl := s.openl ++ ps, pushes := s.pushes + ps.length, listSteps := s.listSteps + n }

theorem step_eq (K : Consts) (ts : TypeSystem) (o : Opts) (fuel : Nat) (s : St) (a : Nat) (rest : List Nat) :
    step K ts o fuel s a rest =
      match s.heap[a]? with
      | none => .error .attributeError
      | some ob =>
        if ob.xid == some 0 then .ok { s with openl := rest, pops := s.pops + 1 }
        else (assignId o { s with openl := rest, pops := s.pops + 1 } a ob).bind
          fun p => visit K ts o fuel p.2 a ob p.1 := by
  unfold step
  dsimp only
  cases s.heap[a]? with
  | none => rfl
  | some ob => rcases o with ⟨_ | _, _⟩ <;> rcases ob with ⟨_, _, _ | _, _⟩ <;> rfl

/-- `step` once the id `x` of the popped object is settled: the NULL object is skipped, any other is visited -/
def stepCore (K : Consts) (ts : TypeSystem) (o : Opts) (fuel : Nat) (s : St) (a : Nat) (rest : List Nat)
    (ob : Obj) (x : Int) : Except Err St :=
  if x == 0 then .ok { s with openl := rest, pops := s.pops + 1 }
  else visit K ts o fuel { s with openl := rest, pops := s.pops + 1 } a ob x

theorem stepCore_nextXid (K : Consts) (ts : TypeSystem) (o : Opts) (lf : Nat) (s : St) (a : Nat) (rest : List Nat)
    (ob : Obj) (x : Int) (n : Int) :
    stepCore K ts o lf { s with nextXid := n } a rest ob x =
      (stepCore K ts o lf s a rest ob x).map fun r => { r with nextXid := n } := by
  unfold stepCore
  split
  · rfl
  · unfold visit
    dsimp only
    cases s.allFs.find? (fun p => p.1 == x) with
    | some q => dsimp only; split <;> rfl
    | none =>
      dsimp only
      cases getType ts ob.ty with
      | error e => rfl
      | ok t =>
        dsimp only [bind, Except.bind]
        cases nodeSuccs K ts o s.heap (s.allFs ++ [(x, a)]) lf a t <;> rfl

theorem step_some (K : Consts) (ts : TypeSystem) (o : Opts) (lf : Nat) (s : St) (a : Nat) (rest : List Nat)
    (ob : Obj) (x : Int) (hob : s.heap[a]? = some ob) (hx : ob.xid = some x) :
    step K ts o lf s a rest = stepCore K ts o lf s a rest ob x := by
  rw [step_eq, hob]
  dsimp only
  unfold assignId
  rw [hx]
  rfl

theorem step_none (K : Consts) (ts : TypeSystem) (o : Opts) (lf : Nat) (s : St) (a : Nat) (rest : List Nat)
    (ob : Obj) (hob : s.heap[a]? = some ob) (hx : ob.xid = none) (hnx : s.nextXid ≠ 0) :
    step K ts o lf s a rest =
      if o.generateIds then
        stepCore K ts o lf { s with nextXid := s.nextXid + 1, heap := s.heap.set a { ob with xid := some s.nextXid } }
          a rest ob s.nextXid
      else .error .valueError := by
  have h1 : (s.nextXid == 0) = false := by simpa using hnx
  rw [step_eq, hob]
  dsimp only
  unfold assignId stepCore
  rw [hx, h1]
  cases o.generateIds <;> rfl

theorem assignId_ok {o : Opts} {s s1 : St} {a : Nat} {ob : Obj} {x : Int}
    (h : assignId o s a ob = .ok (x, s1)) :
    (ob.xid = some x ∧ s1 = s) ∨
    (ob.xid = none ∧ x = s.nextXid ∧
      s1 = { s with nextXid := s.nextXid + 1, heap := s.heap.set a { ob with xid := some s.nextXid } }) := by
  unfold assignId at h
  split at h
  · rename_i hx; cases h; exact .inl ⟨hx, rfl⟩
  · rename_i hx
    split at h
    · cases h; exact .inr ⟨hx, rfl, rfl⟩
    · cases h

theorem assignId_error {o : Opts} {s : St} {a : Nat} {ob : Obj} {e : Err}
    (h : assignId o s a ob = .error e) : e = .valueError := by
  unfold assignId at h
  repeat' split at h
  all_goals cases h
  rfl

theorem visit_ok {K : Consts} {ts : TypeSystem} {o : Opts} {lf : Nat} {s s' : St} {a : Nat} {ob : Obj} {x : Int}
    (h : visit K ts o lf s a ob x = .ok s') :
    (s' = s ∧ (x, a) ∈ s.allFs) ∨
    ∃ t ps n, s.allFs.find? (fun p => p.1 == x) = none ∧ getType ts ob.ty = .ok t ∧
      nodeSuccs K ts o s.heap (s.allFs ++ [(x, a)]) lf a t = .ok (ps, n) ∧
      s' = { s with allFs := s.allFs ++ [(x, a)], openl := s.openl ++ ps, pushes := s.pushes + ps.length,
                    listSteps := s.listSteps + n } := by
  unfold visit at h
  split at h
  · rename_i y b hf
    split at h
    · rename_i hb
      cases h
      have hy : y = x := by simpa using List.find?_some hf
      have hb' : b = a := eq_of_beq hb
      subst hy hb'
      exact .inl ⟨rfl, List.mem_of_find?_eq_some hf⟩
    · cases h
  · rename_i hf
    cases ht : getType ts ob.ty with
    | error e => rw [ht] at h; cases h
    | ok t =>
      cases hn : nodeSuccs K ts o s.heap (s.allFs ++ [(x, a)]) lf a t with
      | error e => rw [ht] at h; dsimp only [bind, Except.bind] at h; rw [hn] at h; cases h
      | ok r =>
        rw [ht] at h; dsimp only [bind, Except.bind] at h; rw [hn] at h
        cases h
        exact .inr ⟨t, r.1, r.2, hf, rfl, hn, rfl⟩

theorem visit_error {K : Consts} {ts : TypeSystem} {o : Opts} {lf : Nat} {s : St} {a : Nat} {ob : Obj} {x : Int}
    {e : Err} (h : visit K ts o lf s a ob x = .error e) :
    (e = .valueError ∧ ∃ b, (x, b) ∈ s.allFs ∧ b ≠ a) ∨ getType ts ob.ty = .error e ∨
      ∃ t, getType ts ob.ty = .ok t ∧ nodeSuccs K ts o s.heap (s.allFs ++ [(x, a)]) lf a t = .error e := by
  unfold visit at h
  split at h
  · rename_i y b hf
    split at h <;> cases h
    rename_i hba
    have hy : y = x := by simpa using List.find?_some hf
    exact .inl ⟨rfl, b, hy ▸ List.mem_of_find?_eq_some hf, by simpa using hba⟩
  · cases ht : getType ts ob.ty with
    | error e' => rw [ht] at h; cases h; exact .inr (.inl rfl)
    | ok t =>
      rw [ht] at h; dsimp only [bind, Except.bind] at h
      cases hn : nodeSuccs K ts o s.heap (s.allFs ++ [(x, a)]) lf a t with
      | error e' => rw [hn] at h; cases h; exact .inr (.inr ⟨t, rfl, hn⟩)
      | ok r => rw [hn] at h; cases h

theorem step_ok {K : Consts} {ts : TypeSystem} {o : Opts} {lf : Nat} {s s' : St} {a : Nat} {rest : List Nat}
    (h : step K ts o lf s a rest = .ok s') :
    ∃ ob, s.heap[a]? = some ob ∧
      ((ob.xid = some 0 ∧ s' = { s with openl := rest, pops := s.pops + 1 }) ∨
       ∃ x s1, assignId o { s with openl := rest, pops := s.pops + 1 } a ob = .ok (x, s1) ∧
         visit K ts o lf s1 a ob x = .ok s') := by
  rw [step_eq] at h
  cases hob : s.heap[a]? with
  | none => rw [hob] at h; cases h
  | some ob =>
    rw [hob] at h
    dsimp only at h
    refine ⟨ob, rfl, ?_⟩
    split at h
    · rename_i h0; cases h; exact .inl ⟨eq_of_beq h0, rfl⟩
    · cases hp : assignId o { s with openl := rest, pops := s.pops + 1 } a ob with
      | error e => rw [hp] at h; cases h
      | ok p => rw [hp] at h; exact .inr ⟨p.1, p.2, rfl, h⟩

theorem step_null (K : Consts) (ts : TypeSystem) (o : Opts) (lf : Nat) (s : St) (a : Nat)
    (rest : List Nat) (s' : St) (ob : Obj) (hob : s.heap[a]? = some ob) (hx : ob.xid = some 0)
    (h : step K ts o lf s a rest = .ok s') : s'.allFs = s.allFs := by
  rw [step_eq, hob] at h
  simp only [hx, beq_self_eq_true, if_true] at h
  cases h
  rfl

theorem stepCore_error (K : Consts) (ts : TypeSystem) (o : Opts) (hp0 : Heap) (lf : Nat) (s : St) (a : Nat)
    (rest : List Nat) (ob : Obj) (x : Int) (hslot : ∀ b n, slot s.heap b n = slot hp0 b n)
    (t : TypeRec) (r : List Nat × Nat) (ht : getType ts ob.ty = .ok t) (hn : nodeSuccs K ts o hp0 [] lf a t = .ok r)
    (e : Err) (h : stepCore K ts o lf s a rest ob x = .error e) :
    e = .valueError ∧ x ≠ 0 ∧ ∃ b, (x, b) ∈ s.allFs ∧ b ≠ a := by
  unfold stepCore at h
  split at h
  · cases h
  · rename_i hx0
    rcases visit_error h with ⟨he, hb⟩ | he | ⟨t', ht', he⟩
    · exact ⟨he, by simpa using hx0, hb⟩
    · rw [ht] at he; cases he
    · -- the successors can be enumerated: against any visited list they are those of the initial heap, filtered
      rw [ht] at ht'
      cases ht'
      rw [nodeSuccs_filter K ts o _ hp0 hslot _ lf a t, hn] at he
      cases he

/-- heap and generator at two moments of a run: ids are only ever assigned where there was none, from the generator
    upwards -/
structure Fut (hp : Heap) (nx : Int) (hp' : Heap) (nx' : Int) : Prop where
  shape : SameShape hp hp'
  le : nx ≤ nx'
  fresh : ∀ a y, xidOf hp a = none → xidOf hp' a = some y → nx ≤ y

theorem Fut.refl (hp : Heap) (nx : Int) : Fut hp nx hp nx :=
  ⟨SameShape.refl _, Int.le_refl _, fun a y h h' => by rw [h] at h'; cases h'⟩

theorem Fut.trans {h1 h2 h3 : Heap} {n1 n2 n3 : Int} (a12 : Fut h1 n1 h2 n2) (a23 : Fut h2 n2 h3 n3) :
    Fut h1 n1 h3 n3 := by
  refine ⟨a12.shape.trans a23.shape, Int.le_trans a12.le a23.le, ?_⟩
  intro a y h h'
  cases h2x : xidOf h2 a with
  | none => exact Int.le_trans a12.le (a23.fresh a y h2x h')
  | some z =>
    have := a23.shape.xidOf h2x
    rw [this] at h'
    have e : z = y := Option.some.inj h'
    rw [← e]
    exact a12.fresh a z h h2x

theorem Fut.set {hp : Heap} {a : Nat} {ob : Obj} (h : hp[a]? = some ob) (hx : ob.xid = none) (nx : Int) :
    Fut hp nx (hp.set a { ob with xid := some nx }) (nx + 1) := by
  refine ⟨SameShape.set h hx nx, by omega, ?_⟩
  intro b y hb hb'
  by_cases hab : a = b
  · subst hab
    rw [xidOf_set_self h] at hb'
    cases hb'
    exact Int.le_refl _
  · rw [xidOf_set_ne _ hab, hb] at hb'
    cases hb'

theorem Fut.noNewNull {hp hp' : Heap} {nx nx' : Int} (fut : Fut hp nx hp' nx') (hnx : 0 < nx) (a : Nat)
    (h0 : xidOf hp' a = some 0) : xidOf hp a = some 0 := by
  cases h : xidOf hp a with
  | some y =>
    have := fut.shape.xidOf h
    rw [this] at h0
    exact h0
  | none =>
    have := fut.fresh a 0 h h0
    omega

/-- the id assignment of `step`: the popped object `ob` at `a` ends with id `x`, in heap `hp'` with generator `nx'` -/
def HeapStep (s : St) (a : Nat) (ob : Obj) (x : Int) (hp' : Heap) (nx' : Int) : Prop :=
  (ob.xid = some x ∧ hp' = s.heap ∧ nx' = s.nextXid) ∨
  (ob.xid = none ∧ x = s.nextXid ∧ hp' = s.heap.set a { ob with xid := some s.nextXid } ∧ nx' = s.nextXid + 1)

theorem HeapStep.fut {s : St} {a : Nat} {ob : Obj} {x : Int} {hp' : Heap} {nx' : Int}
    (hs : HeapStep s a ob x hp' nx') (h : s.heap[a]? = some ob) :
    Fut s.heap s.nextXid hp' nx' ∧ xidOf hp' a = some x := by
  rcases hs with ⟨hx, rfl, rfl⟩ | ⟨hx, rfl, rfl, rfl⟩
  · exact ⟨Fut.refl _ _, by exact (xidOf_eq h).trans hx⟩
  · exact ⟨Fut.set h hx _, xidOf_set_self h _⟩

theorem step_cases (K : Consts) (ts : TypeSystem) (o : Opts) (lf : Nat) (s : St) (a : Nat)
    (rest : List Nat) (s' : St) (h : step K ts o lf s a rest = .ok s') :
    ∃ ob x, s.heap[a]? = some ob ∧ HeapStep s a ob x s'.heap s'.nextXid ∧ s'.pops = s.pops + 1 ∧
      ((s'.allFs = s.allFs ∧ s'.openl = rest ∧ s'.pushes = s.pushes ∧
          (x = 0 ∨ ∃ y, (y, a) ∈ s.allFs ∧ y = x)) ∨
       (∃ t ps n, s.allFs.find? (fun p => p.1 == x) = none ∧ getType ts ob.ty = .ok t ∧
          nodeSuccs K ts o s'.heap s'.allFs lf a t = .ok (ps, n) ∧
          s'.allFs = s.allFs ++ [(x, a)] ∧ s'.openl = rest ++ ps ∧
          s'.pushes = s.pushes + ps.length)) := by
  obtain ⟨ob, hob, ⟨h0, rfl⟩ | ⟨x, s1, ha, hv⟩⟩ := step_ok h
  · exact ⟨ob, 0, hob, .inl ⟨h0, rfl, rfl⟩, rfl, .inl ⟨rfl, rfl, rfl, .inl rfl⟩⟩
  · refine ⟨ob, x, hob, ?_⟩
    have h1 : HeapStep s a ob x s1.heap s1.nextXid ∧ s1.pops = s.pops + 1 ∧ s1.allFs = s.allFs ∧ s1.openl = rest ∧
        s1.pushes = s.pushes := by
      rcases assignId_ok ha with ⟨hx, rfl⟩ | ⟨hx, rfl, rfl⟩
      · exact ⟨.inl ⟨hx, rfl, rfl⟩, rfl, rfl, rfl, rfl⟩
      · exact ⟨.inr ⟨hx, rfl, rfl, rfl⟩, rfl, rfl, rfl, rfl⟩
    obtain ⟨hh, hpops, hall, hopen, hpush⟩ := h1
    rcases visit_ok hv with ⟨rfl, hm⟩ | ⟨t, ps, n, hf, ht, hn, rfl⟩
    · exact ⟨hh, hpops, .inl ⟨hall, hopen, hpush, .inr ⟨x, hall ▸ hm, rfl⟩⟩⟩
    · exact ⟨hh, hpops, .inr ⟨t, ps, n, hall ▸ hf, ht, hn, by rw [← hall], by rw [← hopen], by rw [← hpush]⟩⟩

theorem step_pres (P : Heap → Int → Prop)
    (hset : ∀ hp nx a ob, P hp nx → hp[a]? = some ob → ob.xid = none →
      P (hp.set a { ob with xid := some nx }) (nx + 1))
    (K : Consts) (ts : TypeSystem) (o : Opts) (lf : Nat) (s : St) (a : Nat) (rest : List Nat) (s' : St)
    (hP : P s.heap s.nextXid) (h : step K ts o lf s a rest = .ok s') : P s'.heap s'.nextXid := by
  obtain ⟨ob, x, hob, ⟨_, e1, e2⟩ | ⟨hx, _, e1, e2⟩, _⟩ := step_cases K ts o lf s a rest s' h <;> rw [e1, e2]
  · exact hP
  · exact hset _ _ _ _ hP hob hx

theorem step_fut {K : Consts} {ts : TypeSystem} {o : Opts} {lf : Nat} {s s' : St} {a : Nat} {rest : List Nat}
    (h : step K ts o lf s a rest = .ok s') : Fut s.heap s.nextXid s'.heap s'.nextXid := by
  obtain ⟨ob, x, hob, hstep, _⟩ := step_cases K ts o lf s a rest s' h
  exact (hstep.fut hob).1

/-- out-degrees of the in-range addresses not yet visited -/
def pending (od : Nat → Nat) (n : Nat) (vis : List Nat) : Nat :=
  (((List.range n).filter (fun a => !(vis.contains a))).map od).sum

theorem pending_nil (od : Nat → Nat) (n : Nat) : pending od n [] = ((List.range n).map od).sum := by
  unfold pending
  have : (List.range n).filter (fun a => !(([] : List Nat).contains a)) = List.range n := by
    apply List.filter_eq_self.mpr
    intro a _
    rfl
  rw [this]

theorem pending_visit (od : Nat → Nat) (n : Nat) (vis : List Nat) (a : Nat) (ha : a ∉ vis)
    (h0 : ¬ a < n → od a = 0) : pending od n (vis ++ [a]) + od a ≤ pending od n vis := by
  unfold pending
  have hqp : ∀ x ∈ List.range n, (!(vis ++ [a]).contains x) = true → (!vis.contains x) = true := by
    intro x _ hx
    simp only [Bool.not_eq_true', List.contains_eq_mem, List.mem_append, decide_eq_false_iff_not] at hx ⊢
    exact fun h => hx (Or.inl h)
  by_cases hlt : a < n
  · exact Det.sum_filter_drop od _ _ _ hqp (List.mem_range.mpr hlt) (by simpa using ha) (by simp)
  · rw [h0 hlt]
    exact Det.sum_filter_le od _ _ _ hqp

theorem outdeg_oob (K : Consts) (ts : TypeSystem) (o : Opts) (hp : Heap) (lf a : Nat)
    (h : ¬ a < hp.length) : outdeg K ts o hp lf a = 0 := by
  unfold outdeg
  rw [List.getElem?_eq_none (by omega)]

structure Inv (K : Consts) (ts : TypeSystem) (o : Opts) (hp0 : Heap) (lf seeds : Nat) (s : St) : Prop where
  shape : SameShape hp0 s.heap
  link : ∀ x b, (x, b) ∈ s.allFs → xidOf s.heap b = some x
  nodupK : (s.allFs.map (·.1)).Nodup
  nodupA : (s.allFs.map (·.2)).Nodup
  count : s.pops + s.openl.length = seeds + s.pushes
  pot : s.pushes + pending (outdeg K ts o hp0 lf) hp0.length (s.allFs.map (·.2)) ≤ totalOut K ts o hp0 lf

theorem inv_init (K : Consts) (ts : TypeSystem) (o : Opts) (hp : Heap) (lf : Nat) (nx : Int) (seeds : List Nat) :
    Inv K ts o hp lf seeds.length { heap := hp, nextXid := nx, openl := seeds } := by
  refine ⟨SameShape.refl _, ?_, List.nodup_nil, List.nodup_nil, ?_, ?_⟩
  · intro x b h; cases h
  · show 0 + seeds.length = seeds.length + 0
    omega
  · show 0 + pending (outdeg K ts o hp lf) hp.length [] ≤ totalOut K ts o hp lf
    rw [pending_nil]; unfold totalOut; omega

theorem inv_step (K : Consts) (ts : TypeSystem) (o : Opts) (hp0 : Heap) (lf seeds : Nat) (s : St) (a : Nat)
    (rest : List Nat) (s' : St) (ho : s.openl = a :: rest) (inv : Inv K ts o hp0 lf seeds s)
    (h : step K ts o lf s a rest = .ok s') : Inv K ts o hp0 lf seeds s' ∧ s'.pops = s.pops + 1 := by
  obtain ⟨ob, x, hob, hstep, hpops, hcase⟩ := step_cases K ts o lf s a rest s' h
  obtain ⟨⟨sh', _, _⟩, hxid⟩ := hstep.fut hob
  have hcount := inv.count
  rw [ho, List.length_cons] at hcount
  refine ⟨?_, hpops⟩
  rcases hcase with ⟨hall, hopen, hpush, _⟩ | ⟨t, ps, n, hfind, ht, hn, hall, hopen, hpush⟩
  · refine ⟨inv.shape.trans sh', ?_, ?_, ?_, ?_, ?_⟩
    · intro y b hm; rw [hall] at hm; exact sh'.xidOf (inv.link y b hm)
    · rw [hall]; exact inv.nodupK
    · rw [hall]; exact inv.nodupA
    · rw [hopen, hpush, hpops]; omega
    · rw [hall, hpush]; exact inv.pot
  · have hfind' := List.find?_eq_none.mp hfind
    have hxk : x ∉ s.allFs.map (·.1) := by
      intro hm
      obtain ⟨p, hp, hpx⟩ := List.mem_map.mp hm
      exact hfind' p hp (by simp only [hpx, beq_self_eq_true])
    have hxa : a ∉ s.allFs.map (·.2) := by
      intro hm
      obtain ⟨p, hp, hpa⟩ := List.mem_map.mp hm
      obtain ⟨y, b⟩ := p
      simp only at hpa
      subst hpa
      have hl := (xidOf_eq hob).symm.trans (inv.link y b hp)
      rcases hstep with ⟨hx, _⟩ | ⟨hx, _⟩
      · rw [hl] at hx
        cases hx
        exact hfind' _ hp (by simp only [beq_self_eq_true])
      · rw [hl] at hx; cases hx
    obtain ⟨ob0, h0, hty, _⟩ := inv.shape.get_back hob
    have sh0 := inv.shape.trans sh'
    have hle := push_le_outdeg K ts o sh0 h0 (by rw [← hty]; exact ht) hn
    have hpv := pending_visit (outdeg K ts o hp0 lf) hp0.length (s.allFs.map (·.2)) a hxa
      (outdeg_oob K ts o hp0 lf a)
    refine ⟨sh0, ?_, ?_, ?_, ?_, ?_⟩
    · intro y b hm
      rw [hall] at hm
      rcases List.mem_append.mp hm with hm | hm
      · exact sh'.xidOf (inv.link y b hm)
      · simp only [List.mem_singleton, Prod.mk.injEq] at hm
        rw [hm.1, hm.2]; exact hxid
    · rw [hall, List.map_append]; exact nodup_snoc inv.nodupK hxk
    · rw [hall, List.map_append]; exact nodup_snoc inv.nodupA hxa
    · rw [hopen, hpush, hpops, List.length_append]; omega
    · have hp := inv.pot
      rw [hall, hpush, List.map_append]
      simp only [List.map_cons, List.map_nil]
      omega

/-! ### the only source of `outOfFuel` inside an iteration is a cyclic list spine -/

theorem step_noFuel (K : Consts) (ts : TypeSystem) (o : Opts) (hp0 : Heap) (s : St) (a : Nat)
    (rest : List Nat) (sh : SameShape hp0 s.heap) (hfin : FiniteSpines hp0) :
    step K ts o (hp0.length + 1) s a rest ≠ .error .outOfFuel := by
  intro h
  rw [step_eq] at h
  cases hob : s.heap[a]? with
  | none => rw [hob] at h; cases h
  | some ob =>
    rw [hob] at h
    dsimp only at h
    split at h
    · cases h
    · cases hp : assignId o { s with openl := rest, pops := s.pops + 1 } a ob with
      | error e => rw [hp] at h; cases h; cases assignId_error hp
      | ok p =>
        rw [hp] at h
        have hslot : ∀ b n, slot p.2.heap b n = slot hp0 b n := by
          rcases assignId_ok hp with ⟨_, e⟩ | ⟨_, _, e⟩ <;> rw [e]
          · exact fun b n => sh.slot b n
          · exact fun b n => (slot_set_xid hob _ b n).trans (sh.slot b n)
        rcases visit_error h with e | e | ⟨t, _, e⟩
        · cases e.1
        · exact getType_noFuel _ _ e
        · exact nodeSuccs_noFuel K ts o _ _ _ _ t
            (fun v hv => hfin v (walkList_none_spine _ hp0 hslot _ _ v hv)) e

/-- successful iterations lead from `s` to `s'` -/
inductive Iter (K : Consts) (ts : TypeSystem) (o : Opts) (lf : Nat) : St → St → Prop
  | refl (s : St) : Iter K ts o lf s s
  | head {s s1 s' : St} {a : Nat} {rest : List Nat} : s.openl = a :: rest → step K ts o lf s a rest = .ok s1 →
      Iter K ts o lf s1 s' → Iter K ts o lf s s'

section
variable {K : Consts} {ts : TypeSystem} {o : Opts} {lf : Nat}

theorem Iter.pres {I : St → Prop}
    (hstep : ∀ s a rest s', I s → s.openl = a :: rest → step K ts o lf s a rest = .ok s' → I s')
    {s s' : St} (h : Iter K ts o lf s s') (hI : I s) : I s' := by
  induction h with
  | refl => exact hI
  | head ho hs _ ih => exact ih (hstep _ _ _ _ hI ho hs)

theorem Iter.inv {hp0 : Heap} {n0 : Nat} {s s' : St} (h : Iter K ts o lf s s') (inv : Inv K ts o hp0 lf n0 s) :
    Inv K ts o hp0 lf n0 s' :=
  h.pres (fun s a rest s1 i ho hs => (inv_step K ts o hp0 lf n0 s a rest s1 ho i hs).1) inv

theorem Iter.fut {s s' : St} (h : Iter K ts o lf s s') : Fut s.heap s.nextXid s'.heap s'.nextXid :=
  h.pres (I := fun s1 => Fut s.heap s.nextXid s1.heap s1.nextXid) (fun _ _ _ _ hP _ hs => hP.trans (step_fut hs))
    (Fut.refl _ _)

/-- a run that only pops structures carrying an id is the same run for every value of the generator -/
theorem Iter.nextXid {s st : St} (h : Iter K ts o lf s st) (n : Int)
    (hids : ∀ s' a rest, Iter K ts o lf s s' → s'.openl = a :: rest → ∃ ob x, s'.heap[a]? = some ob ∧ ob.xid = some x) :
    Iter K ts o lf { s with nextXid := n } { st with nextXid := n } := by
  induction h with
  | refl => exact .refl _
  | @head s s1 st a rest ho hs _ ih =>
    obtain ⟨ob, x, hob, hx⟩ := hids s a rest (.refl _) ho
    rw [step_some K ts o lf s a rest ob x hob hx] at hs
    refine .head (s1 := { s1 with nextXid := n }) ho ?_ (ih fun s' b r hi => hids s' b r (.head ho ?_ hi))
    · rw [step_some K ts o lf { s with nextXid := n } a rest ob x hob hx, stepCore_nextXid, hs]; rfl
    · rw [step_some K ts o lf s a rest ob x hob hx]; exact hs

theorem Iter.allFs_mono {s st : St} (h : Iter K ts o lf s st) :
    ∀ q ∈ s.allFs, q ∈ st.allFs :=
  h.pres (I := fun s1 => ∀ q ∈ s.allFs, q ∈ s1.allFs) (fun s1 a rest s2 hI _ hs q hq => by
    obtain ⟨_, _, _, _, _, ⟨hall, _⟩ | ⟨_, _, _, _, _, _, hall, _⟩⟩ := step_cases K ts o lf s1 a rest s2 hs <;> rw [hall]
    · exact hI q hq
    · exact List.mem_append_left _ (hI q hq)) fun _ hq => hq

theorem run_ok {f : Nat} {s s' : St} (h : run K ts o lf f s = .ok s') : Iter K ts o lf s s' ∧ s'.openl = [] := by
  induction f generalizing s with
  | zero =>
    unfold run at h
    split at h
    · rename_i he; cases h; exact ⟨.refl _, List.isEmpty_iff.mp he⟩
    · cases h
  | succ f ih =>
    unfold run at h
    split at h
    · rename_i ho; cases h; exact ⟨.refl _, ho⟩
    · rename_i a rest ho
      cases hs : step K ts o lf s a rest with
      | error e => rw [hs] at h; cases h
      | ok s1 =>
        rw [hs] at h
        obtain ⟨h1, h2⟩ := ih h
        exact ⟨.head ho hs h1, h2⟩

/-- the budget `|seeds| + Σ outdeg` is never the reason to stop with a non-empty open list -/
theorem Inv.openl_nil {hp0 : Heap} {n0 : Nat} {s : St} (inv : Inv K ts o hp0 lf n0 s)
    (hf : n0 + totalOut K ts o hp0 lf ≤ s.pops) : s.openl = [] := by
  have h1 := inv.count
  have h2 := inv.pot
  exact List.eq_nil_of_length_eq_zero (by omega)

theorem Iter.run_eq {hp0 : Heap} {n0 : Nat} {s s' : St} (h : Iter K ts o lf s s') (ho' : s'.openl = []) :
    ∀ f, Inv K ts o hp0 lf n0 s → n0 + totalOut K ts o hp0 lf ≤ f + s.pops → run K ts o lf f s = .ok s' := by
  induction h with
  | refl s =>
    intro f _ _
    cases f with
    | zero => unfold run; rw [ho']; rfl
    | succ f => unfold run; rw [ho']
  | @head s s1 s' a rest ho hs _ ih =>
    intro f inv hf
    obtain ⟨inv1, hp1⟩ := inv_step K ts o hp0 lf n0 s a rest s1 ho inv hs
    cases f with
    | zero => rw [inv.openl_nil (by omega)] at ho; cases ho
    | succ f =>
      unfold run
      rw [ho]
      simp only [hs, bind, Except.bind]
      exact ih ho' f inv1 (by rw [hp1]; omega)

theorem run_error {hp0 : Heap} {n0 : Nat} {f : Nat} {s : St} {e : Err} (h : run K ts o lf f s = .error e)
    (inv : Inv K ts o hp0 lf n0 s) (hf : n0 + totalOut K ts o hp0 lf ≤ f + s.pops) :
    ∃ s1 a rest, Iter K ts o lf s s1 ∧ s1.openl = a :: rest ∧ step K ts o lf s1 a rest = .error e := by
  induction f generalizing s with
  | zero =>
    unfold run at h
    rw [inv.openl_nil (by omega)] at h
    cases h
  | succ f ih =>
    unfold run at h
    split at h
    · cases h
    · rename_i a rest ho
      cases hs : step K ts o lf s a rest with
      | error e' => rw [hs] at h; cases h; exact ⟨s, a, rest, .refl _, ho, hs⟩
      | ok s1 =>
        rw [hs] at h
        obtain ⟨inv1, hp1⟩ := inv_step K ts o hp0 lf n0 s a rest s1 ho inv hs
        obtain ⟨s2, b, r, h1, h2, h3⟩ := ih h inv1 (by rw [hp1]; omega)
        exact ⟨s2, b, r, .head ho hs h1, h2, h3⟩

end

/-- the state `findAllFs` starts from -/
abbrev start (hp : Heap) (nx : Int) (seeds : List Nat) : St := { heap := hp, nextXid := nx, openl := seeds }

theorem findAllFs_ok_iff_iter (K : Consts) (ts : TypeSystem) (o : Opts) (hp : Heap) (nx : Int) (seeds : List Nat)
    (st : St) : findAllFs K ts o hp nx seeds = .ok st ↔
      Iter K ts o (hp.length + 1) (start hp nx seeds) st ∧ st.openl = [] :=
  ⟨run_ok, fun ⟨h, ho⟩ => h.run_eq ho _ (inv_init K ts o hp _ nx seeds) (Nat.le_refl _)⟩

theorem findAllFs_error_iter {K : Consts} {ts : TypeSystem} {o : Opts} {hp : Heap} {nx : Int} {seeds : List Nat}
    {e : Err} (h : findAllFs K ts o hp nx seeds = .error e) :
    ∃ s a rest, Iter K ts o (hp.length + 1) (start hp nx seeds) s ∧ s.openl = a :: rest ∧
      step K ts o (hp.length + 1) s a rest = .error e :=
  run_error h (inv_init K ts o hp _ nx seeds) (Nat.le_refl _)

theorem findAllFs_pres (P : Heap → Int → Prop)
    (hset : ∀ hp nx a ob, P hp nx → hp[a]? = some ob → ob.xid = none →
      P (hp.set a { ob with xid := some nx }) (nx + 1))
    (K : Consts) (ts : TypeSystem) (o : Opts) (hp : Heap) (nx : Int) (seeds : List Nat) (s' : St)
    (hP : P hp nx) (h : findAllFs K ts o hp nx seeds = .ok s') : P s'.heap s'.nextXid :=
  (run_ok h).1.pres (I := fun s => P s.heap s.nextXid)
    (fun s a rest s1 hP _ hs => step_pres P hset K ts o _ s a rest s1 hP hs) hP

theorem findAllFs_fut (K : Consts) (ts : TypeSystem) (o : Opts) (hp : Heap) (nx : Int) (seeds : List Nat) (st : St)
    (h : findAllFs K ts o hp nx seeds = .ok st) : Fut hp nx st.heap st.nextXid := (run_ok h).1.fut

theorem findAllFs_inv (K : Consts) (ts : TypeSystem) (o : Opts) (hp : Heap) (nx : Int)
    (seeds : List Nat) (s' : St) (h : findAllFs K ts o hp nx seeds = .ok s') :
    Inv K ts o hp (hp.length + 1) seeds.length s' ∧ s'.openl = [] :=
  ⟨(run_ok h).1.inv (inv_init K ts o hp _ nx seeds), (run_ok h).2⟩

end Cassis.Traverse
