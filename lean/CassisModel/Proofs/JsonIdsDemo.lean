/-
Evaluated instances for `Properties/C09DocJson.lean` (type system `demoTS'` of `Proofs/InstancesFlat.lean`: the built-ins
plus the annotation type `x.Tok`; everything is evaluated by the kernel).  The documents with view members are read
with `lenient := true` (the strict membership test `containsType` uses `String.contains`, which the kernel does not
evaluate; see `Proofs/RoundTripDemo.lean`).
-/
import CassisModel.Proofs.InstancesFlat

namespace Cassis.Json.IdsDemo
open Cassis.Xmi.Demo


theorem doc1_loads : summary (loadJson K demoTS' 0 0 true false [] doc1) =
    some ⟨9, 4, [("_InitialView", 1, 1), ("v", 8, 3)], [some 5, some 6]⟩ := idsDemo_evals.doc1_loads

theorem doc1_nox : ∀ j ∈ doc1.fss, ∀ p ∈ j.feats, p.1 ≠ "@xmiID" := idsDemo_evals.doc1_noXmiId

theorem sofaNamesDistinctB_sound (l : List JFs) (h : sofaNamesDistinctB l = true) : SofaNamesDistinct l := by
  induction l with
  | nil => exact List.Pairwise.nil
  | cons a rest ih =>
    rw [sofaNamesDistinctB, Bool.and_eq_true] at h
    refine List.pairwise_cons.mpr ⟨?_, ih h.2⟩
    intro b hb ha hbt n hna hnb
    have := List.all_eq_true.mp h.1 b hb
    simp only [ha, hbt, hna, hnb, beq_self_eq_true, Bool.and_self, Bool.not_true, Bool.false_or, bne_self_eq_false,
      beq_iff_eq, Option.some.injEq] at this
    exact this

theorem doc1_distinct : SofaNamesDistinct doc1.fss := sofaNamesDistinctB_sound _ idsDemo_evals.doc1_distinct

theorem docDup_loads : summary (loadJson K demoTS' 0 0 false false [] docDup) =
    some ⟨3, 3, [("_InitialView", 1, 1), ("v", 2, 2)], []⟩ := idsDemo_evals.docDup_loads

/-- `docDup` is why the bound on the ids of the sofa elements needs `SofaNamesDistinct`: the document has an element with
    id 3 and the generator restarts at 3 (no loaded structure or sofa carries id 3: the element was merged into sofa 2) -/
theorem docDup_not_below : ∃ ld, loadJson K demoTS' 0 0 false false [] docDup = .ok ld ∧
    ∃ j ∈ docDup.fss, j.id = some 3 ∧ ¬ (3 < ld.cas.nextXid) := by
  cases h : loadJson K demoTS' 0 0 false false [] docDup with
  | error e =>
    have := docDup_loads
    rw [h] at this
    cases this
  | ok ld =>
    have := docDup_loads
    rw [h] at this
    simp only [summary, Option.some.injEq, Summary.mk.injEq] at this
    exact ⟨ld, rfl, sofaJ 3 7 "v", by simp [docDup], rfl, by rw [this.1]; decide⟩

theorem docDup_not_distinct : ¬ SofaNamesDistinct docDup.fss := by
  intro h
  have h1 := (List.pairwise_cons.mp (List.pairwise_cons.mp h).2).1 (sofaJ 3 7 "v") (by simp)
    rfl rfl "v" idsDemo_evals.docDup_sofa2_v idsDemo_evals.docDup_sofa3_v
  exact absurd h1 (by decide)

theorem docDupInit_loads : summary (loadJson K demoTS' 0 0 false false [] docDupInit) =
    some ⟨6, 5, [("_InitialView", 5, 4)], []⟩ := idsDemo_evals.docDupInit_loads

theorem docView_loads : summary (loadJson K demoTS' 0 0 true false [] docView) =
    some ⟨7, 3, [("_InitialView", 1, 1), ("w", 6, 2)], [some 5]⟩ := idsDemo_evals.docView_loads

theorem docDangling_loads : summary (loadJson K demoTS' 0 0 false false [] docDangling) =
    some ⟨6, 2, [("_InitialView", 1, 1)], [none]⟩ := idsDemo_evals.docDangling_loads

theorem docDangling2_loads : summary (loadJson K demoTS' 0 0 true false [] docDangling2) =
    some ⟨7, 2, [("_InitialView", 1, 1)], [some 6]⟩ := idsDemo_evals.docDangling2_loads

theorem docEmpty_loads : summary (loadJson K demoTS' 0 0 false false [] docEmpty) =
    some ⟨1, 1, [("_InitialView", 1, 1)], []⟩ := idsDemo_evals.docEmpty_loads

end Cassis.Json.IdsDemo
