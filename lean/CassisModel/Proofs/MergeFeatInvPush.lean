/-
The weakened feature invariant `WInv ts r L` — `FeatInv` everywhere except that the inherited features of the one
type `r` are (by name and definition) those of the list `L` instead of the effective features of its supertype — and
what one `pushInherited f _ ts [r]` does to it: it becomes `WInv ts' r (L ++ [f])`, provided no type of the subtree of
`r` owns a different definition of `f.name` (`subtreeClash`) and `f` agrees with `L` (`wInv_of_pushTarget`).  A push that
starts at `r` itself is `Pushed` (`Proofs/Features.lean`) for the region "`r` and below"; the edge above `r` is the only
one whose ends it treats differently, which is why `WInv` exempts it.
-/
import CassisModel.Model.Merge
import CassisModel.Proofs.Features

namespace Cassis.TS

structure WInv (ts : TypeSystem) (r : String) (L : List Feature) : Prop where
  ownNodup : ∀ t ∈ ts.types, (fnames t.own).Nodup
  inhNodup : ∀ t ∈ ts.types, (fnames t.inh).Nodup
  compat : ∀ t ∈ ts.types, ∀ f ∈ t.own, ∀ g ∈ t.inh, f.name = g.name → featureEq f g = true
  inherit : ∀ t ∈ ts.types, t.name ≠ r → ∀ s ps, t.super = some s → find? ts s = some ps →
      ∀ n, n ∈ fnames t.inh ↔ n ∈ fnames (allFeatures ps)
  inheritEq : ∀ t ∈ ts.types, t.name ≠ r → ∀ s ps, t.super = some s → find? ts s = some ps →
      ∀ g ∈ t.inh, ∀ f ∈ allFeatures ps, f.name = g.name → featureEq f g = true
  rootInh : ∀ t ∈ ts.types, t.super = none → t.inh = []
  top : ∀ t, find? ts r = some t → ∀ n, n ∈ fnames t.inh ↔ n ∈ fnames L
  topEq : ∀ t, find? ts r = some t → ∀ g ∈ t.inh, ∀ f ∈ L, f.name = g.name → featureEq f g = true

theorem WInv.edge {ts : TypeSystem} {r : String} {L : List Feature} (hf : WInv ts r L) {t ps : TypeRec}
    {s : String} (ht : t ∈ ts.types) (hr : t.name ≠ r) (hs : t.super = some s) (hps : find? ts s = some ps) : EdgeOK t ps :=
  ⟨hf.inherit t ht hr s ps hs hps, hf.inheritEq t ht hr s ps hs hps⟩

/-- below `r` the invariant is intact, so inherited names are handed down -/
theorem WInv.downOK {ts : TypeSystem} {r : String} {L : List Feature} (hc : Consistent ts) (hf : WInv ts r L)
    {y : String} (hry : Anc ts r y) : DownOK ts y := by
  intro x hyx
  induction hyx with
  | refl _ =>
    intro ty tx hty htx n hn
    rw [hty] at htx; cases htx; exact hn
  | step x s tx hfx hs hys ih =>
    intro ty tx2 hty htx n hn
    have e : tx2 = tx := by rw [hfx] at htx; exact (Option.some.inj htx).symm
    rw [e]
    by_cases hxy : x = y
    · subst hxy; rw [hty] at hfx; cases hfx; exact hn
    · have hxr : tx.name ≠ r := by
        rw [find?_name hfx]
        intro e; subst e
        exact hxy (anc_antisymm hc hry (Anc.step y x s tx hfx hs hys))
      obtain ⟨ps, hps⟩ := (hasExact_iff_find ts s).mp hys.right_reg
      rw [(hf.edge (find?_mem hfx) hxr hs hps).names]
      exact Or.inr (ih ty ps hty hps n hn)

/-- the result of a successful `pushInherited f _ ts0 [r]`, record by record -/
structure PushTarget (ts0 : TypeSystem) (r : String) (f : Feature) (ts' : TypeSystem) : Prop where
  skel : skel ts' = skel ts0
  recs : ∀ x t, find? ts0 x = some t → ∃ t', find? ts' x = some t' ∧ PStep ts0 f [r] x t t' ∧
    (Anc ts0 r x → f.name ∈ fnames t'.inh)

theorem pushTarget_of_push {ts ts' : TypeSystem} {r a : String} {f : Feature} {tr : TypeRec} (fuel : Nat)
    (hc : Consistent ts) (htr : find? ts r = some tr) (hsr : tr.super = some a)
    (hdown : ∀ y, Anc ts r y → DownOK ts y)
    (h : pushInherited f fuel ts [r] = .ok ts') : PushTarget ts r f ts' := by
  obtain ⟨Pb, Pc⟩ := push_specW ts hc f fuel ts [r] ts' a rfl
    (by intro c hc'; simp only [List.mem_singleton] at hc'; subst hc'; exact ⟨tr, htr, hsr⟩)
    (by simp) (fun _ _ _ _ => rfl)
    (by intro c hc' y hy; simp only [List.mem_singleton] at hc'; subst hc'; exact hdown y hy) h
  refine ⟨frame_skel.push trivial fuel ts [r] ts' h hc.nodup, ?_⟩
  intro x t hx
  obtain ⟨t', ht', hst⟩ := Pb x t hx
  exact ⟨t', ht', hst, fun hax => Pc r List.mem_cons_self x hax t' ht'⟩

theorem PushTarget.cases {ts0 ts' : TypeSystem} {r : String} {f : Feature}
    (hT : PushTarget ts0 r f ts') {x : String} {t t' : TypeRec}
    (hx : find? ts0 x = some t) (hx' : find? ts' x = some t') :
    (Anc ts0 r x ∧ f.name ∉ fnames t.inh ∧ t' = { t with inh := t.inh ++ [f] }) ∨
    (t' = t ∧ (Anc ts0 r x → f.name ∈ fnames t.inh)) := by
  obtain ⟨t'', ht'', h2, h3⟩ := hT.recs x t hx
  rw [hx'] at ht''; cases ht''
  rcases h2 with e | ⟨e, hn, c, hc, hcx⟩
  · right
    refine ⟨e, fun ha => ?_⟩
    have := h3 ha
    rw [e] at this; exact this
  · left
    simp only [List.mem_singleton] at hc; subst hc
    exact ⟨hcx, hn, e⟩

theorem PushTarget.untouched {ts0 ts' : TypeSystem} {r : String} {f : Feature}
    (hT : PushTarget ts0 r f ts') {x : String} (hx : ¬ Anc ts0 r x) : find? ts' x = find? ts0 x := by
  cases hfx : find? ts0 x with
  | none =>
    apply find?_none_of_not_has
    rw [hasExact_transfer hT.skel, hasExact, hfx]; rfl
  | some t =>
    obtain ⟨t', ht', _⟩ := hT.recs x t hfx
    rcases hT.cases hfx ht' with ⟨hax, _, _⟩ | ⟨e, _⟩
    · exact absurd hax hx
    · rw [ht', e]

theorem noClash_of {ts : TypeSystem} (hc : Consistent ts) (hown : ∀ t ∈ ts.types, (fnames t.own).Nodup)
    {r : String} {f : Feature} (hreg : hasExact ts r = true) (hdc : subtreeClash ts r f = false)
    {x : String} {tx : TypeRec} {g : Feature} (hax : Anc ts r x)
    (htx : find? ts x = some tx) (hg : g ∈ tx.own) (hgn : g.name = f.name) : featureEq g f = true := by
  unfold subtreeClash at hdc
  have hall := List.any_eq_false.mp hdc x ((descendants_eq_closure ts hc r x hreg).mpr hax)
  have hfind : tx.own.find? (·.name == f.name) = some g := by
    rw [← hgn]; exact find_name_of_mem (hown tx (find?_mem htx)) hg
  simp only [htx, hfind] at hall
  simpa using hall

theorem noClash_intro {ts : TypeSystem} (hc : Consistent ts) {r : String} {f : Feature} (hreg : hasExact ts r = true)
    (h : ∀ {x tx g}, Anc ts r x → find? ts x = some tx → g ∈ tx.own → g.name = f.name → featureEq g f = true) :
    subtreeClash ts r f = false := by
  unfold subtreeClash
  apply List.any_eq_false.mpr
  intro x hx hp
  split at hp
  · cases hp
  · rename_i tx htx
    split at hp
    · rename_i g hg
      rw [h ((descendants_eq_closure ts hc r x hreg).mp hx) htx (List.mem_of_find?_eq_some hg)
        (by simpa using List.find?_some hg)] at hp
      cases hp
    · cases hp

/-- the test of `addFeature` leaves out the name itself -/
theorem descendantConflict_of_noClash {ts : TypeSystem} {n : String} {f : Feature} (h : subtreeClash ts n f = false) :
    descendantConflict ts n f = false := by
  unfold descendantConflict
  apply List.any_eq_false.mpr
  intro x hx hp
  exact List.any_eq_false.mp h x hx (Bool.and_eq_true_iff.mp hp).2

theorem PushTarget.pushed {ts0 ts' : TypeSystem} {r : String} {f : Feature}
    (hc : Consistent ts0) (hown : ∀ t ∈ ts0.types, (fnames t.own).Nodup) (hreg : hasExact ts0 r = true)
    (hdc : subtreeClash ts0 r f = false) (hT : PushTarget ts0 r f ts') :
    Pushed ts0 ts' f (fun _ => False) (Anc ts0 r) := by
  refine ⟨hT.skel, fun hx hx' => ?_, fun hb htx hg hgn => noClash_of hc hown hreg hdc hb htx hg hgn⟩
  rcases hT.cases hx hx' with ⟨h2, h3, e⟩ | ⟨e, h3⟩
  · exact .inr (.inl ⟨id, h2, h3, e⟩)
  · exact .inr (.inr ⟨id, e, h3⟩)

theorem wInv_of_pushTarget {ts0 ts' : TypeSystem} {r a : String} {L : List Feature} {f : Feature} {tr : TypeRec}
    (hc : Consistent ts0) (hf : WInv ts0 r L) (htr : find? ts0 r = some tr) (hsr : tr.super = some a)
    (hdc : subtreeClash ts0 r f = false) (hco : ∀ g ∈ L, g.name = f.name → featureEq g f = true)
    (hT : PushTarget ts0 r f ts') : WInv ts' r (L ++ [f]) := by
  have hreg : hasExact ts0 r = true := (hasExact_iff_find ts0 r).mpr ⟨tr, htr⟩
  have hP := hT.pushed hc hf.ownNodup hreg hdc
  obtain ⟨r1, r2, r3⟩ := hP.records hc hf.ownNodup hf.inhNodup hf.compat
  -- every edge but the one above `r` has both ends inside the pushed region or both outside
  have edge : ∀ t' ∈ ts'.types, t'.name ≠ r → ∀ s ps', t'.super = some s → find? ts' s = some ps' → EdgeOK t' ps' :=
    fun t' ht' hnr s ps' hs hps' => by
    obtain ⟨t, ps, hx, hx', hs0, hps⟩ := hP.ends hc ht' hs hps'
    have hnr0 : t.name ≠ r := by rw [find?_name hx]; exact hnr
    refine hP.edge hx hx' hps hps' ⟨fun ha => ?_, fun ha => Anc.step r _ s t hx hs0 (ha.resolve_left id)⟩
      (hf.edge (find?_mem hx) hnr0 hs0 hps)
    rcases ha.inv hx with e | ⟨s', hs', h'⟩
    · exact absurd e.symm hnr
    · rw [hs0] at hs'; cases hs'; exact .inr h'
  refine ⟨r1, r2, r3, fun t' ht' hnr s ps' hs hps' => (edge t' ht' hnr s ps' hs hps').1,
    fun t' ht' hnr s ps' hs hps' => (edge t' ht' hnr s ps' hs hps').2,
    hP.rootInh hc hf.rootInh fun hb hx hs0 => ?_, fun t' hx' n => ?_, fun t' hx' g hg f' hf' e => ?_⟩
  · rcases hb.inv hx with e | ⟨s', hs', _⟩
    · rw [← e, htr] at hx; cases hx
      rw [hsr] at hs0; cases hs0
    · rw [hs0] at hs'; cases hs'
  · rw [hP.names_inh htr hx' n, hf.top tr htr n]
    simp [fnames, Anc.refl r hreg]
  · rcases hP.mem_inh htr hx' hg with hgo | ⟨_, hnot, rfl⟩
    · rcases List.mem_append.mp hf' with h | h
      · exact hf.topEq tr htr g hgo f' h e
      · have ef : f' = f := by simpa using h
        subst ef
        have hgn : f'.name ∈ fnames L := by
          rw [← hf.top tr htr, e]; exact mem_fnames_of_mem hgo
        obtain ⟨g0, hg0, hg0n⟩ := mem_fnames.mp hgn
        exact featureEq_trans (featureEq_symm (hco g0 hg0 hg0n)) (hf.topEq tr htr g hgo g0 hg0 (hg0n.trans e))
    · rcases List.mem_append.mp hf' with h | h
      · exact absurd (by rw [hf.top tr htr, ← e]; exact mem_fnames_of_mem h) hnot
      · rw [show f' = g by simpa using h]; exact featureEq_refl _

end Cassis.TS
